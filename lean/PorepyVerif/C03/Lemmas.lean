/-
C03 — definitions over ℝ and helper lemmas.

`Tree n k` is an expression tree over a state `x : Fin n → ℝ` with a vector value in `Fin k → ℝ`:
variable leaves (`ad_base[dofs]`: rows of the identity), constant leaves (anything parsed to a number /
array / previous time step or iterate: zero Jacobian), unary and binary nodes carrying a forward-mode
rule `(value, Jacobian factors)`.  `Tree.val` is the plain evaluation, `Tree.jac` the Jacobian as
forward mode computes it (`Σ ∂f/∂childᵢ · Jac(childᵢ)`), `Tree.Smooth` says that at the state `x`
every node's Jacobian factors are the true (Fréchet) partial derivatives of the node's value map at
the children's values.
-/
import Mathlib.Analysis.Calculus.FDeriv.Basic
import Mathlib.Analysis.Calculus.FDeriv.Comp
import Mathlib.Analysis.Calculus.FDeriv.Prod
import Mathlib.Analysis.Calculus.FDeriv.Add
import Mathlib.Analysis.Calculus.FDeriv.Linear
import Mathlib.Analysis.Calculus.FDeriv.Pi
import Mathlib.Analysis.Calculus.FDeriv.Mul
import Mathlib.Analysis.Calculus.Deriv.Basic
import Mathlib.Analysis.Calculus.Deriv.Comp
import Mathlib.Analysis.Calculus.Deriv.ZPow
import Mathlib.Analysis.Calculus.Deriv.Inv
import Mathlib.Analysis.Calculus.Deriv.Abs
import Mathlib.Analysis.Calculus.FDeriv.Pow
import Mathlib.Analysis.SpecialFunctions.Trigonometric.DerivHyp
import Mathlib.Analysis.SpecialFunctions.ExpDeriv
import Mathlib.Analysis.SpecialFunctions.Log.Deriv
import Mathlib.Analysis.SpecialFunctions.Trigonometric.Deriv
import Mathlib.Analysis.SpecialFunctions.Trigonometric.ArctanDeriv
import Mathlib.Analysis.SpecialFunctions.Pow.Deriv
import Mathlib.Analysis.SpecialFunctions.Sqrt
import Mathlib.Analysis.SpecialFunctions.Arcosh
import Mathlib.Analysis.SpecialFunctions.Artanh
import Mathlib.Analysis.SpecialFunctions.Arsinh
import Mathlib.Analysis.SpecialFunctions.Trigonometric.InverseDeriv
import Mathlib.LinearAlgebra.Matrix.ToLin
import Mathlib.Topology.Algebra.Module.FiniteDimension
import PorepyVerif.C03.Model

namespace PorepyVerif.C03
open Matrix

abbrev Vec (k : ℕ) := Fin k → ℝ
abbrev Mat (k m : ℕ) := Matrix (Fin k) (Fin m) ℝ

/-- a matrix as a continuous linear map (`v ↦ A.mulVec v`) -/
noncomputable def mcl {k m : ℕ} (A : Mat k m) : Vec m →L[ℝ] Vec k :=
  LinearMap.toContinuousLinearMap (Matrix.toLin' A)

@[simp] theorem mcl_apply {k m : ℕ} (A : Mat k m) (v : Vec m) : mcl A v = A.mulVec v := by
  simp [mcl]

theorem mcl_mul {k m n : ℕ} (A : Mat k m) (B : Mat m n) : mcl (A * B) = (mcl A).comp (mcl B) := by
  ext v i; simp [Matrix.mulVec_mulVec]

theorem mcl_add {k m : ℕ} (A B : Mat k m) : mcl (A + B) = mcl A + mcl B := by
  ext v i; simp [Matrix.add_mulVec]

@[simp] theorem mcl_zero {k m : ℕ} : mcl (0 : Mat k m) = 0 := by
  ext v i; simp

theorem hasFDerivAt_of_mulVec {k m : ℕ} {f : Vec m → Vec k} {A : Mat k m} (h : ∀ y, f y = A.mulVec y) (x : Vec m) :
    HasFDerivAt f (mcl A) x :=
  (mcl A).hasFDerivAt.congr_of_eventuallyEq
    (Filter.Eventually.of_forall fun y => (h y).trans (mcl_apply A y).symm)

/-- unary node rule on vectors: value map and Jacobian factor (a matrix depending on the child's value) -/
structure URule (m k : ℕ) where
  f  : Vec m → Vec k
  df : Vec m → Mat k m

/-- binary node rule on vectors -/
structure BRule (m₁ m₂ k : ℕ) where
  f  : Vec m₁ → Vec m₂ → Vec k
  d₁ : Vec m₁ → Vec m₂ → Mat k m₁
  d₂ : Vec m₁ → Vec m₂ → Mat k m₂

/-- the rule's factor is the Fréchet derivative of its value map at `a` -/
def URule.SoundAt {m k : ℕ} (r : URule m k) (a : Vec m) : Prop :=
  HasFDerivAt r.f (mcl (r.df a)) a

/-- the rule's two factors are the partial Fréchet derivatives of its value map at `(a, b)` -/
def BRule.SoundAt {m₁ m₂ k : ℕ} (r : BRule m₁ m₂ k) (a : Vec m₁) (b : Vec m₂) : Prop :=
  HasFDerivAt (fun p : Vec m₁ × Vec m₂ => r.f p.1 p.2)
    ((mcl (r.d₁ a b)).comp (ContinuousLinearMap.fst ℝ (Vec m₁) (Vec m₂))
      + (mcl (r.d₂ a b)).comp (ContinuousLinearMap.snd ℝ (Vec m₁) (Vec m₂))) (a, b)

/-- chain rule at a unary node: a sound rule applied to a map with Jacobian `J` has Jacobian `df · J` -/
theorem URule.SoundAt.comp {n m k : ℕ} {r : URule m k} {f : Vec n → Vec m} {J : Mat m n} {x : Vec n}
    (hr : r.SoundAt (f x)) (hf : HasFDerivAt f (mcl J) x) :
    HasFDerivAt (fun y => r.f (f y)) (mcl (r.df (f x) * J)) x := by
  rw [mcl_mul]
  exact HasFDerivAt.comp x hr hf

/-- chain rule at a binary node: `d₁ · J₁ + d₂ · J₂` -/
theorem BRule.SoundAt.comp {n m₁ m₂ k : ℕ} {r : BRule m₁ m₂ k} {f₁ : Vec n → Vec m₁} {f₂ : Vec n → Vec m₂}
    {J₁ : Mat m₁ n} {J₂ : Mat m₂ n} {x : Vec n} (hr : r.SoundAt (f₁ x) (f₂ x))
    (h₁ : HasFDerivAt f₁ (mcl J₁) x) (h₂ : HasFDerivAt f₂ (mcl J₂) x) :
    HasFDerivAt (fun y => r.f (f₁ y) (f₂ y)) (mcl (r.d₁ (f₁ x) (f₂ x) * J₁ + r.d₂ (f₁ x) (f₂ x) * J₂)) x := by
  refine (HasFDerivAt.comp x (f := fun y => (f₁ y, f₂ y)) hr (h₁.prodMk h₂)).congr_fderiv
    (ContinuousLinearMap.ext fun v => ?_)
  show r.d₁ (f₁ x) (f₂ x) *ᵥ (J₁ *ᵥ v) + r.d₂ (f₁ x) (f₂ x) *ᵥ (J₂ *ᵥ v) = _ *ᵥ v
  rw [add_mulVec, mulVec_mulVec, mulVec_mulVec]

/-- expression trees over a state of `n` degrees of freedom -/
inductive Tree (n : ℕ) : ℕ → Type
  | var {m : ℕ} (dofs : Fin m → Fin n) : Tree n m
  | const {m : ℕ} (c : Vec m) : Tree n m
  | un {m k : ℕ} (r : URule m k) (t : Tree n m) : Tree n k
  | bin {m₁ m₂ k : ℕ} (r : BRule m₁ m₂ k) (t₁ : Tree n m₁) (t₂ : Tree n m₂) : Tree n k

/-- rows `dofs` of the identity matrix: the Jacobian of `ad_base[dofs]` -/
def selMat {n m : ℕ} (dofs : Fin m → Fin n) : Mat m n := fun i j => if dofs i = j then 1 else 0

/-- plain evaluation (what `derivative=False` computes) -/
def Tree.val {n : ℕ} : {k : ℕ} → Tree n k → Vec n → Vec k
  | _, .var dofs, x => fun i => x (dofs i)
  | _, .const c, _ => c
  | _, .un r t, x => r.f (t.val x)
  | _, .bin r t₁ t₂, x => r.f (t₁.val x) (t₂.val x)

/-- forward-mode Jacobian: identity block at variables, zero at constants, chain rule at nodes -/
def Tree.jac {n : ℕ} : {k : ℕ} → Tree n k → Vec n → Mat k n
  | _, .var dofs, _ => selMat dofs
  | _, .const _, _ => 0
  | _, .un r t, x => r.df (t.val x) * t.jac x
  | _, .bin r t₁ t₂, x => r.d₁ (t₁.val x) (t₂.val x) * t₁.jac x + r.d₂ (t₁.val x) (t₂.val x) * t₂.jac x

/-- smooth region: every node rule is sound at the values its children take at `x` -/
def Tree.Smooth {n : ℕ} : {k : ℕ} → Tree n k → Vec n → Prop
  | _, .var _, _ => True
  | _, .const _, _ => True
  | _, .un r t, x => t.Smooth x ∧ r.SoundAt (t.val x)
  | _, .bin r t₁ t₂, x => t₁.Smooth x ∧ t₂.Smooth x ∧ r.SoundAt (t₁.val x) (t₂.val x)

theorem selMat_mulVec {n m : ℕ} (dofs : Fin m → Fin n) (x : Vec n) :
    (selMat dofs).mulVec x = fun i => x (dofs i) := by
  funext i
  simp only [mulVec, dotProduct, selMat, ite_mul, one_mul, zero_mul, Finset.sum_ite_eq, Finset.mem_univ, if_true]

/-- variable leaf: the slice is linear and its derivative is the selection matrix -/
theorem var_hasFDerivAt {n m : ℕ} (dofs : Fin m → Fin n) (x : Vec n) :
    HasFDerivAt (fun y : Vec n => fun i => y (dofs i)) (mcl (selMat dofs)) x :=
  hasFDerivAt_of_mulVec (fun y => (selMat_mulVec dofs y).symm) x

/-- the induction: forward mode computes the Fréchet derivative on the smooth region -/
theorem tree_hasFDerivAt {n : ℕ} : ∀ {k : ℕ} (t : Tree n k) (x : Vec n), t.Smooth x →
    HasFDerivAt t.val (mcl (t.jac x)) x
  | _, .var dofs, x, _ => var_hasFDerivAt dofs x
  | _, .const c, x, _ => by
      rw [Tree.jac, mcl_zero]
      exact hasFDerivAt_const c x
  | _, .un _ t, x, h => h.2.comp (tree_hasFDerivAt t x h.1)
  | _, .bin _ t₁ t₂, x, h => h.2.2.comp (tree_hasFDerivAt t₁ x h.1) (tree_hasFDerivAt t₂ x h.2.1)

/-- the two factors of a scalar binary rule are the partial derivatives of its value map at `(a, b)`
    (joint Fréchet differentiability, not just existence of partials) -/
def Sound2 (r : Rule2 ℝ) (a b : ℝ) : Prop :=
  HasFDerivAt (fun p : ℝ × ℝ => r.f p.1 p.2)
    (r.d1 a b • ContinuousLinearMap.fst ℝ ℝ ℝ + r.d2 a b • ContinuousLinearMap.snd ℝ ℝ ℝ) (a, b)

/-- the factor of a scalar unary rule is the derivative of its value map at `a` -/
def Sound1 (r : Rule1 ℝ) (a : ℝ) : Prop := HasDerivAt r.f (r.d a) a

/-- elementwise application of a scalar binary rule: `new_jac = diag(d1)·Ja + diag(d2)·Jb` -/
def ewise2 {m : ℕ} (r : Rule2 ℝ) : BRule m m m where
  f a b := fun i => r.f (a i) (b i)
  d₁ a b := Matrix.diagonal fun i => r.d1 (a i) (b i)
  d₂ a b := Matrix.diagonal fun i => r.d2 (a i) (b i)

/-- elementwise application of a scalar unary rule: `new_jac = diag(d)·Ja` (`_diagvec_mul_jac`) -/
def ewise1 {m : ℕ} (r : Rule1 ℝ) : URule m m where
  f a := fun i => r.f (a i)
  df a := Matrix.diagonal fun i => r.d (a i)

/-- left multiplication by a constant matrix (`sparse @ AdArray`, `ArraySlicer @ AdArray`,
    `ProjectionList @ AdArray` = the sum of its slicers) -/
def linRule {m k : ℕ} (M : Mat k m) : URule m k where
  f a := M.mulVec a
  df _ := M

/- Both lifts: row `i` of the vector rule is the scalar rule after the projection(s) to component `i`, and at every
   argument the two candidate derivatives are the scalar factor(s) times component `i` (`mulVec_diagonal`). -/

theorem ewise2_soundAt {m : ℕ} (r : Rule2 ℝ) (a b : Vec m) (h : ∀ i, Sound2 r (a i) (b i)) :
    (ewise2 r).SoundAt a b := by
  refine hasFDerivAt_pi'' fun i => ?_
  let π := ContinuousLinearMap.proj (R := ℝ) (φ := fun _ : Fin m => ℝ) i
  have hi : HasFDerivAt (fun q : ℝ × ℝ => r.f q.1 q.2)
      (r.d1 (a i) (b i) • ContinuousLinearMap.fst ℝ ℝ ℝ + r.d2 (a i) (b i) • ContinuousLinearMap.snd ℝ ℝ ℝ)
      (π.prodMap π (a, b)) := h i
  refine (hi.comp (a, b) (π.prodMap π).hasFDerivAt).congr_fderiv (ContinuousLinearMap.ext fun p => ?_)
  show r.d1 (a i) (b i) * p.1 i + r.d2 (a i) (b i) * p.2 i
    = (Matrix.diagonal (fun i => r.d1 (a i) (b i)) *ᵥ p.1) i + (Matrix.diagonal (fun i => r.d2 (a i) (b i)) *ᵥ p.2) i
  rw [mulVec_diagonal, mulVec_diagonal]

theorem ewise1_soundAt {m : ℕ} (r : Rule1 ℝ) (a : Vec m) (h : ∀ i, Sound1 r (a i)) :
    (ewise1 r).SoundAt a := by
  refine hasFDerivAt_pi'' fun i => ?_
  let π := ContinuousLinearMap.proj (R := ℝ) (φ := fun _ : Fin m => ℝ) i
  have hi : HasDerivAt r.f (r.d (a i)) (π a) := h i
  have hc : HasFDerivAt (fun v : Vec m => r.f (v i)) _ a := hi.comp_hasFDerivAt a π.hasFDerivAt
  refine hc.congr_fderiv (ContinuousLinearMap.ext fun v => ?_)
  show r.d (a i) * v i = (Matrix.diagonal (fun i => r.d (a i)) *ᵥ v) i
  rw [mulVec_diagonal]

theorem linRule_soundAt {m k : ℕ} (M : Mat k m) (a : Vec m) : (linRule M).SoundAt a :=
  hasFDerivAt_of_mulVec (fun _ => rfl) a

/-! ### scalar soundness of the rule formulas of `Model.lean`, instantiated at ℝ -/

/-- A jointly differentiable `(a, b) ↦ f a b` has the Fréchet derivative assembled from its two partial derivatives: a
    functional on `ℝ × ℝ` is determined by its values at `(1, 0)` and `(0, 1)`, which are the derivatives along the axes. -/
theorem Sound2.of_partials {r : Rule2 ℝ} {a b : ℝ}
    (hd : DifferentiableAt ℝ (fun p : ℝ × ℝ => r.f p.1 p.2) (a, b))
    (h1 : HasDerivAt (fun t => r.f t b) (r.d1 a b) a) (h2 : HasDerivAt (fun t => r.f a t) (r.d2 a b) b) :
    Sound2 r a b := by
  obtain ⟨L, h⟩ := hd
  have e1 : L (1, 0) = r.d1 a b :=
    (h.comp_hasDerivAt (f := fun t => (t, b)) a ((hasDerivAt_id a).prodMk (hasDerivAt_const a b))).unique h1
  have e2 : L (0, 1) = r.d2 a b :=
    (h.comp_hasDerivAt (f := fun t => (a, t)) b ((hasDerivAt_const b a).prodMk (hasDerivAt_id b))).unique h2
  refine h.congr_fderiv (ContinuousLinearMap.ext fun p => ?_)
  calc L p = L (p.1 • (1, 0) + p.2 • (0, 1)) := by simp
    _ = r.d1 a b * p.1 + r.d2 a b * p.2 := by
        rw [L.map_add, L.map_smul, L.map_smul, e1, e2, smul_eq_mul, smul_eq_mul, mul_comm, mul_comm p.2]

theorem add_sound2 (a b : ℝ) : Sound2 addRule a b :=
  .of_partials (differentiableAt_fst.add differentiableAt_snd)
    ((hasDerivAt_id a).add_const b) ((hasDerivAt_id b).const_add a)

theorem sub_sound2 (a b : ℝ) : Sound2 subRule a b :=
  .of_partials (differentiableAt_fst.sub differentiableAt_snd)
    ((hasDerivAt_id a).sub_const b) ((hasDerivAt_id b).const_sub a)

theorem mul_sound2 (a b : ℝ) : Sound2 mulRule a b :=
  .of_partials (differentiableAt_fst.mul differentiableAt_snd) (hasDerivAt_mul_const b) (hasDerivAt_const_mul a)

theorem div_sound2 (a b : ℝ) (hb : b ≠ 0) : Sound2 divRule a b :=
  .of_partials (differentiableAt_fst.mul (differentiableAt_snd.inv hb)) (hasDerivAt_mul_const b⁻¹)
    (((hasDerivAt_inv hb).const_mul a).congr_deriv (by rw [sq, mul_inv]; rfl))

/-- an `if` whose condition holds eventually is eventually its first branch -/
theorem ite_eventuallyEq_pos {α β : Type*} {l : Filter α} {P : α → Prop} [DecidablePred P] {g k : α → β}
    (h : ∀ᶠ y in l, P y) : (fun y => if P y then g y else k y) =ᶠ[l] g :=
  h.mono fun _ hy => if_pos hy

theorem ite_eventuallyEq_neg {α β : Type*} {l : Filter α} {P : α → Prop} [DecidablePred P] {g k : α → β}
    (h : ∀ᶠ y in l, ¬P y) : (fun y => if P y then g y else k y) =ᶠ[l] k :=
  h.mono fun _ hy => if_neg hy

theorem max_sound2 (a b : ℝ) (hab : a ≠ b) : Sound2 maxRule a b := by
  rcases lt_or_gt_of_ne hab with h | h
  · refine (hasFDerivAt_snd.congr_of_eventuallyEq <| ite_eventuallyEq_pos <|
      continuousAt_fst.eventually_lt continuousAt_snd h).congr_fderiv (ContinuousLinearMap.ext fun p => ?_)
    show p.2 = (if a < b then 0 else 1) * p.1 + (if a < b then 1 else 0) * p.2
    rw [if_pos h, if_pos h, zero_mul, one_mul, zero_add]
  · refine (hasFDerivAt_fst.congr_of_eventuallyEq <| ite_eventuallyEq_neg <|
      (continuousAt_snd.eventually_lt continuousAt_fst h).mono fun _ => lt_asymm).congr_fderiv
      (ContinuousLinearMap.ext fun p => ?_)
    show p.1 = (if a < b then 0 else 1) * p.1 + (if a < b then 1 else 0) * p.2
    rw [if_neg (lt_asymm h), if_neg (lt_asymm h), zero_mul, one_mul, add_zero]

theorem npow_eq_pow (x : ℝ) (k : ℕ) : npow x k = x ^ k := by
  induction k with
  | zero => simp [npow]
  | succ k ih => simp [npow, ih, pow_succ]

theorem ipow_eq_zpow (x : ℝ) (c : ℤ) : ipow x c = x ^ c := by
  unfold ipow
  split
  · rename_i h
    rw [npow_eq_pow, ← zpow_natCast, Int.toNat_of_nonneg h]
  · rename_i h
    have h' : 0 ≤ -c := by omega
    rw [npow_eq_pow, ← zpow_natCast, Int.toNat_of_nonneg h', inv_zpow', neg_neg]

theorem powInt_sound1 (c : ℤ) (x : ℝ) (hx : x ≠ 0 ∨ 0 ≤ c) : Sound1 (powIntRule c (c : ℝ)) x := by
  simp only [Sound1, powIntRule, ipow_eq_zpow]
  exact hasDerivAt_zpow c x hx

/-! ### ℝ-only rules (transcendental / piecewise): the formulas of `porepy/numerics/ad/functions.py` -/

/-- `AdArray.__pow__(float c)` for arbitrary real `c`: `val ** c`, factor `c · val ** (c - 1)` -/
noncomputable def powConstRule (c : ℝ) : Rule1 ℝ := ⟨fun x => x ^ c, fun x => c * x ^ (c - 1)⟩
/-- `AdArray ** AdArray`: `val = a ** b`, factors `b · a ** (b-1)` and `a ** b · log a` -/
noncomputable def powRule : Rule2 ℝ :=
  ⟨fun a b => a ^ b, fun a b => b * a ^ (b - 1), fun a b => a ^ b * Real.log a⟩
noncomputable def expRule : Rule1 ℝ := ⟨Real.exp, Real.exp⟩
noncomputable def logRule : Rule1 ℝ := ⟨Real.log, fun x => 1 / x⟩
noncomputable def sinRule : Rule1 ℝ := ⟨Real.sin, Real.cos⟩
noncomputable def cosRule : Rule1 ℝ := ⟨Real.cos, fun x => -Real.sin x⟩
noncomputable def tanRule : Rule1 ℝ := ⟨Real.tan, fun x => (Real.cos x ^ 2)⁻¹⟩
noncomputable def sinhRule : Rule1 ℝ := ⟨Real.sinh, Real.cosh⟩
noncomputable def coshRule : Rule1 ℝ := ⟨Real.cosh, Real.sinh⟩
noncomputable def tanhRule : Rule1 ℝ := ⟨Real.tanh, fun x => (Real.cosh x ^ 2)⁻¹⟩
noncomputable def arctanRule : Rule1 ℝ := ⟨Real.arctan, fun x => (x ^ 2 + 1)⁻¹⟩
/-- `functions.abs`: factor `np.sign(val)` -/
noncomputable def absRule : Rule1 ℝ := ⟨fun x => |x|, fun x => (SignType.sign x : ℝ)⟩
/-- `functions.characteristic_function(tol, ·)`: `np.isclose(val, 0, atol=tol)`, zero Jacobian -/
noncomputable def charRule (tol : ℝ) : Rule1 ℝ := ⟨fun x => if |x| ≤ tol then 1 else 0, fun _ => 0⟩
/-- `functions.heaviside(zerovalue, ·)`: `np.heaviside`, zero Jacobian -/
noncomputable def heavisideRule (z : ℝ) : Rule1 ℝ :=
  ⟨fun x => if x < 0 then 0 else if x = 0 then z else 1, fun _ => 0⟩

theorem pow_sound2 (a b : ℝ) (ha : 0 < a) : Sound2 powRule a b :=
  (Real.hasStrictFDerivAt_rpow_of_pos (a, b) ha).hasFDerivAt

theorem tanh_hasDerivAt (x : ℝ) : HasDerivAt Real.tanh ((Real.cosh x ^ 2)⁻¹) x := by
  have h := (Real.hasDerivAt_sinh x).div (Real.hasDerivAt_cosh x) (Real.cosh_pos x).ne'
  rw [← sq, ← sq, Real.cosh_sq_sub_sinh_sq, one_div] at h
  exact h.congr_of_eventuallyEq (Filter.Eventually.of_forall Real.tanh_eq_sinh_div_cosh)

theorem log_sound1 (x : ℝ) (h : x ≠ 0) : Sound1 logRule x :=
  (Real.hasDerivAt_log h).congr_deriv (one_div x).symm

theorem tan_sound1 (x : ℝ) (h : Real.cos x ≠ 0) : Sound1 tanRule x :=
  (Real.hasDerivAt_tan h).congr_deriv (one_div _)

theorem arctan_sound1 (x : ℝ) : Sound1 arctanRule x :=
  (Real.hasDerivAt_arctan' x).congr_deriv (congrArg _ (add_comm _ _))

theorem char_hasDerivAt (tol x : ℝ) (h : |x| ≠ tol) :
    HasDerivAt (fun y : ℝ => if |y| ≤ tol then (1 : ℝ) else 0) 0 x := by
  rcases lt_or_gt_of_ne h with hlt | hgt
  · exact (hasDerivAt_const x (1 : ℝ)).congr_of_eventuallyEq <| ite_eventuallyEq_pos <|
      (continuous_abs.continuousAt.eventually_lt continuousAt_const hlt).mono fun _ => le_of_lt
  · exact (hasDerivAt_const x (0 : ℝ)).congr_of_eventuallyEq <| ite_eventuallyEq_neg <|
      (continuousAt_const.eventually_lt continuous_abs.continuousAt hgt).mono fun _ => not_le_of_gt

theorem heaviside_hasDerivAt (z x : ℝ) (h : x ≠ 0) :
    HasDerivAt (fun y : ℝ => if y < 0 then (0 : ℝ) else if y = 0 then z else 1) 0 x := by
  rcases lt_or_gt_of_ne h with hlt | hgt
  · exact (hasDerivAt_const x (0 : ℝ)).congr_of_eventuallyEq (ite_eventuallyEq_pos (eventually_lt_nhds hlt))
  · refine (hasDerivAt_const x (1 : ℝ)).congr_of_eventuallyEq ?_
    filter_upwards [eventually_gt_nhds hgt] with y hy
    rw [if_neg hy.not_gt, if_neg hy.ne']

/-- `y ** (-0.5)` is `1/√y` for positive `y` -/
theorem rpow_neg_half {y : ℝ} (hy : 0 < y) : y ^ (-(1 / 2) : ℝ) = (Real.sqrt y)⁻¹ := by
  rw [Real.rpow_neg hy.le, Real.sqrt_eq_rpow]

noncomputable def arcsinRule : Rule1 ℝ := ⟨Real.arcsin, fun x => (1 - x ^ 2) ^ (-(1 / 2) : ℝ)⟩
noncomputable def arccosRule : Rule1 ℝ := ⟨Real.arccos, fun x => -((1 - x ^ 2) ^ (-(1 / 2) : ℝ))⟩
noncomputable def arcsinhRule : Rule1 ℝ := ⟨Real.arsinh, fun x => (x ^ 2 + 1) ^ (-(1 / 2) : ℝ)⟩
noncomputable def arccoshRule : Rule1 ℝ :=
  ⟨Real.arcosh, fun x => (x - 1) ^ (-(1 / 2) : ℝ) * (x + 1) ^ (-(1 / 2) : ℝ)⟩
noncomputable def arctanhRule : Rule1 ℝ := ⟨Real.artanh, fun x => (1 - x ^ 2)⁻¹⟩
/-- `safe_power(power, zero_val, tol, ·)` -/
noncomputable def safePowerRule (p z tol : ℝ) : Rule1 ℝ :=
  ⟨fun x => if tol < |x| then x ^ p else z, fun x => if tol < |x| then p * x ^ (p - 1) else 0⟩
/-- `heaviside_smooth(·, eps)` -/
noncomputable def heavisideSmoothRule (eps : ℝ) : Rule1 ℝ :=
  ⟨fun x => 0.5 * (1 + 2 * Real.pi⁻¹ * Real.arctan (x * eps⁻¹)),
   fun x => Real.pi⁻¹ * eps * (eps ^ 2 + x ^ 2)⁻¹⟩

theorem one_sub_sq_pos {x : ℝ} (h : |x| < 1) : 0 < 1 - x ^ 2 :=
  sub_pos.mpr ((sq_lt_one_iff_abs_lt_one x).mpr h)

theorem arcsin_sound1 (x : ℝ) (h : |x| < 1) : Sound1 arcsinRule x := by
  have hx := abs_lt.mp h
  refine (Real.hasDerivAt_arcsin hx.1.ne' hx.2.ne).congr_deriv ?_
  simp only [arcsinRule]
  rw [rpow_neg_half (one_sub_sq_pos h), one_div]

/-- `arccos = π/2 - arcsin` -/
theorem arccos_sound1 (x : ℝ) (h : |x| < 1) : Sound1 arccosRule x :=
  (arcsin_sound1 x h).const_sub (Real.pi / 2)

theorem arcsinh_sound1 (x : ℝ) : Sound1 arcsinhRule x := by
  refine (Real.hasDerivAt_arsinh x).congr_deriv ?_
  simp only [arcsinhRule]
  rw [rpow_neg_half (by positivity), add_comm]

theorem arccosh_sound1 (x : ℝ) (h : 1 < x) : Sound1 arccoshRule x := by
  refine (Real.hasDerivAt_arcosh h).congr_deriv ?_
  simp only [arccoshRule]
  rw [rpow_neg_half (by linarith), rpow_neg_half (by linarith), ← mul_inv,
    ← Real.sqrt_mul (by linarith)]
  congr 2
  ring

/-- `artanh = ½ (log (1 + ·) - log (1 - ·))` on `(-1, 1)` -/
theorem arctanh_sound1 (x : ℝ) (h : |x| < 1) : Sound1 arctanhRule x := by
  have hx := abs_lt.mp h
  have h1 : (0 : ℝ) < 1 + x := by linarith
  have h2 : (0 : ℝ) < 1 - x := by linarith
  have hev : Real.artanh =ᶠ[nhds x] fun y => 1 / 2 * (Real.log (1 + y) - Real.log (1 - y)) := by
    filter_upwards [Ioo_mem_nhds hx.1 hx.2] with y hy
    rw [Real.artanh_eq_half_log ⟨hy.1.le, hy.2.le⟩, Real.log_div (by linarith [hy.1]) (by linarith [hy.2])]
  have hl := ((((hasDerivAt_id x).const_add 1).log h1.ne').sub
    (((hasDerivAt_id x).const_sub 1).log h2.ne')).const_mul (1 / 2 : ℝ)
  refine (hl.congr_of_eventuallyEq hev).congr_deriv ?_
  show 1 / 2 * (1 / (1 + x) - -1 / (1 - x)) = (1 - x ^ 2)⁻¹
  rw [show 1 - x ^ 2 = (1 + x) * (1 - x) by ring, neg_div, sub_neg_eq_add, div_add_div _ _ h1.ne' h2.ne']
  ring

theorem safePower_sound1 (p z tol x : ℝ) (htol : 0 ≤ tol) (h : |x| ≠ tol) : Sound1 (safePowerRule p z tol) x := by
  unfold Sound1
  simp only [safePowerRule]
  rcases lt_or_gt_of_ne h with hlt | hgt
  · rw [if_neg hlt.not_gt]
    exact (hasDerivAt_const x z).congr_of_eventuallyEq <| ite_eventuallyEq_neg <|
      (continuous_abs.continuousAt.eventually_lt continuousAt_const hlt).mono fun _ => lt_asymm
  · rw [if_pos hgt]
    have hx0 : x ≠ 0 := abs_pos.mp (htol.trans_lt hgt)
    exact (Real.hasDerivAt_rpow_const (Or.inl hx0)).congr_of_eventuallyEq <| ite_eventuallyEq_pos <|
      continuousAt_const.eventually_lt continuous_abs.continuousAt hgt

theorem heavisideSmooth_sound1 (eps x : ℝ) (he : eps ≠ 0) : Sound1 (heavisideSmoothRule eps) x := by
  refine ((((hasDerivAt_mul_const eps⁻¹).arctan.const_mul (2 * Real.pi⁻¹)).const_add 1).const_mul
    (0.5 : ℝ)).congr_deriv ?_
  have hpos : eps ^ 2 + x ^ 2 ≠ 0 := by positivity
  have hpos2 : 1 + (x * eps⁻¹) ^ 2 ≠ 0 := by positivity
  simp only [heavisideSmoothRule]
  field_simp
  ring

/-- `functions.l2_norm(dim, ·)`: cell `c` has the components `g c d`, `d < dim` -/
noncomputable def normRule {m k dim : ℕ} (g : Fin k → Fin dim → Fin m) : URule m k where
  f v := fun c => Real.sqrt (∑ d, v (g c d) ^ 2)
  df v := Matrix.of fun c j => ∑ d, if g c d = j then v (g c d) / Real.sqrt (∑ d', v (g c d') ^ 2) else 0

/-- a sum against the indicator-weighted sums `j ↦ ∑ d, [φ d = j] u d` collapses to a sum over `d` -/
theorem sum_mul_sum_ite {ι κ : Type} [Fintype ι] [Fintype κ] [DecidableEq ι] (φ : κ → ι) (u : κ → ℝ) (w : ι → ℝ) :
    ∑ j, w j * ∑ d, (if φ d = j then u d else 0) = ∑ d, w (φ d) * u d := by
  simp only [Finset.mul_sum, mul_ite, mul_zero]
  rw [Finset.sum_comm]
  simp only [Finset.sum_ite_eq, Finset.mem_univ, if_true]

/-- row `c` of the norm rule's factor: the normalised cell vector against the cell's components -/
theorem normRule_df_mulVec {m k dim : ℕ} (g : Fin k → Fin dim → Fin m) (v w : Vec m) (c : Fin k) :
    ((normRule g).df v).mulVec w c = ∑ d, w (g c d) * (v (g c d) / Real.sqrt (∑ d', v (g c d') ^ 2)) := by
  rw [Matrix.mulVec, dotProduct_comm]
  exact sum_mul_sum_ite (g c) _ w

theorem normRule_soundAt {m k dim : ℕ} (g : Fin k → Fin dim → Fin m) (v : Vec m)
    (hne : ∀ c, ∑ d, v (g c d) ^ 2 ≠ 0) : (normRule g).SoundAt v := by
  refine hasFDerivAt_pi'' fun c => ?_
  have hsum := HasFDerivAt.fun_sum (u := Finset.univ) fun (d : Fin dim) _ =>
    (hasFDerivAt_apply (𝕜 := ℝ) (g c d) v).pow 2
  refine (hsum.sqrt (hne c)).congr_fderiv (ContinuousLinearMap.ext fun w => ?_)
  have hs : Real.sqrt (∑ d, v (g c d) ^ 2) ≠ 0 := fun h0 =>
    hne c (le_antisymm (Real.sqrt_eq_zero'.mp h0) (Finset.sum_nonneg fun d' _ => sq_nonneg _))
  show _ = ((normRule g).df v).mulVec w c
  rw [normRule_df_mulVec, ContinuousLinearMap.smul_apply, ContinuousLinearMap.sum_apply, smul_eq_mul, Finset.mul_sum]
  refine Finset.sum_congr rfl fun d _ => ?_
  rw [ContinuousLinearMap.smul_apply, ContinuousLinearMap.proj_apply, smul_eq_mul]
  field_simp
  ring

/-- index of component `d` of cell `c` in the layout `[u0, v0, w0, u1, v1, w1, …]` that `l2_norm(dim, ·)`
    assumes (`np.reshape(var.val, (dim, -1), order="F")`) -/
def cellIdx (size dim : ℕ) (c : Fin size) (d : Fin dim) : Fin (size * dim) :=
  ⟨c.val * dim + d.val, by
    calc c.val * dim + d.val < c.val * dim + dim := by omega
      _ = (c.val + 1) * dim := by ring
      _ ≤ size * dim := Nat.mul_le_mul_right dim c.isLt⟩

/-- for `dim = 1` the norm rule's value is the absolute value (the code then calls `functions.abs`) -/
theorem normRule_dim_one_val (size : ℕ) (v : Vec (size * 1)) (c : Fin size) :
    (normRule (cellIdx size 1)).f v c = |v (cellIdx size 1 c 0)| := by
  simp [normRule, Real.sqrt_sq_eq_abs]

/-! ## stacking the equations (`EquationSystem.assemble`) -/

/-- row index of the assembled system: equation `e`, local row `i` (equations in insertion order) -/
abbrev Row {E : ℕ} (k : Fin E → ℕ) := Σ e : Fin E, Fin (k e)

/-- `A` of `A, b = assemble(state=x)`: `sps.vstack` of the equations' forward-mode Jacobians -/
def assembleJac {n E : ℕ} {k : Fin E → ℕ} (eqs : (e : Fin E) → Tree n (k e)) (x : Vec n) :
    Matrix (Row k) (Fin n) ℝ := Matrix.of fun r j => (eqs r.1).jac x r.2 j

/-- `b` of `assemble(state=x)` (also what `evaluate_jacobian=False` returns): the concatenated values,
    scaled with -1 -/
def assembleRhs {n E : ℕ} {k : Fin E → ℕ} (eqs : (e : Fin E) → Tree n (k e)) (x : Vec n) :
    Row k → ℝ := fun r => -((eqs r.1).val x r.2)

/-- the model residual: the concatenated equation values (`-b`) -/
def residual {n E : ℕ} {k : Fin E → ℕ} (eqs : (e : Fin E) → Tree n (k e)) (x : Vec n) :
    Row k → ℝ := fun r => -(assembleRhs eqs x r)

/-- a matrix with an arbitrary finite row index as a continuous linear map -/
noncomputable def mclRows {ι : Type} [Fintype ι] {n : ℕ} (A : Matrix ι (Fin n) ℝ) : Vec n →L[ℝ] (ι → ℝ) :=
  LinearMap.toContinuousLinearMap (Matrix.toLin' A)

@[simp] theorem mclRows_apply {ι : Type} [Fintype ι] {n : ℕ} (A : Matrix ι (Fin n) ℝ) (v : Vec n) :
    mclRows A v = A.mulVec v := by
  simp [mclRows]

/-- Fréchet derivative ⇒ directional derivative of every component along every direction -/
theorem directional_of_fderiv_rows {ι : Type} [Fintype ι] {n : ℕ} {f : Vec n → ι → ℝ} {J : Matrix ι (Fin n) ℝ}
    {x : Vec n} (h : HasFDerivAt f (mclRows J) x) (δ : Vec n) (i : ι) :
    HasDerivAt (fun ε : ℝ => f (x + ε • δ) i) (J.mulVec δ i) 0 := by
  have hline : HasDerivAt (fun ε : ℝ => x + ε • δ) δ 0 :=
    hasDerivAt_pi.mpr fun j => (hasDerivAt_mul_const (δ j)).const_add (x j)
  have hcomp := h.comp_hasDerivAt_of_eq (0 : ℝ) hline (by rw [zero_smul, add_zero])
  rw [mclRows_apply] at hcomp
  exact hasDerivAt_pi.mp hcomp i

/-- the same for the row index `Fin k`, where `mcl J` is `mclRows J` by unfolding -/
theorem directional_of_fderiv {n k : ℕ} {f : Vec n → Vec k} {J : Mat k n} {x : Vec n}
    (h : HasFDerivAt f (mcl J) x) (δ : Vec n) (i : Fin k) :
    HasDerivAt (fun ε : ℝ => f (x + ε • δ) i) (J.mulVec δ i) 0 :=
  directional_of_fderiv_rows h δ i

theorem residual_apply {n E : ℕ} {k : Fin E → ℕ} (eqs : (e : Fin E) → Tree n (k e)) (x : Vec n) (r : Row k) :
    residual eqs x r = (eqs r.1).val x r.2 :=
  neg_neg _

theorem residual_hasFDerivAt {n E : ℕ} {k : Fin E → ℕ} (eqs : (e : Fin E) → Tree n (k e)) (x : Vec n)
    (h : ∀ e, (eqs e).Smooth x) :
    HasFDerivAt (residual eqs) (mclRows (assembleJac eqs x)) x := by
  refine hasFDerivAt_pi'' fun r => ?_
  simp only [residual_apply]
  -- row `r` of the stacked Jacobian is, by definition, row `r.2` of the Jacobian of equation `r.1`
  exact hasFDerivAt_pi'.mp (tree_hasFDerivAt (eqs r.1) x (h r.1)) r.2

/-- the unary node kinds of the vocabulary (library functions with the arguments bound by `functools.partial`,
    and powers with a constant exponent) -/
inductive Fn1 where
  | exp | log | sin | cos | tan | sinh | cosh | tanh | arctan | arcsin | arccos | arcsinh | arccosh | arctanh | abs
  | powConst (c : ℝ) | powInt (c : ℤ)
  | charFn (tol : ℝ) | heaviside (z : ℝ) | heavisideSmooth (eps : ℝ) | safePower (p z tol : ℝ)

noncomputable def Fn1.rule : Fn1 → Rule1 ℝ
  | .exp => expRule | .log => logRule | .sin => sinRule | .cos => cosRule | .tan => tanRule
  | .sinh => sinhRule | .cosh => coshRule | .tanh => tanhRule | .arctan => arctanRule
  | .arcsin => arcsinRule | .arccos => arccosRule | .arcsinh => arcsinhRule | .arccosh => arccoshRule
  | .arctanh => arctanhRule | .abs => absRule
  | .powConst c => powConstRule c | .powInt c => powIntRule c (c : ℝ)
  | .charFn tol => charRule tol | .heaviside z => heavisideRule z
  | .heavisideSmooth eps => heavisideSmoothRule eps | .safePower p z tol => safePowerRule p z tol

/-- the side condition of a unary kind at the value of its argument: an explicit (in)equality -/
def Fn1.ok : Fn1 → ℝ → Prop
  | .exp, _ | .sin, _ | .cos, _ | .sinh, _ | .cosh, _ | .tanh, _ | .arctan, _ | .arcsinh, _ => True
  | .log, x => x ≠ 0
  | .tan, x => Real.cos x ≠ 0
  | .arcsin, x | .arccos, x | .arctanh, x => |x| < 1
  | .arccosh, x => 1 < x
  | .abs, x => x ≠ 0
  | .powConst c, x => x ≠ 0 ∨ 1 ≤ c
  | .powInt c, x => x ≠ 0 ∨ 0 ≤ c
  | .charFn tol, x => |x| ≠ tol
  | .heaviside _, x => x ≠ 0
  | .heavisideSmooth eps, _ => eps ≠ 0
  | .safePower _ _ tol, x => 0 ≤ tol ∧ |x| ≠ tol

theorem Fn1.sound (f : Fn1) (x : ℝ) (h : f.ok x) : Sound1 f.rule x := by
  cases f with
  | exp => exact Real.hasDerivAt_exp x
  | log => exact log_sound1 x h
  | sin => exact Real.hasDerivAt_sin x
  | cos => exact Real.hasDerivAt_cos x
  | tan => exact tan_sound1 x h
  | sinh => exact Real.hasDerivAt_sinh x
  | cosh => exact Real.hasDerivAt_cosh x
  | tanh => exact tanh_hasDerivAt x
  | arctan => exact arctan_sound1 x
  | arcsin => exact arcsin_sound1 x h
  | arccos => exact arccos_sound1 x h
  | arcsinh => exact arcsinh_sound1 x
  | arccosh => exact arccosh_sound1 x h
  | arctanh => exact arctanh_sound1 x h
  | abs => exact hasDerivAt_abs h
  | powConst c => exact Real.hasDerivAt_rpow_const h
  | powInt c => exact powInt_sound1 c x h
  | charFn tol => exact char_hasDerivAt tol x h
  | heaviside z => exact heaviside_hasDerivAt z x h
  | heavisideSmooth eps => exact heavisideSmooth_sound1 eps x h
  | safePower p z tol => exact safePower_sound1 p z tol x h.1 h.2

/-- the binary elementwise node kinds -/
inductive Op2 where
  | add | sub | mul | div | max | pow

noncomputable def Op2.rule : Op2 → Rule2 ℝ
  | .add => addRule | .sub => subRule | .mul => mulRule | .div => divRule | .max => maxRule | .pow => powRule

def Op2.ok : Op2 → ℝ → ℝ → Prop
  | .add, _, _ | .sub, _, _ | .mul, _, _ => True
  | .div, _, b => b ≠ 0
  | .max, a, b => a ≠ b
  | .pow, a, _ => 0 < a

theorem Op2.sound (o : Op2) (a b : ℝ) (h : o.ok a b) : Sound2 o.rule a b := by
  cases o with
  | add => exact add_sound2 a b
  | sub => exact sub_sound2 a b
  | mul => exact mul_sound2 a b
  | div => exact div_sound2 a b h
  | max => exact max_sound2 a b h
  | pow => exact pow_sound2 a b h

/-- every unary kind, elementwise, on a vector whose components meet the kind's side condition -/
theorem Fn1.soundAt {m : ℕ} (f : Fn1) (a : Vec m) (h : ∀ i, f.ok (a i)) : (ewise1 f.rule).SoundAt a :=
  ewise1_soundAt _ a fun i => f.sound (a i) (h i)

/-- every binary kind, elementwise -/
theorem Op2.soundAt {m : ℕ} (o : Op2) (a b : Vec m) (h : ∀ i, o.ok (a i) (b i)) : (ewise2 o.rule).SoundAt a b :=
  ewise2_soundAt _ a b fun i => o.sound (a i) (b i) (h i)

/-- expression trees built from the vocabulary only (what the tree auditor finds in the shipped models) -/
inductive VTree (n : ℕ) : ℕ → Type
  | var {m : ℕ} (dofs : Fin m → Fin n) : VTree n m
  | const {m : ℕ} (c : Vec m) : VTree n m
  | fn {m : ℕ} (f : Fn1) (t : VTree n m) : VTree n m
  | op {m : ℕ} (o : Op2) (t₁ t₂ : VTree n m) : VTree n m
  | matmul {m k : ℕ} (M : Mat k m) (t : VTree n m) : VTree n k
  | norm {m k dim : ℕ} (g : Fin k → Fin dim → Fin m) (t : VTree n m) : VTree n k

noncomputable def VTree.toTree {n : ℕ} : {k : ℕ} → VTree n k → Tree n k
  | _, .var dofs => .var dofs
  | _, .const c => .const c
  | _, .fn f t => .un (ewise1 f.rule) t.toTree
  | _, .op o t₁ t₂ => .bin (ewise2 o.rule) t₁.toTree t₂.toTree
  | _, .matmul M t => .un (linRule M) t.toTree
  | _, .norm g t => .un (normRule g) t.toTree

/-- admissible state: at every node the explicit side condition of its kind holds for the values of its
    children (no vanishing denominator, no tie of a maximum, positive base of a general power, argument of `log`,
    `abs`, `heaviside` nonzero, `|argument| ≠ tol`, no vanishing cell vector of a norm, …) -/
def VTree.Admissible {n : ℕ} : {k : ℕ} → VTree n k → Vec n → Prop
  | _, .var _, _ => True
  | _, .const _, _ => True
  | _, .fn f t, x => t.Admissible x ∧ ∀ i, f.ok (t.toTree.val x i)
  | _, .op o t₁ t₂, x => t₁.Admissible x ∧ t₂.Admissible x ∧ ∀ i, o.ok (t₁.toTree.val x i) (t₂.toTree.val x i)
  | _, .matmul _ t, x => t.Admissible x
  | _, .norm g t, x => t.Admissible x ∧ ∀ c, ∑ d, t.toTree.val x (g c d) ^ 2 ≠ 0

theorem VTree.smooth {n : ℕ} : ∀ {k : ℕ} (t : VTree n k) (x : Vec n), t.Admissible x → t.toTree.Smooth x
  | _, .var _, _, _ => trivial
  | _, .const _, _, _ => trivial
  | _, .fn f t, x, h => ⟨VTree.smooth t x h.1, f.soundAt _ h.2⟩
  | _, .op o t₁ t₂, x, h => ⟨VTree.smooth t₁ x h.1, VTree.smooth t₂ x h.2.1, o.soundAt _ _ h.2.2⟩
  | _, .matmul M t, x, h => ⟨VTree.smooth t x h, linRule_soundAt M _⟩
  | _, .norm g t, x, h => ⟨VTree.smooth t x h.1, normRule_soundAt g _ h.2⟩

/-! ## sub-systems: `assemble(equations=…, variables=…)` -/

/-- a direction that only moves the selected columns (dofs of the requested variables) -/
def scatter {n p : ℕ} (cols : Fin p → Fin n) (η : Vec p) : Vec n := fun j => ∑ c, if cols c = j then η c else 0

theorem mulVec_scatter {ι : Type} {n p : ℕ} (A : Matrix ι (Fin n) ℝ) (cols : Fin p → Fin n) (η : Vec p) (r : ι) :
    A.mulVec (scatter cols η) r = ∑ c, A r (cols c) * η c :=
  sum_mul_sum_ite cols η (A r)

end PorepyVerif.C03
