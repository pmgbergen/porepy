/-
C03 — property theorems (CORE level; definitions and helper lemmas in Lemmas.lean, rule formulas in Model.lean).

Property: for every shipped model, the Jacobian returned by assembling the linear system equals the
directional derivative of the assembled residual at any admissible state, with discretization matrices
held fixed.

What is proved here, for ALL trees, states and directions:

* `tree_jac_is_fderiv`, `tree_jac_directional` — forward-mode evaluation of an expression tree
  (identity-block Jacobian at variable leaves, zero Jacobian at constant leaves, `Σ ∂f/∂childᵢ·Jac(childᵢ)`
  at nodes) returns the Fréchet derivative of the tree's value map at every state where each node's
  factors are the true partial derivatives at its children's values (`Tree.Smooth`); hence
  `d/dε val(x + ε δ)|₀ = Jac(x)·δ` for every direction and row.
* `assemble_jac_is_fderiv`, `assemble_jac_is_derivative` — the same for the stacked system
  `A, b = assemble(state=x)` (`A` = vstack of the equations' Jacobians, `b = -residual`):
  `d/dε (-b(x + ε δ))_r |₀ = (A(x) δ)_r`.
* `*_sound` — the smoothness hypothesis is discharged for every node kind that occurs in the operator
  trees of the shipped models and for every function of `porepy/numerics/ad/functions.py` (the vocabulary of `Model.lean`, checked against the real trees by the tree
  auditor on every run): the rule formulas the real forward mode applies are sound on the stated domain.

Not proved (CORE): that the Python code building the trees yields these rules at every node (checked by the
tree auditor + sampled node re-evaluation), binary64 rounding, and the scipy sparse algebra.
-/
import PorepyVerif.C03.Lemmas

namespace PorepyVerif.C03
open Matrix

/-- Forward mode = Fréchet derivative: for every tree and every state in its smooth region. -/
theorem tree_jac_is_fderiv {n k : ℕ} (t : Tree n k) (x : Vec n) (h : t.Smooth x) :
    HasFDerivAt t.val (mcl (t.jac x)) x :=
  tree_hasFDerivAt t x h

/-- Directional form: `d/dε val(x + ε δ) i |_{ε=0} = (Jac(x) · δ) i`. -/
theorem tree_jac_directional {n k : ℕ} (t : Tree n k) (x : Vec n) (h : t.Smooth x) (δ : Vec n) (i : Fin k) :
    HasDerivAt (fun ε : ℝ => t.val (x + ε • δ) i) ((t.jac x).mulVec δ i) 0 :=
  directional_of_fderiv (tree_hasFDerivAt t x h) δ i

/-- The assembled Jacobian is the Fréchet derivative of the assembled residual. -/
theorem assemble_jac_is_fderiv {n E : ℕ} {k : Fin E → ℕ} (eqs : (e : Fin E) → Tree n (k e)) (x : Vec n)
    (h : ∀ e, (eqs e).Smooth x) :
    HasFDerivAt (fun y => fun r => -(assembleRhs eqs y r)) (mclRows (assembleJac eqs x)) x :=
  residual_hasFDerivAt eqs x h

/-- HEADLINE.  `A, b = assemble(state=x)`: for every direction `δ` and every row `r` of the stacked system,
    the derivative at `ε = 0` of the residual `-b(x + ε δ)` is `(A δ)_r`. -/
theorem assemble_jac_is_derivative {n E : ℕ} {k : Fin E → ℕ} (eqs : (e : Fin E) → Tree n (k e)) (x : Vec n)
    (h : ∀ e, (eqs e).Smooth x) (δ : Vec n) (r : Row k) :
    HasDerivAt (fun ε : ℝ => -(assembleRhs eqs (x + ε • δ) r)) ((assembleJac eqs x).mulVec δ r) 0 :=
  directional_of_fderiv_rows (residual_hasFDerivAt eqs x h) δ r

/-- Variable leaf (`ad_base[dofs]`): value = the slice, Jacobian = the rows `dofs` of the identity
    (entry `(i, j)` is 1 iff `j = dofs i`), which is the derivative of the slice. -/
theorem var_leaf_sound {n m : ℕ} (dofs : Fin m → Fin n) (x : Vec n) :
    (Tree.var dofs).val x = (fun i => x (dofs i))
    ∧ (∀ i j, (Tree.var dofs).jac x i j = if dofs i = j then 1 else 0)
    ∧ HasFDerivAt (Tree.var dofs).val (mcl ((Tree.var dofs).jac x)) x :=
  ⟨rfl, fun _ _ => rfl, var_hasFDerivAt dofs x⟩

/-- Constant leaf (numbers, arrays, matrices applied elsewhere, previous time step / iterate values, and every
    sub-tree without variables): zero Jacobian, which is the derivative of a constant. -/
theorem const_leaf_sound {n m : ℕ} (c : Vec m) (x : Vec n) :
    (Tree.const (n := n) c).val x = c ∧ (Tree.const (n := n) c).jac x = 0
    ∧ HasFDerivAt (Tree.const (n := n) c).val (mcl ((Tree.const (n := n) c).jac x)) x :=
  ⟨rfl, rfl, tree_hasFDerivAt (Tree.const c) x trivial⟩

/-! ## arithmetic nodes (forward_mode.py); an operand that is a float / ndarray is a `const` child -/

theorem add_sound {m : ℕ} (a b : Vec m) : (ewise2 addRule).SoundAt a b :=
  Op2.soundAt .add a b fun _ => trivial

theorem sub_sound {m : ℕ} (a b : Vec m) : (ewise2 subRule).SoundAt a b :=
  Op2.soundAt .sub a b fun _ => trivial

theorem mul_sound {m : ℕ} (a b : Vec m) : (ewise2 mulRule).SoundAt a b :=
  Op2.soundAt .mul a b fun _ => trivial

/-- division (`self * other ** -1`): sound where no denominator vanishes -/
theorem div_sound {m : ℕ} (a b : Vec m) (hb : ∀ i, b i ≠ 0) : (ewise2 divRule).SoundAt a b :=
  Op2.soundAt .div a b hb

/-- `AdArray ** c` with a real exponent: sound where every base is nonzero (or `c ≥ 1`) -/
theorem pow_const_sound {m : ℕ} (c : ℝ) (a : Vec m) (ha : ∀ i, a i ≠ 0 ∨ 1 ≤ c) :
    (ewise1 (powConstRule c)).SoundAt a :=
  Fn1.soundAt (.powConst c) a ha

/-- `AdArray ** c` with an integral exponent, the formula the driver recomputes over ℚ -/
theorem pow_int_sound {m : ℕ} (c : ℤ) (a : Vec m) (ha : ∀ i, a i ≠ 0 ∨ 0 ≤ c) :
    (ewise1 (powIntRule c (c : ℝ))).SoundAt a :=
  Fn1.soundAt (.powInt c) a ha

/-- `AdArray ** AdArray`, `float ** AdArray`, `ndarray ** AdArray`: sound where every base is positive -/
theorem pow_sound {m : ℕ} (a b : Vec m) (ha : ∀ i, 0 < a i) : (ewise2 powRule).SoundAt a b :=
  Op2.soundAt .pow a b ha

/-- `sparse @ AdArray`, `ArraySlicer @ AdArray`, `ProjectionList @ AdArray`: `jac = M·Ja`, everywhere -/
theorem matmul_sound {m k : ℕ} (M : Mat k m) (a : Vec m) : (linRule M).SoundAt a :=
  linRule_soundAt M a

/-! ## function nodes (functions.py) -/

/-- `maximum`: rows are picked from the larger operand; sound away from ties -/
theorem maximum_sound {m : ℕ} (a b : Vec m) (h : ∀ i, a i ≠ b i) : (ewise2 maxRule).SoundAt a b :=
  Op2.soundAt .max a b h

theorem exp_sound {m : ℕ} (a : Vec m) : (ewise1 expRule).SoundAt a :=
  Fn1.soundAt .exp a fun _ => trivial

theorem log_sound {m : ℕ} (a : Vec m) (h : ∀ i, a i ≠ 0) : (ewise1 logRule).SoundAt a :=
  Fn1.soundAt .log a h

theorem sin_sound {m : ℕ} (a : Vec m) : (ewise1 sinRule).SoundAt a :=
  Fn1.soundAt .sin a fun _ => trivial

theorem cos_sound {m : ℕ} (a : Vec m) : (ewise1 cosRule).SoundAt a :=
  Fn1.soundAt .cos a fun _ => trivial

theorem tan_sound {m : ℕ} (a : Vec m) (h : ∀ i, Real.cos (a i) ≠ 0) : (ewise1 tanRule).SoundAt a :=
  Fn1.soundAt .tan a h

theorem sinh_sound {m : ℕ} (a : Vec m) : (ewise1 sinhRule).SoundAt a :=
  Fn1.soundAt .sinh a fun _ => trivial

theorem cosh_sound {m : ℕ} (a : Vec m) : (ewise1 coshRule).SoundAt a :=
  Fn1.soundAt .cosh a fun _ => trivial

theorem tanh_sound {m : ℕ} (a : Vec m) : (ewise1 tanhRule).SoundAt a :=
  Fn1.soundAt .tanh a fun _ => trivial

theorem arctan_sound {m : ℕ} (a : Vec m) : (ewise1 arctanRule).SoundAt a :=
  Fn1.soundAt .arctan a fun _ => trivial

/-- `abs` with factor `sign(val)`: sound away from 0 -/
theorem abs_sound {m : ℕ} (a : Vec m) (h : ∀ i, a i ≠ 0) : (ewise1 absRule).SoundAt a :=
  Fn1.soundAt .abs a h

/-- `l2_norm(dim, ·)`: `jac = (v / ‖v‖)·Ja` cell-wise; sound where no cell vector vanishes -/
theorem l2_norm_sound {m k dim : ℕ} (g : Fin k → Fin dim → Fin m) (v : Vec m)
    (h : ∀ c, ∑ d, v (g c d) ^ 2 ≠ 0) : (normRule g).SoundAt v :=
  normRule_soundAt g v h

/-- `characteristic_function(tol, ·)` with its zero Jacobian: sound away from `|val| = tol` -/
theorem characteristic_sound {m : ℕ} (tol : ℝ) (a : Vec m) (h : ∀ i, |a i| ≠ tol) :
    (ewise1 (charRule tol)).SoundAt a :=
  Fn1.soundAt (.charFn tol) a h

/-- `heaviside(zerovalue, ·)` with its zero Jacobian: sound away from 0 -/
theorem heaviside_sound {m : ℕ} (z : ℝ) (a : Vec m) (h : ∀ i, a i ≠ 0) :
    (ewise1 (heavisideRule z)).SoundAt a :=
  Fn1.soundAt (.heaviside z) a h

/-- `l2_norm(dim, ·)` in the code's memory layout: cell `c` owns the rows `c·dim, …, c·dim + dim - 1` -/
theorem l2_norm_rows_sound (size dim : ℕ) (v : Vec (size * dim))
    (h : ∀ c, ∑ d, v (cellIdx size dim c d) ^ 2 ≠ 0) : (normRule (cellIdx size dim)).SoundAt v :=
  normRule_soundAt _ v h

/-- for `dim = 1` the value is `|v|`, which is why the code may (and does) call `functions.abs` -/
theorem l2_norm_dim_one_is_abs (size : ℕ) (v : Vec (size * 1)) (c : Fin size) :
    (normRule (cellIdx size 1)).f v c = |v (cellIdx size 1 c 0)| :=
  normRule_dim_one_val size v c

/-- `arcsin` with factor `(1 - val²) ** -0.5`: sound on `|val| < 1` -/
theorem arcsin_sound {m : ℕ} (a : Vec m) (h : ∀ i, |a i| < 1) : (ewise1 arcsinRule).SoundAt a :=
  Fn1.soundAt .arcsin a h

theorem arccos_sound {m : ℕ} (a : Vec m) (h : ∀ i, |a i| < 1) : (ewise1 arccosRule).SoundAt a :=
  Fn1.soundAt .arccos a h

/-- `arcsinh` with factor `(val² + 1) ** -0.5`: sound everywhere -/
theorem arcsinh_sound {m : ℕ} (a : Vec m) : (ewise1 arcsinhRule).SoundAt a :=
  Fn1.soundAt .arcsinh a fun _ => trivial

/-- `arccosh` with factor `(val - 1) ** -0.5 · (val + 1) ** -0.5`: sound on `val > 1` -/
theorem arccosh_sound {m : ℕ} (a : Vec m) (h : ∀ i, 1 < a i) : (ewise1 arccoshRule).SoundAt a :=
  Fn1.soundAt .arccosh a h

/-- `arctanh` with factor `(1 - val²) ** -1`: sound on `|val| < 1` -/
theorem arctanh_sound {m : ℕ} (a : Vec m) (h : ∀ i, |a i| < 1) : (ewise1 arctanhRule).SoundAt a :=
  Fn1.soundAt .arctanh a h

/-- `safe_power(power, zero_val, tol, ·)` (as repaired: factor `power · val ** (power-1)` where the power is
    taken, 0 where `zero_val` is assigned): sound away from `|val| = tol` -/
theorem safe_power_sound {m : ℕ} (p z tol : ℝ) (htol : 0 ≤ tol) (a : Vec m) (h : ∀ i, |a i| ≠ tol) :
    (ewise1 (safePowerRule p z tol)).SoundAt a :=
  Fn1.soundAt (.safePower p z tol) a fun i => ⟨htol, h i⟩

/-- `heaviside_smooth(·, eps)`: `½(1 + 2/π·arctan(val/eps))` with factor `eps/π/(eps² + val²)`, sound everywhere -/
theorem heaviside_smooth_sound {m : ℕ} (eps : ℝ) (he : eps ≠ 0) (a : Vec m) :
    (ewise1 (heavisideSmoothRule eps)).SoundAt a :=
  Fn1.soundAt (.heavisideSmooth eps) a fun _ => he

/-- Every tree built from the vocabulary (the only node kinds the tree auditor finds in the shipped models) is in its
    smooth region at every ADMISSIBLE state, admissibility being a conjunction of explicit (in)equalities on node values:
    nonzero denominators, no tie of a `maximum`, positive base of `a ** b`, nonzero argument of `log`/`abs`/`heaviside`,
    `|argument| ≠ tol`, `|argument| < 1` for arcsin/arccos/arctanh, `> 1` for arccosh, no vanishing cell vector in `l2_norm`. -/
theorem vocab_tree_smooth {n k : ℕ} (t : VTree n k) (x : Vec n) (h : t.Admissible x) : t.toTree.Smooth x :=
  VTree.smooth t x h

/-- HEADLINE without the abstract hypothesis: for every system of vocabulary trees, every admissible state, every
    direction and row, the assembled Jacobian times the direction is the derivative of the assembled residual. -/
theorem vocab_assemble_jac_is_derivative {n E : ℕ} {k : Fin E → ℕ} (eqs : (e : Fin E) → VTree n (k e)) (x : Vec n)
    (h : ∀ e, (eqs e).Admissible x) (δ : Vec n) (r : Row k) :
    HasDerivAt (fun ε : ℝ => residual (fun e => (eqs e).toTree) (x + ε • δ) r)
      ((assembleJac (fun e => (eqs e).toTree) x).mulVec δ r) 0 :=
  assemble_jac_is_derivative (fun e => (eqs e).toTree) x (fun e => VTree.smooth (eqs e) x (h e)) δ r

/-- "Newton's method therefore uses the exact linearization": if `δ` solves the assembled system `A δ = b`
    (`b = -residual`), then along `δ` every residual component decreases at first order exactly at the rate of its own
    size: `d/dε residual(x + ε δ)_r |₀ = -residual(x)_r`. -/
theorem newton_step_exact_linearization {n E : ℕ} {k : Fin E → ℕ} (eqs : (e : Fin E) → Tree n (k e)) (x : Vec n)
    (h : ∀ e, (eqs e).Smooth x) (δ : Vec n) (hδ : (assembleJac eqs x).mulVec δ = assembleRhs eqs x) (r : Row k) :
    HasDerivAt (fun ε : ℝ => residual eqs (x + ε • δ) r) (-(residual eqs x r)) 0 := by
  refine (assemble_jac_is_derivative eqs x h δ r).congr_deriv ?_
  rw [hδ, residual, neg_neg]

/-- `assemble(equations=…, variables=…)`: rows `rows` (equations in storage order, possibly restricted to grids) and
    columns `cols` (dofs of the requested variables) of the full system.  The sliced matrix times a reduced direction
    `η` is the derivative of the selected residual rows along the direction that moves only the selected dofs. -/
theorem assemble_subsystem_jac_is_derivative {n E q p : ℕ} {k : Fin E → ℕ} (eqs : (e : Fin E) → Tree n (k e))
    (x : Vec n) (h : ∀ e, (eqs e).Smooth x) (rows : Fin q → Row k) (cols : Fin p → Fin n) (η : Vec p) (i : Fin q) :
    HasDerivAt (fun ε : ℝ => residual eqs (x + ε • scatter cols η) (rows i))
      (((assembleJac eqs x).submatrix rows cols).mulVec η i) 0 :=
  (assemble_jac_is_derivative eqs x h (scatter cols η) (rows i)).congr_deriv
    (mulVec_scatter _ cols η (rows i))

/-! ## non-vacuity: a concrete two-equation system over three unknowns -/

section example_system

/-- unknowns `x = (p₀, p₁, λ)`; the "pressure" slice -/
def pDofs : Fin 2 → Fin 3 := ![0, 1]
/-- the "interface flux" slice, repeated on both cells -/
def lDofs : Fin 2 → Fin 3 := ![2, 2]

/-- a density-like accumulation term `exp(p) * p - c` on two cells -/
noncomputable def accTree : Tree 3 2 :=
  .bin (ewise2 subRule)
    (.bin (ewise2 mulRule) (.un (ewise1 expRule) (.var pDofs)) (.var pDofs))
    (.const ![1, 2])

/-- a flux-like term `M @ (p * λ)` with a constant discretisation matrix -/
noncomputable def fluxTree : Tree 3 1 :=
  .un (linRule !![1, -1]) (.bin (ewise2 mulRule) (.var pDofs) (.var lDofs))

theorem accTree_smooth (x : Vec 3) : accTree.Smooth x :=
  ⟨⟨⟨trivial, exp_sound _⟩, trivial, mul_sound _ _⟩, trivial, sub_sound _ _⟩

theorem fluxTree_smooth (x : Vec 3) : fluxTree.Smooth x :=
  ⟨⟨trivial, trivial, mul_sound _ _⟩, matmul_sound _ _⟩

/-- the stacked system of the two equations (3 rows) -/
noncomputable def exEqs : (e : Fin 2) → Tree 3 (![2, 1] e)
  | 0 => accTree
  | 1 => fluxTree

theorem exEqs_smooth (x : Vec 3) : ∀ e, (exEqs e).Smooth x
  | 0 => accTree_smooth x
  | 1 => fluxTree_smooth x

/-- the hypotheses of the headline theorem are satisfiable at every state, with every direction and row -/
example (x δ : Vec 3) (r : Row ![2, 1]) :
    HasDerivAt (fun ε : ℝ => -(assembleRhs exEqs (x + ε • δ) r)) ((assembleJac exEqs x).mulVec δ r) 0 :=
  assemble_jac_is_derivative exEqs x (exEqs_smooth x) δ r

/-- and a state where the side conditions of the non-smooth kinds hold: `max(p, λ)` away from ties,
    division by a nonzero `λ` -/
noncomputable def kinkTree : Tree 3 2 :=
  .bin (ewise2 divRule) (.bin (ewise2 maxRule) (.var pDofs) (.var lDofs)) (.var lDofs)

example : kinkTree.Smooth ![0, 2, 1] := by
  refine ⟨⟨trivial, trivial, maximum_sound _ _ ?_⟩, trivial, div_sound _ _ ?_⟩
  · exact Fin.forall_fin_two.mpr ⟨show (0 : ℝ) ≠ 1 by norm_num, show (2 : ℝ) ≠ 1 by norm_num⟩
  · exact Fin.forall_fin_two.mpr ⟨one_ne_zero, one_ne_zero⟩

/-- the contact-mechanics shape `t + max(-t - c·(u - g), 0)` together with `‖·‖` and the open-state
    characteristic function, at a state off all three kinks -/
noncomputable def contactTree : Tree 3 1 :=
  .bin (ewise2 addRule)
    (.bin (ewise2 maxRule) (.un (linRule !![-1, -2, 0]) (.var id)) (.const ![0]))
    (.bin (ewise2 mulRule)
      (.un (ewise1 (charRule (1 / 10))) (.un (linRule !![0, 0, 1]) (.var id)))
      (.un (normRule (cellIdx 1 2)) (.un (linRule !![1, 0, 0; 0, 1, 0]) (.var id))))

example : contactTree.Smooth ![1, 2, 3] := by
  refine ⟨⟨⟨trivial, matmul_sound _ _⟩, trivial, maximum_sound _ _ ?_⟩,
    ⟨⟨⟨trivial, matmul_sound _ _⟩, characteristic_sound _ _ ?_⟩,
     ⟨⟨trivial, matmul_sound _ _⟩, l2_norm_rows_sound 1 2 _ ?_⟩, mul_sound _ _⟩, add_sound _ _⟩
  · intro i; fin_cases i
    norm_num [Tree.val, linRule]
  · intro i; fin_cases i
    norm_num [Tree.val, linRule]
  · intro c; fin_cases c
    norm_num [Tree.val, linRule, Fin.sum_univ_two, cellIdx]

/-- a vocabulary tree with a division, a maximum, a logarithm and a norm; admissibility is a finite list of
    inequalities that `norm_num` decides at a concrete state -/
noncomputable def vocabTree : VTree 3 1 :=
  .op .add
    (.matmul !![1, 1] (.op .div (.op .max (.var pDofs) (.var lDofs)) (.fn .log (.var lDofs))))
    (.norm (cellIdx 1 2) (.var pDofs))

theorem vocabTree_admissible : vocabTree.Admissible ![0, 2, 3] := by
  have hl : Real.log 3 ≠ 0 := (Real.log_pos (by norm_num)).ne'
  -- the side conditions in tree order: `max (0, 2) (3, 3)`, `log (3, 3)`, division by it, `‖(0, 2)‖`
  refine ⟨⟨⟨trivial, trivial, ?_⟩, ⟨trivial, ?_⟩, ?_⟩, ⟨trivial, ?_⟩, fun _ => trivial⟩
  · exact Fin.forall_fin_two.mpr ⟨show (0 : ℝ) ≠ 3 by norm_num, show (2 : ℝ) ≠ 3 by norm_num⟩
  · exact Fin.forall_fin_two.mpr ⟨show (3 : ℝ) ≠ 0 by norm_num, show (3 : ℝ) ≠ 0 by norm_num⟩
  · exact Fin.forall_fin_two.mpr ⟨hl, hl⟩
  · refine Fin.forall_fin_one.mpr ?_
    rw [Fin.sum_univ_two]
    show (0 : ℝ) ^ 2 + 2 ^ 2 ≠ 0
    norm_num

example (δ : Vec 3) (r : Row (fun _ : Fin 1 => 1)) :
    HasDerivAt (fun ε : ℝ => residual (fun _ : Fin 1 => vocabTree.toTree) (![0, 2, 3] + ε • δ) r)
      ((assembleJac (fun _ : Fin 1 => vocabTree.toTree) ![0, 2, 3]).mulVec δ r) 0 :=
  vocab_assemble_jac_is_derivative (k := fun _ : Fin 1 => 1) (fun _ => vocabTree) _ (fun _ => vocabTree_admissible) δ r

/-- sub-system of the example system: any selection of rows, columns of the pressure only -/
example (x : Vec 3) (η : Vec 2) (rows : Fin 2 → Row ![2, 1]) (i : Fin 2) :
    HasDerivAt (fun ε : ℝ => residual exEqs (x + ε • scatter pDofs η) (rows i))
      (((assembleJac exEqs x).submatrix rows pDofs).mulVec η i) 0 :=
  assemble_subsystem_jac_is_derivative exEqs x (exEqs_smooth x) rows pDofs η i

/-- Newton: the hypothesis `A δ = b` is satisfiable (the one-equation linear system `2·x₀ = 0` at `x₀ = 1`, `δ = -1`) -/
noncomputable def linEq : (e : Fin 1) → Tree 1 ((fun _ : Fin 1 => 1) e) :=
  fun _ => .un (linRule !![(2 : ℝ)]) (.var id)

theorem linEq_smooth (x : Vec 1) (e : Fin 1) : (linEq e).Smooth x := ⟨trivial, matmul_sound _ _⟩

example (r : Row (fun _ : Fin 1 => 1)) :
    HasDerivAt (fun ε : ℝ => residual linEq (![1] + ε • ![-1]) r) (-(residual linEq ![1] r)) 0 :=
  newton_step_exact_linearization linEq ![1] (linEq_smooth _) ![-1] (by
    funext r
    obtain ⟨e, i⟩ := r
    simp [assembleJac, assembleRhs, linEq, Tree.jac, Tree.val, linRule, Matrix.mulVec, Matrix.vecMul, dotProduct, selMat]) r

end example_system

end PorepyVerif.C03
