/-
C07 — the model's lists of rationals read as Mathlib matrices and vectors (`toM`, `toV`).  First the
entries and shapes of what each list operation of `Model.lean` answers; then the relations "this list
reads as that matrix / vector / index map" (`IsM`, `IsV`, `Enum`), with one lemma per operation
saying that on lists that read as Mathlib objects it answers a list that reads as the Mathlib
operation on them.
-/
import PorepyVerif.C07.Model
import PorepyVerif.C37.Lemmas
import PorepyVerif.Common.List

namespace PorepyVerif.C07

open Matrix

/-- a list of rows read as an `a × b` Mathlib matrix (missing entries are 0) -/
def toM (a b : Nat) (L : Mat) : Matrix (Fin a) (Fin b) ℚ := fun i j => (L.getD i []).getD j 0
/-- a list read as a vector of length `a` -/
def toV (a : Nat) (v : Vec) : Fin a → ℚ := fun i => v.getD i 0

theorem dot_nil_left (b : Vec) : dot [] b = 0 := rfl
theorem dot_nil_right (a : Vec) : dot a [] = 0 := by cases a <;> rfl

theorem dot_eq_sum (a b : Vec) (n : Nat) (h : a.length ≤ n) :
    dot a b = ∑ k ∈ Finset.range n, a.getD k 0 * b.getD k 0 := by
  induction a generalizing b n with
  | nil => rw [dot_nil_left]; exact (Finset.sum_eq_zero fun k _ => zero_mul _).symm
  | cons x a ih =>
    cases b with
    | nil => rw [dot_nil_right]; exact (Finset.sum_eq_zero fun k _ => mul_zero _).symm
    | cons y b =>
      cases n with
      | zero => exact absurd h (Nat.not_succ_le_zero _)
      | succ n =>
        rw [Finset.sum_range_succ', dot, ih b n (Nat.le_of_succ_le_succ h), add_comm]
        rfl

theorem getD_mulVec (A : Mat) (x : Vec) (i : Nat) :
    (mulVec A x).getD i 0 = dot (A.getD i []) x :=
  Common.getD_map (fun row => dot row x) A i []

theorem getD_row_le {b : Nat} (A : Mat) (h : ∀ row ∈ A, row.length ≤ b) (i : Nat) :
    (A.getD i []).length ≤ b := by
  rw [List.getD_eq_getElem?_getD]
  cases hi : A[i]? with
  | none => simp
  | some row => simpa using h row (List.mem_of_getElem? hi)

theorem toV_mulVec (a b : Nat) (A : Mat) (x : Vec) (h : ∀ row ∈ A, row.length ≤ b) :
    toV a (mulVec A x) = toM a b A *ᵥ toV b x := by
  funext i
  simp only [toV, toM, Matrix.mulVec, dotProduct]
  rw [getD_mulVec, dot_eq_sum _ _ b (getD_row_le A h i), Finset.sum_range]

/-- entries of a `zipWith` of lists of equal length, read with a default that `f` preserves
    (`vsub` on vectors, `msub` on rows) -/
theorem getD_zipWith {α : Type} (f : α → α → α) (d : α) (hd : f d d = d) (a b : List α)
    (h : a.length = b.length) (i : Nat) :
    (List.zipWith f a b).getD i d = f (a.getD i d) (b.getD i d) := by
  simp only [List.getD_eq_getElem?_getD, List.getElem?_zipWith]
  by_cases hi : i < a.length
  · rw [List.getElem?_eq_getElem hi, List.getElem?_eq_getElem (h ▸ hi)]; rfl
  · rw [List.getElem?_eq_none (not_lt.mp hi), List.getElem?_eq_none (h ▸ not_lt.mp hi)]
    exact hd.symm

theorem getD_vsub (a b : Vec) (h : a.length = b.length) (i : Nat) :
    (vsub a b).getD i 0 = a.getD i 0 - b.getD i 0 :=
  getD_zipWith (· - ·) 0 (sub_zero 0) a b h i

theorem toV_vsub (n : Nat) (a b : Vec) (h : a.length = b.length) :
    toV n (vsub a b) = toV n a - toV n b := by
  funext i; simp only [toV, Pi.sub_apply]; exact getD_vsub a b h i

theorem length_mulVec (A : Mat) (x : Vec) : (mulVec A x).length = A.length := by simp [mulVec]
theorem length_pick (v : Vec) (idx : List Nat) : (pick v idx).length = idx.length := by simp [pick]
theorem length_msub (A B : Mat) (h : A.length = B.length) : (msub A B).length = A.length := by
  simp [msub, h]

/-- `L` has `a` rows, all of length `c` -/
def Shape (a c : Nat) (L : Mat) : Prop := L.length = a ∧ ∀ row ∈ L, row.length = c

theorem shape_le {a c : Nat} {L : Mat} (h : Shape a c L) : ∀ row ∈ L, row.length ≤ c :=
  fun row hr => le_of_eq (h.2 row hr)

theorem shape_length_getD {a c : Nat} {L : Mat} (h : Shape a c L) (i : Nat) :
    (L.getD i []).length = if i < a then c else 0 := by
  rw [List.getD_eq_getElem?_getD, ← h.1]
  split
  · rename_i hi; rw [List.getElem?_eq_getElem hi]; exact h.2 _ (List.getElem_mem hi)
  · rename_i hi; rw [List.getElem?_eq_none (not_lt.mp hi)]; rfl

theorem shape_pick (A : Mat) (rows cols : List Nat) (a c : Nat) (ha : rows.length = a)
    (hc : cols.length = c) : Shape a c (pickCols (pickRows A rows) cols) := by
  subst ha hc
  refine ⟨by rw [pickCols, pickRows, List.length_map, List.length_map], fun row h => ?_⟩
  obtain ⟨r0, _, rfl⟩ := List.mem_map.mp h
  exact length_pick r0 cols

theorem shape_matMul (A B : Mat) (a c : Nat) (h : A.length = a) : Shape a c (matMul A B c) := by
  refine ⟨by rw [matMul, List.length_map, h], fun row hr => ?_⟩
  obtain ⟨r0, _, rfl⟩ := List.mem_map.mp hr
  rw [List.length_map, transpose, List.length_map, List.length_range]

theorem getD_map_getElem? {α β : Type} (f : α → β) (l : List α) (i : Nat) (d : β) :
    (l.map f).getD i d = (l[i]?.map f).getD d := by
  simp [List.getD_eq_getElem?_getD]

theorem getD_matMul (A B : Mat) (c i j : Nat) (hj : j < c) :
    ((matMul A B c).getD i []).getD j 0 = dot (A.getD i []) (B.map (fun row => row.getD j 0)) := by
  rw [matMul, getD_map_getElem?, List.getD_eq_getElem?_getD (l := A)]
  cases A[i]? with
  | none => exact (dot_nil_left _).symm
  | some row =>
    rw [Option.map_some, Option.getD_some, Option.getD_some, getD_map_getElem?, transpose,
      List.getElem?_map, List.getElem?_range hj]
    rfl

theorem getD_map_getD (B : Mat) (j k : Nat) :
    (B.map (fun row => row.getD j 0)).getD k 0 = (B.getD k []).getD j 0 :=
  Common.getD_map (fun row => row.getD j 0) B k []

theorem toM_pick (J : Mat) (rows cols : List Nat) (a b : Nat) (ha : rows.length = a)
    (hb : cols.length = b) (i : Fin a) (j : Fin b) :
    toM a b (pickCols (pickRows J rows) cols) i j
      = (J.getD (rows.getD i 0) []).getD (cols.getD j 0) 0 := by
  subst ha hb
  rw [toM, pickCols, pickRows, List.map_map, Common.getD_map_of_lt _ i.2 _ 0, Function.comp, pick,
    Common.getD_map_of_lt _ j.2 _ 0]

theorem toV_pick (r : Vec) (rows : List Nat) (a : Nat) (ha : rows.length = a) (i : Fin a) :
    toV a (pick r rows) i = r.getD (rows.getD i 0) 0 := by
  subst ha
  rw [toV, pick, Common.getD_map_of_lt _ i.2 _ 0]

/-- the list of rows `L` is `a × b` and reads as the matrix `M` -/
def IsM (a b : Nat) (L : Mat) (M : Matrix (Fin a) (Fin b) ℚ) : Prop := Shape a b L ∧ toM a b L = M

/-- the list `v` has length `a` and reads as the vector `x` -/
def IsV (a : Nat) (v : Vec) (x : Fin a → ℚ) : Prop := v.length = a ∧ toV a v = x

/-- `f` enumerates the index list `l`: position `i` of the list holds the index `f i` -/
def Enum {a n : Nat} (f : Fin a → Fin n) (l : List Nat) : Prop :=
  l.length = a ∧ ∀ i, (f i : Nat) = l.getD i 0

section Reads
variable {a b c nr nc : Nat}

theorem Enum.getElem? {f : Fin a → Fin nr} {l : List Nat} (h : Enum f l) (i : Fin a) :
    l[(i : Nat)]? = some (f i : Nat) := by
  rw [h.2, List.getD_eq_getElem?_getD, List.getElem?_eq_getElem (h.1 ▸ i.2)]; rfl

/-- a picked block is the submatrix at the listed rows and columns -/
theorem IsM.pick (J : Mat) {rows cols : List Nat} {f : Fin a → Fin nr} {g : Fin b → Fin nc}
    (hf : Enum f rows) (hg : Enum g cols) :
    IsM a b (pickCols (pickRows J rows) cols) ((toM nr nc J).submatrix f g) := by
  refine ⟨shape_pick J rows cols a b hf.1 hg.1, ?_⟩
  ext i j
  rw [toM_pick J rows cols a b hf.1 hg.1, ← hf.2, ← hg.2]
  rfl

theorem IsV.pick (r : Vec) {rows : List Nat} {f : Fin a → Fin nr} (hf : Enum f rows) :
    IsV a (pick r rows) (toV nr r ∘ f) := by
  refine ⟨(length_pick r rows).trans hf.1, ?_⟩
  funext i
  rw [toV_pick r rows a hf.1, ← hf.2]
  rfl

theorem IsM.mulVec {A : Mat} {x : Vec} {M : Matrix (Fin a) (Fin b) ℚ} {v : Fin b → ℚ}
    (hA : IsM a b A M) (hx : toV b x = v) : IsV a (mulVec A x) (M *ᵥ v) :=
  ⟨(length_mulVec A x).trans hA.1.1, by rw [toV_mulVec a b A x (shape_le hA.1), hA.2, hx]⟩

theorem IsV.vsub {u v : Vec} {x y : Fin a → ℚ} (hu : IsV a u x) (hv : IsV a v y) :
    IsV a (vsub u v) (x - y) :=
  ⟨by rw [C07.vsub, List.length_zipWith, hu.1, hv.1, min_self],
    by rw [toV_vsub a u v (hu.1.trans hv.1.symm), hu.2, hv.2]⟩

theorem IsM.matMul {A B : Mat} {M : Matrix (Fin a) (Fin b) ℚ} {N : Matrix (Fin b) (Fin c) ℚ}
    (hA : IsM a b A M) (hB : toM b c B = N) : IsM a c (matMul A B c) (M * N) := by
  refine ⟨shape_matMul A B a c hA.1.1, ?_⟩
  rw [← hA.2, ← hB]
  ext i j
  simp only [toM, Matrix.mul_apply]
  rw [getD_matMul A B c i j j.2, dot_eq_sum _ _ b (getD_row_le A (shape_le hA.1) i),
    Finset.sum_range]
  simp only [getD_map_getD]

theorem IsM.msub {A B : Mat} {M N : Matrix (Fin a) (Fin c) ℚ} (hA : IsM a c A M)
    (hB : IsM a c B N) : toM a c (msub A B) = M - N := by
  rw [← hA.2, ← hB.2]
  ext i j
  rw [Matrix.sub_apply, toM, C07.msub, getD_zipWith C07.vsub [] rfl A B (hA.1.1.trans hB.1.1.symm),
    getD_vsub _ _ ((shape_length_getD hA.1 i).trans (shape_length_getD hB.1 i).symm)]
  rfl

/-- whenever the Gauss–Jordan elimination shared with C37 answers, its answer reads as the Mathlib
    inverse (C37 proves it a left inverse) -/
theorem inverse_isM {A B : Mat} (ha : A.length = a) (h : C37.inverse A = some B) :
    IsM a a B (toM a a A)⁻¹ ∧ IsUnit (toM a a A).det := by
  subst ha
  obtain ⟨hrows, _, _, _⟩ := C37.inverse_some A B h
  obtain ⟨hBl, hBr⟩ := C37.inverse_length A B h
  have hBA : toM A.length A.length B * toM A.length A.length A = 1 :=
    C37.toMatrix_mul_of_matMul A.length A B rfl hrows hBl hBr (C37.inverse_left A B h)
  exact ⟨⟨⟨hBl, hBr⟩, (Matrix.inv_eq_left_inv hBA).symm⟩, Matrix.isUnit_det_of_left_inverse hBA⟩

/-- … so it is a two-sided inverse -/
theorem inverse_toM (A B : Mat) (a : Nat) (ha : A.length = a) (h : C37.inverse A = some B) :
    toM a a A * toM a a B = 1 ∧ toM a a B * toM a a A = 1 := by
  obtain ⟨hI, hU⟩ := inverse_isM ha h
  rw [hI.2]
  exact ⟨mul_nonsing_inv _ hU, nonsing_inv_mul _ hU⟩

/-- the model's reduced system is the Schur complement system of what its blocks read as -/
theorem reduced_isM {bl : Blocks} {inv : Mat} {pl pc ns : Nat}
    {App : Matrix (Fin pl) (Fin pc) ℚ} {Aps : Matrix (Fin pl) (Fin ns) ℚ}
    {Asp : Matrix (Fin ns) (Fin pc) ℚ} {Inv : Matrix (Fin ns) (Fin ns) ℚ} {bp : Fin pl → ℚ}
    {bs : Fin ns → ℚ}
    (hApp : IsM pl pc bl.App App) (hAps : IsM pl ns bl.Aps Aps) (hAsp : toM ns pc bl.Asp = Asp)
    (hinv : toM ns ns inv = Inv) (hbp : IsV pl bl.bp bp) (hbs : toV ns bl.bs = bs) :
    toM pl pc (reduced bl inv pc ns).1 = App - Aps * Inv * Asp ∧
      IsV pl (reduced bl inv pc ns).2 (bp - (Aps * Inv) *ᵥ bs) :=
  ⟨hApp.msub ((hAps.matMul hinv).matMul hAsp), hbp.vsub ((hAps.matMul hinv).mulVec hbs)⟩

theorem reduced_toM (b : Blocks) (inv : Mat) (pl pc ns : Nat)
    (shApp : Shape pl pc b.App) (shAps : Shape pl ns b.Aps) (lbp : b.bp.length = pl) :
    toM pl pc (reduced b inv pc ns).1
        = toM pl pc b.App - toM pl ns b.Aps * toM ns ns inv * toM ns pc b.Asp ∧
      toV pl (reduced b inv pc ns).2
        = toV pl b.bp - (toM pl ns b.Aps * toM ns ns inv) *ᵥ toV ns b.bs :=
  (reduced_isM ⟨shApp, rfl⟩ ⟨shAps, rfl⟩ rfl rfl ⟨lbp, rfl⟩ rfl).imp_right And.right

end Reads

/-- the exact solve of a square system answers a solution of it -/
theorem solveReduced_solves {S : Mat} {rhs xp : Vec} {np : Nat}
    (h : solveReduced S rhs np = some xp) :
    xp.length = np ∧ toM S.length np S *ᵥ toV np xp = toV S.length rhs := by
  unfold solveReduced at h
  split at h
  · cases h
  rename_i hsq
  split at h
  · cases h
  rename_i Sinv hSinv
  cases h
  obtain rfl : S.length = np := by simpa using hsq
  obtain ⟨hI, hU⟩ := inverse_isM rfl hSinv
  obtain ⟨lx, hx⟩ := hI.mulVec (x := rhs) rfl
  exact ⟨lx, by rw [hx, mulVec_mulVec, mul_nonsing_inv _ hU, one_mulVec]⟩

end PorepyVerif.C07
