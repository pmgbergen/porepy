/-
C07 — lemmas about the row / column bookkeeping of `Model.lean` (partitions, sorting, scattering)
and the equations of its option-valued functions.  The lists of rationals read as Mathlib matrices
are in `Bridge.lean`.
-/
import PorepyVerif.C07.Model
import Mathlib.Data.List.Perm.Basic
import Mathlib.Data.List.Range
import Mathlib.Data.List.Nodup
import PorepyVerif.Common.Except
import PorepyVerif.Common.InsSort

namespace PorepyVerif.C07

/-- appending rearranged pieces: used to combine per-equation partitions -/
theorem perm_interleave {a p b x c s r1 r2 : List Nat}
    (h1 : (a ++ (b ++ c)).Perm r1) (h2 : (p ++ (x ++ s)).Perm r2) :
    ((a ++ p) ++ ((b ++ x) ++ (c ++ s))).Perm (r1 ++ r2) := by
  refine List.Perm.trans ?_ (h1.append h2)
  simp only [List.perm_iff_count, List.count_append]
  omega

/-- a selection without repeated keys, followed by the elements whose key was not selected, is the
    whole list (keys: the entries themselves for rows, `Block.idx` for columns) -/
theorem key_partition {α : Type} (k : α → Nat) (all sel : List α) (ha : (all.map k).Nodup)
    (hs : (sel.map k).Nodup) (hsub : sel ⊆ all) :
    (sel ++ all.filter (fun x => decide (k x ∉ sel.map k))).Perm all := by
  have h1 : sel.Perm (all.filter (fun x => decide (k x ∈ sel.map k))) := by
    rw [List.perm_ext_iff_of_nodup (List.Nodup.of_map _ hs) ((List.Nodup.of_map _ ha).filter _)]
    intro x
    simp only [List.mem_filter, decide_eq_true_eq, List.mem_map]
    constructor
    · exact fun h => ⟨hsub h, x, h, rfl⟩
    · rintro ⟨hx, y, hy, he⟩
      exact List.inj_on_of_nodup_map ha (hsub hy) hx he ▸ hy
  simp only [decide_not]
  exact (h1.append_right _).trans (List.filter_append_perm _ all)

theorem complementIdx_perm {m : Nat} {idx : List Nat} (hn : idx.Nodup) (hsub : idx ⊆ List.range m) :
    (idx ++ complementIdx m idx).Perm (List.range m) := by
  simpa [complementIdx] using
    key_partition id (List.range m) idx (by simpa using List.nodup_range) (by simpa using hn) hsub

theorem map_add_range (off m : Nat) : (List.range m).map (· + off) = List.range' off m := by
  rw [List.range'_eq_map_range]
  apply List.map_congr_left
  intro a _
  omega

theorem selectIdx_sublist (gs : List Nat) (e : EqLayout) (off : Nat) :
    (selectIdx gs (blocksFrom off e)).Sublist (List.range' off (eqSize e)) := by
  induction e generalizing off with
  | nil => simp [blocksFrom, selectIdx, eqSize]
  | cons b rest ih =>
    obtain ⟨g, s⟩ := b
    simp only [blocksFrom, selectIdx, eqSize]
    rw [← List.range'_append_1]
    split
    · exact List.Sublist.append (List.Sublist.refl _) (ih _)
    · exact (ih _).trans (List.sublist_append_right _ _)

theorem localSel_nodup (e : EqLayout) (gs : List Nat) : (localSel e gs).Nodup :=
  (selectIdx_sublist gs e 0).nodup (List.nodup_range' (s := 0) (n := eqSize e))

theorem localSel_subset (e : EqLayout) (gs : List Nat) : localSel e gs ⊆ List.range (eqSize e) := by
  have := (selectIdx_sublist gs e 0).subset
  rw [List.range_eq_range']
  exact this

/-- one grid-restricted equation: requested rows + excluded rows = the equation's rows -/
theorem eq_rows_partition (e : EqLayout) (gs : List Nat) (off : Nat) :
    ((localSel e gs).map (· + off) ++ (complementIdx (eqSize e) (localSel e gs)).map (· + off)).Perm
      (List.range' off (eqSize e)) := by
  rw [← List.map_append, ← map_add_range]
  exact (complementIdx_perm (localSel_nodup e gs) (localSel_subset e gs)).map _

/-- the three row lists of the model partition the rows of the equations they were built from -/
theorem rows_partition_aux (req : EqReq) (eqs : List EqLayout) (k off : Nat) :
    (primRows req k off eqs ++ (exclRows req k off eqs ++ secEqRows req k off eqs)).Perm
      (List.range' off (totalRows eqs)) := by
  induction eqs generalizing k off with
  | nil => simp [primRows, exclRows, secEqRows, totalRows]
  | cons e rest ih =>
    simp only [primRows, exclRows, secEqRows, totalRows]
    rw [← List.range'_append_1]
    apply perm_interleave _ (ih (k + 1) (off + eqSize e))
    cases req.sel k with
    | no => simp
    | all => simp
    | grids gs => simpa using eq_rows_partition e gs off

theorem insSort : Common.InsSort (· ≤ ·) insertSorted isort :=
  .of_ite Nat.le_trans Nat.le_of_not_le (fun _ => rfl) (fun _ _ _ => rfl) rfl (fun _ _ => rfl)

theorem isort_perm (l : List Nat) : (isort l).Perm l := insSort.perm l

theorem dofsOf_eq_flatMap (l : List Block) : dofsOf l = l.flatMap Block.dofs := by
  induction l with
  | nil => rfl
  | cons b l ih => rw [dofsOf, ih, List.flatMap_cons]

theorem dofsOf_append (l1 l2 : List Block) : dofsOf (l1 ++ l2) = dofsOf l1 ++ dofsOf l2 := by
  simp only [dofsOf_eq_flatMap, List.flatMap_append]

theorem dofsOf_perm {l1 l2 : List Block} (h : l1.Perm l2) : (dofsOf l1).Perm (dofsOf l2) := by
  simpa only [dofsOf_eq_flatMap] using h.flatMap_right Block.dofs

theorem dofsOf_varBlocks (vars : List Var) (j off : Nat) :
    dofsOf (varBlocks j off vars) = List.range' off (totalDofs vars) := by
  induction vars generalizing j off with
  | nil => simp [varBlocks, dofsOf, totalDofs]
  | cons v rest ih =>
    simp only [varBlocks, dofsOf, totalDofs]
    rw [ih, List.range'_append_1]

theorem idx_varBlocks (vars : List Var) (j off : Nat) :
    (varBlocks j off vars).map (·.idx) = List.range' j vars.length := by
  induction vars generalizing j off with
  | nil => simp [varBlocks]
  | cons v rest ih =>
    simp only [varBlocks, List.map_cons, List.length_cons]
    rw [ih, List.range'_succ]

theorem parseVars_subset (blocks : List Block) (items : List VarItem) :
    parseVars blocks items ⊆ blocks := by
  induction items with
  | nil => simp [parseVars]
  | cons it rest ih =>
    simp only [parseVars]
    intro b hb
    rcases List.mem_append.mp hb with h | h
    · exact (List.mem_filter.mp h).1
    · exact ih h

/-- a duplicate-free selection of blocks plus the blocks that were not selected = all blocks -/
theorem blocks_partition (blocks active : List Block) (hb : (blocks.map (·.idx)).Nodup)
    (ha : (active.map (·.idx)).Nodup) (hsub : active ⊆ blocks) :
    (active ++ secBlocks blocks active).Perm blocks :=
  key_partition Block.idx blocks active hb ha hsub

theorem scatterAt_cons (i : Nat) (is : List Nat) (v : Rat) (vs : List Rat) (j : Nat) :
    scatterAt (i :: is) (v :: vs) j = (if i = j then v else 0) + scatterAt is vs j := rfl

theorem scatterAt_not_mem (idx : List Nat) (vals : List Rat) (j : Nat) (h : j ∉ idx) :
    scatterAt idx vals j = 0 := by
  induction idx generalizing vals with
  | nil => cases vals <;> rfl
  | cons i is ih =>
    cases vals with
    | nil => rfl
    | cons v vs =>
      rw [scatterAt_cons, if_neg (fun e : i = j => h (e ▸ List.mem_cons_self)),
        ih vs (fun hm => h (List.mem_cons_of_mem _ hm)), Rat.add_zero]

theorem scatterAt_get (idx : List Nat) (vals : List Rat) (i j : Nat) (hn : idx.Nodup)
    (hlen : vals.length = idx.length) (hj : idx[i]? = some j) :
    some (scatterAt idx vals j) = vals[i]? := by
  induction idx generalizing vals i with
  | nil => cases hj
  | cons a is ih =>
    cases vals with
    | nil => cases hlen
    | cons v vs =>
      have hn' := List.nodup_cons.mp hn
      cases i with
      | zero =>
        cases hj
        rw [scatterAt_cons, if_pos rfl, scatterAt_not_mem is vs j hn'.1, Rat.add_zero]; rfl
      | succ i =>
        have hne : a ≠ j := fun e => hn'.1 (e ▸ List.mem_of_getElem? hj)
        rw [scatterAt_cons, if_neg hne, Rat.zero_add]
        exact ih vs i hn'.2 (Nat.succ.inj hlen) hj

theorem getElem?_expand {n j : Nat} (hj : j < n) (pcols scols : List Nat) (xp xs : List Rat) :
    (expand n pcols scols xp xs)[j]? = some (scatterAt pcols xp j + scatterAt scols xs j) := by
  rw [expand, List.getElem?_map, List.getElem?_range hj]; rfl

theorem length_reduced (J : Mat) (r : Vec) (prows srows pcols scols : List Nat) (inv : Mat) (np ns : Nat) :
    (reduced (blocksOf J r prows srows pcols scols) inv np ns).1.length = prows.length := by
  simp only [reduced, msub, matMul, blocksOf, pickCols, pickRows, List.length_zipWith,
    List.length_map, min_self]

/-- what a successful assembly answers -/
theorem assembleSplit_eq_some {J : Mat} {r : Vec} {n : Nat} {prows srows pcols scols : List Nat}
    {sp : SplitResult} (h : assembleSplit J r n prows srows pcols scols = some sp) :
    srows.length = scols.length ∧ ∃ inv,
      C37.inverse (blocksOf J r prows srows pcols scols).Ass = some inv ∧
      sp = ⟨(reduced (blocksOf J r prows srows pcols scols) inv pcols.length scols.length).1,
        (reduced (blocksOf J r prows srows pcols scols) inv pcols.length scols.length).2,
        ⟨inv, (blocksOf J r prows srows pcols scols).bs, (blocksOf J r prows srows pcols scols).Asp,
          pcols, scols, n⟩⟩ := by
  unfold assembleSplit at h
  split at h
  · cases h
  rename_i hsq
  simp only at h
  split at h
  · cases h
  rename_i inv hinv
  exact ⟨by simpa using hsq, inv, hinv, (Option.some.inj h).symm⟩

/-- every guard of `splitLists` answers an error, so a successful call answers the model's lists -/
theorem splitLists_ok (eqs : List EqLayout) (vars : List Var) (req : EqReq) (items : List VarItem)
    (l : List Nat × List Nat × List Nat × List Nat) (h : splitLists eqs vars req items = .ok l) :
    l = (primRows req 0 0 eqs, secRows req eqs, primCols (parseVars (varBlocks 0 0 vars) items),
      secCols (varBlocks 0 0 vars) (parseVars (varBlocks 0 0 vars) items)) := by
  unfold splitLists at h
  iterate 7 replace h := (Common.ite_error_eq_ok.1 h).2
  exact (Except.ok.inj h).symm

/-- solve-and-expand answers a vector in one branch only: something is stored, and its reduced system
    was solved -/
theorem expandSolve_eq_vec {eqs : List EqLayout} {vars : List Var} {st : MState} {X : Vec}
    (h : (mstep eqs vars st .expandSolve).2 = .vec X) :
    ∃ s S rhs xp, st.stored = some (some s) ∧ st.last = some (S, rhs) ∧
      solveReduced S rhs s.pcols.length = some xp ∧ X = expandStored s xp := by
  simp only [mstep] at h
  split at h
  · cases h
  · cases h
  · cases h
  · rename_i s S rhs hs hl
    split at h
    · cases h
    · rename_i xp hxp
      exact ⟨s, S, rhs, xp, hs, hl, hxp, (MOut.vec.inj h).symm⟩

end PorepyVerif.C07
