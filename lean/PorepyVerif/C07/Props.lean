/-
C07 — property theorems.

Property: for any choice of primary equations (optionally restricted to grids) and primary variables
whose complementary block is square and invertible, solving the reduced (Schur complement) system and
expanding the result gives the same increment as solving the full linearised system.

Part (a): the algebra, with Mathlib matrices over any commutative ring `K` (in particular any field),
for arbitrary finite index types — the primary block need not be square, the inverse `Ainv` is
whatever the inverter returned (only the side of the inverse identity that is needed is assumed).
Part (b): the bookkeeping of `Model.lean` (transcribed from `assemble_schur_complement_system` /
`expand_schur_complement_solution`): the row lists and the column lists are partitions, they give
the bijections part (a) is stated with, and `expand` puts the partial solutions at those indices.
Then the two are put together: whenever the model's exact arithmetic (`schurSolve`) answers, the answer
solves the full system, and the same holds after every history of calls on one instance (`mstep`).
-/
import PorepyVerif.C07.Lemmas
import PorepyVerif.C07.Bridge
import Mathlib.LinearAlgebra.Matrix.SchurComplement

namespace PorepyVerif.C07

open Matrix

/-! ## (a) algebra -/

section Algebra

variable {K : Type*} [CommRing K]
variable {p q s t : Type*} [Fintype q] [Fintype s] [Fintype t]

/-- the primary block row, with the secondary unknowns eliminated, is the reduced system -/
theorem primary_row_eq (App : Matrix p q K) (Aps : Matrix p t K) (Asp : Matrix s q K)
    (Ainv : Matrix t s K) (bs : s → K) (xp : q → K) :
    App *ᵥ xp + Aps *ᵥ (Ainv *ᵥ (bs - Asp *ᵥ xp))
      = (App - Aps * Ainv * Asp) *ᵥ xp + (Aps * Ainv) *ᵥ bs := by
  simp only [sub_mulVec, ← mulVec_mulVec, mulVec_sub]
  abel

/-- `schur_expand_solves`: if `x_p` solves the reduced system `S x_p = b_p − A_ps A_ss⁻¹ b_s` with
    `S = A_pp − A_ps A_ss⁻¹ A_sp`, then `(x_p, x_s)` with `x_s = A_ss⁻¹ (b_s − A_sp x_p)` solves the
    full 2×2 block system.  `Ainv` only has to be a right inverse of `A_ss`. -/
theorem schur_expand_solves [DecidableEq s]
    (App : Matrix p q K) (Aps : Matrix p t K) (Asp : Matrix s q K) (Ass : Matrix s t K)
    (Ainv : Matrix t s K) (bp : p → K) (bs : s → K) (xp : q → K)
    (hR : Ass * Ainv = 1)
    (hS : (App - Aps * Ainv * Asp) *ᵥ xp = bp - (Aps * Ainv) *ᵥ bs) :
    fromBlocks App Aps Asp Ass *ᵥ Sum.elim xp (Ainv *ᵥ (bs - Asp *ᵥ xp)) = Sum.elim bp bs := by
  rw [fromBlocks_mulVec, Sum.elim_comp_inl, Sum.elim_comp_inr, primary_row_eq, hS, sub_add_cancel,
    mulVec_mulVec, hR, one_mulVec, add_sub_cancel]

/-- Converse: every solution `(x_p, x_s)` of the full system solves the reduced system, and its
    secondary part is the one `expand` computes.  `Ainv` only has to be a left inverse of `A_ss`. -/
theorem schur_reduced_of_full [DecidableEq t]
    (App : Matrix p q K) (Aps : Matrix p t K) (Asp : Matrix s q K) (Ass : Matrix s t K)
    (Ainv : Matrix t s K) (bp : p → K) (bs : s → K) (xp : q → K) (xs : t → K)
    (hL : Ainv * Ass = 1)
    (h : fromBlocks App Aps Asp Ass *ᵥ Sum.elim xp xs = Sum.elim bp bs) :
    (App - Aps * Ainv * Asp) *ᵥ xp = bp - (Aps * Ainv) *ᵥ bs ∧ xs = Ainv *ᵥ (bs - Asp *ᵥ xp) := by
  rw [fromBlocks_mulVec, Sum.elim_eq_iff, Sum.elim_comp_inl, Sum.elim_comp_inr] at h
  have hx : xs = Ainv *ᵥ (bs - Asp *ᵥ xp) := by
    rw [← h.2, add_sub_cancel_left, mulVec_mulVec, hL, one_mulVec]
  refine ⟨eq_sub_of_add_eq ?_, hx⟩
  rw [← primary_row_eq, ← hx, h.1]

/-- The statement for the code's situation: `A x = b` is the full system, `er` / `ec` say which row
    (column) of it is the `i`-th primary or secondary row (column) — i.e. the row order of the blocks
    `A_p`, `A_s` and the prolongations `P_pᵀ`, `P_sᵀ`.  The vector `P_pᵀ x_p + P_sᵀ x_s` that
    `expand_schur_complement_solution` returns solves the full system. -/
theorem schur_expand_solves_full [DecidableEq s] {r c : Type*} [Fintype c]
    (A : Matrix r c K) (b : r → K) (er : p ⊕ s ≃ r) (ec : q ⊕ t ≃ c)
    (Ainv : Matrix t s K) (xp : q → K)
    (hR : A.submatrix (er ∘ Sum.inr) (ec ∘ Sum.inr) * Ainv = 1)
    (hS : (A.submatrix (er ∘ Sum.inl) (ec ∘ Sum.inl)
            - A.submatrix (er ∘ Sum.inl) (ec ∘ Sum.inr) * Ainv
              * A.submatrix (er ∘ Sum.inr) (ec ∘ Sum.inl)) *ᵥ xp
          = b ∘ er ∘ Sum.inl
            - (A.submatrix (er ∘ Sum.inl) (ec ∘ Sum.inr) * Ainv) *ᵥ (b ∘ er ∘ Sum.inr)) :
    A *ᵥ (Sum.elim xp (Ainv *ᵥ (b ∘ er ∘ Sum.inr
            - A.submatrix (er ∘ Sum.inr) (ec ∘ Sum.inl) *ᵥ xp)) ∘ ec.symm) = b := by
  -- rows and columns renumbered by `er`, `ec`, the system is the block system of `schur_expand_solves`
  refine er.surjective.injective_comp_right (?_ : _ ∘ er = b ∘ er)
  rw [← submatrix_mulVec_equiv, ← fromBlocks_toBlocks (A.submatrix er ec),
    ← Sum.elim_comp_inl_inr (b ∘ er)]
  exact schur_expand_solves _ _ _ _ Ainv _ _ xp hR hS

end Algebra

section Square

variable {K : Type*} [CommRing K]
variable {p s : Type*} [Fintype p] [Fintype s] [DecidableEq p] [DecidableEq s]

omit [Fintype p] [DecidableEq p] in
/-- `schur_expand_solves` with the nonsingular inverse of a square secondary block. -/
theorem schur_expand_solves_inv {q : Type*} [Fintype q]
    (App : Matrix p q K) (Aps : Matrix p s K) (Asp : Matrix s q K) (Ass : Matrix s s K)
    (bp : p → K) (bs : s → K) (xp : q → K) (hs : IsUnit Ass.det)
    (hS : (App - Aps * Ass⁻¹ * Asp) *ᵥ xp = bp - (Aps * Ass⁻¹) *ᵥ bs) :
    fromBlocks App Aps Asp Ass *ᵥ Sum.elim xp (Ass⁻¹ *ᵥ (bs - Asp *ᵥ xp)) = Sum.elim bp bs :=
  schur_expand_solves App Aps Asp Ass Ass⁻¹ bp bs xp (mul_nonsing_inv _ hs) hS

/-- With an invertible Jacobian and an invertible secondary block the Schur complement is
    invertible: the reduced system has exactly one solution. -/
theorem schur_complement_isUnit
    (App : Matrix p p K) (Aps : Matrix p s K) (Asp : Matrix s p K) (Ass : Matrix s s K)
    (hs : IsUnit Ass.det) (hA : IsUnit (fromBlocks App Aps Asp Ass).det) :
    IsUnit (App - Aps * Ass⁻¹ * Asp).det := by
  let _ := invertibleOfIsUnitDet Ass hs
  rw [det_fromBlocks₂₂, invOf_eq_nonsing_inv] at hA
  exact (IsUnit.mul_iff.mp hA).2

theorem eq_inv_mulVec {A : Matrix p p K} {x b : p → K} (hA : IsUnit A.det) (h : A *ᵥ x = b) :
    x = A⁻¹ *ᵥ b := by
  rw [← h, mulVec_mulVec, nonsing_inv_mul _ hA, one_mulVec]

/-- The increments coincide: the expanded solution of the reduced system IS the solution
    `A⁻¹ b` of the full system. -/
theorem schur_increment_eq_full_solve
    (App : Matrix p p K) (Aps : Matrix p s K) (Asp : Matrix s p K) (Ass : Matrix s s K)
    (bp : p → K) (bs : s → K) (xp : p → K)
    (hs : IsUnit Ass.det) (hA : IsUnit (fromBlocks App Aps Asp Ass).det)
    (hS : (App - Aps * Ass⁻¹ * Asp) *ᵥ xp = bp - (Aps * Ass⁻¹) *ᵥ bs) :
    Sum.elim xp (Ass⁻¹ *ᵥ (bs - Asp *ᵥ xp)) = (fromBlocks App Aps Asp Ass)⁻¹ *ᵥ Sum.elim bp bs :=
  eq_inv_mulVec hA (schur_expand_solves_inv App Aps Asp Ass bp bs xp hs hS)

/-- … and the reduced solution itself is `S⁻¹ (b_p − A_ps A_ss⁻¹ b_s)`. -/
theorem schur_reduced_solution_unique
    (App : Matrix p p K) (Aps : Matrix p s K) (Asp : Matrix s p K) (Ass : Matrix s s K)
    (bp : p → K) (bs : s → K) (xp : p → K)
    (hs : IsUnit Ass.det) (hA : IsUnit (fromBlocks App Aps Asp Ass).det)
    (hS : (App - Aps * Ass⁻¹ * Asp) *ᵥ xp = bp - (Aps * Ass⁻¹) *ᵥ bs) :
    xp = (App - Aps * Ass⁻¹ * Asp)⁻¹ *ᵥ (bp - (Aps * Ass⁻¹) *ᵥ bs) :=
  eq_inv_mulVec (schur_complement_isUnit App Aps Asp Ass hs hA) hS

end Square

section Inverter

variable {K : Type*} [CommRing K]

/-- default inverter, step 3 ("undo the permutations"): if `B` is a right inverse of the permuted
    matrix `A[row_perm, :][:, col_perm]`, then `B` un-permuted is a right inverse of `A`. -/
theorem permuted_inverse {m n m' n' : Type*} [Fintype n] [Fintype n'] [DecidableEq m]
    [DecidableEq m']
    (A : Matrix m n K) (σ : m' ≃ m) (τ : n' ≃ n) (B : Matrix n' m' K)
    (hB : A.submatrix σ τ * B = 1) : A * B.submatrix τ.symm σ.symm = 1 := by
  have : A = (A.submatrix σ τ).submatrix σ.symm τ.symm := by simp
  rw [this, submatrix_mul_equiv, hB, submatrix_one_equiv]

/-- default inverter, step 2: a block-diagonal matrix (blocks of arbitrary, different sizes) is
    inverted block by block. -/
theorem block_diagonal_inverse {o : Type*} [Fintype o] [DecidableEq o] {m' n' : o → Type*}
    [∀ k, Fintype (m' k)] [∀ k, Fintype (n' k)] [∀ k, DecidableEq (m' k)]
    (M : ∀ k, Matrix (m' k) (n' k) K) (N : ∀ k, Matrix (n' k) (m' k) K)
    (h : ∀ k, M k * N k = 1) :
    blockDiagonal' M * blockDiagonal' N = 1 := by
  rw [← blockDiagonal'_mul]
  simp only [h]
  exact blockDiagonal'_one

/-- The default inverter as a whole: if the permutations bring `A` to block-diagonal form and every
    block is inverted, the un-permuted block inverse is a right inverse of `A` — which is all
    `schur_expand_solves_full` needs. -/
theorem default_inverter_correct {m n o : Type*} [Fintype n] [DecidableEq m] [Fintype o]
    [DecidableEq o] {m' n' : o → Type*} [∀ k, Fintype (m' k)] [∀ k, Fintype (n' k)]
    [∀ k, DecidableEq (m' k)]
    (A : Matrix m n K) (σ : (Σ k, m' k) ≃ m) (τ : (Σ k, n' k) ≃ n)
    (M : ∀ k, Matrix (m' k) (n' k) K) (N : ∀ k, Matrix (n' k) (m' k) K)
    (hperm : A.submatrix σ τ = blockDiagonal' M) (h : ∀ k, M k * N k = 1) :
    A * (blockDiagonal' N).submatrix τ.symm σ.symm = 1 :=
  permuted_inverse A σ τ _ (by rw [hperm]; exact block_diagonal_inverse M N h)

end Inverter

/-! ### non-vacuity of part (a): a concrete 2×2 system over ℚ

`[[3,1],[2,2]] (x_p, x_s) = (5, 4)`: `S = 2`, `rhs_S = 3`, `x_p = 3/2`, `x_s = 1/2`. -/
example :
    let App : Matrix (Fin 1) (Fin 1) ℚ := !![3]
    let Aps : Matrix (Fin 1) (Fin 1) ℚ := !![1]
    let Asp : Matrix (Fin 1) (Fin 1) ℚ := !![2]
    let Ass : Matrix (Fin 1) (Fin 1) ℚ := !![2]
    let Ainv : Matrix (Fin 1) (Fin 1) ℚ := !![1 / 2]
    Ass * Ainv = 1 ∧ Ainv * Ass = 1 ∧ IsUnit Ass.det ∧ IsUnit (fromBlocks App Aps Asp Ass).det ∧
      (App - Aps * Ainv * Asp) *ᵥ ![3 / 2] = ![5] - (Aps * Ainv) *ᵥ ![4] ∧
      Ainv *ᵥ (![4] - Asp *ᵥ ![3 / 2]) = ![1 / 2] := by
  intro App Aps Asp Ass Ainv
  have hR : Ass * Ainv = 1 := by decide +kernel
  let _ : Invertible Ass := invertibleOfRightInverse Ass Ainv hR
  refine ⟨hR, mul_eq_one_comm.mp hR, isUnit_det_of_invertible Ass, ?_, by decide +kernel,
    by decide +kernel⟩
  -- `det A = det A_ss * det S`, both 1×1
  rw [det_fromBlocks₂₂, invOf_eq_right_inv hR, det_unique, det_unique]
  exact isUnit_iff_ne_zero.mpr (by decide +kernel)

/-! ## (b) bookkeeping -/

/-- `row_split_is_partition`: for EVERY equation layout and EVERY request (names or grid-restricted
    dict, also empty / unknown / repeated entries), the rows of the primary block followed by the
    rows of the secondary block (excluded primary rows first, then the secondary equations) are a
    permutation of all rows of the full system: the two sets are disjoint and cover every row. -/
theorem row_split_is_partition (req : EqReq) (eqs : List EqLayout) :
    (primRows req 0 0 eqs ++ secRows req eqs).Perm (List.range (totalRows eqs)) := by
  rw [List.range_eq_range']
  exact rows_partition_aux req eqs 0 0

/-- the same, spelled out: no row twice, and a row number occurs iff it is a row of the system -/
theorem row_split_disjoint_cover (req : EqReq) (eqs : List EqLayout) :
    (primRows req 0 0 eqs ++ secRows req eqs).Nodup ∧
      (∀ i, i ∈ primRows req 0 0 eqs ++ secRows req eqs ↔ i < totalRows eqs) ∧
      (primRows req 0 0 eqs).length + (secRows req eqs).length = totalRows eqs := by
  have h := row_split_is_partition req eqs
  refine ⟨h.nodup_iff.mpr List.nodup_range, fun i => ?_, ?_⟩
  · rw [h.mem_iff, List.mem_range]
  · simpa using h.length_eq

/-- `col_split_is_partition`: if the parsed list of primary variables names no variable twice
    (`_parse_variable_type` does not uniquify), primary and secondary columns — each sorted, as
    `projection_to` does — are a permutation of all dofs. -/
theorem col_split_is_partition (vars : List Var) (items : List VarItem)
    (hnd : ((parseVars (varBlocks 0 0 vars) items).map (·.idx)).Nodup) :
    (primCols (parseVars (varBlocks 0 0 vars) items)
      ++ secCols (varBlocks 0 0 vars) (parseVars (varBlocks 0 0 vars) items)).Perm
      (List.range (totalDofs vars)) := by
  have hb : ((varBlocks 0 0 vars).map (·.idx)).Nodup := by
    rw [idx_varBlocks]; exact List.nodup_range' (s := 0) (n := vars.length)
  have h := blocks_partition _ _ hb hnd (parseVars_subset _ items)
  have h2 := dofsOf_perm h
  rw [dofsOf_append, dofsOf_varBlocks, ← List.range_eq_range'] at h2
  exact ((isort_perm _).append (isort_perm _)).trans h2

/-- A split into two index lists that together are a permutation of `0..n-1` is exactly a bijection
    `primary positions ⊕ secondary positions ≃ rows` — the `er` / `ec` of
    `schur_expand_solves_full` — sending position `i` of a block to the listed index. -/
theorem split_gives_equiv (p s : List Nat) (n : Nat) (h : (p ++ s).Perm (List.range n)) :
    ∃ e : Fin p.length ⊕ Fin s.length ≃ Fin n,
      (∀ i : Fin p.length, (e (Sum.inl i) : Nat) = p[i]) ∧
      (∀ j : Fin s.length, (e (Sum.inr j) : Nat) = s[j]) := by
  have hlt : ∀ x ∈ p ++ s, x < n := fun x hx => List.mem_range.mp (h.subset hx)
  obtain ⟨hp, hs, hd⟩ := List.nodup_append.mp (h.nodup_iff.mpr List.nodup_range)
  let f : Fin p.length ⊕ Fin s.length → Fin n :=
    Sum.elim (fun i => ⟨p.get i, hlt _ (List.mem_append_left _ (p.get_mem i))⟩)
      (fun j => ⟨s.get j, hlt _ (List.mem_append_right _ (s.get_mem j))⟩)
  have hinj : Function.Injective f := by
    rintro (a | a) (b | b) hab
    · exact congrArg Sum.inl (hp.get_inj_iff.mp (Fin.mk.inj hab))
    · exact absurd (Fin.mk.inj hab) (hd _ (p.get_mem a) _ (s.get_mem b))
    · exact absurd (Fin.mk.inj hab).symm (hd _ (p.get_mem b) _ (s.get_mem a))
    · exact congrArg Sum.inr (hs.get_inj_iff.mp (Fin.mk.inj hab))
  have hcard : Fintype.card (Fin p.length ⊕ Fin s.length) = Fintype.card (Fin n) := by
    rw [Fintype.card_sum, Fintype.card_fin, Fintype.card_fin, Fintype.card_fin, ← List.length_append,
      h.length_eq, List.length_range]
  exact ⟨Equiv.ofBijective f ((Fintype.bijective_iff_injective_and_card f).mpr ⟨hinj, hcard⟩),
    fun _ => rfl, fun _ => rfl⟩

/-- `expand_places`: `X = P_pᵀ x_p + P_sᵀ x_s` has `x_p[i]` at dof `pcols[i]`, `x_s[i]` at dof
    `scols[i]`, and length `num_dofs`. -/
theorem expand_places (n : Nat) (pcols scols : List Nat) (xp xs : List Rat)
    (h : (pcols ++ scols).Perm (List.range n))
    (hp : xp.length = pcols.length) (hs : xs.length = scols.length) :
    (expand n pcols scols xp xs).length = n ∧
      (∀ i j : Nat, pcols[i]? = some j → (expand n pcols scols xp xs)[j]? = xp[i]?) ∧
      (∀ i j : Nat, scols[i]? = some j → (expand n pcols scols xp xs)[j]? = xs[i]?) := by
  obtain ⟨hpn, hsn, hd⟩ := List.nodup_append.mp (h.nodup_iff.mpr List.nodup_range)
  have hlt : ∀ x ∈ pcols ++ scols, x < n := fun x hx => List.mem_range.mp (h.subset hx)
  refine ⟨by simp [expand], fun i j hj => ?_, fun i j hj => ?_⟩
  · have hm : j ∈ pcols := List.mem_of_getElem? hj
    rw [getElem?_expand (hlt j (List.mem_append_left _ hm)),
      scatterAt_not_mem scols xs j (fun hm' => hd j hm j hm' rfl), add_zero]
    exact scatterAt_get pcols xp i j hpn hp hj
  · have hm : j ∈ scols := List.mem_of_getElem? hj
    rw [getElem?_expand (hlt j (List.mem_append_right _ hm)),
      scatterAt_not_mem pcols xp j (fun hm' => hd j hm' j hm rfl), zero_add]
    exact scatterAt_get scols xs i j hsn hs hj

/-- End to end: for every layout, every equation request and every duplicate-free variable request, the
    model's row lists and column lists ARE bijections `er`, `ec` (position `i` of a block ↦ the listed
    row / dof), and for every full system `A x = b` of that shape, every right inverse `Ainv` of the
    secondary block and every solution `x_p` of the reduced system, the expanded vector solves
    `A x = b`. -/
theorem model_split_solves {K : Type*} [CommRing K] (req : EqReq) (eqs : List EqLayout)
    (vars : List Var) (items : List VarItem)
    (hnd : ((parseVars (varBlocks 0 0 vars) items).map (·.idx)).Nodup) :
    ∃ (er : Fin (primRows req 0 0 eqs).length ⊕ Fin (secRows req eqs).length ≃ Fin (totalRows eqs))
      (ec : Fin (primCols (parseVars (varBlocks 0 0 vars) items)).length
            ⊕ Fin (secCols (varBlocks 0 0 vars) (parseVars (varBlocks 0 0 vars) items)).length
          ≃ Fin (totalDofs vars)),
      (∀ i, (er (Sum.inl i) : Nat) = (primRows req 0 0 eqs)[i]) ∧
      (∀ i, (er (Sum.inr i) : Nat) = (secRows req eqs)[i]) ∧
      (∀ i, (ec (Sum.inl i) : Nat) = (primCols (parseVars (varBlocks 0 0 vars) items))[i]) ∧
      (∀ i, (ec (Sum.inr i) : Nat)
        = (secCols (varBlocks 0 0 vars) (parseVars (varBlocks 0 0 vars) items))[i]) ∧
      ∀ (A : Matrix (Fin (totalRows eqs)) (Fin (totalDofs vars)) K) (b : Fin (totalRows eqs) → K)
        (Ainv : Matrix _ _ K) (xp : _ → K),
        A.submatrix (er ∘ Sum.inr) (ec ∘ Sum.inr) * Ainv = 1 →
        (A.submatrix (er ∘ Sum.inl) (ec ∘ Sum.inl)
            - A.submatrix (er ∘ Sum.inl) (ec ∘ Sum.inr) * Ainv
              * A.submatrix (er ∘ Sum.inr) (ec ∘ Sum.inl)) *ᵥ xp
          = b ∘ er ∘ Sum.inl
            - (A.submatrix (er ∘ Sum.inl) (ec ∘ Sum.inr) * Ainv) *ᵥ (b ∘ er ∘ Sum.inr) →
        A *ᵥ (Sum.elim xp (Ainv *ᵥ (b ∘ er ∘ Sum.inr
            - A.submatrix (er ∘ Sum.inr) (ec ∘ Sum.inl) *ᵥ xp)) ∘ ec.symm) = b := by
  obtain ⟨er, h1, h2⟩ := split_gives_equiv _ _ _ (row_split_is_partition req eqs)
  obtain ⟨ec, h3, h4⟩ := split_gives_equiv _ _ _ (col_split_is_partition vars items hnd)
  exact ⟨er, ec, h1, h2, h3, h4, fun A b Ainv xp hR hS =>
    schur_expand_solves_full A b er ec Ainv xp hR hS⟩

/-! ### the model's arithmetic solves the full system (no run-time hypothesis)

`toM a b L` / `toV a v` read a list of rows / a list as an `a × b` Mathlib matrix / a vector over ℚ;
`IsM`, `IsV`, `Enum` (Bridge.lean) say which matrix, vector or index map a list reads as, and every
list operation of the model is the Mathlib operation on what its arguments read as.
The inverses are computed by `C37.inverse` (exact Gauss–Jordan), which is proved in C37's lemmas to
return a left inverse whenever it returns anything; `inverse_isM` reads its answer as the Mathlib
inverse. -/

/-- `split_gives_equiv` for lists whose lengths are given, in the form in which `toM` and `toV` read
    lists -/
theorem split_enum {a b n : Nat} (p s : List Nat) (hp : p.length = a) (hs : s.length = b)
    (h : (p ++ s).Perm (List.range n)) :
    ∃ e : Fin a ⊕ Fin b ≃ Fin n, Enum (e ∘ Sum.inl) p ∧ Enum (e ∘ Sum.inr) s := by
  subst hp hs
  obtain ⟨e, h1, h2⟩ := split_gives_equiv p s n h
  exact ⟨e, ⟨rfl, fun i => by simp [h1 i]⟩, ⟨rfl, fun j => by simp [h2 j]⟩⟩

theorem IsV.expand {a b n : Nat} {pcols scols : List Nat} {xp xs : Vec} {u : Fin a → ℚ}
    {w : Fin b → ℚ} (ec : Fin a ⊕ Fin b ≃ Fin n) (hp : Enum (ec ∘ Sum.inl) pcols)
    (hs : Enum (ec ∘ Sum.inr) scols) (h : (pcols ++ scols).Perm (List.range n))
    (hxp : IsV a xp u) (hxs : IsV b xs w) :
    toV n (expand n pcols scols xp xs) = Sum.elim u w ∘ ec.symm := by
  obtain ⟨_, hP, hS⟩ := expand_places n pcols scols xp xs h (hxp.1.trans hp.1.symm)
    (hxs.1.trans hs.1.symm)
  funext c
  obtain ⟨y, rfl⟩ := ec.surjective c
  rw [Function.comp_apply, Equiv.symm_apply_apply, toV, List.getD_eq_getElem?_getD]
  rcases y with i | j
  · rw [hP i (ec (Sum.inl i)) (hp.getElem? i), ← List.getD_eq_getElem?_getD]; exact congrFun hxp.2 i
  · rw [hS j (ec (Sum.inr j)) (hs.getElem? j), ← List.getD_eq_getElem?_getD]; exact congrFun hxs.2 j

/-- `expand_schur_complement_solution` on stored data that read as `Inv`, `Asp`, `bs` -/
theorem IsV.expandStored {a b : Nat} {s : Stored} {xp : Vec} {u : Fin a → ℚ}
    {Inv : Matrix (Fin b) (Fin b) ℚ} {Asp : Matrix (Fin b) (Fin a) ℚ} {bs : Fin b → ℚ}
    (ec : Fin a ⊕ Fin b ≃ Fin s.n) (hp : Enum (ec ∘ Sum.inl) s.pcols)
    (hs : Enum (ec ∘ Sum.inr) s.scols) (h : (s.pcols ++ s.scols).Perm (List.range s.n))
    (hinv : IsM b b s.inv Inv) (hAsp : IsM b a s.Asp Asp) (hbs : IsV b s.bs bs)
    (hxp : IsV a xp u) :
    toV s.n (expandStored s xp) = Sum.elim u (Inv *ᵥ (bs - Asp *ᵥ u)) ∘ ec.symm :=
  IsV.expand ec hp hs h hxp (hinv.mulVec (hbs.vsub (hAsp.mulVec hxp.2)).2)

/-- The arithmetic of `expand_schur_complement_solution` on what a successful assembly stored: ANY `xp`
    of the right length that solves the reduced system, expanded, solves the full system. -/
theorem assembled_expand_solves {J : Mat} {r : Vec} {nr nc : Nat} {prows srows pcols scols : List Nat}
    {sp : SplitResult} (hrow : (prows ++ srows).Perm (List.range nr))
    (hcol : (pcols ++ scols).Perm (List.range nc))
    (h : assembleSplit J r nc prows srows pcols scols = some sp) (xp : Vec)
    (lxp : xp.length = pcols.length)
    (hS : toM sp.S.length pcols.length sp.S *ᵥ toV pcols.length xp = toV sp.S.length sp.rhs) :
    toM nr nc J *ᵥ toV nc (expandStored sp.stored xp) = toV nr r := by
  obtain ⟨hs, inv, hinv, rfl⟩ := assembleSplit_eq_some h
  rw [length_reduced] at hS
  obtain ⟨er, hep, hes⟩ := split_enum prows srows rfl hs hrow
  obtain ⟨ec, hcp, hcs⟩ := split_enum pcols scols rfl rfl hcol
  -- the blocks read as the sub-matrices of the full system at `er`, `ec`
  have hSP := IsM.pick J hes hcp
  have hbS := IsV.pick r hes
  obtain ⟨hI, hU⟩ := inverse_isM (IsM.pick J hes hcs).1.1 hinv
  rw [(IsM.pick J hes hcs).2] at hI hU
  obtain ⟨mS, -, mrhs⟩ := reduced_isM (bl := blocksOf J r prows srows pcols scols) (inv := inv)
    (IsM.pick J hep hcp) (IsM.pick J hep hcs) hSP.2 hI.2 (IsV.pick r hep) hbS.2
  refine (congrArg (toM nr nc J *ᵥ ·) (IsV.expandStored (s := ⟨inv, _, _, pcols, scols, nc⟩) ec hcp
    hcs hcol hI hSP hbS ⟨lxp, rfl⟩)).trans ?_
  exact schur_expand_solves_full (toM nr nc J) (toV nr r) er ec _ (toV _ xp) (mul_nonsing_inv _ hU)
    (by rw [← mS, ← mrhs]; exact hS)

/-- `schurSolve_solves_full`: whenever the model answers — i.e. both exact eliminations succeed —
    the expanded vector solves the full system `J X = r`.  No invertibility hypothesis, no
    run-time certificate: only that the row lists and the column lists are partitions (which
    `row_split_is_partition` / `col_split_is_partition` prove for the lists of the model). -/
theorem schurSolve_solves_full (J : Mat) (r : Vec) (nr nc : Nat)
    (prows srows pcols scols : List Nat) (X : Vec)
    (hrow : (prows ++ srows).Perm (List.range nr)) (hcol : (pcols ++ scols).Perm (List.range nc))
    (h : schurSolve J r nc prows srows pcols scols = some X) :
    toM nr nc J *ᵥ toV nc X = toV nr r := by
  unfold schurSolve at h
  split at h
  · cases h
  rename_i sp hsp
  split at h
  · cases h
  rename_i xp hxp
  cases h
  exact (solveReduced_solves hxp).elim (assembled_expand_solves hrow hcol hsp xp)

/-- … and if the full Jacobian is square and invertible, the model's answer IS the full solve
    `J⁻¹ r`: the increments coincide. -/
theorem schurSolve_eq_full_solve (J : Mat) (r : Vec) (n : Nat)
    (prows srows pcols scols : List Nat) (X : Vec)
    (hrow : (prows ++ srows).Perm (List.range n)) (hcol : (pcols ++ scols).Perm (List.range n))
    (hJ : IsUnit (toM n n J).det)
    (h : schurSolve J r n prows srows pcols scols = some X) :
    toV n X = (toM n n J)⁻¹ *ᵥ toV n r :=
  eq_inv_mulVec hJ (schurSolve_solves_full J r n n prows srows pcols scols X hrow hcol h)

/-- The reduced system the model answers IS the Schur complement system: whenever `assembleSplit`
    answers, the secondary block is square and invertible (as a Mathlib matrix), the stored
    inverse is its inverse, and `S = A_pp − A_ps A_ss⁻¹ A_sp`, `rhs_S = b_p − A_ps A_ss⁻¹ b_s`. -/
theorem assembleSplit_reduced (J : Mat) (r : Vec) (n : Nat) (prows srows pcols scols : List Nat)
    (sp : SplitResult) (h : assembleSplit J r n prows srows pcols scols = some sp) :
    srows.length = scols.length ∧
    IsUnit (toM scols.length scols.length (blocksOf J r prows srows pcols scols).Ass).det ∧
    toM scols.length scols.length sp.stored.inv
      = (toM scols.length scols.length (blocksOf J r prows srows pcols scols).Ass)⁻¹ ∧
    toM prows.length pcols.length sp.S
      = toM prows.length pcols.length (blocksOf J r prows srows pcols scols).App
        - toM prows.length scols.length (blocksOf J r prows srows pcols scols).Aps
          * (toM scols.length scols.length (blocksOf J r prows srows pcols scols).Ass)⁻¹
          * toM scols.length pcols.length (blocksOf J r prows srows pcols scols).Asp ∧
    toV prows.length sp.rhs
      = toV prows.length (blocksOf J r prows srows pcols scols).bp
        - (toM prows.length scols.length (blocksOf J r prows srows pcols scols).Aps
            * (toM scols.length scols.length (blocksOf J r prows srows pcols scols).Ass)⁻¹)
          *ᵥ toV scols.length (blocksOf J r prows srows pcols scols).bs := by
  obtain ⟨hs, inv, hinv, rfl⟩ := assembleSplit_eq_some h
  obtain ⟨hI, hU⟩ := inverse_isM (shape_pick J srows scols _ _ hs rfl).1 hinv
  obtain ⟨mS, -, mrhs⟩ := reduced_isM (bl := blocksOf J r prows srows pcols scols) (inv := inv)
    ⟨shape_pick J prows pcols _ _ rfl rfl, rfl⟩ ⟨shape_pick J prows scols _ _ rfl rfl, rfl⟩ rfl hI.2
    ⟨length_pick r prows, rfl⟩ rfl
  exact ⟨hs, hU, hI.2, mS, mrhs⟩

/-- End to end on the model's own bookkeeping: for every layout, every equation request and every
    duplicate-free variable request, whenever the model answers a solution for a full system `J, r`,
    that solution solves `J X = r`. -/
theorem model_schurSolve_solves_full (req : EqReq) (eqs : List EqLayout) (vars : List Var)
    (items : List VarItem) (J : Mat) (r X : Vec)
    (hnd : ((parseVars (varBlocks 0 0 vars) items).map (·.idx)).Nodup)
    (h : schurSolve J r (totalDofs vars) (primRows req 0 0 eqs) (secRows req eqs)
        (primCols (parseVars (varBlocks 0 0 vars) items))
        (secCols (varBlocks 0 0 vars) (parseVars (varBlocks 0 0 vars) items)) = some X) :
    toM (totalRows eqs) (totalDofs vars) J *ᵥ toV (totalDofs vars) X = toV (totalRows eqs) r :=
  schurSolve_solves_full J r _ _ _ _ _ _ X (row_split_is_partition req eqs)
    (col_split_is_partition vars items hnd) h

/-- non-vacuity: the model answers on the 2×2 system of part (a), with the answer computed there -/
example : schurSolve [[3, 1], [2, 2]] [5, 4] 2 [0] [1] [0] [1] = some [3 / 2, 1 / 2] := by
  decide +kernel

/-! ### histories of calls on one instance -/

/-- decidable input condition on one call: a split names no variable twice -/
def opOK (vars : List Var) : MOp → Prop
  | .split _ items _ => ((parseVars (varBlocks 0 0 vars) items).map (·.idx)).Nodup
  | _ => True

/-- invariant of the instance: whatever is stored was assembled, by the model's `assembleSplit`, from the
    ghost system `sysAt` with row / column lists that are partitions -/
def StoredInv (eqs : List EqLayout) (vars : List Var) (st : MState) : Prop :=
  ∀ s S rhs, st.stored = some (some s) → st.last = some (S, rhs) →
    ∃ prows srows, (prows ++ srows).Perm (List.range (totalRows eqs)) ∧
      (s.pcols ++ s.scols).Perm (List.range (totalDofs vars)) ∧
      assembleSplit st.sysAt.1 st.sysAt.2 (totalDofs vars) prows srows s.pcols s.scols
        = some ⟨S, rhs, s⟩

theorem storedInv_step (eqs : List EqLayout) (vars : List Var) (st : MState) (op : MOp)
    (hinv : StoredInv eqs vars st) (hop : opOK vars op) :
    StoredInv eqs vars (mstep eqs vars st op).1 := by
  cases op with
  | setSystem J r => exact hinv
  | expandSolve | expand x =>
    -- these calls answer from the state and leave it as it is, in every branch
    simp only [mstep]
    repeat' split
    all_goals exact hinv
  | split req items sys =>
    simp only [mstep]
    split
    · exact hinv
    · rename_i prows srows pcols scols hl
      cases splitLists_ok eqs vars req items _ hl
      split
      · intro s S rhs h1 _
        simp at h1
      · rename_i sp hsp
        intro s S rhs h1 h2
        cases h1
        cases h2
        obtain ⟨_, inv, _, rfl⟩ := assembleSplit_eq_some hsp
        exact ⟨primRows req 0 0 eqs, secRows req eqs, row_split_is_partition req eqs,
          col_split_is_partition vars items hop, hsp⟩

theorem storedInv_run (eqs : List EqLayout) (vars : List Var) (ops : List MOp) (st : MState)
    (hinv : StoredInv eqs vars st) (hok : ∀ op ∈ ops, opOK vars op) :
    StoredInv eqs vars (mrun eqs vars st ops) := by
  induction ops generalizing st with
  | nil => exact hinv
  | cons op ops ih =>
    exact ih _ (storedInv_step eqs vars st op hinv (hok op List.mem_cons_self))
      (fun o ho => hok o (List.mem_cons_of_mem _ ho))

/-- `history_expand_solves`: for EVERY history of calls on one instance (new iterates, splits of any
    kind with or without `state` argument, failing splits, expansions), whatever "solve the reduced
    system of the last successful assembly and expand" answers solves the full system that assembly
    was made from — the stored Schur data is never mixed with another state or another split. -/
theorem history_expand_solves (eqs : List EqLayout) (vars : List Var) (ops : List MOp)
    (hok : ∀ op ∈ ops, opOK vars op) (X : Vec)
    (h : (mstep eqs vars (mrun eqs vars MState.init ops) .expandSolve).2 = .vec X) :
    toM (totalRows eqs) (totalDofs vars) (mrun eqs vars MState.init ops).sysAt.1
        *ᵥ toV (totalDofs vars) X
      = toV (totalRows eqs) (mrun eqs vars MState.init ops).sysAt.2 := by
  have hinv : StoredInv eqs vars (mrun eqs vars MState.init ops) :=
    storedInv_run eqs vars ops _ (by intro s S rhs h1 _; simp [MState.init] at h1) hok
  obtain ⟨s, S, rhs, xp, hs, hl, hxp, rfl⟩ := expandSolve_eq_vec h
  obtain ⟨prows, srows, hrow, hcol, hasm⟩ := hinv s S rhs hs hl
  exact (solveReduced_solves hxp).elim
    (assembled_expand_solves (sp := ⟨S, rhs, s⟩) hrow hcol hasm xp)

/-- error branches: a failing `assemble_schur_complement_system` changes nothing of `MState`, i.e.
    `_Schur_complement` stays.  (`assembled_equation_indices`, which the code overwrites before
    `sps.vstack` or the squareness assertion can raise, is not part of `MState`.) -/
theorem failed_split_keeps_state (eqs : List EqLayout) (vars : List Var) (st : MState)
    (req : EqReq) (items : List VarItem) (sys : Option (Mat × Vec)) (e : SplitErr)
    (h : (mstep eqs vars st (.split req items sys)).2 = .splitErr e) :
    (mstep eqs vars st (.split req items sys)).1 = st := by
  simp only [mstep] at h ⊢
  split
  · rfl
  · rename_i hl
    simp only [hl] at h
    split at h <;> simp at h

/-- non-vacuity: assemble (e0; v0) on `[[3,1],[2,2]] x = (5,4)`, then a failing request (unknown
    equation), then a new iterate with another system: solve-and-expand still answers the solution
    of the system the stored data was assembled from. -/
example :
    let eqs : List EqLayout := [[(0, 1)], [(0, 1)]]
    let vars : List Var := [⟨0, 0, 1⟩, ⟨1, 0, 1⟩]
    let ops : List MOp := [.setSystem [[3, 1], [2, 2]] [5, 4], .split (.names [0]) [⟨0, none⟩] none,
      .split (.names [7]) [⟨0, none⟩] none, .setSystem [[1, 0], [0, 1]] [0, 0]]
    (mstep eqs vars (mrun eqs vars MState.init ops) .expandSolve).2 = .vec [3 / 2, 1 / 2] ∧
      (mrun eqs vars MState.init ops).sysAt = ([[3, 1], [2, 2]], [5, 4]) ∧
      (mstep eqs vars (mrun eqs vars MState.init ops) (.split (.names [7]) [⟨0, none⟩] none)).2
        = .splitErr .valueError := by
  decide +kernel

/-! ### non-vacuity of part (b)

Three equations: `e0` on grids 0,1 (2 + 3 rows), `e1` on grid 0 (2 rows), `e2` on grids 1,2 (3 + 1
rows).  Request `{e2: [2, 1], e0: [1]}`: primary rows are `e0`'s rows on grid 1 and all of `e2`
(in md order, whatever the order in the request); `e0`'s rows on grid 0 are excluded primary rows and
come first in the secondary block, followed by `e1`. -/
example :
    let eqs : List EqLayout := [[(0, 2), (1, 3)], [(0, 2)], [(1, 3), (2, 1)]]
    let req := EqReq.restricted [(2, [2, 1]), (0, [1])]
    primRows req 0 0 eqs = [2, 3, 4, 7, 8, 9, 10] ∧ secRows req eqs = [0, 1, 5, 6] ∧
      totalRows eqs = 11 := by decide +kernel

/-- variables in dof order `a@0 b@0 a@1 b@1 c@2`, request `["b", a on grid 1]` -/
example :
    let vars : List Var := [⟨0, 0, 2⟩, ⟨1, 0, 2⟩, ⟨0, 1, 3⟩, ⟨1, 1, 3⟩, ⟨2, 2, 1⟩]
    let active := parseVars (varBlocks 0 0 vars) [⟨1, none⟩, ⟨0, some [1]⟩]
    (active.map (·.idx)).Nodup ∧ primCols active = [2, 3, 4, 5, 6, 7, 8, 9] ∧
      secCols (varBlocks 0 0 vars) active = [0, 1, 10] := by decide +kernel

example : expand 5 [1, 3] [0, 2, 4] [10, 30] [0, 20, 40] = [0, 10, 20, 30, 40] := by decide +kernel

end PorepyVerif.C07
