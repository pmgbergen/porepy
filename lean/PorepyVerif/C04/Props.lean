/-
C04 — property theorems (statements only depend on Model.lean; helper lemmas in Lemmas.lean).

Property: for the mass balance and the energy balance on any fractured domain with closed
boundaries and no external sources, the sum of the balance-equation residuals over all cells of
all subdomains equals the total rate of change of the accumulated quantity, for every state:
inter-cell and interface fluxes cancel exactly.

The model (`residual`) is `balance_equation` as coded:
  r_i = (acc_i − acc_i^prev)/dt + D_i (F_i + Σ_{j : prim j = i} B_j P_pm,j λ_j)
        − (Σ_{j : sec j = i} P_sm,j λ_j + src_i)
for an ARBITRARY number of subdomains and an arbitrary list of interface fluxes.
-/
import PorepyVerif.C04.Lemmas

namespace PorepyVerif.C04

/-- General discrete balance (no hypothesis on the data, only that couplings refer to existing
    subdomains): the sum of all residuals is the accumulation rate, minus external sources, plus
    what the own fluxes carry through boundary faces, plus what every interface flux creates or
    destroys between leaving its primary and entering its secondary. -/
theorem total_residual_balance (g : MDG) (hv : ValidIdx g) :
    totalResidual g
      = totalAccRate g - totalSrc g + boundaryOutflow g + sumL g.cps (netCoupling g) := by
  have shuffle : ∀ a o p s r : Rat, a + (o + p) - (s + r) = a - r + o + (p - s) := by grind
  unfold totalResidual totalAccRate totalSrc boundaryOutflow
  rw [sumTo_congr (fun i _ => residual_total g i), sumTo_sub, sumTo_add, sumTo_add, sumTo_add,
    sum_over_subdomains _ _ (fun cp => cp.prim) _ (fun cp h => (hv cp h).1),
    sum_over_subdomains _ _ (fun cp => cp.sec) _ (fun cp h => (hv cp h).2),
    shuffle, ← sumL_sub, sumL_congr (fun cp _ => (netCoupling_eq g cp).symm)]

/-- With a Neumann-consistent boundary discretisation, what one interface flux creates is what its
    mortar cells hand to the primary faces minus what they hand to the secondary cells; only the
    column sums of the two integrated projections enter. -/
theorem netCoupling_of_consistent (g : MDG) (cp : Coupling) (hb : NeumannConsistent g cp) :
    netCoupling g cp
      = sumTo cp.nm (fun m => colSum (g.sd cp.prim).nf cp.Ppm m * cp.lam m)
        - sumTo cp.nm (fun m => colSum (g.sd cp.sec).nc cp.Psm m * cp.lam m) := by
  have hp : sumTo (g.sd cp.prim).nf
        (fun f' => gain (g.sd cp.prim) cp.B f' * mulVec cp.nm cp.Ppm cp.lam f')
      = sumTo (g.sd cp.prim).nf (mulVec cp.nm cp.Ppm cp.lam) := by
    apply sumTo_congr
    intro f hf
    by_cases ht : Target cp f
    · rw [hb f hf ht, Rat.one_mul]
    · -- a face that is no target receives nothing
      have hz : mulVec cp.nm cp.Ppm cp.lam f = 0 :=
        sumTo_eq_zero (fun m hm => by
          rw [Classical.byContradiction (fun hne => ht ⟨m, hm, hne⟩), Rat.zero_mul])
      rw [hz, Rat.mul_zero]
  rw [netCoupling_eq, hp, sum_mulVec, sum_mulVec]

/-- One interface flux neither creates nor destroys anything: under (H2) and Neumann consistency
    of the primary's boundary discretisation, what leaves the primary enters the secondary. -/
theorem coupling_cancels (g : MDG) (cp : Coupling) (h2 : H2 g cp) (hb : NeumannConsistent g cp) :
    netCoupling g cp = 0 := by
  rw [netCoupling_of_consistent g cp hb, sumTo_congr (fun m hm => by rw [h2.1 m hm, ← h2.2 m hm])]
  exact Rat.sub_self

/-- **C04** (headline).  On ANY md-grid (any number of subdomains, any list of interface fluxes),
    if (H2) the integrated mortar projections have unit column sums, the boundary discretisation
    hands Neumann data on fracture faces completely to the neighbouring cell, and (H4) the boundary
    is closed, then  Σ_i 1ᵀ r_i = Σ_i 1ᵀ Δacc_i/dt − Σ_i 1ᵀ src_i  for EVERY state. -/
theorem total_residual_eq_total_accumulation (g : MDG) (hv : ValidIdx g)
    (h2 : ∀ cp, cp ∈ g.cps → H2 g cp)
    (hb : ∀ cp, cp ∈ g.cps → NeumannConsistent g cp)
    (h4 : ∀ i, i < g.nsd → ClosedBoundary (g.sd i)) :
    totalResidual g = totalAccRate g - totalSrc g := by
  have hn : sumL g.cps (netCoupling g) = 0 :=
    (sumL_congr (fun cp hcp => coupling_cancels g cp (h2 cp hcp) (hb cp hcp))).trans (sumL_zero _)
  have ho : boundaryOutflow g = 0 :=
    sumTo_eq_zero (fun i hi => sumTo_mul_eq_zero (h4 i hi))
  rw [total_residual_balance g hv, hn, ho, Rat.add_zero, Rat.add_zero]

/-- under (H1) the column sum of a boundary face squares to one -/
theorem colSum_mul_self {s : Subdomain} (h1 : H1 s) {f : Nat} (hf : f < s.nf)
    (hne : colSum s.nc s.D f ≠ 0) : colSum s.nc s.D f * colSum s.nc s.D f = 1 := by
  rcases h1 f hf with h | h | h
  · exact absurd h hne
  · rw [h, Rat.mul_one]
  · rw [h, Rat.neg_mul, Rat.mul_neg, Rat.neg_neg, Rat.mul_one]

/-- The upwind Neumann matrix as coded (`diag(sgn_div[neumann_ind])`) is Neumann consistent on
    fracture faces whenever (H1) holds: `sgn_div²  = 1` on boundary faces. -/
theorem upwind_neumann_consistent (g : MDG) (cp : Coupling) (neu : Nat → Bool)
    (h1 : H1 (g.sd cp.prim)) (hu : UpwindCoded g cp neu) : NeumannConsistent g cp := by
  intro f hf ht
  obtain ⟨hB, htg⟩ := hu
  obtain ⟨hne, hneu⟩ := htg f hf ht
  rw [hB, upwindNeu_eq_diag, gain_diag _ _ _ hf, if_pos hneu]
  exact colSum_mul_self h1 hf hne

/-- The Tpfa `bound_flux` as coded (`t_b = 1` on Neumann and internal faces, times the sign of
    the incident cell) is Neumann consistent on fracture faces under (H1). -/
theorem tpfa_neumann_consistent (g : MDG) (cp : Coupling) (bnd neu : Nat → Bool) (tdir : Nat → Rat)
    (h1 : H1 (g.sd cp.prim)) (hu : TpfaCoded g cp bnd neu tdir) : NeumannConsistent g cp := by
  intro f hf ht
  obtain ⟨hB, htg⟩ := hu
  obtain ⟨hne, hb, hneu⟩ := htg f hf ht
  rw [hB]
  unfold tpfaBoundFlux
  rw [gain_diag _ _ _ hf, if_pos hb, if_pos hneu, Rat.one_mul]
  exact colSum_mul_self h1 hf hne

/-- `(1ᵀ D B)_f` of the differentiable-Tpfa boundary matrix on a face that is no external boundary
    face: the sign of the incident cell passes if the face is an internal boundary face and the
    internal boundary filter is there. -/
theorem gain_adTpfaBound (s : Subdomain) (withInternal : Bool) (extNeu extDir intb : Nat → Bool)
    (tf : Nat → Rat) (f : Nat) (hf : f < s.nf) (hen : extNeu f = false) (hed : extDir f = false) :
    gain s (adTpfaBound withInternal s.nc s.D extNeu extDir intb tf) f
      = colSum s.nc s.D f * ((if withInternal = true ∧ intb f = true then 1 else 0)
          * (if intb f = true then colSum s.nc s.D f else 0)) := by
  unfold adTpfaBound
  rw [gain_diag _ _ _ hf]
  simp only [hen, hed, Bool.false_eq_true, if_false, false_or, Rat.zero_add, Rat.zero_mul,
    Rat.add_zero]

/-- The differentiable-Tpfa boundary matrix WITH the internal boundary filter (the repaired
    `AdTpfaFlux.diffusive_flux`) is Neumann consistent on fracture faces under (H1). -/
theorem adtpfa_neumann_consistent (g : MDG) (cp : Coupling) (extNeu extDir intb : Nat → Bool)
    (tf : Nat → Rat) (h1 : H1 (g.sd cp.prim)) (hu : AdTpfaCoded g cp extNeu extDir intb tf) :
    NeumannConsistent g cp := by
  intro f hf ht
  obtain ⟨hB, htg⟩ := hu
  obtain ⟨hne, hi, hen, hed⟩ := htg f hf ht
  rw [hB, gain_adTpfaBound _ _ _ _ _ _ f hf hen hed, if_pos ⟨rfl, hi⟩, if_pos hi, Rat.one_mul]
  exact colSum_mul_self h1 hf hne

/-- … and WITHOUT it (the code as shipped, finding C04/FouriersLawAd) a fracture face receives
    nothing: `(1ᵀ D B)_f = 0`, so the interface flux that enters the fracture as a source is created
    out of nothing. -/
theorem adtpfa_shipped_gain_zero (s : Subdomain) (extNeu extDir intb : Nat → Bool) (tf : Nat → Rat)
    (f : Nat) (hf : f < s.nf) (hen : extNeu f = false) (hed : extDir f = false) :
    gain s (adTpfaBound false s.nc s.D extNeu extDir intb tf) f = 0 := by
  rw [gain_adTpfaBound _ _ _ _ _ _ f hf hen hed, if_neg (fun h => Bool.false_ne_true h.1),
    Rat.zero_mul, Rat.mul_zero]

/-- **C04** with every boundary matrix as coded (upwind `bound_transport_neu`, Tpfa `bound_flux`,
    repaired differentiable Tpfa): (H1) + (H2) + (H4) suffice, for advective AND diffusive fluxes. -/
theorem total_residual_eq_total_accumulation_coded (g : MDG) (hv : ValidIdx g)
    (h1 : ∀ i, i < g.nsd → H1 (g.sd i))
    (h2 : ∀ cp, cp ∈ g.cps → H2 g cp)
    (hc : ∀ cp, cp ∈ g.cps → CodedBoundary g cp)
    (h4 : ∀ i, i < g.nsd → ClosedBoundary (g.sd i)) :
    totalResidual g = totalAccRate g - totalSrc g := by
  refine total_residual_eq_total_accumulation g hv h2 (fun cp hcp => ?_) h4
  have hp := h1 cp.prim (hv cp hcp).1
  rcases hc cp hcp with ⟨neu, h⟩ | ⟨bnd, neu, tdir, h⟩ | ⟨en, ed, ib, tf, h⟩
  · exact upwind_neumann_consistent g cp neu hp h
  · exact tpfa_neumann_consistent g cp bnd neu tdir hp h
  · exact adtpfa_neumann_consistent g cp en ed ib tf hp h

/-- **C04** for purely advective balances as coded (mass balance): (H1) + (H2) + (H4) suffice. -/
theorem total_residual_eq_total_accumulation_upwind (g : MDG) (hv : ValidIdx g)
    (neu : Nat → Nat → Bool)
    (h1 : ∀ i, i < g.nsd → H1 (g.sd i))
    (h2 : ∀ cp, cp ∈ g.cps → H2 g cp)
    (hu : ∀ cp, cp ∈ g.cps → UpwindCoded g cp (neu cp.prim))
    (h4 : ∀ i, i < g.nsd → ClosedBoundary (g.sd i)) :
    totalResidual g = totalAccRate g - totalSrc g :=
  total_residual_eq_total_accumulation_coded g hv h1 h2
    (fun cp hcp => Or.inl ⟨neu cp.prim, hu cp hcp⟩) h4

/-- … and without external sources the residuals sum to the accumulation rate alone. -/
theorem closed_no_source_conservation (g : MDG) (hv : ValidIdx g)
    (h2 : ∀ cp, cp ∈ g.cps → H2 g cp)
    (hb : ∀ cp, cp ∈ g.cps → NeumannConsistent g cp)
    (h4 : ∀ i, i < g.nsd → ClosedBoundary (g.sd i))
    (hs : ∀ i, i < g.nsd → NoSources (g.sd i)) :
    totalResidual g = totalAccRate g := by
  have : totalSrc g = 0 := sumTo_eq_zero (fun i hi => sumTo_eq_zero (hs i hi))
  rw [total_residual_eq_total_accumulation g hv h2 hb h4, this, Rat.sub_eq_add_neg, Rat.neg_zero,
    Rat.add_zero]

/-- A closed system without sources whose residuals sum to zero conserves the total accumulated
    quantity over the time step. -/
theorem conserved_of_totalResidual_eq_zero (g : MDG) (hv : ValidIdx g)
    (h2 : ∀ cp, cp ∈ g.cps → H2 g cp)
    (hb : ∀ cp, cp ∈ g.cps → NeumannConsistent g cp)
    (h4 : ∀ i, i < g.nsd → ClosedBoundary (g.sd i))
    (hs : ∀ i, i < g.nsd → NoSources (g.sd i))
    (hdt : g.dt ≠ 0) (hz : totalResidual g = 0) :
    sumTo g.nsd (fun i => sumTo (g.sd i).nc (g.sd i).accNow)
      = sumTo g.nsd (fun i => sumTo (g.sd i).nc (g.sd i).accPrev) := by
  -- the accumulation rate is (Σ accNow − Σ accPrev) / dt, and it vanishes
  have h := closed_no_source_conservation g hv h2 hb h4 hs
  unfold totalAccRate at h
  rw [hz, sumTo_congr (fun i _ => sum_div (g.sd i).nc _ g.dt), sum_div,
    sumTo_congr (fun i _ => sumTo_sub (g.sd i).nc _ _), sumTo_sub] at h
  exact eq_of_sub_div_eq_zero hdt h.symm

/-- Physical reading: a converged time step (all residuals zero) of a closed system without
    sources conserves the total accumulated quantity exactly. -/
theorem converged_step_conserves (g : MDG) (hv : ValidIdx g)
    (h2 : ∀ cp, cp ∈ g.cps → H2 g cp)
    (hb : ∀ cp, cp ∈ g.cps → NeumannConsistent g cp)
    (h4 : ∀ i, i < g.nsd → ClosedBoundary (g.sd i))
    (hs : ∀ i, i < g.nsd → NoSources (g.sd i))
    (hdt : g.dt ≠ 0)
    (hr : ∀ i, i < g.nsd → ∀ c, c < (g.sd i).nc → rd (residual g i) c = 0) :
    sumTo g.nsd (fun i => sumTo (g.sd i).nc (g.sd i).accNow)
      = sumTo g.nsd (fun i => sumTo (g.sd i).nc (g.sd i).accPrev) :=
  conserved_of_totalResidual_eq_zero g hv h2 hb h4 hs hdt
    (sumTo_eq_zero (fun i hi => by rw [sumA_of_size (residual_size g i)]; exact sumTo_eq_zero (hr i hi)))

/-! ### clause "inter-cell fluxes cancel exactly" -/

/-- Summing the divergence of ANY face field over all cells leaves only the faces with non-zero
    column sum: `1ᵀ (D q) = Σ_f (1ᵀ D)_f q_f`. -/
theorem divergence_sum_is_boundary_flux (s : Subdomain) (q : Nat → Rat) :
    sumTo s.nc (mulVec s.nf s.D q) = sumTo s.nf (fun f => colSum s.nc s.D f * q f) :=
  sum_mulVec s.nc s.nf s.D q

/-- … so a flux field that vanishes on the boundary faces sums to zero: whatever leaves a cell
    through an interior face enters its neighbour. -/
theorem intercell_fluxes_cancel (s : Subdomain) (q : Nat → Rat)
    (hq : ∀ f, f < s.nf → colSum s.nc s.D f ≠ 0 → q f = 0) :
    sumTo s.nc (mulVec s.nf s.D q) = 0 :=
  (divergence_sum_is_boundary_flux s q).trans (sumTo_mul_eq_zero hq)

/-- Under (H1) the sum of the divergence is the signed sum of the boundary values only. -/
theorem divergence_sum_signed_boundary (s : Subdomain) (q : Nat → Rat) (h1 : H1 s) :
    sumTo s.nc (mulVec s.nf s.D q)
      = sumTo s.nf (fun f => if colSum s.nc s.D f = 1 then q f
                            else if colSum s.nc s.D f = -1 then - q f else 0) := by
  rw [divergence_sum_is_boundary_flux]
  apply sumTo_congr
  intro f hf
  rcases h1 f hf with h | h | h
  · rw [h, Rat.zero_mul, if_neg (by decide), if_neg (by decide)]
  · rw [h, Rat.one_mul, if_pos rfl]
  · rw [h, Rat.neg_mul, Rat.one_mul, if_neg (by decide), if_pos rfl]

/-! ### (H2) follows from how `MortarGrid` builds the integrated projections -/

theorem colSum_transpose (n : Nat) (M : Nat → Nat → Rat) (c : Nat) :
    colSum n (transposeM M) c = rowSum n M c := rfl

/-- `(A B) 1 = A (B 1)` -/
theorem rowSum_matMul (k nc : Nat) (A B : Nat → Nat → Rat) (r : Nat) :
    rowSum nc (matMul k A B) r = mulVec k A (rowSum nc B) r := by
  unfold rowSum matMul mulVec
  rw [sumTo_comm]
  exact sumTo_congr (fun j _ => sumTo_mul_left nc (A r j) _)

/-- the product of two averaged maps is an averaged map -/
theorem rowStochastic_matMul (nr k nc : Nat) (A B : Nat → Nat → Rat)
    (hA : RowStochastic nr k A) (hB : RowStochastic k nc B) : RowStochastic nr nc (matMul k A B) := by
  intro r hr
  rw [rowSum_matMul, ← hA r hr]
  exact sumTo_congr (fun j hj => by rw [hB j hj, Rat.mul_one])

/-- for EVERY history of mortar / primary / secondary grid replacements by averaged matchings the
    averaged map keeps unit row sums -/
theorem rowStochastic_applyUpdates (nf : Nat) (ups : List (Nat × (Nat → Nat → Rat)))
    (n : Nat) (avg : Nat → Nat → Rat) (h0 : RowStochastic n nf avg) (hu : UpdatesOK n ups) :
    RowStochastic (applyUpdates n avg ups).1 nf (applyUpdates n avg ups).2 := by
  induction ups generalizing n avg with
  | nil => exact h0
  | cons u rest ih =>
    obtain ⟨n', U⟩ := u
    exact ih n' (matMul n U avg) (rowStochastic_matMul n' n nf U avg hu.1 h0) hu.2

/-- (H2) for a coupling whose integrated projections are the transposed averaged maps
    (`_set_projections`) of row-stochastic averaged maps -/
theorem h2_of_set_projections (g : MDG) (cp : Coupling) (pAvg sAvg : Nat → Nat → Rat)
    (hp : cp.Ppm = setProjInt pAvg) (hs : cp.Psm = setProjInt sAvg)
    (hpa : RowStochastic cp.nm (g.sd cp.prim).nf pAvg) (hsa : RowStochastic cp.nm (g.sd cp.sec).nc sAvg) :
    H2 g cp := by
  constructor
  · intro m hm; rw [hp]; exact (colSum_transpose _ pAvg m).trans (hpa m hm)
  · intro m hm; rw [hs]; exact (colSum_transpose _ sAvg m).trans (hsa m hm)

theorem checkH1_sound (s : Subdomain) (h : checkH1 s = true) : H1 s := by
  intro f hf
  have := allTo_sound h f hf
  simp only [Bool.or_eq_true, beq_iff_eq] at this
  rcases this with (h0 | h0) | h0
  · exact Or.inl h0
  · exact Or.inr (Or.inl h0)
  · exact Or.inr (Or.inr h0)

theorem checkH2_sound (g : MDG) (cp : Coupling) (h : checkH2 g cp = true) : H2 g cp := by
  have both : ∀ m, m < cp.nm →
      colSum (g.sd cp.prim).nf cp.Ppm m = 1 ∧ colSum (g.sd cp.sec).nc cp.Psm m = 1 := by
    intro m hm
    have := allTo_sound h m hm
    simp only [Bool.and_eq_true, beq_iff_eq] at this
    exact this
  exact ⟨fun m hm => (both m hm).1, fun m hm => (both m hm).2⟩

theorem checkNC_sound (g : MDG) (cp : Coupling) (h : checkNC g cp = true) : NeumannConsistent g cp := by
  intro f hf ht
  have := allTo_sound h f hf
  rw [isTarget_complete cp f ht] at this
  simpa using this

theorem checkClosed_sound (s : Subdomain) (h : checkClosed s = true) : ClosedBoundary s := by
  intro f hf hne
  have := allTo_sound h f hf
  simp only [Bool.or_eq_true, beq_iff_eq] at this
  rcases this with h0 | h0
  · exact absurd h0 hne
  · exact h0

/-- **C04 with every hypothesis a decidable input condition**: whenever the Boolean check that
    the driver evaluates on the matrices and vectors of a case succeeds, conservation holds for
    that case. -/
theorem checked_conservation (g : MDG) (h : checkAll g = true) :
    totalResidual g = totalAccRate g - totalSrc g := by
  unfold checkAll at h
  simp only [Bool.and_eq_true] at h
  obtain ⟨⟨hv, hc⟩, hcl⟩ := h
  unfold checkValid at hv
  rw [List.all_eq_true] at hv hc
  have hc' : ∀ cp, cp ∈ g.cps → checkH2 g cp = true ∧ checkNC g cp = true :=
    fun cp hcp => by simpa using hc cp hcp
  exact total_residual_eq_total_accumulation g (fun cp hcp => by simpa using hv cp hcp)
    (fun cp hcp => checkH2_sound g cp (hc' cp hcp).1) (fun cp hcp => checkNC_sound g cp (hc' cp hcp).2)
    (fun i hi => checkClosed_sound _ (allTo_sound hcl i hi))

/-! ### non-vacuity: a concrete fractured md-grid

Primary: 2 cells, 5 faces (f0, f2 external boundary; f1 interior; f3, f4 fracture faces, one on
each side of the fracture).  Secondary: the fracture, 1 cell, no faces.  One mortar grid with two
cells (one per side).  Non-zero interior flux, non-zero interface fluxes, non-zero accumulation. -/

def exD : Nat → Nat → Rat := fun c f =>
  match c, f with
  | 0, 0 => -1 | 0, 1 => 1 | 0, 3 => 1
  | 1, 1 => -1 | 1, 2 => 1 | 1, 4 => -1
  | _, _ => 0

def exPrim : Subdomain :=
  { nc := 2, nf := 5, D := exD
    accNow := fun c => if c = 0 then 3 else 5/2
    accPrev := fun c => if c = 0 then 1 else 2
    F := fun f => if f = 1 then 7/3 else 0
    src := fun _ => 0 }

def exSec : Subdomain :=
  { nc := 1, nf := 0, D := fun _ _ => 0
    accNow := fun _ => 1/4, accPrev := fun _ => 1/2, F := fun _ => 0, src := fun _ => 0 }

def exCp : Coupling :=
  { prim := 0, sec := 1, nm := 2
    Ppm := fun f m => if (f = 3 ∧ m = 0) ∨ (f = 4 ∧ m = 1) then 1 else 0
    Psm := fun c _ => if c = 0 then 1 else 0
    B := upwindNeu 2 exD (fun f => f != 1)
    lam := fun m => if m = 0 then 3/2 else -2 }

def exG : MDG :=
  { nsd := 2, sd := fun i => if i = 0 then exPrim else exSec, cps := [exCp], dt := 1/2 }

theorem exG_validIdx : ValidIdx exG := by
  intro cp h
  rw [List.mem_singleton.mp h]
  decide

theorem exG_H1 : ∀ i, i < exG.nsd → H1 (exG.sd i) := by
  unfold H1; decide +kernel

theorem exG_closed : ∀ i, i < exG.nsd → ClosedBoundary (exG.sd i) := by
  unfold ClosedBoundary; decide +kernel

theorem exCp_H2 : H2 exG exCp := by
  unfold H2; decide +kernel

theorem exCp_upwindCoded : UpwindCoded exG exCp (fun f => f != 1) := by
  refine ⟨rfl, ?_⟩
  unfold Target; decide +kernel

example : ValidIdx exG := exG_validIdx

example : ∀ i, i < exG.nsd → H1 (exG.sd i) := exG_H1

example : ∀ i, i < exG.nsd → ClosedBoundary (exG.sd i) := exG_closed

example : H2 exG exCp := exCp_H2

example : UpwindCoded exG exCp (fun f => f != 1) := exCp_upwindCoded

/-- all hypotheses of the headline theorem hold simultaneously on this grid -/
example : totalResidual exG = totalAccRate exG - totalSrc exG :=
  total_residual_eq_total_accumulation_upwind exG exG_validIdx (fun _ f => f != 1) exG_H1
    (fun _ h => List.mem_singleton.mp h ▸ exCp_H2)
    (fun _ h => List.mem_singleton.mp h ▸ exCp_upwindCoded) exG_closed

theorem exG_residual : residual exG 0 = #[47/6, -10/3] ∧ residual exG 1 = #[0] := by decide +kernel

/-- the residuals themselves are not zero, their sum is the accumulation rate -/
example : residual exG 0 = #[47/6, -10/3] ∧ residual exG 1 = #[0] := exG_residual
example : totalResidual exG = 9/2 ∧ totalAccRate exG = 9/2 := by
  refine ⟨?_, by decide +kernel⟩
  show 0 + sumA (residual exG 0) + sumA (residual exG 1) = 9/2
  rw [exG_residual.1, exG_residual.2]
  decide +kernel

/-- the hypotheses are needed: an AVERAGED secondary projection (rows instead of columns sum to
    one: entries 1/2) loses half of the interface flux -/
def exCpAvg : Coupling := { exCp with Psm := fun c _ => if c = 0 then 1/2 else 0 }
def exGAvg : MDG := { exG with cps := [exCpAvg] }
example : totalResidual exGAvg - totalAccRate exGAvg = -1/4 := by decide +kernel

/-- the same grid with the interface flux entering through the Tpfa `bound_flux` as coded -/
def exCpTpfa : Coupling := { exCp with B := tpfaBoundFlux 2 exD (fun f => f != 1) (fun f => f != 1) (fun _ => 0) }
def exGTpfa : MDG := { exG with cps := [exCpTpfa, exCp] }

example : TpfaCoded exGTpfa exCpTpfa (fun f => f != 1) (fun f => f != 1) (fun _ => 0) := by
  refine ⟨rfl, ?_⟩
  unfold Target; decide +kernel

/-- two interface fluxes on the same mortar grid (diffusive through Tpfa, advective through upwind) -/
example : totalResidual exGTpfa = totalAccRate exGTpfa := by decide +kernel

/-- finding C04/FouriersLawAd: with the differentiable-Tpfa matrix as shipped (no internal boundary
    filter) the sum of the residuals is off by minus the total interface flux, `-(3/2 - 2) = 1/2`;
    with the internal boundary filter it is conservative -/
def exCpAd (withInternal : Bool) : Coupling :=
  { exCp with B := adTpfaBound withInternal 2 exD (fun f => f == 0 || f == 2) (fun _ => false)
                     (fun f => f == 3 || f == 4) (fun _ => 1) }
example : totalResidual { exG with cps := [exCpAd false] } - totalAccRate exG = 1/2 := by decide +kernel
example : totalResidual { exG with cps := [exCpAd true] } - totalAccRate exG = 0 := by decide +kernel
example : AdTpfaCoded { exG with cps := [exCpAd true] } (exCpAd true) (fun f => f == 0 || f == 2)
    (fun _ => false) (fun f => f == 3 || f == 4) (fun _ => 1) := by
  refine ⟨rfl, ?_⟩
  unfold Target; decide +kernel

/-- the Boolean input condition holds on the example grid (and fails for the averaged projection) -/
example : checkAll exG = true ∧ checkAll exGTpfa = true ∧ checkAll exGAvg = false := by decide +kernel
example : checkH1 exPrim = true := by decide +kernel

/-- inter-cell cancellation on the example: the interior flux 7/3 through f1 does not appear -/
example : sumTo exPrim.nc (mulVec exPrim.nf exPrim.D exPrim.F) = 0 := by decide +kernel

/-- construction of (H2): a 2-to-1 averaged refinement of a 0-1 matching stays row-stochastic and
    its transpose has unit column sums -/
def exAvg0 : Nat → Nat → Rat := fun m f => if (m = 0 ∧ f = 3) ∨ (m = 1 ∧ f = 4) then 1 else 0
def exUpd : Nat → Nat → Rat := fun m' m => if m' / 2 = m then 1 else 0   -- 4 new mortar cells from 2
example : RowStochastic 2 5 exAvg0 := by unfold RowStochastic; decide +kernel
example : UpdatesOK 2 [(4, exUpd)] := by
  refine ⟨?_, trivial⟩
  unfold RowStochastic; decide +kernel
example : ∀ m, m < 4 → colSum 5 (setProjInt (applyUpdates 2 exAvg0 [(4, exUpd)]).2) m = 1 := by decide +kernel

end PorepyVerif.C04
