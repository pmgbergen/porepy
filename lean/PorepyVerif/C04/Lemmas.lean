/-
C04 — finite sums, tabulation, and what each piece of the residual sums to
(property theorems are in Props.lean).  `sumTo` and `sumL` are `List.sum`s (`sumTo_eq`, `sumL_eq`) and take their
algebra from `Common.Sum`.
-/
import PorepyVerif.C04.Model
import PorepyVerif.Common.Sum

namespace PorepyVerif.C04

theorem sumTo_eq (n : Nat) (f : Nat → Rat) : sumTo n f = ((List.range n).map f).sum := by
  induction n with
  | zero => rfl
  | succ n ih => rw [Common.sum_range_succ, ← ih, sumTo]

theorem sumL_eq {α : Type} (l : List α) (f : α → Rat) : sumL l f = (l.map f).sum := by
  induction l with
  | nil => rfl
  | cons a l ih => rw [List.map_cons, List.sum_cons, ← ih, sumL]

theorem sumTo_congr {n : Nat} {f g : Nat → Rat} (h : ∀ i, i < n → f i = g i) :
    sumTo n f = sumTo n g := by
  rw [sumTo_eq, sumTo_eq]
  exact Common.sum_map_congr fun i hi => h i (List.mem_range.mp hi)

theorem sumTo_zero (n : Nat) : sumTo n (fun _ => 0) = 0 :=
  (sumTo_eq n _).trans (Common.sum_map_eq_zero fun _ _ => rfl)

theorem sumTo_eq_zero {n : Nat} {f : Nat → Rat} (h : ∀ i, i < n → f i = 0) : sumTo n f = 0 :=
  (sumTo_congr h).trans (sumTo_zero n)

theorem sumTo_add (n : Nat) (f g : Nat → Rat) :
    sumTo n (fun i => f i + g i) = sumTo n f + sumTo n g := by
  simp only [sumTo_eq, Common.sum_map_add]

theorem sumTo_sub (n : Nat) (f g : Nat → Rat) :
    sumTo n (fun i => f i - g i) = sumTo n f - sumTo n g := by
  simp only [sumTo_eq, Common.sum_map_sub]

theorem sumTo_mul_left (n : Nat) (a : Rat) (f : Nat → Rat) :
    sumTo n (fun i => a * f i) = a * sumTo n f := by
  simp only [sumTo_eq, Common.sum_map_mul_left]

theorem sumTo_mul_right (n : Nat) (a : Rat) (f : Nat → Rat) :
    sumTo n (fun i => f i * a) = sumTo n f * a := by
  simp only [sumTo_eq, Common.sum_map_mul_right]

/-- Fubini for finite double sums -/
theorem sumTo_comm (n m : Nat) (f : Nat → Nat → Rat) :
    sumTo n (fun i => sumTo m (fun j => f i j)) = sumTo m (fun j => sumTo n (fun i => f i j)) := by
  simp only [sumTo_eq]
  exact Common.sum_map_comm _ _ f

/-- a sum whose only non-zero term is the one at `p` -/
theorem sumTo_single {n p : Nat} {f : Nat → Rat} (hp : p < n) (h : ∀ i, i < n → i ≠ p → f i = 0) :
    sumTo n f = f p := by
  rw [sumTo_eq]
  exact Common.sum_map_single List.nodup_range (List.mem_range.mpr hp) fun i hi => h i (List.mem_range.mp hi)

/-- a weighted sum vanishes when every term with non-zero weight does -/
theorem sumTo_mul_eq_zero {n : Nat} {a b : Nat → Rat} (h : ∀ k, k < n → a k ≠ 0 → b k = 0) :
    sumTo n (fun k => a k * b k) = 0 := by
  apply sumTo_eq_zero
  intro k hk
  by_cases ha : a k = 0
  · rw [ha, Rat.zero_mul]
  · rw [h k hk ha, Rat.mul_zero]

theorem sum_div (n : Nat) (f : Nat → Rat) (d : Rat) :
    sumTo n (fun c => f c / d) = sumTo n f / d := by
  rw [Rat.div_def, ← sumTo_mul_right]
  exact sumTo_congr (fun c _ => Rat.div_def (f c) d)

theorem eq_of_sub_div_eq_zero {a b d : Rat} (hd : d ≠ 0) (h : (a - b) / d = 0) : a = b := by
  have h' := Rat.div_mul_cancel (a := a - b) hd
  rw [h, Rat.zero_mul] at h'
  rw [← Rat.sub_add_cancel (a := a) (b := b), ← h', Rat.zero_add]

theorem sumL_congr {α : Type} {l : List α} {f g : α → Rat} (h : ∀ a, a ∈ l → f a = g a) :
    sumL l f = sumL l g := by
  rw [sumL_eq, sumL_eq]
  exact Common.sum_map_congr h

theorem sumL_zero {α : Type} (l : List α) : sumL l (fun _ => (0 : Rat)) = 0 :=
  (sumL_eq l _).trans (Common.sum_map_eq_zero fun _ _ => rfl)

theorem sumL_add {α : Type} (l : List α) (f g : α → Rat) :
    sumL l (fun a => f a + g a) = sumL l f + sumL l g := by
  simp only [sumL_eq, Common.sum_map_add]

theorem sumL_sub {α : Type} (l : List α) (f g : α → Rat) :
    sumL l (fun a => f a - g a) = sumL l f - sumL l g := by
  simp only [sumL_eq, Common.sum_map_sub]

theorem sumL_mul_left {α : Type} (l : List α) (c : Rat) (f : α → Rat) :
    sumL l (fun a => c * f a) = c * sumL l f := by
  simp only [sumL_eq, Common.sum_map_mul_left]

theorem sumL_map {α β : Type} (l : List α) (h : α → β) (φ : β → Rat) :
    sumL (l.map h) φ = sumL l (fun a => φ (h a)) := by
  induction l with
  | nil => rfl
  | cons a l ih => simp only [List.map_cons, sumL, ih]

theorem sumTo_sumL {α : Type} (n : Nat) (l : List α) (f : α → Nat → Rat) :
    sumTo n (fun k => sumL l (fun a => f a k)) = sumL l (fun a => sumTo n (f a)) := by
  simp only [sumTo_eq, sumL_eq]
  exact Common.sum_map_comm _ l fun k a => f a k

/-- summing over the elements with key `i` is summing the indicator of the key over the whole list -/
theorem sumL_filter {α : Type} (l : List α) (sel : α → Nat) (i : Nat) (φ : α → Rat) :
    sumL (l.filter (fun a => sel a == i)) φ = sumL l (fun a => if sel a = i then φ a else 0) := by
  simp only [sumL_eq, Common.sum_map_filter, beq_iff_eq]

/-- summing an indicator sum over the couplings over all subdomains picks every coupling once -/
theorem sum_over_subdomains (n : Nat) (l : List Coupling) (sel : Coupling → Nat)
    (x : Nat → Coupling → Rat) (h : ∀ cp, cp ∈ l → sel cp < n) :
    sumTo n (fun i => sumL l (fun cp => if sel cp = i then x i cp else 0))
      = sumL l (fun cp => x (sel cp) cp) := by
  rw [sumTo_sumL]
  exact sumL_congr (fun cp hcp =>
    (sumTo_single (h cp hcp) (fun i _ hi => if_neg (Ne.symm hi))).trans (if_pos rfl))

theorem tabA_size (n : Nat) (f : Nat → Rat) : (tabA n f).size = n := by
  simp [tabA]

theorem rd_tabA (n : Nat) (f : Nat → Rat) (i : Nat) (h : i < n) : rd (tabA n f) i = f i := by
  simp [rd, tabA, Array.getD, h]

theorem sumTo_rd_tabA (n : Nat) (f : Nat → Rat) : sumTo n (rd (tabA n f)) = sumTo n f :=
  sumTo_congr (fun i hi => rd_tabA n f i hi)

theorem sumA_of_size {a : Array Rat} {n : Nat} (h : a.size = n) : sumA a = sumTo n (rd a) := by
  subst h; rfl

theorem sumA_tabA (n : Nat) (f : Nat → Rat) : sumA (tabA n f) = sumTo n f :=
  (sumA_of_size (tabA_size n f)).trans (sumTo_rd_tabA n f)

/-- `1ᵀ (M v) = (1ᵀ M) v` -/
theorem sum_mulVec (nr n : Nat) (M : Nat → Nat → Rat) (v : Nat → Rat) :
    sumTo nr (mulVec n M v) = sumTo n (fun k => colSum nr M k * v k) := by
  unfold mulVec colSum
  rw [sumTo_comm]
  exact sumTo_congr (fun k _ => sumTo_mul_right nr (v k) (fun r => M r k))

/-- `(1ᵀ D) (B y) = Σ_f' (1ᵀ D B)_f' y_f'`: `sum_mulVec` for the matrix `diag(1ᵀ D) B` -/
theorem colSum_mulVec (s : Subdomain) (B : Nat → Nat → Rat) (y : Nat → Rat) :
    sumTo s.nf (fun f => colSum s.nc s.D f * mulVec s.nf B y f)
      = sumTo s.nf (fun f' => gain s B f' * y f') := by
  have h : ∀ f, colSum s.nc s.D f * mulVec s.nf B y f
      = mulVec s.nf (fun f k => colSum s.nc s.D f * B f k) y f := by
    intro f
    unfold mulVec
    rw [← sumTo_mul_left]
    exact sumTo_congr (fun k _ => (Rat.mul_assoc _ _ _).symm)
  rw [sumTo_congr (fun f _ => h f)]
  exact sum_mulVec s.nf s.nf _ y

/-- `(1ᵀ D B)_f` for a diagonal `B` -/
theorem gain_diag (s : Subdomain) (d : Nat → Rat) (f : Nat) (hf : f < s.nf) :
    gain s (diagMat d) f = colSum s.nc s.D f * d f := by
  unfold gain diagMat
  rw [sumTo_single hf (fun k _ hk => by rw [if_neg hk, Rat.mul_zero]), if_pos rfl]

theorem upwindNeu_eq_diag (nc : Nat) (D : Nat → Nat → Rat) (neu : Nat → Bool) :
    upwindNeu nc D neu = diagMat (fun f => if neu f = true then colSum nc D f else 0) := by
  funext f f'
  unfold upwindNeu diagMat
  by_cases h1 : f = f' <;> by_cases h2 : neu f = true <;> simp [h1, h2]

theorem rd_primFlux (cp : Coupling) {n f : Nat} (hf : f < n) :
    rd (cp.primFlux n) f = mulVec n cp.B (mulVec cp.nm cp.Ppm cp.lam) f := by
  unfold Coupling.primFlux
  rw [rd_tabA _ _ _ hf]
  exact sumTo_congr (fun k hk => by rw [rd_tabA _ _ k hk])

/-- what the coupling contributes to `1ᵀ D (face flux)` of its primary -/
theorem primFlux_total (s : Subdomain) (cp : Coupling) :
    sumTo s.nf (fun f => colSum s.nc s.D f * rd (cp.primFlux s.nf) f)
      = sumTo s.nf (fun f' => gain s cp.B f' * mulVec cp.nm cp.Ppm cp.lam f') := by
  rw [sumTo_congr (fun f hf => by rw [rd_primFlux cp hf])]
  exact colSum_mulVec s cp.B _

theorem secSource_total (n : Nat) (cp : Coupling) :
    sumA (cp.secSource n) = sumTo n (mulVec cp.nm cp.Psm cp.lam) :=
  sumA_tabA n _

/-- `netCoupling` in terms of the gain `(1ᵀ D B)` -/
theorem netCoupling_eq (g : MDG) (cp : Coupling) :
    netCoupling g cp
      = sumTo (g.sd cp.prim).nf (fun f' => gain (g.sd cp.prim) cp.B f' * mulVec cp.nm cp.Ppm cp.lam f')
        - sumTo (g.sd cp.sec).nc (mulVec cp.nm cp.Psm cp.lam) := by
  rw [← primFlux_total, ← secSource_total]
  rfl

/-- `1ᵀ (D · faceFlux)` of subdomain `i`: the own flux through its boundary faces plus, for every
    coupling whose primary is `i`, the gain-weighted flux it puts on the faces -/
theorem div_total (g : MDG) (i : Nat) :
    sumTo (g.sd i).nc (mulVec (g.sd i).nf (g.sd i).D (rd (faceFlux g i)))
      = sumTo (g.sd i).nf (fun f => colSum (g.sd i).nc (g.sd i).D f * (g.sd i).F f)
        + sumL g.cps (fun cp => if cp.prim = i then
            sumTo (g.sd i).nf (fun f' => gain (g.sd i) cp.B f' * mulVec cp.nm cp.Ppm cp.lam f') else 0) := by
  unfold faceFlux
  rw [sum_mulVec,
    sumTo_congr (fun f hf => by rw [rd_tabA _ _ _ hf, sumL_map, Rat.mul_add, ← sumL_mul_left]),
    sumTo_add, sumTo_sumL, sumL_congr (fun cp _ => primFlux_total (g.sd i) cp), sumL_filter]

/-- `1ᵀ (interface source)` of subdomain `i` -/
theorem intfSource_total (g : MDG) (i : Nat) :
    sumTo (g.sd i).nc (rd (intfSource g i))
      = sumL g.cps (fun cp => if cp.sec = i then
          sumTo (g.sd i).nc (mulVec cp.nm cp.Psm cp.lam) else 0) := by
  unfold intfSource
  -- `cp.secSource n` is `tabA n (mulVec cp.nm cp.Psm cp.lam)` by definition
  rw [sumTo_rd_tabA, sumTo_congr (fun c _ => sumL_map _ _ _), sumTo_sumL,
    sumL_congr (fun cp _ => sumTo_rd_tabA _ (mulVec cp.nm cp.Psm cp.lam)), sumL_filter]

/-- every entry of the residual array is `balance_equation` evaluated in that cell -/
theorem residual_entry (g : MDG) (i c : Nat) (hc : c < (g.sd i).nc) :
    rd (residual g i) c
      = ((g.sd i).accNow c - (g.sd i).accPrev c) / g.dt
        + mulVec (g.sd i).nf (g.sd i).D (rd (faceFlux g i)) c
        - (rd (intfSource g i) c + (g.sd i).src c) := by
  unfold residual
  rw [rd_tabA _ _ _ hc, rd_tabA _ _ _ hc]

theorem residual_size (g : MDG) (i : Nat) : (residual g i).size = (g.sd i).nc := by
  unfold residual
  exact tabA_size _ _

/-- `1ᵀ r_i`: accumulation rate, plus own boundary outflow and the primary side of the couplings
    leaving `i`, minus the secondary side of the couplings entering `i` and the external source -/
theorem residual_total (g : MDG) (i : Nat) :
    sumA (residual g i)
      = sumTo (g.sd i).nc (fun c => ((g.sd i).accNow c - (g.sd i).accPrev c) / g.dt)
        + (sumTo (g.sd i).nf (fun f => colSum (g.sd i).nc (g.sd i).D f * (g.sd i).F f)
          + sumL g.cps (fun cp => if cp.prim = i then
              sumTo (g.sd i).nf (fun f' => gain (g.sd i) cp.B f' * mulVec cp.nm cp.Ppm cp.lam f') else 0))
        - (sumL g.cps (fun cp => if cp.sec = i then
              sumTo (g.sd i).nc (mulVec cp.nm cp.Psm cp.lam) else 0)
          + sumTo (g.sd i).nc (g.sd i).src) := by
  rw [sumA_of_size (residual_size g i), sumTo_congr (residual_entry g i)]
  simp only [sumTo_sub, sumTo_add, div_total, intfSource_total]

theorem allTo_sound {n : Nat} {p : Nat → Bool} (h : allTo n p = true) : ∀ i, i < n → p i = true := by
  intro i hi
  unfold allTo at h
  rw [List.all_eq_true] at h
  exact h i (List.mem_range.mpr hi)

theorem isTarget_complete (cp : Coupling) (f : Nat) (h : Target cp f) : isTarget cp f = true := by
  obtain ⟨m, hm, hne⟩ := h
  unfold isTarget
  rw [List.any_eq_true]
  exact ⟨m, List.mem_range.mpr hm, bne_iff_ne.mpr hne⟩

end PorepyVerif.C04
