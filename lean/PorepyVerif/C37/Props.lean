/-
C37 — property theorems.

Property: for any nonsingular block-diagonal matrix, block inversion returns its inverse, and for
any row/column-permuted block-diagonal matrix the computed permutation exposes square blocks and
the permuted inverter returns the matrix inverse.

Part A (Mathlib matrices over an arbitrary field `K`): the algebra the code relies on.
Part B (executable model of Model.lean, lists of rationals): the Gauss–Jordan inverse, the label
merging that stands for `networkx.connected_components`, `permSearch`, the csr layout.

Soundness and completeness of `inverse` (`gaussJordan_correct`) and soundness of the whole pipelines
(`invertDiagonalBlocks_correct`, `invertPermuted_correct`) are theorems; the exact identity check
`A·X = I = X·A` in the driver is kept as redundancy.
What is NOT a theorem: that the triple returned by `permSearch` satisfies the block-diagonality
hypothesis of `invertPermuted_correct` in its positional form (it is proved in the membership form
`permSearch_blocks_square`); completeness of the pipelines.
-/
import PorepyVerif.C37.Lemmas

open Matrix

namespace PorepyVerif.C37

/-! ## Part A — algebra -/

section Algebra
variable {K : Type*} [Field K]
variable {o : Type*} [Fintype o] [DecidableEq o]
variable {m' : o → Type*} [∀ k, Fintype (m' k)] [∀ k, DecidableEq (m' k)]
variable {n : Type*} [Fintype n] [DecidableEq n]
variable {m : Type*} [Fintype m] [DecidableEq m]
variable {ι : Type*} [DecidableEq ι]

theorem blockdiag_mul_inv (M : ∀ k, Matrix (m' k) (m' k) K) (h : ∀ k, IsUnit (M k)) :
    blockDiagonal' M * blockDiagonal' (fun k => (M k)⁻¹) = 1 := by
  rw [← blockDiagonal'_mul]
  have : (fun k => M k * (M k)⁻¹) = (1 : ∀ k, Matrix (m' k) (m' k) K) := by
    funext k
    exact Matrix.mul_nonsing_inv _ ((Matrix.isUnit_iff_isUnit_det _).mp (h k))
  rw [this, blockDiagonal'_one]

/-- the inverse of a block-diagonal matrix whose (square, possibly differently
    sized) blocks are invertible is the block-diagonal matrix of the inverses of the blocks —
    what `invert_diagonal_blocks` assembles with `block_diag_matrix`. -/
theorem blockdiag_inv (M : ∀ k, Matrix (m' k) (m' k) K) (h : ∀ k, IsUnit (M k)) :
    (blockDiagonal' M)⁻¹ = blockDiagonal' (fun k => (M k)⁻¹) :=
  Matrix.inv_eq_right_inv (blockdiag_mul_inv M h)

/-- a block-diagonal matrix is invertible iff every block is (the precondition of the property,
    "nonsingular block-diagonal", is the same as "every block nonsingular") -/
theorem blockdiag_isUnit_iff (M : ∀ k, Matrix (m' k) (m' k) K) :
    IsUnit (blockDiagonal' M) ↔ ∀ k, IsUnit (M k) := by
  constructor
  · intro h k
    -- block `k` of `blockDiagonal' M * (blockDiagonal' M)⁻¹ = 1`
    have hk := blockDiag'_blockDiagonal'_mul M (blockDiagonal' M)⁻¹ k
    rw [Matrix.mul_nonsing_inv _ ((Matrix.isUnit_iff_isUnit_det _).mp h), blockDiag'_one] at hk
    exact (Matrix.isUnit_iff_isUnit_det _).mpr (Matrix.isUnit_det_of_right_inverse hk.symm)
  · intro h
    exact (Matrix.isUnit_iff_isUnit_det _).mpr
      (Matrix.isUnit_det_of_right_inverse (blockdiag_mul_inv M h))

/-- if `B = P_r A P_c` (rows and columns re-indexed by bijections `er`, `ec`, i.e.
    `B = A[row_perm, :][:, col_perm]`) then `A⁻¹ = P_c B⁻¹ P_r`. -/
theorem perm_inv (A : Matrix n n K) (er ec : m ≃ n) :
    A⁻¹ = ((A.submatrix er ec)⁻¹).submatrix ec.symm er.symm := by
  rw [Matrix.inv_submatrix_equiv]
  simp

/-- re-indexing rows and columns by bijections preserves (non)invertibility -/
theorem perm_isUnit_iff (A : Matrix n n K) (er ec : m ≃ n) :
    IsUnit (A.submatrix er ec) ↔ IsUnit A := Matrix.isUnit_submatrix_equiv er ec

/-- The whole of `invert_permuted_block_diag_matrix`: if the permuted matrix is block diagonal
    with invertible blocks, then `A` is invertible and its inverse is the un-permuted block
    diagonal of the block inverses. -/
theorem permuted_blockdiag_inv (A : Matrix n n K) (er ec : (Σ k, m' k) ≃ n)
    (M : ∀ k, Matrix (m' k) (m' k) K) (hB : A.submatrix er ec = blockDiagonal' M)
    (hM : ∀ k, IsUnit (M k)) :
    IsUnit A ∧ A⁻¹ = (blockDiagonal' (fun k => (M k)⁻¹)).submatrix ec.symm er.symm := by
  constructor
  · rw [← perm_isUnit_iff A er ec, hB]
    exact (blockdiag_isUnit_iff M).mpr hM
  · rw [perm_inv A er ec, hB, blockdiag_inv M hM]

omit [Fintype n] [DecidableEq n] in
/-- A row classification `f` and a column classification `g` that are closed under the non-zero
    pattern (`A i j ≠ 0 → f i = g j`; the connected components of the bipartite pattern graph are
    the finest such pair) bring `A` into block-diagonal form: re-indexed along the fibres, `A` is
    the block-diagonal matrix of its (a priori rectangular) blocks. -/
theorem closed_pattern_blockdiag (A : Matrix n n K) (f g : n → ι)
    (hcl : ∀ i j, A i j ≠ 0 → f i = g j) :
    A.submatrix (Equiv.sigmaFiberEquiv f) (Equiv.sigmaFiberEquiv g)
      = blockDiagonal' (fun k => A.submatrix (Subtype.val : {i // f i = k} → n)
          (Subtype.val : {j // g j = k} → n)) := by
  ext ⟨k, i, hi⟩ ⟨k', j, hj⟩
  by_cases hk : k = k'
  · subst hk
    simp [blockDiagonal'_apply_eq, Equiv.sigmaFiberEquiv]
  · rw [blockDiagonal'_apply_ne _ _ _ hk]
    simp only [Matrix.submatrix_apply, Equiv.sigmaFiberEquiv, Equiv.coe_fn_mk]
    by_contra hne
    exact hk (by rw [← hi, ← hj]; exact hcl i j hne)

/-- if `A` is invertible, every block exposed by a closed pair of
    classifications is square (as many rows as columns) and two-sided invertible, the inverse
    of block `k` being the block of `A⁻¹` in the transposed position.  This is why the
    `AssertionError("Block mismatch")` of the code cannot fire on a nonsingular matrix. -/
theorem components_give_blocks (A : Matrix n n K) (f g : n → ι)
    (hcl : ∀ i j, A i j ≠ 0 → f i = g j) (hA : IsUnit A) (k : ι) :
    Fintype.card {i // f i = k} = Fintype.card {j // g j = k} ∧
    A.submatrix (Subtype.val : {i // f i = k} → n) (Subtype.val : {j // g j = k} → n)
      * A⁻¹.submatrix (Subtype.val : {j // g j = k} → n) (Subtype.val : {i // f i = k} → n) = 1 ∧
    A⁻¹.submatrix (Subtype.val : {j // g j = k} → n) (Subtype.val : {i // f i = k} → n)
      * A.submatrix (Subtype.val : {i // f i = k} → n) (Subtype.val : {j // g j = k} → n) = 1 := by
  have hdet := (Matrix.isUnit_iff_isUnit_det _).mp hA
  have h1 := closed_block_mul_right A A⁻¹ f g hcl (Matrix.mul_nonsing_inv A hdet) k
  have h2 := closed_block_mul_left A A⁻¹ f g hcl (Matrix.nonsing_inv_mul A hdet) k
  exact ⟨Nat.le_antisymm (card_le_of_mul_eq_one _ _ h1) (card_le_of_mul_eq_one _ _ h2), h1, h2⟩

end Algebra

/-! ### non-vacuity of Part A: the hypotheses are satisfiable with concrete data -/

example : (blockDiagonal' (fun _ : Fin 2 => (1 : Matrix (Fin 3) (Fin 3) ℚ)))⁻¹
    = blockDiagonal' (fun _ => (1 : Matrix (Fin 3) (Fin 3) ℚ)⁻¹) :=
  blockdiag_inv _ (fun _ => isUnit_one)

/-- the identity, re-indexed along the fibres of `id`, is block diagonal with 1×1 identity blocks -/
example : IsUnit (1 : Matrix (Fin 3) (Fin 3) ℚ) :=
  (permuted_blockdiag_inv (1 : Matrix (Fin 3) (Fin 3) ℚ)
    (Equiv.sigmaFiberEquiv (id : Fin 3 → Fin 3)) (Equiv.sigmaFiberEquiv (id : Fin 3 → Fin 3))
    (fun _ => 1) (by rw [Matrix.submatrix_one_equiv]; exact (blockDiagonal'_one).symm)
    (fun _ => isUnit_one)).1

/-- the diagonal pattern of the identity is closed under `f = g = id`: three 1×1 blocks -/
example : Fintype.card {i : Fin 3 // id i = 0} = Fintype.card {j : Fin 3 // id j = 0} :=
  (components_give_blocks (1 : Matrix (Fin 3) (Fin 3) ℚ) id id
    (by intro i j h; by_contra hne; exact h (Matrix.one_apply_ne hne)) isUnit_one 0).1

/-! ## Part B — the executable model -/

/-- List-level statement about the exact Gauss–Jordan elimination: whenever it returns `some B`,
    `B·A = I` (every row `b_i` of `B` satisfies `b_i·A = e_i`). -/
theorem gaussJordan_left_inverse (A B : Mat) (h : inverse A = some B) :
    matMul A.length B A = identity A.length ∧ isSquare A.length B = true := by
  refine ⟨inverse_left A B h, ?_⟩
  obtain ⟨h1, h2⟩ := inverse_length A B h
  exact (isSquare_iff _ _).mpr ⟨h1, h2⟩

/-- Read as Mathlib matrices over ℚ, the result of the model's
    block inversion is the two-sided inverse, `A·B = 1`, `B·A = 1` and `A⁻¹ = B`.
    "partial": soundness only.  Completeness,
      `IsUnit (toMatrix A.length A).det → ∃ B, inverse A = some B`,
    is `gaussJordan_complete`; `gaussJordan_correct` puts the two together. -/
theorem gaussJordan_correct_partial (A B : Mat) (h : inverse A = some B) :
    toMatrix A.length A * toMatrix A.length B = 1 ∧ toMatrix A.length B * toMatrix A.length A = 1 ∧
      (toMatrix A.length A)⁻¹ = toMatrix A.length B := by
  obtain ⟨hrows, _, _, _⟩ := inverse_some A B h
  obtain ⟨hBl, hBr⟩ := inverse_length A B h
  have hBA := toMatrix_mul_of_matMul A.length A B rfl hrows hBl hBr (inverse_left A B h)
  exact ⟨mul_eq_one_comm.mp hBA, hBA, Matrix.inv_eq_left_inv hBA⟩

/-- completeness of the pivot search.  If the matrix is nonsingular, the
    elimination never runs out of pivots (invariant: a vector orthogonal to all current rows is
    orthogonal to all rows of `A`; without a pivot the vector `(heads of the finished rows, -1,
    0, …)` is such a vector, so `A` would have a non-trivial kernel). -/
theorem gaussJordan_complete (A : Mat) (hsq : isSquare A.length A = true)
    (hdet : IsUnit (toMatrix A.length A).det) : ∃ B, inverse A = some B :=
  inverse_complete_list A hsq (trivialKernel_of_det A.length A hsq hdet)

/-- the full statement.  On square input the model's `np.linalg.inv`
    answers `some` exactly for the nonsingular matrices, and then with the inverse. -/
theorem gaussJordan_correct (A : Mat) (hsq : isSquare A.length A = true) :
    ((∃ B, inverse A = some B) ↔ IsUnit (toMatrix A.length A).det) ∧
    (∀ B, inverse A = some B → (toMatrix A.length A)⁻¹ = toMatrix A.length B) := by
  refine ⟨⟨?_, gaussJordan_complete A hsq⟩, fun B h => (gaussJordan_correct_partial A B h).2.2⟩
  rintro ⟨B, h⟩
  exact Matrix.isUnit_det_of_right_inverse (gaussJordan_correct_partial A B h).1

/-- `invert_diagonal_blocks` as a whole.  If the matrix is block
    diagonal with respect to the (positive) sizes, i.e. equals the block-diagonal assembly of its
    own diagonal blocks, then the assembled result is the two-sided inverse (list level:
    `X·A = I`; as Mathlib matrices also `A·X = 1` and `A⁻¹ = X`).  The driver re-checks this
    identity at run time, redundantly. -/
theorem invertDiagonalBlocks_correct (n : Nat) (A : Mat) (sizes : List Nat) (r : BlockInverse)
    (hsq : isSquare n A = true) (hsz : (sizes.filter (· > 0)).sum = n)
    (hbd : A = denseBlockDiag n 0 (extractBlocks A 0 (sizes.filter (· > 0))))
    (h : invertDiagonalBlocks A sizes = some r) :
    matMul n r.dense A = identity n ∧ toMatrix n A * toMatrix n r.dense = 1 ∧
      (toMatrix n A)⁻¹ = toMatrix n r.dense := by
  obtain ⟨hl, hw⟩ := (isSquare_iff n A).mp hsq
  obtain ⟨hmul, hYl, hYw⟩ := invertDiagonalBlocks_left n A sizes r hl hsz hbd h
  have hM := toMatrix_mul_of_matMul n A r.dense hl hw hYl hYw hmul
  exact ⟨hmul, mul_eq_one_comm.mp hM, Matrix.inv_eq_left_inv hM⟩

/-- `invert_permuted_block_diag_matrix` as a whole, for the executable
    model.  If `row_perm`, `col_perm` are permutations and `A[row_perm, :][:, col_perm]` is block
    diagonal with the given sizes, then whatever the model returns is the inverse of `A`. -/
theorem invertPermuted_correct (n : Nat) (A : Mat) (rp cp sizes : List Nat) (X : Mat)
    (hr : rp.Perm (List.range n)) (hc : cp.Perm (List.range n))
    (hsz : (sizes.filter (· > 0)).sum = n)
    (hbd : permute A rp cp
      = denseBlockDiag n 0 (extractBlocks (permute A rp cp) 0 (sizes.filter (· > 0))))
    (h : invertPermuted n A rp cp sizes = some X) :
    toMatrix n X * toMatrix n A = 1 ∧ toMatrix n A * toMatrix n X = 1 ∧
      (toMatrix n A)⁻¹ = toMatrix n X := by
  have hM := invertPermuted_left n A rp cp sizes X hr hc hsz hbd h
  exact ⟨hM, mul_eq_one_comm.mp hM, Matrix.inv_eq_left_inv hM⟩

/-- `invertDiagonalBlocks_correct` with its hypotheses as ONE decidable input
    condition `blockHyp`, which the driver evaluates on every case (answer field `hyp_ok`). -/
theorem invertDiagonalBlocks_correct_checked (n : Nat) (A : Mat) (sizes : List Nat)
    (r : BlockInverse) (hyp : blockHyp n A sizes = true)
    (h : invertDiagonalBlocks A sizes = some r) :
    matMul n r.dense A = identity n ∧ toMatrix n A * toMatrix n r.dense = 1 ∧
      (toMatrix n A)⁻¹ = toMatrix n r.dense := by
  simp only [blockHyp, isBlockDiag, Bool.and_eq_true, decide_eq_true_eq] at hyp
  exact invertDiagonalBlocks_correct n A sizes r hyp.1.1 hyp.1.2 hyp.2 h

/-- the hypotheses of `invertPermuted_correct` as the decidable
    input condition `pipelineHyp` (permutations; sizes sum to `n`; the permuted matrix equals the
    block-diagonal assembly of its diagonal blocks), evaluated by the driver on every case. -/
theorem invertPermuted_correct_checked (n : Nat) (A : Mat) (rp cp sizes : List Nat) (X : Mat)
    (hyp : pipelineHyp n A rp cp sizes = true) (h : invertPermuted n A rp cp sizes = some X) :
    toMatrix n X * toMatrix n A = 1 ∧ toMatrix n A * toMatrix n X = 1 ∧
      (toMatrix n A)⁻¹ = toMatrix n X := by
  simp only [pipelineHyp, isBlockDiag, Bool.and_eq_true, decide_eq_true_eq] at hyp
  exact invertPermuted_correct n A rp cp sizes X (isPermOfRange_perm n rp hyp.1.1.1)
    (isPermOfRange_perm n cp hyp.1.1.2) hyp.1.2 hyp.2 h

/-- search followed by inversion (driver op `pinv`): `invertPermuted_correct_checked` at the triple
    that `permSearch` returns.  The search hypothesis is not used: that the returned triple always
    passes the decidable check is not proved (see the head of this file), so the check is assumed. -/
theorem permSearch_invert_correct (n : Nat) (A : Mat) (r : PermResult) (X : Mat)
    (_hs : permSearch n n A = .ok r)
    (hyp : pipelineHyp n A r.rowPerm r.colPerm r.sizes = true)
    (h : invertPermuted n A r.rowPerm r.colPerm r.sizes = some X) :
    (toMatrix n A)⁻¹ = toMatrix n X :=
  (invertPermuted_correct_checked n A _ _ _ X hyp h).2.2

/-- option handling of `invert_diagonal_blocks`.  A result is
    returned exactly for `method ∈ {None, "numba", "python"}` on csr/csc input and is then the
    result of the common inverter (so the theorems above apply to every method); an unknown
    method is a `ValueError` whatever the input, a wrong storage format a `TypeError`. -/
theorem invertDiagonalBlocksOpt_spec (fmtOk : Bool) (method : Option String) (A : Mat) (s : List Nat) :
    (∀ r, invertDiagonalBlocksOpt fmtOk method A s = .ok r ↔
      ((method = none ∨ method = some "numba" ∨ method = some "python") ∧ fmtOk = true ∧
        invertDiagonalBlocks A s = some r)) ∧
    (invertDiagonalBlocksOpt fmtOk method A s = .error .unknownMethod ↔
      ¬ (method = none ∨ method = some "numba" ∨ method = some "python")) := by
  unfold invertDiagonalBlocksOpt
  have hiff : ((method == none || method == some "numba" || method == some "python") = true) ↔
      (method = none ∨ method = some "numba" ∨ method = some "python") := by
    simp only [Bool.or_eq_true, beq_iff_eq, or_assoc]
  split
  · rename_i hc
    have hm := hiff.mp hc
    cases fmtOk <;> cases hinv : invertDiagonalBlocks A s <;> simp [hm]
  · rename_i hc
    have hm : ¬ (method = none ∨ method = some "numba" ∨ method = some "python") :=
      fun h => hc (hiff.mpr h)
    simp [hm]

/-- the two entry points of `block_diag_index` agree — for square
    blocks the row indices of the two-argument branch are the column indices the one-argument
    branch puts into the csr matrix — and the two index arrays have equal length. -/
theorem blockDiagIndex_rect_square (o : Nat) (sz m n : List Nat) (ro co : Nat) :
    (blockDiagIndexRect o o sz sz).1 = blockDiagIndex o sz ∧
      (blockDiagIndexRect ro co m n).1.length = (blockDiagIndexRect ro co m n).2.length :=
  ⟨blockDiagIndexRect_square o sz, blockDiagIndexRect_lengths ro co m n⟩

/-- every block handed to `invertAll` is inverted by `inverse` (so `gaussJordan_correct` applies
    block by block); the results are square and have the sizes of the blocks -/
theorem invertAll_correct (Bs Xs : List Mat) (h : invertAll Bs = some Xs) :
    List.Forall₂ (fun B X => inverse B = some X) Bs Xs ∧ SquareBlocks Xs ∧
      Xs.map List.length = Bs.map List.length := by
  have h1 := invertAll_forall₂ Bs Xs h
  exact ⟨h1, forall₂_inverse_square Bs Xs h1⟩

/-- the index bookkeeping of `block_diag_index` / `block_diag_matrix`.
    Zero sizes are dropped; the blocks that are inverted are the diagonal blocks of `A` with the
    given sizes; and whenever the sizes fit into the matrix, the three csr arrays of the result
    are exactly the row-wise listing (`layoutRows`) of the inverted blocks: row `q` of block `k`
    (offset `o_k`) stores the columns `o_k … o_k + s_k - 1` with the values of row `q` of the
    inverse of block `k`, and `indptr` is the running sum of the row lengths. -/
theorem blockDiag_layout (A : Mat) (s : List Nat) (r : BlockInverse)
    (h : invertDiagonalBlocks A s = some r) :
    r.sizes = s.filter (· > 0) ∧
    List.Forall₂ (fun B X => inverse B = some X) (extractBlocks A 0 r.sizes) r.blocks ∧
    (r.sizes.sum ≤ A.length →
      r.indices.zip r.data = (layoutRows 0 r.blocks).flatten ∧
      r.indices.length = r.data.length ∧
      r.indptr = 0 :: cumsumFrom 0 ((layoutRows 0 r.blocks).map List.length)) := by
  unfold invertDiagonalBlocks at h
  simp only at h
  split at h
  · cases h
  · rename_i inv hinv
    simp only [Option.some.injEq] at h
    subst h
    obtain ⟨h1, hsq, hlen⟩ := invertAll_correct _ _ hinv
    refine ⟨rfl, h1, ?_⟩
    intro hfit
    have hsz : inv.map List.length = s.filter (· > 0) := by
      rw [hlen]; exact extractBlocks_lengths A 0 _ (by simpa using hfit)
    have hl := layout_entries 0 inv hsq
    rw [hsz] at hl
    refine ⟨hl.1, hl.2, ?_⟩
    show blockDiagIndptr _ = _
    rw [blockDiagIndptr, ← hsz, layout_rowLengths 0 inv hsq]

/-- every non-zero entry of a square matrix lies inside one computed
    component, i.e. rows and columns of different components do not interact. -/
theorem components_closed (n : Nat) (A : Mat) (hsq : isSquare n A = true) (i j : Nat)
    (h : entry A i j ≠ 0) :
    ∃ c ∈ components n (labels n (edges A)), i ∈ c.1 ∧ j ∈ c.2 := by
  obtain ⟨hi, hj⟩ := entry_ne_zero_lt n A hsq i j h
  have hcl := labels_closed n (edges A)
    (fun e he => entry_ne_zero_lt n A hsq e.1 e.2 ((mem_edges A e.1 e.2).mp he)) (i, j)
    ((mem_edges A i j).mpr h)
  -- the component is the class of the label `l` of row `i`, which column `j` shares
  have hil : i < (labels n (edges A)).length := by rw [(labInv_labels n (edges A)).len]; omega
  have e1 := List.getElem?_eq_getElem hil
  have e2 := hcl ▸ e1
  have hb := (labInv_labels n (edges A)).bound _ _ e1
  generalize (labels n (edges A))[i] = l at e1 e2 hb
  have hr := (mem_rowsOf _ _ _ _).mpr ⟨hi, e1⟩
  have hc := (mem_colsOf _ _ _ _).mpr ⟨hj, e2⟩
  exact ⟨_, (mem_components _ _ _).mpr ⟨l, hb, rfl, List.ne_nil_of_mem hr, List.ne_nil_of_mem hc⟩, hr, hc⟩

/-- the computed components are not coarser than the connected components:
    any two nodes (row `i` ↦ `i`, column `j` ↦ `n + j`) of one computed component are connected
    by a path of non-zero entries. Together with `components_closed` the computed components
    ARE the connected components of the bipartite pattern graph. -/
theorem components_minimal (n : Nat) (A : Mat) (c : List Nat × List Nat)
    (hc : c ∈ components n (labels n (edges A))) (u v : Nat)
    (hu : u ∈ blockNodes n c) (hv : v ∈ blockNodes n c) :
    Relation.EqvGen (fun u v => ∃ i j, entry A i j ≠ 0 ∧ u = i ∧ v = n + j) u v := by
  have := components_minimal_aux n (edges A) c hc u v hu hv
  refine Relation.EqvGen.mono ?_ u v this
  rintro a b ⟨e, he, rfl, rfl⟩
  exact ⟨e.1, e.2, (mem_edges A e.1 e.2).mp he, rfl, rfl⟩

/-- the computed blocks partition rows and columns.  Whenever
    `generate_permutation_to_block_diag_matrix` (model `permSearch`) returns, `row_perm` is a
    permutation of `0 … n-1`; if moreover no row of the matrix is entirely zero (true for every
    nonsingular matrix), `col_perm` is a permutation of `0 … n-1` as well.  (With an all-zero
    row the code pairs it with the column of the same index, which need not be free: the
    hypothesis is necessary, see the second `example` below.) -/
theorem components_partition (n : Nat) (A : Mat) (r : PermResult) (hsq : isSquare n A = true)
    (h : permSearch n n A = .ok r) :
    r.rowPerm.Perm (List.range n) ∧
      ((∀ i, i < n → ∃ j, entry A i j ≠ 0) → r.colPerm.Perm (List.range n)) := by
  rcases permSearch_cases n A r h with ⟨_, _, hr, hc, _⟩ | ⟨_, hsqr, hb, hr, hc, _⟩
  · rw [hr, hc]; exact ⟨List.Perm.refl _, fun _ => List.Perm.refl _⟩
  · rw [hr, hc, hb, flatMap_blocks _ (fun _ => rfl), flatMap_blocks _ (fun _ => rfl)]
    refine ⟨rowPerm_perm_aux n _, ?_⟩
    intro hrow
    have hmiss : missingRows n (components n (labels n (edges A))) = [] := by
      apply List.eq_nil_iff_forall_not_mem.mpr
      intro i hi
      obtain ⟨hin, hnot⟩ := (mem_missingRows _ _ _).mp hi
      obtain ⟨j, hj⟩ := hrow i hin
      obtain ⟨c, hc, hic, _⟩ := components_closed n A hsq i j hj
      exact hnot (List.mem_flatMap.mpr ⟨c, hc, hic⟩)
    rw [hmiss, List.append_nil]
    obtain ⟨hnd, hlt⟩ := components_flatMap n (labels n (edges A)) (·.2)
      (fun j => (labels n (edges A))[n + j]?) (fun _ => rfl)
    apply perm_range_of_nodup n _ hnd hlt
    rw [← sum_length_eq _ hsqr]
    have := (rowPerm_perm_aux n (labels n (edges A))).length_eq
    rw [hmiss, List.append_nil] at this
    simpa using this

/-- what the returned triple means.  The permutations are the
    concatenations of the rows / columns of the blocks, `block_sizes` are the block lengths, every
    block has as many rows as columns, and every non-zero entry of the matrix lies inside a block:
    `A[row_perm, :][:, col_perm]` is block diagonal with the reported square blocks. -/
theorem permSearch_blocks_square (n : Nat) (A : Mat) (r : PermResult) (hsq : isSquare n A = true)
    (h : permSearch n n A = .ok r) :
    r.rowPerm = r.blocks.flatMap (·.1) ∧ r.colPerm = r.blocks.flatMap (·.2) ∧
    r.sizes = r.blocks.map (·.1.length) ∧ (∀ b ∈ r.blocks, b.1.length = b.2.length) ∧
    (∀ i j, entry A i j ≠ 0 → ∃ b ∈ r.blocks, i ∈ b.1 ∧ j ∈ b.2) := by
  rcases permSearch_cases n A r h with ⟨_, hb, hr, hc, hs⟩ | ⟨_, hsqr, hb, hr, hc, hs⟩
  · refine ⟨by simp [hr, hb], by simp [hc, hb], by simp [hs, hb], by simp [hb], ?_⟩
    intro i j hij
    obtain ⟨hi, hj⟩ := entry_ne_zero_lt n A hsq i j hij
    exact ⟨_, by rw [hb]; exact List.mem_singleton_self _, by simpa using hi, by simpa using hj⟩
  · refine ⟨hr, hc, hs, ?_, ?_⟩
    · intro b hbm
      rw [hb] at hbm
      rcases List.mem_append.mp hbm with hm | hm
      · exact hsqr b hm
      · obtain ⟨i, _, rfl⟩ := List.mem_map.mp hm
        rfl
    · intro i j hij
      obtain ⟨c, hc, h1, h2⟩ := components_closed n A hsq i j hij
      exact ⟨c, by rw [hb]; exact List.mem_append_left _ hc, h1, h2⟩

/-! ### non-vacuity: concrete data -/

/-- the 2×2 block `[[2,1],[1,3]]` (with the 1×1 block `[4]` it makes the 3×3 matrix of the examples below) -/
example : inverse [[2, 1], [1, 3]] = some [[3/5, -1/5], [-1/5, 2/5]] := by decide +kernel

/-- pivoting: zero diagonal -/
example : inverse [[0, 2], [4, 0]] = some [[0, 1/4], [1/2, 0]] := by decide +kernel

/-- singular block: no pivot -/
example : inverse [[1, 2], [2, 4]] = none := by decide +kernel

example : (invertDiagonalBlocks [[2, 1, 0], [1, 3, 0], [0, 0, 4]] [2, 0, 1]).map
    (fun r => (r.indices, r.indptr, r.data, r.dense))
    = some ([0, 1, 0, 1, 2], [0, 2, 4, 5], [3/5, -1/5, -1/5, 2/5, 1/4],
            [[3/5, -1/5, 0], [-1/5, 2/5, 0], [0, 0, 1/4]]) := by decide +kernel

/-- a permuted block-diagonal matrix: components {row 0; col 2} and {rows 1,2; cols 0,1} -/
example : (match permSearch 3 3 [[0, 0, 4], [2, 1, 0], [1, 3, 0]] with
    | .ok r => some (r.rowPerm, r.colPerm, r.sizes)
    | .error _ => none) = some ([0, 1, 2], [2, 0, 1], [1, 2]) := by decide +kernel

/-- the permuted 3×3 matrix of the examples, inverted once: the evaluation is shared by the examples below -/
theorem invertPermuted_example :
    invertPermuted 3 [[0, 0, 4], [2, 1, 0], [1, 3, 0]] [0, 1, 2] [2, 0, 1] [1, 2]
      = some [[0, 3/5, -1/5], [0, -1/5, 2/5], [1/4, 0, 0]] := by decide +kernel

/-- … and its input condition, evaluated once -/
theorem pipelineHyp_example :
    pipelineHyp 3 [[0, 0, 4], [2, 1, 0], [1, 3, 0]] [0, 1, 2] [2, 0, 1] [1, 2] = true := by decide +kernel

example : invertPermuted 3 [[0, 0, 4], [2, 1, 0], [1, 3, 0]] [0, 1, 2] [2, 0, 1] [1, 2]
    = some [[0, 3/5, -1/5], [0, -1/5, 2/5], [1/4, 0, 0]] := invertPermuted_example

/-- the hypothesis "no all-zero row" of `components_partition` is needed: zero row 1, zero
    column 0 — the code (and the model) return `col_perm = [1, 2, 1]`, not a permutation -/
example : (match permSearch 3 3 [[0, 1, 0], [0, 0, 0], [0, 0, 1]] with
    | .ok r => some (r.rowPerm, r.colPerm, r.sizes)
    | .error _ => none) = some ([0, 2, 1], [1, 2, 1], [1, 1, 1]) := by decide +kernel

/-- outside the property (singular input): zero row `i = 1` and zero column `j = 0 ≠ i` — every
    component is square, the all-zero row is appended as the 1×1 block (1, 1), and `col_perm`
    contains the column 1 twice while column 0 is missing -/
example : (match permSearch 3 3 [[0, 1, 0], [0, 0, 0], [0, 0, 1]] with
    | .ok r => decide (r.colPerm.Nodup) | .error _ => true) = false := by decide +kernel

/-- non-vacuity of `invertPermuted_correct` (through `invertPermuted_correct_checked`, which unpacks
    `pipelineHyp` into its hypotheses): all of them hold for the 3×3 example above -/
example : (toMatrix 3 [[0, 0, 4], [2, 1, 0], [1, 3, 0]])⁻¹
    = toMatrix 3 [[0, 3/5, -1/5], [0, -1/5, 2/5], [1/4, 0, 0]] :=
  (invertPermuted_correct_checked 3 _ _ _ _ _ pipelineHyp_example invertPermuted_example).2.2

/-- non-vacuity of the `_checked` theorems: the decidable conditions hold on concrete data -/
example : blockHyp 3 [[2, 1, 0], [1, 3, 0], [0, 0, 4]] [2, 0, 1] = true := by decide +kernel
example : pipelineHyp 3 [[0, 0, 4], [2, 1, 0], [1, 3, 0]] [0, 1, 2] [2, 0, 1] [1, 2] = true :=
  pipelineHyp_example
/-- … and fail when the sizes do not expose the blocks -/
example : pipelineHyp 3 [[0, 0, 4], [2, 1, 0], [1, 3, 0]] [0, 1, 2] [2, 0, 1] [2, 1] = false := by
  decide +kernel

example : (match invertDiagonalBlocksOpt true (some "cython") [[2]] [1] with
    | .error .unknownMethod => 1 | _ => 0) = 1 := by decide +kernel
example : (match invertDiagonalBlocksOpt false none [[2]] [1] with
    | .error .badFormat => 1 | _ => 0) = 1 := by decide +kernel

/-- the docstring example of `block_diag_index`: m = [2, 3], n = [1, 2] -/
example : blockDiagIndexRect 0 0 [2, 3] [1, 2] = ([0, 1, 2, 3, 4, 2, 3, 4], [0, 0, 1, 1, 1, 2, 2, 2]) := by
  decide +kernel

/-- non-vacuity of `gaussJordan_complete`: a unit determinant -/
example : ∃ B, inverse [[2, 1], [1, 3]] = some B :=
  gaussJordan_complete [[2, 1], [1, 3]] (by decide) (by
    show IsUnit (toMatrix 2 [[2, 1], [1, 3]]).det
    rw [Matrix.det_fin_two]
    exact isUnit_iff_ne_zero.mpr (by decide +kernel))

/-- a component with more columns than rows: `AssertionError` -/
example : (match permSearch 3 3 [[1, 1, 0], [0, 0, 0], [0, 0, 1]] with
    | .ok _ => 0 | .error .assertionError => 1 | .error .valueError => 2) = 1 := by decide +kernel

end PorepyVerif.C37
