/-
C37 — the graph side of `permSearch`: label merging over the edge list computes connected components
(one invariant `LabInv` of the fold: equal labels imply connectivity, merged edges join their end
points), which pairs the edge lists of the model contain, and the classes `components` reads off a
label list (rows and columns alike: duplicate-free, below `n`).
-/
import PorepyVerif.C37.Model
import Mathlib.Logic.Relation
import Mathlib.Data.List.Nodup

namespace PorepyVerif.C37

theorem getElem?_relabel (a b : Nat) (lab : List Nat) (u : Nat) :
    (relabel a b lab)[u]? = lab[u]?.map (fun l => if l = b then a else l) := by
  simp [relabel]

@[simp] theorem length_relabel (a b : Nat) (lab : List Nat) : (relabel a b lab).length = lab.length := by
  simp [relabel]

@[simp] theorem length_mergeEdge (n : Nat) (lab : List Nat) (e : Nat × Nat) :
    (mergeEdge n lab e).length = lab.length := by
  unfold mergeEdge
  split <;> simp

/-- node-level edge relation of the bipartite graph: row node `i` — column node `n + j` -/
def Edge (n : Nat) (es : List (Nat × Nat)) (u v : Nat) : Prop := ∃ e ∈ es, u = e.1 ∧ v = n + e.2

/-- connectivity in the (undirected) graph -/
def Conn (n : Nat) (es : List (Nat × Nat)) : Nat → Nat → Prop := Relation.EqvGen (Edge n es)

/-- invariant of the fold over the edges `es`, of which `done` have been merged: labels are node names,
    equal labels imply connectivity, the end points of a merged edge (within range) carry the same label -/
structure LabInv (n : Nat) (es done : List (Nat × Nat)) (lab : List Nat) : Prop where
  len : lab.length = 2 * n
  bound : ∀ (u l : Nat), lab[u]? = some l → l < 2 * n
  sound : ∀ (u v l : Nat), lab[u]? = some l → lab[v]? = some l → Conn n es u v
  closed : ∀ e ∈ done, e.1 < n → e.2 < n → lab[e.1]? = lab[n + e.2]?

theorem labInv_init (n : Nat) (es : List (Nat × Nat)) : LabInv n es [] (List.range (2 * n)) := by
  -- at the start every node carries its own name
  have own : ∀ u l, (List.range (2 * n))[u]? = some l → u = l ∧ l < 2 * n := by
    intro u l h
    obtain ⟨h1, h2⟩ := List.getElem?_eq_some_iff.mp h
    rw [List.getElem_range] at h2
    rw [List.length_range] at h1
    exact ⟨h2, h2 ▸ h1⟩
  refine ⟨List.length_range, fun u l h => (own u l h).2, fun u v l hu hv => ?_, fun _ => nofun⟩
  rw [(own u l hu).1, (own v l hv).1]
  exact Relation.EqvGen.refl _

theorem mergeEdge_eq_map (n : Nat) (lab : List Nat) (e : Nat × Nat) :
    ∃ f : Nat → Nat, ∀ u : Nat, (mergeEdge n lab e)[u]? = lab[u]?.map f := by
  unfold mergeEdge
  split
  · rename_i a b _ _
    exact ⟨fun l => if l = b then a else l, fun u => getElem?_relabel a b lab u⟩
  · exact ⟨id, fun u => by simp⟩

/-- merging never separates nodes that already share a label -/
theorem mergeEdge_keeps (n : Nat) (lab : List Nat) (e : Nat × Nat) (u v : Nat)
    (h : lab[u]? = lab[v]?) : (mergeEdge n lab e)[u]? = (mergeEdge n lab e)[v]? := by
  obtain ⟨f, hf⟩ := mergeEdge_eq_map n lab e
  rw [hf, hf, h]

/-- merging joins the two end points of the edge -/
theorem mergeEdge_joins (n : Nat) (lab : List Nat) (e : Nat × Nat)
    (h1 : e.1 < lab.length) (h2 : n + e.2 < lab.length) :
    (mergeEdge n lab e)[e.1]? = (mergeEdge n lab e)[n + e.2]? := by
  unfold mergeEdge
  have e1 : lab[e.1]? = some lab[e.1] := List.getElem?_eq_getElem h1
  have e2 : lab[n + e.2]? = some lab[n + e.2] := List.getElem?_eq_getElem h2
  rw [e1, e2]
  simp only [getElem?_relabel, e1, e2, Option.map_some]
  simp

theorem labInv_merge (n : Nat) (es done : List (Nat × Nat)) (lab : List Nat) (h : LabInv n es done lab)
    (e : Nat × Nat) (he : e ∈ es) : LabInv n es (done ++ [e]) (mergeEdge n lab e) := by
  have hclosed : ∀ e' ∈ done ++ [e], e'.1 < n → e'.2 < n →
      (mergeEdge n lab e)[e'.1]? = (mergeEdge n lab e)[n + e'.2]? := by
    intro e' he' h1 h2
    rcases List.mem_append.mp he' with he' | he'
    · exact mergeEdge_keeps n lab e _ _ (h.closed e' he' h1 h2)
    · obtain rfl := List.mem_singleton.mp he'
      exact mergeEdge_joins n lab e' (by rw [h.len, Nat.two_mul]; exact Nat.lt_add_right n h1)
        (by rw [h.len, Nat.two_mul]; exact Nat.add_lt_add_left h2 n)
  generalize hm : mergeEdge n lab e = lab' at hclosed ⊢
  unfold mergeEdge at hm
  split at hm <;> subst hm
  · rename_i a b ha hb
    have hedge : Conn n es e.1 (n + e.2) := Relation.EqvGen.rel _ _ ⟨e, he, rfl, rfl⟩
    -- a node whose new label is `a` had label `a` or `b`, and is connected to the row node `e.1`
    have hrow : ∀ w z, lab[w]? = some z → (if z = b then a else z) = a → Conn n es w e.1 := by
      intro w z hz hza
      by_cases hzb : z = b
      · exact Relation.EqvGen.trans _ _ _ (h.sound w (n + e.2) b (hzb ▸ hz) hb)
          (Relation.EqvGen.symm _ _ hedge)
      · rw [if_neg hzb] at hza
        exact h.sound w e.1 a (hza ▸ hz) ha
    refine ⟨by rw [length_relabel, h.len], fun u l hu => ?_, fun u v l hu hv => ?_, hclosed⟩
    · rw [getElem?_relabel] at hu
      obtain ⟨x, hx, rfl⟩ := Option.map_eq_some_iff.mp hu
      split
      · exact h.bound _ _ ha
      · exact h.bound _ _ hx
    · rw [getElem?_relabel] at hu hv
      obtain ⟨x, hx, hxl⟩ := Option.map_eq_some_iff.mp hu
      obtain ⟨y, hy, hyl⟩ := Option.map_eq_some_iff.mp hv
      by_cases hl : l = a
      · exact Relation.EqvGen.trans _ _ _ (hrow u x hx (hxl.trans hl))
          (Relation.EqvGen.symm _ _ (hrow v y hy (hyl.trans hl)))
      · -- neither label was `b`, so both are unchanged
        have hxb : x ≠ b := fun hxb => hl (by rw [← hxl, if_pos hxb])
        have hyb : y ≠ b := fun hyb => hl (by rw [← hyl, if_pos hyb])
        rw [if_neg hxb] at hxl
        rw [if_neg hyb] at hyl
        exact h.sound u v l (hxl ▸ hx) (hyl ▸ hy)
  · exact ⟨h.len, h.bound, h.sound, hclosed⟩

theorem labInv_foldl (n : Nat) (es0 done es : List (Nat × Nat)) (hsub : ∀ e ∈ es, e ∈ es0) (lab : List Nat)
    (h : LabInv n es0 done lab) : LabInv n es0 (done ++ es) (es.foldl (mergeEdge n) lab) := by
  induction es generalizing done lab with
  | nil => rwa [List.append_nil]
  | cons e es ih =>
    rw [List.append_cons]
    exact ih _ (fun e' he' => hsub e' (List.mem_cons_of_mem _ he')) _
      (labInv_merge n es0 done lab h e (hsub e List.mem_cons_self))

theorem labInv_labels (n : Nat) (es : List (Nat × Nat)) : LabInv n es es (labels n es) :=
  labInv_foldl n es [] es (fun _ h => h) _ (labInv_init n es)

theorem labels_closed (n : Nat) (es : List (Nat × Nat)) (hr : ∀ e ∈ es, e.1 < n ∧ e.2 < n) :
    ∀ e ∈ es, (labels n es)[e.1]? = (labels n es)[n + e.2]? :=
  fun e he => (labInv_labels n es).closed e he (hr e he).1 (hr e he).2

theorem rowEdges_cons (i j : Nat) (v : Rat) (vs : Vec) :
    rowEdges i j (v :: vs) = if v ≠ 0 then (i, j) :: rowEdges i (j + 1) vs else rowEdges i (j + 1) vs :=
  rfl

theorem mem_rowEdges (i j0 : Nat) (vs : Vec) (a b : Nat) :
    (a, b) ∈ rowEdges i j0 vs ↔ a = i ∧ ∃ k, b = j0 + k ∧ vs[k]?.getD 0 ≠ 0 := by
  induction vs generalizing j0 with
  | nil => simp [rowEdges]
  | cons v vs ih =>
    -- the index into `v :: vs` is `0` or a successor
    have hsplit : (∃ k, b = j0 + k ∧ (v :: vs)[k]?.getD 0 ≠ 0) ↔
        (b = j0 ∧ v ≠ 0) ∨ ∃ k, b = j0 + 1 + k ∧ vs[k]?.getD 0 ≠ 0 := by
      rw [← Nat.or_exists_add_one]
      simp only [Nat.add_right_comm j0 1]
      exact Iff.rfl
    rw [hsplit, and_or_left, ← ih (j0 + 1), rowEdges_cons]
    split
    · rename_i hv
      rw [List.mem_cons, Prod.mk.injEq]
      simp only [hv, ne_eq, not_false_eq_true, and_true]
    · rename_i hv
      simp only [hv, and_false, false_or]

theorem mem_edgesFrom (i0 : Nat) (rs : Mat) (a b : Nat) :
    (a, b) ∈ edgesFrom i0 rs ↔ ∃ k, a = i0 + k ∧ (rs[k]?.getD [])[b]?.getD 0 ≠ 0 := by
  induction rs generalizing i0 with
  | nil => simp [edgesFrom]
  | cons r rs ih =>
    rw [← Nat.or_exists_add_one]
    show (a, b) ∈ rowEdges i0 0 r ++ edgesFrom (i0 + 1) rs ↔ _
    rw [List.mem_append, mem_rowEdges, ih]
    simp only [Nat.zero_add, exists_eq_left', Nat.add_right_comm i0 1]
    exact Iff.rfl

theorem mem_rowsOf (n : Nat) (lab : List Nat) (l i : Nat) :
    i ∈ rowsOf n lab l ↔ i < n ∧ lab[i]? = some l := by
  simp only [rowsOf, List.mem_filter, List.mem_range, beq_iff_eq]

theorem mem_colsOf (n : Nat) (lab : List Nat) (l j : Nat) :
    j ∈ colsOf n lab l ↔ j < n ∧ lab[n + j]? = some l := by
  simp only [colsOf, List.mem_filter, List.mem_range, beq_iff_eq]

theorem mem_components (n : Nat) (lab : List Nat) (c : List Nat × List Nat) :
    c ∈ components n lab ↔
      ∃ l, l < 2 * n ∧ c = (rowsOf n lab l, colsOf n lab l) ∧ c.1 ≠ [] ∧ c.2 ≠ [] := by
  simp only [components, groups, List.mem_filter, List.mem_map, List.mem_range, Bool.and_eq_true,
    Bool.not_eq_true', List.isEmpty_eq_false_iff]
  constructor
  · rintro ⟨⟨l, hl, rfl⟩, h1, h2⟩
    exact ⟨l, hl, rfl, h1, h2⟩
  · rintro ⟨l, hl, rfl, h1, h2⟩
    exact ⟨⟨l, hl, rfl⟩, h1, h2⟩

/-- Rows (`π = (·.1)`, `f i = lab[i]?`) and columns (`π = (·.2)`, `f j = lab[n + j]?`) of the
    components alike: each side of a component is the class of one label among `0 … n-1`, classes of
    different labels are disjoint, so the concatenation has no duplicates and stays below `n`. -/
theorem components_flatMap (n : Nat) (lab : List Nat) (π : List Nat × List Nat → List Nat)
    (f : Nat → Option Nat)
    (hπ : ∀ l, π (rowsOf n lab l, colsOf n lab l) = (List.range n).filter (fun i => f i == some l)) :
    ((components n lab).flatMap π).Nodup ∧ ∀ i ∈ (components n lab).flatMap π, i < n := by
  have hside : ∀ c ∈ components n lab, ∃ l, π c = (List.range n).filter (fun i => f i == some l) := by
    intro c hc
    obtain ⟨l, _, rfl, _⟩ := (mem_components n lab c).mp hc
    exact ⟨l, hπ l⟩
  refine ⟨List.nodup_flatMap.mpr ⟨fun c hc => ?_, ?_⟩, fun i hi => ?_⟩
  · obtain ⟨l, hl⟩ := hside c hc
    rw [hl]
    exact List.Nodup.filter _ List.nodup_range
  · refine List.Pairwise.sublist List.filter_sublist (List.pairwise_map.mpr ?_)
    refine List.Pairwise.imp (fun {l l'} (hl : l < l') i h1 h2 => ?_) List.pairwise_lt_range
    rw [hπ, List.mem_filter, beq_iff_eq] at h1 h2
    exact Nat.ne_of_lt hl (Option.some.inj (h1.2.symm.trans h2.2))
  · obtain ⟨c, hc, hic⟩ := List.mem_flatMap.mp hi
    obtain ⟨l, hl⟩ := hside c hc
    rw [hl] at hic
    exact List.mem_range.mp (List.mem_filter.mp hic).1

end PorepyVerif.C37
