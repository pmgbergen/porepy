/-
C28 — the specification `segInter3` / `segInter2` and the point sets: lines through two points with a parameter (`lineAt`), the
branches of the specification characterised by "the lines meet" / "the points are colinear", its points are the common points
of the two segments, and results with the same points are the same (`Res.Is`).  The 2-D facts come from 3-D through `emb`.
Exact algebra over ℚ; no tolerance.
-/
import Mathlib.Tactic.Ring
import Mathlib.Tactic.Linarith
import Mathlib.Tactic.LinearCombination
import Mathlib.Tactic.SplitIfs
import Mathlib.Algebra.Order.Field.Basic
import Mathlib.Algebra.Order.Field.Rat
import Mathlib.Order.Lattice
import PorepyVerif.C28.Model

namespace PorepyVerif.C28

theorem Res.same_refl {α : Type} (r : Res α) : Res.same r r := by
  cases r <;> simp [Res.same]

theorem Res.same_of_eq {α : Type} {r s : Res α} (h : r = s) : Res.same r s := h ▸ Res.same_refl r

theorem ite_or_none {α : Type} (A B : Prop) [Decidable A] [Decidable B] (X : Res α) :
    (if A then Res.none else if B then .none else X) = if A ∨ B then .none else X := by
  by_cases hA : A <;> by_cases hB : B <;> simp [hA, hB]

theorem ite_none_eq_segment {α : Type} {C : Prop} [Decidable C] {X : Res α} {p q : α}
    (h : (if C then Res.none else X) = .segment p q) : ¬ C ∧ X = .segment p q := by
  split_ifs at h with hc
  exact ⟨hc, h⟩

theorem eq_zero_of_not_ne {x y z : Rat} (h : ¬ (x ≠ 0 ∨ y ≠ 0 ∨ z ≠ 0)) : x = 0 ∧ y = 0 ∧ z = 0 := by
  simpa only [not_or, ne_eq, not_not] using h

theorem normal_sq_ne_zero {nx ny nz : Rat} (hn : nx ≠ 0 ∨ ny ≠ 0 ∨ nz ≠ 0) : nx * nx + ny * ny + nz * nz ≠ 0 := by
  have hx := mul_self_nonneg nx; have hy := mul_self_nonneg ny; have hz := mul_self_nonneg nz
  rcases hn with h | h | h <;> have := mul_self_pos.mpr h <;> linarith

/-- the point of line `a b` with parameter `t` -/
def lineAt (a b : P3) (t : Rat) : P3 :=
  ⟨a.x + t * (b.x - a.x), a.y + t * (b.y - a.y), a.z + t * (b.z - a.z)⟩

theorem lineAt_get (a b : P3) (t : Rat) (ax : Ax) :
    (lineAt a b t).get ax = a.get ax + t * (b.get ax - a.get ax) := by cases ax <;> rfl

theorem lineAt_zero (a b : P3) : lineAt a b 0 = a := by
  cases a; simp [lineAt]

theorem lineAt_one (a b : P3) : lineAt a b 1 = b := by
  cases a; cases b; simp [lineAt]

theorem eq_lineAt {a b c : P3} {t : Rat} (hx : c.x - a.x = t * (b.x - a.x)) (hy : c.y - a.y = t * (b.y - a.y))
    (hz : c.z - a.z = t * (b.z - a.z)) : c = lineAt a b t := by
  cases c; simp only [lineAt, P3.mk.injEq]
  exact ⟨by linarith, by linarith, by linarith⟩

theorem P3.get_mk_sub (a b : P3) (ax : Ax) :
    (⟨b.x - a.x, b.y - a.y, b.z - a.z⟩ : P3).get ax = b.get ax - a.get ax := by cases ax <;> rfl

theorem P3.ext_get {p q : P3} (h : ∀ ax, p.get ax = q.get ax) : p = q := by
  cases p; cases q; simp only [P3.mk.injEq]; exact ⟨h .x, h .y, h .z⟩

/-- the system `s·d1 − t·d2 = ds` in three coordinates, with `n = d1 × d2 ≠ 0`: it is solvable iff `ds·n = 0`, and then
    `s = (ds × d2)·n / n·n`, `t = (ds × d1)·n / n·n` as the specification writes them -/
theorem cross_iff {u1 v1 w1 u2 v2 w2 sx sy sz nx ny nz : Rat} (s t : Rat)
    (hx : nx = v1 * w2 - w1 * v2) (hy : ny = w1 * u2 - u1 * w2) (hz : nz = u1 * v2 - v1 * u2)
    (hn : nx * nx + ny * ny + nz * nz ≠ 0) :
    (s * u1 - t * u2 = sx ∧ s * v1 - t * v2 = sy ∧ s * w1 - t * w2 = sz) ↔
    sx * nx + sy * ny + sz * nz = 0 ∧
    s * (nx * nx + ny * ny + nz * nz) = (sy * w2 - sz * v2) * nx + (sz * u2 - sx * w2) * ny + (sx * v2 - sy * u2) * nz ∧
    t * (nx * nx + ny * ny + nz * nz) = (sy * w1 - sz * v1) * nx + (sz * u1 - sx * w1) * ny + (sx * v1 - sy * u1) * nz := by
  constructor
  · rintro ⟨rfl, rfl, rfl⟩
    subst hx hy hz
    exact ⟨by ring, by ring, by ring⟩
  · rintro ⟨h0, h1, h2⟩
    -- multiplied by `n·n`, each equation is a combination of the hypotheses in which `n` stays a variable
    refine ⟨mul_right_cancel₀ hn ?_, mul_right_cancel₀ hn ?_, mul_right_cancel₀ hn ?_⟩
    · linear_combination u1 * h1 - u2 * h2 - nx * h0 + (nx * sy - ny * sx) * hy + (nx * sz - nz * sx) * hz
    · linear_combination v1 * h1 - v2 * h2 - ny * h0 + (ny * sz - nz * sy) * hz + (ny * sx - nx * sy) * hx
    · linear_combination w1 * h1 - w2 * h2 - nz * h0 + (nz * sx - nx * sz) * hx + (nz * sy - ny * sz) * hy

theorem lineAt_get_eq_iff (a b c d : P3) (s t : Rat) (ax : Ax) : (lineAt a b s).get ax = (lineAt c d t).get ax ↔
    s * (b.get ax - a.get ax) - t * (d.get ax - c.get ax) = c.get ax - a.get ax := by
  rw [lineAt_get, lineAt_get, sub_eq_sub_iff_add_eq_add, add_comm]

theorem lineAt_eq_iff (a b c d : P3) (s t : Rat) : lineAt a b s = lineAt c d t ↔
    s * (b.x - a.x) - t * (d.x - c.x) = c.x - a.x ∧ s * (b.y - a.y) - t * (d.y - c.y) = c.y - a.y ∧
    s * (b.z - a.z) - t * (d.z - c.z) = c.z - a.z :=
  ⟨fun h => ⟨(lineAt_get_eq_iff a b c d s t .x).mp (by rw [h]), (lineAt_get_eq_iff a b c d s t .y).mp (by rw [h]),
      (lineAt_get_eq_iff a b c d s t .z).mp (by rw [h])⟩,
    fun ⟨hx, hy, hz⟩ => P3.ext_get fun ax => (lineAt_get_eq_iff a b c d s t ax).mpr (by cases ax <;> assumption)⟩

section NonParallel

variable (a b c d : P3)
  (hn : (b.y - a.y) * (d.z - c.z) - (b.z - a.z) * (d.y - c.y) ≠ 0 ∨
      (b.z - a.z) * (d.x - c.x) - (b.x - a.x) * (d.z - c.z) ≠ 0 ∨
      (b.x - a.x) * (d.y - c.y) - (b.y - a.y) * (d.x - c.x) ≠ 0)
include hn

theorem segInter3_of_meet {s t : Rat} (h : lineAt a b s = lineAt c d t) :
    segInter3 a b c d = if 0 ≤ s ∧ s ≤ 1 ∧ 0 ≤ t ∧ t ≤ 1 then .point (lineAt a b s) else .none := by
  have hnn := normal_sq_ne_zero hn
  obtain ⟨h0, h1, h2⟩ := (cross_iff s t rfl rfl rfl hnn).mp ((lineAt_eq_iff a b c d s t).mp h)
  unfold segInter3
  simp only []
  rw [if_pos hn, if_neg (not_not.mpr h0), (div_eq_iff hnn).mpr h1.symm, (div_eq_iff hnn).mpr h2.symm]
  rfl

theorem segInter3_of_no_meet (h : ∀ s t, lineAt a b s ≠ lineAt c d t) : segInter3 a b c d = .none := by
  unfold segInter3
  simp only []
  rw [if_pos hn, if_pos]
  intro h0
  have hnn := normal_sq_ne_zero hn
  exact h _ _ ((lineAt_eq_iff a b c d _ _).mpr
    ((cross_iff _ _ rfl rfl rfl hnn).mpr ⟨h0, div_mul_cancel₀ _ hnn, div_mul_cancel₀ _ hnn⟩))

theorem meet_unique {s t s' t' : Rat} (h : lineAt a b s = lineAt c d t) (h' : lineAt a b s' = lineAt c d t') :
    s' = s ∧ t' = t := by
  have hnn := normal_sq_ne_zero hn
  obtain ⟨-, h1, h2⟩ := (cross_iff s t rfl rfl rfl hnn).mp ((lineAt_eq_iff a b c d s t).mp h)
  obtain ⟨-, h1', h2'⟩ := (cross_iff s' t' rfl rfl rfl hnn).mp ((lineAt_eq_iff a b c d s' t').mp h')
  exact ⟨mul_right_cancel₀ hnn (h1'.trans h1.symm), mul_right_cancel₀ hnn (h2'.trans h2.symm)⟩

end NonParallel

theorem proj_of_cross (wx wy wz dx dy dz : Rat)
    (cx : wy * dz - wz * dy = 0) (cy : wz * dx - wx * dz = 0) (cz : wx * dy - wy * dx = 0)
    (hD : dx ≠ 0 ∨ dy ≠ 0 ∨ dz ≠ 0) :
    wx = (wx * dx + wy * dy + wz * dz) / (dx * dx + dy * dy + dz * dz) * dx ∧
    wy = (wx * dx + wy * dy + wz * dz) / (dx * dx + dy * dy + dz * dz) * dy ∧
    wz = (wx * dx + wy * dy + wz * dz) / (dx * dx + dy * dy + dz * dz) * dz := by
  have hn := normal_sq_ne_zero hD
  refine ⟨?_, ?_, ?_⟩ <;> rw [div_mul_eq_mul_div, eq_div_iff hn]
  · linear_combination dy * cz - dz * cy
  · linear_combination dz * cx - dx * cz
  · linear_combination dx * cy - dy * cx

section Parallel

variable (a b c d : P3)
  (pxy : (b.x - a.x) * (d.y - c.y) - (b.y - a.y) * (d.x - c.x) = 0)
  (pxz : (b.x - a.x) * (d.z - c.z) - (b.z - a.z) * (d.x - c.x) = 0)
  (pyz : (b.y - a.y) * (d.z - c.z) - (b.z - a.z) * (d.y - c.y) = 0)
include pxy pxz pyz

theorem parallel_prop (nd1 : b.x - a.x ≠ 0 ∨ b.y - a.y ≠ 0 ∨ b.z - a.z ≠ 0)
    (nd2 : d.x - c.x ≠ 0 ∨ d.y - c.y ≠ 0 ∨ d.z - c.z ≠ 0) :
    ∃ lam : Rat, lam ≠ 0 ∧ ∀ ax, b.get ax - a.get ax = lam * (d.get ax - c.get ax) := by
  obtain ⟨hu, hv, hw⟩ := proj_of_cross (b.x - a.x) (b.y - a.y) (b.z - a.z) (d.x - c.x) (d.y - c.y) (d.z - c.z)
    pyz (by linear_combination -pxz) pxy nd2
  generalize hlam : ((b.x - a.x) * (d.x - c.x) + (b.y - a.y) * (d.y - c.y) + (b.z - a.z) * (d.z - c.z)) /
    ((d.x - c.x) * (d.x - c.x) + (d.y - c.y) * (d.y - c.y) + (d.z - c.z) * (d.z - c.z)) = lam at hu hv hw
  have hlam0 : lam ≠ 0 := by
    rintro rfl
    rcases nd1 with h | h | h
    · apply h; rw [hu]; ring
    · apply h; rw [hv]; ring
    · apply h; rw [hw]; ring
  refine ⟨lam, hlam0, fun ax => ?_⟩
  cases ax
  · exact hu
  · exact hv
  · exact hw

theorem segInter3_parallel :
    segInter3 a b c d =
      if (c.y - a.y) * (b.z - a.z) - (c.z - a.z) * (b.y - a.y) ≠ 0 ∨
         (c.z - a.z) * (b.x - a.x) - (c.x - a.x) * (b.z - a.z) ≠ 0 ∨
         (c.x - a.x) * (b.y - a.y) - (c.y - a.y) * (b.x - a.x) ≠ 0 then Res.none
      else overlapParam (lineAt a b)
        (((c.x - a.x) * (b.x - a.x) + (c.y - a.y) * (b.y - a.y) + (c.z - a.z) * (b.z - a.z)) /
          ((b.x - a.x) * (b.x - a.x) + (b.y - a.y) * (b.y - a.y) + (b.z - a.z) * (b.z - a.z)))
        (((d.x - a.x) * (b.x - a.x) + (d.y - a.y) * (b.y - a.y) + (d.z - a.z) * (b.z - a.z)) /
          ((b.x - a.x) * (b.x - a.x) + (b.y - a.y) * (b.y - a.y) + (b.z - a.z) * (b.z - a.z))) := by
  unfold segInter3
  simp only []
  rw [if_neg]
  · rfl
  · rintro (h | h | h)
    · exact h pyz
    · apply h; linarith
    · exact h pxy

theorem segInter3_colinear
    (hcx : (c.y - a.y) * (b.z - a.z) - (c.z - a.z) * (b.y - a.y) = 0)
    (hcy : (c.z - a.z) * (b.x - a.x) - (c.x - a.x) * (b.z - a.z) = 0)
    (hcz : (c.x - a.x) * (b.y - a.y) - (c.y - a.y) * (b.x - a.x) = 0)
    (nd1 : b.x - a.x ≠ 0 ∨ b.y - a.y ≠ 0 ∨ b.z - a.z ≠ 0) :
    ∃ ts te, c = lineAt a b ts ∧ d = lineAt a b te ∧ segInter3 a b c d = overlapParam (lineAt a b) ts te := by
  obtain ⟨c1, c2, c3⟩ := proj_of_cross (c.x - a.x) (c.y - a.y) (c.z - a.z) (b.x - a.x) (b.y - a.y) (b.z - a.z)
    hcx hcy hcz nd1
  obtain ⟨d1, d2, d3⟩ := proj_of_cross (d.x - a.x) (d.y - a.y) (d.z - a.z) (b.x - a.x) (b.y - a.y) (b.z - a.z)
    (by linear_combination hcx - pyz) (by linear_combination hcy + pxz) (by linear_combination hcz - pxy) nd1
  refine ⟨_, _, eq_lineAt c1 c2 c3, eq_lineAt d1 d2 d3, ?_⟩
  rw [segInter3_parallel a b c d pxy pxz pyz, if_neg]
  rintro (h | h | h)
  · exact h hcx
  · exact h hcy
  · exact h hcz

end Parallel

theorem onSeg3_iff_lineAt (p a b : P3) :
    OnSeg3 p a b ↔ ∃ t : Rat, 0 ≤ t ∧ t ≤ 1 ∧ p = lineAt a b t := by
  constructor
  · rintro ⟨t, h0, h1, hx, hy, hz⟩
    exact ⟨t, h0, h1, by cases p; simp only [lineAt, P3.mk.injEq]; exact ⟨hx, hy, hz⟩⟩
  · rintro ⟨t, h0, h1, rfl⟩
    exact ⟨t, h0, h1, rfl, rfl, rfl⟩

theorem lineAt_get_inj {a b : P3} {ax : Ax} (hδ : b.get ax - a.get ax ≠ 0) {s t : Rat}
    (h : (lineAt a b s).get ax = (lineAt a b t).get ax) : s = t := by
  rw [lineAt_get, lineAt_get, add_right_inj] at h
  exact mul_right_cancel₀ hδ h

theorem exists_extent {a b : P3} (hd : b.x - a.x ≠ 0 ∨ b.y - a.y ≠ 0 ∨ b.z - a.z ≠ 0) : ∃ ax, b.get ax - a.get ax ≠ 0 :=
  hd.elim (fun h => ⟨.x, h⟩) fun h => h.elim (fun h => ⟨.y, h⟩) fun h => ⟨.z, h⟩

theorem lineAt_inj (a b : P3) (hd : b.x - a.x ≠ 0 ∨ b.y - a.y ≠ 0 ∨ b.z - a.z ≠ 0) (s t : Rat)
    (h : lineAt a b s = lineAt a b t) : s = t :=
  (exists_extent hd).elim fun _ hδ => lineAt_get_inj hδ (by rw [h])

theorem lineAt_lineAt (a b : P3) (s t u : Rat) :
    lineAt (lineAt a b s) (lineAt a b t) u = lineAt a b (s + u * (t - s)) := by
  simp only [lineAt, P3.mk.injEq]
  refine ⟨?_, ?_, ?_⟩ <;> ring

theorem between_iff (ts te s : Rat) :
    (min ts te ≤ s ∧ s ≤ max ts te) ↔ ∃ t : Rat, 0 ≤ t ∧ t ≤ 1 ∧ s = ts + t * (te - ts) := by
  have key : ∀ {x y : Rat}, x < y → ((x ≤ s ∧ s ≤ y) ↔ ∃ t : Rat, 0 ≤ t ∧ t ≤ 1 ∧ s = x + t * (y - x)) := by
    intro x y h
    have hd := sub_pos.mpr h
    constructor
    · rintro ⟨h1, h2⟩
      exact ⟨(s - x) / (y - x), div_nonneg (sub_nonneg.mpr h1) hd.le, (div_le_one hd).mpr (by linarith),
        by rw [div_mul_cancel₀ _ hd.ne']; ring⟩
    · rintro ⟨t, h0, h1, rfl⟩
      have := mul_nonneg h0 hd.le
      have := mul_nonneg (sub_nonneg.mpr h1) hd.le
      constructor <;> linarith
  rcases lt_trichotomy ts te with h | rfl | h
  · rw [min_eq_left h.le, max_eq_right h.le]; exact key h
  · rw [min_self, max_self, sub_self]
    exact ⟨fun h => ⟨0, le_rfl, zero_le_one, by rw [mul_zero, add_zero]; exact le_antisymm h.2 h.1⟩,
      fun ⟨t, _, _, h⟩ => by rw [h, mul_zero, add_zero]; exact ⟨le_rfl, le_rfl⟩⟩
  · -- the same interval described from its other end: `t ↦ 1 - t`
    rw [min_eq_right h.le, max_eq_left h.le, key h]
    constructor <;> rintro ⟨t, h0, h1, rfl⟩ <;> exact ⟨1 - t, by linarith, by linarith, by ring⟩

theorem onSeg3_lineAt_iff (p a b : P3) (ts te : Rat) :
    OnSeg3 p (lineAt a b ts) (lineAt a b te) ↔ ∃ s : Rat, min ts te ≤ s ∧ s ≤ max ts te ∧ p = lineAt a b s := by
  simp only [onSeg3_iff_lineAt, lineAt_lineAt]
  constructor
  · rintro ⟨t, h0, h1, rfl⟩
    obtain ⟨h2, h3⟩ := (between_iff ts te _).mpr ⟨t, h0, h1, rfl⟩
    exact ⟨_, h2, h3, rfl⟩
  · rintro ⟨s, h2, h3, rfl⟩
    obtain ⟨t, h0, h1, rfl⟩ := (between_iff ts te s).mp ⟨h2, h3⟩
    exact ⟨t, h0, h1, rfl⟩

theorem mem_overlapParam_iff (p a b : P3) (ts te : Rat) :
    Res.Mem3 p (overlapParam (lineAt a b) ts te) ↔
      ∃ s : Rat, max (min ts te) 0 ≤ s ∧ s ≤ min (max ts te) 1 ∧ p = lineAt a b s := by
  unfold overlapParam
  simp only []
  generalize max (min ts te) 0 = lo
  generalize min (max ts te) 1 = hi
  by_cases h1 : hi < lo
  · rw [if_pos h1]
    simp only [Res.Mem3, false_iff]
    rintro ⟨s, h2, h3, -⟩; linarith
  · rw [if_neg h1]
    by_cases h2 : lo = hi
    · rw [if_pos h2]
      simp only [Res.Mem3]
      constructor
      · rintro rfl; exact ⟨lo, le_refl _, le_of_eq h2, rfl⟩
      · rintro ⟨s, h3, h4, rfl⟩
        rw [le_antisymm (h4.trans_eq h2.symm) h3]
    · have hlt : lo < hi := lt_of_le_of_ne (not_lt.mp h1) h2
      rw [if_neg h2, Res.Mem3, onSeg3_lineAt_iff p a b lo hi, min_eq_left hlt.le, max_eq_right hlt.le]

theorem col_mem_iff (p a b : P3) (hd : b.x - a.x ≠ 0 ∨ b.y - a.y ≠ 0 ∨ b.z - a.z ≠ 0) (ts te : Rat) :
    (OnSeg3 p a b ∧ OnSeg3 p (lineAt a b ts) (lineAt a b te)) ↔
      Res.Mem3 p (overlapParam (lineAt a b) ts te) := by
  rw [mem_overlapParam_iff, onSeg3_lineAt_iff p a b ts te, onSeg3_iff_lineAt]
  constructor
  · rintro ⟨⟨s, h0, h1, rfl⟩, ⟨s', h2, h3, h4⟩⟩
    obtain rfl := lineAt_inj a b hd _ _ h4
    exact ⟨s, max_le h2 h0, le_min h3 h1, rfl⟩
  · rintro ⟨s, h1, h2, rfl⟩
    exact ⟨⟨s, (le_max_right _ _).trans h1, h2.trans (min_le_right _ _), rfl⟩,
      ⟨s, (le_max_left _ _).trans h1, h2.trans (min_le_left _ _), rfl⟩⟩

/-- SOUNDNESS of the 3-D specification -/
theorem mem_segInter3_iff_of_ne (p a b c d : P3)
    (nd1 : b.x - a.x ≠ 0 ∨ b.y - a.y ≠ 0 ∨ b.z - a.z ≠ 0) :
    Res.Mem3 p (segInter3 a b c d) ↔ OnSeg3 p a b ∧ OnSeg3 p c d := by
  by_cases hpar : (b.x - a.x) * (d.y - c.y) - (b.y - a.y) * (d.x - c.x) = 0 ∧
      (b.x - a.x) * (d.z - c.z) - (b.z - a.z) * (d.x - c.x) = 0 ∧
      (b.y - a.y) * (d.z - c.z) - (b.z - a.z) * (d.y - c.y) = 0
  · obtain ⟨pxy, pxz, pyz⟩ := hpar
    by_cases hcol : (c.y - a.y) * (b.z - a.z) - (c.z - a.z) * (b.y - a.y) ≠ 0 ∨
         (c.z - a.z) * (b.x - a.x) - (c.x - a.x) * (b.z - a.z) ≠ 0 ∨
         (c.x - a.x) * (b.y - a.y) - (c.y - a.y) * (b.x - a.x) ≠ 0
    · rw [segInter3_parallel a b c d pxy pxz pyz, if_pos hcol]
      simp only [Res.Mem3, false_iff, onSeg3_iff_lineAt]
      rintro ⟨⟨s, -, -, rfl⟩, ⟨t, -, -, h⟩⟩
      -- a common point gives `c − a = s·d1 − t·d2`, which is parallel to `d1`
      obtain ⟨ex, ey, ez⟩ := (lineAt_eq_iff a b c d s t).mp h
      rcases hcol with h | h | h <;> apply h
      · rw [← ey, ← ez]; linear_combination t * pyz
      · rw [← ez, ← ex]; linear_combination (-t) * pxz
      · rw [← ex, ← ey]; linear_combination t * pxy
    · obtain ⟨hcx, hcy, hcz⟩ := eq_zero_of_not_ne hcol
      obtain ⟨ts, te, hc, hd, hspec⟩ := segInter3_colinear a b c d pxy pxz pyz hcx hcy hcz nd1
      rw [hspec, ← col_mem_iff p a b nd1 ts te, ← hc, ← hd]
  · have hn : (b.y - a.y) * (d.z - c.z) - (b.z - a.z) * (d.y - c.y) ≠ 0 ∨
        (b.z - a.z) * (d.x - c.x) - (b.x - a.x) * (d.z - c.z) ≠ 0 ∨
        (b.x - a.x) * (d.y - c.y) - (b.y - a.y) * (d.x - c.x) ≠ 0 := by
      by_contra hc
      obtain ⟨h1, h2, h3⟩ := eq_zero_of_not_ne hc
      exact hpar ⟨h3, by linear_combination -h2, h1⟩
    simp only [onSeg3_iff_lineAt]
    by_cases hmeet : ∃ s t, lineAt a b s = lineAt c d t
    · obtain ⟨s, t, h⟩ := hmeet
      rw [segInter3_of_meet a b c d hn h]
      constructor
      · intro hp
        split_ifs at hp with hr
        · exact ⟨⟨s, hr.1, hr.2.1, hp⟩, ⟨t, hr.2.2.1, hr.2.2.2, hp.trans h⟩⟩
        · exact hp.elim
      · rintro ⟨⟨s', s0, s1, rfl⟩, ⟨t', t0, t1, h'⟩⟩
        obtain ⟨rfl, rfl⟩ := meet_unique a b c d hn h h'
        rw [if_pos ⟨s0, s1, t0, t1⟩]
        exact rfl
    · rw [segInter3_of_no_meet a b c d hn fun s t h => hmeet ⟨s, t, h⟩]
      simp only [Res.Mem3, false_iff]
      rintro ⟨⟨s, -, -, rfl⟩, ⟨t, -, -, h⟩⟩
      exact hmeet ⟨s, t, h⟩

theorem mem_segInter3_iff' (p a b c d : P3)
    (nd1 : b.x - a.x ≠ 0 ∨ b.y - a.y ≠ 0 ∨ b.z - a.z ≠ 0)
    (nd2 : d.x - c.x ≠ 0 ∨ d.y - c.y ≠ 0 ∨ d.z - c.z ≠ 0) :
    Res.Mem3 p (segInter3 a b c d) ↔ OnSeg3 p a b ∧ OnSeg3 p c d :=
  (fun _ => mem_segInter3_iff_of_ne p a b c d nd1) nd2

theorem P3.delta_ne {p q : P3} (h : p ≠ q) : q.x - p.x ≠ 0 ∨ q.y - p.y ≠ 0 ∨ q.z - p.z ≠ 0 := by
  by_contra hc
  apply h
  obtain ⟨hx, hy, hz⟩ := eq_zero_of_not_ne hc
  cases p; cases q; simp only [P3.mk.injEq] at *
  exact ⟨by linarith, by linarith, by linarith⟩

theorem onSeg3_left (p q : P3) : OnSeg3 p p q := ⟨0, le_refl _, zero_le_one, by ring, by ring, by ring⟩

theorem onSeg3_right (p q : P3) : OnSeg3 q p q := ⟨1, zero_le_one, le_refl _, by ring, by ring, by ring⟩

theorem onSeg3_swap (p a b : P3) : OnSeg3 p a b ↔ OnSeg3 p b a := by
  constructor <;> rintro ⟨t, h0, h1, hx, hy, hz⟩ <;>
    exact ⟨1 - t, by linarith, by linarith, by rw [hx]; ring, by rw [hy]; ring, by rw [hz]; ring⟩

theorem seg_ends_of_mem_iff (p q p' q' : P3) (hpq' : p' ≠ q')
    (h : ∀ x, OnSeg3 x p q ↔ OnSeg3 x p' q') : (p = p' ∧ q = q') ∨ (p = q' ∧ q = p') := by
  obtain ⟨α, a0, a1, hp⟩ := (onSeg3_iff_lineAt _ _ _).mp ((h p).mp (onSeg3_left p q))
  obtain ⟨β, b0, b1, hq⟩ := (onSeg3_iff_lineAt _ _ _).mp ((h q).mp (onSeg3_right p q))
  -- `[p, q]` is the part of the line `p' q'` with parameters between `α` and `β`; it contains the parameters 0 and 1
  have key : ∀ u, 0 ≤ u → u ≤ 1 → min α β ≤ u ∧ u ≤ max α β := by
    intro u u0 u1
    have hu : OnSeg3 (lineAt p' q' u) p q := (h _).mpr ((onSeg3_iff_lineAt _ _ _).mpr ⟨u, u0, u1, rfl⟩)
    rw [hp, hq, onSeg3_lineAt_iff] at hu
    obtain ⟨s, h1, h2, hs⟩ := hu
    rw [lineAt_inj p' q' (P3.delta_ne hpq') _ _ hs]
    exact ⟨h1, h2⟩
  have hmin := (key 0 le_rfl zero_le_one).1
  have hmax := (key 1 zero_le_one le_rfl).2
  rcases le_total α β with hab | hab
  · rw [min_eq_left hab] at hmin; rw [max_eq_right hab] at hmax
    rw [le_antisymm hmin a0, lineAt_zero] at hp; rw [le_antisymm b1 hmax, lineAt_one] at hq
    exact Or.inl ⟨hp, hq⟩
  · rw [min_eq_right hab] at hmin; rw [max_eq_left hab] at hmax
    rw [le_antisymm a1 hmax, lineAt_one] at hp; rw [le_antisymm hmin b0, lineAt_zero] at hq
    exact Or.inr ⟨hp, hq⟩

theorem same_of_mem_iff (r s : Res P3) (hr : r.WF) (hs : s.WF) (h : ∀ x, Res.Mem3 x r ↔ Res.Mem3 x s) :
    Res.same r s := by
  cases r with
  | none =>
    cases s with
    | none => trivial
    | point q => exact ((h q).mpr rfl).elim
    | segment q q' => exact ((h q).mpr (onSeg3_left q q')).elim
    | err e => exact hs.elim
  | point p =>
    cases s with
    | none => exact ((h p).mp rfl).elim
    | point q => exact (h p).mp rfl
    | segment q q' =>
      have h1 : q = p := (h q).mpr (onSeg3_left q q')
      have h2 : q' = p := (h q').mpr (onSeg3_right q q')
      exact (hs (h1.trans h2.symm)).elim
    | err e => exact hs.elim
  | segment p p' =>
    cases s with
    | none => exact ((h p).mp (onSeg3_left p p')).elim
    | point q =>
      have h1 : p = q := (h p).mp (onSeg3_left p p')
      have h2 : p' = q := (h p').mp (onSeg3_right p p')
      exact (hr (h1.trans h2.symm)).elim
    | segment q q' => exact seg_ends_of_mem_iff p p' q q' hs h
    | err e => exact hs.elim
  | err e => exact hr.elim

theorem wf_ite {α : Type} {c : Prop} [Decidable c] {x y : Res α} (hx : x.WF) (hy : y.WF) : (if c then x else y).WF := by
  split <;> assumption

theorem overlapParam_WF (a b : P3) (hd : b.x - a.x ≠ 0 ∨ b.y - a.y ≠ 0 ∨ b.z - a.z ≠ 0) (ts te : Rat) :
    (overlapParam (lineAt a b) ts te).WF := by
  unfold overlapParam
  simp only []
  split_ifs with h1 h2
  · trivial
  · trivial
  · exact fun h => h2 (lineAt_inj a b hd _ _ h)

theorem segInter3_WF (a b c d : P3) (nd1 : b.x - a.x ≠ 0 ∨ b.y - a.y ≠ 0 ∨ b.z - a.z ≠ 0) :
    (segInter3 a b c d).WF :=
  wf_ite (wf_ite trivial (wf_ite trivial trivial)) (wf_ite trivial (overlapParam_WF a b nd1 _ _))

theorem Res.same_symm {α : Type} {r s : Res α} (h : Res.same r s) : Res.same s r := by
  cases r <;> cases s <;> simp only [Res.same] at h ⊢
  · exact h.symm
  · rcases h with ⟨h1, h2⟩ | ⟨h1, h2⟩
    · left; exact ⟨h1.symm, h2.symm⟩
    · right; exact ⟨h2.symm, h1.symm⟩
  · exact h.symm

theorem Res.same_trans {α : Type} {r s t : Res α} (h1 : Res.same r s) (h2 : Res.same s t) : Res.same r t := by
  cases r <;> cases s <;> cases t <;> simp only [Res.same] at h1 h2 ⊢
  · exact h1.trans h2
  · rcases h1 with ⟨a1, a2⟩ | ⟨a1, a2⟩ <;> rcases h2 with ⟨b1, b2⟩ | ⟨b1, b2⟩
    · left; exact ⟨a1.trans b1, a2.trans b2⟩
    · right; exact ⟨a1.trans b1, a2.trans b2⟩
    · right; exact ⟨a1.trans b2, a2.trans b1⟩
    · left; exact ⟨a1.trans b2, a2.trans b1⟩
  · exact h1.trans h2

/-- `r` classifies the point set `S`: its points are those of `S`, and a segment has two different ends -/
def Res.Is (r : Res P3) (S : P3 → Prop) : Prop := r.WF ∧ ∀ p, Res.Mem3 p r ↔ S p

theorem Res.Is.same {r s : Res P3} {S : P3 → Prop} (hr : r.Is S) (hs : s.Is S) : Res.same r s :=
  same_of_mem_iff r s hr.1 hs.1 fun x => (hr.2 x).trans (hs.2 x).symm

theorem Res.Is.congr {r : Res P3} {S T : P3 → Prop} (hr : r.Is S) (h : ∀ p, S p ↔ T p) : r.Is T :=
  ⟨hr.1, fun p => (hr.2 p).trans (h p)⟩

theorem segInter3_is (a b c d : P3) (nd1 : b.x - a.x ≠ 0 ∨ b.y - a.y ≠ 0 ∨ b.z - a.z ≠ 0) :
    (segInter3 a b c d).Is fun p => OnSeg3 p a b ∧ OnSeg3 p c d :=
  ⟨segInter3_WF a b c d nd1, fun p => mem_segInter3_iff_of_ne p a b c d nd1⟩

theorem segInter3_symm (a b c d : P3)
    (nd1 : b.x - a.x ≠ 0 ∨ b.y - a.y ≠ 0 ∨ b.z - a.z ≠ 0)
    (nd2 : d.x - c.x ≠ 0 ∨ d.y - c.y ≠ 0 ∨ d.z - c.z ≠ 0) :
    Res.same (segInter3 a b c d) (segInter3 c d a b) ∧
    Res.same (segInter3 a b c d) (segInter3 b a c d) ∧
    Res.same (segInter3 a b c d) (segInter3 a b d c) := by
  have flip : ∀ {x y : Rat}, y - x ≠ 0 → x - y ≠ 0 := fun h => sub_ne_zero.mpr (sub_ne_zero.mp h).symm
  have nd1' := nd1.imp flip (Or.imp flip flip)
  have nd2' := nd2.imp flip (Or.imp flip flip)
  have h := segInter3_is a b c d nd1
  exact ⟨h.same ((segInter3_is c d a b nd2).congr fun p => and_comm),
    h.same ((segInter3_is b a c d nd1').congr fun p => and_congr_left' (onSeg3_swap p b a)),
    h.same ((segInter3_is a b d c nd1).congr fun p => and_congr_right' (onSeg3_swap p d c))⟩

/-- an affine map `s ↦ o + s·δ` with `δ ≠ 0` keeps "between", whatever the sign of `δ`: both sides say that `s` is a
    convex combination of `u` and `v` -/
theorem between_affine {o δ : Rat} (hδ : δ ≠ 0) (u v s : Rat) :
    (min (o + u * δ) (o + v * δ) ≤ o + s * δ ∧ o + s * δ ≤ max (o + u * δ) (o + v * δ)) ↔
      (min u v ≤ s ∧ s ≤ max u v) := by
  rw [between_iff, between_iff]
  refine exists_congr fun t => and_congr_right fun _ => and_congr_right fun _ => ?_
  constructor
  · intro h; exact mul_right_cancel₀ hδ (by linear_combination h)
  · intro h; rw [h]; ring

def OnLine (a b p : P3) : Prop := ∃ s, p = lineAt a b s

theorem onLine_left (a b : P3) : OnLine a b a := ⟨0, (lineAt_zero a b).symm⟩

theorem onLine_right (a b : P3) : OnLine a b b := ⟨1, (lineAt_one a b).symm⟩

section Chart

variable {a b : P3} {ax : Ax} (hδ : b.get ax - a.get ax ≠ 0)
include hδ

/-- on a line with an extent in the coordinate `ax`, that coordinate is a chart: it separates the points of the line … -/
theorem onLine_ext {p q : P3} (hp : OnLine a b p) (hq : OnLine a b q) (h : p.get ax = q.get ax) : p = q := by
  obtain ⟨s, rfl⟩ := hp
  obtain ⟨t, rfl⟩ := hq
  rw [lineAt_get_inj hδ h]

/-- … and a segment of the line is the part with the coordinate between those of its ends -/
theorem onSeg3_iff_coord {p q r : P3} (hq : OnLine a b q) (hr : OnLine a b r) :
    OnSeg3 p q r ↔ OnLine a b p ∧ min (q.get ax) (r.get ax) ≤ p.get ax ∧ p.get ax ≤ max (q.get ax) (r.get ax) := by
  obtain ⟨u, rfl⟩ := hq
  obtain ⟨v, rfl⟩ := hr
  rw [onSeg3_lineAt_iff]
  constructor
  · rintro ⟨s, h1, h2, rfl⟩
    simp only [lineAt_get]
    exact ⟨⟨s, rfl⟩, (between_affine hδ u v s).mpr ⟨h1, h2⟩⟩
  · rintro ⟨⟨s, rfl⟩, h⟩
    simp only [lineAt_get] at h
    obtain ⟨h1, h2⟩ := (between_affine hδ u v s).mp h
    exact ⟨s, h1, h2, rfl⟩

end Chart

def emb (p : P2) : P3 := ⟨p.x, p.y, 0⟩

def Res.map {α β : Type} (f : α → β) : Res α → Res β
  | .none => .none
  | .point p => .point (f p)
  | .segment p q => .segment (f p) (f q)
  | .err e => .err e

theorem emb_inj {p q : P2} (h : emb p = emb q) : p = q := by
  cases p; cases q; simp only [emb, P3.mk.injEq] at h; simp [h.1, h.2.1]

theorem overlapParam_map {α β : Type} (f : α → β) (g : Rat → α) (ts te : Rat) :
    overlapParam (fun t => f (g t)) ts te = (overlapParam g ts te).map f := by
  unfold overlapParam
  simp only []
  split_ifs <;> rfl

theorem segInter3_emb (a b c d : P2) :
    segInter3 (emb a) (emb b) (emb c) (emb d) = (segInter2 a b c d).map emb := by
  unfold segInter3 segInter2
  simp only [emb, sub_self, mul_zero, zero_mul, add_zero, zero_add, ne_eq,
    not_true_eq_false, false_or, if_false]
  by_cases hdet : (b.x - a.x) * (d.y - c.y) - (b.y - a.y) * (d.x - c.x) = 0
  · simp only [hdet, not_true_eq_false, if_false]
    by_cases hscl : (c.x - a.x) * (b.y - a.y) - (c.y - a.y) * (b.x - a.x) = 0
    · simp only [hscl, not_true_eq_false, if_false]
      exact overlapParam_map emb (fun t => (⟨a.x + t * (b.x - a.x), a.y + t * (b.y - a.y)⟩ : P2)) _ _
    · simp only [hscl, not_false_eq_true, if_true, Res.map]
  · simp only [hdet, not_false_eq_true, if_true]
    have e1 : ∀ N : Rat, N * ((b.x - a.x) * (d.y - c.y) - (b.y - a.y) * (d.x - c.x)) /
        (((b.x - a.x) * (d.y - c.y) - (b.y - a.y) * (d.x - c.x)) * ((b.x - a.x) * (d.y - c.y) - (b.y - a.y) * (d.x - c.x)))
        = N / ((b.x - a.x) * (d.y - c.y) - (b.y - a.y) * (d.x - c.x)) := fun N => mul_div_mul_right _ _ hdet
    simp only [e1]
    split_ifs <;> rfl

theorem onSeg2_iff_emb (p a b : P2) : OnSeg2 p a b ↔ OnSeg3 (emb p) (emb a) (emb b) := by
  constructor
  · rintro ⟨t, h0, h1, hx, hy⟩
    exact ⟨t, h0, h1, hx, hy, by simp [emb]⟩
  · rintro ⟨t, h0, h1, hx, hy, -⟩
    exact ⟨t, h0, h1, hx, hy⟩

theorem mem2_iff_emb (p : P2) (r : Res P2) : Res.Mem2 p r ↔ Res.Mem3 (emb p) (r.map emb) := by
  cases r with
  | none => simp [Res.Mem2, Res.Mem3, Res.map]
  | point q =>
    simp only [Res.Mem2, Res.Mem3, Res.map]
    exact ⟨fun h => by rw [h], emb_inj⟩
  | segment q q' => simp only [Res.Mem2, Res.Mem3, Res.map]; exact onSeg2_iff_emb p q q'
  | err e => simp [Res.Mem2, Res.Mem3, Res.map]

theorem same_of_map_emb {r s : Res P2} (h : Res.same (r.map emb) (s.map emb)) : Res.same r s := by
  cases r <;> cases s <;> simp only [Res.same, Res.map] at h ⊢
  · exact emb_inj h
  · rcases h with ⟨h1, h2⟩ | ⟨h1, h2⟩
    · left; exact ⟨emb_inj h1, emb_inj h2⟩
    · right; exact ⟨emb_inj h1, emb_inj h2⟩
  · exact h

theorem P2.delta_ne {p q : P2} (h : p ≠ q) : q.x - p.x ≠ 0 ∨ q.y - p.y ≠ 0 := by
  have := P3.delta_ne (p := emb p) (q := emb q) fun h' => h (emb_inj h')
  simpa [emb] using this

theorem emb_delta {a b : P2} (h : b.x - a.x ≠ 0 ∨ b.y - a.y ≠ 0) :
    (emb b).x - (emb a).x ≠ 0 ∨ (emb b).y - (emb a).y ≠ 0 ∨ (emb b).z - (emb a).z ≠ 0 := by
  rcases h with h | h
  · left; exact h
  · right; left; exact h

theorem mem_segInter2_iff_of_ne (p a b c d : P2) (nd1 : b.x - a.x ≠ 0 ∨ b.y - a.y ≠ 0) :
    Res.Mem2 p (segInter2 a b c d) ↔ OnSeg2 p a b ∧ OnSeg2 p c d := by
  rw [mem2_iff_emb, ← segInter3_emb, mem_segInter3_iff_of_ne _ _ _ _ _ (emb_delta nd1),
    onSeg2_iff_emb, onSeg2_iff_emb]

theorem mem_segInter2_iff' (p a b c d : P2) (nd1 : b.x - a.x ≠ 0 ∨ b.y - a.y ≠ 0) (nd2 : d.x - c.x ≠ 0 ∨ d.y - c.y ≠ 0) :
    Res.Mem2 p (segInter2 a b c d) ↔ OnSeg2 p a b ∧ OnSeg2 p c d :=
  (fun _ => mem_segInter2_iff_of_ne p a b c d nd1) nd2

theorem segInter2_symm (a b c d : P2) (nd1 : b.x - a.x ≠ 0 ∨ b.y - a.y ≠ 0) (nd2 : d.x - c.x ≠ 0 ∨ d.y - c.y ≠ 0) :
    Res.same (segInter2 a b c d) (segInter2 c d a b) ∧
    Res.same (segInter2 a b c d) (segInter2 b a c d) ∧
    Res.same (segInter2 a b c d) (segInter2 a b d c) := by
  obtain ⟨h1, h2, h3⟩ := segInter3_symm (emb a) (emb b) (emb c) (emb d) (emb_delta nd1) (emb_delta nd2)
  simp only [segInter3_emb] at h1 h2 h3
  exact ⟨same_of_map_emb h1, same_of_map_emb h2, same_of_map_emb h3⟩

theorem wf_of_map_emb {r : Res P2} (h : (r.map emb).WF) : r.WF := by
  cases r with
  | segment q q' => exact fun e => h (by rw [e])
  | _ => exact h

theorem segInter2_WF (a b c d : P2) (nd1 : b.x - a.x ≠ 0 ∨ b.y - a.y ≠ 0) : (segInter2 a b c d).WF :=
  wf_of_map_emb (segInter3_emb a b c d ▸ segInter3_WF (emb a) (emb b) (emb c) (emb d) (emb_delta nd1))

end PorepyVerif.C28
