/-
C28 — the model of `segments_3d` against the specification: the crossing branch for every coordinate pair at once, the
parallel branch (`overlap3` returns the common part of two colinear segments as a coordinate interval of their line), zero-length
segments, and the column order of a returned segment.
-/
import Mathlib.Data.List.Sort
import PorepyVerif.Common.InsSort
import PorepyVerif.C28.LemmasGap
import PorepyVerif.C28.LemmasSpec

namespace PorepyVerif.C28

theorem close1_self {tol : Rat} (h0 : 0 ≤ tol) (u : Rat) : close1 tol u u = true := by
  have h1 : 0 ≤ rabs u := by rw [rabs_eq]; exact abs_nonneg _
  have h2 : (0:Rat) ≤ atol := by decide +kernel
  simp only [close1, sub_self, rabs_zero, decide_eq_true_eq]
  exact add_nonneg h2 (mul_nonneg h0 h1)

theorem Dims.forall_ax (m : Dims) {P : Ax → Prop} (hi : P m.i) (hj : P m.j) (hk : P m.k) : ∀ ax, P ax := by
  intro ax; cases m <;> cases ax <;> assumption

theorem range_iff (t1 t2 : Rat) :
    (t1 < 0 ∨ t1 > 1 ∨ t2 < 0 ∨ t2 > 1) ↔ ¬ (0 ≤ t1 ∧ t1 ≤ 1 ∧ 0 ≤ t2 ∧ t2 ≤ 1) := by
  simp only [not_and_or, not_le, gt_iff_lt]

/-- the consistency test of `segments_3d` in the third coordinate: with integer data, the difference of the two
    heights is an integer over the minor `Δ`, so the test against `tol` is exact -/
theorem residual_exact {tol A C N1 N2 Δ W1 W2 : Rat} (iN1 : IsInt N1) (iN2 : IsInt N2) (iΔ : IsInt Δ) (iW1 : IsInt W1)
    (iW2 : IsInt W2) (iS : IsInt (C - A)) (hΔ : Δ ≠ 0) (htol : 0 < tol) (hb : tol * |Δ| < 1) :
    rabs (A + N1 / Δ * W1 - (C + N2 / Δ * W2)) < tol ↔ A + N1 / Δ * W1 = C + N2 / Δ * W2 := by
  have hR : A + N1 / Δ * W1 - (C + N2 / Δ * W2) = (N1 * W1 - (C - A) * Δ - N2 * W2) / Δ := by
    rw [eq_div_iff hΔ]; linear_combination W1 * div_mul_cancel₀ N1 hΔ - W2 * div_mul_cancel₀ N2 hΔ
  rw [← sub_eq_zero (a := A + N1 / Δ * W1), hR,
    (((iN1.mul iW1).sub (iS.mul iΔ)).sub (iN2.mul iW2)).ratio_lt_tol_iff iΔ hΔ htol hb, div_eq_zero_iff, or_iff_left hΔ]

section Crossing

variable (tol : Rat) (m : Dims) (a b c d : P3) (htol : 0 < tol)
  (i1 : ∀ ax, IsInt (b.get ax - a.get ax)) (i2 : ∀ ax, IsInt (d.get ax - c.get ax))
  (is : ∀ ax, IsInt (c.get ax - a.get ax))
  (hm : minor ⟨b.x - a.x, b.y - a.y, b.z - a.z⟩ ⟨d.x - c.x, d.y - c.y, d.z - c.z⟩ m ≠ 0)
  (hb : tol * |minor ⟨b.x - a.x, b.y - a.y, b.z - a.z⟩ ⟨d.x - c.x, d.y - c.y, d.z - c.z⟩ m| < 1)
include htol i1 i2 is hm hb

/-- the parameters that `segments_3d` computes from the coordinate pair `m` are the only solution of the equations in
    `m.i` and `m.j`, and its tests on them (third coordinate, range) are exact -/
theorem cross3d_exact :
    ∃ t1 t2 : Rat,
      (t1 * (b.get m.i - a.get m.i) - t2 * (d.get m.i - c.get m.i) = c.get m.i - a.get m.i ∧
       t1 * (b.get m.j - a.get m.j) - t2 * (d.get m.j - c.get m.j) = c.get m.j - a.get m.j) ∧
      (∀ s t, s * (b.get m.i - a.get m.i) - t * (d.get m.i - c.get m.i) = c.get m.i - a.get m.i →
        s * (b.get m.j - a.get m.j) - t * (d.get m.j - c.get m.j) = c.get m.j - a.get m.j → s = t1 ∧ t = t2) ∧
      cross3d tol m a b c d =
        if a.get m.k + t1 * (b.get m.k - a.get m.k) = c.get m.k + t2 * (d.get m.k - c.get m.k) then
          if 0 ≤ t1 ∧ t1 ≤ 1 ∧ 0 ≤ t2 ∧ t2 ≤ 1 then .point (lineAt a b t1) else .none
        else .none := by
  have hneg : (b.get m.i - a.get m.i) * -(d.get m.j - c.get m.j) - (b.get m.j - a.get m.j) * -(d.get m.i - c.get m.i)
      = -minor ⟨b.x - a.x, b.y - a.y, b.z - a.z⟩ ⟨d.x - c.x, d.y - c.y, d.z - c.z⟩ m := by
    simp only [minor, P3.get_mk_sub]; ring
  have hΔ := hneg.trans_ne (neg_ne_zero.mpr hm)
  obtain ⟨hsol, huniq⟩ := cramer2 _ _ _ _ (c.get m.i - a.get m.i) (c.get m.j - a.get m.j) hΔ
  refine ⟨_, _, hsol, huniq, ?_⟩
  have hz := residual_exact (A := a.get m.k) (C := c.get m.k) (((is m.i).mul (i2 m.j).neg).sub ((is m.j).mul (i2 m.i).neg))
    (((i1 m.i).mul (is m.j)).sub ((i1 m.j).mul (is m.i))) (((i1 m.i).mul (i2 m.j).neg).sub ((i1 m.j).mul (i2 m.i).neg))
    (i1 m.k) (i2 m.k) (is m.k) hΔ htol (by rwa [hneg, abs_neg])
  simp only [cross3d, P3.get_mk_sub, lineAt, hz, range_iff, ite_not]
  split_ifs <;> rfl

theorem cross3d_eq_spec :
    cross3d tol m a b c d = segInter3 a b c d := by
  have hn : (b.y - a.y) * (d.z - c.z) - (b.z - a.z) * (d.y - c.y) ≠ 0 ∨
      (b.z - a.z) * (d.x - c.x) - (b.x - a.x) * (d.z - c.z) ≠ 0 ∨
      (b.x - a.x) * (d.y - c.y) - (b.y - a.y) * (d.x - c.x) ≠ 0 := by
    cases m
    · exact Or.inr (Or.inr hm)
    · exact Or.inr (Or.inl fun h => hm (by simp only [minor, Dims.i, Dims.j, P3.get]; linarith))
    · exact Or.inl hm
  have hax := lineAt_get_eq_iff a b c d
  obtain ⟨t1, t2, ⟨hi, hj⟩, huniq, hcode⟩ := cross3d_exact tol m a b c d htol i1 i2 is hm hb
  rw [hcode]
  by_cases hk : a.get m.k + t1 * (b.get m.k - a.get m.k) = c.get m.k + t2 * (d.get m.k - c.get m.k)
  · rw [if_pos hk, segInter3_of_meet a b c d hn]
    exact P3.ext_get (m.forall_ax ((hax _ _ _).mpr hi) ((hax _ _ _).mpr hj) (by rw [lineAt_get, lineAt_get]; exact hk))
  · rw [if_neg hk, segInter3_of_no_meet a b c d hn]
    intro s t h
    obtain ⟨rfl, rfl⟩ := huniq s t ((hax s t _).mp (by rw [h])) ((hax s t _).mp (by rw [h]))
    exact hk (by rw [← lineAt_get, ← lineAt_get, h])

end Crossing

theorem pick_ne_zero (tol : Rat) (d1 d2 : P3) (hex : ∀ m, rabs (minor d1 d2 m) < tol ↔ minor d1 d2 m = 0)
    (hnp : ∃ m, minor d1 d2 m ≠ 0) : minor d1 d2 (Dims.pick tol d1 d2) ≠ 0 := by
  unfold Dims.pick
  simp only [hex]
  split_ifs with h1 h2 h3
  · obtain ⟨m, hm⟩ := hnp
    cases m <;> contradiction
  · exact h3
  · exact h2
  · exact h1

theorem seg3d_cross_core (tol : Rat) (a b c d : P3) (K : Rat) (htol : 0 < tol) (hK : tol * K < 1) (hK1 : 1 ≤ K)
    (i1 : ∀ ax, IsInt (b.get ax - a.get ax)) (i2 : ∀ ax, IsInt (d.get ax - c.get ax))
    (is : ∀ ax, IsInt (c.get ax - a.get ax))
    (hbd : ∀ m, |minor ⟨b.x - a.x, b.y - a.y, b.z - a.z⟩ ⟨d.x - c.x, d.y - c.y, d.z - c.z⟩ m| ≤ K)
    (hnp : ∃ m, minor ⟨b.x - a.x, b.y - a.y, b.z - a.z⟩ ⟨d.x - c.x, d.y - c.y, d.z - c.z⟩ m ≠ 0) :
    seg3d tol a b c d = segInter3 a b c d := by
  have htol1 : tol ≤ 1 := le_of_lt (lt_of_le_of_lt (by rw [mul_one]) (tol_mul_lt_one htol.le hK hK1))
  have hex : ∀ m, rabs (minor ⟨b.x - a.x, b.y - a.y, b.z - a.z⟩ ⟨d.x - c.x, d.y - c.y, d.z - c.z⟩ m) < tol ↔
      minor ⟨b.x - a.x, b.y - a.y, b.z - a.z⟩ ⟨d.x - c.x, d.y - c.y, d.z - c.z⟩ m = 0 := by
    intro m
    apply IsInt.rabs_lt_iff _ htol htol1
    simp only [minor, P3.get_mk_sub]
    exact ((i1 _).mul (i2 _)).sub ((i1 _).mul (i2 _))
  have hp := pick_ne_zero tol _ _ hex hnp
  unfold seg3d seg3dWith
  simp only []
  rw [if_neg fun h => hp ((hex _).mp h)]
  exact cross3d_eq_spec tol _ a b c d htol i1 i2 is hp (tol_mul_lt_one htol.le hK (hbd _))

theorem insSort : Common.InsSort (fun p q => p.1 ≤ q.1) insertV sortV where
  trans := le_trans
  ins_nil _ := rfl
  ins_cons x y l := by
    rw [insertV]
    split
    · exact .inl ⟨le_of_lt ‹_›, rfl⟩
    · exact .inr ⟨not_lt.mp ‹_›, rfl⟩
  srt_nil := rfl
  srt_cons _ _ := rfl

theorem sortV_values {l : List (Rat × Nat)} {v : List Rat} (hp : v.Perm (l.map Prod.fst)) (hs : v.Pairwise (· ≤ ·)) :
    (sortV l).map Prod.fst = v :=
  (((insSort.perm l).map _).trans hp.symm).eq_of_pairwise' (List.pairwise_map.mpr (insSort.sorted l)) hs

theorem minmax_perm (a b : Rat) (l : List Rat) : (min a b :: max a b :: l).Perm (a :: b :: l) := by
  rcases le_total a b with h | h
  · rw [min_eq_left h, max_eq_right h]
  · rw [min_eq_right h, max_eq_left h]; exact .swap a b l

/-- four numbers are sorted by sorting each pair, then the two minima and the two maxima; the result is in
    order as soon as the larger minimum is below the smaller maximum -/
theorem four_perm (s1 e1 s2 e2 : Rat) :
    [min (min s1 e1) (min s2 e2), max (min s1 e1) (min s2 e2), min (max s1 e1) (max s2 e2),
      max (max s1 e1) (max s2 e2)].Perm [s1, e1, s2, e2] :=
  (minmax_perm _ _ _).trans <| (((minmax_perm _ _ []).cons _).cons _).trans <|
    ((List.Perm.swap _ _ _).cons _).trans <| (minmax_perm s1 e1 _).trans (((minmax_perm s2 e2 []).cons _).cons _)

/-- the two middle entries of the argsort of two overlapping intervals point at the ends of the overlap -/
theorem argsortMid_spec (s1 e1 s2 e2 : Rat) (h : max (min s1 e1) (min s2 e2) ≤ min (max s1 e1) (max s2 e2)) :
   col4 s1 e1 s2 e2 (argsortMid s1 e1 s2 e2).1 = max (min s1 e1) (min s2 e2) ∧
   col4 s1 e1 s2 e2 (argsortMid s1 e1 s2 e2).2 = min (max s1 e1) (max s2 e2) := by
  have hv := sortV_values (l := [(s1, 0), (e1, 1), (s2, 2), (e2, 3)]) (four_perm s1 e1 s2 e2)
    (List.isChain_iff_pairwise.mp (.cons_cons min_le_max (.cons_cons h (.cons_cons min_le_max (.singleton _)))))
  -- every entry of the sorted list still carries the index of its value
  have htag : ∀ p ∈ sortV [(s1, 0), (e1, 1), (s2, 2), (e2, 3)], col4 s1 e1 s2 e2 p.2 = p.1 := by
    intro p hp
    have := (insSort.perm _).mem_iff.mp hp
    simp only [List.mem_cons, List.not_mem_nil, or_false] at this
    rcases this with rfl | rfl | rfl | rfl <;> rfl
  unfold argsortMid
  generalize sortV [(s1, 0), (e1, 1), (s2, 2), (e2, 3)] = L at hv htag
  obtain ⟨w, L, rfl, -, hv⟩ := List.map_eq_cons_iff.mp hv
  obtain ⟨p, L, rfl, hp, hv⟩ := List.map_eq_cons_iff.mp hv
  obtain ⟨q, L, rfl, hq, hv⟩ := List.map_eq_cons_iff.mp hv
  obtain ⟨z, L, rfl, -, hv⟩ := List.map_eq_cons_iff.mp hv
  rw [List.map_eq_nil_iff.mp hv]
  exact ⟨(htag p (by simp)).trans hp, (htag q (by simp)).trans hq⟩

/-- the two disjointness tests of `segments_3d` together say: the overlap interval is empty -/
theorem disjoint_iff (s1 e1 s2 e2 : Rat) :
    (max s1 e1 < min s2 e2 ∨ max s2 e2 < min s1 e1) ↔ min (max s1 e1) (max s2 e2) < max (min s1 e1) (min s2 e2) :=
  interval_disjoint_iff min_le_max min_le_max

/-- the touching test of `overlap3` in coordinate `ax` is exact: two of the four end points are closer than
    `tol` in that coordinate only if they agree in it -/
def TouchExact (tol : Rat) (a b c d : P3) (ax : Ax) : Prop :=
  ∀ i j : Nat,
    rabs (col4 (a.get ax) (b.get ax) (c.get ax) (d.get ax) i - col4 (a.get ax) (b.get ax) (c.get ax) (d.get ax) j) < tol
      ↔ col4 (a.get ax) (b.get ax) (c.get ax) (d.get ax) i = col4 (a.get ax) (b.get ax) (c.get ax) (d.get ax) j

theorem col4_of {α : Type} {M : α → Prop} {a b c d : α} (ha : M a) (hb : M b) (hc : M c) (hd : M d) (i : Nat) :
    M (col4 a b c d i) := by
  match i with
  | 0 => exact ha
  | 1 => exact hb
  | 2 => exact hc
  | (n + 3) => exact hd

theorem col4_get (a b c d : P3) (ax : Ax) (i : Nat) :
    (col4 a b c d i).get ax = col4 (a.get ax) (b.get ax) (c.get ax) (d.get ax) i := by
  match i with
  | 0 => rfl
  | 1 => rfl
  | 2 => rfl
  | (n + 3) => rfl

/-- what `overlap3` returns when its touching test is exact: the overlap `[lo, hi]` of the two coordinate intervals,
    with end points taken from the four given points -/
theorem overlap3_spec (tol : Rat) (a b c d : P3) (ax : Ax) (hgap : TouchExact tol a b c d ax) {lo hi : Rat}
    (hlo : lo = max (min (a.get ax) (b.get ax)) (min (c.get ax) (d.get ax)))
    (hhi : hi = min (max (a.get ax) (b.get ax)) (max (c.get ax) (d.get ax))) :
    (hi < lo ∧ overlap3 true tol a b c d ax = .none) ∨
    (lo ≤ hi ∧ ∃ i j, (col4 a b c d i).get ax = lo ∧ (col4 a b c d j).get ax = hi ∧
      overlap3 true tol a b c d ax =
        if lo = hi then .point (col4 a b c d i) else .segment (col4 a b c d i) (col4 a b c d j)) := by
  subst hlo hhi
  unfold TouchExact at hgap
  unfold overlap3
  simp only [touchAsPoint, Bool.true_and, decide_eq_true_eq, hgap]
  rw [ite_or_none, if_congr (disjoint_iff _ _ _ _) rfl rfl]
  refine (lt_or_ge _ _).imp (fun h => ⟨h, if_pos h⟩) fun h => ⟨h, ?_⟩
  obtain ⟨m1, m2⟩ := argsortMid_spec _ _ _ _ h
  refine ⟨_, _, (col4_get ..).trans m1, (col4_get ..).trans m2, ?_⟩
  rw [if_neg (not_lt.mpr h), m1, m2]

/-- the colinear end of `segments_3d` returns the common part of the two segments -/
theorem overlap3_is (tol : Rat) (a b c d : P3) (ax : Ax) (hδ : b.get ax - a.get ax ≠ 0)
    (hc : OnLine a b c) (hd : OnLine a b d) (hgap : TouchExact tol a b c d ax) :
    (overlap3 true tol a b c d ax).Is fun p => OnSeg3 p a b ∧ OnSeg3 p c d := by
  -- each segment is a coordinate interval of the line, so their common part is the interval `[lo, hi]`
  have hS : ∀ p, OnSeg3 p a b ∧ OnSeg3 p c d ↔ OnLine a b p ∧
      max (min (a.get ax) (b.get ax)) (min (c.get ax) (d.get ax)) ≤ p.get ax ∧
      p.get ax ≤ min (max (a.get ax) (b.get ax)) (max (c.get ax) (d.get ax)) := by
    intro p
    rw [onSeg3_iff_coord hδ (onLine_left a b) (onLine_right a b), onSeg3_iff_coord hδ hc hd, max_le_iff, le_min_iff]
    exact ⟨fun ⟨⟨l, h1, h2⟩, _, h3, h4⟩ => ⟨l, ⟨h1, h3⟩, h2, h4⟩, fun ⟨l, ⟨h1, h3⟩, h2, h4⟩ => ⟨⟨l, h1, h2⟩, l, h3, h4⟩⟩
  refine Res.Is.congr ?_ fun p => (hS p).symm
  have li := col4_of (onLine_left a b) (onLine_right a b) hc hd
  rcases overlap3_spec tol a b c d ax hgap rfl rfl with ⟨h, e⟩ | ⟨h, i, j, hi, hj, e⟩
  · rw [e]
    exact ⟨trivial, fun p => ⟨False.elim, fun ⟨_, h1, h2⟩ => absurd (h1.trans h2) (not_le.mpr h)⟩⟩
  · rw [e]
    rw [← hi, ← hj] at h ⊢
    split_ifs with he
    · refine ⟨trivial, fun p => ⟨?_, fun ⟨lp, h1, h2⟩ => onLine_ext hδ lp (li i) (le_antisymm (h2.trans_eq he.symm) h1)⟩⟩
      rintro rfl
      exact ⟨li i, le_rfl, he.le⟩
    · exact ⟨fun hpq => he (by rw [hpq]),
        fun p => (onSeg3_iff_coord hδ (li i) (li j)).trans (by rw [min_eq_left h, max_eq_right h])⟩

theorem ratios_const (tol lam : Rat) (h0 : 0 ≤ tol) (t : List Rat) (h : ∀ x ∈ t, x = lam) :
    ratiosDiffer tol t = false := by
  match t with
  | [] => rfl
  | [_] => rfl
  | [t0, t1] =>
    have e0 := h t0 (by simp); have e1 := h t1 (by simp)
    simp only [ratiosDiffer, e0, e1, sub_self, rabs_zero, decide_eq_false_iff_not, not_lt]; exact h0
  | [t0, t1, t2] =>
    have e0 := h t0 (by simp); have e1 := h t1 (by simp); have e2 := h t2 (by simp)
    simp only [ratiosDiffer, e0, e1, e2, sub_self, rabs_zero, Bool.or_eq_false_iff, decide_eq_false_iff_not, not_lt]
    exact ⟨h0, h0⟩
  | _ :: _ :: _ :: _ :: _ => rfl

theorem extent_head {a b : P3} (nd : b.x - a.x ≠ 0 ∨ b.y - a.y ≠ 0 ∨ b.z - a.z ≠ 0) :
    ∃ ax tail, [Ax.x, Ax.y, Ax.z].filter (fun ax => decide (b.get ax - a.get ax ≠ 0)) = ax :: tail ∧
      b.get ax - a.get ax ≠ 0 := by
  have hmem : ∀ ax, ax ∈ [Ax.x, Ax.y, Ax.z].filter (fun ax => decide (b.get ax - a.get ax ≠ 0)) ↔
      b.get ax - a.get ax ≠ 0 := by
    intro ax
    rw [List.mem_filter, decide_eq_true_eq]
    exact and_iff_right (by cases ax <;> simp)
  cases hsel : [Ax.x, Ax.y, Ax.z].filter (fun ax => decide (b.get ax - a.get ax ≠ 0)) with
  | nil =>
    rw [hsel] at hmem
    have hall : ∀ ax, ¬ b.get ax - a.get ax ≠ 0 := fun ax h => List.not_mem_nil ((hmem ax).mpr h)
    exact (nd.elim (hall .x) fun h => h.elim (hall .y) (hall .z)).elim
  | cons ax tail =>
    rw [hsel] at hmem
    exact ⟨ax, tail, rfl, (hmem ax).mp List.mem_cons_self⟩

theorem col4_diff_isInt {s1 e1 s2 e2 : Rat} (h1 : IsInt (e1 - s1)) (h2 : IsInt (s2 - s1)) (h3 : IsInt (e2 - s2))
    (i j : Nat) : IsInt (col4 s1 e1 s2 e2 i - col4 s1 e1 s2 e2 j) := by
  have h4 : IsInt (e2 - s1) := by
    have := h3.add h2
    rwa [sub_add_sub_cancel] at this
  have key := col4_of (M := fun v => IsInt (v - s1)) ⟨0, by rw [sub_self, Int.cast_zero]⟩ h1 h2 h4
  have := (key i).sub (key j)
  rwa [sub_sub_sub_cancel_right] at this

theorem touchExact_of_isInt {tol : Rat} {a b c d : P3} {ax : Ax} (h0 : 0 < tol) (h1 : tol ≤ 1)
    (i1 : IsInt (b.get ax - a.get ax)) (is : IsInt (c.get ax - a.get ax)) (i2 : IsInt (d.get ax - c.get ax)) :
    TouchExact tol a b c d ax :=
  fun i j => by rw [(col4_diff_isInt i1 is i2 i j).rabs_lt_iff h0 h1, sub_eq_zero]

theorem P3.ofInt_ne {x y z x' y' z' : Int} (h : x' ≠ x ∨ y' ≠ y ∨ z' ≠ z) : P3.ofInt x y z ≠ P3.ofInt x' y' z' := by
  intro e
  simp only [P3.ofInt, P3.mk.injEq, Int.cast_inj] at e
  rcases h with h | h | h
  · exact h e.1.symm
  · exact h e.2.1.symm
  · exact h e.2.2.symm

theorem isInt_ofInt_sub (x y z x' y' z' : Int) (ax : Ax) :
    IsInt ((P3.ofInt x' y' z').get ax - (P3.ofInt x y z).get ax) := by
  cases ax
  · exact ⟨x' - x, (Int.cast_sub _ _).symm⟩
  · exact ⟨y' - y, (Int.cast_sub _ _).symm⟩
  · exact ⟨z' - z, (Int.cast_sub _ _).symm⟩

theorem par3d_same_core (tol : Rat) (a b c d : P3) (h0 : 0 ≤ tol)
    (E1 : ∀ ax, rabs (b.get ax - a.get ax) > tol ↔ b.get ax - a.get ax ≠ 0)
    (E2 : ∀ ax, rabs (d.get ax - c.get ax) > tol ↔ d.get ax - c.get ax ≠ 0)
    (E3x : rabs ((c.y - a.y) * (b.z - a.z) - (c.z - a.z) * (b.y - a.y)) > tol ↔ (c.y - a.y) * (b.z - a.z) - (c.z - a.z) * (b.y - a.y) ≠ 0)
    (E3y : rabs ((c.z - a.z) * (b.x - a.x) - (c.x - a.x) * (b.z - a.z)) > tol ↔ (c.z - a.z) * (b.x - a.x) - (c.x - a.x) * (b.z - a.z) ≠ 0)
    (E3z : rabs ((c.x - a.x) * (b.y - a.y) - (c.y - a.y) * (b.x - a.x)) > tol ↔ (c.x - a.x) * (b.y - a.y) - (c.y - a.y) * (b.x - a.x) ≠ 0)
    (E4 : ∀ ax, TouchExact tol a b c d ax)
    (pxy : (b.x - a.x) * (d.y - c.y) - (b.y - a.y) * (d.x - c.x) = 0)
    (pxz : (b.x - a.x) * (d.z - c.z) - (b.z - a.z) * (d.x - c.x) = 0)
    (pyz : (b.y - a.y) * (d.z - c.z) - (b.z - a.z) * (d.y - c.y) = 0)
    (nd1 : b.x - a.x ≠ 0 ∨ b.y - a.y ≠ 0 ∨ b.z - a.z ≠ 0)
    (nd2 : d.x - c.x ≠ 0 ∨ d.y - c.y ≠ 0 ∨ d.z - c.z ≠ 0) :
    Res.same (par3d true tol a b c d) (segInter3 a b c d) := by
  obtain ⟨lam, hlam0, hprop⟩ := parallel_prop a b c d pxy pxz pyz nd1 nd2
  have hmask : ∀ ax, b.get ax - a.get ax ≠ 0 ↔ d.get ax - c.get ax ≠ 0 := by
    intro ax; rw [hprop ax]; simp [hlam0]
  unfold par3d
  simp only [P3.get_mk_sub, E1, E2, E3x, E3y, E3z]
  have hratio : ∀ x ∈ ([Ax.x, Ax.y, Ax.z].filter fun ax => decide (b.get ax - a.get ax ≠ 0)).map
      (fun ax => (b.get ax - a.get ax) / (d.get ax - c.get ax)), x = lam := by
    intro x hx
    obtain ⟨ax, hax, rfl⟩ := List.mem_map.mp hx
    rw [hprop ax, mul_div_cancel_right₀ _ ((hmask ax).mp (of_decide_eq_true (List.mem_filter.mp hax).2))]
  rw [if_neg (by rintro (h | h | h) <;> exact h (decide_eq_decide.mpr (hmask _))),
    ratios_const tol lam h0 _ hratio]
  simp only [Bool.false_eq_true, if_false]
  by_cases hcol : (c.y - a.y) * (b.z - a.z) - (c.z - a.z) * (b.y - a.y) ≠ 0 ∨
         (c.z - a.z) * (b.x - a.x) - (c.x - a.x) * (b.z - a.z) ≠ 0 ∨
         (c.x - a.x) * (b.y - a.y) - (c.y - a.y) * (b.x - a.x) ≠ 0
  · rw [segInter3_parallel a b c d pxy pxz pyz, if_pos hcol, ite_or_none, ite_or_none, if_pos (or_assoc.mpr hcol)]
    trivial
  · obtain ⟨hcx, hcy, hcz⟩ := eq_zero_of_not_ne hcol
    rw [if_neg (not_not.mpr hcx), if_neg (not_not.mpr hcy), if_neg (not_not.mpr hcz)]
    obtain ⟨ts, te, hc, hd, -⟩ := segInter3_colinear a b c d pxy pxz pyz hcx hcy hcz nd1
    -- `np.allclose` on the coordinates without extent: they coincide
    have hclose : ([Ax.x, Ax.y, Ax.z].all fun ax =>
        decide (b.get ax - a.get ax ≠ 0) || close1 tol (a.get ax) (c.get ax)) = true := by
      rw [List.all_eq_true]
      intro ax _
      by_cases hz : b.get ax - a.get ax ≠ 0
      · simp [hz]
      · have : c.get ax = a.get ax := by rw [hc, lineAt_get, not_not.mp hz]; ring
        rw [this, close1_self h0, Bool.or_true]
    rw [if_neg (by rw [hclose]; simp)]
    obtain ⟨ax, tail, hsel, hax⟩ := extent_head nd1
    rw [hsel]
    exact (overlap3_is tol a b c d ax hax ⟨ts, hc⟩ ⟨te, hd⟩ (E4 ax)).same (segInter3_is a b c d nd1)

theorem seg3d_eq_par (tol : Rat) (a b c d : P3) (htol : 0 < tol)
    (hxy : minor ⟨b.x - a.x, b.y - a.y, b.z - a.z⟩ ⟨d.x - c.x, d.y - c.y, d.z - c.z⟩ .xy = 0)
    (hxz : minor ⟨b.x - a.x, b.y - a.y, b.z - a.z⟩ ⟨d.x - c.x, d.y - c.y, d.z - c.z⟩ .xz = 0)
    (hyz : minor ⟨b.x - a.x, b.y - a.y, b.z - a.z⟩ ⟨d.x - c.x, d.y - c.y, d.z - c.z⟩ .yz = 0) :
    seg3d tol a b c d = par3d true tol a b c d := by
  simp only [seg3d, seg3dWith, Dims.pick, hxy, hxz, hyz, rabs_zero, htol, not_true_eq_false, if_false, if_true]

theorem seg3d_same_core (tol : Rat) (a b c d : P3) (K : Rat) (htol : 0 < tol) (hK : tol * K < 1) (hK1 : 1 ≤ K)
    (i1 : ∀ ax, IsInt (b.get ax - a.get ax)) (i2 : ∀ ax, IsInt (d.get ax - c.get ax))
    (is : ∀ ax, IsInt (c.get ax - a.get ax))
    (hbd : ∀ m, |minor ⟨b.x - a.x, b.y - a.y, b.z - a.z⟩ ⟨d.x - c.x, d.y - c.y, d.z - c.z⟩ m| ≤ K)
    (nd1 : b.x - a.x ≠ 0 ∨ b.y - a.y ≠ 0 ∨ b.z - a.z ≠ 0)
    (nd2 : d.x - c.x ≠ 0 ∨ d.y - c.y ≠ 0 ∨ d.z - c.z ≠ 0) :
    Res.same (seg3d tol a b c d) (segInter3 a b c d) := by
  by_cases hnp : ∃ m, minor ⟨b.x - a.x, b.y - a.y, b.z - a.z⟩ ⟨d.x - c.x, d.y - c.y, d.z - c.z⟩ m ≠ 0
  · exact Res.same_of_eq (seg3d_cross_core tol a b c d K htol hK hK1 i1 i2 is hbd hnp)
  · have hz : ∀ m, minor ⟨b.x - a.x, b.y - a.y, b.z - a.z⟩ ⟨d.x - c.x, d.y - c.y, d.z - c.z⟩ m = 0 :=
      fun m => by_contra fun h => hnp ⟨m, h⟩
    have htol1 : tol < 1 := lt_of_le_of_lt (by rw [mul_one]) (tol_mul_lt_one htol.le hK hK1)
    rw [seg3d_eq_par tol a b c d htol (hz .xy) (hz .xz) (hz .yz)]
    apply par3d_same_core tol a b c d htol.le
    · exact fun ax => (i1 ax).rabs_gt_iff htol.le htol1
    · exact fun ax => (i2 ax).rabs_gt_iff htol.le htol1
    · exact (((is .y).mul (i1 .z)).sub ((is .z).mul (i1 .y))).rabs_gt_iff htol.le htol1
    · exact (((is .z).mul (i1 .x)).sub ((is .x).mul (i1 .z))).rabs_gt_iff htol.le htol1
    · exact (((is .x).mul (i1 .y)).sub ((is .y).mul (i1 .x))).rabs_gt_iff htol.le htol1
    · exact fun ax => touchExact_of_isInt htol htol1.le (i1 ax) (is ax) (i2 ax)
    · exact hz .xy
    · exact hz .xz
    · exact hz .yz
    · exact nd1
    · exact nd2

theorem seg3d_zero_length_par (tol : Rat) (h0 : 0 < tol) (a c d : P3) :
    seg3d tol a a c d = par3d true tol a a c d :=
  seg3d_eq_par tol a a c d h0 (by simp [minor, Dims.i, Dims.j, P3.get]) (by simp [minor, Dims.i, Dims.j, P3.get])
    (by simp [minor, Dims.i, Dims.j, P3.get])

theorem seg3d_zero_length_both (tol : Rat) (h0 : 0 < tol) (a : P3) : seg3d tol a a a a = .err .index := by
  have h1 : ¬ tol < 0 := not_lt.mpr (le_of_lt h0)
  have hc : ∀ ax, close1 tol (a.get ax) (a.get ax) = true := fun ax => close1_self h0.le _
  rw [seg3d_zero_length_par tol h0]
  simp [par3d, P3.get, rabs_zero, ratiosDiffer, h1]
  exact ⟨hc .x, hc .y, hc .z⟩

theorem seg3d_zero_length_first (tol : Rat) (h0 : 0 < tol) (a c d : P3)
    (hd : rabs (d.x - c.x) > tol ∨ rabs (d.y - c.y) > tol ∨ rabs (d.z - c.z) > tol) :
    seg3d tol a a c d = .none := by
  have h1 : ¬ tol < 0 := not_lt.mpr (le_of_lt h0)
  rw [seg3d_zero_length_par tol h0]
  unfold par3d
  simp only [P3.get, sub_self, rabs_zero, gt_iff_lt, h1, decide_false]
  rw [if_pos]
  rcases hd with h | h | h
  · left; simp [h]
  · right; left; simp [h]
  · right; right; simp [h]

theorem overlap3_segment_order (tol : Rat) (a b c d p q : P3) (ax : Ax)
    (hgap : TouchExact tol a b c d ax)
    (h : overlap3 true tol a b c d ax = .segment p q) : p.get ax < q.get ax := by
  rcases overlap3_spec tol a b c d ax hgap rfl rfl with ⟨-, e⟩ | ⟨hv, i, j, hi, hj, e⟩
  · rw [e] at h; cases h
  · rw [e] at h
    split_ifs at h with he
    obtain ⟨rfl, rfl⟩ := Res.segment.inj h
    rw [hi, hj]
    exact lt_of_le_of_ne hv he

theorem cross3d_not_segment (tol : Rat) (m : Dims) (a b c d p q : P3) : cross3d tol m a b c d ≠ .segment p q := by
  unfold cross3d
  simp only []
  split_ifs <;> simp

theorem par3d_segment (tol : Rat) (a b c d p q : P3) (h : par3d true tol a b c d = .segment p q) :
    (∀ ax, decide (rabs ((⟨b.x - a.x, b.y - a.y, b.z - a.z⟩ : P3).get ax) > tol)
         = decide (rabs ((⟨d.x - c.x, d.y - c.y, d.z - c.z⟩ : P3).get ax) > tol)) ∧
    ∃ ax tail, [Ax.x, Ax.y, Ax.z].filter (fun ax => decide (rabs ((⟨b.x - a.x, b.y - a.y, b.z - a.z⟩ : P3).get ax) > tol)) = ax :: tail ∧
      overlap3 true tol a b c d ax = .segment p q := by
  -- a segment is returned only if each of the six guards that return `None` is false
  obtain ⟨h1, h⟩ := ite_none_eq_segment h
  obtain ⟨-, h⟩ := ite_none_eq_segment h
  obtain ⟨-, h⟩ := ite_none_eq_segment h
  obtain ⟨-, h⟩ := ite_none_eq_segment h
  obtain ⟨-, h⟩ := ite_none_eq_segment h
  obtain ⟨-, h⟩ := ite_none_eq_segment h
  constructor
  · intro ax
    by_contra hne
    apply h1
    cases ax
    · left; exact hne
    · right; left; exact hne
    · right; right; exact hne
  · generalize hsel : List.filter (fun ax => decide (rabs ((⟨b.x - a.x, b.y - a.y, b.z - a.z⟩ : P3).get ax) > tol)) [Ax.x, Ax.y, Ax.z] = sel at h
    match sel, h with
    | ax :: tail, h => exact ⟨ax, tail, rfl, h⟩

theorem seg3d_segment (tol : Rat) (a b c d p q : P3) (h : seg3d tol a b c d = .segment p q) :
    par3d true tol a b c d = .segment p q := by
  unfold seg3d seg3dWith at h
  simp only [] at h
  split_ifs at h
  · exact h
  · exact absurd h (cross3d_not_segment _ _ _ _ _ _ _ _)

theorem eq_of_same_of_order {r s : Res P3} (h : Res.same r s)
    (hord : ∀ p q p' q', r = .segment p q → s = .segment p' q' → ∃ ax, p.get ax < q.get ax ∧ p'.get ax < q'.get ax) :
    r = s := by
  cases r <;> cases s <;> simp only [Res.same] at h
  · rfl
  · rw [h]
  · rename_i p q p' q'
    rcases h with ⟨h1, h2⟩ | ⟨h1, h2⟩
    · rw [h1, h2]
    · obtain ⟨ax, o1, o2⟩ := hord p q p' q' rfl rfl
      rw [h1, h2] at o1
      exact absurd o1 (not_lt.mpr (le_of_lt o2))
  · rw [h]

theorem seg3d_common_order (tol : Rat) (a b c d a' b' c' d' p q p' q' : P3)
    (h : seg3d tol a b c d = .segment p q) (h' : seg3d tol a' b' c' d' = .segment p' q')
    (hmask : ∀ ax, decide (rabs ((⟨b.x - a.x, b.y - a.y, b.z - a.z⟩ : P3).get ax) > tol)
                 = decide (rabs ((⟨b'.x - a'.x, b'.y - a'.y, b'.z - a'.z⟩ : P3).get ax) > tol))
    (g : ∀ ax, TouchExact tol a b c d ax) (g' : ∀ ax, TouchExact tol a' b' c' d' ax) :
    ∃ ax, p.get ax < q.get ax ∧ p'.get ax < q'.get ax := by
  obtain ⟨-, ax, tail, hs, ho⟩ := par3d_segment tol a b c d p q (seg3d_segment tol a b c d p q h)
  obtain ⟨-, ax', tail', hs', ho'⟩ := par3d_segment tol a' b' c' d' p' q' (seg3d_segment tol a' b' c' d' p' q' h')
  have hf : (fun ax => decide (rabs ((⟨b.x - a.x, b.y - a.y, b.z - a.z⟩ : P3).get ax) > tol))
      = (fun ax => decide (rabs ((⟨b'.x - a'.x, b'.y - a'.y, b'.z - a'.z⟩ : P3).get ax) > tol)) := funext hmask
  rw [hf, hs'] at hs
  have hax : ax' = ax := (List.cons.inj hs).1
  subst hax
  exact ⟨ax', overlap3_segment_order tol a b c d p q ax' (g ax') ho,
    overlap3_segment_order tol a' b' c' d' p' q' ax' (g' ax') ho'⟩

theorem touchExact_ofInt {tol : Rat} (h0 : 0 < tol) (h1 : tol ≤ 1) {ax ay az bx by' bz cx cy cz dx dy dz : Int} (k : Ax) :
    TouchExact tol (P3.ofInt ax ay az) (P3.ofInt bx by' bz) (P3.ofInt cx cy cz) (P3.ofInt dx dy dz) k :=
  touchExact_of_isInt h0 h1 (isInt_ofInt_sub ..) (isInt_ofInt_sub ..) (isInt_ofInt_sub ..)

theorem seg3d_mask_eq (tol : Rat) (a b c d p q : P3) (h : seg3d tol a b c d = .segment p q) :
    ∀ ax, decide (rabs ((⟨b.x - a.x, b.y - a.y, b.z - a.z⟩ : P3).get ax) > tol)
        = decide (rabs ((⟨d.x - c.x, d.y - c.y, d.z - c.z⟩ : P3).get ax) > tol) :=
  (par3d_segment tol a b c d p q (seg3d_segment tol a b c d p q h)).1

end PorepyVerif.C28
