/-
C28 — arithmetic behind the tolerance tests.  Integrality of the coordinates and the bound `8·B²·tol < 1` enter only here:
a non-zero integer has absolute value ≥ 1, so every tolerance test on an integer, or on a ratio of integers with a bounded
denominator, is exact.
-/
import Mathlib.Tactic.Ring
import Mathlib.Tactic.Linarith
import Mathlib.Algebra.Order.Field.Basic
import Mathlib.Algebra.Order.Field.Rat
import Mathlib.Order.Lattice
import PorepyVerif.C28.Model

namespace PorepyVerif.C28

theorem rabs_eq (a : Rat) : rabs a = |a| := by
  unfold rabs; split
  · rw [abs_of_neg ‹_›]
  · rw [abs_of_nonneg (by linarith)]

theorem rabs_zero : rabs 0 = 0 := by simp [rabs]

theorem int_abs_ge_one (n : Int) (h : n ≠ 0) : (1 : Rat) ≤ |(n : Rat)| := by
  have : (1 : Int) ≤ |n| := Int.one_le_abs h
  exact_mod_cast this

theorem ratio_abs_ge (m n : Int) (hm : m ≠ 0) (hn : n ≠ 0) : 1 ≤ |(m : Rat) / n| * |(n : Rat)| := by
  rw [abs_div, div_mul_cancel₀]
  · exact int_abs_ge_one m hm
  · have := int_abs_ge_one n hn
    intro h; rw [h] at this; linarith

theorem ratio_abs_gt_tol {m n : Int} (hm : m ≠ 0) (hn : n ≠ 0) {tol : Rat} (h1 : tol * |(n : Rat)| < 1) :
    tol < |(m : Rat) / n| :=
  lt_of_mul_lt_mul_right (lt_of_lt_of_le h1 (ratio_abs_ge m n hm hn)) (abs_nonneg _)

def IsInt (q : Rat) : Prop := ∃ n : Int, q = n

theorem IsInt.ofInt (n : Int) : IsInt n := ⟨n, rfl⟩

theorem IsInt.neg {p : Rat} (hp : IsInt p) : IsInt (-p) := by
  obtain ⟨m, rfl⟩ := hp; exact ⟨-m, by push_cast; rfl⟩

theorem IsInt.add {p q : Rat} (hp : IsInt p) (hq : IsInt q) : IsInt (p + q) := by
  obtain ⟨m, rfl⟩ := hp; obtain ⟨n, rfl⟩ := hq; exact ⟨m + n, by push_cast; rfl⟩

theorem IsInt.sub {p q : Rat} (hp : IsInt p) (hq : IsInt q) : IsInt (p - q) := by
  obtain ⟨m, rfl⟩ := hp; obtain ⟨n, rfl⟩ := hq; exact ⟨m - n, by push_cast; rfl⟩

theorem IsInt.mul {p q : Rat} (hp : IsInt p) (hq : IsInt q) : IsInt (p * q) := by
  obtain ⟨m, rfl⟩ := hp; obtain ⟨n, rfl⟩ := hq; exact ⟨m * n, by push_cast; rfl⟩

theorem IsInt.one_le_abs {q : Rat} (hq : IsInt q) (h : q ≠ 0) : 1 ≤ |q| := by
  obtain ⟨n, rfl⟩ := hq; exact int_abs_ge_one n (Int.cast_ne_zero.mp h)

theorem IsInt.one_le_sq {q : Rat} (hq : IsInt q) (h : q ≠ 0) : 1 ≤ q * q :=
  (one_le_mul_of_one_le_of_one_le (hq.one_le_abs h) (hq.one_le_abs h)).trans_eq (abs_mul_abs_self _)

theorem int_sq_ge_one (n : Int) (h : n ≠ 0) : (1 : Rat) ≤ (n : Rat) * n :=
  (IsInt.ofInt n).one_le_sq (Int.cast_ne_zero.mpr h)

theorem IsInt.abs_le_sq {q : Rat} (hq : IsInt q) : |q| ≤ q * q := by
  rcases eq_or_ne q 0 with rfl | h
  · simp
  · rw [← abs_mul_abs_self]; exact le_mul_of_one_le_left (abs_nonneg _) (hq.one_le_abs h)

theorem IsInt.sq_lt_iff {q e : Rat} (hq : IsInt q) (h0 : 0 < e) (h1 : e < 1) : q * q < e ↔ q = 0 :=
  ⟨fun h => by_contra fun hn => absurd (hq.one_le_sq hn) (not_le.mpr (h.trans h1)),
    fun h => by rw [h, mul_zero]; exact h0⟩

theorem IsInt.sq_gt_iff {q e : Rat} (hq : IsInt q) (h0 : 0 ≤ e) (h1 : e < 1) : q * q > e ↔ q ≠ 0 :=
  ⟨fun h hn => by rw [hn, mul_zero] at h; exact absurd h (not_lt.mpr h0),
    fun hn => lt_of_lt_of_le h1 (hq.one_le_sq hn)⟩

theorem IsInt.rabs_gt_iff {q tol : Rat} (hq : IsInt q) (h0 : 0 ≤ tol) (h1 : tol < 1) : rabs q > tol ↔ q ≠ 0 := by
  rw [rabs_eq]
  exact ⟨fun h hn => by rw [hn, abs_zero] at h; exact absurd h (not_lt.mpr h0),
    fun hn => lt_of_lt_of_le h1 (hq.one_le_abs hn)⟩

theorem IsInt.rabs_lt_iff {q tol : Rat} (hq : IsInt q) (h0 : 0 < tol) (h1 : tol ≤ 1) : rabs q < tol ↔ q = 0 := by
  rw [rabs_eq]
  exact ⟨fun h => by_contra fun hn => absurd (hq.one_le_abs hn) (not_le.mpr (h.trans_le h1)),
    fun hn => by rw [hn, abs_zero]; exact h0⟩

/-- `x` is an integer multiple of `1/q` -/
def IsOver (q x : Rat) : Prop := IsInt (x * q)

theorem IsOver.zero (q : Rat) : IsOver q 0 := ⟨0, by rw [zero_mul, Int.cast_zero]⟩

theorem IsOver.one {q : Rat} (hq : IsInt q) : IsOver q 1 := by rwa [IsOver, one_mul]

theorem IsOver.ratio {p q : Rat} (hp : IsInt p) (hq0 : q ≠ 0) : IsOver q (p / q) := by
  rwa [IsOver, div_mul_cancel₀ _ hq0]

theorem IsOver.max {q x y : Rat} (hx : IsOver q x) (hy : IsOver q y) : IsOver q (max x y) := by
  rcases max_choice x y with h | h <;> rw [h] <;> assumption

theorem IsOver.min {q x y : Rat} (hx : IsOver q x) (hy : IsOver q y) : IsOver q (min x y) := by
  rcases min_choice x y with h | h <;> rw [h] <;> assumption

theorem IsOver.sub {q x y : Rat} (hx : IsOver q x) (hy : IsOver q y) : IsOver q (x - y) := by
  rw [IsOver, sub_mul]; exact IsInt.sub hx hy

/-- the comparisons with a margin `tol` below are this fact for `x`, `-x` and `x - 1` -/
theorem IsOver.tol_lt {q x tol : Rat} (hx : IsOver q x) (hq0 : q ≠ 0) (h1 : tol * |q| < 1) (hpos : 0 < x) :
    tol < x := by
  have h := IsInt.one_le_abs hx (mul_ne_zero hpos.ne' hq0)
  rw [abs_mul, abs_of_pos hpos] at h
  exact lt_of_mul_lt_mul_right (h1.trans_le h) (abs_nonneg q)

theorem IsOver.lt_tol_iff {q x : Rat} (hx : IsOver q x) (hq0 : q ≠ 0) (tol : Rat) (h0 : 0 < tol)
    (h1 : tol * |q| < 1) : x < tol ↔ x ≤ 0 :=
  ⟨fun h => not_lt.mp fun hpos => lt_asymm h (hx.tol_lt hq0 h1 hpos), fun h => lt_of_le_of_lt h h0⟩

theorem IsOver.ge_neg_tol_iff {q x : Rat} (hx : IsOver q x) (hq0 : q ≠ 0) (tol : Rat) (h0 : 0 < tol)
    (h1 : tol * |q| < 1) : x ≥ -tol ↔ 0 ≤ x :=
  ⟨fun h => not_lt.mp fun hneg => by have := ((IsOver.zero q).sub hx).tol_lt hq0 h1 (by linarith); linarith,
    fun h => by linarith⟩

theorem IsOver.le_one_tol_iff {q x : Rat} (hx : IsOver q x) (hq : IsInt q) (hq0 : q ≠ 0) (tol : Rat) (h0 : 0 < tol)
    (h1 : tol * |q| < 1) : x ≤ 1 + tol ↔ x ≤ 1 :=
  ⟨fun h => not_lt.mp fun hgt => by have := (hx.sub (IsOver.one hq)).tol_lt hq0 h1 (by linarith); linarith,
    fun h => by linarith⟩

theorem IsInt.ratio_lt_tol_iff {p q tol : Rat} (hp : IsInt p) (hq : IsInt q) (hq0 : q ≠ 0) (h0 : 0 < tol)
    (h1 : tol * |q| < 1) : rabs (p / q) < tol ↔ p = 0 := by
  obtain ⟨m, rfl⟩ := hp; obtain ⟨n, rfl⟩ := hq
  rw [rabs_eq]
  constructor
  · intro h; by_contra hm
    exact lt_asymm h (ratio_abs_gt_tol (Int.cast_ne_zero.mp hm) (Int.cast_ne_zero.mp hq0) h1)
  · intro hm; rw [hm, zero_div, abs_zero]; exact h0

/-- the range test of `segments_2d`: the tolerance margin around `[0,1]` contains no further value -/
theorem IsInt.ratio_range_iff {p1 p2 q tol : Rat} (h1 : IsInt p1) (h2 : IsInt p2) (hq : IsInt q) (hq0 : q ≠ 0)
    (h0 : 0 < tol) (hb : tol * |q| < 1) :
    (p1 / q ≥ -tol ∧ p1 / q ≤ 1 + tol ∧ p2 / q ≥ -tol ∧ p2 / q ≤ 1 + tol) ↔
      (0 ≤ p1 / q ∧ p1 / q ≤ 1 ∧ 0 ≤ p2 / q ∧ p2 / q ≤ 1) := by
  rw [(IsOver.ratio h1 hq0).ge_neg_tol_iff hq0 tol h0 hb, (IsOver.ratio h1 hq0).le_one_tol_iff hq hq0 tol h0 hb,
    (IsOver.ratio h2 hq0).ge_neg_tol_iff hq0 tol h0 hb, (IsOver.ratio h2 hq0).le_one_tol_iff hq hq0 tol h0 hb]

theorem sumsq_pos {u v : Rat} (h : u ≠ 0 ∨ v ≠ 0) : 0 < u * u + v * v := by
  rcases h with h | h
  · exact add_pos_of_pos_of_nonneg (mul_self_pos.mpr h) (mul_self_nonneg _)
  · exact add_pos_of_nonneg_of_pos (mul_self_nonneg _) (mul_self_pos.mpr h)

/-- `K` bounds every quantity a tolerance is multiplied with, and `tol·K < 1` -/
theorem tol_mul_lt_one {tol K x : Rat} (h0 : 0 ≤ tol) (hK : tol * K < 1) (hx : x ≤ K) : tol * x < 1 :=
  lt_of_le_of_lt (mul_le_mul_of_nonneg_left hx h0) hK

theorem tol_sq_mul_lt_one {tol K x y : Rat} (h0 : 0 ≤ tol) (hK : tol * K < 1)
    (hx0 : 0 ≤ x) (hx : x ≤ K) (hy : y ≤ K) : tol * tol * x * y < 1 := by
  have h1 := tol_mul_lt_one h0 hK hx
  have h2 := tol_mul_lt_one h0 hK hy
  calc tol * tol * x * y = (tol * x) * (tol * y) := by ring
    _ < 1 := mul_lt_one_of_nonneg_of_lt_one_left (mul_nonneg h0 hx0) h1 h2.le

/-- the tolerance term of a squared relative test lies in `(0,1)` -/
theorem tol_term_mem {tol K x : Rat} (htol : 0 < tol) (hK : tol * K < 1) (hK1 : 1 ≤ K) (hx0 : 0 < x) (hx : x ≤ K) :
    0 < tol * tol * x ∧ tol * tol * x < 1 := by
  have := tol_sq_mul_lt_one htol.le hK hx0.le hx hK1
  rw [mul_one] at this
  exact ⟨mul_pos (mul_pos htol htol) hx0, this⟩

theorem interval_disjoint_iff {l1 h1 l2 h2 : Rat} (a : l1 ≤ h1) (b : l2 ≤ h2) :
    (h1 < l2 ∨ h2 < l1) ↔ min h1 h2 < max l1 l2 := by
  rw [min_lt_iff, lt_max_iff, lt_max_iff]
  constructor
  · rintro (h | h)
    · exact Or.inl (Or.inr h)
    · exact Or.inr (Or.inl h)
  · rintro ((h | h) | (h | h))
    · exact absurd h (not_lt.mpr a)
    · exact Or.inl h
    · exact Or.inr h
    · exact absurd h (not_lt.mpr b)

theorem box_diff {B x y : Int} (hx : InBox B x) (hy : InBox B y) : |y - x| ≤ 2 * B := by
  unfold InBox at *; rw [abs_le]; constructor <;> omega

theorem abs_mul_le_sq {u v M : Int} (hu : |u| ≤ M) (hv : |v| ≤ M) : |u * v| ≤ M * M := by
  rw [abs_mul]; exact mul_le_mul hu hv (abs_nonneg _) (le_trans (abs_nonneg _) hu)

theorem sq_sum_le {u v M : Int} (hu : |u| ≤ M) (hv : |v| ≤ M) : u * u + v * v ≤ 2 * (M * M) := by
  have h1 := abs_mul_le_sq hu hu
  have h2 := abs_mul_le_sq hv hv
  have := le_abs_self (u * u)
  have := le_abs_self (v * v)
  linarith

theorem abs_det_le {u1 v1 u2 v2 M : Int} (h1 : |u1| ≤ M) (h2 : |v1| ≤ M) (h3 : |u2| ≤ M) (h4 : |v2| ≤ M) :
    |u1 * v2 - v1 * u2| ≤ 2 * (M * M) := by
  have a := abs_mul_le_sq h1 h4
  have b := abs_mul_le_sq h2 h3
  have := abs_sub (u1 * v2) (v1 * u2)
  linarith

theorem box_sumsq_le {B x x' y y' : Int} (hx : InBox B x) (hx' : InBox B x') (hy : InBox B y) (hy' : InBox B y') :
    ((x' : Rat) - x) * (x' - x) + ((y' : Rat) - y) * (y' - y) ≤ 8 * B * B := by
  have := sq_sum_le (box_diff hx hx') (box_diff hy hy')
  have : (x' - x) * (x' - x) + (y' - y) * (y' - y) ≤ 8 * B * B := by linarith
  exact_mod_cast this

theorem box_det_le {B x x' y y' u u' v v' : Int} (hx : InBox B x) (hx' : InBox B x') (hy : InBox B y)
    (hy' : InBox B y') (hu : InBox B u) (hu' : InBox B u') (hv : InBox B v) (hv' : InBox B v') :
    |((x' : Rat) - x) * (v' - v) - ((y' : Rat) - y) * (u' - u)| ≤ 8 * B * B := by
  have := abs_det_le (box_diff hx hx') (box_diff hy hy') (box_diff hu hu') (box_diff hv hv')
  have : |(x' - x) * (v' - v) - (y' - y) * (u' - u)| ≤ 8 * B * B := by linarith
  exact_mod_cast this

theorem TolSmall.one_le_bound {tol : Rat} {B : Int} (hT : TolSmall tol B) : (1 : Rat) ≤ 8 * B * B := by
  have hB : (1 : Rat) ≤ B := by exact_mod_cast hT.one_le
  have := mul_le_mul hB hB zero_le_one (zero_le_one.trans hB)
  linarith

theorem TolSmall.lt_one {tol : Rat} {B : Int} (hT : TolSmall tol B) : tol < 1 :=
  lt_of_le_of_lt (by rw [mul_one]) (tol_mul_lt_one hT.pos.le hT.small hT.one_le_bound)

/-- Cramer's rule as `segments_2d` and `segments_3d` write it: `(t1, t2)` is the solution of
    `t1·(u1,v1) − t2·(u2,v2) = (sx,sy)`, and the only one -/
theorem cramer2 (u1 v1 u2 v2 sx sy : Rat) (hΔ : u1 * -v2 - v1 * -u2 ≠ 0) :
    ((sx * -v2 - sy * -u2) / (u1 * -v2 - v1 * -u2) * u1 - (u1 * sy - v1 * sx) / (u1 * -v2 - v1 * -u2) * u2 = sx ∧
     (sx * -v2 - sy * -u2) / (u1 * -v2 - v1 * -u2) * v1 - (u1 * sy - v1 * sx) / (u1 * -v2 - v1 * -u2) * v2 = sy) ∧
    ∀ s t, s * u1 - t * u2 = sx → s * v1 - t * v2 = sy →
      s = (sx * -v2 - sy * -u2) / (u1 * -v2 - v1 * -u2) ∧ t = (u1 * sy - v1 * sx) / (u1 * -v2 - v1 * -u2) := by
  constructor
  · constructor <;> rw [div_mul_eq_mul_div, div_mul_eq_mul_div, ← sub_div, div_eq_iff hΔ] <;> ring
  · rintro s t rfl rfl
    constructor <;> rw [eq_div_iff hΔ] <;> ring

theorem rabs_sub_comm (x y : Rat) : rabs (x - y) = rabs (y - x) := by
  rw [rabs_eq, rabs_eq, abs_sub_comm]

end PorepyVerif.C28
