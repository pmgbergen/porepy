/-
C28 — the lemmas behind Props.lean: `LemmasGap` (arithmetic of the tolerance tests), `LemmasSpec` (the specification and the point
sets), `LemmasSeg2d`, `LemmasSeg3d` (the two models against the specification).
-/
import PorepyVerif.C28.LemmasSeg2d
import PorepyVerif.C28.LemmasSeg3d
