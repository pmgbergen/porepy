/-
C28 — property theorems (statements over Model.lean; only §G also mentions `seg2dSqrt`, defined in LemmasSeg2d).

Property: for two segments with integer coordinates in a bounded box, `segments_2d` / `segments_3d`
report no intersection, one point or an overlapping segment exactly as exact rational arithmetic
does, with the same points, independent of argument order.

  §A  the bound and the three shapes in which it is used (`bound_gap`)
  §B  model = exact specification (`seg2d_eq_spec`, `seg3d_eq_spec`)
  §C  the specification IS the set intersection (`mem_segInter2_iff`, `mem_segInter3_iff`)
  §D  independence of argument order (`seg_symmetric`, `seg2d_symmetric`, `seg3d_symmetric`)
  §E  what the code does outside the property: zero-length segments, the dropped assertion
  §F  the two (meanwhile repaired) defects of `segments_3d`: `decide` witnesses on the pre-repair model `seg3dCode`
  §G  the squared-form comparisons are the sqrt comparisons of the code (`sqrt_rewrites`, `seg2d_eq_sqrt_form`)
  §H  column order: 2-D along segment 1; 3-D identical in every argument order (`seg3d_order_independent`)
-/
import PorepyVerif.C28.Lemmas

namespace PorepyVerif.C28

/-! ## §A  The bound -/

/-- the default tolerance and the box of the property: `8·1000²·1e-8 = 0.08 < 1` -/
theorem tolSmall_default : TolSmall (1 / 100000000) 1000 :=
  ⟨by decide +kernel, by decide, by decide +kernel⟩

/-- THE ONLY WAY THE BOUND IS USED, as one statement (a summary: the proofs of §B take these facts from
    LemmasGap, they do not cite this theorem).  Under `8·B²·tol < 1` a non-zero integer `n` (a determinant, a
    component of a cross product, a coordinate difference) exceeds every tolerance term it is
    compared with:  (1) `|n| > tol` (absolute tests of `segments_3d`);  (2) `n² > tol²·l1·l2` for squared
    lengths `l1, l2 ≤ 8B²` (the relative tests of `segments_2d`, in squared form; `l2 = 1` gives the
    tests against one length);  (3) a non-zero ratio `n/m` with `|m| ≤ 8B²` (a line parameter or a
    difference of parameters, a residual of Cramer's rule) satisfies `|n/m| > tol`.
    Everything else in the proofs of §B is exact algebra over ℚ. -/
theorem bound_gap (tol : Rat) (B : Int) (hT : TolSmall tol B) (n : Int) (hn : n ≠ 0) :
    tol < |(n : Rat)| ∧
    (∀ l1 l2 : Rat, 0 ≤ l1 → l1 ≤ 8 * B * B → 0 ≤ l2 → l2 ≤ 8 * B * B → tol * tol * l1 * l2 < (n : Rat) * n) ∧
    (∀ m : Int, m ≠ 0 → |(m : Rat)| ≤ 8 * B * B → tol < |(n : Rat) / m|) := by
  have h0 := hT.pos.le
  refine ⟨lt_of_lt_of_le hT.lt_one (int_abs_ge_one n hn), ?_, ?_⟩
  · intro l1 l2 h1 h1' _ h2'
    exact lt_of_lt_of_le (tol_sq_mul_lt_one h0 hT.small h1 h1' h2') (int_sq_ge_one n hn)
  · intro m hm hmb
    exact ratio_abs_gt_tol hn hm (tol_mul_lt_one h0 hT.small hmb)

/-- non-vacuity: with the default tolerance and box, a determinant `n = -1` (nearly parallel
    directions (500,499), (499,498)) still exceeds the tolerance term of two segments of maximal length -/
example : (1 / 100000000 : Rat) * (1 / 100000000) * (8 * 1000 * 1000) * (8 * 1000 * 1000) < ((-1 : Int) : Rat) * ((-1 : Int) : Rat) :=
  (bound_gap _ 1000 tolSmall_default (-1) (by decide)).2.1 _ _ (by norm_num) (by norm_num) (by norm_num) (by norm_num)

/-! ## §B  Model = exact specification on bounded integer coordinates -/

/-- 2-D: on integer coordinates in `[-B, B]` with `8·B²·tol < 1`, the model of `segments_2d`
    (tolerances and all) returns exactly the exact-arithmetic intersection — same kind, same
    points, same column order.  The bound is used only through the gap lemmas of LemmasGap
    (`IsInt.sq_lt_iff`, `IsInt.sq_gt_iff`, `IsOver.tol_lt`: a non-zero integer is ≥ 1 in absolute value). -/
theorem seg2d_eq_spec (tol : Rat) (B : Int) (hT : TolSmall tol B)
    (ax ay bx by' cx cy dx dy : Int)
    (hax : InBox B ax) (hay : InBox B ay) (hbx : InBox B bx) (hby : InBox B by')
    (hcx : InBox B cx) (hcy : InBox B cy) (hdx : InBox B dx) (hdy : InBox B dy)
    (nd1 : bx ≠ ax ∨ by' ≠ ay) (nd2 : dx ≠ cx ∨ dy ≠ cy) :
    seg2d tol (P2.ofInt ax ay) (P2.ofInt bx by') (P2.ofInt cx cy) (P2.ofInt dx dy)
      = segInter2 (P2.ofInt ax ay) (P2.ofInt bx by') (P2.ofInt cx cy) (P2.ofInt dx dy) := by
  apply seg2d_core tol _ _ _ _ (bx - ax) (by' - ay) (dx - cx) (dy - cy) (cx - ax) (cy - ay) (8 * B * B)
    (Int.cast_sub _ _).symm (Int.cast_sub _ _).symm (Int.cast_sub _ _).symm (Int.cast_sub _ _).symm
    (Int.cast_sub _ _).symm (Int.cast_sub _ _).symm hT.pos hT.small hT.one_le_bound
  · push_cast; exact box_sumsq_le hax hbx hay hby
  · push_cast; exact box_sumsq_le hcx hdx hcy hdy
  · push_cast; exact box_det_le hax hbx hay hby hcx hdx hcy hdy
  · exact nd1.imp (fun h => Int.cast_ne_zero.mpr (sub_ne_zero.mpr h)) fun h => Int.cast_ne_zero.mpr (sub_ne_zero.mpr h)
  · exact nd2.imp (fun h => Int.cast_ne_zero.mpr (sub_ne_zero.mpr h)) fun h => Int.cast_ne_zero.mpr (sub_ne_zero.mpr h)

/-- non-vacuity: a T-touching pair at coordinates near the edge of the box -/
example : seg2d (1 / 100000000) (P2.ofInt (-1000) 0) (P2.ofInt 1000 0) (P2.ofInt 999 0) (P2.ofInt 999 1000)
    = .point (P2.ofInt 999 0) := by decide +kernel

/-- 3-D: on integer coordinates in `[-B, B]` with `8·B²·tol < 1`, the model of `segments_3d` (with the
    repairs R1, R2 of Model.lean) returns the exact-arithmetic intersection: same kind, same points
    (a segment as an unordered pair: the code returns the two middle points in `argsort` order).
    Branch selection is exact (non-parallel ⇔ some 2×2 minor ≠ 0 ⇔ the chosen minor is ≥ tol;
    colinear ⇔ ds × d1 = 0), the consistency test in the third coordinate is exact, and the
    touching test is exact — all through the gap lemmas of LemmasGap. -/
theorem seg3d_eq_spec (tol : Rat) (B : Int) (hT : TolSmall tol B)
    (ax ay az bx by' bz cx cy cz dx dy dz : Int)
    (hax : InBox B ax) (hay : InBox B ay) (haz : InBox B az)
    (hbx : InBox B bx) (hby : InBox B by') (hbz : InBox B bz)
    (hcx : InBox B cx) (hcy : InBox B cy) (hcz : InBox B cz)
    (hdx : InBox B dx) (hdy : InBox B dy) (hdz : InBox B dz)
    (nd1 : bx ≠ ax ∨ by' ≠ ay ∨ bz ≠ az) (nd2 : dx ≠ cx ∨ dy ≠ cy ∨ dz ≠ cz) :
    Res.same (seg3d tol (P3.ofInt ax ay az) (P3.ofInt bx by' bz) (P3.ofInt cx cy cz) (P3.ofInt dx dy dz))
      (segInter3 (P3.ofInt ax ay az) (P3.ofInt bx by' bz) (P3.ofInt cx cy cz) (P3.ofInt dx dy dz)) := by
  have hne : ∀ {x y : Int}, y ≠ x → (y : Rat) - x ≠ 0 := fun h => sub_ne_zero.mpr (Int.cast_injective.ne h)
  apply seg3d_same_core tol _ _ _ _ (8 * B * B) hT.pos hT.small hT.one_le_bound (isInt_ofInt_sub _ _ _ _ _ _)
    (isInt_ofInt_sub _ _ _ _ _ _) (isInt_ofInt_sub _ _ _ _ _ _)
  · intro m
    cases m
    · exact box_det_le hax hbx hay hby hcx hdx hcy hdy
    · exact box_det_le hax hbx haz hbz hcx hdx hcz hdz
    · exact box_det_le hay hby haz hbz hcy hdy hcz hdz
  · exact nd1.imp hne (Or.imp hne hne)
  · exact nd2.imp hne (Or.imp hne hne)

/-- non-vacuity (3-D): a crossing through a point with fractional coordinates, a colinear overlap and a
    colinear end-to-end pair -/
example : seg3d (1 / 100000000) (P3.ofInt 0 0 0) (P3.ofInt 2 2 1) (P3.ofInt 0 2 0) (P3.ofInt 2 0 1)
    = .point ⟨1, 1, 1 / 2⟩ := by decide +kernel
example : seg3d (1 / 100000000) (P3.ofInt 0 0 0) (P3.ofInt 3 3 3) (P3.ofInt 2 2 2) (P3.ofInt 1 1 1)
    = .segment (P3.ofInt 1 1 1) (P3.ofInt 2 2 2) := by decide +kernel
example : seg3d (1 / 100000000) (P3.ofInt 0 0 0) (P3.ofInt 1 1 1) (P3.ofInt 1 1 1) (P3.ofInt 2 2 2)
    = .point (P3.ofInt 1 1 1) := by decide +kernel

/-! ## §C  The specification is the set intersection -/

/-- SOUNDNESS (3-D): for segments of positive length, the points of `segInter3 a b c d` are exactly
    the common points of the closed segments `[a,b]` and `[c,d]` — for ALL rational coordinates. -/
theorem mem_segInter3_iff (p a b c d : P3) (nd1 : a ≠ b) (nd2 : c ≠ d) :
    Res.Mem3 p (segInter3 a b c d) ↔ OnSeg3 p a b ∧ OnSeg3 p c d :=
  mem_segInter3_iff' p a b c d (P3.delta_ne nd1) (P3.delta_ne nd2)

/-- SOUNDNESS (2-D) -/
theorem mem_segInter2_iff (p a b c d : P2) (nd1 : a ≠ b) (nd2 : c ≠ d) :
    Res.Mem2 p (segInter2 a b c d) ↔ OnSeg2 p a b ∧ OnSeg2 p c d :=
  mem_segInter2_iff' p a b c d (P2.delta_ne nd1) (P2.delta_ne nd2)

/-- the kind is determined as well: the specification never returns a segment with equal end points
    (nor an error), so `none` / `point` / `segment` ⇔ the intersection is empty / one point / infinite -/
theorem segInter_wf : (∀ a b c d : P2, a ≠ b → (segInter2 a b c d).WF) ∧
    (∀ a b c d : P3, a ≠ b → (segInter3 a b c d).WF) :=
  ⟨fun a b c d nd1 => segInter2_WF a b c d (P2.delta_ne nd1),
   fun a b c d nd1 => segInter3_WF a b c d (P3.delta_ne nd1)⟩

/-- non-vacuity of the soundness statement -/
example : Res.Mem3 ⟨3 / 2, 3 / 2, 3 / 2⟩ (segInter3 ⟨0, 0, 0⟩ ⟨3, 3, 3⟩ ⟨2, 2, 2⟩ ⟨1, 1, 1⟩) := by
  have : segInter3 ⟨0, 0, 0⟩ ⟨3, 3, 3⟩ ⟨2, 2, 2⟩ ⟨1, 1, 1⟩ = .segment ⟨1, 1, 1⟩ ⟨2, 2, 2⟩ := by decide +kernel
  rw [this]
  exact ⟨1 / 2, by norm_num, by norm_num, by norm_num, by norm_num, by norm_num⟩

/-! ## §D  Independence of argument order -/

/-- `seg_symmetric`: swapping the two segments, or the end points of either segment, gives the same
    result as a set (same kind, same point, same unordered pair of end points) — for ALL rational
    segments of positive length, in 2-D and 3-D. -/
theorem seg_symmetric :
    (∀ a b c d : P2, a ≠ b → c ≠ d →
      Res.same (segInter2 a b c d) (segInter2 c d a b) ∧
      Res.same (segInter2 a b c d) (segInter2 b a c d) ∧
      Res.same (segInter2 a b c d) (segInter2 a b d c)) ∧
    (∀ a b c d : P3, a ≠ b → c ≠ d →
      Res.same (segInter3 a b c d) (segInter3 c d a b) ∧
      Res.same (segInter3 a b c d) (segInter3 b a c d) ∧
      Res.same (segInter3 a b c d) (segInter3 a b d c)) :=
  ⟨fun a b c d nd1 nd2 => segInter2_symm a b c d (P2.delta_ne nd1) (P2.delta_ne nd2),
   fun a b c d nd1 nd2 => segInter3_symm a b c d (P3.delta_ne nd1) (P3.delta_ne nd2)⟩

/-- … hence the MODEL of `segments_2d` is independent of argument order on bounded integer coordinates -/
theorem seg2d_symmetric (tol : Rat) (B : Int) (hT : TolSmall tol B)
    (ax ay bx by' cx cy dx dy : Int)
    (hax : InBox B ax) (hay : InBox B ay) (hbx : InBox B bx) (hby : InBox B by')
    (hcx : InBox B cx) (hcy : InBox B cy) (hdx : InBox B dx) (hdy : InBox B dy)
    (nd1 : bx ≠ ax ∨ by' ≠ ay) (nd2 : dx ≠ cx ∨ dy ≠ cy) :
    Res.same (seg2d tol (P2.ofInt ax ay) (P2.ofInt bx by') (P2.ofInt cx cy) (P2.ofInt dx dy))
             (seg2d tol (P2.ofInt cx cy) (P2.ofInt dx dy) (P2.ofInt ax ay) (P2.ofInt bx by')) ∧
    Res.same (seg2d tol (P2.ofInt ax ay) (P2.ofInt bx by') (P2.ofInt cx cy) (P2.ofInt dx dy))
             (seg2d tol (P2.ofInt bx by') (P2.ofInt ax ay) (P2.ofInt cx cy) (P2.ofInt dx dy)) ∧
    Res.same (seg2d tol (P2.ofInt ax ay) (P2.ofInt bx by') (P2.ofInt cx cy) (P2.ofInt dx dy))
             (seg2d tol (P2.ofInt ax ay) (P2.ofInt bx by') (P2.ofInt dx dy) (P2.ofInt cx cy)) := by
  have nd1' : ax ≠ bx ∨ ay ≠ by' := nd1.imp Ne.symm Ne.symm
  have nd2' : cx ≠ dx ∨ cy ≠ dy := nd2.imp Ne.symm Ne.symm
  rw [seg2d_eq_spec tol B hT ax ay bx by' cx cy dx dy hax hay hbx hby hcx hcy hdx hdy nd1 nd2,
    seg2d_eq_spec tol B hT cx cy dx dy ax ay bx by' hcx hcy hdx hdy hax hay hbx hby nd2 nd1,
    seg2d_eq_spec tol B hT bx by' ax ay cx cy dx dy hbx hby hax hay hcx hcy hdx hdy nd1' nd2,
    seg2d_eq_spec tol B hT ax ay bx by' dx dy cx cy hax hay hbx hby hdx hdy hcx hcy nd1 nd2']
  exact seg_symmetric.1 _ _ _ _ (P2.ofInt_ne nd1) (P2.ofInt_ne nd2)

/-- … and so is the (repaired) model of `segments_3d` -/
theorem seg3d_symmetric (tol : Rat) (B : Int) (hT : TolSmall tol B)
    (ax ay az bx by' bz cx cy cz dx dy dz : Int)
    (hax : InBox B ax) (hay : InBox B ay) (haz : InBox B az)
    (hbx : InBox B bx) (hby : InBox B by') (hbz : InBox B bz)
    (hcx : InBox B cx) (hcy : InBox B cy) (hcz : InBox B cz)
    (hdx : InBox B dx) (hdy : InBox B dy) (hdz : InBox B dz)
    (nd1 : bx ≠ ax ∨ by' ≠ ay ∨ bz ≠ az) (nd2 : dx ≠ cx ∨ dy ≠ cy ∨ dz ≠ cz) :
    Res.same (seg3d tol (P3.ofInt ax ay az) (P3.ofInt bx by' bz) (P3.ofInt cx cy cz) (P3.ofInt dx dy dz))
             (seg3d tol (P3.ofInt cx cy cz) (P3.ofInt dx dy dz) (P3.ofInt ax ay az) (P3.ofInt bx by' bz)) ∧
    Res.same (seg3d tol (P3.ofInt ax ay az) (P3.ofInt bx by' bz) (P3.ofInt cx cy cz) (P3.ofInt dx dy dz))
             (seg3d tol (P3.ofInt bx by' bz) (P3.ofInt ax ay az) (P3.ofInt cx cy cz) (P3.ofInt dx dy dz)) ∧
    Res.same (seg3d tol (P3.ofInt ax ay az) (P3.ofInt bx by' bz) (P3.ofInt cx cy cz) (P3.ofInt dx dy dz))
             (seg3d tol (P3.ofInt ax ay az) (P3.ofInt bx by' bz) (P3.ofInt dx dy dz) (P3.ofInt cx cy cz)) := by
  have nd1' : ax ≠ bx ∨ ay ≠ by' ∨ az ≠ bz := nd1.imp Ne.symm (Or.imp Ne.symm Ne.symm)
  have nd2' : cx ≠ dx ∨ cy ≠ dy ∨ cz ≠ dz := nd2.imp Ne.symm (Or.imp Ne.symm Ne.symm)
  have e0 := seg3d_eq_spec tol B hT ax ay az bx by' bz cx cy cz dx dy dz hax hay haz hbx hby hbz hcx hcy hcz hdx hdy hdz nd1 nd2
  have e1 := seg3d_eq_spec tol B hT cx cy cz dx dy dz ax ay az bx by' bz hcx hcy hcz hdx hdy hdz hax hay haz hbx hby hbz nd2 nd1
  have e2 := seg3d_eq_spec tol B hT bx by' bz ax ay az cx cy cz dx dy dz hbx hby hbz hax hay haz hcx hcy hcz hdx hdy hdz nd1' nd2
  have e3 := seg3d_eq_spec tol B hT ax ay az bx by' bz dx dy dz cx cy cz hax hay haz hbx hby hbz hdx hdy hdz hcx hcy hcz nd1 nd2'
  obtain ⟨s1, s2, s3⟩ := seg_symmetric.2 _ _ _ _ (P3.ofInt_ne nd1) (P3.ofInt_ne nd2)
  exact ⟨Res.same_trans e0 (Res.same_trans s1 (Res.same_symm e1)),
         Res.same_trans e0 (Res.same_trans s2 (Res.same_symm e2)),
         Res.same_trans e0 (Res.same_trans s3 (Res.same_symm e3))⟩


/-- non-vacuity: the hypotheses are satisfiable (default tolerance, box 1000); a colinear overlap with
    the second segment reversed (in 2-D the two orders return the end points in opposite order) -/
example : Res.same (seg3d (1 / 100000000) (P3.ofInt 0 0 0) (P3.ofInt 3 3 3) (P3.ofInt 2 2 2) (P3.ofInt 1 1 1))
    (seg3d (1 / 100000000) (P3.ofInt 2 2 2) (P3.ofInt 1 1 1) (P3.ofInt 0 0 0) (P3.ofInt 3 3 3)) :=
  (seg3d_symmetric _ 1000 tolSmall_default 0 0 0 3 3 3 2 2 2 1 1 1 ⟨by decide, by decide⟩ ⟨by decide, by decide⟩
    ⟨by decide, by decide⟩ ⟨by decide, by decide⟩ ⟨by decide, by decide⟩ ⟨by decide, by decide⟩ ⟨by decide, by decide⟩
    ⟨by decide, by decide⟩ ⟨by decide, by decide⟩ ⟨by decide, by decide⟩ ⟨by decide, by decide⟩ ⟨by decide, by decide⟩
    (Or.inl (by decide)) (Or.inl (by decide))).1
example : Res.same (seg2d (1 / 100000000) (P2.ofInt 0 0) (P2.ofInt 4 2) (P2.ofInt 6 3) (P2.ofInt 2 1))
    (seg2d (1 / 100000000) (P2.ofInt 6 3) (P2.ofInt 2 1) (P2.ofInt 0 0) (P2.ofInt 4 2)) :=
  (seg2d_symmetric _ 1000 tolSmall_default 0 0 4 2 6 3 2 1 ⟨by decide, by decide⟩ ⟨by decide, by decide⟩
    ⟨by decide, by decide⟩ ⟨by decide, by decide⟩ ⟨by decide, by decide⟩ ⟨by decide, by decide⟩ ⟨by decide, by decide⟩
    ⟨by decide, by decide⟩ (Or.inl (by decide)) (Or.inl (by decide))).1

example : seg2d (1 / 100000000) (P2.ofInt 0 0) (P2.ofInt 4 2) (P2.ofInt 6 3) (P2.ofInt 2 1)
      = .segment (P2.ofInt 2 1) (P2.ofInt 4 2) ∧
    seg2d (1 / 100000000) (P2.ofInt 6 3) (P2.ofInt 2 1) (P2.ofInt 0 0) (P2.ofInt 4 2)
      = .segment (P2.ofInt 4 2) (P2.ofInt 2 1) := by decide +kernel

/-! ## §E  Outside the property: zero-length segments, and the assertion the model drops -/

/-- 2-D, a zero-length segment in either position: the parallel test `0 < tol·0·len` is false, the
    Cramer branch divides by `discr = 0`: AssertionError (the documented ValueError is unreachable). -/
theorem seg2d_zero_length_errors (tol : Rat) (a b c : P2) :
    seg2d tol a a b c = .err .assertion ∧ seg2d tol a b c c = .err .assertion :=
  seg2d_zero_length tol a b c

/-- 3-D: a zero-length first segment against a proper segment gives `None` — even when the point lies
    on the segment; two zero-length segments at the same point raise IndexError. -/
theorem seg3d_zero_length (tol : Rat) (h0 : 0 < tol) (a c d : P3)
    (hd : rabs (d.x - c.x) > tol ∨ rabs (d.y - c.y) > tol ∨ rabs (d.z - c.z) > tol) :
    seg3d tol a a c d = .none ∧ seg3d tol a a a a = .err .index :=
  ⟨seg3d_zero_length_first tol h0 a c d hd, seg3d_zero_length_both tol h0 a⟩

/-- `assert np.allclose(isect_1, isect_2, tol)` in `segments_2d`: in exact arithmetic the two points
    `start_1 + t_1·d_1` and `start_2 + t_2·d_2` coincide whenever `discr ≠ 0`, so the assertion is
    not part of the model. -/
theorem seg2d_assert_never_fires (a b c d : P2)
    (h : (b.x - a.x) * (-(d.y - c.y)) - (b.y - a.y) * (-(d.x - c.x)) ≠ 0) :
    let discr := (b.x - a.x) * (-(d.y - c.y)) - (b.y - a.y) * (-(d.x - c.x))
    let t1 := ((c.x - a.x) * (-(d.y - c.y)) - (c.y - a.y) * (-(d.x - c.x))) / discr
    let t2 := ((b.x - a.x) * (c.y - a.y) - (b.y - a.y) * (c.x - a.x)) / discr
    a.x + t1 * (b.x - a.x) = c.x + t2 * (d.x - c.x) ∧ a.y + t1 * (b.y - a.y) = c.y + t2 * (d.y - c.y) := by
  obtain ⟨hx, hy⟩ := isect_agree a.x a.y _ _ _ _ (c.x - a.x) (c.y - a.y) h
  rw [add_sub_cancel] at hx hy
  exact ⟨hx, hy⟩

/-! ## §F  The two defects found (repaired in /repo since): `segments_3d` as it WAS coded (`seg3dCode`) does NOT satisfy the property -/

/-- F-A: a vertical segment crossing a diagonal horizontal one in the origin.  The code picks the
    coordinate pair (x, y) because both have an extent in one of the lines; the (x, y)-minor of the
    directions (0,0,2), (2,2,0) vanishes, the pair is treated as parallel and `None` is returned. -/
theorem seg3dCode_misses_crossing :
    seg3dCode (1 / 100000000) (P3.ofInt 0 0 (-1)) (P3.ofInt 0 0 1) (P3.ofInt (-1) (-1) 0) (P3.ofInt 1 1 0) = .none ∧
    segInter3 (P3.ofInt 0 0 (-1)) (P3.ofInt 0 0 1) (P3.ofInt (-1) (-1) 0) (P3.ofInt 1 1 0) = .point (P3.ofInt 0 0 0) ∧
    seg3d (1 / 100000000) (P3.ofInt 0 0 (-1)) (P3.ofInt 0 0 1) (P3.ofInt (-1) (-1) 0) (P3.ofInt 1 1 0) = .point (P3.ofInt 0 0 0) := by
  decide +kernel

/-- F-B: colinear segments that share exactly one end point: the code returns that point twice
    (a two-column array, i.e. the kind "segment"), exact arithmetic gives one point. -/
theorem seg3dCode_doubles_touching_point :
    seg3dCode (1 / 100000000) (P3.ofInt 0 0 0) (P3.ofInt 1 1 1) (P3.ofInt 1 1 1) (P3.ofInt 2 2 2)
      = .segment (P3.ofInt 1 1 1) (P3.ofInt 1 1 1) ∧
    segInter3 (P3.ofInt 0 0 0) (P3.ofInt 1 1 1) (P3.ofInt 1 1 1) (P3.ofInt 2 2 2) = .point (P3.ofInt 1 1 1) := by
  decide +kernel


/-! ## §G  The squared-form comparisons are the sqrt comparisons of the code -/

/-- The three rewrites used in `seg2d`, proved over ℝ with `Real.sqrt` (for `tol ≥ 0` and squared
    lengths `x, y ≥ 0`):  `|a| < tol·√x·√y ⇔ a² < tol²·x·y`,  `|a| < tol·max(√x,√y) ⇔ a² < tol²·max(x,y)`,
    `|a| > tol·√x ⇔ a² > tol²·x`. -/
theorem sqrt_rewrites (a tol x y : ℝ) (ht : 0 ≤ tol) (hx : 0 ≤ x) (hy : 0 ≤ y) :
    (|a| < tol * Real.sqrt x * Real.sqrt y ↔ a * a < tol * tol * x * y) ∧
    (|a| < tol * max (Real.sqrt x) (Real.sqrt y) ↔ a * a < tol * tol * max x y) ∧
    (|a| > tol * Real.sqrt x ↔ a * a > tol * tol * x) :=
  ⟨abs_lt_tol_sqrt_sqrt_iff a tol x y ht hx hy, abs_lt_tol_max_sqrt_iff a tol x y ht hx hy,
   abs_gt_tol_sqrt_iff a tol x ht hx⟩

/-- `seg2dSqrt` (LemmasSeg2d) is `segments_2d` with `length_i = √(d_i·d_i)` as REAL square roots and the
    four comparisons exactly as coded; for every rational input and `tol ≥ 0` it equals the
    squared-form model `seg2d`.  (`segments_3d` contains no square root.) -/
theorem seg2d_eq_sqrt_form (tol : Rat) (h0 : 0 ≤ tol) (a b c d : P2) :
    seg2dSqrt tol a b c d = seg2d tol a b c d := seg2dSqrt_eq tol h0 a b c d

/-- non-vacuity: the sqrt form on a concrete colinear overlap -/
example : seg2dSqrt (1 / 100000000) (P2.ofInt 0 0) (P2.ofInt 4 2) (P2.ofInt 6 3) (P2.ofInt 2 1)
    = .segment (P2.ofInt 2 1) (P2.ofInt 4 2) := by
  rw [seg2d_eq_sqrt_form _ (by norm_num)]; decide +kernel

/-! ## §H  Column order of a returned segment -/

/-- 2-D convention ("the first point will be closest to start_1"): a segment returned by the
    specification is `(a + lo·(b−a), a + hi·(b−a))` with `0 ≤ lo < hi ≤ 1`. -/
theorem segInter2_segment_order (a b c d p q : P2) (h : segInter2 a b c d = .segment p q) :
    ∃ lo hi : Rat, 0 ≤ lo ∧ lo < hi ∧ hi ≤ 1 ∧
      p = ⟨a.x + lo * (b.x - a.x), a.y + lo * (b.y - a.y)⟩ ∧ q = ⟨a.x + hi * (b.x - a.x), a.y + hi * (b.y - a.y)⟩ := by
  unfold segInter2 at h
  simp only [] at h
  split_ifs at h
  unfold overlapParam at h
  simp only [] at h
  split_ifs at h with h1 h2
  have e := Res.segment.inj h
  exact ⟨_, _, le_max_right _ _, lt_of_le_of_ne (not_lt.mp h1) h2, min_le_right _ _, e.1.symm, e.2.symm⟩

/-- … hence for the model of `segments_2d` under the bound: the column order follows segment 1 (it
    reverses when the end points of segment 1 are swapped — by design, see the docstring of `segments_2d`). -/
theorem seg2d_segment_order (tol : Rat) (B : Int) (hT : TolSmall tol B)
    (ax ay bx by' cx cy dx dy : Int)
    (hax : InBox B ax) (hay : InBox B ay) (hbx : InBox B bx) (hby : InBox B by')
    (hcx : InBox B cx) (hcy : InBox B cy) (hdx : InBox B dx) (hdy : InBox B dy)
    (nd1 : bx ≠ ax ∨ by' ≠ ay) (nd2 : dx ≠ cx ∨ dy ≠ cy) (p q : P2)
    (h : seg2d tol (P2.ofInt ax ay) (P2.ofInt bx by') (P2.ofInt cx cy) (P2.ofInt dx dy) = .segment p q) :
    ∃ lo hi : Rat, 0 ≤ lo ∧ lo < hi ∧ hi ≤ 1 ∧
      p = ⟨(ax : Rat) + lo * ((bx : Rat) - ax), (ay : Rat) + lo * ((by' : Rat) - ay)⟩ ∧
      q = ⟨(ax : Rat) + hi * ((bx : Rat) - ax), (ay : Rat) + hi * ((by' : Rat) - ay)⟩ := by
  rw [seg2d_eq_spec tol B hT ax ay bx by' cx cy dx dy hax hay hbx hby hcx hcy hdx hdy nd1 nd2] at h
  exact segInter2_segment_order _ _ _ _ p q h

/-- 3-D: the (repaired = current) code returns a segment ascending in the first coordinate in which
    the segments have an extent, so under the bound the result is independent of argument order
    EXACTLY — same kind, same points, same column order. -/
theorem seg3d_order_independent (tol : Rat) (B : Int) (hT : TolSmall tol B)
    (ax ay az bx by' bz cx cy cz dx dy dz : Int)
    (hax : InBox B ax) (hay : InBox B ay) (haz : InBox B az)
    (hbx : InBox B bx) (hby : InBox B by') (hbz : InBox B bz)
    (hcx : InBox B cx) (hcy : InBox B cy) (hcz : InBox B cz)
    (hdx : InBox B dx) (hdy : InBox B dy) (hdz : InBox B dz)
    (nd1 : bx ≠ ax ∨ by' ≠ ay ∨ bz ≠ az) (nd2 : dx ≠ cx ∨ dy ≠ cy ∨ dz ≠ cz) :
    seg3d tol (P3.ofInt ax ay az) (P3.ofInt bx by' bz) (P3.ofInt cx cy cz) (P3.ofInt dx dy dz)
      = seg3d tol (P3.ofInt cx cy cz) (P3.ofInt dx dy dz) (P3.ofInt ax ay az) (P3.ofInt bx by' bz) ∧
    seg3d tol (P3.ofInt ax ay az) (P3.ofInt bx by' bz) (P3.ofInt cx cy cz) (P3.ofInt dx dy dz)
      = seg3d tol (P3.ofInt bx by' bz) (P3.ofInt ax ay az) (P3.ofInt cx cy cz) (P3.ofInt dx dy dz) ∧
    seg3d tol (P3.ofInt ax ay az) (P3.ofInt bx by' bz) (P3.ofInt cx cy cz) (P3.ofInt dx dy dz)
      = seg3d tol (P3.ofInt ax ay az) (P3.ofInt bx by' bz) (P3.ofInt dx dy dz) (P3.ofInt cx cy cz) := by
  obtain ⟨s1, s2, s3⟩ := seg3d_symmetric tol B hT ax ay az bx by' bz cx cy cz dx dy dz
    hax hay haz hbx hby hbz hcx hcy hcz hdx hdy hdz nd1 nd2
  have htol1 := hT.lt_one.le
  refine ⟨eq_of_same_of_order s1 ?_, eq_of_same_of_order s2 ?_, eq_of_same_of_order s3 ?_⟩
  · intro p q p' q' h h'
    exact seg3d_common_order tol _ _ _ _ _ _ _ _ p q p' q' h h' (seg3d_mask_eq tol _ _ _ _ p q h)
      (touchExact_ofInt hT.pos htol1) (touchExact_ofInt hT.pos htol1)
  · intro p q p' q' h h'
    refine seg3d_common_order tol _ _ _ _ _ _ _ _ p q p' q' h h' ?_
      (touchExact_ofInt hT.pos htol1) (touchExact_ofInt hT.pos htol1)
    intro k; cases k <;> simp only [P3.get] <;> exact decide_eq_decide.mpr (by rw [rabs_sub_comm])
  · intro p q p' q' h h'
    exact seg3d_common_order tol _ _ _ _ _ _ _ _ p q p' q' h h' (fun _ => rfl)
      (touchExact_ofInt hT.pos htol1) (touchExact_ofInt hT.pos htol1)

/-- non-vacuity: a colinear overlap given with both segments reversed and swapped — identical output -/
example : seg3d (1 / 100000000) (P3.ofInt 3 (-3) 3) (P3.ofInt 0 0 0) (P3.ofInt 1 (-1) 1) (P3.ofInt 2 (-2) 2)
    = .segment (P3.ofInt 1 (-1) 1) (P3.ofInt 2 (-2) 2) ∧
  seg3d (1 / 100000000) (P3.ofInt 2 (-2) 2) (P3.ofInt 1 (-1) 1) (P3.ofInt 0 0 0) (P3.ofInt 3 (-3) 3)
    = .segment (P3.ofInt 1 (-1) 1) (P3.ofInt 2 (-2) 2) := by decide +kernel

end PorepyVerif.C28
