/-
C28 — the model of `segments_2d` against the specification on points with integer differences (`seg2d_core`), and its
squared comparisons against the square-root form of the code (`seg2dSqrt`).
-/
import Mathlib.Analysis.Real.Sqrt
import PorepyVerif.C28.LemmasGap
import PorepyVerif.C28.LemmasSpec

namespace PorepyVerif.C28

/-- the two "not overlapping" tests of `segments_2d` together say: the parameter overlap is empty -/
theorem overlap_empty_iff (ts te : Rat) :
    (ts < 0 ∧ te < 0) ∨ (ts > 1 ∧ te > 1) ↔ min (max ts te) 1 < max (min ts te) 0 := by
  rw [← max_lt_iff, gt_iff_lt, gt_iff_lt, ← lt_min_iff]
  exact interval_disjoint_iff min_le_max zero_le_one

/-- `hgap`: the touching test of `overlap2` is exact -/
theorem overlap2_eq (tol : Rat) (a : P2) (d1x d1y ts te : Rat)
    (hgap : (min (max ts te) 1 - max (min ts te) 0 < tol) ↔ (min (max ts te) 1 - max (min ts te) 0 ≤ 0)) :
    overlap2 tol a d1x d1y ts te
      = overlapParam (fun t => (⟨a.x + t * d1x, a.y + t * d1y⟩ : P2)) ts te := by
  unfold overlap2 overlapParam
  have hc : ∀ t, a.x + d1x * t = a.x + t * d1x := fun t => by ring
  have hc' : ∀ t, a.y + d1y * t = a.y + t * d1y := fun t => by ring
  simp only [hgap, hc, hc']
  rw [ite_or_none, if_congr (overlap_empty_iff ts te) rfl rfl]
  by_cases hv : min (max ts te) 1 < max (min ts te) 0
  · rw [if_pos hv, if_pos hv]
  · rw [if_neg hv, if_neg hv]
    exact if_congr ⟨fun h => le_antisymm (not_lt.mp hv) (by linarith), fun h => by rw [h, sub_self]⟩ rfl rfl

theorem overlap2_int (tol : Rat) (a : P2) (dx dy : Rat) {p1 p2 q : Rat} (h1 : IsInt p1) (h2 : IsInt p2) (hq : IsInt q)
    (hq0 : q ≠ 0) (htol : 0 < tol) (hb : tol * |q| < 1) :
    overlap2 tol a dx dy (p1 / q) (p2 / q) = overlapParam (fun t => (⟨a.x + t * dx, a.y + t * dy⟩ : P2)) (p1 / q) (p2 / q) := by
  apply overlap2_eq
  exact IsOver.lt_tol_iff
    (IsOver.sub (IsOver.min (IsOver.max (IsOver.ratio h1 hq0) (IsOver.ratio h2 hq0)) (IsOver.one hq))
      (IsOver.max (IsOver.min (IsOver.ratio h1 hq0) (IsOver.ratio h2 hq0)) (IsOver.zero q))) hq0 tol htol hb

theorem param_eq_ratio {wx wy dx dy : Rat} (hc : wx * dy - wy * dx = 0) (hd : dx ≠ 0 ∨ dy ≠ 0) :
    (dx ≠ 0 → wx / dx = (wx * dx + wy * dy) / (dx * dx + dy * dy)) ∧
    (dy ≠ 0 → wy / dy = (wx * dx + wy * dy) / (dx * dx + dy * dy)) := by
  have hl := (sumsq_pos hd).ne'
  exact ⟨fun h => by rw [div_eq_div_iff h hl]; linear_combination dy * hc,
    fun h => by rw [div_eq_div_iff h hl]; linear_combination (-dx) * hc⟩

/-- the colinear branch of `segments_2d`, which takes the parameters of `c` and `d` on line 1 as ratios in the first
    coordinate where line 1 has an extent, is the overlap of their projection parameters `w·d₁ / d₁·d₁` -/
theorem col2_case (tol : Rat) (a : P2) {U1 V1 U2 V2 SX SY : Rat} (iU1 : IsInt U1) (iV1 : IsInt V1) (iU2 : IsInt U2)
    (iV2 : IsInt V2) (iSX : IsInt SX) (iSY : IsInt SY) (htol : 0 < tol)
    (hb : tol * (U1 * U1 + V1 * V1) < 1) (nd1 : U1 ≠ 0 ∨ V1 ≠ 0)
    (hdet : U1 * V2 - V1 * U2 = 0) (hscl : SX * V1 - SY * U1 = 0) :
    (if U1 ≠ 0 then overlap2 tol a U1 V1 (SX / U1) ((U2 + SX) / U1)
     else if V1 ≠ 0 then overlap2 tol a U1 V1 (SY / V1) ((V2 + SY) / V1)
     else Res.err Err.value)
    = overlapParam (fun t => (⟨a.x + t * U1, a.y + t * V1⟩ : P2))
        ((SX * U1 + SY * V1) / (U1 * U1 + V1 * V1))
        (((U2 + SX) * U1 + (V2 + SY) * V1) / (U1 * U1 + V1 * V1)) := by
  obtain ⟨sx, sy⟩ := param_eq_ratio hscl nd1
  obtain ⟨ex, ey⟩ := param_eq_ratio (wx := U2 + SX) (wy := V2 + SY) (by linear_combination hscl - hdet) nd1
  by_cases hU : U1 = 0
  · have hV : V1 ≠ 0 := nd1.resolve_left (not_not.mpr hU)
    rw [if_neg (not_not.mpr hU), if_pos hV, ← sy hV, ← ey hV]
    exact overlap2_int tol a _ _ iSY (iV2.add iSY) iV1 hV htol
      (tol_mul_lt_one htol.le hb (iV1.abs_le_sq.trans (le_add_of_nonneg_left (mul_self_nonneg _))))
  · rw [if_pos hU, ← sx hU, ← ex hU]
    exact overlap2_int tol a _ _ iSX (iU2.add iSX) iU1 hU htol
      (tol_mul_lt_one htol.le hb (iU1.abs_le_sq.trans (le_add_of_nonneg_right (mul_self_nonneg _))))

theorem seg2d_core (tol : Rat) (a b c d : P2) (U1 V1 U2 V2 SX SY : Int) (K : Rat)
    (hU1 : b.x - a.x = U1) (hV1 : b.y - a.y = V1) (hU2 : d.x - c.x = U2) (hV2 : d.y - c.y = V2)
    (hSX : c.x - a.x = SX) (hSY : c.y - a.y = SY)
    (htol : 0 < tol) (hK : tol * K < 1) (hK1 : 1 ≤ K)
    (hL1 : (U1 : Rat) * U1 + V1 * V1 ≤ K) (hL2 : (U2 : Rat) * U2 + V2 * V2 ≤ K)
    (hD : |(U1 : Rat) * V2 - V1 * U2| ≤ K)
    (nd1 : (U1 : Rat) ≠ 0 ∨ (V1 : Rat) ≠ 0) (nd2 : (U2 : Rat) ≠ 0 ∨ (V2 : Rat) ≠ 0) :
    seg2d tol a b c d = segInter2 a b c d := by
  have hdx : d.x - a.x = U2 + SX := by rw [← hU2, ← hSX]; ring
  have hdy : d.y - a.y = V2 + SY := by rw [← hV2, ← hSY]; ring
  have h0 := htol.le
  have hl1pos := sumsq_pos nd1
  have hl2pos := sumsq_pos nd2
  have he1 := tol_sq_mul_lt_one h0 hK hl1pos.le hL1 hL2
  have he1p := mul_pos (mul_pos (mul_pos htol htol) hl1pos) hl2pos
  obtain ⟨he3p, he3⟩ := tol_term_mem htol hK hK1 hl1pos hL1
  obtain ⟨he4p, he4⟩ := tol_term_mem htol hK hK1 hl2pos hL2
  obtain ⟨he2p, he2⟩ := tol_term_mem htol hK hK1 (lt_max_of_lt_left hl1pos) (max_le hL1 hL2)
  have iU1 := IsInt.ofInt U1; have iV1 := IsInt.ofInt V1; have iU2 := IsInt.ofInt U2
  have iV2 := IsInt.ofInt V2; have iSX := IsInt.ofInt SX; have iSY := IsInt.ofInt SY
  have iD : IsInt ((U1:Rat) * V2 - V1 * U2) := (iU1.mul iV2).sub (iV1.mul iU2)
  have iS : IsInt ((SX:Rat) * V1 - SY * U1) := (iSX.mul iV1).sub (iSY.mul iU1)
  -- the code writes Cramer's rule with the negated second column
  have hneg : ∀ p q r s : Rat, p * -q - r * -s = -(p * q - r * s) := fun p q r s => by ring
  have hpar := iD.sq_lt_iff he1p he1
  have hcol := iS.sq_lt_iff he2p he2
  have hx := iU1.sq_gt_iff he3p.le he3
  have hy := iV1.sq_gt_iff he4p.le he4
  unfold seg2d segInter2
  simp only [hdx, hdy, hU1, hV1, hU2, hV2, hSX, hSY, hneg, neg_mul_neg, neg_eq_zero, hpar, hcol, hx, hy]
  by_cases hdet : (U1:Rat) * V2 - V1 * U2 = 0
  · rw [if_pos hdet, if_neg (not_not.mpr hdet)]
    by_cases hscl : (SX:Rat) * V1 - SY * U1 = 0
    · rw [if_pos hscl, if_neg (not_not.mpr hscl)]
      exact col2_case tol a iU1 iV1 iU2 iV2 iSX iSY htol (tol_mul_lt_one h0 hK hL1) nd1 hdet hscl
    · rw [if_neg hscl, if_pos hscl]
  · rw [if_neg hdet, if_neg hdet, if_pos hdet, neg_div_neg_eq, div_neg, ← neg_div, neg_sub, mul_comm (V1:Rat) SX, mul_comm (U1:Rat) SY]
    exact if_congr (IsInt.ratio_range_iff ((iSX.mul iV2).sub (iSY.mul iU2)) iS iD hdet htol (tol_mul_lt_one h0 hK hD)) rfl rfl

theorem P2.ofInt_ne {x y x' y' : Int} (h : x' ≠ x ∨ y' ≠ y) : P2.ofInt x y ≠ P2.ofInt x' y' := by
  intro e
  simp only [P2.ofInt, P2.mk.injEq, Int.cast_inj] at e
  rcases h with h | h
  · exact h e.1.symm
  · exact h e.2.symm

theorem seg2d_zero_length (tol : Rat) (a b c : P2) :
    seg2d tol a a b c = .err .assertion ∧ seg2d tol a b c c = .err .assertion := by
  constructor <;> simp [seg2d]

/-- the two expressions `start_1 + t_1·d_1` and `start_2 + t_2·d_2` of `segments_2d` agree -/
theorem isect_agree (ax ay d1x d1y d2x d2y dsx dsy : Rat) (h : d1x * (-d2y) - d1y * (-d2x) ≠ 0) :
    ax + (dsx * (-d2y) - dsy * (-d2x)) / (d1x * (-d2y) - d1y * (-d2x)) * d1x
      = (ax + dsx) + (d1x * dsy - d1y * dsx) / (d1x * (-d2y) - d1y * (-d2x)) * d2x ∧
    ay + (dsx * (-d2y) - dsy * (-d2x)) / (d1x * (-d2y) - d1y * (-d2x)) * d1y
      = (ay + dsy) + (d1x * dsy - d1y * dsx) / (d1x * (-d2y) - d1y * (-d2x)) * d2y := by
  obtain ⟨⟨hx, hy⟩, -⟩ := cramer2 d1x d1y d2x d2y dsx dsy h
  exact ⟨by linear_combination hx, by linear_combination hy⟩

theorem abs_cmp_iff_sq {a r q : ℝ} (hr : 0 ≤ r) (hq : r * r = q) : (|a| < r ↔ a * a < q) ∧ (|a| > r ↔ a * a > q) := by
  rw [← hq, ← abs_mul_abs_self a]
  exact ⟨mul_self_lt_mul_self_iff (abs_nonneg a) hr, mul_self_lt_mul_self_iff hr (abs_nonneg a)⟩

/-- test "lines are parallel" of `segments_2d`: `abs(discr) < tol*length_1*length_2` -/
theorem abs_lt_tol_sqrt_sqrt_iff (a tol x y : ℝ) (ht : 0 ≤ tol) (hx : 0 ≤ x) (hy : 0 ≤ y) :
    |a| < tol * Real.sqrt x * Real.sqrt y ↔ a * a < tol * tol * x * y :=
  (abs_cmp_iff_sq (mul_nonneg (mul_nonneg ht (Real.sqrt_nonneg x)) (Real.sqrt_nonneg y))
    (by rw [mul_mul_mul_comm, mul_mul_mul_comm tol, Real.mul_self_sqrt hx, Real.mul_self_sqrt hy])).1

/-- tests `abs(d_1[0]) > tol*length_1`, `abs(d_1[1]) > tol*length_2` of `segments_2d` -/
theorem abs_gt_tol_sqrt_iff (a tol x : ℝ) (ht : 0 ≤ tol) (hx : 0 ≤ x) :
    |a| > tol * Real.sqrt x ↔ a * a > tol * tol * x :=
  (abs_cmp_iff_sq (mul_nonneg ht (Real.sqrt_nonneg x)) (by rw [mul_mul_mul_comm, Real.mul_self_sqrt hx])).2

/-- test "lines are colinear" of `segments_2d`: `abs(start_cross_line) < tol*max(length_1, length_2)` -/
theorem abs_lt_tol_max_sqrt_iff (a tol x y : ℝ) (ht : 0 ≤ tol) (hx : 0 ≤ x) (_hy : 0 ≤ y) :
    |a| < tol * max (Real.sqrt x) (Real.sqrt y) ↔ a * a < tol * tol * max x y := by
  have hmax : max (Real.sqrt x) (Real.sqrt y) = Real.sqrt (max x y) := by
    rcases le_total x y with h | h
    · rw [max_eq_right h, max_eq_right (Real.sqrt_le_sqrt h)]
    · rw [max_eq_left h, max_eq_left (Real.sqrt_le_sqrt h)]
  rw [hmax]
  have := abs_lt_tol_sqrt_sqrt_iff a tol (max x y) 1 ht (le_trans hx (le_max_left _ _)) zero_le_one
  simpa using this

open Classical in
/-- `segments_2d` with its comparisons written as in the code — with `length_i = np.sqrt(np.sum(d_i*d_i))`
    as real square roots — on rational inputs.  Everything else as in `seg2d`. -/
noncomputable def seg2dSqrt (tol : Rat) (a b c d : P2) : Res P2 :=
  let d1x := b.x - a.x
  let d1y := b.y - a.y
  let d2x := d.x - c.x
  let d2y := d.y - c.y
  let length_1 : ℝ := Real.sqrt (((d1x * d1x + d1y * d1y : Rat)) : ℝ)
  let length_2 : ℝ := Real.sqrt (((d2x * d2x + d2y * d2y : Rat)) : ℝ)
  let dsx := c.x - a.x
  let dsy := c.y - a.y
  let discr := d1x * (-d2y) - d1y * (-d2x)
  if |((discr : Rat) : ℝ)| < (tol : ℝ) * length_1 * length_2 then
    let scl := dsx * d1y - dsy * d1x
    if |((scl : Rat) : ℝ)| < (tol : ℝ) * max length_1 length_2 then
      if |((d1x : Rat) : ℝ)| > (tol : ℝ) * length_1 then
        overlap2 tol a d1x d1y ((c.x - a.x) / d1x) ((d.x - a.x) / d1x)
      else if |((d1y : Rat) : ℝ)| > (tol : ℝ) * length_2 then
        overlap2 tol a d1x d1y ((c.y - a.y) / d1y) ((d.y - a.y) / d1y)
      else .err .value
    else .none
  else if discr = 0 then .err .assertion
  else
    let t1 := (dsx * (-d2y) - dsy * (-d2x)) / discr
    let t2 := (d1x * dsy - d1y * dsx) / discr
    if t1 ≥ -tol ∧ t1 ≤ 1 + tol ∧ t2 ≥ -tol ∧ t2 ≤ 1 + tol then
      .point ⟨a.x + t1 * d1x, a.y + t1 * d1y⟩
    else .none

theorem sumsq_nonneg (u v : Rat) : (0:ℝ) ≤ ((u * u + v * v : Rat) : ℝ) := by
  have : (0:Rat) ≤ u * u + v * v := by nlinarith [mul_self_nonneg u, mul_self_nonneg v]
  exact_mod_cast this

theorem seg2dSqrt_eq (tol : Rat) (h0 : 0 ≤ tol) (a b c d : P2) : seg2dSqrt tol a b c d = seg2d tol a b c d := by
  have ht : (0:ℝ) ≤ (tol : ℝ) := by exact_mod_cast h0
  unfold seg2dSqrt seg2d
  simp only []
  have n1 := sumsq_nonneg (b.x - a.x) (b.y - a.y)
  have n2 := sumsq_nonneg (d.x - c.x) (d.y - c.y)
  refine if_congr ?_ (if_congr ?_ (if_congr ?_ rfl (if_congr ?_ rfl rfl)) rfl) rfl
  · rw [abs_lt_tol_sqrt_sqrt_iff _ _ _ _ ht n1 n2]; exact_mod_cast Iff.rfl
  · rw [abs_lt_tol_max_sqrt_iff _ _ _ _ ht n1 n2]; exact_mod_cast Iff.rfl
  · rw [abs_gt_tol_sqrt_iff _ _ _ ht n1]; exact_mod_cast Iff.rfl
  · rw [abs_gt_tol_sqrt_iff _ _ _ ht n2]; exact_mod_cast Iff.rfl

end PorepyVerif.C28
