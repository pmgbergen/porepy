/-
C22 — what the other `Lemmas*` modules share: the arithmetic of two-digit indices (`a * m + b` with `b < m`) that the
index maps, the edge keys and the box numbers all rest on, and lists read by position.  Every function of the model that
can fail is a chain of `if bad then error else …`; the proofs read an `ok` answer backwards with `Common.ite_error_eq_ok`.
-/
import PorepyVerif.C22.Model
import PorepyVerif.Common.List
import PorepyVerif.Common.Except

namespace PorepyVerif.C22

theorem divmod_radix {m b : Nat} (a : Nat) (hb : b < m) : (a * m + b) / m = a ∧ (a * m + b) % m = b := by
  rw [Nat.mul_comm, Nat.mul_add_div (Nat.zero_lt_of_lt hb), Nat.mul_add_mod, Nat.div_eq_of_lt hb, Nat.mod_eq_of_lt hb]
  exact ⟨rfl, rfl⟩

theorem radix_inj {m a b a' b' : Nat} (hb : b < m) (hb' : b' < m) (h : a * m + b = a' * m + b') :
    a = a' ∧ b = b' := by
  have e := divmod_radix a hb
  rw [h] at e
  have e' := divmod_radix a' hb'
  exact ⟨e.1.symm.trans e'.1, e.2.symm.trans e'.2⟩

theorem radix_lt {m n a b : Nat} (hb : b < m) (ha : a < n) : a * m + b < n * m := by
  have : (a + 1) * m ≤ n * m := Nat.mul_le_mul_right _ ha
  rw [Nat.succ_mul] at this
  omega

theorem radix2 {a b : Nat} {x y : Int} (hx0 : 0 ≤ x) (hx : x < a) (hy0 : 0 ≤ y) (hy : y < b) :
    0 ≤ x + y * a ∧ x + y * a < ((a * b : Nat) : Int) := by
  refine ⟨Int.add_nonneg hx0 (Int.mul_nonneg hy0 (Int.natCast_nonneg a)), ?_⟩
  calc x + y * a < a + y * a := Int.add_lt_add_right hx _
    _ = (y + 1) * a := by rw [Int.add_mul, Int.one_mul, Int.add_comm]
    _ ≤ b * a := Int.mul_le_mul_of_nonneg_right (Int.add_one_le_of_lt hy) (Int.natCast_nonneg a)
    _ = ((a * b : Nat) : Int) := by rw [Int.natCast_mul, Int.mul_comm]

theorem digits2 {a b q : Nat} (hq : q < a * b) : q % a < a ∧ q / a < b ∧ q = q % a + q / a * a := by
  have ha : 0 < a := by
    rcases Nat.eq_zero_or_pos a with h | h
    · subst h; simp at hq
    · exact h
  refine ⟨Nat.mod_lt _ ha, (Nat.div_lt_iff_lt_mul ha).mpr (by rw [Nat.mul_comm]; exact hq), ?_⟩
  have := Nat.mod_add_div q a
  rw [Nat.mul_comm] at this
  omega

theorem min_max_cases (a b : Nat) : (min a b = a ∧ max a b = b) ∨ (min a b = b ∧ max a b = a) :=
  (Nat.le_total a b).imp (fun h => ⟨Nat.min_eq_left h, Nat.max_eq_right h⟩)
    (fun h => ⟨Nat.min_eq_right h, Nat.max_eq_left h⟩)

theorem not_any_ge_iff {l : List Nat} {n : Nat} :
    ¬ (l.any (fun i => decide (n ≤ i)) = true) ↔ ∀ i ∈ l, i < n := by
  simp

theorem getD_map_range {β : Type} (g : Nat → β) (d : β) {n i : Nat} (hi : i < n) :
    ((List.range n).map g).getD i d = g i :=
  Common.getD_map_range g d hi

theorem getD_map' {α β : Type} (g : α → β) (l : List α) {i : Nat} (hi : i < l.length) (d : β) (d' : α) :
    (l.map g).getD i d = g (l.getD i d') :=
  Common.getD_map_of_lt g hi d d'

theorem length_flatMap_const {α β : Type} (F : α → List β) (n : Nat) (zs : List α)
    (h : ∀ z ∈ zs, (F z).length = n) : (zs.flatMap F).length = n * zs.length := by
  induction zs with
  | nil => simp
  | cons z zs ih =>
    simp only [List.flatMap_cons, List.length_append, List.length_cons, Nat.mul_succ,
      h z List.mem_cons_self, ih (fun z hz => h z (List.mem_cons_of_mem _ hz))]
    omega

theorem getD_flatMap_uniform {α β : Type} (g : α → List β) (n : Nat) (d : β) (dy : α) :
    ∀ (ys : List α), (∀ y ∈ ys, (g y).length = n) → ∀ (i j : Nat), i < n → j < ys.length →
      (ys.flatMap g).getD (i + n * j) d = (g (ys.getD j dy)).getD i d
  | [], _, _, j, _, hj => absurd hj (Nat.not_lt_zero j)
  | y :: ys, hlen, i, 0, hi, _ => by
    rw [List.flatMap_cons, List.getD_eq_getElem?_getD,
      List.getElem?_append_left ((hlen y List.mem_cons_self).symm ▸ hi), ← List.getD_eq_getElem?_getD]
    rfl
  | y :: ys, hlen, i, j + 1, hi, hj => by
    -- past the first block of length `n`, the index drops by `n` and the block number by one
    have hidx : i + n * (j + 1) = (g y).length + (i + n * j) := by
      rw [hlen y List.mem_cons_self, Nat.mul_succ]; omega
    rw [List.flatMap_cons, List.getD_eq_getElem?_getD, hidx, List.getElem?_append_right (Nat.le_add_right _ _),
      Nat.add_sub_cancel_left, ← List.getD_eq_getElem?_getD]
    exact getD_flatMap_uniform g n d dy ys (fun y h => hlen y (List.mem_cons_of_mem _ h)) i j hi
      (Nat.lt_of_succ_lt_succ hj)
end PorepyVerif.C22
