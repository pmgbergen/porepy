/-
C22 — `_extract_submatrix` and the three extraction functions: what an accepted result is, the cell lists of
`partition_grid`, and the edge keys of `_extract_cells_from_faces_3d`.
-/
import PorepyVerif.C22.Lemmas
import PorepyVerif.C22.LemmasSort

namespace PorepyVerif.C22

theorem renumber_back (u : List Nat) (cols : List (List Nat))
    (h : ∀ col ∈ cols, ∀ r ∈ col, r ∈ u) :
    (renumber u cols).map (fun col => col.map (fun j => u.getD j 0)) = cols := by
  unfold renumber
  rw [List.map_map]
  conv => rhs; rw [← List.map_id cols]
  apply List.map_congr_left
  intro col hcol
  simp only [Function.comp, List.map_map, id]
  conv => rhs; rw [← List.map_id col]
  apply List.map_congr_left
  intro r hr
  exact Common.getD_idxOf 0 (h col hcol r hr)

theorem mem_uniqueRows {x : Nat} {cols : List (List Nat)} :
    x ∈ uniqueRows cols ↔ ∃ col ∈ cols, x ∈ col := by
  simp [uniqueRows, mem_usort, List.mem_flatten]

theorem mem_subCols {α : Type} {m : List (List α)} {ind : List Nat} {col : List α} :
    col ∈ subCols m ind ↔ ∃ i ∈ ind, m.getD i [] = col := by
  simp [subCols]

theorem extractSub_spec (m : List (List Nat)) (ind : List Nat) :
    (extractSub m ind).2.Pairwise (· < ·) ∧
    (∀ x, x ∈ (extractSub m ind).2 ↔ ∃ i ∈ ind, x ∈ m.getD i []) ∧
    (extractSub m ind).1.map (fun col => col.map (fun j => (extractSub m ind).2.getD j 0))
      = ind.map (fun i => m.getD i []) ∧
    (∀ col ∈ (extractSub m ind).1, ∀ j ∈ col, j < (extractSub m ind).2.length) := by
  refine ⟨pairwise_usort _, ?_, ?_, ?_⟩
  · intro x
    show x ∈ uniqueRows (subCols m ind) ↔ _
    rw [mem_uniqueRows]
    constructor
    · rintro ⟨col, hcol, hx⟩
      obtain ⟨i, hi, rfl⟩ := mem_subCols.mp hcol
      exact ⟨i, hi, hx⟩
    · rintro ⟨i, hi, hx⟩
      exact ⟨_, mem_subCols.mpr ⟨i, hi, rfl⟩, hx⟩
  · have e1 : (extractSub m ind).1 = renumber (uniqueRows (subCols m ind)) (subCols m ind) := rfl
    have e2 : (extractSub m ind).2 = uniqueRows (subCols m ind) := rfl
    rw [e1, e2, renumber_back]
    · rfl
    · intro col hcol r hr
      exact mem_uniqueRows.mpr ⟨col, hcol, hr⟩
  · intro col hcol j hj
    change col ∈ renumber (uniqueRows (subCols m ind)) (subCols m ind) at hcol
    simp only [renumber, List.mem_map] at hcol
    obtain ⟨col0, hcol0, rfl⟩ := hcol
    obtain ⟨r, hr, rfl⟩ := List.mem_map.mp hj
    exact List.idxOf_lt_length_iff.mpr (mem_uniqueRows.mpr ⟨col0, hcol0, hr⟩)

theorem extractCore_ok {g : Topo} {c : List Nat} {r : Sub} (h : extractCore g c = .ok r) :
    let cf := extractSub g.cfFaces c
    let fnn := extractSub g.fn cf.2
    let sg := subCols g.cfSigns c
    r = { cells := c, faceMap := cf.2, nodeMap := fnn.2, cfFaces := cf.1, cfSigns := sg, fn := fnn.1 } ∧
    (∀ i ∈ c, i < g.cfFaces.length) ∧ (∀ f ∈ cf.2, f < g.fn.length) ∧
    orientationBad cf.1 sg cf.2.length = false := by
  obtain ⟨h1, h⟩ := Common.ite_error_eq_ok.1 h
  obtain ⟨h2, h⟩ := Common.ite_error_eq_ok.1 h
  obtain ⟨h3, h⟩ := Common.ite_error_eq_ok.1 h
  exact ⟨(Except.ok.inj h).symm, not_any_ge_iff.mp h1, not_any_ge_iff.mp h2, Bool.eq_false_iff.mpr h3⟩

theorem extractFaces2_ok {fn : List (List Nat)} {f : List Nat} {r : FaceSub}
    (h : extractFaces2 fn f = .ok r) :
    let cn := extractSub fn f
    let sg := signCols 1 (-1) [] cn.1
    r = { faces := f, nodeMap := cn.2, cfFaces := cn.1, cfSigns := sg,
          fn := (List.range cn.2.length).map (fun i => [i]) } ∧
    orientationBad cn.1 sg cn.2.length = false := by
  obtain ⟨_, h⟩ := Common.ite_error_eq_ok.1 h
  obtain ⟨hbad, h⟩ := Common.ite_error_eq_ok.1 h
  exact ⟨(Except.ok.inj h).symm, Bool.eq_false_iff.mpr hbad⟩

theorem extractFaces3_ok {fn : List (List Nat)} {f : List Nat} {r : FaceSub}
    (h : extractFaces3 fn f = .ok r) :
    let cn := extractSub fn f
    let m := cn.2.length + 1
    let ecols := cn.1.map cyclicEdges
    let es := ecols.flatten
    let keys := es.map (edgeKey m)
    let ukeys := usort keys
    let cf := ecols.map (fun col => col.map (fun e => ukeys.idxOf (edgeKey m e)))
    let sg := signCols (-1) 1 [] cf
    r = { faces := f, nodeMap := cn.2, cfFaces := cf, cfSigns := sg,
          fn := ukeys.map (fun k => let e := es.getD (keys.idxOf k) (0, 0); [e.1, e.2]) } ∧
    orientationBad cf sg ukeys.length = false := by
  obtain ⟨_, h⟩ := Common.ite_error_eq_ok.1 h
  obtain ⟨hbad, h⟩ := Common.ite_error_eq_ok.1 h
  exact ⟨(Except.ok.inj h).symm, Bool.eq_false_iff.mpr hbad⟩

theorem mem_partCells_flatten {ind : List Nat} {c : Nat} :
    c ∈ (partCells ind).flatten ↔ c < ind.length := by
  simp only [partCells, List.mem_flatten, List.mem_map]
  constructor
  · rintro ⟨l, ⟨i, _, rfl⟩, hc⟩
    exact List.mem_range.mp (List.mem_filter.mp hc).1
  · intro hc
    refine ⟨_, ⟨ind.getD c 0, ?_, rfl⟩, ?_⟩
    · exact mem_usort.mpr (Common.getD_mem 0 hc)
    · simp [List.mem_filter, hc]

theorem nodup_partCells_flatten (ind : List Nat) : (partCells ind).flatten.Nodup := by
  unfold List.Nodup
  rw [List.pairwise_flatten]
  constructor
  · intro l hl
    simp only [partCells, List.mem_map] at hl
    obtain ⟨i, _, rfl⟩ := hl
    exact List.Pairwise.filter _ List.nodup_range
  · unfold partCells
    rw [List.pairwise_map]
    refine List.Pairwise.imp ?_ (pairwise_usort ind)
    intro i j hij x hx y hy hxy
    subst hxy
    have h1 := (List.mem_filter.mp hx).2
    have h2 := (List.mem_filter.mp hy).2
    simp at h1 h2
    omega

theorem partCells_sorted {ind : List Nat} {cs : List Nat} (h : cs ∈ partCells ind) :
    cs.Pairwise (· ≤ ·) := by
  simp only [partCells, List.mem_map] at h
  obtain ⟨i, _, rfl⟩ := h
  exact List.Pairwise.filter _ (List.Pairwise.imp (fun h => Nat.le_of_lt h) List.pairwise_lt_range)

/-- the first element of `l` whose value under `g` is `k` -/
theorem getD_idxOf_map {α : Type} (g : α → Nat) (d : α) (l : List α) {k : Nat} (hk : k ∈ l.map g) :
    l.getD ((l.map g).idxOf k) d ∈ l ∧ g (l.getD ((l.map g).idxOf k) d) = k := by
  have hlt : (l.map g).idxOf k < l.length := by simpa using List.idxOf_lt_length_iff.mpr hk
  refine ⟨Common.getD_mem d hlt, ?_⟩
  rw [← getD_map' g l hlt (g d) d]
  exact Common.getD_idxOf _ hk

theorem cyclicEdges_map (g : Nat → Nat) (col : List Nat) :
    (cyclicEdges col).map (fun e => (g e.1, g e.2)) = cyclicEdges (col.map g) := by
  unfold cyclicEdges
  rw [← List.map_drop, ← List.map_take, ← List.map_append, List.zip_map]
  rfl

theorem mem_cyclicEdges {col : List Nat} {e : Nat × Nat} (h : e ∈ cyclicEdges col) :
    e.1 ∈ col ∧ e.2 ∈ col := by
  unfold cyclicEdges at h
  have := List.of_mem_zip h
  refine ⟨this.1, ?_⟩
  rcases List.mem_append.mp this.2 with h2 | h2
  · exact List.mem_of_mem_drop h2
  · exact List.mem_of_mem_take h2
end PorepyVerif.C22
