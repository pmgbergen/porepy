/-
C22 — first-occurrence marks and the signed row sums of the extracted lower-dimensional grids.
-/
import PorepyVerif.C22.Model

namespace PorepyVerif.C22

theorem firstOccAux_length : ∀ (l seen : List Nat), (firstOccAux seen l).length = l.length := by
  intro l
  induction l with
  | nil => intro _; rfl
  | cons x l ih => intro seen; simp [firstOccAux, ih]

theorem firstOccAux_append : ∀ (a b seen : List Nat),
    firstOccAux seen (a ++ b) = firstOccAux seen a ++ firstOccAux (a.reverse ++ seen) b := by
  intro a
  induction a with
  | nil => intro b seen; rfl
  | cons x a ih =>
    intro b seen
    simp only [List.cons_append, firstOccAux, ih, List.reverse_cons, List.append_assoc,
      List.cons_append, List.nil_append]

theorem flatten_signCols (first other : Int) : ∀ (cols : List (List Nat)) (seen : List Nat),
    (signCols first other seen cols).flatten
      = (firstOccAux seen cols.flatten).map (fun b => if b then first else other) := by
  intro cols
  induction cols with
  | nil => intro _; rfl
  | cons col rest ih =>
    intro seen
    simp only [signCols, List.flatten_cons, ih, firstOccAux_append, List.map_append]

theorem signCols_shape (first other : Int) : ∀ (cols : List (List Nat)) (seen : List Nat),
    (signCols first other seen cols).map List.length = cols.map List.length := by
  intro cols
  induction cols with
  | nil => intro _; rfl
  | cons col rest ih =>
    intro seen
    simp only [signCols, List.map_cons, List.length_map, firstOccAux_length, ih]

theorem firstOccAux_spec : ∀ (l seen : List Nat) (p : Nat), p < l.length →
    ((firstOccAux seen l).getD p false = true ↔
      l.getD p 0 ∉ seen ∧ l.getD p 0 ∉ l.take p) := by
  intro l
  induction l with
  | nil => intro _ p hp; simp at hp
  | cons x l ih =>
    intro seen p hp
    cases p with
    | zero => simp [firstOccAux]
    | succ p =>
      have hp' : p < l.length := by simpa using hp
      have := ih (x :: seen) p hp'
      simp only [firstOccAux, List.getD_cons_succ, List.take_succ_cons, List.mem_cons, not_or] at this ⊢
      rw [this]
      constructor
      · rintro ⟨⟨h1, h2⟩, h3⟩; exact ⟨h2, h1, h3⟩
      · rintro ⟨h2, h1, h3⟩; exact ⟨⟨h1, h2⟩, h3⟩

theorem rowSum_eq_sum (cols : List (List Nat)) (sg : List (List Int)) (v : Nat) :
    rowSum cols sg v = (((cols.flatten.zip sg.flatten).filter (fun p => p.1 == v)).map (·.2)).sum := by
  rw [rowSum, List.sum_eq_foldl, List.foldl_map]

/-- sum of the coded signs over all occurrences of `v`: the first occurrence carries `a`, every later
    one `b` -/
theorem sum_firstOcc (a b : Int) (v : Nat) : ∀ (xs seen : List Nat),
    (((xs.zip ((firstOccAux seen xs).map (fun t => if t then a else b))).filter (fun p => p.1 == v)).map (·.2)).sum
      = if v ∈ seen then (xs.count v : Int) * b
        else if xs.count v = 0 then 0 else a + ((xs.count v : Int) - 1) * b := by
  intro xs
  induction xs with
  | nil => intro seen; simp
  | cons x xs ih =>
    intro seen
    simp only [firstOccAux, List.map_cons, List.zip_cons_cons, List.filter_cons, List.count_cons]
    by_cases hx : x = v
    · subst hx
      simp only [beq_self_eq_true, if_true, List.map_cons, List.sum_cons, ih (x :: seen), List.mem_cons, true_or,
        Nat.succ_ne_zero, if_false, Int.natCast_add, Int.natCast_one, Int.add_sub_cancel]
      by_cases hs : x ∈ seen
      · simp [hs, Int.add_mul, Int.add_comm]
      · simp [hs]
    · have hbeq : (x == v) = false := by simpa using hx
      have hne : ¬ (v = x) := fun h => hx h.symm
      simp only [hbeq, hne, ih (x :: seen), List.mem_cons, false_or, Bool.false_eq_true, if_false, Nat.add_zero]

theorem rowSum_signCols (a b : Int) (cols : List (List Nat)) (v : Nat) :
    rowSum cols (signCols a b [] cols) v
      = if cols.flatten.count v = 0 then 0 else a + ((cols.flatten.count v : Int) - 1) * b := by
  rw [rowSum_eq_sum, flatten_signCols, sum_firstOcc a b v cols.flatten []]
  simp

theorem not_orientationBad {cf : List (List Nat)} {sg : List (List Int)} {nf : Nat}
    (h : orientationBad cf sg nf = false) : ∀ v, v < nf → (rowSum cf sg v).natAbs ≤ 1 := by
  intro v hv
  unfold orientationBad at h
  rcases Nat.lt_or_ge 1 (rowSum cf sg v).natAbs with hlt | hge
  · have : (List.range nf).any (fun lf => decide (1 < (rowSum cf sg lf).natAbs)) = true :=
      List.any_eq_true.mpr ⟨v, List.mem_range.mpr hv, by simpa using hlt⟩
    rw [this] at h; cases h
  · exact hge

theorem sign_sum (a : Int) (k : Nat) : a + ((k : Int) - 1) * -a = a * (2 - (k : Int)) := by
  grind

theorem sign_bound {a : Int} (ha : a = 1 ∨ a = -1) {k : Nat} (h : (a * (2 - (k : Int))).natAbs ≤ 1) :
    k ≤ 3 := by
  have : a.natAbs = 1 := by rcases ha with rfl | rfl <;> rfl
  rw [Int.natAbs_mul, this, Nat.one_mul] at h
  omega

/-- first occurrence `a = ±1`, later ones `-a`, and no row sum beyond ±1 among the rows `< n`, which are all
    that occur: a row occurring `k ≥ 1` times sums to `a·(2 − k)`, so `k ≤ 3` -/
theorem sign_rule {a b : Int} (ha : a = 1 ∨ a = -1) (hab : b = -a) {cf : List (List Nat)} {n : Nat}
    (hlt : ∀ col ∈ cf, ∀ j ∈ col, j < n) (hbad : orientationBad cf (signCols a b [] cf) n = false) :
    (∀ v, rowSum cf (signCols a b [] cf) v
      = if cf.flatten.count v = 0 then 0 else a * (2 - (cf.flatten.count v : Int))) ∧
    (∀ v, cf.flatten.count v ≤ 3) := by
  have hsum : ∀ v, rowSum cf (signCols a b [] cf) v
      = if cf.flatten.count v = 0 then 0 else a * (2 - (cf.flatten.count v : Int)) := by
    intro v
    rw [rowSum_signCols a b, hab, sign_sum]
  refine ⟨hsum, fun v => ?_⟩
  by_cases hv : v < n
  · have := not_orientationBad hbad v hv
    rw [hsum v] at this
    split at this
    · rename_i h0
      rw [h0]
      exact Nat.zero_le _
    · exact sign_bound ha this
  · have : cf.flatten.count v = 0 := by
      rw [List.count_eq_zero]
      intro hm
      obtain ⟨col, hcol, hvc⟩ := List.mem_flatten.mp hm
      exact hv (hlt col hcol v hvc)
    rw [this]
    exact Nat.zero_le _
end PorepyVerif.C22
