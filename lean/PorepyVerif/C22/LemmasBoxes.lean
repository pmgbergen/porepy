/-
C22 — `partition_coordinates`: exactly one box contains a point whose coordinates lie within the node extent.
-/
import PorepyVerif.C22.Lemmas

namespace PorepyVerif.C22

/-- hypothesis on an axis and a coordinate: at least one box, and the coordinate lies in `[lo, hi)` -/
def AxisOk (a : Axis) (x : Rat) : Prop := 1 ≤ a.c ∧ a.lo ≤ x ∧ x < a.hi

/-- lower end of box `k` along the axis -/
def boxLo (a : Axis) (k : Nat) : Rat := a.lo + (a.hi - a.lo) / (a.c : Rat) * (k : Rat)

theorem inBox_iff {a : Axis} {k : Nat} {x : Rat} :
    inBox a k x = true ↔ boxLo a k ≤ x ∧ x < boxLo a (k + 1) := by
  simp [inBox, boxLo]

theorem boxLo_zero (a : Axis) : boxLo a 0 = a.lo := by
  simp [boxLo, Rat.mul_zero, Rat.add_zero]

theorem boxLo_top {a : Axis} (hc : 1 ≤ a.c) : boxLo a a.c = a.hi := by
  have hne : (a.c : Rat) ≠ 0 := Rat.ne_of_gt (Rat.natCast_pos.mpr hc)
  rw [boxLo, Rat.div_mul_cancel hne, Rat.add_comm, Rat.sub_add_cancel]

theorem boxLo_mono {a : Axis} {x : Rat} (h : AxisOk a x) {k k' : Nat} (hk : k ≤ k') :
    boxLo a k ≤ boxLo a k' := by
  obtain ⟨hc, h1, h2⟩ := h
  have hdx : 0 ≤ (a.hi - a.lo) / (a.c : Rat) := by
    rw [Rat.div_def]
    exact Rat.mul_nonneg ((Rat.le_iff_sub_nonneg _ _).mp (Rat.le_trans h1 (Rat.le_of_lt h2)))
      (Rat.le_of_lt (Rat.inv_pos.mpr (Rat.natCast_pos.mpr hc)))
  exact Rat.add_le_add_left.mpr (Rat.mul_le_mul_of_nonneg_left (Rat.natCast_le_natCast.mpr hk) hdx)

theorem inBox_exists {a : Axis} {x : Rat} (h : AxisOk a x) : ∃ k, k < a.c ∧ inBox a k x = true := by
  have key : ∀ n : Nat, x < boxLo a n → ∃ k, k < n ∧ inBox a k x = true := by
    intro n
    induction n with
    | zero => intro hx; exact absurd (boxLo_zero a ▸ hx) (Rat.not_lt.mpr h.2.1)
    | succ n ih =>
      intro hx
      by_cases hlt : x < boxLo a n
      · obtain ⟨k, hk, hb⟩ := ih hlt
        exact ⟨k, Nat.lt_succ_of_lt hk, hb⟩
      · exact ⟨n, Nat.lt_succ_self n, inBox_iff.mpr ⟨Rat.not_lt.mp hlt, hx⟩⟩
  exact key a.c (boxLo_top h.1 ▸ h.2.2)

theorem inBox_unique {a : Axis} {x : Rat} (h : AxisOk a x) {k k' : Nat}
    (hk : inBox a k x = true) (hk' : inBox a k' x = true) : k = k' := by
  have aux : ∀ {k k' : Nat}, inBox a k x = true → inBox a k' x = true → ¬ k < k' := by
    intro k k' hk hk' hlt
    -- the upper end of box `k` is at most the lower end of box `k'`, hence at most `x`
    exact Rat.not_le.mpr (inBox_iff.mp hk).2 (Rat.le_trans (boxLo_mono h hlt) (inBox_iff.mp hk').1)
  have h1 := aux hk hk'
  have h2 := aux hk' hk
  omega

theorem prodL_cons (c : Nat) (cs : List Nat) : prodL (c :: cs) = c * prodL cs := by
  have gen : ∀ (l : List Nat) (a : Nat), l.foldl (· * ·) a = a * l.foldl (· * ·) 1 := by
    intro l
    induction l with
    | nil => intro a; simp
    | cons x l ih => intro a; simp only [List.foldl_cons]; rw [ih (a * x), ih (1 * x)]; simp [Nat.mul_assoc]
  unfold prodL
  simp only [List.foldl_cons]
  rw [gen cs (1 * c)]
  simp

theorem unravel_inj : ∀ (cs : List Nat) (i j : Nat), i < prodL cs → j < prodL cs →
    unravel cs i = unravel cs j → i = j := by
  intro cs
  induction cs with
  | nil => intro i j hi hj _; simp [prodL] at hi hj; omega
  | cons c cs ih =>
    intro i j hi hj h
    simp only [unravel, List.cons.injEq] at h
    obtain ⟨h1, h2⟩ := h
    rw [prodL_cons] at hi hj
    have hP : 0 < prodL cs := by
      rcases Nat.eq_zero_or_pos (prodL cs) with h0 | h0
      · rw [h0] at hi; simp at hi
      · exact h0
    have := ih (i % prodL cs) (j % prodL cs) (Nat.mod_lt _ hP) (Nat.mod_lt _ hP) h2
    rw [← Nat.div_add_mod i (prodL cs), ← Nat.div_add_mod j (prodL cs), h1, this]

theorem unravel_length (cs : List Nat) : ∀ i, (unravel cs i).length = cs.length := by
  induction cs with
  | nil => intro i; rfl
  | cons c cs ih => intro i; simp [unravel, ih]

/-- every coordinate of the point lies inside the node extent of its axis (same number of axes) -/
def AllOk : List Axis → List Rat → Prop
  | a :: as, x :: xs => AxisOk a x ∧ AllOk as xs
  | [], [] => True
  | _, _ => False

theorem allOkB_iff : ∀ (axes : List Axis) (x : List Rat), allOkB axes x = true ↔ AllOk axes x
  | [], [] => by simp only [allOkB, AllOk]
  | [], _ :: _ => by simp only [allOkB, AllOk, Bool.false_eq_true]
  | _ :: _, [] => by simp only [allOkB, AllOk, Bool.false_eq_true]
  | a :: as, x :: xs => by
    simp only [allOkB, AllOk, AxisOk, Bool.and_eq_true, decide_eq_true_eq, allOkB_iff as xs, and_assoc]

theorem foldl_last_hit (P : Nat → Bool) (i0 : Nat) : ∀ n, i0 < n → P i0 = true →
    (∀ i, i < n → P i = true → i = i0) →
    (List.range n).foldl (fun acc i => if P i then (i : Int) else acc) (-1) = (i0 : Int) := by
  intro n
  induction n with
  | zero => intro h; exact absurd h (Nat.not_lt_zero _)
  | succ n ih =>
    intro hlt hP huniq
    rw [List.range_succ, List.foldl_append]
    simp only [List.foldl_cons, List.foldl_nil]
    by_cases hn : i0 = n
    · subst hn; rw [if_pos hP]
    · have hPn : P n = false := by
        apply Bool.eq_false_iff.mpr
        intro h
        exact hn (huniq n (Nat.lt_succ_self n) h).symm
      rw [hPn]
      simp only [Bool.false_eq_true, if_false]
      exact ih (Nat.lt_of_le_of_ne (Nat.le_of_lt_succ hlt) hn) hP (fun i hi hp => huniq i (Nat.lt_succ_of_lt hi) hp)

/-- exactly one box number below `Π c` contains the point: its leading digit is the one box of the first axis,
    the rest is the number found for the other axes -/
theorem hit_exists_unique : ∀ (axes : List Axis) (xs : List Rat), AllOk axes xs →
    ∃ i, i < prodL (axes.map (·.c)) ∧ hitAll axes (unravel (axes.map (·.c)) i) xs = true ∧
      ∀ j, j < prodL (axes.map (·.c)) → hitAll axes (unravel (axes.map (·.c)) j) xs = true → j = i
  | [], [], _ => ⟨0, Nat.one_pos, rfl, fun j hj _ => Nat.lt_one_iff.mp hj⟩
  | [], _ :: _, h => h.elim
  | _ :: _, [], h => h.elim
  | a :: as, x :: xs, ⟨ha, has⟩ => by
    obtain ⟨i, hi, hh, hu⟩ := hit_exists_unique as xs has
    obtain ⟨k, hk, hb⟩ := inBox_exists ha
    obtain ⟨e1, e2⟩ := divmod_radix k hi
    simp only [List.map_cons, prodL_cons, unravel, hitAll, Bool.and_eq_true]
    refine ⟨k * prodL (as.map (·.c)) + i, radix_lt hi hk, by rw [e1, e2]; exact ⟨hb, hh⟩, ?_⟩
    intro j _ ⟨hjb, hjh⟩
    rw [← Nat.div_add_mod j (prodL (as.map (·.c))), inBox_unique ha hjb hb,
      hu _ (Nat.mod_lt _ (Nat.zero_lt_of_lt hi)) hjh, Nat.mul_comm]

theorem assignBox_spec (axes : List Axis) (x : List Rat) (h : AllOk axes x) :
    ∃ i : Nat, assignBox axes x = (i : Int) ∧ i < prodL (axes.map (·.c)) ∧
      hitAll axes (unravel (axes.map (·.c)) i) x = true ∧
      ∀ j, j < prodL (axes.map (·.c)) → hitAll axes (unravel (axes.map (·.c)) j) x = true → j = i := by
  obtain ⟨i, hi, hh, hu⟩ := hit_exists_unique axes x h
  exact ⟨i, foldl_last_hit _ _ _ hi hh hu, hi, hh, hu⟩

end PorepyVerif.C22
