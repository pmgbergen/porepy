/-
C22 — `determine_coarse_dimensions`: the loop answers with sizes in range for any root oracle with `RootOk`; the exact
integer roots satisfy it.
-/
import PorepyVerif.C22.Model

namespace PorepyVerif.C22

def DimOk (d : Dim) : Prop := 1 ≤ d.opt ∧ d.opt ≤ d.fine

/-- what the theorems need from the root oracle: `⌊s⌋ ≤ ⌈s⌉` and `1 ≤ ⌈s⌉` (true of any `s > 0`) -/
def RootOk (root : Nat → Nat → Nat → Nat × Nat) : Prop :=
  ∀ k p q, 1 ≤ p → (root k p q).1 ≤ (root k p q).2 ∧ 1 ≤ (root k p q).2

/-- one coarse size per axis, each within `[1, fine]` -/
def InRange (fine c : List Nat) : Prop :=
  c.length = fine.length ∧ ∀ q ∈ fine.zip c, 1 ≤ q.2 ∧ q.2 ≤ q.1

theorem inRange_nil : InRange [] [] := by simp [InRange]

theorem inRange_cons {f o : Nat} {fs os : List Nat} :
    InRange (f :: fs) (o :: os) ↔ (1 ≤ o ∧ o ≤ f) ∧ InRange fs os := by
  simp only [InRange, List.length_cons, List.zip_cons_cons, List.forall_mem_cons, Nat.add_right_cancel_iff]
  exact ⟨fun ⟨hl, h, ht⟩ => ⟨h, hl, ht⟩, fun ⟨h, hl, ht⟩ => ⟨hl, h, ht⟩⟩

theorem prodL_bounds : ∀ (fine c : List Nat) (a b : Nat), InRange fine c → 1 ≤ a → a ≤ b →
    1 ≤ c.foldl (· * ·) a ∧ c.foldl (· * ·) a ≤ fine.foldl (· * ·) b
  | [], [], _, _, _, ha, hab => ⟨ha, hab⟩
  | [], _ :: _, _, _, h, _, _ => nomatch h.1
  | _ :: _, [], _, _, h, _, _ => nomatch h.1
  | f :: fine, o :: c, a, b, h, ha, hab =>
    have ⟨ho, h'⟩ := inRange_cons.mp h
    prodL_bounds fine c (a * o) (b * f) h' (Nat.mul_le_mul ha ho.1) (Nat.mul_le_mul hab ho.2)

theorem inRange_opt : ∀ (ds : List Dim), (∀ d ∈ ds, DimOk d) → InRange (ds.map (·.fine)) (ds.map (·.opt))
  | [], _ => inRange_nil
  | d :: ds, h => inRange_cons.mpr ⟨h d List.mem_cons_self, inRange_opt ds fun d' hd' => h d' (List.mem_cons_of_mem _ hd')⟩

theorem hitUpdate_spec {hi : Nat} {d : Dim} (h : DimOk d) (hhi : 1 ≤ hi) :
    (hitUpdate hi d).fine = d.fine ∧ DimOk (hitUpdate hi d) ∧
    ((hitUpdate hi d).found = false → hi < d.fine) := by
  unfold hitUpdate
  split
  · exact ⟨rfl, ⟨Nat.le_min.mpr ⟨Nat.le_trans h.1 h.2, hhi⟩, Nat.min_le_left _ _⟩, nofun⟩
  · rename_i hh
    refine ⟨rfl, h, fun hf => ?_⟩
    simp only [isHit, hf, Bool.not_false, Bool.and_true, decide_eq_true_eq] at hh
    exact Nat.not_le.mp fun hle => hh (Nat.min_eq_left hle)

theorem inRange_pickD (lo hi : Nat) (hlh : lo ≤ hi) (hhi : 1 ≤ hi) :
    ∀ (ds : List Dim) (bits : List Bool),
      (∀ d ∈ ds, DimOk d ∧ (d.found = false → hi < d.fine)) → bits.length = ds.length →
      InRange (ds.map (·.fine)) (pickD lo hi ds bits)
  | [], bits, _, _ => by cases bits <;> exact inRange_nil
  | d :: ds, [], _, hl => by simp at hl
  | d :: ds, b :: bs, hd, hl => by
    obtain ⟨hdo, hdf⟩ := hd d List.mem_cons_self
    refine inRange_cons.mpr ⟨?_, inRange_pickD lo hi hlh hhi ds bs
      (fun d' hd' => hd d' (List.mem_cons_of_mem _ hd')) (by simpa using hl)⟩
    cases hf : d.found with
    | true => exact hdo
    | false =>
      have := hdf hf
      cases b
      · exact ⟨Nat.le_max_left _ _,
          Nat.max_le.mpr ⟨Nat.le_trans hdo.1 hdo.2, Nat.le_of_lt (Nat.lt_of_le_of_lt hlh this)⟩⟩
      · exact ⟨Nat.le_min.mpr ⟨Nat.le_trans hdo.1 hdo.2, hhi⟩, Nat.min_le_left _ _⟩

theorem perms_length : ∀ (n : Nat) (bits : List Bool), bits ∈ perms n → bits.length = n := by
  intro n
  induction n with
  | zero => intro bits h; simp [perms] at h; simp [h]
  | succ n ih =>
    intro bits h
    simp only [perms, List.mem_flatMap, List.mem_cons, List.not_mem_nil, or_false] at h
    obtain ⟨rest, hr, rfl | rfl⟩ := h <;> simp [ih rest hr]

theorem searchPerms_mem (P : List Nat → Prop) (target : Int) :
    ∀ (cands : List (List Nat)) (dist : Int) (opt : List Nat),
      P opt → (∀ s ∈ cands, P s) → P (searchPerms target cands dist opt) := by
  intro cands
  induction cands with
  | nil => intro _ opt h _; exact h
  | cons s rest ih =>
    intro dist opt hopt hc
    unfold searchPerms
    split
    · exact ih _ _ (hc s List.mem_cons_self) (fun s' hs' => hc s' (List.mem_cons_of_mem _ hs'))
    · exact ih _ _ hopt (fun s' hs' => hc s' (List.mem_cons_of_mem _ hs'))

/-- the search over all roundings returns one coarse size in `[1, fine]` per axis: every candidate is in
    range, and so are the sizes it starts from -/
theorem inRange_search {lo hi : Nat} (hlh : lo ≤ hi) (hhi : 1 ≤ hi) {ds : List Dim} {nd : Nat}
    (hl : ds.length = nd) (hd : ∀ d ∈ ds, DimOk d ∧ (d.found = false → hi < d.fine)) (target dist : Int) :
    InRange (ds.map (·.fine))
      (searchPerms target ((perms nd).map (pickD lo hi ds)) dist (ds.map (·.opt))) := by
  refine searchPerms_mem (InRange _) _ _ _ _ (inRange_opt _ fun d h => (hd d h).1) fun s hs => ?_
  obtain ⟨bits, hb, rfl⟩ := List.mem_map.mp hs
  exact inRange_pickD _ _ hlh hhi _ _ hd ((perms_length nd bits hb).trans hl.symm)

theorem isHit_unfound {hi : Nat} {d : Dim} (h : isHit hi d = true) : d.found = false := by
  unfold isHit at h
  cases hf : d.found <;> simp [hf] at h ⊢

theorem countP_hitUpdate (hi : Nat) : ∀ (ds : List Dim),
    ds.countP (·.found) ≤ (ds.map (hitUpdate hi)).countP (·.found) ∧
    ((∃ d ∈ ds, isHit hi d = true) →
      ds.countP (·.found) + 1 ≤ (ds.map (hitUpdate hi)).countP (·.found)) := by
  intro ds
  induction ds with
  | nil => exact ⟨Nat.le_refl _, by rintro ⟨d, hd, _⟩; simp at hd⟩
  | cons d ds ih =>
    obtain ⟨ih1, ih2⟩ := ih
    simp only [List.map_cons, List.countP_cons]
    by_cases hh : isHit hi d = true
    · have hf := isHit_unfound hh
      have hu : (hitUpdate hi d).found = true := by unfold hitUpdate; rw [if_pos hh]
      simp only [hf, hu, Bool.false_eq_true, if_false, if_true, Nat.add_zero]
      exact ⟨Nat.le_succ_of_le ih1, fun _ => Nat.succ_le_succ ih1⟩
    · have hu : hitUpdate hi d = d := by unfold hitUpdate; rw [if_neg hh]
      rw [hu]
      refine ⟨Nat.add_le_add_right ih1 _, ?_⟩
      rintro ⟨d', hd', hh'⟩
      rcases List.mem_cons.mp hd' with rfl | hd'
      · exact absurd hh' hh
      · rw [Nat.add_right_comm]
        exact Nat.add_le_add_right (ih2 ⟨d', hd', hh'⟩) _

theorem map_fine_hitUpdate (hi : Nat) (ds : List Dim) :
    (ds.map (hitUpdate hi)).map (·.fine) = ds.map (·.fine) := by
  rw [List.map_map]
  refine List.map_congr_left fun d _ => ?_
  show (hitUpdate hi d).fine = d.fine
  unfold hitUpdate
  split <;> rfl

/-- The loop answers, with one coarse size in `[1, fine]` per axis.  Every pass that goes round again marks
    at least one more axis as found, so `fuel + #found` does not drop while `it ≤ #found ≤ nd` keeps the
    iteration counter from tripping the "bug somewhere" error. -/
theorem dcdLoop_spec (root : Nat → Nat → Nat → Nat × Nat) (hroot : RootOk root) (target nd fineProd : Nat)
    (ht : 1 ≤ target) :
    ∀ (fuel it : Nat) (dims : List Dim), dims.length = nd → (∀ d ∈ dims, DimOk d) →
      it ≤ dims.countP (·.found) → nd + 2 ≤ fuel + dims.countP (·.found) →
      ∃ c, dcdLoop root target nd fineProd fuel it dims = .ok c ∧ InRange (dims.map (·.fine)) c := by
  intro fuel
  induction fuel with
  | zero =>
    intro it dims hlen _ _ hf
    have := List.countP_le_length (p := fun d : Dim => d.found) (l := dims)
    omega
  | succ fuel ih =>
    intro it dims hlen hok hit hf
    have hcl := List.countP_le_length (p := fun d : Dim => d.found) (l := dims)
    by_cases hcond : (dims.all (·.found) || decide (nd < it)) = true
    · refine ⟨_, ?_, inRange_opt dims hok⟩
      rw [dcdLoop, if_pos hcond, if_neg (Nat.not_lt.mpr (hlen ▸ Nat.le_trans hit hcl))]
    · rw [dcdLoop, if_neg hcond]
      simp only
      obtain ⟨hr1, hr2⟩ := hroot (dims.countP (fun d => !d.found)) target (prodL (dims.map (·.opt))) ht
      generalize root (dims.countP (fun d => !d.found)) target (prodL (dims.map (·.opt))) = r at hr1 hr2
      have hok' : ∀ d ∈ dims.map (hitUpdate r.2), DimOk d ∧ (d.found = false → r.2 < d.fine) := by
        intro d hd
        obtain ⟨d0, hd0, rfl⟩ := List.mem_map.mp hd
        obtain ⟨e, h1, h2⟩ := hitUpdate_spec (hok d0 hd0) hr2
        exact ⟨h1, e ▸ h2⟩
      have hlt : dims.countP (·.found) < dims.length := by
        refine Nat.lt_of_le_of_ne hcl fun he => hcond ?_
        rw [List.all_eq_true.mpr (List.countP_eq_length.mp he)]
        rfl
      by_cases hany : ((dims.map (isHit r.2)).drop 1).any id = true
      · rw [if_pos hany]
        obtain ⟨b, hb, hbt⟩ := List.any_eq_true.mp hany
        obtain ⟨d, hd, rfl⟩ := List.mem_map.mp (List.mem_of_mem_drop hb)
        have hinc := (countP_hitUpdate r.2 dims).2 ⟨d, hd, hbt⟩
        obtain ⟨c, hc, hr⟩ := ih (it + 1) (dims.map (hitUpdate r.2)) ((List.length_map _).trans hlen)
          (fun d hd => (hok' d hd).1) (Nat.le_trans (Nat.succ_le_succ hit) hinc) (by omega)
        exact ⟨c, hc, map_fine_hitUpdate r.2 dims ▸ hr⟩
      · rw [if_neg hany, if_neg (Nat.not_lt.mpr (hlen ▸ Nat.lt_of_le_of_lt hit hlt))]
        refine ⟨_, rfl, ?_⟩
        rw [← map_fine_hitUpdate r.2]
        exact inRange_search hr1 hr2 ((List.length_map _).trans hlen) hok' _ _

theorem dcd_ok (root : Nat → Nat → Nat → Nat × Nat) (hroot : RootOk root) (target : Nat) (fine : List Nat)
    (hf : ∀ f ∈ fine, 1 ≤ f) :
    ∃ c, dcd root target fine = .ok c ∧ InRange fine c := by
  have hdims : ∀ d ∈ fine.map (fun f => ({ fine := f, opt := 1, found := false } : Dim)), DimOk d := by
    intro d hd
    obtain ⟨f, hfm, rfl⟩ := List.mem_map.mp hd
    exact ⟨Nat.le_refl _, hf f hfm⟩
  obtain ⟨c, hc, hr⟩ := dcdLoop_spec root hroot (max 1 (min target (prodL fine))) fine.length (prodL fine)
    (Nat.le_max_left _ _) (fine.length + 2) 0 _ (List.length_map _) hdims (Nat.zero_le _) (Nat.le_add_right _ _)
  rw [List.map_map] at hr
  exact ⟨c, hc, List.map_id fine ▸ hr⟩

theorem rootFloorAux_spec (k p q : Nat) : ∀ n, rootFloorAux k p q n ≤ n ∧
    (rootFloorAux k p q n = 0 ∨ rootFloorAux k p q n ^ k * q ≤ p) ∧
    (∀ m, rootFloorAux k p q n < m → m ≤ n → p < m ^ k * q) := by
  intro n
  induction n with
  | zero => exact ⟨Nat.le_refl _, Or.inl rfl, fun m h1 h2 => absurd h1 (Nat.not_lt.mpr h2)⟩
  | succ n ih =>
    unfold rootFloorAux
    split
    · rename_i h
      exact ⟨Nat.le_refl _, Or.inr h, fun m h1 h2 => absurd h1 (Nat.not_lt.mpr h2)⟩
    · rename_i h
      obtain ⟨i1, i2, i3⟩ := ih
      refine ⟨Nat.le_succ_of_le i1, i2, ?_⟩
      intro m h1 h2
      by_cases hm : m = n + 1
      · subst hm; exact Nat.not_le.mp h
      · exact i3 m h1 (Nat.le_of_lt_succ (Nat.lt_of_le_of_ne h2 hm))

theorem rootFloor_spec {k p q : Nat} (hk : 1 ≤ k) (hq : 1 ≤ q) :
    rootFloor k p q ^ k * q ≤ p ∧ p < (rootFloor k p q + 1) ^ k * q := by
  obtain ⟨h1, h2, h3⟩ := rootFloorAux_spec k p q p
  unfold rootFloor
  generalize rootFloorAux k p q p = r at h1 h2 h3 ⊢
  constructor
  · rcases h2 with rfl | h
    · rw [Nat.zero_pow hk, Nat.zero_mul]
      exact Nat.zero_le _
    · exact h
  · rcases Nat.lt_or_ge r p with hlt | hge
    · exact h3 _ (Nat.lt_succ_self r) hlt
    · -- the search stopped at `p` itself: `p < p + 1 ≤ (p + 1)^k · q`
      calc p < r + 1 := Nat.lt_succ_of_le hge
        _ = (r + 1) ^ 1 * 1 := by rw [Nat.pow_one, Nat.mul_one]
        _ ≤ (r + 1) ^ k * q := Nat.mul_le_mul (Nat.pow_le_pow_right (Nat.succ_pos r) hk) hq

theorem rootCeil_spec {k p q : Nat} (hk : 1 ≤ k) (hq : 1 ≤ q) (hp : 1 ≤ p) :
    p ≤ rootCeil k p q ^ k * q ∧ (rootCeil k p q - 1) ^ k * q < p ∧ 1 ≤ rootCeil k p q := by
  obtain ⟨h1, h2⟩ := rootFloor_spec (p := p) hk hq
  unfold rootCeil
  generalize rootFloor k p q = r at h1 h2 ⊢
  split
  · rename_i he
    -- an exact root: `r ≥ 1` since `p ≥ 1`, and `(r-1)^k < r^k`
    have hpos : 1 ≤ r := by
      rcases Nat.eq_zero_or_pos r with rfl | h0
      · rw [Nat.zero_pow (by omega)] at he; omega
      · exact h0
    have := Nat.mul_lt_mul_of_pos_right (Nat.pow_lt_pow_left (Nat.sub_lt hpos Nat.one_pos) (Nat.ne_of_gt hk)) hq
    exact ⟨Nat.le_of_eq he.symm, he ▸ this, hpos⟩
  · rename_i hne
    exact ⟨Nat.le_of_lt h2, Nat.lt_of_le_of_ne h1 hne, Nat.succ_pos r⟩

theorem exactRoot_ok : RootOk exactRoot := by
  intro k p q hp
  simp only [exactRoot, rootCeil]
  split
  · rename_i he
    refine ⟨Nat.le_refl _, ?_⟩
    rcases Nat.eq_zero_or_pos (rootFloor k p q) with h0 | h0
    · -- ⌊s⌋ = 0 with 0^k·q = p ≥ 1 forces k = 0, but then ⌊s⌋ = p ≥ 1
      exfalso
      rw [h0] at he
      cases k with
      | zero =>
        obtain ⟨_, _, h3⟩ := rootFloorAux_spec 0 p q p
        have := h3 p (by unfold rootFloor at h0; omega) (Nat.le_refl _)
        simp at he this
        omega
      | succ k => simp at he; omega
    · exact h0
  · omega
end PorepyVerif.C22
