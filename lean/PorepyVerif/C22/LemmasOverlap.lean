/-
C22 — `overlap`: what one layer adds.
-/
import PorepyVerif.C22.Lemmas

namespace PorepyVerif.C22

theorem mem_touched {ce : List (List Nat)} {cells : List Nat} {e : Nat} :
    e ∈ touched ce cells ↔ ∃ c ∈ cells, e ∈ ce.getD c [] := by
  simp [touched, List.mem_flatMap]

theorem mem_hits {ce : List (List Nat)} {ents : List Nat} {c : Nat} :
    c ∈ hits ce ents ↔ c < ce.length ∧ ∃ e ∈ ce.getD c [], e ∈ ents := by
  simp only [hits, List.mem_filter, List.mem_range, List.any_eq_true, List.contains_iff_mem]

/-- state invariant: every active entity belongs to an active cell -/
def OvInv (ce : List (List Nat)) (st : List Nat × List Nat) : Prop :=
  ∀ e ∈ st.2, ∃ c ∈ st.1, e ∈ ce.getD c []

theorem ovInv_layer {ce : List (List Nat)} {st : List Nat × List Nat} (h : OvInv ce st) :
    OvInv ce (layer ce st) := by
  intro e he
  simp only [layer, List.mem_append] at he ⊢
  rcases he with he | he
  · obtain ⟨c, hc, hec⟩ := h e he
    exact ⟨c, Or.inl hc, hec⟩
  · obtain ⟨c, hc, hec⟩ := mem_touched.mp he
    exact ⟨c, Or.inl hc, hec⟩

theorem ovInv_layers (ce : List (List Nat)) (cells : List Nat) (k : Nat) :
    OvInv ce (layers ce k (cells, [])) := by
  induction k with
  | zero => intro e he; simp [layers] at he
  | succ k ih => exact ovInv_layer ih

theorem mem_layer {ce : List (List Nat)} {st : List Nat × List Nat} (h : OvInv ce st) {c : Nat} :
    c ∈ (layer ce st).1 ↔
      c ∈ st.1 ∨ (c < ce.length ∧ ∃ c0 ∈ st.1, ∃ e, e ∈ ce.getD c0 [] ∧ e ∈ ce.getD c []) := by
  simp only [layer, List.mem_append, mem_hits, mem_touched]
  constructor
  · rintro (hc | ⟨hlt, e, hec, he | ⟨c0, hc0, hec0⟩⟩)
    · exact Or.inl hc
    · obtain ⟨c0, hc0, hec0⟩ := h e he
      exact Or.inr ⟨hlt, c0, hc0, e, hec0, hec⟩
    · exact Or.inr ⟨hlt, c0, hc0, e, hec0, hec⟩
  · rintro (hc | ⟨hlt, c0, hc0, e, hec0, hec⟩)
    · exact Or.inl hc
    · exact Or.inr ⟨hlt, e, hec, Or.inr ⟨c0, hc0, hec0⟩⟩

theorem layers_lt {ce : List (List Nat)} {cells : List Nat} (hcells : ∀ c ∈ cells, c < ce.length)
    (k : Nat) : ∀ c ∈ (layers ce k (cells, [])).1, c < ce.length := by
  induction k with
  | zero => exact hcells
  | succ k ih =>
    intro c hc
    rcases (mem_layer (ovInv_layers ce cells k)).mp hc with h | ⟨h, _⟩
    · exact ih c h
    · exact h

/-- the filter on existing cells in `overlapCells` removes nothing when the input cells exist -/
theorem mem_overlapCells {ce : List (List Nat)} {cells : List Nat}
    (hcells : ∀ c ∈ cells, c < ce.length) {k c : Nat} :
    c ∈ overlapCells ce cells k ↔ c ∈ (layers ce k (cells, [])).1 := by
  simp only [overlapCells, List.mem_filter, List.mem_range, List.contains_iff_mem]
  exact ⟨fun h => h.2, fun h => ⟨layers_lt hcells k c h, h⟩⟩

theorem overlapCells_sorted (ce : List (List Nat)) (cells : List Nat) (k : Nat) :
    (overlapCells ce cells k).Pairwise (· < ·) :=
  List.Pairwise.filter _ List.pairwise_lt_range

theorem overlap_ok {ce : List (List Nat)} {cells : List Nat} (hcells : ∀ c ∈ cells, c < ce.length)
    (k : Nat) : overlap ce cells k = .ok (overlapCells ce cells k) :=
  if_neg (not_any_ge_iff.mpr hcells)
end PorepyVerif.C22
