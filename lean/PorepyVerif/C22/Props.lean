/-
C22 — property theorems (statements depend on Model.lean only, plus the closed form `axisSpec` and the
hypotheses `RootOk`, `AllOk` defined in LemmasStructured, LemmasCoarse, LemmasBoxes; helper lemmas in the `Lemmas*`
modules, one per topic).

Property: extracting any set of cells yields a grid whose face and node index maps point to the matching
parent entities (and whose geometry, recomputed, is the parent's — see EXPLANATION in harness/props/c22.py:
`extract_maps_point_to_parent` and `extract_geometry_local` are the topological half of that argument, that
`compute_geometry` is a function of that input stays with the oracle); partitioners assign every cell to exactly
one part within range; overlap layers only grow the cell set and contain all neighbours of the previous
layer.
-/
import PorepyVerif.C22.LemmasExtract
import PorepyVerif.C22.LemmasStructured
import PorepyVerif.C22.LemmasOverlap
import PorepyVerif.C22.LemmasCoarse
import PorepyVerif.C22.LemmasSigns
import PorepyVerif.C22.LemmasBoxes

namespace PorepyVerif.C22

/-- `extract_subgrid(g, c, sort)` succeeded with result `r`.  Then
 * `face_map` / `node_map` are strictly increasing (hence injective);
 * `face_map` holds exactly the parent faces of the extracted cells, `node_map` exactly the parent nodes
   of those faces, and all of them exist in the parent;
 * the local cell-face relation, renumbered through `face_map`, IS the parent's relation on the extracted
   cells — same faces in the same stored order with the same signs; the local face-node relation,
   renumbered through `node_map`, IS the parent's on the extracted faces (same node order, which is what
   `compute_geometry` reads);
 * local indices are within the maps. -/
theorem extract_maps_point_to_parent (g : Topo) (c : List Nat) (sort : Bool) (r : Sub)
    (h : extract g c sort = .ok r) :
    r.faceMap.Pairwise (· < ·) ∧ r.nodeMap.Pairwise (· < ·) ∧ r.faceMap.Nodup ∧ r.nodeMap.Nodup ∧
    (∀ f, f ∈ r.faceMap ↔ ∃ i ∈ r.cells, f ∈ g.cfFaces.getD i []) ∧
    (∀ n, n ∈ r.nodeMap ↔ ∃ f ∈ r.faceMap, n ∈ g.fn.getD f []) ∧
    (∀ i ∈ r.cells, i < g.cfFaces.length) ∧ (∀ f ∈ r.faceMap, f < g.fn.length) ∧
    r.cfFaces.map (fun col => col.map (fun lf => r.faceMap.getD lf 0))
      = r.cells.map (fun i => g.cfFaces.getD i []) ∧
    r.cfSigns = r.cells.map (fun i => g.cfSigns.getD i []) ∧
    r.fn.map (fun col => col.map (fun ln => r.nodeMap.getD ln 0))
      = r.faceMap.map (fun f => g.fn.getD f []) ∧
    (∀ col ∈ r.cfFaces, ∀ lf ∈ col, lf < r.faceMap.length) ∧
    (∀ col ∈ r.fn, ∀ ln ∈ col, ln < r.nodeMap.length) := by
  obtain ⟨rfl, hci, hfi, _⟩ := extractCore_ok h
  obtain ⟨f1, f2, f3, f4⟩ := extractSub_spec g.cfFaces (if sort then isort c else c)
  obtain ⟨n1, n2, n3, n4⟩ := extractSub_spec g.fn (extractSub g.cfFaces (if sort then isort c else c)).2
  dsimp only  -- the projections of the record, reduced once instead of inside every component
  exact ⟨f1, n1, nodup_of_pairwise_lt f1, nodup_of_pairwise_lt n1, f2, n2, hci, hfi, f3, rfl, n3, f4, n4⟩

/-- The cells of the sub-grid (`parent_cell_ind`) are the requested cells: in the given order for
    `sort=False`; sorted ascending, as a permutation of the input, for `sort=True` (and unchanged if the
    input was sorted already). -/
theorem extract_cells_order (g : Topo) (c : List Nat) (sort : Bool) (r : Sub)
    (h : extract g c sort = .ok r) :
    (sort = false → r.cells = c) ∧
    (sort = true → r.cells = isort c ∧ r.cells.Pairwise (· ≤ ·) ∧ r.cells.Perm c) ∧
    (c.Pairwise (· ≤ ·) → r.cells = c) := by
  obtain ⟨rfl, _⟩ := extractCore_ok h
  refine ⟨?_, ?_, ?_⟩
  · rintro rfl; rfl
  · rintro rfl
    exact ⟨rfl, pairwise_isort c, perm_isort c⟩
  · intro hsorted
    cases sort
    · rfl
    · exact isort_of_sorted hsorted

/-- `faces=True` (2-d and 3-d parents): the node map of the lower-dimensional grid is strictly increasing
    and holds exactly the parent nodes of the chosen faces; in the 2-d → 1-d case the cells' local
    nodes (which are the 1-d grid's faces), renumbered through the node map, are the parent faces' nodes
    in stored order. -/
theorem extract_faces_maps_point_to_parent (fn : List (List Nat)) (f : List Nat) (r : FaceSub) :
    (extractFaces2 fn f = .ok r →
      r.faces = f ∧ r.nodeMap.Pairwise (· < ·) ∧
      (∀ n, n ∈ r.nodeMap ↔ ∃ x ∈ f, n ∈ fn.getD x []) ∧
      r.cfFaces.map (fun col => col.map (fun ln => r.nodeMap.getD ln 0)) = f.map (fun x => fn.getD x []) ∧
      r.fn = (List.range r.nodeMap.length).map (fun i => [i])) ∧
    (extractFaces3 fn f = .ok r →
      r.faces = f ∧ r.nodeMap.Pairwise (· < ·) ∧
      (∀ n, n ∈ r.nodeMap ↔ ∃ x ∈ f, n ∈ fn.getD x []) ∧
      r.cfFaces.length = f.length) := by
  obtain ⟨s1, s2, s3, _⟩ := extractSub_spec fn f
  constructor
  · intro h
    obtain ⟨rfl, _⟩ := extractFaces2_ok h
    exact ⟨rfl, s1, s2, s3, rfl⟩
  · intro h
    obtain ⟨rfl, _⟩ := extractFaces3_ok h
    refine ⟨rfl, s1, s2, ?_⟩
    simp only [extractSub, renumber, subCols, List.length_map]

/-- `partition_grid`: the parts' cell lists together contain every cell exactly once (the flattened list
    has no duplicates and its members are exactly the cells `< ind.length`), every part is sorted, and the
    sub-grid extracted for part `j` has exactly that part's cells. -/
theorem partition_grid_cells_once (g : Topo) (ind : List Nat) :
    (partCells ind).flatten.Nodup ∧
    (∀ c, c ∈ (partCells ind).flatten ↔ c < ind.length) ∧
    (partitionGrid g ind).length = (usort ind).length ∧
    (∀ (j : Nat) (r : Sub), (partitionGrid g ind)[j]? = some (Except.ok r) →
      (partCells ind)[j]? = some r.cells) := by
  refine ⟨nodup_partCells_flatten ind, fun c => mem_partCells_flatten, by simp [partitionGrid, partCells], ?_⟩
  intro j r hj
  simp only [partitionGrid, List.getElem?_map] at hj
  cases hcs : (partCells ind)[j]? with
  | none => simp [hcs] at hj
  | some cs =>
    simp only [hcs, Option.map_some, Option.some.injEq] at hj
    have hmem : cs ∈ partCells ind := List.mem_of_getElem? hcs
    have := (extract_cells_order g cs true r hj).2.2 (partCells_sorted hmem)
    rw [this]

/-- The coded construction of the per-axis coarse index (increments at multiples of `⌊f/c⌋`, trimmed to
    `c` increments, cumulative sum minus one) has the closed form `min (i / ⌊f/c⌋) (c-1)`. -/
theorem axis_index_closed_form (f c : Nat) (hc : 1 ≤ c) (hcf : c ≤ f) :
    axisIdx f c = (List.range f).map (fun i => ((min (i / (f / c)) (c - 1) : Nat) : Int)) :=
  axisIdx_closed hc hcf

/-- hypothesis of the theorems below: every axis has `1 ≤ coarse ≤ fine` -/
def DimsOk (fine coarse : List Nat) : Prop := ∀ q ∈ fine.zip coarse, 1 ≤ q.2 ∧ q.2 ≤ q.1

theorem dimsOk_cons {f c : Nat} {fs cs : List Nat} :
    DimsOk (f :: fs) (c :: cs) ↔ (1 ≤ c ∧ c ≤ f) ∧ DimsOk fs cs := by
  simp only [DimsOk, List.zip_cons_cons, List.forall_mem_cons]

theorem dimsOk_cons₂ {f f' c c' : Nat} {fs cs : List Nat} :
    DimsOk (f :: f' :: fs) (c :: c' :: cs) ↔ (1 ≤ c ∧ c ≤ f) ∧ (1 ≤ c' ∧ c' ≤ f') ∧ DimsOk fs cs := by
  rw [dimsOk_cons, dimsOk_cons]

theorem dimsOk_nil : DimsOk [] [] := by simp [DimsOk]

/-- with as many coarse as fine sizes, on 1–3 axes, `DimsOk` is all that `partition_structured` asks for -/
theorem ps_answers {fine coarse : List Nat} (hl : fine.length = coarse.length)
    (hnd : 1 ≤ fine.length ∧ fine.length ≤ 3) (hd : DimsOk fine coarse) :
    ∃ p, partitionStructured fine coarse = .ok p := by
  rcases fine with _ | ⟨f0, _ | ⟨f1, _ | ⟨f2, _ | ⟨f3, fs⟩⟩⟩⟩
  · simp at hnd
  · rcases coarse with _ | ⟨c0, _ | ⟨c1, cs⟩⟩ <;> simp at hl
    exact ⟨_, ps_ok_1d (dimsOk_cons.mp hd).1⟩
  · rcases coarse with _ | ⟨c0, _ | ⟨c1, _ | ⟨c2, cs⟩⟩⟩ <;> simp at hl
    obtain ⟨h0, h1, _⟩ := dimsOk_cons₂.mp hd
    exact ⟨_, ps_ok_2d h0 h1⟩
  · rcases coarse with _ | ⟨c0, _ | ⟨c1, _ | ⟨c2, _ | ⟨c3, cs⟩⟩⟩⟩ <;> simp at hl
    obtain ⟨h0, h1, hd'⟩ := dimsOk_cons₂.mp hd
    exact ⟨_, ps_ok_3d h0 h1 (dimsOk_cons.mp hd').1⟩
  · simp at hnd

/-- Cell `(i, j, k)` of the Cartesian grid (global number `i + f0·(j + f1·k)`, x fastest) gets the
    mixed-radix combination of its three axis indices. (2-d and 1-d: same statement with fewer axes.) -/
theorem partition_structured_cell :
    (∀ f0 c0 p, partitionStructured [f0] [c0] = .ok p → 1 ≤ c0 → c0 ≤ f0 →
      ∀ i, i < f0 → p.getD i (-1) = (axisSpec f0 c0 i : Nat)) ∧
    (∀ f0 f1 c0 c1 p, partitionStructured [f0, f1] [c0, c1] = .ok p → DimsOk [f0, f1] [c0, c1] →
      ∀ i j, i < f0 → j < f1 →
        p.getD (i + f0 * j) (-1) = (axisSpec f0 c0 i : Nat) + (axisSpec f1 c1 j : Nat) * (c0 : Int)) ∧
    (∀ f0 f1 f2 c0 c1 c2 p, partitionStructured [f0, f1, f2] [c0, c1, c2] = .ok p →
      DimsOk [f0, f1, f2] [c0, c1, c2] → ∀ i j k, i < f0 → j < f1 → k < f2 →
        p.getD (i + f0 * (j + f1 * k)) (-1)
          = (axisSpec f0 c0 i : Nat) + (axisSpec f1 c1 j : Nat) * (c0 : Int)
            + (axisSpec f2 c2 k : Nat) * ((c0 * c1 : Nat) : Int)) := by
  refine ⟨?_, ?_, ?_⟩
  · intro f0 c0 p h hc hcf i hi
    obtain rfl := Except.ok.inj (Common.ite_error_eq_ok.1 h).2
    exact axisIdx_getD hc hcf hi _
  · intro f0 f1 c0 c1 p h hd i j hi hj
    obtain ⟨h0, h1, _⟩ := dimsOk_cons₂.mp hd
    obtain rfl := Except.ok.inj (Common.ite_error_eq_ok.1 h).2
    rw [getD_combine2 c0 (axisIdx_length f0 c0) (axisIdx_length f1 c1) hi hj,
      axisIdx_getD h0.1 h0.2 hi, axisIdx_getD h1.1 h1.2 hj]
  · intro f0 f1 f2 c0 c1 c2 p h hd i j k hi hj hk
    obtain ⟨h0, h1, hd'⟩ := dimsOk_cons₂.mp hd
    obtain ⟨h2, _⟩ := dimsOk_cons.mp hd'
    obtain rfl := Except.ok.inj (Common.ite_error_eq_ok.1 h).2
    -- the x and y loops together are one loop of length `f0 * f1`, indexed by `i + f0 * j`
    have hidx : i + f0 * (j + f1 * k) = (i + f0 * j) + (f0 * f1) * k := by
      rw [Nat.mul_add, Nat.mul_assoc, Nat.add_assoc]
    have hij : i + f0 * j < f0 * f1 := by
      rw [Nat.add_comm, Nat.mul_comm f0 j, Nat.mul_comm f0 f1]
      exact radix_lt hi hj
    rw [combine3_eq, hidx,
      getD_combine2 _ (by rw [length_combine2, axisIdx_length, axisIdx_length]) (axisIdx_length f2 c2) hij hk,
      getD_combine2 c0 (axisIdx_length f0 c0) (axisIdx_length f1 c1) hi hj,
      axisIdx_getD h0.1 h0.2 hi, axisIdx_getD h1.1 h1.2 hj, axisIdx_getD h2.1 h2.2 hk]

/-- an answer has one entry per fine cell, every entry is a part id below `Π coarse_dims`, and every such
    id occurs -/
theorem ps_covers {fine coarse : List Nat} {p : List Int} (h : partitionStructured fine coarse = .ok p)
    (hd : DimsOk fine coarse) : Covers p (prodL fine) (prodL coarse) := by
  rcases ps_cases h with ⟨f0, c0, rfl, rfl, _, rfl⟩ | ⟨f0, f1, c0, c1, rfl, rfl, _, rfl⟩ |
    ⟨f0, f1, f2, c0, c1, c2, rfl, rfl, _, rfl⟩
  · obtain ⟨h0, _⟩ := dimsOk_cons.mp hd
    simpa [prodL] using covers_axisIdx h0.1 h0.2
  · obtain ⟨h0, h1, _⟩ := dimsOk_cons₂.mp hd
    simpa [prodL] using covers_combine2 (covers_axisIdx h0.1 h0.2) (covers_axisIdx h1.1 h1.2)
  · obtain ⟨h0, h1, hd'⟩ := dimsOk_cons₂.mp hd
    obtain ⟨h2, _⟩ := dimsOk_cons.mp hd'
    rw [combine3_eq]
    simpa [prodL] using covers_combine2
      (covers_combine2 (covers_axisIdx h0.1 h0.2) (covers_axisIdx h1.1 h1.2)) (covers_axisIdx h2.1 h2.2)

/-- Every part id lies in `[0, Π coarse_dims)`. -/
theorem partition_structured_in_range (fine coarse : List Nat) (p : List Int)
    (h : partitionStructured fine coarse = .ok p) (hd : DimsOk fine coarse) :
    ∀ x ∈ p, 0 ≤ x ∧ x < ((coarse.foldl (· * ·) 1 : Nat) : Int) :=
  (ps_covers h hd).2.1

/-- Every cell gets exactly one id (the result is a vector with one entry per cell, `Π fine_dims` of them)
    and every coarse id in `[0, Π coarse_dims)` is used by some cell. -/
theorem partition_structured_total (fine coarse : List Nat) (p : List Int)
    (h : partitionStructured fine coarse = .ok p) (hd : DimsOk fine coarse) :
    p.length = fine.foldl (· * ·) 1 ∧
    ∀ q : Nat, q < coarse.foldl (· * ·) 1 → (q : Int) ∈ p :=
  ⟨(ps_covers h hd).1, (ps_covers h hd).2.2⟩

/-- Along every axis the coarse index is non-decreasing, starts at 0, ends at `c-1` and never skips a
    value: parts are contiguous index blocks in the order of the axis. -/
theorem partition_structured_monotone (f c : Nat) (hc : 1 ≤ c) (hcf : c ≤ f) :
    (axisIdx f c).Pairwise (· ≤ ·) ∧
    (axisIdx f c).getD 0 0 = 0 ∧ (axisIdx f c).getD (f - 1) 0 = (c : Int) - 1 ∧
    ∀ i, i + 1 < f → (axisIdx f c).getD (i + 1) 0 ≤ (axisIdx f c).getD i 0 + 1 := by
  have hf : 0 < f := Nat.lt_of_lt_of_le hc hcf
  refine ⟨?_, ?_, ?_, ?_⟩
  · rw [axisIdx_closed hc hcf, List.pairwise_map]
    exact List.Pairwise.imp (fun hij => Int.ofNat_le.mpr (axisSpec_mono (Nat.le_of_lt hij)))
      List.pairwise_lt_range
  · rw [axisIdx_getD hc hcf hf, axisSpec_zero]
    rfl
  · rw [axisIdx_getD hc hcf (Nat.sub_lt hf Nat.one_pos), axisSpec_last hc hcf]
    omega
  · intro i hi
    rw [axisIdx_getD hc hcf hi, axisIdx_getD hc hcf (Nat.lt_of_succ_lt hi)]
    exact_mod_cast axisSpec_step_le i

/-! `overlap`: `ce` is the cell→entity relation the criterion uses (`ce[c]` = nodes of cell `c` for 'node', faces of
cell `c` for 'face'); two cells are neighbours iff they share an entity. -/

/-- Zero layers return the input set (sorted, duplicates removed); the output of any depth is sorted
    strictly increasingly, and the function answers (no error) when all input cells exist. -/
theorem overlap_zero_id (ce : List (List Nat)) (cells : List Nat)
    (hcells : ∀ c ∈ cells, c < ce.length) :
    (∀ k, overlap ce cells k = .ok (overlapCells ce cells k)) ∧
    (∀ c, c ∈ overlapCells ce cells 0 ↔ c ∈ cells) ∧
    (∀ k, (overlapCells ce cells k).Pairwise (· < ·)) :=
  ⟨overlap_ok hcells, fun _ => mem_overlapCells hcells, overlapCells_sorted ce cells⟩

/-- Layers only grow the cell set: the result contains the input, and `k+1` layers contain `k` layers. -/
theorem overlap_monotone (ce : List (List Nat)) (cells : List Nat)
    (hcells : ∀ c ∈ cells, c < ce.length) (k : Nat) :
    (∀ c ∈ cells, c ∈ overlapCells ce cells k) ∧
    (∀ c ∈ overlapCells ce cells k, c ∈ overlapCells ce cells (k + 1)) := by
  have hstep : ∀ k, ∀ c ∈ overlapCells ce cells k, c ∈ overlapCells ce cells (k + 1) := by
    intro k c hc
    rw [mem_overlapCells hcells] at hc ⊢
    exact (mem_layer (ovInv_layers ce cells k)).mpr (Or.inl hc)
  refine ⟨?_, hstep k⟩
  induction k with
  | zero => intro c hc; exact (mem_overlapCells hcells).mpr hc
  | succ k ih => intro c hc; exact hstep k c (ih c hc)

/-- Every cell of the grid sharing an entity (node / face) with a cell of layer `k` is in layer `k+1`. -/
theorem overlap_contains_neighbours (ce : List (List Nat)) (cells : List Nat)
    (hcells : ∀ c ∈ cells, c < ce.length) (k c c' e : Nat)
    (hc : c ∈ overlapCells ce cells k) (hc' : c' < ce.length)
    (he : e ∈ ce.getD c []) (he' : e ∈ ce.getD c' []) :
    c' ∈ overlapCells ce cells (k + 1) := by
  rw [mem_overlapCells hcells] at hc ⊢
  exact (mem_layer (ovInv_layers ce cells k)).mpr (Or.inr ⟨hc', c, hc, e, he, he'⟩)

/-- … and nothing else is added: layer `k+1` is exactly layer `k` plus its neighbours. -/
theorem overlap_layer_exact (ce : List (List Nat)) (cells : List Nat)
    (hcells : ∀ c ∈ cells, c < ce.length) (k c' : Nat) :
    c' ∈ overlapCells ce cells (k + 1) ↔
      c' ∈ overlapCells ce cells k ∨
      (c' < ce.length ∧ ∃ c ∈ overlapCells ce cells k, ∃ e, e ∈ ce.getD c [] ∧ e ∈ ce.getD c' []) := by
  simp only [mem_overlapCells hcells]
  exact mem_layer (ovInv_layers ce cells k)

/-- The marking used by both variants (`np.unique(indices, return_index=True)`): position `p` of the
    flattened index array is "first" iff its value does not occur at an earlier position. -/
theorem first_occurrence_spec (l : List Nat) (p : Nat) (hp : p < l.length) :
    (firstOccAux [] l).getD p false = true ↔ l.getD p 0 ∉ l.take p := by
  rw [firstOccAux_spec l [] p hp]; simp

/-- Sign rule of the extracted lower-dimensional grid.  2-d parent (cells = chosen faces, faces = nodes):
    the first cell touching a node gets +1, all later ones −1; 3-d parent (faces = edges): first −1, later
    +1.  Hence the signed row sum of a face of the new grid shared by `k ≥ 1` cells is `2 − k` (resp.
    `k − 2`): it vanishes exactly for `k = 2` (closedness at an interior node/edge of a manifold piece),
    is ±1 on the boundary (`k = 1`) and at a T-junction (`k = 3`); an accepted result never has `k ≥ 4`
    (the `Grid` constructor refuses it). -/
theorem extract_faces_sign_rule (fn : List (List Nat)) (f : List Nat) (r : FaceSub) :
    (extractFaces2 fn f = .ok r →
      r.cfSigns.map List.length = r.cfFaces.map List.length ∧
      r.cfSigns.flatten = (firstOccAux [] r.cfFaces.flatten).map (fun t => if t then (1 : Int) else -1) ∧
      (∀ v, rowSum r.cfFaces r.cfSigns v
          = if r.cfFaces.flatten.count v = 0 then 0 else 2 - (r.cfFaces.flatten.count v : Int)) ∧
      (∀ v, r.cfFaces.flatten.count v ≤ 3) ∧
      (∀ v, r.cfFaces.flatten.count v = 2 → rowSum r.cfFaces r.cfSigns v = 0)) ∧
    (extractFaces3 fn f = .ok r →
      r.cfSigns.map List.length = r.cfFaces.map List.length ∧
      r.cfSigns.flatten = (firstOccAux [] r.cfFaces.flatten).map (fun t => if t then (-1 : Int) else 1) ∧
      (∀ v, rowSum r.cfFaces r.cfSigns v
          = if r.cfFaces.flatten.count v = 0 then 0 else (r.cfFaces.flatten.count v : Int) - 2) ∧
      (∀ v, r.cfFaces.flatten.count v ≤ 3) ∧
      (∀ v, r.cfFaces.flatten.count v = 2 → rowSum r.cfFaces r.cfSigns v = 0)) := by
  constructor
  · intro h
    obtain ⟨rfl, hbad⟩ := extractFaces2_ok h
    simp only
    obtain ⟨hsum, hcnt⟩ := sign_rule (Or.inl rfl) rfl (extractSub_spec fn f).2.2.2 hbad
    refine ⟨signCols_shape _ _ _ _, flatten_signCols _ _ _ _, ?_, hcnt, ?_⟩
    · intro v
      rw [hsum v, Int.one_mul]
    · intro v hv2
      rw [hsum v, hv2]
      rfl
  · intro h
    obtain ⟨rfl, hbad⟩ := extractFaces3_ok h
    simp only
    have key := sign_rule (b := 1) (Or.inr rfl) rfl ?_ hbad
    · obtain ⟨hsum, hcnt⟩ := key
      refine ⟨signCols_shape _ _ _ _, flatten_signCols _ _ _ _, ?_, hcnt, ?_⟩
      · intro v
        rw [hsum v, Int.neg_mul, Int.one_mul, Int.neg_sub]
      · intro v hv2
        rw [hsum v, hv2]
        rfl
    · -- every local face number is the position of an existing key among the distinct keys
      intro col hcol j hj
      obtain ⟨ecol, hecol, rfl⟩ := List.mem_map.mp hcol
      obtain ⟨e, he, rfl⟩ := List.mem_map.mp hj
      exact List.idxOf_lt_length_iff.mpr (mem_usort.mpr
        (List.mem_map.mpr ⟨e, List.mem_flatten.mpr ⟨ecol, hecol, he⟩, rfl⟩))

/-- key of a face `[a, b]` of the extracted 2-d grid -/
def faceKey (m : Nat) (face : List Nat) : Nat := edgeKey m (face.getD 0 0, face.getD 1 0)

/-- Edge construction of `_extract_cells_from_faces_3d`.  With `cn` the local cell→node lists of the chosen
    faces and `ecols` their cyclic consecutive node pairs:
 * the faces of the new grid are pairwise distinct undirected edges, sorted by (smaller node, larger node)
   (their keys are strictly increasing; the key determines the unordered pair, `edge_key_injective`);
 * every face is an oriented edge `[a, b]` of one of the cells;
 * the `t`-th face of cell `j` is the undirected edge of the `t`-th consecutive node pair of that cell;
 * in parent numbering the consecutive node pairs of cell `j` are those of the parent face `f[j]`
   (each extracted cell is the parent face, with its boundary);
 * all local nodes are below the radix `m`, so keys identify undirected edges. -/
theorem extract_faces3_edges (fn : List (List Nat)) (f : List Nat) (r : FaceSub)
    (h : extractFaces3 fn f = .ok r) :
    (r.fn.map (faceKey (r.nodeMap.length + 1))).Pairwise (· < ·) ∧
    (∀ face ∈ r.fn, ∃ e ∈ ((extractSub fn f).1.map cyclicEdges).flatten, face = [e.1, e.2]) ∧
    r.cfFaces.map (fun col => col.map (fun i => faceKey (r.nodeMap.length + 1) (r.fn.getD i [])))
      = ((extractSub fn f).1.map cyclicEdges).map (fun col => col.map (edgeKey (r.nodeMap.length + 1))) ∧
    ((extractSub fn f).1.map cyclicEdges).map
        (fun col => col.map (fun e => (r.nodeMap.getD e.1 0, r.nodeMap.getD e.2 0)))
      = f.map (fun x => cyclicEdges (fn.getD x [])) ∧
    (∀ e ∈ ((extractSub fn f).1.map cyclicEdges).flatten,
      e.1 < r.nodeMap.length + 1 ∧ e.2 < r.nodeMap.length + 1) := by
  obtain ⟨rfl, _⟩ := extractFaces3_ok h
  simp only
  generalize hm : (extractSub fn f).2.length + 1 = m
  generalize hes : ((extractSub fn f).1.map cyclicEdges).flatten = es
  -- the face stored for a distinct key `k` is an edge of the list, and its key is `k`
  have hrep : ∀ k ∈ usort (es.map (edgeKey m)),
      es.getD ((es.map (edgeKey m)).idxOf k) (0, 0) ∈ es ∧
      edgeKey m (es.getD ((es.map (edgeKey m)).idxOf k) (0, 0)) = k :=
    fun k hk => getD_idxOf_map (edgeKey m) (0, 0) es (mem_usort.mp hk)
  -- so the keys of the stored faces are the distinct keys, in order
  have hfn : ((usort (es.map (edgeKey m))).map fun k =>
      [(es.getD ((es.map (edgeKey m)).idxOf k) (0, 0)).1,
        (es.getD ((es.map (edgeKey m)).idxOf k) (0, 0)).2]).map (faceKey m)
      = usort (es.map (edgeKey m)) := by
    rw [List.map_map]
    exact (List.map_congr_left fun k hk => (hrep k hk).2).trans (List.map_id _)
  refine ⟨?_, ?_, ?_, ?_, ?_⟩
  · rw [hfn]
    exact pairwise_usort _
  · intro face hface
    obtain ⟨k, hk, rfl⟩ := List.mem_map.mp hface
    exact ⟨_, (hrep k hk).1, rfl⟩
  · rw [List.map_map]
    apply List.map_congr_left
    intro ecol hecol
    simp only [Function.comp, List.map_map]
    apply List.map_congr_left
    intro e he
    simp only [Function.comp]
    have hmem : edgeKey m e ∈ es.map (edgeKey m) := by
      rw [← hes]
      exact List.mem_map.mpr ⟨e, List.mem_flatten.mpr ⟨ecol, hecol, he⟩, rfl⟩
    have hidx := List.idxOf_lt_length_iff.mpr (mem_usort.mpr hmem)
    rw [← getD_map' (faceKey m) _ (by rwa [List.length_map]) 0 [], hfn]
    exact Common.getD_idxOf 0 (mem_usort.mpr hmem)
  · rw [List.map_map]
    have h3 := (extractSub_spec fn f).2.2.1
    have hr : f.map (fun x => cyclicEdges (fn.getD x []))
        = (f.map (fun i => fn.getD i [])).map cyclicEdges := by rw [List.map_map]; rfl
    rw [hr, ← h3, List.map_map]
    apply List.map_congr_left
    intro col _
    simp only [Function.comp]
    exact cyclicEdges_map (fun j => (extractSub fn f).2.getD j 0) col
  · intro e he
    rw [← hm]
    rw [← hes] at he
    obtain ⟨ecol, hecol, hee⟩ := List.mem_flatten.mp he
    obtain ⟨col, hcol, rfl⟩ := List.mem_map.mp hecol
    have := mem_cyclicEdges hee
    have h4 := (extractSub_spec fn f).2.2.2 col hcol
    exact ⟨Nat.lt_succ_of_lt (h4 _ this.1), Nat.lt_succ_of_lt (h4 _ this.2)⟩

/-- equal keys ⇒ same undirected edge (for nodes below the radix) -/
theorem edge_key_injective (m : Nat) (e e' : Nat × Nat) (h1 : e.1 < m) (h2 : e.2 < m)
    (h1' : e'.1 < m) (h2' : e'.2 < m) (h : edgeKey m e = edgeKey m e') :
    (e.1 = e'.1 ∧ e.2 = e'.2) ∨ (e.1 = e'.2 ∧ e.2 = e'.1) := by
  -- the key is a two-digit number with digits (min, max), so both are determined
  obtain ⟨hmin, hmax⟩ := radix_inj (Nat.max_lt.mpr ⟨h1, h2⟩) (Nat.max_lt.mpr ⟨h1', h2'⟩) h
  rcases min_max_cases e.1 e.2 with ⟨p, q⟩ | ⟨p, q⟩ <;>
    rcases min_max_cases e'.1 e'.2 with ⟨p', q'⟩ | ⟨p', q'⟩ <;>
    rw [p, p'] at hmin <;> rw [q, q'] at hmax
  · exact Or.inl ⟨hmin, hmax⟩
  · exact Or.inr ⟨hmin, hmax⟩
  · exact Or.inr ⟨hmax, hmin⟩
  · exact Or.inl ⟨hmax, hmin⟩

/-- The integer n-th root used by the model is the exact one: for `k, q, p ≥ 1`,
    `⌊s⌋^k·q ≤ p < (⌊s⌋+1)^k·q` and `(⌈s⌉−1)^k·q < p ≤ ⌈s⌉^k·q`, `⌈s⌉ ≥ 1`, where `s = (p/q)^(1/k)`
    (`p` = clamped target, `q` = product of the dimensions already fixed, `k` = dimensions left);
    and it satisfies the only two facts the range theorem needs (`RootOk`: `⌊s⌋ ≤ ⌈s⌉`, `1 ≤ ⌈s⌉`). -/
theorem exact_root_spec :
    RootOk exactRoot ∧
    ∀ k p q, 1 ≤ k → 1 ≤ q → 1 ≤ p →
      (rootFloor k p q ^ k * q ≤ p ∧ p < (rootFloor k p q + 1) ^ k * q) ∧
      (p ≤ rootCeil k p q ^ k * q ∧ (rootCeil k p q - 1) ^ k * q < p ∧ 1 ≤ rootCeil k p q) :=
  ⟨exactRoot_ok, fun _ _ _ hk hq hp => ⟨rootFloor_spec hk hq, rootCeil_spec hk hq hp⟩⟩

/-- `determine_coarse_dimensions(target, fine)` — for ANY root oracle with `⌊s⌋ ≤ ⌈s⌉`, `1 ≤ ⌈s⌉` (so also for
    the float roots of the real code whenever they are a floor/ceil pair of a positive number), any target
    and any fine sizes `≥ 1`: the loop terminates without the "bug somewhere" ValueError, returns one coarse
    size per axis with `1 ≤ coarse ≤ fine`, hence `1 ≤ Π coarse ≤ Π fine`.  This includes the code's quirks
    (`np.any` on the index array of ceiling hits, the signed `dist`), which only affect how close to the
    target the result is, never the range. -/
theorem coarse_dimensions_in_range (root : Nat → Nat → Nat → Nat × Nat) (hroot : RootOk root)
    (target : Nat) (fine : List Nat) (hf : ∀ f ∈ fine, 1 ≤ f) :
    ∃ c, dcd root target fine = .ok c ∧ c.length = fine.length ∧ DimsOk fine c ∧
      1 ≤ c.foldl (· * ·) 1 ∧ c.foldl (· * ·) 1 ≤ fine.foldl (· * ·) 1 := by
  obtain ⟨c, hc, hr⟩ := dcd_ok root hroot target fine hf
  exact ⟨c, hc, hr.1, hr.2, prodL_bounds fine c 1 1 hr (Nat.le_refl _) (Nat.le_refl _)⟩

/-- `partition_structured(g, num_part=n)` = `partition_structured(g, coarse_dims=determine_coarse_dimensions(n, fine))`
    on a 1-, 2- or 3-d tensor grid: it answers, every cell gets exactly one id, ids lie in `[0, Π coarse)`,
    every id is used, and there are at most as many parts as cells. -/
theorem partition_structured_num_part (root : Nat → Nat → Nat → Nat × Nat) (hroot : RootOk root)
    (target : Nat) (fine : List Nat) (hf : ∀ f ∈ fine, 1 ≤ f)
    (hnd : 1 ≤ fine.length ∧ fine.length ≤ 3) :
    ∃ c p, dcd root target fine = .ok c ∧ partitionStructured fine c = .ok p ∧
      p.length = fine.foldl (· * ·) 1 ∧
      (∀ x ∈ p, 0 ≤ x ∧ x < ((c.foldl (· * ·) 1 : Nat) : Int)) ∧
      (∀ q : Nat, q < c.foldl (· * ·) 1 → (q : Int) ∈ p) ∧
      c.foldl (· * ·) 1 ≤ fine.foldl (· * ·) 1 := by
  obtain ⟨c, hc, hl, hd, _, hb⟩ := coarse_dimensions_in_range root hroot target fine hf
  obtain ⟨p, hp⟩ := ps_answers hl.symm hnd hd
  obtain ⟨t1, t2⟩ := partition_structured_total fine c p hp hd
  exact ⟨c, p, hc, hp, t1, partition_structured_in_range fine c p hp hd, t2, hb⟩

/-- If every cell centre lies inside the node extent of the (mapped) grid on every active axis
    (`lo ≤ cc < hi`, which holds for centres of non-degenerate cells) and every axis has at least one box,
    then the search answers (the `assert partition.min() >= 0` holds), assigns every cell exactly one id,
    the id lies in `[0, Π coarse_dims)`, and it is the number of the one box `[lo + k·dx, lo + (k+1)·dx)^d`
    that contains the centre (no other box does, so the overwrite order of the loop is irrelevant). -/
theorem partition_coordinates_total (axes : List Axis) (centers : List (List Rat))
    (h : ∀ x ∈ centers, AllOk axes x) :
    ∃ p, pcoord axes centers = .ok p ∧ p = centers.map (assignBox axes) ∧ p.length = centers.length ∧
      (∀ v ∈ p, 0 ≤ v ∧ v < ((prodL (axes.map (·.c)) : Nat) : Int)) ∧
      (∀ x ∈ centers, ∃ i : Nat, assignBox axes x = (i : Int) ∧ i < prodL (axes.map (·.c)) ∧
        hitAll axes (unravel (axes.map (·.c)) i) x = true ∧
        ∀ j, j < prodL (axes.map (·.c)) → hitAll axes (unravel (axes.map (·.c)) j) x = true → j = i) := by
  have hrange : ∀ v ∈ centers.map (assignBox axes), 0 ≤ v ∧ v < ((prodL (axes.map (·.c)) : Nat) : Int) := by
    intro v hv
    obtain ⟨x, hx, rfl⟩ := List.mem_map.mp hv
    obtain ⟨i, hi, hlt, _⟩ := assignBox_spec axes x (h x hx)
    rw [hi]
    exact ⟨Int.natCast_nonneg i, Int.ofNat_lt.mpr hlt⟩
  refine ⟨centers.map (assignBox axes), ?_, rfl, by simp, hrange, fun x hx => assignBox_spec axes x (h x hx)⟩
  unfold pcoord
  simp only
  rw [if_neg]
  intro hany
  obtain ⟨v, hv, hneg⟩ := List.any_eq_true.mp hany
  exact Int.not_lt.mpr (hrange v hv).1 (of_decide_eq_true hneg)

theorem getD_of_map_eq {α β γ : Type} {l : List α} {l' : List β} {f : α → γ} {g : β → γ}
    (h : l.map f = l'.map g) (i : Nat) (hi : i < l.length) (d : α) (d' : β) :
    f (l.getD i d) = g (l'.getD i d') := by
  have hl : l.length = l'.length := by simpa using congrArg List.length h
  rw [← getD_map' f l hi (f d) d, h, getD_map' g l' (hl ▸ hi) (f d) d']

theorem subCoords_getD (coords : List (List Rat)) (nm : List Nat) {ln : Nat} (h : ln < nm.length) :
    (subCoords coords nm).getD ln [] = coords.getD (nm.getD ln 0) [] := by
  unfold subCoords
  rw [getD_map' _ nm h [] 0]

/-- **Locality of the geometric input.**  In the extracted grid (node coordinates `g.nodes[:, node_map]`) every
    face has the same node coordinates in the same order as its parent face, and every cell has the same
    faces in the same order, with the same signs and the same node coordinates, as its parent cell.  So every
    quantity that `compute_geometry` computes from a face's nodes (area, centre, normal) or from a cell's own
    signed faces and their nodes (centre, volume) is the same function applied to the same data. -/
theorem extract_geometry_local (g : Topo) (c : List Nat) (sort : Bool) (r : Sub)
    (coords : List (List Rat)) (h : extract g c sort = .ok r) :
    (∀ i, i < r.faceMap.length →
      faceData r.fn (subCoords coords r.nodeMap) i = faceData g.fn coords (r.faceMap.getD i 0)) ∧
    (∀ j, j < r.cells.length →
      cellData r.cfFaces r.cfSigns r.fn (subCoords coords r.nodeMap) j
        = cellData g.cfFaces g.cfSigns g.fn coords (r.cells.getD j 0)) := by
  obtain ⟨_, _, _, _, _, _, _, _, f3, hsg, n3, f4, n4⟩ := extract_maps_point_to_parent g c sort r h
  have hfnlen : r.fn.length = r.faceMap.length := by simpa using congrArg List.length n3
  have hcflen : r.cfFaces.length = r.cells.length := by simpa using congrArg List.length f3
  have hface : ∀ i, i < r.faceMap.length →
      faceData r.fn (subCoords coords r.nodeMap) i = faceData g.fn coords (r.faceMap.getD i 0) := by
    intro i hi
    have hi' : i < r.fn.length := hfnlen ▸ hi
    have e := getD_of_map_eq n3 i hi' [] 0
    unfold faceData
    rw [← e, List.map_map]
    apply List.map_congr_left
    intro ln hln
    exact subCoords_getD coords r.nodeMap (n4 _ (Common.getD_mem [] hi') ln hln)
  refine ⟨hface, ?_⟩
  intro j hj
  have hj' : j < r.cfFaces.length := hcflen ▸ hj
  have e := getD_of_map_eq f3 j hj' [] 0
  have hs : r.cfSigns.getD j [] = g.cfSigns.getD (r.cells.getD j 0) [] := by
    rw [hsg]; exact getD_map' _ r.cells hj [] 0
  unfold cellData
  rw [← e, hs, List.zip_map_left, List.map_map]
  apply List.map_congr_left
  intro p hp
  have hlt := f4 _ (Common.getD_mem [] hj') p.1 (List.of_mem_zip hp).1
  simp only [Function.comp, Prod.map, id]
  rw [hface p.1 hlt]

/-- `expand_indices_nd`: component `d` of entry `k` sits at position `k·nd + d` and is `nd·ind[k] + d`;
    it stays within `n·nd` when `ind[k] < n`, and two positions hold the same value only if they are the
    same component of entries with the same index — so for duplicate-free `ind` (face_map / cells of an
    extracted grid) the selection matrices of `subgrid_to_grid_mapping` have at most one 1 per row and
    column, at the parent entity's own block. -/
theorem expand_indices_spec (ind : List Nat) (nd k d : Nat) (hk : k < ind.length) (hd : d < nd) :
    (expandNd ind nd).getD (d + nd * k) 0 = nd * ind.getD k 0 + d ∧
    (∀ n, ind.getD k 0 < n → nd * ind.getD k 0 + d < n * nd) ∧
    (∀ k' d', d' < nd → nd * ind.getD k 0 + d = nd * ind.getD k' 0 + d' →
      ind.getD k 0 = ind.getD k' 0 ∧ d = d') := by
  refine ⟨?_, ?_, ?_⟩
  · unfold expandNd
    rw [getD_flatMap_uniform _ nd 0 0 ind (by intro y _; simp) d k hd hk,
      getD_map_range _ _ hd]
  · intro n hn
    rw [Nat.mul_comm nd]
    exact radix_lt hd hn
  · intro k' d' hd' he
    rw [Nat.mul_comm nd, Nat.mul_comm nd] at he
    exact radix_inj hd hd' he

/-- `subgrid_to_grid_mapping` answers when all local faces / cells exist in the parent, and then returns
    exactly the expanded index vectors (an index beyond the parent is refused: example at the end). -/
theorem subgrid_to_grid_answers (numFaces numCells : Nat) (locFaces locCells : List Nat) (nd : Nat)
    (hf : ∀ f ∈ locFaces, f < numFaces) (hc : ∀ c ∈ locCells, c < numCells) :
    subgridToGrid numFaces numCells locFaces locCells nd
      = .ok (expandNd locFaces nd, expandNd locCells nd) := by
  have key : ∀ (ind : List Nat) (n : Nat), (∀ i ∈ ind, i < n) →
      (expandNd ind nd).any (fun i => decide (n * nd ≤ i)) = false := by
    intro ind n h
    refine Bool.eq_false_iff.mpr (not_any_ge_iff.mpr fun v hv => ?_)
    simp only [expandNd, List.mem_flatMap, List.mem_map, List.mem_range] at hv
    obtain ⟨i, hi, d, hd, rfl⟩ := hv
    rw [Nat.mul_comm nd i]
    exact radix_lt hd (h i hi)
  unfold subgridToGrid
  simp only [key locFaces numFaces hf, key locCells numCells hc, Bool.or_self, Bool.false_eq_true, if_false]

/-- the decidable input conditions evaluated by the driver are the hypotheses of the theorems -/
theorem hypotheses_decidable (fine coarse : List Nat) (axes : List Axis) (x : List Rat) :
    (dimsOkB fine coarse = true ↔ DimsOk fine coarse) ∧ (allOkB axes x = true ↔ AllOk axes x) := by
  constructor
  · simp only [dimsOkB, DimsOk, List.all_eq_true, Bool.and_eq_true, decide_eq_true_eq]
  · exact allOkB_iff axes x

/-- `partition_structured(coarse_dims=…)` on 1–3 axes with positive coarse sizes answers iff
    `coarse ≤ fine` on every axis (otherwise ValueError: `fine_per_coarse = 0`). -/
theorem partition_structured_answers_iff (fine coarse : List Nat) (hl : fine.length = coarse.length)
    (hnd : 1 ≤ fine.length ∧ fine.length ≤ 3) (hpos : ∀ c ∈ coarse, 1 ≤ c) :
    (∃ p, partitionStructured fine coarse = .ok p) ↔ DimsOk fine coarse := by
  constructor
  · rintro ⟨p, hp⟩
    have ok : ∀ {f c}, c ∈ coarse → axisBad f c = false → 1 ≤ c ∧ c ≤ f :=
      fun hc hb => ⟨hpos _ hc, (axisBad_eq_false_iff (hpos _ hc)).mp hb⟩
    rcases ps_cases hp with ⟨f0, c0, rfl, rfl, b0, _⟩ | ⟨f0, f1, c0, c1, rfl, rfl, ⟨b0, b1⟩, _⟩ |
      ⟨f0, f1, f2, c0, c1, c2, rfl, rfl, ⟨b0, b1, b2⟩, _⟩
    · exact dimsOk_cons.mpr ⟨ok (by simp) b0, dimsOk_nil⟩
    · exact dimsOk_cons₂.mpr ⟨ok (by simp) b0, ok (by simp) b1, dimsOk_nil⟩
    · exact dimsOk_cons₂.mpr ⟨ok (by simp) b0, ok (by simp) b1, dimsOk_cons.mpr ⟨ok (by simp) b2, dimsOk_nil⟩⟩
  · exact ps_answers hl hnd

/-- the `partition` wrapper on a tensor grid (no pymetis) = `partition_structured(num_part=…)`: in range, total -/
theorem partition_wrapper_tensor (num : Nat) (fine : List Nat) (hf : ∀ f ∈ fine, 1 ≤ f)
    (hnd : 1 ≤ fine.length ∧ fine.length ≤ 3) :
    ∃ c p, dcd exactRoot num fine = .ok c ∧ partitionWrapperTensor num fine = .ok p ∧
      p.length = fine.foldl (· * ·) 1 ∧
      (∀ x ∈ p, 0 ≤ x ∧ x < ((c.foldl (· * ·) 1 : Nat) : Int)) ∧
      (∀ q : Nat, q < c.foldl (· * ·) 1 → (q : Int) ∈ p) := by
  obtain ⟨c, p, h1, h2, h3, h4, h5, _⟩ := partition_structured_num_part exactRoot exactRoot_ok num fine hf hnd
  refine ⟨c, p, h1, ?_, h3, h4, h5⟩
  unfold partitionWrapperTensor
  rw [h1]
  exact h2

/-- 2×1 Cartesian grid: faces 0–2 vertical, 3–4 bottom, 5–6 top; nodes 0–2 bottom row, 3–5 top row -/
abbrev g21 : Topo :=
  { cfFaces := [[0, 1, 3, 5], [1, 2, 4, 6]], cfSigns := [[-1, 1, -1, 1], [-1, 1, -1, 1]],
    fn := [[0, 3], [1, 4], [2, 5], [0, 1], [1, 2], [3, 4], [4, 5]] }

example : (extract g21 [1] true).toOption.map (fun r => (r.cells, r.faceMap, r.nodeMap))
    = some ([1], [1, 2, 4, 6], [1, 2, 4, 5]) := by decide +kernel

example : (extract g21 [1] true).toOption.map (fun r => (r.cfFaces, r.cfSigns, r.fn))
    = some ([[0, 1, 2, 3]], [[-1, 1, -1, 1]], [[0, 2], [1, 3], [0, 1], [2, 3]]) := by decide +kernel

example : (extract g21 [1, 0] false).toOption.map (fun r => (r.cells, r.faceMap, r.cfFaces))
    = some ([1, 0], [0, 1, 2, 3, 4, 5, 6], [[1, 2, 4, 6], [0, 1, 3, 5]]) := by decide +kernel

/-- a duplicated cell makes a boundary face count twice: the `Grid` constructor refuses (ValueError) -/
example : (extract g21 [0, 0] true).toOption.isNone = true := by decide +kernel

/-- faces 1 (interior, vertical) and 3 (bottom left) of the 2×1 grid as a 1-d grid: they share node 1 -/
example : (extractFaces2 g21.fn [1, 3]).toOption.map (fun r => (r.nodeMap, r.cfFaces, r.cfSigns))
    = some ([0, 1, 4], [[1, 2], [0, 1]], [[1, 1], [1, -1]]) := by decide +kernel

example : partCells [2, 0, 2, 5] = [[1], [0, 2], [3]] := by decide +kernel

example : DimsOk [11, 2] [4, 2] := (hypotheses_decidable _ _ [] []).1.mp (by decide +kernel)

/-- F12 regression: 11×2 cells into 4×2 parts: ids 0..7, the surplus cells join the last block -/
example : (partitionStructured [11, 2] [4, 2]).toOption
    = some [0, 0, 1, 1, 2, 2, 3, 3, 3, 3, 3, 4, 4, 5, 5, 6, 6, 7, 7, 7, 7, 7] := by decide +kernel

example : (partitionStructured [3, 2, 2] [2, 1, 2]).toOption
    = some [0, 1, 1, 0, 1, 1, 2, 3, 3, 2, 3, 3] := by decide +kernel

example : axisIdx 11 4 = [0, 0, 1, 1, 2, 2, 3, 3, 3, 3, 3] := by decide +kernel

/-- F11 regression: `overlap(CartGrid([1,1]), [0], 1)` and `overlap(CartGrid([3,1]), [1], 0)` (node criterion) -/
example : (overlap [[0, 1, 2, 3]] [0] 1).toOption = some [0] := by decide +kernel
example : (overlap [[0, 1, 4, 5], [1, 2, 5, 6], [2, 3, 6, 7]] [1] 0).toOption = some [1] := by decide +kernel

/-- 4×1 grid, node criterion: one layer around cell 0 adds cell 1, two layers add cell 2 -/
example : overlapCells [[0, 1, 5, 6], [1, 2, 6, 7], [2, 3, 7, 8], [3, 4, 8, 9]] [0] 1 = [0, 1] := by decide +kernel
example : overlapCells [[0, 1, 5, 6], [1, 2, 6, 7], [2, 3, 7, 8], [3, 4, 8, 9]] [0] 2 = [0, 1, 2] := by decide +kernel

/-- 3-d → 2-d: the two unit squares {0,1,4,3} and {1,2,5,4} (nodes of a 2×1 patch, given as two "faces") share
    the edge {1,4}: 7 distinct edges, the shared one with signs −1 (first cell) and +1 (second cell) -/
example : (extractFaces3 [[0, 1, 4, 3], [1, 2, 5, 4]] [0, 1]).toOption.map (fun r => (r.nodeMap, r.fn))
    = some ([0, 1, 2, 3, 4, 5], [[0, 1], [3, 0], [1, 2], [1, 4], [2, 5], [4, 3], [5, 4]]) := by decide +kernel
example : (extractFaces3 [[0, 1, 4, 3], [1, 2, 5, 4]] [0, 1]).toOption.map (fun r => (r.cfFaces, r.cfSigns))
    = some ([[0, 3, 5, 1], [2, 4, 6, 3]], [[-1, -1, -1, -1], [-1, -1, -1, 1]]) := by decide +kernel

/-- `determine_coarse_dimensions`: the observation (50, [2,5,5]) ↦ [2,4,4] (index-array `np.any`; the same sizes
    with the 2 last reach 50), a perfect cube, a prime target, a perfect square -/
example : (dcd exactRoot 50 [2, 5, 5]).toOption = some [2, 4, 4] := by decide +kernel
example : (dcd exactRoot 50 [5, 5, 2]).toOption = some [5, 5, 2] := by decide +kernel
example : (dcd exactRoot 64 [4, 5, 6]).toOption = some [4, 4, 4] := by decide +kernel
example : (dcd exactRoot 7 [11, 11]).toOption = some [3, 2] := by decide +kernel
example : (dcd exactRoot 16 [11, 11]).toOption = some [4, 4] := by decide +kernel
example : exactRoot 3 64 1 = (4, 4) ∧ exactRoot 2 50 2 = (5, 5) ∧ exactRoot 2 7 1 = (2, 3) := by decide +kernel

/-- CartGrid([4,3]) with 2×2 boxes: cells (½,½), (5/2,½), (7/2,5/2) land in boxes 0, 2, 3 (C order, x slowest);
    a centre exactly on the upper node extent is in no box: the code's assertion fires -/
example : (pcoord [⟨0, 4, 2⟩, ⟨0, 3, 2⟩] [[1/2, 1/2], [5/2, 1/2], [7/2, 5/2]]).toOption = some [0, 2, 3] := by
  decide +kernel
example : (pcoord [⟨0, 4, 2⟩] [[4]]).toOption = none := by decide +kernel
example : AllOk [⟨0, 4, 2⟩, ⟨0, 3, 2⟩] [5/2, 1/2] := (hypotheses_decidable [] [] _ _).2.mp (by decide +kernel)

/-- geometry locality on the 2×1 grid with unit-square coordinates: cell 1 extracted alone sees the same
    four signed faces with the same node coordinates -/
example : cellData [[0, 1, 2, 3]] [[-1, 1, -1, 1]] [[0, 2], [1, 3], [0, 1], [2, 3]]
      (subCoords [[0, 0], [1, 0], [2, 0], [0, 1], [1, 1], [2, 1]] [1, 2, 4, 5]) 0
    = cellData g21.cfFaces g21.cfSigns g21.fn [[0, 0], [1, 0], [2, 0], [0, 1], [1, 1], [2, 1]] 1 := by
  decide +kernel

example : expandNd [1, 4] 2 = [2, 3, 8, 9] := by decide +kernel
example : (subgridToGrid 5 3 [1, 4] [2] 2).toOption = some ([2, 3, 8, 9], [4, 5]) := by decide +kernel
example : (subgridToGrid 4 3 [1, 4] [2] 1).toOption = none := by decide +kernel
example : (partitionWrapperTensor 3 [5, 2]).toOption = some [0, 0, 0, 0, 0, 1, 1, 1, 1, 1] := by decide +kernel
example : dimsOkB [11, 2] [4, 2] = true ∧ dimsOkB [5] [7] = false := by decide +kernel
example : allOkB [⟨0, 4, 2⟩, ⟨0, 3, 2⟩] [5/2, 1/2] = true ∧ allOkB [⟨0, 4, 2⟩] [4] = false := by decide +kernel

end PorepyVerif.C22
