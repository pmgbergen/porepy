/-
C22 — `np.unique` and `np.sort` of the model: membership, order, permutation.
-/
import PorepyVerif.C22.Model
import PorepyVerif.Common.InsSort

namespace PorepyVerif.C22

theorem insUniq : Common.InsUniq (· < ·) insertU usort where
  trans := Nat.lt_trans
  ins_nil _ := rfl
  ins_cons x a l := by
    rw [insertU]
    split
    · exact .inl ⟨‹_›, rfl⟩
    split
    · exact .inr (.inl ⟨‹_›, rfl⟩)
    · exact .inr (.inr ⟨Nat.lt_of_le_of_ne (Nat.not_lt.mp ‹_›) (Ne.symm ‹_›), rfl⟩)
  srt_nil := rfl
  srt_cons _ _ := rfl

theorem mem_usort {y : Nat} {l : List Nat} : y ∈ usort l ↔ y ∈ l := insUniq.mem

theorem pairwise_usort (l : List Nat) : (usort l).Pairwise (· < ·) := insUniq.sorted l

theorem nodup_of_pairwise_lt {l : List Nat} (h : l.Pairwise (· < ·)) : l.Nodup :=
  List.Pairwise.imp (fun hab => Nat.ne_of_lt hab) h

theorem insSort : Common.InsSort (· ≤ ·) insertS isort :=
  .of_ite Nat.le_trans Nat.le_of_not_le (fun _ => rfl) (fun _ _ _ => rfl) rfl (fun _ _ => rfl)

theorem perm_isort (l : List Nat) : (isort l).Perm l := insSort.perm l

theorem pairwise_isort (l : List Nat) : (isort l).Pairwise (· ≤ ·) := insSort.sorted l

theorem isort_of_sorted {l : List Nat} (h : l.Pairwise (· ≤ ·)) : isort l = l :=
  insSort.eq_self (fun _ _ _ h => if_pos h) h

end PorepyVerif.C22
