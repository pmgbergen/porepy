/-
C22 — `partition_structured`: the closed form `axisSpec` of the per-axis coarse index, and the combination of axes as
two-digit numbers (`Covers`).
-/
import PorepyVerif.C22.Lemmas

namespace PorepyVerif.C22

theorem arange_length_ge {f c : Nat} (hc : 1 ≤ c) (hcf : c ≤ f) :
    c ≤ (f + f / c - 1) / (f / c) := by
  have hs : 0 < f / c := Nat.div_pos hcf hc
  rw [Nat.le_div_iff_mul_le hs]
  have := Nat.mul_div_le f c
  omega

theorem incrInd_eq {f c : Nat} (hc : 1 ≤ c) (hcf : c ≤ f) :
    incrInd f c = (List.range c).map (· * (f / c)) := by
  have hge := arange_length_ge hc hcf
  unfold incrInd
  rw [if_neg (Nat.ne_of_gt hc)]
  simp only [arange, List.length_map, List.length_range]
  split
  · rw [← List.map_take, List.take_range, Nat.min_eq_left (by omega)]
  · have : (f + f / c - 1) / (f / c) = c := by omega
    rw [this]

/-- the increments sit at the multiples of the step `f / c`, the first `c` of them -/
theorem mem_incrInd {f c j : Nat} (hc : 1 ≤ c) (hcf : c ≤ f) :
    j ∈ incrInd f c ↔ f / c ∣ j ∧ j / (f / c) < c := by
  have hs : 0 < f / c := Nat.div_pos hcf hc
  rw [incrInd_eq hc hcf]
  simp only [List.mem_map, List.mem_range]
  constructor
  · rintro ⟨k, hk, rfl⟩
    exact ⟨Nat.dvd_mul_left _ _, by rwa [Nat.mul_div_cancel _ hs]⟩
  · rintro ⟨hd, hk⟩
    exact ⟨_, hk, Nat.div_mul_cancel hd⟩

theorem cumsumFrom_range' (g h : Nat → Int) (hstep : ∀ i, h (i + 1) = h i + g (i + 1)) :
    ∀ (n a : Nat) (acc : Int), acc + g a = h a →
      cumsumFrom acc ((List.range' a n).map g) = (List.range' a n).map h := by
  intro n
  induction n with
  | zero => intro a acc _; rfl
  | succ n ih =>
    intro a acc h0
    simp only [List.range'_succ, List.map_cons, cumsumFrom]
    rw [h0, ih (a + 1) (h a) (by rw [hstep])]

/-- the closed form of the coarse index along one axis -/
def axisSpec (f c i : Nat) : Nat := min (i / (f / c)) (c - 1)

theorem axisSpec_step {f c : Nat} (hc : 1 ≤ c) (hcf : c ≤ f) (i : Nat) :
    ((axisSpec f c (i + 1) : Nat) : Int) + 1 =
      ((axisSpec f c i : Nat) : Int) + 1 + (if (incrInd f c).contains (i + 1) then 1 else 0) := by
  simp only [List.contains_iff_mem, mem_incrInd hc hcf, axisSpec, Nat.succ_div]
  by_cases hd : f / c ∣ i + 1
  · -- a multiple of the step: the quotient goes up by one, the index too unless it is already `c - 1`
    simp only [hd, if_true, true_and]
    by_cases hq : i / (f / c) + 1 < c
    · have hle := Nat.le_sub_one_of_lt hq
      rw [if_pos hq, Nat.min_eq_left hle, Nat.min_eq_left (Nat.le_of_succ_le hle), Int.natCast_add]
      rfl
    · have hle := Nat.sub_le_of_le_add (Nat.not_lt.mp hq)
      rw [if_neg hq, Nat.min_eq_right hle, Nat.min_eq_right (Nat.le_succ_of_le hle), Int.add_zero]
  · simp [hd]

theorem axisIdx_closed {f c : Nat} (hc : 1 ≤ c) (hcf : c ≤ f) :
    axisIdx f c = (List.range f).map (fun i => ((axisSpec f c i : Nat) : Int)) := by
  have hs : 0 < f / c := Nat.div_pos hcf hc
  unfold axisIdx locInd
  rw [List.range_eq_range']
  rw [cumsumFrom_range' (fun i => if (incrInd f c).contains i then 1 else 0)
        (fun i => ((axisSpec f c i : Nat) : Int) + 1) (axisSpec_step hc hcf) f 0 0]
  · rw [List.map_map]
    apply List.map_congr_left
    intro i _
    simp
  · have hmem : 0 ∈ incrInd f c := (mem_incrInd hc hcf).mpr ⟨Nat.dvd_zero _, by rw [Nat.zero_div]; exact hc⟩
    simp [hmem, axisSpec]

theorem axisSpec_lt {f c : Nat} (hc : 1 ≤ c) (i : Nat) : axisSpec f c i < c :=
  Nat.lt_of_le_of_lt (Nat.min_le_right _ _) (Nat.sub_lt hc Nat.one_pos)

theorem succ_div_le (i s : Nat) : (i + 1) / s ≤ i / s + 1 := by
  rw [Nat.succ_div]
  split <;> omega

theorem axisSpec_mono {f c i j : Nat} (h : i ≤ j) : axisSpec f c i ≤ axisSpec f c j :=
  Nat.le_min.mpr ⟨Nat.le_trans (Nat.min_le_left _ _) (Nat.div_le_div_right h), Nat.min_le_right _ _⟩

theorem axisSpec_step_le {f c : Nat} (i : Nat) : axisSpec f c (i + 1) ≤ axisSpec f c i + 1 := by
  unfold axisSpec
  rw [← Nat.add_min_add_right]
  exact Nat.le_min.mpr ⟨Nat.le_trans (Nat.min_le_left _ _) (succ_div_le i _),
    Nat.le_trans (Nat.min_le_right _ _) (Nat.le_succ _)⟩

theorem axisSpec_onto {f c k : Nat} (hc : 1 ≤ c) (hcf : c ≤ f) (hk : k < c) :
    k * (f / c) < f ∧ axisSpec f c (k * (f / c)) = k := by
  have hs : 0 < f / c := Nat.div_pos hcf hc
  constructor
  · exact Nat.lt_of_lt_of_le (Nat.mul_lt_mul_of_pos_right hk hs) (Nat.mul_div_le f c)
  · unfold axisSpec
    rw [Nat.mul_div_cancel _ hs]
    exact Nat.min_eq_left (Nat.le_sub_one_of_lt hk)

theorem mem_axisIdx {f c : Nat} (hc : 1 ≤ c) (hcf : c ≤ f) (x : Int) :
    x ∈ axisIdx f c ↔ ∃ i, i < f ∧ x = ((axisSpec f c i : Nat) : Int) := by
  rw [axisIdx_closed hc hcf]
  simp only [List.mem_map, List.mem_range]
  constructor
  · rintro ⟨i, hi, rfl⟩; exact ⟨i, hi, rfl⟩
  · rintro ⟨i, hi, rfl⟩; exact ⟨i, hi, rfl⟩

theorem axisIdx_range {f c : Nat} (hc : 1 ≤ c) (hcf : c ≤ f) {x : Int} (hx : x ∈ axisIdx f c) :
    0 ≤ x ∧ x < c := by
  obtain ⟨i, _, rfl⟩ := (mem_axisIdx hc hcf x).mp hx
  have := axisSpec_lt (f := f) hc i
  omega

theorem axisIdx_onto {f c k : Nat} (hc : 1 ≤ c) (hcf : c ≤ f) (hk : k < c) :
    ((k : Nat) : Int) ∈ axisIdx f c := by
  obtain ⟨h1, h2⟩ := axisSpec_onto hc hcf hk
  exact (mem_axisIdx hc hcf _).mpr ⟨_, h1, by rw [h2]⟩

theorem axisIdx_length (f c : Nat) : (axisIdx f c).length = f := by
  have hcs : ∀ (l : List Int) (acc : Int), (cumsumFrom acc l).length = l.length := by
    intro l
    induction l with
    | nil => intro _; rfl
    | cons a l ih => intro acc; simp [cumsumFrom, ih]
  simp [axisIdx, locInd, hcs]

theorem axisIdx_getD {f c i : Nat} (hc : 1 ≤ c) (hcf : c ≤ f) (hi : i < f) (d : Int) :
    (axisIdx f c).getD i d = ((axisSpec f c i : Nat) : Int) := by
  rw [axisIdx_closed hc hcf, getD_map_range _ _ hi]

theorem axisSpec_zero (f c : Nat) : axisSpec f c 0 = 0 := by simp [axisSpec]

theorem axisSpec_last {f c : Nat} (hc : 1 ≤ c) (hcf : c ≤ f) : axisSpec f c (f - 1) = c - 1 := by
  have hs : 0 < f / c := Nat.div_pos hcf hc
  refine Nat.min_eq_right ((Nat.le_div_iff_mul_le hs).mpr ?_)
  have := Nat.mul_div_le f c
  rw [Nat.sub_mul]
  omega

theorem mem_combine2 {xi yi : List Int} {c0 : Nat} {p : Int} :
    p ∈ combine2 xi yi c0 ↔ ∃ y ∈ yi, ∃ x ∈ xi, p = x + y * c0 := by
  simp only [combine2, List.mem_flatMap, List.mem_map]
  constructor
  · rintro ⟨y, hy, x, hx, rfl⟩; exact ⟨y, hy, x, hx, rfl⟩
  · rintro ⟨y, hy, x, hx, rfl⟩; exact ⟨y, hy, x, hx, rfl⟩

theorem mem_combine3 {xi yi zi : List Int} {c0 c1 : Nat} {p : Int} :
    p ∈ combine3 xi yi zi c0 c1 ↔
      ∃ z ∈ zi, ∃ y ∈ yi, ∃ x ∈ xi, p = x + y * c0 + z * ((c0 * c1 : Nat) : Int) := by
  simp only [combine3, List.mem_flatMap, List.mem_map]
  constructor
  · rintro ⟨z, hz, y, hy, x, hx, rfl⟩; exact ⟨z, hz, y, hy, x, hx, rfl⟩
  · rintro ⟨z, hz, y, hy, x, hx, rfl⟩; exact ⟨z, hz, y, hy, x, hx, rfl⟩

theorem combine3_eq (xi yi zi : List Int) (c0 c1 : Nat) :
    combine3 xi yi zi c0 c1 = combine2 (combine2 xi yi c0) zi (c0 * c1) := by
  simp only [combine3, combine2, List.map_flatMap, List.map_map]
  rfl

theorem length_combine2 (xi yi : List Int) (c : Nat) :
    (combine2 xi yi c).length = xi.length * yi.length :=
  length_flatMap_const _ _ _ (fun _ _ => List.length_map _)

theorem getD_combine2 {xi yi : List Int} {n m i j : Nat} (c : Nat) (hn : xi.length = n) (hm : yi.length = m)
    (hi : i < n) (hj : j < m) (d : Int) :
    (combine2 xi yi c).getD (i + n * j) d = xi.getD i d + yi.getD j d * c := by
  unfold combine2
  rw [getD_flatMap_uniform _ n d d yi (fun _ _ => by rw [List.length_map, hn]) i j hi (hm ▸ hj),
    getD_map' _ xi (hn ▸ hi) d d]

/-- `xs` has `n` entries, all in `[0, c)`, and every value of `[0, c)` occurs -/
def Covers (xs : List Int) (n c : Nat) : Prop :=
  xs.length = n ∧ (∀ x ∈ xs, 0 ≤ x ∧ x < c) ∧ ∀ k : Nat, k < c → (k : Int) ∈ xs

theorem covers_axisIdx {f c : Nat} (hc : 1 ≤ c) (hcf : c ≤ f) : Covers (axisIdx f c) f c :=
  ⟨axisIdx_length f c, fun _ => axisIdx_range hc hcf, fun _ => axisIdx_onto hc hcf⟩

theorem covers_combine2 {xi yi : List Int} {n m a b : Nat} (hx : Covers xi n a) (hy : Covers yi m b) :
    Covers (combine2 xi yi a) (n * m) (a * b) := by
  refine ⟨by rw [length_combine2, hx.1, hy.1], ?_, ?_⟩
  · intro p hp
    obtain ⟨y, hy', x, hx', rfl⟩ := mem_combine2.mp hp
    exact radix2 (hx.2.1 x hx').1 (hx.2.1 x hx').2 (hy.2.1 y hy').1 (hy.2.1 y hy').2
  · intro q hq
    obtain ⟨dx, dy, de⟩ := digits2 hq
    refine mem_combine2.mpr ⟨_, hy.2.2 _ dy, _, hx.2.2 _ dx, ?_⟩
    exact_mod_cast de

theorem axisBad_eq_false_iff {f c : Nat} (hc : 1 ≤ c) : axisBad f c = false ↔ c ≤ f := by
  simp only [axisBad, Bool.and_eq_false_iff, decide_eq_false_iff_not, Nat.div_eq_zero_iff]
  omega

theorem axisBad_false {f c : Nat} (hc : 1 ≤ c) (hcf : c ≤ f) : axisBad f c = false :=
  (axisBad_eq_false_iff hc).mpr hcf

theorem ps_ok_1d {f0 c0 : Nat} (h0 : 1 ≤ c0 ∧ c0 ≤ f0) :
    partitionStructured [f0] [c0] = .ok (axisIdx f0 c0) := by
  simp [partitionStructured, axisBad_false h0.1 h0.2]

theorem ps_ok_2d {f0 f1 c0 c1 : Nat} (h0 : 1 ≤ c0 ∧ c0 ≤ f0) (h1 : 1 ≤ c1 ∧ c1 ≤ f1) :
    partitionStructured [f0, f1] [c0, c1] = .ok (combine2 (axisIdx f0 c0) (axisIdx f1 c1) c0) := by
  simp [partitionStructured, axisBad_false h0.1 h0.2, axisBad_false h1.1 h1.2]

theorem ps_ok_3d {f0 f1 f2 c0 c1 c2 : Nat} (h0 : 1 ≤ c0 ∧ c0 ≤ f0) (h1 : 1 ≤ c1 ∧ c1 ≤ f1)
    (h2 : 1 ≤ c2 ∧ c2 ≤ f2) :
    partitionStructured [f0, f1, f2] [c0, c1, c2]
      = .ok (combine3 (axisIdx f0 c0) (axisIdx f1 c1) (axisIdx f2 c2) c0 c1) := by
  simp [partitionStructured, axisBad_false h0.1 h0.2, axisBad_false h1.1 h1.2, axisBad_false h2.1 h2.2]

/-- `partition_structured` answers only for 1, 2 or 3 axes none of which is bad, and what it answers -/
theorem ps_cases {fine coarse : List Nat} {p : List Int} (h : partitionStructured fine coarse = .ok p) :
    (∃ f0 c0, fine = [f0] ∧ coarse = [c0] ∧ axisBad f0 c0 = false ∧ p = axisIdx f0 c0) ∨
    (∃ f0 f1 c0 c1, fine = [f0, f1] ∧ coarse = [c0, c1] ∧
      (axisBad f0 c0 = false ∧ axisBad f1 c1 = false) ∧
      p = combine2 (axisIdx f0 c0) (axisIdx f1 c1) c0) ∨
    (∃ f0 f1 f2 c0 c1 c2, fine = [f0, f1, f2] ∧ coarse = [c0, c1, c2] ∧
      (axisBad f0 c0 = false ∧ axisBad f1 c1 = false ∧ axisBad f2 c2 = false) ∧
      p = combine3 (axisIdx f0 c0) (axisIdx f1 c1) (axisIdx f2 c2) c0 c1) := by
  unfold partitionStructured at h
  split at h
  · obtain ⟨hb, h⟩ := Common.ite_error_eq_ok.1 h
    exact Or.inl ⟨_, _, rfl, rfl, Bool.eq_false_iff.mpr hb, (Except.ok.inj h).symm⟩
  · obtain ⟨hb, h⟩ := Common.ite_error_eq_ok.1 h
    exact Or.inr (Or.inl ⟨_, _, _, _, rfl, rfl, by simpa using hb, (Except.ok.inj h).symm⟩)
  · obtain ⟨hb, h⟩ := Common.ite_error_eq_ok.1 h
    exact Or.inr (Or.inr ⟨_, _, _, _, _, _, rfl, rfl, by simpa [and_assoc] using hb, (Except.ok.inj h).symm⟩)
  · cases h
end PorepyVerif.C22
