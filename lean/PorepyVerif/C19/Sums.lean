/-
C19 — sums over lists (`sumf`), the absolute value of the model, telescoping over the node pairs of a tensor grid.
-/
import PorepyVerif.C19.Model
import PorepyVerif.Common.Sum
import Mathlib.Tactic.Ring
import Mathlib.Tactic.Linarith
import Mathlib.Tactic.LinearCombination
import Mathlib.Tactic.FieldSimp
import Mathlib.Tactic.Positivity
import Mathlib.Algebra.Order.Field.Rat

namespace PorepyVerif.C19

@[simp] theorem sumf_nil {α : Type} (g : α → Rat) : sumf g [] = 0 := rfl
@[simp] theorem sumf_cons {α : Type} (g : α → Rat) (a : α) (l : List α) :
    sumf g (a :: l) = g a + sumf g l := rfl

theorem sumf_eq {α : Type} (g : α → Rat) (l : List α) : sumf g l = (l.map g).sum := by
  induction l with
  | nil => rfl
  | cons a l ih => rw [List.map_cons, List.sum_cons, ← ih, sumf_cons]

theorem sumf_append {α : Type} (g : α → Rat) (l₁ l₂ : List α) :
    sumf g (l₁ ++ l₂) = sumf g l₁ + sumf g l₂ := by
  simp only [sumf_eq, List.map_append, List.sum_append]

theorem sumf_map {α β : Type} (g : β → Rat) (F : α → β) (l : List α) :
    sumf g (l.map F) = sumf (fun a => g (F a)) l := by
  rw [sumf_eq, List.map_map, sumf_eq]
  rfl

theorem sumf_flatMap {α β : Type} (g : β → Rat) (F : α → List β) (l : List α) :
    sumf g (l.flatMap F) = sumf (fun a => sumf g (F a)) l := by
  induction l with
  | nil => rfl
  | cons a l ih => simp [List.flatMap_cons, sumf_append, ih]

theorem sumf_congr {α : Type} {g h : α → Rat} {l : List α} (H : ∀ a ∈ l, g a = h a) :
    sumf g l = sumf h l := by
  rw [sumf_eq, sumf_eq]
  exact Common.sum_map_congr H

theorem sumf_mul_left {α : Type} (k : Rat) (g : α → Rat) (l : List α) :
    sumf (fun a => k * g a) l = k * sumf g l := by
  simp only [sumf_eq, Common.sum_map_mul_left]

theorem sumf_mul_right {α : Type} (k : Rat) (g : α → Rat) (l : List α) :
    sumf (fun a => g a * k) l = sumf g l * k := by
  simp only [sumf_eq, Common.sum_map_mul_right]

theorem sumf_add {α : Type} (g h : α → Rat) (l : List α) :
    sumf (fun a => g a + h a) l = sumf g l + sumf h l := by
  simp only [sumf_eq, Common.sum_map_add]

theorem sumf_sub {α : Type} (g h : α → Rat) (l : List α) :
    sumf (fun a => g a - h a) l = sumf g l - sumf h l := by
  simp only [sumf_eq, Common.sum_map_sub]

theorem sumf_const {α : Type} (k : Rat) (l : List α) : sumf (fun _ => k) l = (l.length : Rat) * k :=
  (sumf_eq _ l).trans (Common.sum_map_const l k)

theorem sumf_nonneg {α : Type} {g : α → Rat} {l : List α} (H : ∀ a ∈ l, 0 ≤ g a) : 0 ≤ sumf g l := by
  rw [sumf_eq]
  exact Common.sum_map_nonneg H

theorem sumf_pos_of_exists {α : Type} {g : α → Rat} {l : List α} (H : ∀ a ∈ l, 0 ≤ g a)
    (hex : ∃ a ∈ l, 0 < g a) : 0 < sumf g l :=
  let ⟨_, ha, hpos⟩ := hex
  sumf_eq g l ▸ Common.sum_map_pos H ha hpos

theorem sumf_pos {α : Type} {g : α → Rat} {l : List α} (hne : l ≠ []) (H : ∀ a ∈ l, 0 < g a) :
    0 < sumf g l :=
  let ⟨a, ha⟩ := List.exists_mem_of_ne_nil l hne
  sumf_pos_of_exists (fun b hb => le_of_lt (H b hb)) ⟨a, ha, H a ha⟩

theorem sumf_perm {α : Type} (g : α → Rat) {l₁ l₂ : List α} (h : l₁.Perm l₂) : sumf g l₁ = sumf g l₂ := by
  rw [sumf_eq, sumf_eq]
  exact Common.sum_perm (h.map g)

theorem absR_eq_abs (q : Rat) : absR q = |q| := by
  unfold absR
  split
  · rw [abs_of_neg ‹_›]
  · rw [abs_of_nonneg (not_lt.mp ‹_›)]

theorem absR_nonneg (q : Rat) : 0 ≤ absR q := absR_eq_abs q ▸ abs_nonneg q

theorem absR_of_nonneg {q : Rat} (h : 0 ≤ q) : absR q = q := by rw [absR_eq_abs, abs_of_nonneg h]

theorem absR_of_neg {q : Rat} (h : q < 0) : absR q = -q := if_pos h

theorem absR_pos {q : Rat} (h : q ≠ 0) : 0 < absR q := absR_eq_abs q ▸ abs_pos.mpr h

theorem sum_pairs_diff (a : Rat) (l : List Rat) :
    sumf (fun x => x.2 - x.1) (pairs (a :: l)) = lastD l a - a := by
  induction l generalizing a with
  | nil => simp [pairs, lastD]
  | cons b l ih =>
    simp only [pairs, sumf_cons, lastD]
    rw [ih b]; ring

/-- one axis of a tensor grid: the increments telescope, the other extents are a common factor -/
theorem sum_pairs_mul (F : Rat × Rat → Rat) (k a : Rat) (l : List Rat)
    (h : ∀ x ∈ pairs (a :: l), F x = (x.2 - x.1) * k) : sumf F (pairs (a :: l)) = (lastD l a - a) * k := by
  rw [sumf_congr h, sumf_mul_right, sum_pairs_diff]

end PorepyVerif.C19
