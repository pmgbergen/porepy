/-
C19 — property theorems (statements only depend on Model.lean, including its specification vocabulary
`loopSum`, `Closed`, `leftOf`, `dirEdgeSum`, `EdgePaired`, `dirEdges`, `PlanarStar`).

Property: computed cell volumes are positive and sum to the domain measure, face normals have length
equal to the face area and point out of the cell with positive sign, for every cell the signed sum
of face normals vanishes; Σ sign (x_f·n_f) = dim·V and Σ sign (x_f·n_f) x_f = (dim+1)·V·c with
positions measured from a point of the grid's line or plane.

Notation: a 2-D cell is ANY list of oriented faces `(a, b, s)` (start node, end node, cell_faces
sign); `p = ±1` is the orientation of the plane normal, `c` the point about which the cell is cut
into sub-triangles (the code uses the average of the face centres; the theorems hold for every `c`),
`o` the reference point positions are measured from.
-/
import PorepyVerif.C19.Lemmas
import PorepyVerif.C19.Solids

namespace PorepyVerif.C19

/-- |normal|² = area²: the normal is the tangent rotated by 90°. -/
theorem normal_length_is_area_sq (p : Rat) (hp : p = 1 ∨ p = -1) (f : OFace) :
    f.nx p * f.nx p + f.ny p * f.ny p = f.len2 := by
  rcases hp with rfl | rfl <;> simp only [OFace.nx, OFace.ny, OFace.len2] <;> ring

/-- Closed cell: the signed sum of the face normals vanishes. -/
theorem closed_cell (p : Rat) (fs : List OFace) (h : Closed fs) :
    sumf (fun f => f.s * f.nx p) fs = 0 ∧ sumf (fun f => f.s * f.ny p) fs = 0 := by
  rw [closed_aux_x, closed_aux_y, h, h]; simp

/-- Σ sign (x_f − o)·n_f = 2·V, with V the cell volume exactly as computed (signed sub-triangles
    about `c`), for every reference point `o`. -/
theorem area_identity (p : Rat) (c o : P2) (fs : List OFace) (h : Closed fs) :
    sumf (fun f => f.s * ((f.mx - o.x) * f.nx p + (f.my - o.y) * f.ny p)) fs = 2 * cellArea p c fs := by
  have := area_aux p c o fs
  rw [h, h] at this
  linarith

/-- Σ sign ((x_f − o)·n_f)(x_f − o) = 3·(M − V·o), where `M = Σ v_f (c + 2 x_f)/3` is the first moment
    as computed (cell centre = M / V). -/
theorem centroid_identity (p : Rat) (c o : P2) (fs : List OFace) (h : Closed fs) :
    sumf (fun f => f.s * ((f.mx - o.x) * f.nx p + (f.my - o.y) * f.ny p) * (f.mx - o.x)) fs
        = 3 * (cellMomX p c fs - cellArea p c fs * o.x)
    ∧ sumf (fun f => f.s * ((f.mx - o.x) * f.nx p + (f.my - o.y) * f.ny p) * (f.my - o.y)) fs
        = 3 * (cellMomY p c fs - cellArea p c fs * o.y) := by
  have hx := centroid_aux_x p c o fs
  have hy := centroid_aux_y p c o fs
  simp only [h _, mul_zero, add_zero, sub_zero] at hx hy
  exact ⟨sub_eq_zero.mp hx, sub_eq_zero.mp hy⟩

/-- … in the form of the property: with the cell centre `ctr = M / V` returned by the model
    (`centroidOf`), Σ sign ((x_f − o)·n_f)(x_f − o) = 3·V·(ctr − o). -/
theorem centroid_identity_div (p : Rat) (c o ctr : P2) (fs : List OFace) (h : Closed fs)
    (hc : centroidOf (wOriented p c) c fs = some ctr) :
    sumf (fun f => f.s * ((f.mx - o.x) * f.nx p + (f.my - o.y) * f.ny p) * (f.mx - o.x)) fs
        = 3 * cellArea p c fs * (ctr.x - o.x)
    ∧ sumf (fun f => f.s * ((f.mx - o.x) * f.nx p + (f.my - o.y) * f.ny p) * (f.my - o.y)) fs
        = 3 * cellArea p c fs * (ctr.y - o.y) := by
  obtain ⟨hx, hy⟩ := centroid_identity p c o fs h
  obtain ⟨_, hcx, hcy⟩ := centroidOf_eq_some hc
  rw [hx, hy]
  simp only [cellArea, cellMomX, cellMomY]
  exact ⟨by linear_combination (-3 : Rat) * hcx, by linear_combination (-3 : Rat) * hcy⟩

/-- Outward orientation: `sign · n_f · (x_f − c)` is twice the sub-triangle volume of the face, so
    the normal times the sign points away from `c` exactly when the sub-volume is positive (which the
    oriented path guarantees in sum, check (3/3), and for every face of a convex cell, see below). -/
theorem outward_iff_subvolume_pos (p : Rat) (c : P2) (f : OFace) :
    f.s * (f.nx p * (f.mx - c.x) + f.ny p * (f.my - c.y)) = 2 * wOriented p c f := by
  simp only [wOriented, OFace.subZ, OFace.nx, OFace.ny]; ring

/-- Every polygon, given as a cyclic list of vertices of ANY length, is closed (telescoping). -/
theorem polygon_closed (vs : List P2) : Closed (polyFaces vs) := by
  intro g
  cases vs with
  | nil => rfl
  | cons a l =>
    have := loopSum_path g l a a
    simpa [polyFaces, cycEdges] using this

/-- … hence all identities hold for every polygon. -/
theorem polygon_identities (p : Rat) (c o : P2) (vs : List P2) :
    (sumf (fun f => f.s * f.nx p) (polyFaces vs) = 0 ∧ sumf (fun f => f.s * f.ny p) (polyFaces vs) = 0)
    ∧ sumf (fun f => f.s * ((f.mx - o.x) * f.nx p + (f.my - o.y) * f.ny p)) (polyFaces vs)
        = 2 * cellArea p c (polyFaces vs)
    ∧ sumf (fun f => f.s * ((f.mx - o.x) * f.nx p + (f.my - o.y) * f.ny p) * (f.mx - o.x)) (polyFaces vs)
        = 3 * (cellMomX p c (polyFaces vs) - cellArea p c (polyFaces vs) * o.x)
    ∧ sumf (fun f => f.s * ((f.mx - o.x) * f.nx p + (f.my - o.y) * f.ny p) * (f.my - o.y)) (polyFaces vs)
        = 3 * (cellMomY p c (polyFaces vs) - cellArea p c (polyFaces vs) * o.y) :=
  ⟨closed_cell p _ (polygon_closed vs), area_identity p c o _ (polygon_closed vs),
   (centroid_identity p c o _ (polygon_closed vs)).1, (centroid_identity p c o _ (polygon_closed vs)).2⟩

/-- The code's own orientation check (1/3) — all node incidences of the cell vanish — implies that
    the cell is closed, for arbitrary node coordinates `X`. -/
theorem oriented_check_closed (n : Nat) (fs : List IFace) (X : Nat → P2)
    (hb : ∀ f ∈ fs, f.1 < n ∧ f.2.1 < n) (h : orientedCell n fs = true) :
    Closed (fs.map (fun f => (⟨X f.1, X f.2.1, f.2.2⟩ : OFace))) := by
  intro g
  unfold loopSum
  rw [sumf_map]
  have := incidence_sum n (fun k => g (X k)) fs hb
  simp only at this ⊢
  rw [this]
  apply sumBelow_zero
  intro k hk
  have := allBelow_spec h k hk
  simp only [decide_eq_true_eq] at this
  rw [this]; ring

/-- Grid level: if the model takes the oriented path (`isOriented`, i.e. the three checks of the
    code passed), every cell of the grid is closed — so `closed_cell`, `area_identity`,
    `centroid_identity` apply to every cell with the volumes / centres the model outputs. -/
theorem oriented_grid_cells_closed (g : Grid2) (meanLen : Rat)
    (hwf : ∀ c ∈ g.cells, ∀ e ∈ c, (g.iface e).1 < g.nodes.length ∧ (g.iface e).2.1 < g.nodes.length)
    (h : g.isOriented meanLen = true) : ∀ c ∈ g.cells, Closed (g.cellOFaces c) := by
  intro c hc
  simp only [Grid2.isOriented, Grid2.check12, Grid2.check1, Bool.and_eq_true, List.all_eq_true] at h
  have h1 := h.1.1.1 c hc
  have := oriented_check_closed g.nodes.length (c.map g.iface) g.node
    (by
      intro f hf
      obtain ⟨e, he, rfl⟩ := List.mem_map.mp hf
      exact hwf c hc e he) h1
  have e : g.cellOFaces c = (c.map g.iface).map (fun f => (⟨g.node f.1, g.node f.2.1, f.2.2⟩ : OFace)) := by
    simp only [Grid2.cellOFaces, List.map_map]; rfl
  rw [e]; exact this

/-- Grid level, all together: on the oriented path of the model, for every cell the face normals
    `(nx, ny) = tangent × (0,0,p)` with `p = planeSign`, the volume entry `V` of `cellVolumes` and the
    first moments behind `cellCenters` satisfy the closed-cell, volume and centroid identities about every
    reference point `o`. -/
theorem oriented_grid_divergence (g : Grid2) (meanLen : Rat) (o : P2)
    (hwf : ∀ c ∈ g.cells, ∀ e ∈ c, (g.iface e).1 < g.nodes.length ∧ (g.iface e).2.1 < g.nodes.length)
    (h : g.isOriented meanLen = true) :
    (geom2 g meanLen).cellVolumes
        = g.cells.map (fun c => cellArea g.planeSign (tempCenter (g.cellOFaces c)) (g.cellOFaces c))
    ∧ ∀ c ∈ g.cells,
      let fs := g.cellOFaces c
      let p := g.planeSign
      let V := cellArea p (tempCenter fs) fs
      (sumf (fun f => f.s * f.nx p) fs = 0 ∧ sumf (fun f => f.s * f.ny p) fs = 0)
      ∧ 0 ≤ V
      ∧ sumf (fun f => f.s * ((f.mx - o.x) * f.nx p + (f.my - o.y) * f.ny p)) fs = 2 * V
      ∧ sumf (fun f => f.s * ((f.mx - o.x) * f.nx p + (f.my - o.y) * f.ny p) * (f.mx - o.x)) fs
          = 3 * (cellMomX p (tempCenter fs) fs - V * o.x)
      ∧ sumf (fun f => f.s * ((f.mx - o.x) * f.nx p + (f.my - o.y) * f.ny p) * (f.my - o.y)) fs
          = 3 * (cellMomY p (tempCenter fs) fs - V * o.y) := by
  constructor
  · unfold geom2
    rw [if_pos h]
    rfl
  · intro c hc fs p V
    have hcl := oriented_grid_cells_closed g meanLen hwf h c hc
    have hV : 0 ≤ V := by
      have h' := h
      simp only [Grid2.isOriented, Bool.and_eq_true, List.all_eq_true, decide_eq_true_eq] at h'
      exact h'.2 V (List.mem_map.mpr ⟨c, hc, rfl⟩)
    exact ⟨closed_cell p fs hcl, hV, area_identity p _ o fs hcl, (centroid_identity p _ o fs hcl).1,
      (centroid_identity p _ o fs hcl).2⟩

/-- Positivity: for a counter-clockwise convex cell (all signs +1, every node on the left of or on
    every face line, at least one strictly), every sub-triangle about the average of the face centres is
    positive, and so is the cell volume. -/
theorem convex_ccw_area_pos (fs : List OFace) (hne : fs ≠ []) (hs : ∀ f ∈ fs, f.s = 1)
    (hconv : ∀ f ∈ fs, (∀ g ∈ fs, 0 ≤ leftOf f g.a ∧ 0 ≤ leftOf f g.b)
                      ∧ ∃ g ∈ fs, 0 < leftOf f g.a + leftOf f g.b) :
    (∀ f ∈ fs, 0 < wOriented 1 (tempCenter fs) f) ∧ 0 < cellArea 1 (tempCenter fs) fs := by
  have hn : (0 : Rat) < (fs.length : Rat) := by
    have : 0 < fs.length := List.length_pos_iff.mpr hne
    exact_mod_cast this
  have hsub : ∀ f ∈ fs, 0 < wOriented 1 (tempCenter fs) f := by
    intro f hf
    obtain ⟨hall, g, hg, hgpos⟩ := hconv f hf
    -- n · leftOf f tc is the sum of leftOf f over the face centres
    have h3 : 0 < leftOf f (tempCenter fs) := by
      rw [← mul_pos_iff_of_pos_left hn, leftOf_tempCenter f fs hne]
      exact sumf_pos_of_exists (fun a ha => by linarith [(hall a ha).1, (hall a ha).2]) ⟨g, hg, by linarith⟩
    have := subZ_eq_leftOf f (tempCenter fs) (hs f hf)
    simp only [wOriented]
    linarith
  exact ⟨hsub, sumf_pos hne hsub⟩

/-- Non-negative volumes: every cell volume the 2-D model outputs is ≥ 0, on both paths. -/
theorem volumes_nonneg (g : Grid2) (meanLen : Rat) : ∀ v ∈ (geom2 g meanLen).cellVolumes, 0 ≤ v := by
  intro v hv
  unfold geom2 at hv
  split at hv
  · rename_i h
    simp only [Grid2.isOriented, Bool.and_eq_true, List.all_eq_true, decide_eq_true_eq] at h
    exact h.2 v hv
  · simp only [List.mem_map] at hv
    obtain ⟨c, _, rfl⟩ := hv
    exact sumf_nonneg (fun f _ => absR_nonneg _)

/-- The cell `[x0,x1]×[y0,y1]` as built by `TensorGrid._create_2d_grid` is closed and its computed
    volume is `(x1−x0)(y1−y0)`, whatever point the sub-triangles are taken about. -/
theorem cart_cell_area (x0 x1 y0 y1 : Rat) (c : P2) :
    Closed (tensorCell x0 x1 y0 y1) ∧ cellArea 1 c (tensorCell x0 x1 y0 y1) = (x1 - x0) * (y1 - y0) := by
  constructor
  · intro g
    simp only [loopSum, tensorCell, sumf_cons, sumf_nil]; ring
  · simp only [cellArea, cellAreaW, tensorCell, sumf_cons, sumf_nil, wOriented, OFace.subZ, OFace.mx, OFace.my,
      OFace.tx, OFace.ty]
    ring

/-- The computed cell volumes of a tensor grid (`TensorGrid._create_2d_grid`) with node coordinates
    `x0 :: xs`, `y0 :: ys` sum to the product of the extents. -/
theorem cart_volumes_sum (x0 y0 : Rat) (xs ys : List Rat) :
    tensorVolumeSum (x0 :: xs) (y0 :: ys) = (lastD xs x0 - x0) * (lastD ys y0 - y0) := by
  unfold tensorVolumeSum tensorCells tensorRow
  rw [sumf_flatMap]
  refine (sum_pairs_mul _ (lastD xs x0 - x0) _ _ fun y _ => ?_).trans (mul_comm _ _)
  rw [sumf_map]
  exact (sum_pairs_mul _ (y.2 - y.1) _ _ fun x _ => (cart_cell_area x.1 x.2 y.1 y.2 _).2).trans (mul_comm _ _)

theorem lineFlip_of_lt (ξf ξc s : Rat) (hs : s = 1 ∨ s = -1) (h : ξf < ξc) : s * lineFlip ξf ξc s = -1 := by
  have h1 : ξf - ξc < 0 := by linarith
  have h2 : ¬ (0 < ξf - ξc) := by linarith
  unfold lineFlip
  rcases hs with rfl | rfl <;> simp [h1, h2]

theorem lineFlip_of_gt (ξf ξc s : Rat) (hs : s = 1 ∨ s = -1) (h : ξc < ξf) : s * lineFlip ξf ξc s = 1 := by
  have h1 : 0 < ξf - ξc := by linarith
  have h2 : ¬ (ξf - ξc < 0) := by linarith
  unfold lineFlip
  rcases hs with rfl | rfl <;> simp [h1, h2]

/-- A 1-D cell with faces at `ξ1 ≠ ξ2` (coordinate along the unit tangent, measured from a point of the
    line), signs `s1, s2 = ±1`; `ν_i = lineFlip …` is the orientation of the face normal relative to the
    tangent after the flip of `_compute_geometry_1d`; V = |ξ1 − ξ2|, c = (ξ1+ξ2)/2.
    Then sign·normal points out of the cell, Σ sign n = 0, Σ sign (x_f·n) = V, Σ sign (x_f·n) x_f = 2 V c. -/
theorem line_cell_identities (ξ1 ξ2 s1 s2 : Rat) (hne : ξ1 ≠ ξ2)
    (h1 : s1 = 1 ∨ s1 = -1) (h2 : s2 = 1 ∨ s2 = -1) :
    let c := (ξ1 + ξ2) / 2
    let ν1 := lineFlip ξ1 c s1
    let ν2 := lineFlip ξ2 c s2
    let V := absR (ξ1 - ξ2)
    0 < s1 * ν1 * (ξ1 - c) ∧ 0 < s2 * ν2 * (ξ2 - c)
    ∧ s1 * ν1 + s2 * ν2 = 0
    ∧ s1 * ν1 * ξ1 + s2 * ν2 * ξ2 = V
    ∧ s1 * ν1 * ξ1 * ξ1 + s2 * ν2 * ξ2 * ξ2 = 2 * V * c := by
  intro c ν1 ν2 V
  simp only [c, ν1, ν2, V]
  rcases lt_or_gt_of_ne hne with hlt | hgt
  · rw [lineFlip_of_lt ξ1 _ s1 h1 (by linarith), lineFlip_of_gt ξ2 _ s2 h2 (by linarith),
      absR_of_neg (by linarith : ξ1 - ξ2 < 0)]
    exact ⟨by linarith, by linarith, by ring, by ring, by ring⟩
  · rw [lineFlip_of_gt ξ1 _ s1 h1 (by linarith), lineFlip_of_lt ξ2 _ s2 h2 (by linarith),
      absR_of_nonneg (by linarith : 0 ≤ ξ1 - ξ2)]
    exact ⟨by linarith, by linarith, by ring, by ring, by ring⟩

/-- Volumes of a 1-D tensor grid with increasing nodes sum to the extent. -/
theorem line_volumes_sum (x0 : Rat) (xs : List Rat) (hinc : ∀ p ∈ pairs (x0 :: xs), p.1 ≤ p.2) :
    sumf (fun p => absR (p.1 - p.2)) (pairs (x0 :: xs)) = lastD xs x0 - x0 := by
  rw [← sum_pairs_diff]
  apply sumf_congr
  intro p hp
  have := hinc p hp
  unfold absR
  split
  · ring
  · have : p.1 = p.2 := by linarith
    rw [this]

/-- Tetrahedron: closed, for arbitrary vertices. -/
theorem tet_closed_cell_3d (p0 p1 p2 p3 : P3) :
    sum3 (fun f => P3.smul f.2 (faceN f.1)) (tetCell p0 p1 p2 p3) = P3.zero :=
  closed_cell_3d _ (tet_paired p0 p1 p2 p3)

/-- Tetrahedron with non-degenerate faces: Σ sign (x_f − o)·n_f = 3·V with V as computed. -/
theorem tet_volume_identity_3d (p0 p1 p2 p3 tc o : P3)
    (hnd : ∀ f ∈ tetCell p0 p1 p2 p3, (faceN f.1).dot (faceN f.1) ≠ 0) :
    sumf (fun f => f.2 * ((faceCtr f.1).sub o).dot (faceN f.1)) (tetCell p0 p1 p2 p3)
      = 3 * cellVol3 tc (tetCell p0 p1 p2 p3) :=
  volume_identity_3d _ tc o (tet_paired p0 p1 p2 p3) (tet_planarStar p0 p1 p2 p3 hnd)

/-- Centroid identity in 3-D: for a closed cell with planar (`NodesPlanar`), star-shaped, non-degenerate
    faces, with face centres, cell volume `V` and first moment `M = V·tc + Σ tet_volume·¾·(sub_centroid − tc)`
    exactly as computed (the cell centre is `M / V`):
    Σ sign ((x_f − o)·n_f)(x_f − o) = 4·(M − V·o), for every reference point `o` and every `tc`.
    (Proof: tensor identity Σ (w·n)(x·r) = V (w·r) by a fan of tetrahedra about the origin whose inner
    faces cancel because the edges pair up.) -/
theorem centroid_identity_3d (cell : Cell3) (tc o : P3) (hp : EdgePaired cell) (hpl : PlanarStar cell)
    (hnp : NodesPlanar cell) :
    sum3 (fun f => P3.smul (f.2 * ((faceCtr f.1).sub o).dot (faceN f.1)) ((faceCtr f.1).sub o)) cell
      = P3.smul 4 ((cellMom3 tc cell).sub (P3.smul (cellVol3 tc cell) o)) := by
  apply P3.ext_dot; intro r
  rw [dot_sum3, P3.dot_smul_left, P3.dot_sub_left, P3.dot_smul_left, ← centroid_identity_3d_aux cell tc o r hp hpl hnp]
  apply sumf_congr; intro f _
  rw [P3.dot_smul_left]; ring

/-- … in the form of the property, with the cell centre `cellCtr3` and the temporary centre the code uses:
    Σ sign ((x_f − o)·n_f)(x_f − o) = 4·V·(c − o) when V ≠ 0. -/
theorem centroid_identity_3d_div (cell : Cell3) (o : P3) (hp : EdgePaired cell) (hpl : PlanarStar cell)
    (hnp : NodesPlanar cell) (hV : cellVol3 (tempCenter3 cell) cell ≠ 0) :
    sum3 (fun f => P3.smul (f.2 * ((faceCtr f.1).sub o).dot (faceN f.1)) ((faceCtr f.1).sub o)) cell
      = P3.smul (4 * cellVol3 (tempCenter3 cell) cell) ((cellCtr3 cell).sub o) := by
  rw [centroid_identity_3d cell (tempCenter3 cell) o hp hpl hnp, cellCtr3, cellMom3]
  generalize cellVol3 (tempCenter3 cell) cell = V at hV ⊢
  generalize cellRelMom3 (tempCenter3 cell) cell = R
  simp only [P3.smul, P3.add, P3.sub, P3.mk.injEq]
  refine ⟨?_, ?_, ?_⟩ <;> field_simp

/-- Tetrahedron with non-degenerate faces: Σ sign ((x_f − o)·n_f)(x_f − o) = 4·(M − V·o). -/
theorem tet_centroid_identity_3d (p0 p1 p2 p3 tc o : P3)
    (hnd : ∀ f ∈ tetCell p0 p1 p2 p3, (faceN f.1).dot (faceN f.1) ≠ 0) :
    sum3 (fun f => P3.smul (f.2 * ((faceCtr f.1).sub o).dot (faceN f.1)) ((faceCtr f.1).sub o)) (tetCell p0 p1 p2 p3)
      = P3.smul 4 ((cellMom3 tc (tetCell p0 p1 p2 p3)).sub (P3.smul (cellVol3 tc (tetCell p0 p1 p2 p3)) o)) :=
  centroid_identity_3d _ tc o (tet_paired p0 p1 p2 p3) (tet_planarStar p0 p1 p2 p3 hnd) (tet_nodesPlanar p0 p1 p2 p3)

/-- The hexahedron `[x0,x1]×[y0,y1]×[z0,z1]` as built by `TensorGrid._create_3d_grid` (node order and signs of
    the constructor) is a closed surface with planar star-shaped faces, and its computed volume is the product
    of the extents, about whatever point the sub-tetrahedra are taken. -/
theorem cart3_cell_volume (x0 x1 y0 y1 z0 z1 : Rat) (tc : P3) (hx : x0 ≠ x1) (hy : y0 ≠ y1) (hz : z0 ≠ z1) :
    EdgePaired (tensorCell3 x0 x1 y0 y1 z0 z1) ∧ PlanarStar (tensorCell3 x0 x1 y0 y1 z0 z1)
    ∧ cellVol3 tc (tensorCell3 x0 x1 y0 y1 z0 z1) = (x1 - x0) * (y1 - y0) * (z1 - z0) := by
  have hdet : det3 ⟨x1 - x0, 0, 0⟩ ⟨0, y1 - y0, 0⟩ ⟨0, 0, z1 - z0⟩ ≠ 0 := by
    rw [det3_diag]
    exact mul_ne_zero (mul_ne_zero (sub_ne_zero.mpr hx.symm) (sub_ne_zero.mpr hy.symm)) (sub_ne_zero.mpr hz.symm)
  rw [tensorCell3_eq_paraCell]
  exact ⟨para_paired _ _ _ _, para_planarStar_cell _ _ _ _ hdet, by rw [para_volume _ _ _ _ tc hdet, det3_diag]⟩

/-- `cart_volumes_sum` in 3-D: the computed cell volumes of a tensor grid with distinct consecutive node
    coordinates sum to the product of the extents. -/
theorem cart_volumes_sum_3d (x0 y0 z0 : Rat) (xs ys zs : List Rat)
    (hxs : ∀ p ∈ pairs (x0 :: xs), p.1 ≠ p.2) (hys : ∀ p ∈ pairs (y0 :: ys), p.1 ≠ p.2)
    (hzs : ∀ p ∈ pairs (z0 :: zs), p.1 ≠ p.2) :
    tensorVolumeSum3 (x0 :: xs) (y0 :: ys) (z0 :: zs)
      = (lastD xs x0 - x0) * (lastD ys y0 - y0) * (lastD zs z0 - z0) := by
  unfold tensorVolumeSum3 tensorCells3
  rw [sumf_flatMap]
  refine (sum_pairs_mul _ ((lastD xs x0 - x0) * (lastD ys y0 - y0)) _ _ fun z hz => ?_).trans (mul_comm _ _)
  rw [sumf_flatMap]
  refine (sum_pairs_mul _ ((lastD xs x0 - x0) * (z.2 - z.1)) _ _ fun y hy => ?_).trans (by ring)
  rw [sumf_map]
  refine (sum_pairs_mul _ ((y.2 - y.1) * (z.2 - z.1)) _ _ fun x hx => ?_).trans (by ring)
  exact (cart3_cell_volume x.1 x.2 y.1 y.2 z.1 z.2 _ (hxs x hx) (hys y hy) (hzs z hz)).2.2.trans (mul_assoc _ _ _)

/-- The legacy path of `_compute_geometry_2d` for one cell, under the assumption the code makes (cell convex,
    or at least star-shaped about the temporary centre `c`, so that the faces, each taken counter-clockwise as
    seen from `c`, form closed loops): whatever the stored node order and signs of the faces are, with the
    normals `legacyN` flipped by the cell-centre test, the absolute sub-triangle volumes `wAbs` and the moments
    built from them, the closed-cell, volume and centroid identities hold about every reference point `o`. -/
theorem legacy_cell_identities (c o : P2) (fs : List OFace) (hs : ∀ f ∈ fs, f.s = 1 ∨ f.s = -1)
    (hχ : ∀ f ∈ fs, f.chi c ≠ 0) (hcl : Closed (fs.map (reorient c))) :
    (sumf (fun f => f.s * legacyNx c f) fs = 0 ∧ sumf (fun f => f.s * legacyNy c f) fs = 0)
    ∧ sumf (fun f => f.s * ((f.mx - o.x) * legacyNx c f + (f.my - o.y) * legacyNy c f)) fs
        = 2 * cellAreaW (wAbs c) fs
    ∧ sumf (fun f => f.s * ((f.mx - o.x) * legacyNx c f + (f.my - o.y) * legacyNy c f) * (f.mx - o.x)) fs
        = 3 * (cellMomXW (wAbs c) c fs - cellAreaW (wAbs c) fs * o.x)
    ∧ sumf (fun f => f.s * ((f.mx - o.x) * legacyNx c f + (f.my - o.y) * legacyNy c f) * (f.my - o.y)) fs
        = 3 * (cellMomYW (wAbs c) c fs - cellAreaW (wAbs c) fs * o.y) := by
  have hA : cellAreaW (wAbs c) fs = cellArea 1 c (fs.map (reorient c)) := by
    unfold cellArea cellAreaW; rw [sumf_map]
    exact sumf_congr (fun f hf => (legacy_side c f (hs f hf) (hχ f hf)).2.2)
  have hMx : cellMomXW (wAbs c) c fs = cellMomX 1 c (fs.map (reorient c)) := by
    unfold cellMomX cellMomXW; rw [sumf_map]
    apply sumf_congr; intro f hf
    rw [(legacy_side c f (hs f hf) (hχ f hf)).2.2, reorient_mx]
  have hMy : cellMomYW (wAbs c) c fs = cellMomY 1 c (fs.map (reorient c)) := by
    unfold cellMomY cellMomYW; rw [sumf_map]
    apply sumf_congr; intro f hf
    rw [(legacy_side c f (hs f hf) (hχ f hf)).2.2, reorient_my]
  obtain ⟨hcx, hcy⟩ := closed_cell 1 _ hcl
  have har := area_identity 1 c o _ hcl
  obtain ⟨hmx, hmy⟩ := centroid_identity 1 c o _ hcl
  rw [sumf_map] at hcx hcy har hmx hmy
  rw [hA, hMx, hMy]
  have hterm : ∀ f ∈ fs, f.s * ((f.mx - o.x) * legacyNx c f + (f.my - o.y) * legacyNy c f)
      = (reorient c f).s * (((reorient c f).mx - o.x) * (reorient c f).nx 1
          + ((reorient c f).my - o.y) * (reorient c f).ny 1) := by
    intro f hf
    obtain ⟨h1, h2, _⟩ := legacy_side c f (hs f hf) (hχ f hf)
    rw [reorient_s, reorient_mx, reorient_my, ← h1, ← h2]; ring
  refine ⟨⟨?_, ?_⟩, ?_, ?_, ?_⟩
  · rw [← hcx]; exact sumf_congr fun f hf => by rw [(legacy_side c f (hs f hf) (hχ f hf)).1, reorient_s]; ring
  · rw [← hcy]; exact sumf_congr fun f hf => by rw [(legacy_side c f (hs f hf) (hχ f hf)).2.1, reorient_s]; ring
  · rw [← har]; exact sumf_congr hterm
  · rw [← hmx]; exact sumf_congr fun f hf => by rw [hterm f hf, reorient_mx]
  · rw [← hmy]; exact sumf_congr fun f hf => by rw [hterm f hf, reorient_my]

/-- … and sign · normal points away from `c` for every face (`= |cross(x_f − c, t)| > 0`), with a positive
    sub-volume (summed over a non-empty cell: `legacy_volume_pos`). -/
theorem legacy_outward (c : P2) (f : OFace) (hs : f.s = 1 ∨ f.s = -1) (hχ : f.chi c ≠ 0) :
    f.s * (legacyNx c f * (f.mx - c.x) + legacyNy c f * (f.my - c.y)) = absR (f.chi c)
    ∧ 0 < wAbs c f := by
  obtain ⟨h1, h2, h3⟩ := legacy_side c f hs hχ
  have h4 := wAbs_eq c f hs
  have := outward_iff_subvolume_pos 1 c (reorient c f)
  constructor
  · rw [reorient_s, reorient_mx, reorient_my, ← h1, ← h2, ← h3] at this
    linarith
  · have := absR_pos hχ
    linarith

/-- The volume computed on the legacy path (sum of the `|sub-volume|`) is positive for a non-empty cell none of
    whose faces is collinear with `c`. -/
theorem legacy_volume_pos (c : P2) (fs : List OFace) (hne : fs ≠ []) (hs : ∀ f ∈ fs, f.s = 1 ∨ f.s = -1)
    (hχ : ∀ f ∈ fs, f.chi c ≠ 0) : 0 < cellAreaW (wAbs c) fs :=
  sumf_pos hne (fun f hf => (legacy_outward c f (hs f hf) (hχ f hf)).2)

/-- The closedness assumption holds for every polygon that is star-shaped and counter-clockwise about `c`
    (in particular every convex one with `c` inside), however its faces are stored: node order reversed or
    not (`k.1`) and with any sign (`k.2`). -/
theorem legacy_polygon_closed (c : P2) (vs : List P2) (ch : List (Bool × Rat))
    (hlen : ch.length = (polyFaces vs).length) (hstar : ∀ f ∈ polyFaces vs, 0 < f.chi c) :
    Closed ((List.zipWith (fun f k => redirect k.1 k.2 f) (polyFaces vs) ch).map (reorient c)) := by
  rw [legacy_scrambled_aux c (polyFaces vs) ch hlen]
  · exact polygon_closed vs
  · intro f hf
    refine ⟨?_, hstar f hf⟩
    simp only [polyFaces, List.mem_map] at hf
    obtain ⟨e, _, rfl⟩ := hf
    rfl

/-- Grid level: on the legacy path the model stores for face `e.1` the normal `tangent × (0,0,1)`, reversed when
    `faceFlipped`; if the decision of the face equals the decision of this side (the two sides agree — the
    code's convexity assumption), this is the per-side normal `legacyN` of the theorems above. -/
theorem legacy_grid_normal (g : Grid2) (c : List (Nat × Rat)) (e : Nat × Rat)
    (hagree : g.faceFlipped e.1 = g.sideFlips c e) :
    (if g.faceFlipped e.1 then -((g.oface e).nx 1) else (g.oface e).nx 1)
        = legacyNx (tempCenter (g.cellOFaces c)) (g.oface e)
    ∧ (if g.faceFlipped e.1 then -((g.oface e).ny 1) else (g.oface e).ny 1)
        = legacyNy (tempCenter (g.cellOFaces c)) (g.oface e) := by
  have hs : (g.oface e).s = e.2 := rfl
  have key : e.2 * (((g.oface e).mx - (tempCenter (g.cellOFaces c)).x) * (g.oface e).nx 1
        + ((g.oface e).my - (tempCenter (g.cellOFaces c)).y) * (g.oface e).ny 1)
      = (g.oface e).s * (g.oface e).chi (tempCenter (g.cellOFaces c)) := by
    rw [hs]; simp only [OFace.chi, OFace.nx, OFace.ny]; ring
  rw [hagree]
  unfold Grid2.sideFlips legacyNx legacyNy
  simp only [key, decide_eq_true_eq]
  refine ⟨?_, ?_⟩ <;> trivial

/-- embedded 2-D cell: all identities for the image of a closed planar cell under `x ↦ R x + b`, `RᵀR = 1`,
    positions measured from the image of `o` (a point of the grid's plane) -/
theorem embedded_cell_identities (R : M3) (b : P3) (hR : R.Orth) (p : Rat) (c o : P2) (fs : List OFace) (h : Closed fs) :
    (∀ f : OFace, (p = 1 ∨ p = -1) → (embedV R ⟨f.nx p, f.ny p⟩).dot (embedV R ⟨f.nx p, f.ny p⟩) = f.len2)
    ∧ sum3 (fun f => P3.smul f.s (embedV R ⟨f.nx p, f.ny p⟩)) fs = P3.zero
    ∧ sumf (fun f => f.s * ((embedP R b ⟨f.mx, f.my⟩).sub (embedP R b o)).dot (embedV R ⟨f.nx p, f.ny p⟩)) fs
        = 2 * cellArea p c fs
    ∧ sum3 (fun f => P3.smul (f.s * ((embedP R b ⟨f.mx, f.my⟩).sub (embedP R b o)).dot (embedV R ⟨f.nx p, f.ny p⟩))
          ((embedP R b ⟨f.mx, f.my⟩).sub (embedP R b o))) fs
        = P3.smul 3 (embedV R ⟨cellMomX p c fs - cellArea p c fs * o.x, cellMomY p c fs - cellArea p c fs * o.y⟩) := by
  have hdot : ∀ f : OFace, ((embedP R b ⟨f.mx, f.my⟩).sub (embedP R b o)).dot (embedV R ⟨f.nx p, f.ny p⟩)
      = (f.mx - o.x) * f.nx p + (f.my - o.y) * f.ny p := by
    intro f; rw [embedP_sub, embedV_dot R hR]
  refine ⟨?_, ?_, ?_, ?_⟩
  · intro f hp
    rw [embedV_dot R hR]
    exact normal_length_is_area_sq p hp f
  · have := sum3_smul_embedV R (fun f : OFace => f.s) (fun f => f.nx p) (fun f => f.ny p) fs
    rw [this, (closed_cell p fs h).1, (closed_cell p fs h).2]
    ext <;> simp [embedV, M3.mulVec, lift, P3.dot]
  · rw [← area_identity p c o fs h]
    apply sumf_congr; intro f _; rw [hdot]
  · have e1 : ∀ f ∈ fs, P3.smul (f.s * ((embedP R b ⟨f.mx, f.my⟩).sub (embedP R b o)).dot (embedV R ⟨f.nx p, f.ny p⟩))
          ((embedP R b ⟨f.mx, f.my⟩).sub (embedP R b o))
        = P3.smul (f.s * ((f.mx - o.x) * f.nx p + (f.my - o.y) * f.ny p)) (embedV R ⟨f.mx - o.x, f.my - o.y⟩) := by
      intro f _; rw [hdot, embedP_sub]
    rw [sum3_congr e1, sum3_smul_embedV R (fun f : OFace => f.s * ((f.mx - o.x) * f.nx p + (f.my - o.y) * f.ny p))
      (fun f => f.mx - o.x) (fun f => f.my - o.y) fs, (centroid_identity p c o fs h).1, (centroid_identity p c o fs h).2,
      ← embedV_smul]

/-- embedded 1-D cell: nodes `x0 + ξ e` on a line with unit direction `e` in 3-D (`x0` a point of the line);
    the identities of `line_cell_identities` as vector statements. -/
theorem line_cell_identities_embedded (e x0 : P3) (he : e.dot e = 1) (ξ1 ξ2 s1 s2 : Rat) (hne : ξ1 ≠ ξ2)
    (h1 : s1 = 1 ∨ s1 = -1) (h2 : s2 = 1 ∨ s2 = -1) :
    let c := (ξ1 + ξ2) / 2
    let V := absR (ξ1 - ξ2)
    let n1 := P3.smul (lineFlip ξ1 c s1) e
    let n2 := P3.smul (lineFlip ξ2 c s2) e
    let x1 := x0.add (P3.smul ξ1 e)
    let x2 := x0.add (P3.smul ξ2 e)
    let xc := x0.add (P3.smul c e)
    n1.dot n1 = 1 ∧ n2.dot n2 = 1
    ∧ 0 < s1 * n1.dot (x1.sub xc) ∧ 0 < s2 * n2.dot (x2.sub xc)
    ∧ (P3.smul s1 n1).add (P3.smul s2 n2) = P3.zero
    ∧ s1 * (x1.sub x0).dot n1 + s2 * (x2.sub x0).dot n2 = V
    ∧ (P3.smul (s1 * (x1.sub x0).dot n1) (x1.sub x0)).add (P3.smul (s2 * (x2.sub x0).dot n2) (x2.sub x0))
        = P3.smul (2 * V) (xc.sub x0) := by
  intro c V n1 n2 x1 x2 xc
  obtain ⟨a1, a2, a3, a4, a5⟩ := line_cell_identities ξ1 ξ2 s1 s2 hne h1 h2
  have hfl : ∀ ξ s : Rat, lineFlip ξ c s * lineFlip ξ c s = 1 := by
    intro ξ s; unfold lineFlip; split <;> ring
  have hd : ∀ a b : Rat, (P3.smul a e).dot (P3.smul b e) = a * b := by
    intro a b; rw [P3.dot_smul_left, P3.dot_smul_right, he]; ring
  -- every point is `x0 + ξ e`
  have hsub : ∀ a b : Rat, (x0.add (P3.smul a e)).sub (x0.add (P3.smul b e)) = P3.smul (a - b) e := by
    intro a b; ext <;> simp only [P3.sub_x, P3.sub_y, P3.sub_z, P3.add_x, P3.add_y, P3.add_z, P3.smul_x, P3.smul_y, P3.smul_z] <;> ring
  have hsub0 : ∀ a : Rat, (x0.add (P3.smul a e)).sub x0 = P3.smul a e := by
    intro a; ext <;> simp only [P3.sub_x, P3.sub_y, P3.sub_z, P3.add_x, P3.add_y, P3.add_z] <;> ring
  have hx1 : x1.sub x0 = P3.smul ξ1 e := hsub0 ξ1
  have hx2 : x2.sub x0 = P3.smul ξ2 e := hsub0 ξ2
  have hxc : xc.sub x0 = P3.smul c e := hsub0 c
  have hc1 : x1.sub xc = P3.smul (ξ1 - c) e := hsub ξ1 c
  have hc2 : x2.sub xc = P3.smul (ξ2 - c) e := hsub ξ2 c
  refine ⟨?_, ?_, ?_, ?_, ?_, ?_, ?_⟩
  · show (P3.smul _ e).dot (P3.smul _ e) = 1; rw [hd]; exact hfl _ _
  · show (P3.smul _ e).dot (P3.smul _ e) = 1; rw [hd]; exact hfl _ _
  · rw [hc1]; show 0 < s1 * (P3.smul _ e).dot (P3.smul _ e); rw [hd, ← mul_assoc]; exact a1
  · rw [hc2]; show 0 < s2 * (P3.smul _ e).dot (P3.smul _ e); rw [hd, ← mul_assoc]; exact a2
  · ext
    · simp only [P3.add_x, P3.smul_x, P3.zero_x, n1, n2]
      linear_combination e.x * a3
    · simp only [P3.add_y, P3.smul_y, P3.zero_y, n1, n2]
      linear_combination e.y * a3
    · simp only [P3.add_z, P3.smul_z, P3.zero_z, n1, n2]
      linear_combination e.z * a3
  · rw [hx1, hx2]; show s1 * (P3.smul _ e).dot (P3.smul _ e) + s2 * (P3.smul _ e).dot (P3.smul _ e) = V
    rw [hd, hd]; linarith
  · rw [hx1, hx2, hxc]
    show (P3.smul (s1 * (P3.smul _ e).dot (P3.smul _ e)) _).add (P3.smul (s2 * (P3.smul _ e).dot (P3.smul _ e)) _) = _
    rw [hd, hd]
    ext
    · simp only [P3.add_x, P3.smul_x]; linear_combination e.x * a5
    · simp only [P3.add_y, P3.smul_y]; linear_combination e.y * a5
    · simp only [P3.add_z, P3.smul_z]; linear_combination e.z * a5


/-- … with the cell centre returned by the model: Σ sign ((x_f−O)·n_f)(x_f−O) = 3·V·(Φ(ctr) − O). -/
theorem embedded_centroid_div (R : M3) (b : P3) (hR : R.Orth) (p : Rat) (c o ctr : P2) (fs : List OFace) (h : Closed fs)
    (hc : centroidOf (wOriented p c) c fs = some ctr) :
    sum3 (fun f => P3.smul (f.s * ((embedP R b ⟨f.mx, f.my⟩).sub (embedP R b o)).dot (embedV R ⟨f.nx p, f.ny p⟩))
          ((embedP R b ⟨f.mx, f.my⟩).sub (embedP R b o))) fs
      = P3.smul (3 * cellArea p c fs) ((embedP R b ctr).sub (embedP R b o)) := by
  rw [(embedded_cell_identities R b hR p c o fs h).2.2.2, embedP_sub, ← embedV_smul, ← embedV_smul]
  obtain ⟨_, hcx, hcy⟩ := centroidOf_eq_some hc
  simp only [cellArea, cellMomX, cellMomY]
  rw [← hcx, ← hcy]
  congr 2 <;> ring

/-- Convex cells with outward oriented faces have positive computed volume: they are star-shaped about the
    temporary centre the code uses (`convex_cell_star`). -/
theorem convex_cell_volume_pos (cell : Cell3) (hne : cell ≠ []) (hpl : PlanarStar cell) (hnp : NodesPlanar cell)
    (hc : ConvexCell cell) : 0 < cellVol3 (tempCenter3 cell) cell :=
  (star_cell_volume_pos cell _ hne hpl hnp (convex_cell_star cell hc)).2.2

/-- Tetrahedron with positive orientation `((p1−p0)×(p2−p0))·(p3−p0) > 0`: all hypotheses of the general theorems
    hold, the computed volume is det/6, all sub-tetrahedra about the code's centre are ≥ 0. -/
theorem tet_cell_positive (p0 p1 p2 p3 : P3) (hdet : 0 < det3 (p1.sub p0) (p2.sub p0) (p3.sub p0)) :
    EdgePaired (tetCell p0 p1 p2 p3) ∧ PlanarStar (tetCell p0 p1 p2 p3) ∧ NodesPlanar (tetCell p0 p1 p2 p3)
    ∧ StarAbout (tempCenter3 (tetCell p0 p1 p2 p3)) (tetCell p0 p1 p2 p3)
    ∧ (∀ tc, cellVol3 tc (tetCell p0 p1 p2 p3) = det3 (p1.sub p0) (p2.sub p0) (p3.sub p0) / 6)
    ∧ (∀ f ∈ tetCell p0 p1 p2 p3, ∀ e ∈ cycEdges f.1, 0 ≤ tetVol (tempCenter3 (tetCell p0 p1 p2 p3)) f e)
    ∧ 0 < cellVol3 (tempCenter3 (tetCell p0 p1 p2 p3)) (tetCell p0 p1 p2 p3) := by
  obtain ⟨h1, h2, h3, h4, _, h6, h7⟩ := (tet_regular p0 p1 p2 p3).positive (by positivity)
  exact ⟨h1, h2, h3, h4, fun tc => tet_volume p0 p1 p2 p3 tc hdet.ne', h6, h7⟩

/-- Parallelepiped `p + [0,1]u + [0,1]v + [0,1]w` (every affine image of a Cartesian cell, node order and signs of
    the tensor constructor) with `(u×v)·w > 0`: all hypotheses hold, the computed volume is the determinant,
    all sub-tetrahedra are ≥ 0. -/
theorem para_cell_positive (p u v w : P3) (hdet : 0 < det3 u v w) :
    EdgePaired (paraCell p u v w) ∧ PlanarStar (paraCell p u v w) ∧ NodesPlanar (paraCell p u v w)
    ∧ StarAbout (tempCenter3 (paraCell p u v w)) (paraCell p u v w)
    ∧ (∀ tc, cellVol3 tc (paraCell p u v w) = det3 u v w)
    ∧ (∀ f ∈ paraCell p u v w, ∀ e ∈ cycEdges f.1, 0 ≤ tetVol (tempCenter3 (paraCell p u v w)) f e)
    ∧ 0 < cellVol3 (tempCenter3 (paraCell p u v w)) (paraCell p u v w) := by
  obtain ⟨h1, h2, h3, h4, _, h6, h7⟩ := (para_regular p u v w).positive (by positivity)
  exact ⟨h1, h2, h3, h4, fun tc => para_volume p u v w tc hdet.ne', h6, h7⟩

/-- Everything at once for a cell that passes the decidable conditions the driver evaluates (`cellHypB`): -/
theorem checked_cell_3d (cell : Cell3) (o : P3) (h : cellHypB cell = true) :
    let tc := tempCenter3 cell
    (∀ f ∈ cell, faceArea2 f.1 = (faceN f.1).dot (faceN f.1))
    ∧ (∀ f ∈ cell, ∀ e ∈ cycEdges f.1, 0 ≤ tetVol tc f e) ∧ 0 < cellVol3 tc cell
    ∧ (∀ f ∈ cell, 0 < f.2 * ((mean3 f.1).sub tc).dot (faceN f.1))
    ∧ sum3 (fun f => P3.smul f.2 (faceN f.1)) cell = P3.zero
    ∧ sumf (fun f => f.2 * ((faceCtr f.1).sub o).dot (faceN f.1)) cell = 3 * cellVol3 tc cell
    ∧ sum3 (fun f => P3.smul (f.2 * ((faceCtr f.1).sub o).dot (faceN f.1)) ((faceCtr f.1).sub o)) cell
        = P3.smul (4 * cellVol3 tc cell) ((cellCtr3 cell).sub o) := by
  intro tc
  simp only [cellHypB, Bool.and_eq_true, Bool.not_eq_true', List.isEmpty_eq_false_iff] at h
  obtain ⟨⟨⟨⟨hne, hp⟩, hpl⟩, hnp⟩, hst⟩ := h
  have hp := edgePairedB_sound cell hp
  have hpl := planarStarB_sound cell hpl
  have hnp := nodesPlanarB_sound cell hnp
  have hst := starAboutB_sound _ cell hst
  have hpos := star_cell_volume_pos cell tc hne hpl hnp hst
  refine ⟨fun f hf => face_area_sq_aux f.1 (hpl f hf).1 (hpl f hf).2, hpos.1, hpos.2.2, hst,
    closed_cell_3d cell hp, volume_identity_3d cell tc o hp hpl, ?_⟩
  exact centroid_identity_3d_div cell o hp hpl hnp (ne_of_gt hpos.2.2)

example : cellHypB (tetCell ⟨0, 0, 0⟩ ⟨1, 0, 0⟩ ⟨0, 1, 0⟩ ⟨0, 0, 1⟩) = true := by decide +kernel
example : cellHypB (tensorCell3 0 1 0 2 1 (3 / 2)) = true := by decide +kernel


/-- `leftOf f` is affine and the centroid `M / V` is the mean, with the weights `w_g`, of the sub-triangle centroids
    `(c + a_g + b_g) / 3` -/
theorem leftOf_moment (f : OFace) (w : OFace → Rat) (c ctr : P2) (fs : List OFace)
    (hx : cellAreaW w fs * ctr.x = cellMomXW w c fs) (hy : cellAreaW w fs * ctr.y = cellMomYW w c fs) :
    cellAreaW w fs * leftOf f ctr = sumf (fun g => w g * ((leftOf f c + (leftOf f g.a + leftOf f g.b)) / 3)) fs := by
  have h : ∀ l : List OFace,
      f.tx * (cellMomYW w c l - cellAreaW w l * f.a.y) - f.ty * (cellMomXW w c l - cellAreaW w l * f.a.x)
        = sumf (fun g => w g * ((leftOf f c + (leftOf f g.a + leftOf f g.b)) / 3)) l := by
    intro l
    induction l with
    | nil => simp [cellMomYW, cellMomXW, cellAreaW]
    | cons g l ih =>
      simp only [cellMomYW, cellMomXW, cellAreaW, sumf_cons, leftOf, OFace.mx, OFace.my] at ih ⊢
      linear_combination ih
  rw [← h fs, leftOf]
  linear_combination f.tx * hy - f.ty * hx

/-- Outward orientation with respect to the COMPUTED cell centre: for a counter-clockwise convex cell the
    face normal times the sign points away from the centroid the model returns, for every face. -/
theorem convex_ccw_outward_centroid (fs : List OFace) (hne : fs ≠ []) (hs : ∀ f ∈ fs, f.s = 1)
    (hconv : ∀ f ∈ fs, (∀ g ∈ fs, 0 ≤ leftOf f g.a ∧ 0 ≤ leftOf f g.b)
                      ∧ ∃ g ∈ fs, 0 < leftOf f g.a + leftOf f g.b)
    (ctr : P2) (hc : centroidOf (wOriented 1 (tempCenter fs)) (tempCenter fs) fs = some ctr) :
    ∀ f ∈ fs, 0 < f.s * (f.nx 1 * (f.mx - ctr.x) + f.ny 1 * (f.my - ctr.y)) := by
  obtain ⟨hsub, hV⟩ := convex_ccw_area_pos fs hne hs hconv
  obtain ⟨_, hcx, hcy⟩ := centroidOf_eq_some hc
  intro f hf
  have hl : f.s * (f.nx 1 * (f.mx - ctr.x) + f.ny 1 * (f.my - ctr.y)) = leftOf f ctr := by
    rw [hs f hf]; simp only [OFace.nx, OFace.ny, OFace.mx, OFace.my, OFace.tx, OFace.ty, leftOf]; ring
  have htc : 0 < leftOf f (tempCenter fs) := by
    have := subZ_eq_leftOf f (tempCenter fs) (hs f hf)
    have h2 := hsub f hf
    simp only [wOriented] at h2
    linarith
  rw [hl, ← mul_pos_iff_of_pos_left hV, cellArea, leftOf_moment f _ _ ctr fs hcx hcy]
  exact sumf_pos hne fun g hg =>
    mul_pos (hsub g hg) (by linarith [((hconv f hf).1 g hg).1, ((hconv f hf).1 g hg).2])

/-- 1-D: positive cell volume for distinct end points. -/
theorem line_volume_pos (ξ1 ξ2 : Rat) (hne : ξ1 ≠ ξ2) : 0 < absR (ξ1 - ξ2) := absR_pos (sub_ne_zero.mpr hne)

/-- Sum of the cell volumes = boundary integral: for closed cells, if the list of all (cell, face) sides is a
    permutation of the boundary sides `B` followed by interior faces seen from both sides with opposite signs,
    then `2 Σ V = Σ_{B} sign · x_f·n_f` — the total measure depends on the boundary faces only, so moving
    interior nodes (which keeps the cells closed) cannot change it. -/
theorem volumes_sum_boundary (p : Rat) (cells : List (List OFace)) (c : List OFace → P2)
    (hcl : ∀ fs ∈ cells, Closed fs) (B I : List OFace)
    (hperm : (cells.flatMap id).Perm (B ++ I.flatMap (fun f => [f, ⟨f.a, f.b, -f.s⟩]))) :
    2 * sumf (fun fs => cellArea p (c fs) fs) cells = sumf (fun f => f.s * (f.mx * f.nx p + f.my * f.ny p)) B := by
  have h1 : ∀ fs ∈ cells, 2 * cellArea p (c fs) fs = sumf (fun f => f.s * (f.mx * f.nx p + f.my * f.ny p)) fs := by
    intro fs hfs
    rw [← area_identity p (c fs) ⟨0, 0⟩ fs (hcl fs hfs)]
    apply sumf_congr; intro f _; ring
  rw [← sumf_mul_left, sumf_congr h1]
  have h2 := sumf_flatMap (fun f : OFace => f.s * (f.mx * f.nx p + f.my * f.ny p)) id cells
  simp only [id] at h2
  rw [← h2, sumf_perm _ hperm, sumf_append, sumf_flatMap]
  have : sumf (fun a : OFace => sumf (fun f : OFace => f.s * (f.mx * f.nx p + f.my * f.ny p)) [a, ⟨a.a, a.b, -a.s⟩]) I = 0 := by
    rw [← sumf_zero I]
    apply sumf_congr; intro a _
    simp only [sumf_cons, sumf_nil, OFace.mx, OFace.my, OFace.nx, OFace.ny, OFace.tx, OFace.ty]; ring
  rw [this]; ring

/-- two unit squares sharing a face: the sides are the six boundary sides plus the shared face seen twice -/
example : ([tensorCell 0 1 0 1, tensorCell 1 2 0 1].flatMap id).Perm
    ([⟨⟨0, 0⟩, ⟨0, 1⟩, -1⟩, ⟨⟨1, 0⟩, ⟨0, 0⟩, -1⟩, ⟨⟨1, 1⟩, ⟨0, 1⟩, 1⟩, ⟨⟨2, 0⟩, ⟨2, 1⟩, 1⟩, ⟨⟨2, 0⟩, ⟨1, 0⟩, -1⟩, ⟨⟨2, 1⟩, ⟨1, 1⟩, 1⟩]
      ++ [(⟨⟨1, 0⟩, ⟨1, 1⟩, 1⟩ : OFace)].flatMap (fun f => [f, ⟨f.a, f.b, -f.s⟩])) := by
  decide +kernel


/-
Not proved (checked by the oracle on the real code only):
* that a face whose two sides disagree in the legacy path (non-convex cell) gets a meaningful normal — the code
  itself calls this decision arbitrary;
* the hypotheses `EdgePaired` / `PlanarStar` / `NodesPlanar` / `ConvexCell` for polyhedra other than tetrahedra
  and parallelepipeds (they are assumptions on the grid there).
-/

/-- an L-shaped (non-convex) hexagon, clockwise faces mixed in via sign −1 -/
def exL : List OFace :=
  [⟨⟨0, 0⟩, ⟨2, 0⟩, 1⟩, ⟨⟨2, 1⟩, ⟨2, 0⟩, -1⟩, ⟨⟨2, 1⟩, ⟨1, 1⟩, 1⟩, ⟨⟨1, 1⟩, ⟨1, 2⟩, 1⟩, ⟨⟨0, 2⟩, ⟨1, 2⟩, -1⟩, ⟨⟨0, 2⟩, ⟨0, 0⟩, 1⟩]

example : orientedCell 6 [(0, 1, 1), (2, 1, -1), (2, 3, 1), (3, 4, 1), (5, 4, -1), (5, 0, 1)] = true := by decide +kernel
example : cellArea 1 (tempCenter exL) exL = 3 := by decide +kernel
example : centroidOf (wOriented 1 (tempCenter exL)) (tempCenter exL) exL = some ⟨5 / 6, 5 / 6⟩ := by decide +kernel
example : sumf (fun f => f.s * ((f.mx - 7) * f.nx 1 + (f.my - 3) * f.ny 1)) exL = 6 := by decide +kernel
example : polyFaces [⟨0, 0⟩, ⟨2, 0⟩, ⟨0, 1⟩] = [⟨⟨0, 0⟩, ⟨2, 0⟩, 1⟩, ⟨⟨2, 0⟩, ⟨0, 1⟩, 1⟩, ⟨⟨0, 1⟩, ⟨0, 0⟩, 1⟩] := by decide +kernel
example : cellArea 1 ⟨5, 5⟩ (polyFaces [⟨0, 0⟩, ⟨2, 0⟩, ⟨0, 1⟩]) = 1 := by decide +kernel
/-- the unit square is convex and counter-clockwise in the sense of `convex_ccw_area_pos` -/
example : let fs := polyFaces [⟨0, 0⟩, ⟨1, 0⟩, ⟨1, 1⟩, ⟨0, 1⟩]
    (∀ f ∈ fs, f.s = 1) ∧ ∀ f ∈ fs, (∀ g ∈ fs, 0 ≤ leftOf f g.a ∧ 0 ≤ leftOf f g.b) ∧ ∃ g ∈ fs, 0 < leftOf f g.a + leftOf f g.b := by
  decide +kernel
example : tensorVolumeSum [0, 1, 3] [-1, 1 / 2] = 9 / 2 := by decide +kernel
example : (geom2 ⟨[⟨0, 0⟩, ⟨1, 0⟩, ⟨1, 1⟩, ⟨0, 1⟩], [(0, 1), (1, 2), (2, 3), (3, 0)], [[(0, 1), (1, 1), (2, 1), (3, 1)]]⟩ 1).oriented = true := by
  decide +kernel
example : lineFlip 0 (1 / 2) 1 = -1 ∧ lineFlip 1 (1 / 2) 1 = 1 := by decide +kernel
/-- unit tetrahedron: the directed edges pair up (the hypothesis of `paired_of_perm`) -/
example : (dirEdges (tetCell ⟨0, 0, 0⟩ ⟨1, 0, 0⟩ ⟨0, 1, 0⟩ ⟨0, 0, 1⟩)).Perm
    ((dirEdges (tetCell ⟨0, 0, 0⟩ ⟨1, 0, 0⟩ ⟨0, 1, 0⟩ ⟨0, 0, 1⟩)).map Prod.swap) := by decide +kernel
example : ∀ f ∈ tetCell ⟨0, 0, 0⟩ ⟨1, 0, 0⟩ ⟨0, 1, 0⟩ ⟨0, 0, 1⟩, (faceN f.1).dot (faceN f.1) ≠ 0 := by decide +kernel
/-- legacy path: a clockwise stored unit square with arbitrary signs, seen from its centre -/
example : let fs : List OFace := [⟨⟨1, 0⟩, ⟨0, 0⟩, 1⟩, ⟨⟨1, 0⟩, ⟨1, 1⟩, -1⟩, ⟨⟨0, 1⟩, ⟨1, 1⟩, 1⟩, ⟨⟨0, 1⟩, ⟨0, 0⟩, -1⟩]
    (∀ f ∈ fs, f.chi (tempCenter fs) ≠ 0) ∧ fs.map (reorient (tempCenter fs)) = polyFaces [⟨0, 0⟩, ⟨1, 0⟩, ⟨1, 1⟩, ⟨0, 1⟩]
    ∧ cellAreaW (wAbs (tempCenter fs)) fs = 1 := by decide +kernel
/-- a rational rotation (Cayley) is orthogonal -/
example : M3.Orth ⟨⟨1 / 3, -2 / 3, 2 / 3⟩, ⟨2 / 3, 2 / 3, 1 / 3⟩, ⟨-2 / 3, 1 / 3, 2 / 3⟩⟩ := by
  unfold M3.Orth; norm_num
example : (⟨3 / 5, 4 / 5, 0⟩ : P3).dot ⟨3 / 5, 4 / 5, 0⟩ = 1 := by decide +kernel
example : 0 < det3 ⟨1, 0, 0⟩ ⟨1, 2, 0⟩ ⟨1 / 2, 1, 3⟩ := by decide +kernel
/-- the unit cube is convex in the sense of `ConvexCell` -/
example : ∀ f ∈ paraCell ⟨0, 0, 0⟩ ⟨1, 0, 0⟩ ⟨0, 1, 0⟩ ⟨0, 0, 1⟩, 0 < (f.1.length : Rat) ∧
    (∀ g ∈ paraCell ⟨0, 0, 0⟩ ⟨1, 0, 0⟩ ⟨0, 1, 0⟩ ⟨0, 0, 1⟩, f.2 * ((faceCtr g.1).sub (mean3 f.1)).dot (faceN f.1) ≤ 0) ∧
    ∃ g ∈ paraCell ⟨0, 0, 0⟩ ⟨1, 0, 0⟩ ⟨0, 1, 0⟩ ⟨0, 0, 1⟩, f.2 * ((faceCtr g.1).sub (mean3 f.1)).dot (faceN f.1) < 0 := by
  decide +kernel
example : tensorVolumeSum3 [0, 1, 3] [0, 2] [1, 3 / 2] = 3 := by
  rw [cart_volumes_sum_3d 0 0 1 [1, 3] [2] [3 / 2] (by decide +kernel) (by decide +kernel) (by decide +kernel)]
  norm_num [lastD]
example : ∀ p ∈ pairs [0, 1, 3], p.1 ≠ p.2 := by decide +kernel
example : NodesPlanar (tetCell ⟨0, 0, 0⟩ ⟨1, 0, 0⟩ ⟨0, 1, 0⟩ ⟨0, 0, 1⟩) := tet_nodesPlanar _ _ _ _
example : cellCtr3 (tetCell ⟨0, 0, 0⟩ ⟨1, 0, 0⟩ ⟨0, 1, 0⟩ ⟨0, 0, 1⟩) = ⟨1 / 4, 1 / 4, 1 / 4⟩ := by decide +kernel
example : cellVol3 (tempCenter3 (tetCell ⟨0, 0, 0⟩ ⟨1, 0, 0⟩ ⟨0, 1, 0⟩ ⟨0, 0, 1⟩)) (tetCell ⟨0, 0, 0⟩ ⟨1, 0, 0⟩ ⟨0, 1, 0⟩ ⟨0, 0, 1⟩) = 1 / 6 := by
  have hdet : det3 ((⟨1, 0, 0⟩ : P3).sub ⟨0, 0, 0⟩) ((⟨0, 1, 0⟩ : P3).sub ⟨0, 0, 0⟩) ((⟨0, 0, 1⟩ : P3).sub ⟨0, 0, 0⟩) = 1 := by
    decide +kernel
  rw [tet_volume _ _ _ _ _ (by rw [hdet]; norm_num), hdet]

end PorepyVerif.C19
