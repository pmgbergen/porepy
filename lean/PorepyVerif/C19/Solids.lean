/-
C19 — the cells for which all hypotheses of the general theorems are proved: cells with uniform faces and equal cones
about their centre (`RegularCell`), instantiated for the tetrahedron and the parallelepiped; the Cartesian cell is a
parallelepiped.
-/
import PorepyVerif.C19.Space

namespace PorepyVerif.C19

/-- A face cut by its node average into `n` congruent sub-triangles (triangles, parallelograms): every sub-normal is
    `N / n`, and the node average is the mean of the sub-centroids. -/
structure UniformFace (vs : List P3) (n : Rat) : Prop where
  pos : 0 < n
  subN_eq : ∀ e ∈ cycEdges vs, subN (mean3 vs) e = P3.smul (1 / n) (faceN vs)
  subC_sum : ∀ r : P3, sumf (fun e => (subC (mean3 vs) e).dot r) (cycEdges vs) = n * (mean3 vs).dot r

theorem UniformFace.starFace {vs : List P3} {n : Rat} (h : UniformFace vs n) : StarFace vs := by
  intro e he
  rw [h.subN_eq e he, P3.dot_smul_left]
  refine ⟨mul_nonneg (one_div_nonneg.mpr h.pos.le) (P3.dot_self_nonneg _), ?_⟩
  ext <;> simp only [P3.smul_x, P3.smul_y, P3.smul_z] <;> ring

/-- The sub-normal `(b − a) × (m − a) / 2` of the edge leaving `a` is perpendicular to `a − m`. -/
theorem UniformFace.nodesPlanar {vs : List P3} {n : Rat} (h : UniformFace vs n) :
    ∀ v ∈ vs, (v.sub (mean3 vs)).dot (faceN vs) = 0 := by
  intro v hv
  obtain ⟨e, he, rfl⟩ : ∃ e ∈ cycEdges vs, e.1 = v := by
    cases vs with
    | nil => cases hv
    | cons a l => exact exists_pathEdge_start hv
  have h0 : (subN (mean3 vs) e).dot (e.1.sub (mean3 vs)) = 0 := by
    simp only [subN, P3.dot, P3.smul, P3.cross, P3.sub]; ring
  rw [h.subN_eq e he, P3.dot_smul_left, P3.dot_comm] at h0
  exact (mul_eq_zero.mp h0).resolve_left (one_div_ne_zero h.pos.ne')

theorem UniformFace.faceCtr {vs : List P3} {n : Rat} (h : UniformFace vs n) (hN : (faceN vs).dot (faceN vs) ≠ 0) :
    faceCtr vs = mean3 vs := by
  have hn := h.pos.ne'
  have hshare : ∀ e ∈ cycEdges vs, faceShare vs e = 1 / n := fun e he => by
    rw [faceShare, h.subN_eq e he, P3.dot_smul_left]; field_simp
  apply P3.ext_dot; intro r
  rw [faceCtr_eq vs hN h.starFace, dot_sum3, sumf_congr fun e he => by rw [P3.dot_smul_left, hshare e he], sumf_mul_left,
    h.subC_sum r]
  field_simp

theorem tri_mean (a b c : P3) : mean3 [a, b, c] = P3.smul (1 / 3) ((a.add b).add c) := by
  ext <;> simp [mean3] <;> ring

theorem quad_mean (a b c d : P3) : mean3 [a, b, c, d] = P3.smul (1 / 4) (((a.add b).add c).add d) := by
  ext <;> simp [mean3] <;> ring

theorem tri_faceN (a b c : P3) : faceN [a, b, c] = P3.smul (1 / 2) ((b.sub a).cross (c.sub a)) := by
  rw [faceN_eq]; ext <;> simp [cycEdges, pathEdges] <;> ring

theorem quad_faceN (a b c d : P3) : faceN [a, b, c, d] = P3.smul (1 / 2) ((c.sub a).cross (d.sub b)) := by
  rw [faceN_eq]; ext <;> simp [cycEdges, pathEdges] <;> ring

theorem tri_uniform (a b c : P3) : UniformFace [a, b, c] 3 := by
  refine ⟨by norm_num, fun e he => ?_, fun r => ?_⟩
  · simp only [cycEdges, pathEdges, List.mem_cons, List.not_mem_nil, or_false] at he
    rw [tri_faceN, tri_mean]
    rcases he with rfl | rfl | rfl <;> ext <;> simp only [subN, P3.smul, P3.cross, P3.sub, P3.add] <;> ring
  · simp only [tri_mean, cycEdges, pathEdges, sumf_cons, sumf_nil, subC, P3.dot, P3.smul, P3.add]; ring

theorem pgram_uniform (a b c d : P3) (hd : d = (a.add c).sub b) : UniformFace [a, b, c, d] 4 := by
  subst hd
  refine ⟨by norm_num, fun e he => ?_, fun r => ?_⟩
  · simp only [cycEdges, pathEdges, List.mem_cons, List.not_mem_nil, or_false] at he
    rw [quad_faceN, quad_mean]
    rcases he with rfl | rfl | rfl | rfl <;> ext <;> simp only [subN, P3.smul, P3.cross, P3.sub, P3.add] <;> ring
  · simp only [quad_mean, cycEdges, pathEdges, sumf_cons, sumf_nil, subC, P3.dot, P3.smul, P3.add]; ring

/-- A closed cell with uniform faces, all of whose cones about `ctr` have volume `κ / 3`, `ctr` being the edge-weighted
    average of the face node averages (tetrahedra, parallelepipeds): for `κ ≠ 0` the hypotheses of the general theorems
    hold, the code's temporary centre is `ctr` and the computed volume is one cone per face. -/
structure RegularCell (cell : Cell3) (n : Rat) (ctr : P3) (κ : Rat) : Prop where
  ne : cell ≠ []
  paired : EdgePaired cell
  uniform : ∀ f ∈ cell, UniformFace f.1 n
  cone : ∀ f ∈ cell, f.2 * ((mean3 f.1).sub ctr).dot (faceN f.1) = κ
  centre : P3.smul (1 / numEdges cell) (sum3 (fun f => P3.smul (f.1.length : Rat) (mean3 f.1)) cell) = ctr

theorem planarStar_of_uniform {cell : Cell3} {n : Rat} (hu : ∀ f ∈ cell, UniformFace f.1 n)
    (hnd : ∀ f ∈ cell, (faceN f.1).dot (faceN f.1) ≠ 0) : PlanarStar cell := fun f hf =>
  ⟨hnd f hf, (hu f hf).starFace⟩

namespace RegularCell
variable {cell : Cell3} {n : Rat} {ctr : P3} {κ : Rat} (h : RegularCell cell n ctr κ)
include h

theorem nondegenerate (hκ : κ ≠ 0) : ∀ f ∈ cell, (faceN f.1).dot (faceN f.1) ≠ 0 := fun f hf =>
  dot_self_ne_zero (k := f.2) hκ (by rw [P3.dot_comm, ← h.cone f hf])

theorem planarStar (hκ : κ ≠ 0) : PlanarStar cell := planarStar_of_uniform h.uniform (h.nondegenerate hκ)

theorem nodesPlanar : NodesPlanar cell := fun f hf => (h.uniform f hf).nodesPlanar

theorem faceCtr_eq (hκ : κ ≠ 0) : ∀ f ∈ cell, faceCtr f.1 = mean3 f.1 := fun f hf =>
  (h.uniform f hf).faceCtr (h.nondegenerate hκ f hf)

/-- the divergence theorem about `ctr`: one cone of `κ / 3` per face -/
theorem volume (hκ : κ ≠ 0) (tc : P3) : cellVol3 tc cell = (cell.length : Rat) * κ / 3 := by
  have hv := volume_identity_3d cell tc ctr h.paired (h.planarStar hκ)
  rw [sumf_congr fun f hf => by rw [h.faceCtr_eq hκ f hf, h.cone f hf], sumf_const] at hv
  linarith

theorem tempCenter (hκ : κ ≠ 0) : tempCenter3 cell = ctr := by
  unfold tempCenter3
  rw [sum3_congr fun f hf => by rw [h.faceCtr_eq hκ f hf], h.centre]

theorem star (hκ : 0 < κ) : StarAbout (tempCenter3 cell) cell := by
  rw [h.tempCenter hκ.ne']
  intro f hf
  rw [h.cone f hf]; exact hκ

theorem positive (hκ : 0 < κ) :
    EdgePaired cell ∧ PlanarStar cell ∧ NodesPlanar cell ∧ StarAbout (tempCenter3 cell) cell
    ∧ (∀ tc, cellVol3 tc cell = (cell.length : Rat) * κ / 3)
    ∧ (∀ f ∈ cell, ∀ e ∈ cycEdges f.1, 0 ≤ tetVol (tempCenter3 cell) f e)
    ∧ 0 < cellVol3 (tempCenter3 cell) cell := by
  have hpos := star_cell_volume_pos cell _ h.ne (h.planarStar hκ.ne') h.nodesPlanar (h.star hκ)
  exact ⟨h.paired, h.planarStar hκ.ne', h.nodesPlanar, h.star hκ, h.volume hκ.ne', hpos.1, hpos.2.2⟩

end RegularCell

theorem tet_paired (p0 p1 p2 p3 : P3) : EdgePaired (tetCell p0 p1 p2 p3) := by
  intro G hG
  simp only [dirEdgeSum, tetCell, cycEdges, pathEdges, sumf_cons, sumf_nil]
  have h1 := hG p0 p2
  have h2 := hG p2 p1
  have h3 := hG p1 p0
  have h4 := hG p1 p3
  have h5 := hG p3 p0
  have h6 := hG p2 p3
  linarith

theorem tet_cone (p0 p1 p2 p3 : P3) : ∀ f ∈ tetCell p0 p1 p2 p3,
    f.2 * ((mean3 f.1).sub (P3.smul (1 / 4) (((p0.add p1).add p2).add p3))).dot (faceN f.1)
      = det3 (p1.sub p0) (p2.sub p0) (p3.sub p0) / 8 := by
  intro f hf
  simp only [tetCell, List.mem_cons, List.not_mem_nil, or_false] at hf
  rcases hf with rfl | rfl | rfl | rfl <;>
  · simp only [tri_mean, tri_faceN, det3, P3.dot, P3.smul, P3.cross, P3.sub, P3.add]; ring

theorem tet_uniform (p0 p1 p2 p3 : P3) : ∀ f ∈ tetCell p0 p1 p2 p3, UniformFace f.1 3 := by
  intro f hf
  simp only [tetCell, List.mem_cons, List.not_mem_nil, or_false] at hf
  rcases hf with rfl | rfl | rfl | rfl <;> exact tri_uniform _ _ _

theorem tet_regular (p0 p1 p2 p3 : P3) :
    RegularCell (tetCell p0 p1 p2 p3) 3 (P3.smul (1 / 4) (((p0.add p1).add p2).add p3))
      (det3 (p1.sub p0) (p2.sub p0) (p3.sub p0) / 8) where
  ne := List.cons_ne_nil _ _
  paired := tet_paired p0 p1 p2 p3
  uniform := tet_uniform p0 p1 p2 p3
  cone := tet_cone p0 p1 p2 p3
  centre := by
    simp only [tetCell, numEdges, sumf_cons, sumf_nil, sum3_cons, sum3_nil, tri_mean, List.length_cons, List.length_nil,
      Nat.cast_add, Nat.cast_one, Nat.cast_zero, P3.smul, P3.add, P3.zero, P3.mk.injEq]
    refine ⟨?_, ?_, ?_⟩ <;> ring

theorem tet_nondegenerate (p0 p1 p2 p3 : P3) (hdet : det3 (p1.sub p0) (p2.sub p0) (p3.sub p0) ≠ 0) :
    ∀ f ∈ tetCell p0 p1 p2 p3, (faceN f.1).dot (faceN f.1) ≠ 0 :=
  (tet_regular p0 p1 p2 p3).nondegenerate (div_ne_zero hdet (by norm_num))

theorem tet_planarStar (p0 p1 p2 p3 : P3)
    (hnd : ∀ f ∈ tetCell p0 p1 p2 p3, (faceN f.1).dot (faceN f.1) ≠ 0) : PlanarStar (tetCell p0 p1 p2 p3) :=
  planarStar_of_uniform (tet_uniform p0 p1 p2 p3) hnd

theorem tet_nodesPlanar (p0 p1 p2 p3 : P3) : NodesPlanar (tetCell p0 p1 p2 p3) := (tet_regular p0 p1 p2 p3).nodesPlanar

theorem tet_volume (p0 p1 p2 p3 tc : P3) (hdet : det3 (p1.sub p0) (p2.sub p0) (p3.sub p0) ≠ 0) :
    cellVol3 tc (tetCell p0 p1 p2 p3) = det3 (p1.sub p0) (p2.sub p0) (p3.sub p0) / 6 := by
  rw [(tet_regular p0 p1 p2 p3).volume (div_ne_zero hdet (by norm_num)) tc]
  simp only [tetCell, List.length_cons, List.length_nil]; ring

theorem tet_star (p0 p1 p2 p3 : P3) (hdet : 0 < det3 (p1.sub p0) (p2.sub p0) (p3.sub p0)) :
    StarAbout (tempCenter3 (tetCell p0 p1 p2 p3)) (tetCell p0 p1 p2 p3) :=
  (tet_regular p0 p1 p2 p3).star (by positivity)

theorem para_faces (p u v w : P3) : ∀ f ∈ paraCell p u v w,
    ∃ a b c d, f.1 = [a, b, c, d] ∧ d = (a.add c).sub b := by
  intro f hf
  simp only [paraCell, List.mem_cons, List.not_mem_nil, or_false] at hf
  rcases hf with rfl | rfl | rfl | rfl | rfl | rfl <;>
  · refine ⟨_, _, _, _, rfl, ?_⟩
    ext <;> simp only [P3.sub, P3.add] <;> ring

theorem para_cone (p u v w : P3) : ∀ f ∈ paraCell p u v w,
    f.2 * ((mean3 f.1).sub (p.add (P3.smul (1 / 2) ((u.add v).add w)))).dot (faceN f.1) = det3 u v w / 2 := by
  intro f hf
  simp only [paraCell, List.mem_cons, List.not_mem_nil, or_false] at hf
  rcases hf with rfl | rfl | rfl | rfl | rfl | rfl <;>
  · simp only [quad_mean, quad_faceN, det3, P3.dot, P3.smul, P3.cross, P3.sub, P3.add]; ring

theorem para_paired (p u v w : P3) : EdgePaired (paraCell p u v w) := by
  intro G hG
  simp only [dirEdgeSum, paraCell, cycEdges, pathEdges, sumf_cons, sumf_nil]
  have e1 := hG p (p.add v)
  have e2 := hG (p.add v) ((p.add v).add w)
  have e3 := hG ((p.add v).add w) (p.add w)
  have e4 := hG (p.add w) p
  have e5 := hG (p.add u) ((p.add u).add v)
  have e6 := hG ((p.add u).add v) (((p.add u).add v).add w)
  have e7 := hG (((p.add u).add v).add w) ((p.add u).add w)
  have e8 := hG ((p.add u).add w) (p.add u)
  have e9 := hG p (p.add u)
  have e10 := hG (p.add v) ((p.add u).add v)
  have e11 := hG ((p.add v).add w) (((p.add u).add v).add w)
  have e12 := hG (p.add w) ((p.add u).add w)
  linarith


theorem para_regular (p u v w : P3) :
    RegularCell (paraCell p u v w) 4 (p.add (P3.smul (1 / 2) ((u.add v).add w))) (det3 u v w / 2) where
  ne := List.cons_ne_nil _ _
  paired := para_paired p u v w
  uniform := fun f hf => by
    obtain ⟨a, b, c, d, hfe, hd⟩ := para_faces p u v w f hf
    exact hfe ▸ pgram_uniform a b c d hd
  cone := para_cone p u v w
  centre := by
    simp only [paraCell, numEdges, sumf_cons, sumf_nil, sum3_cons, sum3_nil, quad_mean, List.length_cons, List.length_nil,
      Nat.cast_add, Nat.cast_one, Nat.cast_zero, P3.smul, P3.add, P3.zero, P3.mk.injEq]
    refine ⟨?_, ?_, ?_⟩ <;> ring

theorem para_planarStar_cell (p u v w : P3) (hdet : det3 u v w ≠ 0) : PlanarStar (paraCell p u v w) :=
  (para_regular p u v w).planarStar (div_ne_zero hdet (by norm_num))

theorem para_nodesPlanar_cell (p u v w : P3) : NodesPlanar (paraCell p u v w) := (para_regular p u v w).nodesPlanar

theorem para_volume (p u v w tc : P3) (hdet : det3 u v w ≠ 0) : cellVol3 tc (paraCell p u v w) = det3 u v w := by
  rw [(para_regular p u v w).volume (div_ne_zero hdet (by norm_num)) tc]
  simp only [paraCell, List.length_cons, List.length_nil]; ring

theorem para_star (p u v w : P3) (hdet : 0 < det3 u v w) :
    StarAbout (tempCenter3 (paraCell p u v w)) (paraCell p u v w) :=
  (para_regular p u v w).star (by positivity)

/-- `TensorGrid._create_3d_grid` builds the parallelepiped spanned by the coordinate increments -/
theorem tensorCell3_eq_paraCell (x0 x1 y0 y1 z0 z1 : Rat) :
    tensorCell3 x0 x1 y0 y1 z0 z1 = paraCell ⟨x0, y0, z0⟩ ⟨x1 - x0, 0, 0⟩ ⟨0, y1 - y0, 0⟩ ⟨0, 0, z1 - z0⟩ := by
  simp [tensorCell3, paraCell, P3.add]

theorem det3_diag (a b c : Rat) : det3 ⟨a, 0, 0⟩ ⟨0, b, 0⟩ ⟨0, 0, c⟩ = a * b * c := by
  simp [det3, P3.dot, P3.cross]

theorem hex_paired (x0 x1 y0 y1 z0 z1 : Rat) : EdgePaired (tensorCell3 x0 x1 y0 y1 z0 z1) :=
  tensorCell3_eq_paraCell x0 x1 y0 y1 z0 z1 ▸ para_paired _ _ _ _

end PorepyVerif.C19
