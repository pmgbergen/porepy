/-
C19 — the general theory in 3-D: vector algebra of `P3` (equalities are proved along every direction, `P3.ext_dot`), the
rigid embedding of the plane, the closed surface, one planar star-shaped face (its sub-triangles as shares of the face),
the volume identity, positivity, the tensor identity behind the centroid identity, and the soundness of the Boolean
input conditions.
-/
import PorepyVerif.C19.Sums

namespace PorepyVerif.C19

@[ext] theorem P3.ext' {u v : P3} (hx : u.x = v.x) (hy : u.y = v.y) (hz : u.z = v.z) : u = v := by
  cases u; cases v; simp_all

@[simp] theorem P3.add_x (u v : P3) : (u.add v).x = u.x + v.x := rfl
@[simp] theorem P3.add_y (u v : P3) : (u.add v).y = u.y + v.y := rfl
@[simp] theorem P3.add_z (u v : P3) : (u.add v).z = u.z + v.z := rfl
@[simp] theorem P3.sub_x (u v : P3) : (u.sub v).x = u.x - v.x := rfl
@[simp] theorem P3.sub_y (u v : P3) : (u.sub v).y = u.y - v.y := rfl
@[simp] theorem P3.sub_z (u v : P3) : (u.sub v).z = u.z - v.z := rfl
@[simp] theorem P3.smul_x (k : Rat) (v : P3) : (P3.smul k v).x = k * v.x := rfl
@[simp] theorem P3.smul_y (k : Rat) (v : P3) : (P3.smul k v).y = k * v.y := rfl
@[simp] theorem P3.smul_z (k : Rat) (v : P3) : (P3.smul k v).z = k * v.z := rfl
@[simp] theorem P3.zero_x : P3.zero.x = 0 := rfl
@[simp] theorem P3.zero_y : P3.zero.y = 0 := rfl
@[simp] theorem P3.zero_z : P3.zero.z = 0 := rfl
@[simp] theorem P3.cross_x (u v : P3) : (u.cross v).x = u.y * v.z - u.z * v.y := rfl
@[simp] theorem P3.cross_y (u v : P3) : (u.cross v).y = u.z * v.x - u.x * v.z := rfl
@[simp] theorem P3.cross_z (u v : P3) : (u.cross v).z = u.x * v.y - u.y * v.x := rfl

theorem P3.dot_comm (u v : P3) : u.dot v = v.dot u := by simp only [P3.dot]; ring
theorem P3.dot_smul_left (k : Rat) (u v : P3) : (P3.smul k u).dot v = k * u.dot v := by
  simp only [P3.dot, P3.smul_x, P3.smul_y, P3.smul_z]; ring
theorem P3.dot_smul_right (k : Rat) (u v : P3) : u.dot (P3.smul k v) = k * u.dot v := by
  simp only [P3.dot, P3.smul_x, P3.smul_y, P3.smul_z]; ring
theorem P3.dot_sub_left (u v w : P3) : (u.sub v).dot w = u.dot w - v.dot w := by
  simp only [P3.dot, P3.sub_x, P3.sub_y, P3.sub_z]; ring

theorem P3.dot_add_left (u v w : P3) : (u.add v).dot w = u.dot w + v.dot w := by
  simp only [P3.dot, P3.add_x, P3.add_y, P3.add_z]; ring
theorem P3.dot_sub_right (u v w : P3) : u.dot (v.sub w) = u.dot v - u.dot w := by
  simp only [P3.dot, P3.sub_x, P3.sub_y, P3.sub_z]; ring
theorem P3.dot_add_right (u v w : P3) : u.dot (v.add w) = u.dot v + u.dot w := by
  simp only [P3.dot, P3.add_x, P3.add_y, P3.add_z]; ring

theorem P3.zero_dot (v : P3) : P3.zero.dot v = 0 := by simp [P3.dot]
theorem P3.dot_zero (v : P3) : v.dot P3.zero = 0 := by simp [P3.dot]

theorem P3.dot_self_nonneg (v : P3) : 0 ≤ v.dot v :=
  add_nonneg (add_nonneg (mul_self_nonneg _) (mul_self_nonneg _)) (mul_self_nonneg _)

theorem dot_self_ne_zero {N r : P3} {d k : Rat} (hd : d ≠ 0) (h : d = k * N.dot r) : N.dot N ≠ 0 := by
  intro h0
  have hx := mul_self_nonneg N.x
  have hy := mul_self_nonneg N.y
  have hz := mul_self_nonneg N.z
  simp only [P3.dot] at h0 h
  have zx : N.x = 0 := mul_self_eq_zero.mp (by linarith)
  have zy : N.y = 0 := mul_self_eq_zero.mp (by linarith)
  have zz : N.z = 0 := mul_self_eq_zero.mp (by linarith)
  apply hd
  rw [h, zx, zy, zz]; ring

theorem P3.ext_dot {u v : P3} (h : ∀ r, u.dot r = v.dot r) : u = v := by
  have hx := h ⟨1, 0, 0⟩
  have hy := h ⟨0, 1, 0⟩
  have hz := h ⟨0, 0, 1⟩
  simp only [P3.dot, mul_one, mul_zero, add_zero, zero_add] at hx hy hz
  exact P3.ext' hx hy hz

@[simp] theorem sum3_nil {α : Type} (g : α → P3) : sum3 g [] = P3.zero := rfl
@[simp] theorem sum3_cons {α : Type} (g : α → P3) (a : α) (l : List α) :
    sum3 g (a :: l) = (g a).add (sum3 g l) := rfl

theorem sum3_x {α : Type} (g : α → P3) (l : List α) : (sum3 g l).x = sumf (fun a => (g a).x) l := by
  induction l with
  | nil => rfl
  | cons a l ih => simp [ih]
theorem sum3_y {α : Type} (g : α → P3) (l : List α) : (sum3 g l).y = sumf (fun a => (g a).y) l := by
  induction l with
  | nil => rfl
  | cons a l ih => simp [ih]
theorem sum3_z {α : Type} (g : α → P3) (l : List α) : (sum3 g l).z = sumf (fun a => (g a).z) l := by
  induction l with
  | nil => rfl
  | cons a l ih => simp [ih]

theorem sum3_congr {α : Type} {g h : α → P3} {l : List α} (H : ∀ a ∈ l, g a = h a) : sum3 g l = sum3 h l := by
  induction l with
  | nil => rfl
  | cons a l ih =>
    rw [sum3_cons, sum3_cons, H a List.mem_cons_self, ih fun b hb => H b (List.mem_cons_of_mem _ hb)]

theorem dot_sum3 {α : Type} (g : α → P3) (N : P3) (l : List α) :
    (sum3 g l).dot N = sumf (fun a => (g a).dot N) l := by
  induction l with
  | nil => simp [P3.dot]
  | cons a l ih => rw [sum3_cons, sumf_cons, P3.dot_add_left, ih]

theorem sum3_dot {α : Type} (g : α → P3) (N : P3) (l : List α) :
    N.dot (sum3 g l) = sumf (fun a => N.dot (g a)) l := by
  rw [P3.dot_comm, dot_sum3]
  apply sumf_congr; intro a _; exact P3.dot_comm _ _

theorem orth_dot (R : M3) (h : R.Orth) (u v : P3) : (R.mulVec u).dot (R.mulVec v) = u.dot v := by
  obtain ⟨h1, h2, h3, h4, h5, h6⟩ := h
  simp only [M3.mulVec, P3.dot]
  linear_combination (u.x * v.x) * h1 + (u.y * v.y) * h2 + (u.z * v.z) * h3 + (u.x * v.y + u.y * v.x) * h4
    + (u.x * v.z + u.z * v.x) * h5 + (u.y * v.z + u.z * v.y) * h6

theorem embedP_sub (R : M3) (b : P3) (p q : P2) :
    (embedP R b p).sub (embedP R b q) = embedV R ⟨p.x - q.x, p.y - q.y⟩ := by
  ext <;> simp [embedP, embedV, M3.mulVec, lift, P3.dot] <;> ring

theorem embedV_dot (R : M3) (h : R.Orth) (u v : P2) : (embedV R u).dot (embedV R v) = u.x * v.x + u.y * v.y := by
  unfold embedV; rw [orth_dot R h]; simp [lift, P3.dot]

theorem sum3_smul_embedV {α : Type} (R : M3) (k wx wy : α → Rat) (l : List α) :
    sum3 (fun a => P3.smul (k a) (embedV R ⟨wx a, wy a⟩)) l
      = embedV R ⟨sumf (fun a => k a * wx a) l, sumf (fun a => k a * wy a) l⟩ := by
  induction l with
  | nil => ext <;> simp [embedV, M3.mulVec, lift, P3.dot]
  | cons a l ih =>
    rw [sum3_cons, ih]
    ext <;> simp [embedV, M3.mulVec, lift, P3.dot] <;> ring

theorem embedV_smul (R : M3) (k : Rat) (w : P2) : embedV R ⟨k * w.x, k * w.y⟩ = P3.smul k (embedV R w) := by
  ext <;> simp [embedV, M3.mulVec, lift, P3.dot] <;> ring

theorem subN_path (c : P3) (l : List P3) (a z : P3) :
    sum3 (subN c) (pathEdges a l z)
      = P3.smul (1 / 2) (((z.sub a).cross c).add (sum3 (fun e => e.1.cross e.2) (pathEdges a l z))) := by
  induction l generalizing a with
  | nil =>
    ext <;> simp [pathEdges, subN] <;> ring
  | cons b l ih =>
    rw [pathEdges, sum3_cons, sum3_cons, ih b]
    ext <;> simp only [subN, P3.smul, P3.cross, P3.sub, P3.add] <;> ring

/-- The face normal as computed (sum of the sub-normals `(b−a)×(c−a)/2` about ANY point `c`, the code
    uses the node average) is the shoelace vector `½ Σ a×b` of the closed node loop. -/
theorem face_normal_shoelace (c : P3) (vs : List P3) :
    sum3 (subN c) (cycEdges vs) = P3.smul (1 / 2) (sum3 (fun e => e.1.cross e.2) (cycEdges vs)) := by
  cases vs with
  | nil => ext <;> simp [cycEdges]
  | cons a l =>
    rw [cycEdges, subN_path]
    ext <;> simp

theorem faceN_eq (vs : List P3) :
    faceN vs = P3.smul (1 / 2) (sum3 (fun e => e.1.cross e.2) (cycEdges vs)) :=
  face_normal_shoelace _ vs

/-- General closed surface: if the directed edges of the faces of a cell (direction reversed where the
    cell_faces sign is −1) pair up — every edge is used twice with opposite direction — the signed sum of
    the face normals, computed as coded for polygonal faces of any size, vanishes. -/
theorem closed_cell_3d (cell : Cell3) (h : EdgePaired cell) :
    sum3 (fun f => P3.smul f.2 (faceN f.1)) cell = P3.zero := by
  apply P3.ext_dot; intro r
  have h0 := h (fun a b => (a.cross b).dot r) (fun a b => by simp only [P3.dot, P3.cross]; ring)
  rw [dot_sum3, P3.zero_dot, ← mul_zero (1 / 2 : Rat), ← h0, dirEdgeSum, ← sumf_mul_left]
  apply sumf_congr; intro f _
  rw [P3.dot_smul_left, faceN_eq, P3.dot_smul_left, dot_sum3]; ring

theorem sumf_swap (G : P3 → P3 → Rat) (hG : ∀ a b, G a b = -G b a) (l : List (P3 × P3)) :
    sumf (fun e => G e.1 e.2) (l.map Prod.swap) = -sumf (fun e => G e.1 e.2) l := by
  rw [sumf_map, ← neg_one_mul, ← sumf_mul_left]
  exact sumf_congr fun e _ => by rw [Prod.fst_swap, Prod.snd_swap, hG]; ring

theorem dirEdgeSum_eq (G : P3 → P3 → Rat) (hG : ∀ a b, G a b = -G b a) (cell : Cell3)
    (hs : ∀ f ∈ cell, f.2 = 1 ∨ f.2 = -1) :
    dirEdgeSum G cell = sumf (fun e => G e.1 e.2) (dirEdges cell) := by
  unfold dirEdgeSum dirEdges
  rw [sumf_flatMap]
  apply sumf_congr
  intro f hf
  rcases hs f hf with h | h
  · rw [h, if_pos rfl]; ring
  · rw [h, if_neg (by norm_num), sumf_swap G hG]; ring

/-- A decidable sufficient condition for `EdgePaired`. -/
theorem paired_of_perm (cell : Cell3) (hs : ∀ f ∈ cell, f.2 = 1 ∨ f.2 = -1)
    (hperm : (dirEdges cell).Perm ((dirEdges cell).map Prod.swap)) : EdgePaired cell := by
  intro G hG
  have h1 := sumf_perm (fun e : P3 × P3 => G e.1 e.2) hperm
  rw [sumf_swap G hG] at h1
  rw [dirEdgeSum_eq G hG cell hs]
  linarith

theorem mem_pathEdges {a z : P3} {l : List P3} {e : P3 × P3} (h : e ∈ pathEdges a l z) :
    e.1 ∈ a :: l ∧ e.2 ∈ l ++ [z] := by
  induction l generalizing a with
  | nil =>
    rw [pathEdges, List.mem_singleton] at h
    subst h; simp
  | cons b l ih =>
    rw [pathEdges, List.mem_cons] at h
    rcases h with rfl | h
    · simp
    · exact ⟨List.mem_cons_of_mem _ (ih h).1, List.mem_cons_of_mem _ (ih h).2⟩

theorem mem_cycEdges {vs : List P3} {e : P3 × P3} (h : e ∈ cycEdges vs) : e.1 ∈ vs ∧ e.2 ∈ vs := by
  cases vs with
  | nil => cases h
  | cons a l => exact ⟨(mem_pathEdges h).1, by simpa [or_comm] using (mem_pathEdges h).2⟩

theorem exists_pathEdge_start {a z v : P3} {l : List P3} (h : v ∈ a :: l) : ∃ e ∈ pathEdges a l z, e.1 = v := by
  induction l generalizing a with
  | nil => exact ⟨(a, z), List.mem_singleton.mpr rfl, (List.mem_singleton.mp h).symm⟩
  | cons b l ih =>
    rcases List.mem_cons.mp h with rfl | h
    · exact ⟨(v, b), List.mem_cons_self, rfl⟩
    · obtain ⟨e, he, hv⟩ := ih h
      exact ⟨e, List.mem_cons_of_mem _ he, hv⟩

theorem tets_sum {α : Type} (A B : α → P3) (tc : P3) (σ : Rat) (l : List α) :
    sumf (fun e => ((A e).sub tc).dot (P3.smul σ (B e)) / 3) l
      = σ / 3 * (sumf (fun e => (A e).dot (B e)) l - tc.dot (sum3 B l)) := by
  induction l with
  | nil => simp [P3.dot]
  | cons a l ih =>
    simp only [sumf_cons, sum3_cons, P3.dot_sub_left, P3.dot_smul_right, P3.dot_add_right] at ih ⊢
    linear_combination ih

/-- `Σ_e q_e · s_e` of a face (three times the volume of the cone over the face from the origin) -/
def faceQS (vs : List P3) : Rat := sumf (fun e => (subC (mean3 vs) e).dot (subN (mean3 vs) e)) (cycEdges vs)

/-- the clause of `PlanarStar` about one face: every sub-normal is a non-negative multiple of the face normal -/
def StarFace (vs : List P3) : Prop :=
  ∀ e ∈ cycEdges vs, 0 ≤ (subN (mean3 vs) e).dot (faceN vs) ∧
    P3.smul ((faceN vs).dot (faceN vs)) (subN (mean3 vs) e) = P3.smul ((subN (mean3 vs) e).dot (faceN vs)) (faceN vs)

/-- share of the face normal (and of the face area) carried by the sub-triangle over the edge `e` -/
def faceShare (vs : List P3) (e : P3 × P3) : Rat := (subN (mean3 vs) e).dot (faceN vs) / (faceN vs).dot (faceN vs)

section face
variable (vs : List P3)
variable (hN : (faceN vs).dot (faceN vs) ≠ 0)
variable (hpl : StarFace vs)
variable (hnp : ∀ v ∈ vs, (v.sub (mean3 vs)).dot (faceN vs) = 0)

theorem sum_d_eq : sumf (fun e => (subN (mean3 vs) e).dot (faceN vs)) (cycEdges vs) = (faceN vs).dot (faceN vs) := by
  rw [← dot_sum3]; rfl

include hpl in
theorem faceWSum_eq : faceWSum vs = (faceN vs).dot (faceN vs) := by
  rw [← sum_d_eq vs]
  exact sumf_congr fun e he => absR_of_nonneg (hpl e he).1

include hN hpl in
theorem face_area_sq_aux : faceArea2 vs = (faceN vs).dot (faceN vs) := by
  unfold faceArea2
  rw [faceWSum_eq vs hpl]
  field_simp

include hpl in
theorem faceShare_nonneg (e : P3 × P3) (he : e ∈ cycEdges vs) : 0 ≤ faceShare vs e :=
  div_nonneg (hpl e he).1 (P3.dot_self_nonneg _)

include hN hpl in
theorem subN_eq_share (e : P3 × P3) (he : e ∈ cycEdges vs) :
    subN (mean3 vs) e = P3.smul (faceShare vs e) (faceN vs) := by
  apply P3.ext_dot; intro r
  have := congrArg (fun v => v.dot r) (hpl e he).2
  simp only [P3.dot_smul_left] at this ⊢
  rw [faceShare]; field_simp; linarith

include hN in
theorem sum_faceShare : sumf (faceShare vs) (cycEdges vs) = 1 := by
  have : ∀ e ∈ cycEdges vs, faceShare vs e = (subN (mean3 vs) e).dot (faceN vs) * ((faceN vs).dot (faceN vs))⁻¹ :=
    fun e _ => div_eq_mul_inv _ _
  rw [sumf_congr this, sumf_mul_right, sum_d_eq, mul_inv_cancel₀ hN]

include hN hpl in
/-- the face centre is the convex combination of the sub-centroids with the shares as weights -/
theorem faceCtr_eq : faceCtr vs = sum3 (fun e => P3.smul (faceShare vs e) (subC (mean3 vs) e)) (cycEdges vs) := by
  unfold faceCtr
  rw [faceWSum_eq vs hpl]
  apply P3.ext_dot; intro r
  rw [P3.dot_smul_left, dot_sum3, dot_sum3, ← sumf_mul_left]
  refine sumf_congr fun e he => ?_
  rw [P3.dot_smul_left, P3.dot_smul_left, faceW, absR_of_nonneg (hpl e he).1, faceShare]
  field_simp

include hN hpl in
theorem faceCtr_dot : (faceCtr vs).dot (faceN vs) = faceQS vs := by
  rw [faceCtr_eq vs hN hpl, dot_sum3]
  refine sumf_congr fun e he => ?_
  rw [subN_eq_share vs hN hpl e he, P3.dot_smul_left, P3.dot_smul_right]

include hnp in
theorem subC_planar (e : P3 × P3) (he : e ∈ cycEdges vs) (o : P3) :
    ((subC (mean3 vs) e).sub o).dot (faceN vs) = ((mean3 vs).sub o).dot (faceN vs) := by
  obtain ⟨h1, h2⟩ := mem_cycEdges he
  have a1 := hnp e.1 h1
  have a2 := hnp e.2 h2
  simp only [subC, P3.dot_sub_left, P3.dot_smul_left, P3.dot_add_left] at a1 a2 ⊢
  linear_combination (1 / 3 : Rat) * a1 + (1 / 3 : Rat) * a2
end face

theorem faceCtr_planar (vs : List P3) (hN : (faceN vs).dot (faceN vs) ≠ 0)
    (hpl : ∀ e ∈ cycEdges vs, 0 ≤ (subN (mean3 vs) e).dot (faceN vs) ∧
      P3.smul ((faceN vs).dot (faceN vs)) (subN (mean3 vs) e) = P3.smul ((subN (mean3 vs) e).dot (faceN vs)) (faceN vs))
    (hnp : ∀ v ∈ vs, (v.sub (mean3 vs)).dot (faceN vs) = 0) :
    ((faceCtr vs).sub (mean3 vs)).dot (faceN vs) = 0 := by
  have hq : ∀ e ∈ cycEdges vs, (P3.smul (faceShare vs e) (subC (mean3 vs) e)).dot (faceN vs)
      = faceShare vs e * (mean3 vs).dot (faceN vs) := fun e he => by
    have := subC_planar vs hnp e he P3.zero
    simp only [P3.dot_sub_left, P3.zero_dot, sub_zero] at this
    rw [P3.dot_smul_left, this]
  rw [P3.dot_sub_left, faceCtr_eq vs hN hpl, dot_sum3, sumf_congr hq, sumf_mul_right, sum_faceShare vs hN]
  ring

section signedFace
variable (f : List P3 × Rat)
variable (hN : (faceN f.1).dot (faceN f.1) ≠ 0)
variable (hpl : StarFace f.1)
variable (hnp : ∀ v ∈ f.1, (v.sub (mean3 f.1)).dot (faceN f.1) = 0)

include hN hpl in
theorem outerN_eq (e : P3 × P3) (he : e ∈ cycEdges f.1) :
    outerN f e = P3.smul f.2 (subN (mean3 f.1) e) := by
  have hd := (hpl e he).1
  unfold outerN
  by_cases hpos : 0 < (subN (mean3 f.1) e).dot (faceN f.1)
  · have : sgnR ((subN (mean3 f.1) e).dot (faceN f.1)) = 1 := by
      unfold sgnR; rw [if_neg (by linarith), if_pos hpos]
    rw [this, mul_one]
  · have h0 : (subN (mean3 f.1) e).dot (faceN f.1) = 0 := by linarith
    have hs : subN (mean3 f.1) e = P3.smul 0 (faceN f.1) := by
      rw [subN_eq_share f.1 hN hpl e he, faceShare, h0, zero_div]
    rw [hs]; ext <;> simp

include hN hpl in
theorem tetVol_eq (tc : P3) (e : P3 × P3) (he : e ∈ cycEdges f.1) :
    tetVol tc f e = ((subC (mean3 f.1) e).sub tc).dot (P3.smul f.2 (subN (mean3 f.1) e)) / 3 := by
  rw [tetVol, outerN_eq f hN hpl e he]

include hN hpl in
theorem faceVol_eq (tc : P3) : faceVol tc f = f.2 / 3 * (faceQS f.1 - tc.dot (faceN f.1)) := by
  rw [faceVol, sumf_congr (tetVol_eq f hN hpl tc), tets_sum]
  rfl

include hN hpl hnp in
/-- a sub-tetrahedron is its share of the cone over the face -/
theorem tetVol_planar (tc : P3) (e : P3 × P3) (he : e ∈ cycEdges f.1) :
    tetVol tc f e = faceShare f.1 e * (f.2 * ((mean3 f.1).sub tc).dot (faceN f.1) / 3) := by
  rw [tetVol_eq f hN hpl tc e he, P3.dot_smul_right, subN_eq_share f.1 hN hpl e he, P3.dot_smul_right,
    subC_planar f.1 hnp e he tc]
  ring

include hN hpl hnp in
theorem tetVol_nonneg (tc : P3) (hout : 0 < f.2 * ((mean3 f.1).sub tc).dot (faceN f.1)) (e : P3 × P3)
    (he : e ∈ cycEdges f.1) : 0 ≤ tetVol tc f e := by
  rw [tetVol_planar f hN hpl hnp tc e he]
  exact mul_nonneg (faceShare_nonneg f.1 hpl e he) (by linarith)

include hN hpl hnp in
theorem faceVol_planar (tc : P3) : faceVol tc f = f.2 * ((mean3 f.1).sub tc).dot (faceN f.1) / 3 := by
  rw [faceVol, sumf_congr (tetVol_planar f hN hpl hnp tc), sumf_mul_right, sum_faceShare f.1 hN, one_mul]
end signedFace

theorem cellVol3_eq_QS (cell : Cell3) (tc : P3) (hp : EdgePaired cell) (hpl : PlanarStar cell) :
    3 * cellVol3 tc cell = sumf (fun f => f.2 * faceQS f.1) cell := by
  have hface : ∀ f ∈ cell, 3 * faceVol tc f = f.2 * faceQS f.1 - tc.dot (P3.smul f.2 (faceN f.1)) := fun f hf => by
    rw [faceVol_eq f (hpl f hf).1 (hpl f hf).2, P3.dot_smul_right]
    ring
  rw [cellVol3, ← sumf_mul_left, sumf_congr hface, sumf_sub, ← sum3_dot, closed_cell_3d cell hp, P3.dot_zero, sub_zero]

/-- Volume identity in 3-D: for a closed cell with planar star-shaped non-degenerate faces (`PlanarStar`), with the face
    centres (area-weighted sub-centroids) and the cell volume (sub-tetrahedra about `tc`, the code uses
    the edge-weighted mean of the face centres) exactly as computed:
    Σ sign (x_f − o)·n_f = 3·V for every reference point `o` and every `tc`. -/
theorem volume_identity_3d (cell : Cell3) (tc o : P3) (hp : EdgePaired cell) (hpl : PlanarStar cell) :
    sumf (fun f => f.2 * ((faceCtr f.1).sub o).dot (faceN f.1)) cell = 3 * cellVol3 tc cell := by
  have hface : ∀ f ∈ cell, f.2 * ((faceCtr f.1).sub o).dot (faceN f.1)
      = f.2 * faceQS f.1 - o.dot (P3.smul f.2 (faceN f.1)) := fun f hf => by
    rw [P3.dot_sub_left, faceCtr_dot f.1 (hpl f hf).1 (hpl f hf).2, P3.dot_smul_right, P3.dot_comm o]
    ring
  rw [cellVol3_eq_QS cell tc hp hpl, sumf_congr hface, sumf_sub, ← sum3_dot, closed_cell_3d cell hp, P3.dot_zero,
    sub_zero]

theorem cellVol3_planar (cell : Cell3) (tc : P3) (hpl : PlanarStar cell) (hnp : NodesPlanar cell) :
    cellVol3 tc cell = sumf (fun f => f.2 * ((mean3 f.1).sub tc).dot (faceN f.1) / 3) cell :=
  sumf_congr fun f hf => faceVol_planar f (hpl f hf).1 (hpl f hf).2 (hnp f hf) tc

/-- Star-shaped cells: if the point `tc` the sub-tetrahedra are taken about lies strictly inside every face
    plane (faces outward oriented by their sign, planar, star-shaped), every sub-tetrahedron volume is ≥ 0,
    every face cone and the cell volume are > 0 (so the code's negative-volume test never fires). -/
theorem star_cell_volume_pos (cell : Cell3) (tc : P3) (hne : cell ≠ []) (hpl : PlanarStar cell)
    (hnp : NodesPlanar cell) (hst : StarAbout tc cell) :
    (∀ f ∈ cell, ∀ e ∈ cycEdges f.1, 0 ≤ tetVol tc f e) ∧ (∀ f ∈ cell, 0 < faceVol tc f) ∧ 0 < cellVol3 tc cell := by
  have hf : ∀ f ∈ cell, 0 < faceVol tc f := by
    intro f hf
    obtain ⟨hN, hpe⟩ := hpl f hf
    rw [faceVol_planar f hN hpe (hnp f hf) tc]
    have := hst f hf
    linarith
  refine ⟨?_, hf, sumf_pos hne hf⟩
  intro f hf e he
  obtain ⟨hN, hpe⟩ := hpl f hf
  exact tetVol_nonneg f hN hpe (hnp f hf) tc (hst f hf) e he

/-- Convex cells with outward oriented faces are star-shaped about the temporary centre the code uses
    (edge-weighted mean of the face centres). -/
theorem convex_cell_star (cell : Cell3) (hc : ConvexCell cell) :
    StarAbout (tempCenter3 cell) cell := by
  intro f hf
  obtain ⟨hlen, hall, g, hg, hgneg⟩ := hc f hf
  have hE : 0 < numEdges cell := sumf_pos_of_exists (fun a ha => (hc a ha).1.le) ⟨f, hf, hlen⟩
  -- tc is the mean of the face centres x_g with weights n_g:  E σ (m − tc)·N = Σ_g n_g σ (m − x_g)·N
  have hkey : numEdges cell * (f.2 * ((mean3 f.1).sub (tempCenter3 cell)).dot (faceN f.1))
      = sumf (fun g => (g.1.length : Rat) * -(f.2 * ((faceCtr g.1).sub (mean3 f.1)).dot (faceN f.1))) cell := by
    have e1 : sumf (fun g : List P3 × Rat => (g.1.length : Rat) * -(f.2 * ((faceCtr g.1).sub (mean3 f.1)).dot (faceN f.1))) cell
        = f.2 * (numEdges cell * (mean3 f.1).dot (faceN f.1)
            - (sum3 (fun g : List P3 × Rat => P3.smul (g.1.length : Rat) (faceCtr g.1)) cell).dot (faceN f.1)) := by
      unfold numEdges
      rw [dot_sum3, ← sumf_mul_right, ← sumf_sub, ← sumf_mul_left]
      apply sumf_congr; intro g _
      rw [P3.dot_smul_left, P3.dot_sub_left]; ring
    rw [e1]
    unfold tempCenter3
    rw [P3.dot_sub_left, P3.dot_smul_left]
    field_simp
  rw [← mul_pos_iff_of_pos_left hE, hkey]
  exact sumf_pos_of_exists (fun a ha => mul_nonneg (hc a ha).1.le (neg_nonneg.mpr (hall a ha)))
    ⟨g, hg, mul_pos (hc g hg).1 (neg_pos.mpr hgneg)⟩

/-- The centroid identity rests on the tensor identity `Σ_f σ (w·n_f)(x_f·r) = V (w·r)`, shown on the fan of tetrahedra
    (origin, a, b, m) over the sub-triangles; this is the contribution of an inner triangle (origin, v, u) of the fan,
    antisymmetric in the edge, so that the inner triangles cancel when the edges pair up. -/
def Hin (w r u v : P3) : Rat := w.dot (P3.smul (1 / 2) (v.cross u)) * (P3.smul (1 / 3) (u.add v)).dot r

theorem Hin_antisymm (w r u v : P3) : Hin w r u v = -Hin w r v u := by
  simp only [Hin, P3.dot, P3.smul_x, P3.smul_y, P3.smul_z, P3.cross_x, P3.cross_y, P3.cross_z, P3.add_x, P3.add_y, P3.add_z]
  ring

/-- the tensor identity on the tetrahedron (origin, a, b, m) -/
theorem tri_tensor (w r m a b : P3) :
    w.dot (subN m (a, b)) * (subC m (a, b)).dot r + Hin w r a b + Hin w r b m + Hin w r m a
      = 1 / 3 * (subC m (a, b)).dot (subN m (a, b)) * w.dot r := by
  simp only [Hin, subN, subC, P3.dot, P3.smul_x, P3.smul_y, P3.smul_z, P3.cross_x, P3.cross_y, P3.cross_z,
    P3.add_x, P3.add_y, P3.add_z, P3.sub_x, P3.sub_y, P3.sub_z]
  ring

theorem inner_cancel (H : P3 → P3 → Rat) (hH : ∀ a b, H a b = -H b a) (m : P3) (l : List P3) (a z : P3) :
    sumf (fun e => H e.2 m + H m e.1) (pathEdges a l z) = H z m + H m a := by
  induction l generalizing a with
  | nil => simp [pathEdges]
  | cons b l ih =>
    simp only [pathEdges, sumf_cons, ih b]
    have := hH b m
    linarith

theorem face_tensor (w r m : P3) (vs : List P3) :
    sumf (fun e => w.dot (subN m e) * (subC m e).dot r) (cycEdges vs)
      = 1 / 3 * w.dot r * sumf (fun e => (subC m e).dot (subN m e)) (cycEdges vs)
        - sumf (fun e => Hin w r e.1 e.2) (cycEdges vs) := by
  have hin : sumf (fun e : P3 × P3 => Hin w r e.2 m + Hin w r m e.1) (cycEdges vs) = 0 := by
    cases vs with
    | nil => rfl
    | cons a l =>
      simp only [cycEdges]
      rw [inner_cancel (Hin w r) (Hin_antisymm w r) m l a a]
      have := Hin_antisymm w r a m
      linarith
  have hpt : ∀ e ∈ cycEdges vs, w.dot (subN m e) * (subC m e).dot r
      = (1 / 3 * w.dot r) * (subC m e).dot (subN m e) - Hin w r e.1 e.2 - (Hin w r e.2 m + Hin w r m e.1) := by
    intro e _
    have := tri_tensor w r m e.1 e.2
    linarith
  rw [sumf_congr hpt, sumf_sub, sumf_sub, sumf_mul_left, hin]
  ring

theorem surface_tensor (w r : P3) (cell : Cell3) (hp : EdgePaired cell) :
    sumf (fun f => f.2 * sumf (fun e => w.dot (subN (mean3 f.1) e) * (subC (mean3 f.1) e).dot r) (cycEdges f.1)) cell
      = w.dot r * (1 / 3 * sumf (fun f => f.2 * faceQS f.1) cell) := by
  have h0 := hp (Hin w r) (Hin_antisymm w r)
  unfold dirEdgeSum at h0
  have : ∀ f ∈ cell, f.2 * sumf (fun e => w.dot (subN (mean3 f.1) e) * (subC (mean3 f.1) e).dot r) (cycEdges f.1)
      = (w.dot r * (1 / 3)) * (f.2 * faceQS f.1) - f.2 * sumf (fun e => Hin w r e.1 e.2) (cycEdges f.1) := by
    intro f _
    rw [face_tensor]; unfold faceQS; ring
  rw [sumf_congr this, sumf_sub, sumf_mul_left, h0]
  ring

/-- per-edge algebra of the centroid identity, summed over any list -/
theorem centroid_split {α : Type} (q s : α → P3) (tc o r : P3) (σ : Rat) (l : List α) :
    σ * sumf (fun e => ((q e).sub o).dot (s e) * ((q e).sub o).dot r) l
      - sumf (fun e => (((q e).sub tc).dot (P3.smul σ (s e)) / 3)
            * (4 * (tc.sub o).dot r + 3 * ((q e).sub tc).dot r)) l
    = σ * sumf (fun e => (tc.sub o).dot (s e) * (q e).dot r) l
      - o.dot r * (σ * (tc.sub o).dot (sum3 s l))
      - (tc.sub o).dot r * sumf (fun e => ((q e).sub tc).dot (P3.smul σ (s e)) / 3) l := by
  induction l with
  | nil => simp [P3.dot]
  | cons a l ih =>
    simp only [sumf_cons, sum3_cons, P3.dot_sub_left, P3.dot_smul_right, P3.dot_add_right] at ih ⊢
    linear_combination ih

theorem face_to_triangles (vs : List P3) (hN : (faceN vs).dot (faceN vs) ≠ 0) (hpl : StarFace vs)
    (hnp : ∀ v ∈ vs, (v.sub (mean3 vs)).dot (faceN vs) = 0) (o r : P3) :
    ((faceCtr vs).sub o).dot (faceN vs) * ((faceCtr vs).sub o).dot r
      = sumf (fun e => ((subC (mean3 vs) e).sub o).dot (subN (mean3 vs) e) * ((subC (mean3 vs) e).sub o).dot r) (cycEdges vs) := by
  have hxN : ((faceCtr vs).sub o).dot (faceN vs) = ((mean3 vs).sub o).dot (faceN vs) := by
    have := faceCtr_planar vs hN hpl hnp
    simp only [P3.dot_sub_left] at this ⊢
    linarith
  -- (q_e − o)·s_e = λ_e h  with  h = (m − o)·N = (x_f − o)·N,  and  (x_f − o)·r = Σ λ_e (q_e − o)·r
  have hterm : ∀ e ∈ cycEdges vs, ((subC (mean3 vs) e).sub o).dot (subN (mean3 vs) e) * ((subC (mean3 vs) e).sub o).dot r
      = ((mean3 vs).sub o).dot (faceN vs) * ((P3.smul (faceShare vs e) (subC (mean3 vs) e)).dot r - faceShare vs e * o.dot r) :=
    fun e he => by
      rw [subN_eq_share vs hN hpl e he, P3.dot_smul_right, subC_planar vs hnp e he o, P3.dot_sub_left (subC (mean3 vs) e) o r,
        P3.dot_smul_left]
      ring
  rw [sumf_congr hterm, sumf_mul_left, sumf_sub, ← dot_sum3, ← faceCtr_eq vs hN hpl, sumf_mul_right, sum_faceShare vs hN, hxN,
    P3.dot_sub_left (faceCtr vs)]
  ring

theorem relMom_dot (tc r : P3) (cell : Cell3) :
    (cellRelMom3 tc cell).dot r
      = sumf (fun f => sumf (fun e => tetVol tc f e * (3 / 4) * ((subC (mean3 f.1) e).sub tc).dot r) (cycEdges f.1)) cell := by
  unfold cellRelMom3
  rw [dot_sum3]
  apply sumf_congr; intro f _
  rw [dot_sum3]
  apply sumf_congr; intro e _
  rw [P3.dot_smul_left]

theorem cellMom3_dot (tc o r : P3) (cell : Cell3) :
    4 * ((cellMom3 tc cell).dot r - cellVol3 tc cell * o.dot r)
      = sumf (fun f => sumf (fun e => tetVol tc f e * (4 * (tc.sub o).dot r + 3 * ((subC (mean3 f.1) e).sub tc).dot r))
          (cycEdges f.1)) cell := by
  unfold cellMom3
  rw [P3.dot_add_left, P3.dot_smul_left, relMom_dot]
  unfold cellVol3 faceVol
  rw [P3.dot_sub_left]
  have : ∀ f ∈ cell, sumf (fun e => tetVol tc f e * (4 * (tc.dot r - o.dot r) + 3 * ((subC (mean3 f.1) e).sub tc).dot r)) (cycEdges f.1)
      = 4 * (tc.dot r - o.dot r) * sumf (tetVol tc f) (cycEdges f.1)
        + 4 * sumf (fun e => tetVol tc f e * (3 / 4) * ((subC (mean3 f.1) e).sub tc).dot r) (cycEdges f.1) := by
    intro f _
    rw [← sumf_mul_left, ← sumf_mul_left, ← sumf_add]
    apply sumf_congr; intro e _; ring
  rw [sumf_congr this, sumf_add, sumf_mul_left, sumf_mul_left]
  ring

theorem centroid_identity_3d_aux (cell : Cell3) (tc o r : P3) (hp : EdgePaired cell) (hpl : PlanarStar cell)
    (hnp : NodesPlanar cell) :
    sumf (fun f => f.2 * (((faceCtr f.1).sub o).dot (faceN f.1) * ((faceCtr f.1).sub o).dot r)) cell
      = 4 * ((cellMom3 tc cell).dot r - cellVol3 tc cell * o.dot r) := by
  rw [cellMom3_dot]
  have hface : ∀ f ∈ cell,
      f.2 * (((faceCtr f.1).sub o).dot (faceN f.1) * ((faceCtr f.1).sub o).dot r)
        - sumf (fun e => tetVol tc f e * (4 * (tc.sub o).dot r + 3 * ((subC (mean3 f.1) e).sub tc).dot r)) (cycEdges f.1)
      = f.2 * sumf (fun e => (tc.sub o).dot (subN (mean3 f.1) e) * (subC (mean3 f.1) e).dot r) (cycEdges f.1)
        - o.dot r * ((tc.sub o).dot (P3.smul f.2 (faceN f.1)))
        - (tc.sub o).dot r * faceVol tc f := by
    intro f hf
    obtain ⟨hN, hpe⟩ := hpl f hf
    have hnpf := hnp f hf
    rw [face_to_triangles f.1 hN hpe hnpf o r]
    have ht : sumf (fun e => tetVol tc f e * (4 * (tc.sub o).dot r + 3 * ((subC (mean3 f.1) e).sub tc).dot r)) (cycEdges f.1)
        = sumf (fun e => (((subC (mean3 f.1) e).sub tc).dot (P3.smul f.2 (subN (mean3 f.1) e)) / 3)
            * (4 * (tc.sub o).dot r + 3 * ((subC (mean3 f.1) e).sub tc).dot r)) (cycEdges f.1) :=
      sumf_congr fun e he => by rw [tetVol_eq f hN hpe tc e he]
    have hv : faceVol tc f
        = sumf (fun e => ((subC (mean3 f.1) e).sub tc).dot (P3.smul f.2 (subN (mean3 f.1) e)) / 3) (cycEdges f.1) :=
      sumf_congr (tetVol_eq f hN hpe tc)
    rw [ht, hv, centroid_split, P3.dot_smul_right]
    rfl
  rw [← sub_eq_zero, ← sumf_sub, sumf_congr hface, sumf_sub, sumf_sub, surface_tensor (tc.sub o) r cell hp, sumf_mul_left,
    ← sum3_dot, closed_cell_3d cell hp, sumf_mul_left, P3.dot_zero, ← cellVol3_eq_QS cell tc hp hpl]
  unfold cellVol3
  ring

theorem edgePairedB_sound (cell : Cell3) (h : edgePairedB cell = true) : EdgePaired cell := by
  simp only [edgePairedB, Bool.and_eq_true, List.all_eq_true, decide_eq_true_eq] at h
  exact paired_of_perm cell h.1 (List.isPerm_iff.mp h.2)

theorem planarStarB_sound (cell : Cell3) (h : planarStarB cell = true) : PlanarStar cell := by
  simp only [planarStarB, Bool.and_eq_true, List.all_eq_true, decide_eq_true_eq] at h
  intro f hf
  exact ⟨(h f hf).1, fun e he => (h f hf).2 e he⟩

theorem nodesPlanarB_sound (cell : Cell3) (h : nodesPlanarB cell = true) : NodesPlanar cell := by
  simp only [nodesPlanarB, List.all_eq_true, decide_eq_true_eq] at h
  exact h

theorem starAboutB_sound (tc : P3) (cell : Cell3) (h : starAboutB tc cell = true) : StarAbout tc cell := by
  simp only [starAboutB, List.all_eq_true, decide_eq_true_eq] at h
  exact h

end PorepyVerif.C19
