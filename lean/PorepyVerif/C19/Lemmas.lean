/-
C19 — the plane: the polynomial identities of the discrete divergence theorem in 2-D (for every list of faces, up to an
explicit combination of `loopSum`s), the incidence bookkeeping of the orientation check, the centroid as a weighted mean,
and the legacy path side by side with the re-oriented cell.
-/
import PorepyVerif.C19.Sums

namespace PorepyVerif.C19

theorem sumf_zero {α : Type} (l : List α) : sumf (fun _ => (0 : Rat)) l = 0 :=
  (sumf_eq _ l).trans (Common.sum_map_eq_zero fun _ _ => rfl)

theorem loopSum_path (g : P2 → Rat) (l : List P2) (a z : P2) :
    loopSum g ((pathEdges a l z).map (fun e => (⟨e.1, e.2, 1⟩ : OFace))) = g z - g a := by
  induction l generalizing a with
  | nil => simp [pathEdges, loopSum]
  | cons b l ih =>
    have := ih b
    simp only [loopSum, pathEdges, List.map_cons, sumf_cons] at this ⊢
    rw [this]; ring

/-- The 2-D identities hold for EVERY list of faces up to an explicit combination of `loopSum`s, which vanish for
    a closed cell: this one and `closed_aux_y`, `area_aux`, `centroid_aux_x`, `centroid_aux_y`. -/
theorem closed_aux_x (p : Rat) (fs : List OFace) :
    sumf (fun f => f.s * f.nx p) fs = p * loopSum (·.y) fs := by
  induction fs with
  | nil => simp [loopSum]
  | cons f l ih =>
    simp only [loopSum, sumf_cons, OFace.nx, OFace.ty] at ih ⊢
    linear_combination ih

theorem closed_aux_y (p : Rat) (fs : List OFace) :
    sumf (fun f => f.s * f.ny p) fs = -(p * loopSum (·.x) fs) := by
  induction fs with
  | nil => simp [loopSum]
  | cons f l ih =>
    simp only [loopSum, sumf_cons, OFace.ny, OFace.tx] at ih ⊢
    linear_combination ih

theorem area_aux (p : Rat) (c o : P2) (fs : List OFace) :
    sumf (fun f => f.s * ((f.mx - o.x) * f.nx p + (f.my - o.y) * f.ny p)) fs - 2 * cellArea p c fs
      = p * ((c.x - o.x) * loopSum (·.y) fs - (c.y - o.y) * loopSum (·.x) fs) := by
  induction fs with
  | nil => simp [cellArea, cellAreaW, loopSum]
  | cons f l ih =>
    simp only [cellArea, cellAreaW, loopSum, sumf_cons, wOriented, OFace.subZ, OFace.nx, OFace.ny,
      OFace.mx, OFace.my, OFace.tx, OFace.ty] at ih ⊢
    linear_combination ih

theorem centroid_aux_x (p : Rat) (c o : P2) (fs : List OFace) :
    sumf (fun f => f.s * ((f.mx - o.x) * f.nx p + (f.my - o.y) * f.ny p) * (f.mx - o.x)) fs
        - 3 * (cellMomX p c fs - cellArea p c fs * o.x)
      = p * ((1 / 2) * (c.x - o.x) * loopSum (fun P => (P.x - o.x) * (P.y - o.y)) fs
            + (1 / 2) * (c.x - o.x) * (c.x - o.x) * loopSum (·.y) fs
            - (1 / 2) * (c.x - o.x) * (c.y - o.y) * loopSum (·.x) fs
            - (1 / 2) * (c.y - o.y) * loopSum (fun P => (P.x - o.x) * (P.x - o.x)) fs) := by
  induction fs with
  | nil => simp [cellArea, cellMomX, cellMomXW, cellAreaW, loopSum]
  | cons f l ih =>
    simp only [cellArea, cellMomX, cellMomXW, cellAreaW, loopSum, sumf_cons, wOriented, OFace.subZ,
      OFace.nx, OFace.ny, OFace.mx, OFace.my, OFace.tx, OFace.ty] at ih ⊢
    linear_combination ih

theorem centroid_aux_y (p : Rat) (c o : P2) (fs : List OFace) :
    sumf (fun f => f.s * ((f.mx - o.x) * f.nx p + (f.my - o.y) * f.ny p) * (f.my - o.y)) fs
        - 3 * (cellMomY p c fs - cellArea p c fs * o.y)
      = p * (-(1 / 2) * (c.y - o.y) * loopSum (fun P => (P.x - o.x) * (P.y - o.y)) fs
            + (1 / 2) * (c.x - o.x) * (c.y - o.y) * loopSum (·.y) fs
            - (1 / 2) * (c.y - o.y) * (c.y - o.y) * loopSum (·.x) fs
            + (1 / 2) * (c.x - o.x) * loopSum (fun P => (P.y - o.y) * (P.y - o.y)) fs) := by
  induction fs with
  | nil => simp [cellArea, cellMomY, cellMomYW, cellAreaW, loopSum]
  | cons f l ih =>
    simp only [cellArea, cellMomY, cellMomYW, cellAreaW, loopSum, sumf_cons, wOriented, OFace.subZ,
      OFace.nx, OFace.ny, OFace.mx, OFace.my, OFace.tx, OFace.ty] at ih ⊢
    linear_combination ih

/-- `Σ_{k<n} F k`: orientation check (1/3) is stated node by node, `incidence_sum` re-orders the signed
    boundary sum over the faces accordingly. -/
def sumBelow : Nat → (Nat → Rat) → Rat
  | 0, _ => 0
  | n + 1, F => sumBelow n F + F n

theorem sumBelow_eq (n : Nat) (F : Nat → Rat) : sumBelow n F = ((List.range n).map F).sum := by
  induction n with
  | zero => rfl
  | succ n ih => rw [Common.sum_range_succ, ← ih, sumBelow]

theorem sumBelow_zero {n : Nat} {F : Nat → Rat} (H : ∀ k, k < n → F k = 0) : sumBelow n F = 0 :=
  (sumBelow_eq n F).trans (Common.sum_map_eq_zero fun k hk => H k (List.mem_range.mp hk))

theorem sumBelow_add (n : Nat) (F G : Nat → Rat) :
    sumBelow n (fun k => F k + G k) = sumBelow n F + sumBelow n G := by
  simp only [sumBelow_eq, Common.sum_map_add]

theorem sumBelow_mul_left (n : Nat) (c : Rat) (F : Nat → Rat) :
    sumBelow n (fun k => c * F k) = c * sumBelow n F := by
  simp only [sumBelow_eq, Common.sum_map_mul_left]

theorem sumBelow_indicator (n : Nat) (h : Nat → Rat) (e : Nat) :
    sumBelow n (fun k => h k * (if e = k then 1 else 0)) = if e < n then h e else 0 := by
  rw [sumBelow_eq]
  split
  · rw [Common.sum_map_single List.nodup_range (List.mem_range.mpr ‹_›) fun k _ hk => by
      rw [if_neg (Ne.symm hk), mul_zero], if_pos rfl, mul_one]
  · exact Common.sum_map_eq_zero fun k hk => by
      rw [if_neg fun ek : e = k => ‹¬ e < n› (ek ▸ List.mem_range.mp hk), mul_zero]

theorem allBelow_spec {n : Nat} {P : Nat → Bool} (H : allBelow n P = true) : ∀ k, k < n → P k = true := by
  induction n with
  | zero => intro k hk; cases hk
  | succ n ih =>
    intro k hk
    simp only [allBelow, Bool.and_eq_true] at H
    rcases Nat.lt_succ_iff_lt_or_eq.mp hk with h | h
    · exact ih H.1 k h
    · subst h; exact H.2

theorem incidence_sum (n : Nat) (h : Nat → Rat) (fs : List IFace)
    (hb : ∀ f ∈ fs, f.1 < n ∧ f.2.1 < n) :
    sumf (fun f => f.2.2 * (h f.2.1 - h f.1)) fs = sumBelow n (fun k => h k * inc fs k) := by
  induction fs with
  | nil =>
    simp only [sumf_nil, inc]
    exact (sumBelow_zero (fun k _ => by ring)).symm
  | cons f l ih =>
    have hf := hb f List.mem_cons_self
    have e1 : sumBelow n (fun k => h k * inc (f :: l) k)
        = f.2.2 * (sumBelow n (fun k => h k * (if f.2.1 = k then 1 else 0))
                   - sumBelow n (fun k => h k * (if f.1 = k then 1 else 0)))
          + sumBelow n (fun k => h k * inc l k) := by
      have : (fun k => h k * inc (f :: l) k)
          = (fun k => (f.2.2 * (h k * (if f.2.1 = k then 1 else 0)) + (-f.2.2) * (h k * (if f.1 = k then 1 else 0)))
                + h k * inc l k) := by
        funext k; simp only [inc, sumf_cons]; ring
      rw [this, sumBelow_add, sumBelow_add, sumBelow_mul_left, sumBelow_mul_left]; ring
    rw [e1, sumBelow_indicator, sumBelow_indicator, if_pos hf.2, if_pos hf.1, sumf_cons,
      ih (fun g hg => hb g (List.mem_cons_of_mem _ hg))]

theorem subZ_eq_leftOf (f : OFace) (c : P2) (hs : f.s = 1) : 2 * f.subZ c = leftOf f c := by
  simp only [OFace.subZ, leftOf, OFace.mx, OFace.my, OFace.tx, OFace.ty, hs]; ring

theorem leftOf_sum (f : OFace) (fs : List OFace) :
    sumf (fun g => (leftOf f g.a + leftOf f g.b) / 2) fs
      = f.tx * (sumf OFace.my fs - (fs.length : Rat) * f.a.y) - f.ty * (sumf OFace.mx fs - (fs.length : Rat) * f.a.x) := by
  induction fs with
  | nil => simp
  | cons g l ih =>
    simp only [sumf_cons, List.length_cons, Nat.cast_succ, leftOf, OFace.mx, OFace.my] at ih ⊢
    linear_combination ih

theorem leftOf_tempCenter (f : OFace) (fs : List OFace) (hne : fs ≠ []) :
    (fs.length : Rat) * leftOf f (tempCenter fs) = sumf (fun g => (leftOf f g.a + leftOf f g.b) / 2) fs := by
  have hn : (fs.length : Rat) ≠ 0 := by
    have : fs.length ≠ 0 := fun h => hne (List.length_eq_zero_iff.mp h)
    exact_mod_cast this
  rw [leftOf_sum]
  simp only [leftOf, tempCenter]
  field_simp

theorem centroidOf_eq_some {w : OFace → Rat} {c ctr : P2} {fs : List OFace} (h : centroidOf w c fs = some ctr) :
    cellAreaW w fs ≠ 0 ∧ cellAreaW w fs * ctr.x = cellMomXW w c fs ∧ cellAreaW w fs * ctr.y = cellMomYW w c fs := by
  unfold centroidOf at h
  split at h
  · cases h
  · rename_i hV
    injection h with h
    subst h
    exact ⟨hV, mul_div_cancel₀ _ hV, mul_div_cancel₀ _ hV⟩

theorem reorient_s (c : P2) (f : OFace) : (reorient c f).s = 1 := by
  unfold reorient; split <;> rfl

theorem reorient_mx (c : P2) (f : OFace) : (reorient c f).mx = f.mx := by
  unfold reorient; split <;> simp only [OFace.mx] <;> ring

theorem reorient_my (c : P2) (f : OFace) : (reorient c f).my = f.my := by
  unfold reorient; split <;> simp only [OFace.my] <;> ring

theorem flip_sign {s χ : Rat} (hs : s = 1 ∨ s = -1) (hχ : χ ≠ 0) :
    s * (if s * χ < 0 then -1 else 1) = if 0 ≤ χ then 1 else -1 := by
  rcases hs with rfl | rfl <;> rcases lt_or_gt_of_ne hχ with h | h
  · simp [h, h.not_ge]
  · simp [h.le, h.not_gt]
  · simp [h.not_gt, h.not_ge]
  · simp [h, h.le]

theorem wOriented_reorient (c : P2) (f : OFace) : 2 * wOriented 1 c (reorient c f) = absR (f.chi c) := by
  unfold reorient
  by_cases h : 0 ≤ f.chi c
  · rw [if_pos h, absR_of_nonneg h]
    simp only [wOriented, OFace.subZ, OFace.chi, OFace.mx, OFace.my, OFace.tx, OFace.ty]; ring
  · rw [if_neg h, absR_of_neg (not_le.mp h)]
    simp only [wOriented, OFace.subZ, OFace.chi, OFace.mx, OFace.my, OFace.tx, OFace.ty]; ring

theorem wAbs_eq (c : P2) (f : OFace) (hs : f.s = 1 ∨ f.s = -1) : 2 * wAbs c f = absR (f.chi c) := by
  have hsub : f.subZ c = f.s * f.chi c / 2 := by simp only [OFace.subZ, OFace.chi]; ring
  have h1 : |f.s| = 1 := by rcases hs with h | h <;> rw [h] <;> simp
  rw [wAbs, hsub, absR_eq_abs, absR_eq_abs, abs_div, abs_mul, abs_two, h1]; ring

/-- One side of a face on the legacy path is that side of the face re-directed counter-clockwise about `c`:
    same outward normal, same sub-triangle area `|χ| / 2`. -/
theorem legacy_side (c : P2) (f : OFace) (hs : f.s = 1 ∨ f.s = -1) (hχ : f.chi c ≠ 0) :
    f.s * legacyNx c f = (reorient c f).nx 1 ∧ f.s * legacyNy c f = (reorient c f).ny 1
    ∧ wAbs c f = wOriented 1 c (reorient c f) := by
  have hσ := flip_sign hs hχ
  refine ⟨?_, ?_, by linarith [wAbs_eq c f hs, wOriented_reorient c f]⟩
  · calc f.s * legacyNx c f = f.s * (if f.s * f.chi c < 0 then -1 else 1) * f.nx 1 := by
          unfold legacyNx; split <;> ring
      _ = (reorient c f).nx 1 := by
          rw [hσ]; unfold reorient; split <;> simp only [OFace.nx, OFace.ty] <;> ring
  · calc f.s * legacyNy c f = f.s * (if f.s * f.chi c < 0 then -1 else 1) * f.ny 1 := by
          unfold legacyNy; split <;> ring
      _ = (reorient c f).ny 1 := by
          rw [hσ]; unfold reorient; split <;> simp only [OFace.ny, OFace.tx] <;> ring

theorem reorient_redirect (c : P2) (f : OFace) (flip : Bool) (s : Rat) (hf : f.s = 1) (hpos : 0 < f.chi c) :
    reorient c (redirect flip s f) = f := by
  cases flip with
  | false =>
    have : (redirect false s f).chi c = f.chi c := by simp [redirect, OFace.chi, OFace.mx, OFace.my, OFace.tx, OFace.ty]
    unfold reorient
    rw [this, if_pos (le_of_lt hpos)]
    cases f; simp_all [redirect]
  | true =>
    have : (redirect true s f).chi c = -(f.chi c) := by
      simp [redirect, OFace.chi, OFace.mx, OFace.my, OFace.tx, OFace.ty]; ring
    unfold reorient
    rw [this, if_neg (by linarith)]
    cases f; simp_all [redirect]

theorem legacy_scrambled_aux (c : P2) (l : List OFace) (ch : List (Bool × Rat))
    (hlen : ch.length = l.length) (hl : ∀ f ∈ l, f.s = 1 ∧ 0 < f.chi c) :
    (List.zipWith (fun f k => redirect k.1 k.2 f) l ch).map (reorient c) = l := by
  induction l generalizing ch with
  | nil => simp
  | cons f l ih =>
    cases ch with
    | nil => simp at hlen
    | cons k ch =>
      simp only [List.zipWith_cons_cons, List.map_cons]
      have hf := hl f List.mem_cons_self
      rw [reorient_redirect c f k.1 k.2 hf.1 hf.2,
        ih ch (by simpa using hlen) (fun g hg => hl g (List.mem_cons_of_mem _ hg))]

end PorepyVerif.C19
