/-
`merge_matrices` on rows: four stages for sorted lines (pointers after removal, kept entries, pointers after insertion,
`np.insert`), then the sorting of unsorted lines.
-/
import PorepyVerif.C35.Lines
import PorepyVerif.Common.InsSort
import PorepyVerif.Common.List

namespace PorepyVerif.C35

/-- (position, value) pairs that insert `ins_j` at the start of row `j`, rows given as (ins_j, a_j) -/
def pairsFrom {β} (s : Nat) : List (List β × List β) → List (Nat × β)
  | [] => []
  | (ins, a) :: rest => ins.map (fun v => (s, v)) ++ pairsFrom (s + a.length) rest

theorem pairsFrom_ge {β} (s : Nat) (rows : List (List β × List β)) : ∀ q ∈ pairsFrom s rows, s ≤ q.1 := by
  induction rows generalizing s with
  | nil => intro q hq; cases hq
  | cons p rows ih =>
    obtain ⟨ins, a⟩ := p
    intro q hq
    simp only [pairsFrom, List.mem_append, List.mem_map] at hq
    rcases hq with ⟨v, _, rfl⟩ | hq
    · exact Nat.le_refl _
    · exact Nat.le_trans (Nat.le_add_right _ _) (ih (s + a.length) q hq)

/-- `np.insert` run from position `s` over rows given as (inserted, kept) pairs. `pend` are the values waiting at `s`
itself (inserted in front of rows that turned out empty); `dead` are pairs whose position lies behind `s`, which both
branches of `npInsertFrom` filter out. -/
theorem npInsert_rows {β} : ∀ (rows : List (List β × List β)) (s : Nat) (dead : List (Nat × β)) (pend : List β),
    (∀ q ∈ dead, q.1 < s) →
    npInsertFrom s (dead ++ pend.map (fun v => (s, v)) ++ pairsFrom s rows) ((rows.map (·.2)).flatten)
      = pend ++ (rows.map (fun p => p.1 ++ p.2)).flatten := by
  intro rows
  induction rows with
  | nil =>
    intro s dead pend hdead
    simp only [pairsFrom, List.append_nil, List.map_nil, List.flatten_nil, npInsertFrom, List.filter_append,
      List.map_append]
    rw [filter_eq_nil_of_forall _ dead (fun q hq => decide_eq_false (Nat.not_le.mpr (hdead q hq))),
      List.filter_eq_self.mpr (by intro q hq; obtain ⟨v, _, rfl⟩ := List.mem_map.mp hq; simp)]
    simp [List.map_map, Function.comp_def]
  | cons p rows ih =>
    obtain ⟨ins, a⟩ := p
    induction a generalizing ins with
    | nil =>
      intro s dead pend hdead
      have := ih s dead (pend ++ ins) hdead
      simp only [List.map_append, List.append_assoc] at this
      simp only [pairsFrom, List.length_nil, Nat.add_zero, List.map_cons, List.flatten_cons, List.nil_append,
        List.append_nil, List.append_assoc]
      rw [this]
    | cons x a iha =>
      intro s dead pend hdead
      simp only [pairsFrom, List.map_cons, List.flatten_cons, List.cons_append, npInsertFrom, List.length_cons]
      -- the values emitted at position s
      have hf : ((dead ++ pend.map (fun v => (s, v)) ++ (ins.map (fun v => (s, v)) ++ pairsFrom (s + (a.length + 1)) rows)).filter
          (fun p => p.1 == s)).map (·.2) = pend ++ ins := by
        simp only [List.filter_append, List.map_append]
        rw [filter_eq_nil_of_forall _ dead (fun q hq => beq_eq_false_iff_ne.mpr (Nat.ne_of_lt (hdead q hq))),
          List.filter_eq_self.mpr (by intro q hq; obtain ⟨v, _, rfl⟩ := List.mem_map.mp hq; simp),
          List.filter_eq_self.mpr (by intro q hq; obtain ⟨v, _, rfl⟩ := List.mem_map.mp hq; simp),
          filter_eq_nil_of_forall _ (pairsFrom _ rows) (fun q hq => beq_eq_false_iff_ne.mpr
            (Nat.ne_of_gt (Nat.lt_of_lt_of_le (Nat.lt_add_of_pos_right (Nat.succ_pos _)) (pairsFrom_ge _ _ q hq))))]
        simp [List.map_map, Function.comp_def]
      rw [hf]
      have hrec := iha [] (s + 1) (dead ++ pend.map (fun v => (s, v)) ++ ins.map (fun v => (s, v))) [] (by
        intro q hq
        simp only [List.mem_append, List.mem_map] at hq
        rcases hq with (hq | ⟨v, _, rfl⟩) | ⟨v, _, rfl⟩
        · exact Nat.lt_succ_of_lt (hdead q hq)
        · exact Nat.lt_succ_self s
        · exact Nat.lt_succ_self s)
      simp only [List.map_nil, List.append_nil, pairsFrom, List.nil_append, List.map_cons, List.flatten_cons] at hrec
      have e : s + (a.length + 1) = s + 1 + a.length := (Nat.add_right_comm s 1 a.length).symm
      rw [e]
      simp only [List.append_assoc] at hrec ⊢
      rw [hrec]
      simp

/-- inserting `ins_j` at the start of every row `a_j` gives the rows `ins_j ++ a_j` -/
theorem npInsertFrom_pairsFrom {β} (rows : List (List β × List β)) :
    npInsertFrom 0 (pairsFrom 0 rows) (rows.map (·.2)).flatten = (rows.map (fun p => p.1 ++ p.2)).flatten :=
  npInsert_rows rows 0 [] [] (fun _ hq => nomatch hq)

/-- rows of `A` with the replaced lines emptied -/
def emptiedRows (RA : List (List (Nat × Rat))) (lines : List Nat) : List (List (Nat × Rat)) :=
  (List.range RA.length).map (fun j => if j ∈ lines then [] else RA.getD j [])

/-- rows of `A` with line `lines[k]` replaced by row `k` of `B` -/
def mergedRows (RA : List (List (Nat × Rat))) (lines : List Nat) (RB : List (List (Nat × Rat))) : List (List (Nat × Rat)) :=
  (List.range RA.length).map (fun j => ((lines.zip RB).lookup j).getD (RA.getD j []))

theorem length_emptiedRows (RA : List (List (Nat × Rat))) (lines : List Nat) : (emptiedRows RA lines).length = RA.length := by
  simp [emptiedRows]

theorem length_mergedRows (RA : List (List (Nat × Rat))) (lines : List Nat) (RB) : (mergedRows RA lines RB).length = RA.length := by
  simp [mergedRows]

/-- `indptr - num_rem`: the pointers of the rows with the replaced lines emptied -/
theorem indptr1_ofRows (nc : Nat) (RA : List (List (Nat × Rat))) (lines : List Nat) (hnd : lines.Nodup)
    (hlt : ∀ l ∈ lines, l < RA.length) :
    List.zipWith (· - ·) ((ofRows nc RA).indptr.map (fun (p : Nat) => (p : Int)))
      (cumsum (scatter (List.replicate (ofRows nc RA).indptr.length (0 : Int)) (lines.map (· + 1))
        (lines.map (fun l => ((RA.getD l []).length : Int)))))
      = (ptrsFrom 0 (emptiedRows RA lines)).map (fun (p : Nat) => (p : Int)) := by
  have hl : (ofRows nc RA).indptr.length = RA.length + 1 := by simp [ofRows, length_ptrsFrom]
  rw [hl, cumsum_scatter_zeros RA.length lines _ hnd hlt (by simp)]
  simp only [ofRows, ptrsFrom_cast, Int.natCast_zero, List.zipWith_cons_cons, Int.sub_self]
  rw [cumsumFrom_zipWith (· - ·) (fun s x t y => by
    rw [Int.sub_eq_add_neg, Int.neg_add, Int.add_assoc, Int.add_left_comm x, ← Int.add_assoc]; rfl) _ _ _ _ (by simp),
    Int.sub_self]
  congr 2
  rw [Common.map_eq_map_range_getD (fun r => (r.length : Int)) RA [], List.zipWith_map, List.zipWith_self, emptiedRows, List.map_map]
  apply List.map_congr_left
  intro j _
  simp only [lookup_zip_map, Function.comp]
  by_cases hj : j ∈ lines
  · simp [hj]
  · simp [hj]

/-- `diff(B.indptr)`: the row lengths of `B` -/
theorem rep_ofRows (nc : Nat) (RB : List (List (Nat × Rat))) :
    diffFrom ((ofRows nc RB).indptr.headD 0) ((ofRows nc RB).indptr.tail.map (fun (p : Nat) => (p : Int)))
      = RB.map (fun r => (r.length : Int)) := by
  have h := ptrsFrom_cast 0 RB
  have h0 : (ofRows nc RB).indptr.headD 0 = 0 := by simp only [ofRows]; rw [ptrsFrom_eq_cons]; rfl
  have ht : (ofRows nc RB).indptr.tail.map (fun (p : Nat) => (p : Int)) = cumsumFrom 0 (RB.map (fun r => (r.length : Int))) := by
    have := congrArg List.tail h
    simpa [ofRows, List.map_tail] using this
  rw [h0, ht]
  exact diffFrom_cumsumFrom 0 _

/-- `indptr1 + num_added`: the pointers of the merged rows -/
theorem indptr2_ofRows (RA : List (List (Nat × Rat))) (lines : List Nat) (RB : List (List (Nat × Rat)))
    (hnd : lines.Nodup) (hlt : ∀ l ∈ lines, l < RA.length) (hlen : lines.length = RB.length) :
    (List.zipWith (· + ·) ((ptrsFrom 0 (emptiedRows RA lines)).map (fun (p : Nat) => (p : Int)))
      (cumsum (scatter (List.replicate ((ptrsFrom 0 (emptiedRows RA lines)).map (fun (p : Nat) => (p : Int))).length (0 : Int))
        (lines.map (· + 1)) (RB.map (fun r => (r.length : Int)))))).map Int.toNat
      = ptrsFrom 0 (mergedRows RA lines RB) := by
  have hl : ((ptrsFrom 0 (emptiedRows RA lines)).map (fun (p : Nat) => (p : Int))).length = RA.length + 1 := by
    simp [length_ptrsFrom, length_emptiedRows]
  rw [hl, cumsum_scatter_zeros RA.length lines _ hnd hlt (by simpa using hlen)]
  have hgoal : (ptrsFrom 0 (mergedRows RA lines RB)) = ((ptrsFrom 0 (mergedRows RA lines RB)).map (fun (p : Nat) => (p : Int))).map Int.toNat := by
    simp [List.map_map, Function.comp_def]
  rw [hgoal]
  congr 1
  simp only [ptrsFrom_cast, Int.natCast_zero, List.zipWith_cons_cons, Int.add_zero]
  rw [cumsumFrom_zipWith (· + ·) (fun s x t y => by
    rw [Int.add_assoc, Int.add_left_comm x, ← Int.add_assoc]) _ _ _ _ (by simp [length_emptiedRows]), Int.add_zero]
  congr 2
  simp only [emptiedRows, mergedRows, List.map_map, List.zipWith_map, List.zipWith_self]
  apply List.map_congr_left
  intro j _
  simp only [Function.comp, lookup_zip_map_right]
  by_cases hj : j ∈ lines
  · obtain ⟨b, hb⟩ := lookup_isSome_of_mem j lines RB hj hlen
    simp [hj, hb]
  · simp [hj, lookup_zip_of_not_mem j lines RB hj]

/-- an idempotent update of lines, read off line by line -/
theorem mapLines_eq_map {β} (f : List β → List β) (hf : ∀ r, f (f r) = f r) : ∀ (lines : List Nat) (R : List (List β)),
    (∀ l ∈ lines, l < R.length) →
    mapLines f R lines = (List.range R.length).map (fun j => if j ∈ lines then f (R.getD j []) else R.getD j []) := by
  intro lines
  induction lines with
  | nil =>
    intro R _
    simp only [mapLines, List.not_mem_nil, if_false]
    have := Common.map_eq_map_range_getD (fun (r : List β) => r) R []
    simpa using this
  | cons l lines ih =>
    intro R hlt
    have hl : l < R.length := hlt l List.mem_cons_self
    rw [mapLines, ih _ (by intro k hk; rw [List.length_set]; exact hlt k (List.mem_cons_of_mem _ hk)), List.length_set]
    apply List.map_congr_left
    intro j hj
    have hj' : j < R.length := List.mem_range.mp hj
    by_cases hjl : j = l
    · subst hjl
      have e : (R.set j (f (R.getD j []))).getD j [] = f (R.getD j []) := by
        simp [List.getD_eq_getElem?_getD, hj']
      simp only [e, List.mem_cons, true_or, if_true, hf, ite_self]
    · have e : (R.set l (f (R.getD l []))).getD j [] = R.getD j [] := by
        simp only [List.getD_eq_getElem?_getD]
        rw [List.getElem?_set_ne (fun e => hjl e.symm)]
      simp only [e, List.mem_cons, hjl, false_or]

/-- the kept storage entries are the rows of `A` outside the replaced lines -/
theorem kept_ofRows {γ} (nc : Nat) (RA : List (List (Nat × Rat))) (f : Nat × Rat → γ) (lines : List Nat)
    (hlt : ∀ l ∈ lines, l < RA.length) :
    maskSel (RA.flatten.map f)
        (scatterConst (List.replicate (RA.flatten.map f).length true) ((ofRows nc RA).lineIdx lines) false)
      = (emptiedRows RA lines).flatten.map f := by
  rw [lineIdx_ofRows nc RA (RA.map (fun r => List.replicate r.length true)) (by simp [List.map_map, Function.comp_def])
    lines hlt, List.length_map, replicate_flatten_length]
  rw [scatterConst_lines false lines _ (by simpa using hlt), setLines, mapLines_eq_map _ (fun r => by rw [List.length_replicate]) lines _ (by simpa using hlt),
    maskSel_map]
  congr 1
  have hRA : RA = (List.range RA.length).map (fun j => RA.getD j []) := by
    have := Common.map_eq_map_range_getD (fun (r : List (Nat × Rat)) => r) RA []
    simpa using this
  have e : ∀ j, (RA.map (fun r => List.replicate r.length true)).getD j []
      = List.replicate (RA.getD j []).length true :=
    fun j => Common.getD_map (fun r => List.replicate r.length true) RA j []
  conv => lhs; arg 1; rw [hRA]
  simp only [List.length_map]
  rw [maskSel_rows]
  · simp only [emptiedRows]
    congr 1
    apply List.map_congr_left
    intro j _
    rw [e]
    by_cases hjl : j ∈ lines
    · simp only [hjl, if_true, List.length_replicate, maskSel_replicate_false]
    · simp only [hjl, if_false, maskSel_replicate_true]
  · intro j
    rw [e]
    split <;> simp

/-- The insertion pairs of the rows `j, …, j + n - 1` are those of the `lines` among them, in increasing order: only they
have something to insert (`e none = []`), and `P`, the row pointer of the kept rows, gives each its position. -/
theorem pairsFrom_lookup {β γ} (P : Nat → Nat) (keep : Nat → List γ) (e : Option β → List γ) (he : e none = []) :
    ∀ (n j : Nat) (lines : List Nat) (vals : List β), lines.length = vals.length →
      lines.Pairwise (· < ·) → (∀ l ∈ lines, j ≤ l ∧ l < j + n) →
      (∀ k, j ≤ k → k < j + n → P (k + 1) = P k + (keep k).length) →
      pairsFrom (P j) ((List.range' j n).map (fun k => (e ((lines.zip vals).lookup k), keep k)))
        = (lines.zip vals).flatMap (fun p => (e (some p.2)).map (fun v => (P p.1, v))) := by
  intro n
  induction n with
  | zero =>
    intro j lines vals _ _ hr _
    cases lines with
    | nil => rfl
    | cons l ls => exact absurd (hr l List.mem_cons_self).2 (Nat.not_lt.mpr (hr l List.mem_cons_self).1)
  | succ n ih =>
    intro j lines vals hlen hs hr hP
    have hPj := hP j (Nat.le_refl _) (Nat.lt_add_of_pos_right (Nat.succ_pos n))
    have hup : ∀ k, j < k → k < j + (n + 1) → j + 1 ≤ k ∧ k < j + 1 + n :=
      fun k h1 h2 => ⟨h1, by rw [Nat.add_right_comm]; exact h2⟩
    have hP' : ∀ k, j + 1 ≤ k → k < j + 1 + n → P (k + 1) = P k + (keep k).length :=
      fun k h1 h2 => hP k (Nat.le_of_succ_le h1) (by rw [Nat.add_right_comm] at h2; exact h2)
    -- row `j` is not a line when all lines lie above it
    have hskip : (∀ k ∈ lines, j < k) → pairsFrom (P j) ((List.range' j (n + 1)).map
          (fun k => (e ((lines.zip vals).lookup k), keep k)))
        = (lines.zip vals).flatMap (fun p => (e (some p.2)).map (fun v => (P p.1, v))) := by
      intro hall
      have hnot : j ∉ lines := fun hmem => Nat.lt_irrefl j (hall j hmem)
      rw [List.range'_succ, List.map_cons, pairsFrom, ← hPj, lookup_zip_of_not_mem j lines vals hnot, he, List.map_nil,
        List.nil_append]
      exact ih (j + 1) lines vals hlen hs (fun k hk => hup k (hall k hk) (hr k hk).2) hP'
    cases lines with
    | nil => exact hskip (fun _ hk => nomatch hk)
    | cons l ls => cases vals with
      | nil => cases hlen
      | cons b bs =>
        have hs' := List.pairwise_cons.mp hs
        by_cases hlj : l = j
        · subst hlj
          have := ih (l + 1) ls bs (Nat.succ.inj hlen) hs'.2
            (fun k hk => hup k (hs'.1 k hk) (hr k (List.mem_cons_of_mem _ hk)).2) hP'
          rw [List.range'_succ, List.map_cons, pairsFrom, ← hPj]
          simp only [List.zip_cons_cons, List.flatMap_cons, List.lookup_cons, beq_self_eq_true]
          rw [← this]
          congr 2
          apply List.map_congr_left
          intro k hk
          have hkl : (k == l) = false := beq_eq_false_iff_ne.mpr (Nat.ne_of_gt (List.mem_range'_1.mp hk).1)
          simp only [hkl]
        · have hjl : j < l := Nat.lt_of_le_of_ne (hr l List.mem_cons_self).1 (Ne.symm hlj)
          apply hskip
          intro k hk
          rcases List.mem_cons.mp hk with rfl | h
          · exact hjl
          · exact Nat.lt_trans hjl (hs'.1 k h)

/-- `np.insert` of whole rows `V` at the starts of the rows `lines` of `K` (sorted): row `V_k` lands in front of
    row `lines[k]` -/
theorem npInsert_lines {β} (K V : List (List β)) (lines : List Nat) (hs : lines.Pairwise (· < ·))
    (hlt : ∀ l ∈ lines, l < K.length) (hlen : lines.length = V.length) :
    npInsert K.flatten (repeatSpec (lines.map (fun l => (ptrsFrom 0 K).getD l 0)) (V.map List.length)) V.flatten
      = ((List.range K.length).map (fun j => ((lines.zip V).lookup j).getD [] ++ K.getD j [])).flatten := by
  have hpairs := pairsFrom_lookup (fun k => (ptrsFrom 0 K).getD k 0) (fun k => K.getD k []) (fun o => o.getD []) rfl
    K.length 0 lines V hlen hs (fun l hl => ⟨Nat.zero_le l, by rw [Nat.zero_add]; exact hlt l hl⟩)
    (fun k _ hk => ptr_succ K 0 k (by rwa [Nat.zero_add] at hk))
  have h0 : (ptrsFrom 0 K).getD 0 0 = 0 := by rw [ptrsFrom_eq_cons]; rfl
  rw [h0, ← List.range_eq_range'] at hpairs
  simp only [Option.getD_some] at hpairs
  have hK : K.flatten = (((List.range K.length).map (fun j => (((lines.zip V).lookup j).getD [], K.getD j []))).map (·.2)).flatten := by
    rw [List.map_map]
    exact congrArg List.flatten ((List.map_id K).symm.trans (Common.map_eq_map_range_getD id K []))
  rw [npInsert, zip_repeatSpec_flatten _ _ (by simpa using hlen), List.zipWith_map_left, flatten_zipWith_eq_flatMap_zip,
    hK, ← hpairs, npInsertFrom_pairsFrom, List.map_map]
  rfl

/-- `np.insert` of the rows of `B` at the starts of the emptied lines rebuilds the merged rows -/
theorem inserted_ofRows {γ} (RA : List (List (Nat × Rat))) (lines : List Nat) (RB : List (List (Nat × Rat)))
    (f : Nat × Rat → γ) (hs : lines.Pairwise (· < ·)) (hlt : ∀ l ∈ lines, l < RA.length)
    (hlen : lines.length = RB.length) :
    npInsert ((emptiedRows RA lines).flatten.map f)
        (repeatSpec (lines.map (fun l => (((ptrsFrom 0 (emptiedRows RA lines)).map (fun (p : Nat) => (p : Int))).getD l 0).toNat))
          ((RB.map (fun r => (r.length : Int))).map Int.toNat))
        (RB.flatten.map f)
      = (mergedRows RA lines RB).flatten.map f := by
  have hP : ∀ l, (((ptrsFrom 0 (emptiedRows RA lines)).map (fun (p : Nat) => (p : Int))).getD l 0).toNat
      = (ptrsFrom 0 ((emptiedRows RA lines).map (List.map f))).getD l 0 := by
    intro l
    have := Common.getD_map (fun (p : Nat) => (p : Int)) (ptrsFrom 0 (emptiedRows RA lines)) l 0
    simp only [Int.natCast_zero] at this
    rw [this, Int.toNat_natCast, ptrsFrom_congr 0 ((emptiedRows RA lines).map (List.map f)) (emptiedRows RA lines)
      (by simp [List.map_map, Function.comp_def])]
  have hreps : (RB.map (fun r => (r.length : Int))).map Int.toNat = (RB.map (List.map f)).map List.length := by
    simp [List.map_map, Function.comp_def]
  have h := npInsert_lines ((emptiedRows RA lines).map (List.map f)) (RB.map (List.map f)) lines hs
    (by simpa [length_emptiedRows] using hlt) (by simpa using hlen)
  simp only [hP, hreps, List.map_flatten]
  rw [h, List.length_map, length_emptiedRows]
  simp only [mergedRows, emptiedRows, List.map_map]
  congr 1
  apply List.map_congr_left
  intro j hj
  have hj' : j < RA.length := List.mem_range.mp hj
  simp only [Function.comp, lookup_zip_map_right, List.getD_eq_getElem?_getD, List.getElem?_map, List.getElem?_range hj']
  by_cases hjl : j ∈ lines
  · obtain ⟨b, hb⟩ := lookup_isSome_of_mem j lines RB hjl hlen
    simp [hjl, hb]
  · simp [hjl, lookup_zip_of_not_mem j lines RB hjl]

theorem mergeSorted_ofRows (nc : Nat) (RA RB : List (List (Nat × Rat))) (lines : List Nat)
    (hs : lines.Pairwise (· < ·)) (hlt : ∀ l ∈ lines, l < RA.length) (hlen : lines.length = RB.length) :
    mergeSorted (ofRows nc RA) (ofRows nc RB) lines = ofRows nc (mergedRows RA lines RB) := by
  have hnd : lines.Nodup := hs.imp (fun h => Nat.ne_of_lt h)
  simp only [mergeSorted]
  rw [removed_ofRows nc RA lines hlt, indptr1_ofRows nc RA lines hnd hlt, rep_ofRows nc RB]
  rw [indptr2_ofRows RA lines RB hnd hlt hlen]
  have hk1 := kept_ofRows nc RA (·.1) lines hlt
  have hk2 := kept_ofRows nc RA (·.2) lines hlt
  have hi1 := inserted_ofRows RA lines RB (·.1) hs hlt hlen
  have hi2 := inserted_ofRows RA lines RB (·.2) hs hlt hlen
  simp only [ofRows, List.length_map] at hk1 hk2 hi1 hi2 ⊢
  rw [hk1, hk2, hi1, hi2, length_mergedRows]

theorem replaceRows_eq_scatter {β} (M : List (List β)) (lines : List Nat) (N : List (List β)) :
    replaceRows M lines N = scatter M lines N := by
  induction lines generalizing M N with
  | nil => cases N <;> rfl
  | cons l lines ih => cases N with
    | nil => rfl
    | cons r N => exact ih _ _

theorem replaceRows_eq_map {β} (lines : List Nat) (RA RB : List (List β)) (hnd : lines.Nodup)
    (hlt : ∀ l ∈ lines, l < RA.length) (hlen : lines.length = RB.length) :
    replaceRows RA lines RB
      = (List.range RA.length).map (fun j => ((lines.zip RB).lookup j).getD (RA.getD j [])) := by
  rw [replaceRows_eq_scatter]
  exact scatter_eq_map [] lines RB RA hnd hlt hlen

theorem replaceRows_eq_mergedRows (lines : List Nat) (RA RB : List (List (Nat × Rat))) (hnd : lines.Nodup)
    (hlt : ∀ l ∈ lines, l < RA.length) (hlen : lines.length = RB.length) :
    replaceRows RA lines RB = mergedRows RA lines RB :=
  replaceRows_eq_map lines RA RB hnd hlt hlen

theorem replaceRows_map {β γ} (f : List β → List γ) : ∀ (lines : List Nat) (M N : List (List β)),
    (replaceRows M lines N).map f = replaceRows (M.map f) lines (N.map f) := by
  intro lines
  induction lines with
  | nil => intro M N; cases N <;> rfl
  | cons l lines ih =>
    intro M N
    cases N with
    | nil => rfl
    | cons b N => simp only [replaceRows, List.map_cons, ih, List.map_set]

theorem insSort : Common.InsSort (fun a b => a.1 ≤ b.1) insertKey sortKeys :=
  .of_ite Nat.le_trans Nat.le_of_not_le (fun _ => rfl) (fun _ _ _ => rfl) rfl (fun _ _ => rfl)

theorem enumFrom_fst {α} (k : Nat) (l : List α) : (enumFrom k l).map (·.1) = l := by
  induction l generalizing k with
  | nil => rfl
  | cons a l ih => simp [enumFrom, ih]

theorem enumFrom_spec {α} [Inhabited α] (k : Nat) (l : List α) :
    ∀ p ∈ enumFrom k l, ∃ i, p.2 = k + i ∧ i < l.length ∧ l.getD i default = p.1 := by
  induction l generalizing k with
  | nil => intro p hp; cases hp
  | cons a l ih =>
    intro p hp
    rw [enumFrom, List.mem_cons] at hp
    rcases hp with rfl | hp
    · exact ⟨0, rfl, Nat.succ_pos _, rfl⟩
    · obtain ⟨i, h1, h2, h3⟩ := ih (k + 1) p hp
      exact ⟨i + 1, h1.trans (Nat.add_right_comm k 1 i), Nat.succ_lt_succ h2, h3⟩

theorem hasDescent_false_sorted : ∀ (l : List Nat), hasDescent l = false → l.Pairwise (· ≤ ·) := by
  intro l
  induction l with
  | nil => intro _; exact List.Pairwise.nil
  | cons a l ih =>
    intro h
    cases l with
    | nil => simp
    | cons b l =>
      simp only [hasDescent, Bool.or_eq_false_iff, decide_eq_false_iff_not, Nat.not_lt] at h
      have hb := ih h.2
      refine List.pairwise_cons.mpr ⟨?_, hb⟩
      intro c hc
      rcases List.mem_cons.mp hc with rfl | hc
      · exact h.1
      · exact Nat.le_trans h.1 ((List.pairwise_cons.mp hb).1 c hc)

theorem enumFrom_zip {β} (RB : List (List β)) : ∀ (l : List Nat) (k : Nat), k + l.length ≤ RB.length →
    (enumFrom k l).map (fun p => (p.1, RB.getD p.2 [])) = l.zip (RB.drop k) := by
  intro l
  induction l with
  | nil => intro k _; rfl
  | cons a l ih =>
    intro k h
    have hk : k < RB.length := Nat.lt_of_lt_of_le (Nat.lt_add_of_pos_right (Nat.succ_pos _)) h
    have hd : RB.drop k = RB.getD k [] :: RB.drop (k + 1) := by
      rw [List.drop_eq_getElem_cons hk, List.getD_eq_getElem?_getD, List.getElem?_eq_getElem hk, Option.getD_some]
    rw [hd, enumFrom, List.map_cons, List.zip_cons_cons,
      ih (k + 1) (Nat.le_trans (Nat.le_of_eq (Nat.add_right_comm k 1 l.length)) h)]

theorem mergeLines_ofRows (nc : Nat) (RA RB : List (List (Nat × Rat))) (lines : List Nat)
    (hnd : lines.Nodup) (hlt : ∀ l ∈ lines, l < RA.length) (hlen : lines.length = RB.length) :
    mergeLines (ofRows nc RA) (ofRows nc RB) lines = ofRows nc (mergedRows RA lines RB) := by
  unfold mergeLines
  by_cases hd : hasDescent lines = true
  · rw [if_pos hd]
    let S := sortKeys (enumFrom 0 lines)
    have hperm : S.Perm (enumFrom 0 lines) := insSort.perm _
    have hspec : ∀ p ∈ S, p.2 < lines.length ∧ lines.getD p.2 default = p.1 := by
      intro p hp
      obtain ⟨i, h1, h2, h3⟩ := enumFrom_spec 0 lines p (hperm.mem_iff.mp hp)
      rw [Nat.zero_add] at h1
      rw [h1]
      exact ⟨h2, h3⟩
    have hs : argsort lines = S.map (·.2) := rfl
    have hg : gather lines (argsort lines) = S.map (·.1) := by
      rw [hs]
      simp only [gather, List.map_map]
      apply List.map_congr_left
      intro p hp
      exact (hspec p hp).2
    have hfst : (S.map (·.1)).Perm lines := by
      have := hperm.map (·.1)
      rwa [enumFrom_fst] at this
    have hnd' : (S.map (·.1)).Nodup := hfst.nodup_iff.mpr hnd
    have hsorted : (S.map (·.1)).Pairwise (· < ·) := by
      apply Common.strict_of_sorted_nodup _ hnd'
      rw [List.pairwise_map]
      exact insSort.sorted _
    have hslice : sliceLines (ofRows nc RB) (argsort lines) = ofRows nc ((argsort lines).map (fun i => RB.getD i [])) := by
      apply sliceLines_ofRows
      intro i hi
      rw [hs] at hi
      obtain ⟨p, hp, rfl⟩ := List.mem_map.mp hi
      rw [← hlen]; exact (hspec p hp).1
    show mergeSorted (ofRows nc RA) (sliceLines (ofRows nc RB) (argsort lines)) (gather lines (argsort lines)) = _
    rw [hslice, hg, mergeSorted_ofRows nc RA _ _ hsorted (by
      intro l hl; exact hlt l (hfst.mem_iff.mp hl)) (by simp [hs])]
    congr 1
    simp only [mergedRows]
    apply List.map_congr_left
    intro j _
    congr 1
    have hz1 : (S.map (·.1)).zip ((argsort lines).map (fun i => RB.getD i []))
        = S.map (fun p => (p.1, RB.getD p.2 [])) := by
      rw [hs, List.map_map, List.zip_map']
      rfl
    have hz2 : lines.zip RB = (enumFrom 0 lines).map (fun p => (p.1, RB.getD p.2 [])) := by
      rw [enumFrom_zip RB lines 0 (by rw [Nat.zero_add, hlen]; exact Nat.le_refl _)]; rfl
    rw [hz1, hz2]
    apply lookup_perm j (hperm.map _)
    rw [List.map_map]
    exact hnd'
  · rw [if_neg hd]
    have hd' : hasDescent lines = false := by simpa using hd
    exact mergeSorted_ofRows nc RA RB lines
      (Common.strict_of_sorted_nodup (hasDescent_false_sorted _ hd') hnd) hlt hlen

theorem RowsOk_mergedRows (nc : Nat) (RA RB : List (List (Nat × Rat))) (lines : List Nat)
    (hA : RowsOk nc RA) (hB : RowsOk nc RB) : RowsOk nc (mergedRows RA lines RB) := by
  intro r hr
  obtain ⟨j, _, rfl⟩ := List.mem_map.mp hr
  cases hlk : (lines.zip RB).lookup j with
  | none => exact RowsOk_getD hA j
  | some b => exact hB b (List.of_mem_zip (lookup_some_mem j b _ hlk)).2

end PorepyVerif.C35
