/-
`block_diag_index` on top of `rldecode` and `expand_index_pointers`; `expand_indices_nd`, `expand_indices_add_increment`.
-/
import PorepyVerif.C35.Expand
import PorepyVerif.C35.RunLength
import PorepyVerif.Common.List

namespace PorepyVerif.C35

theorem ravelF_map_rows (n : Nat) (g : Nat → Int → Int) (x : List Int) :
    ravelF ((List.range n).map (fun d => x.map (g d))) x.length
      = x.flatMap (fun v => (List.range n).map (fun d => g d v)) := by
  induction x with
  | nil => simp [ravelF]
  | cons v x ih =>
    simp only [ravelF, List.length_cons, List.range_succ_eq_map, List.flatMap_cons, List.map_cons,
      List.flatMap_map, List.map_map] at ih ⊢
    congr 1

theorem expandIndicesNd_F (ind : List Int) (nd : Nat) :
    expandIndicesNd ind nd true = expandNdSpecF ind nd := by
  unfold expandIndicesNd expandNdSpecF
  by_cases h : nd = 1
  · subst h
    simp only [if_true]
    have : (fun (i : Int) => (List.range 1).map (fun (d : Nat) => ((1 : Nat) : Int) * i + (d : Int))) = fun i => [i] := by
      funext i; simp [List.range_succ]
    rw [this, List.flatMap_singleton']
  · simp only [h, if_false, if_true]
    exact ravelF_map_rows nd (fun d i => (nd : Int) * i + (d : Int)) ind

theorem expandIndicesNd_C (ind : List Int) (nd : Nat) (h : nd ≠ 1) :
    expandIndicesNd ind nd false = expandNdSpecC ind nd := by
  unfold expandIndicesNd expandNdSpecC
  simp only [h, if_false, Bool.false_eq_true, List.flatMap_def]

theorem expandIndicesIncr_eq (x : List Int) (n : Nat) (incr : Int) :
    expandIndicesIncr x n incr = expandIncrSpec x n incr := by
  unfold expandIndicesIncr expandIncrSpec
  exact ravelF_map_rows n (fun d v => v + incr * (d : Int)) x

theorem blockDiagIndexSq_eq (off : Nat) (m : List Nat) :
    blockDiagIndexSq off m = (bdiSpec off off m m).map (·.1) := by
  induction m generalizing off with
  | nil => rfl
  | cons s m ih =>
    simp only [blockDiagIndexSq, bdiSpec, List.map_append, ih, tile_eq_flatMap, List.map_flatMap, List.map_map]
    congr 1
    apply Common.flatMap_congr
    intro c _
    simp [List.range'_eq_map_range, Function.comp_def]

theorem bdi_rows : ∀ (m n : List Nat) (ro co : Nat), m.length = n.length →
    expandSpec
        (rldecodeSpec (((ro : Int) :: cumsumFrom (ro : Int) (m.map (fun (c : Nat) => (c : Int)))).dropLast)
          (n.map (fun (c : Nat) => (c : Int))))
        ((rldecodeSpec ((cumsumFrom (ro : Int) (m.map (fun (c : Nat) => (c : Int)))).map (· - 1))
          (n.map (fun (c : Nat) => (c : Int)))).map (· + 1))
      = (bdiSpec ro co m n).map (fun p => ((p.1 : Nat) : Int)) := by
  intro m
  induction m with
  | nil => intro n ro co h; cases n with
    | nil => rfl
    | cons _ _ => cases h
  | cons mk m ih =>
    intro n ro co h
    cases n with
    | nil => cases h
    | cons nk n =>
      have h' : m.length = n.length := Nat.succ.inj h
      have e0 : (ro : Int) + (mk : Int) = ((ro + mk : Nat) : Int) := by push_cast; rfl
      have ih' := ih n (ro + mk) (co + nk) h'
      rw [← e0] at ih'
      simp only [List.map_cons, cumsumFrom_cons', dropLast_cons_cons, rldecodeSpec, Int.toNat_natCast,
        List.map_append, List.map_replicate, bdiSpec]
      rw [expandSpec_append _ _ _ _ (by simp), ih', expandSpec_replicate]
      congr 1
      rw [List.map_flatMap]
      apply Common.flatMap_congr
      intro c _
      have e1 : (ro : Int) + (mk : Int) - 1 + 1 = (ro : Int) + (mk : Int) := Int.sub_add_cancel _ _
      rw [e1, rangeI_nat, List.map_map]
      rfl

theorem bdi_cols : ∀ (m n : List Nat) (ro co : Nat), m.length = n.length →
    rldecodeSpec (rangeI (co : Int) ((co : Int) + sumI (n.map (fun (c : Nat) => (c : Int)))))
        (rldecodeSpec (m.map (fun (c : Nat) => (c : Int))) (n.map (fun (c : Nat) => (c : Int))))
      = (bdiSpec ro co m n).map (fun p => ((p.2 : Nat) : Int)) := by
  intro m
  induction m with
  | nil => intro n ro co h; cases n with
    | nil => simp [rldecodeSpec, bdiSpec]
    | cons _ _ => cases h
  | cons mk m ih =>
    intro n ro co h
    cases n with
    | nil => cases h
    | cons nk n =>
      have ih' := ih n (ro + mk) (co + nk) (Nat.succ.inj h)
      simp only [List.map_cons, sumI, rldecodeSpec, Int.toNat_natCast, bdiSpec, List.map_append]
      rw [sumI_natCast, ← Int.natCast_add, rangeI_split]
      rw [sumI_natCast] at ih'
      have hl2 : (rangeI (co : Int) ((co : Int) + (nk : Int))).length = nk := by
        rw [rangeI_nat, List.length_map, List.length_range]
      rw [rldecodeSpec_append _ _ _ _ (hl2.trans List.length_replicate.symm), ih']
      congr 1
      have hrep := rldecodeSpec_replicate (rangeI (co : Int) ((co : Int) + (nk : Int))) ((mk : Nat) : Int)
      rw [hl2] at hrep
      rw [hrep]
      rw [rangeI_nat, List.flatMap_map, List.map_flatMap]
      apply Common.flatMap_congr
      intro c _
      simp [List.map_const', Function.comp_def]

theorem blockDiagIndex_eq (m n : List Nat) (h : m.length = n.length) :
    blockDiagIndex (m.map (fun (c : Nat) => (c : Int))) (n.map (fun (c : Nat) => (c : Int)))
      = .ok ((bdiSpec 0 0 m n).map (fun p => ((p.1 : Nat) : Int)), (bdiSpec 0 0 m n).map (fun p => ((p.2 : Nat) : Int))) := by
  have hlc := length_cumsumFrom
  have hpos : cumsum (0 :: m.map (fun (c : Nat) => (c : Int))) = (0 : Int) :: cumsumFrom 0 (m.map (fun (c : Nat) => (c : Int))) := by
    simp [cumsum, cumsumFrom]
  have h1 : (n.map (fun (c : Nat) => (c : Int))).length ≤ ((0 : Int) :: cumsumFrom 0 (m.map (fun (c : Nat) => (c : Int)))).dropLast.length := by
    simp [hlc, h]
  have h2 : (n.map (fun (c : Nat) => (c : Int))).length ≤ ((cumsumFrom 0 (m.map (fun (c : Nat) => (c : Int)))).map (· - 1)).length := by
    simp [hlc, h]
  have h3 : (n.map (fun (c : Nat) => (c : Int))).length ≤ (m.map (fun (c : Nat) => (c : Int))).length := by simp [h]
  have h4 : (rldecodeSpec (m.map (fun (c : Nat) => (c : Int))) (n.map (fun (c : Nat) => (c : Int)))).length
      ≤ (rangeI 0 (sumI (n.map (fun (c : Nat) => (c : Int))))).length := by
    rw [length_rldecodeSpec _ _ (by simp [h]), sumI_natCast]
    simp [rangeI]
  have r1 := bdi_rows m n 0 0 h
  have r2 := bdi_cols m n 0 0 h
  simp only [Int.natCast_zero, Int.zero_add] at r1 r2
  simp only [blockDiagIndex, hpos, List.tail_cons, bind, Except.bind, rldecode_eq_repeat' _ _ h1,
    rldecode_eq_repeat' _ _ h2, rldecode_eq_repeat' _ _ h3, rldecode_eq_repeat' _ _ h4]
  rw [expand_index_pointers_same_length]
  · simp only [r1, r2, pure, Except.pure]
  · simp [length_rldecodeSpec, hlc, h]

end PorepyVerif.C35
