/-
`rldecode` (markers at the block starts, summed up, number the blocks) and `rlencode` (induction along the runs, `rleSpec_rec`).
-/
import PorepyVerif.C35.Arrays

namespace PorepyVerif.C35

/-- block number of every decoded position -/
def blockIdx (k : Nat) : List Nat → List Nat
  | [] => []
  | c :: cs => List.replicate c k ++ blockIdx (k + 1) cs

theorem cumsumFromN_headed (k : Nat) (cs : List Nat) (hpos : ∀ c ∈ cs, 1 ≤ c) :
    cumsumFromN k (headed 0 (List.replicate cs.length 1) cs) = blockIdx (k + 1) cs := by
  induction cs generalizing k with
  | nil => rfl
  | cons c cs ih =>
    have hc : 1 ≤ c := hpos c List.mem_cons_self
    have hpos' : ∀ c ∈ cs, 1 ≤ c := fun x hx => hpos x (List.mem_cons_of_mem _ hx)
    simp only [List.length_cons, List.replicate_succ, headed, List.cons_append, cumsumFromN, blockIdx]
    rw [cumsumFromN_replicate_zero, ih (k + 1) hpos']
    match c, hc with
    | m + 1, _ => rw [Nat.add_sub_cancel, List.replicate_succ, List.cons_append]

/-- `j = zeros(sum cs); j[cumsum(cs)[:-1]] = 1; cumsum(j)`: the block number of every decoded position -/
theorem cumsumFromN_marks (cs : List Nat) (hpos : ∀ c ∈ cs, 1 ≤ c) :
    cumsumFromN 0 (scatterConst (List.replicate (sumN cs) (0 : Nat)) (cumsumFromN 0 cs).dropLast 1)
      = blockIdx 0 cs := by
  cases cs with
  | nil => rfl
  | cons c cs =>
    have hpos' : ∀ c ∈ cs, 1 ≤ c := fun x hx => hpos x (List.mem_cons_of_mem _ hx)
    have h := scatter_blocks (0 : Nat) cs (List.replicate cs.length 1) [] (List.replicate c 0)
      List.length_replicate hpos'
    simp only [List.nil_append, List.length_nil, List.length_replicate] at h
    have e : ((cumsumFromN 0 (c :: cs)).dropLast).length = cs.length := by
      rw [List.length_dropLast, length_cumsumFromN, List.length_cons, Nat.add_sub_cancel]
    rw [scatterConst_eq_scatter, sumN_cons, ← List.replicate_append_replicate, e, h,
      cumsumFromN_replicate_zero, cumsumFromN_headed 0 cs hpos']
    rfl

theorem gather_blockIdx {α} [Inhabited α] : ∀ (cs : List Nat) (pre w : List α), w.length = cs.length →
    gather (pre ++ w) (blockIdx pre.length cs) = repeatSpec w cs := by
  intro cs
  induction cs with
  | nil => intro pre w _; cases w <;> rfl
  | cons c cs ih =>
    intro pre w h
    cases w with
    | nil => cases h
    | cons x w =>
      have h1 := ih (pre ++ [x]) w (Nat.succ.inj h)
      rw [List.length_append, List.length_singleton, List.append_assoc, List.singleton_append] at h1
      have hx : (pre ++ x :: w).getD pre.length default = x := by simp [List.getD_eq_getElem?_getD]
      rw [blockIdx, gather_append, gather_replicate, hx, repeatSpec, h1]

/-- positive counts of `n` as naturals -/
def posCounts (n : List Int) : List Nat := (n.filter (fun c => decide (0 < c))).map Int.toNat

theorem length_trueIdxFrom_pos (k : Nat) (n : List Int) :
    (trueIdxFrom k (n.map (fun c => decide (0 < c)))).length = (posCounts n).length := by
  induction n generalizing k with
  | nil => rfl
  | cons c n ih =>
    simp only [List.map_cons, trueIdxFrom, posCounts, List.filter_cons]
    by_cases hc : 0 < c
    · simp only [hc, decide_true, if_true, List.length_cons, List.map_cons]
      have := ih (k + 1)
      simp only [posCounts] at this
      rw [this]
    · simp only [hc, decide_false, Bool.false_eq_true, if_false]
      have := ih (k + 1)
      simp only [posCounts] at this
      rw [this]

theorem repeatSpec_maskSel_pos {α} : ∀ (n : List Int) (a : List α),
    repeatSpec (maskSel a (n.map (fun c => decide (0 < c)))) (posCounts n) = rldecodeSpec a n := by
  intro n
  induction n with
  | nil => intro a; cases a <;> rfl
  | cons c n ih =>
    intro a
    cases a with
    | nil => rfl
    | cons x a =>
      simp only [List.map_cons, maskSel, posCounts, List.filter_cons, rldecodeSpec]
      by_cases hc : 0 < c
      · simp only [hc, decide_true, if_true, List.map_cons, repeatSpec]
        exact congrArg _ (ih a)
      · have hz : c.toNat = 0 := Int.toNat_eq_zero.mpr (Int.not_lt.mp hc)
        simp only [hc, decide_false, Bool.false_eq_true, if_false, hz, List.replicate_zero, List.nil_append]
        exact ih a

theorem posCounts_pos (n : List Int) : ∀ c ∈ posCounts n, 1 ≤ c := by
  intro c hc
  simp only [posCounts, List.mem_map, List.mem_filter] at hc
  obtain ⟨z, ⟨_, hz⟩, rfl⟩ := hc
  exact Int.pos_iff_toNat_pos.mp (by simpa using hz)

/-- the index vector `flatnonzero(r)[cumsum(j)]` of the code -/
theorem rldecode_idx (n : List Int) :
    let r := n.map (fun c => decide (0 < c))
    let nr : List Nat := (maskSel n r).map Int.toNat
    let i := cumsumN (0 :: nr)
    gather (whereTrue r) (cumsumN (scatterConst (List.replicate (i.getLastD 0) (0 : Nat)) i.tail.dropLast 1))
      = repeatSpec (whereTrue r) (posCounts n) := by
  intro r nr i
  have hnr : nr = posCounts n := by simp only [nr, r, maskSel_map_filter, posCounts]
  have hi : i = 0 :: cumsumFromN 0 nr := by simp only [i, cumsumN, cumsumFromN]
  rw [hi, getLastD_cumsumFromN, List.tail_cons, Nat.zero_add, hnr, cumsumN,
    cumsumFromN_marks _ (posCounts_pos n)]
  exact gather_blockIdx (posCounts n) [] (whereTrue r) (length_trueIdxFrom_pos 0 n)

/-- the index array `i` of `rlencode` for the sub-list `a` that starts at global position `k` -/
def rleIdx {α} [DecidableEq α] (k : Nat) (a : List α) : List Int :=
  (trueIdxFrom k (neighbourDiff a)).map (fun (j : Nat) => (j : Int)) ++ [((k + a.length : Nat) : Int) - 1]

theorem rleIdx_cons_cons {α} [DecidableEq α] (k : Nat) (x y : α) (l : List α) :
    rleIdx k (x :: y :: l) = if x = y then rleIdx (k + 1) (y :: l) else (k : Int) :: rleIdx (k + 1) (y :: l) := by
  have e : k + (x :: y :: l).length = k + 1 + (y :: l).length := (Nat.succ_add_eq_add_succ k _).symm
  unfold rleIdx
  rw [e]
  by_cases hxy : x = y
  · simp only [neighbourDiff, trueIdxFrom, hxy, decide_true, Bool.not_true, Bool.false_eq_true, if_false,
      if_true]
  · simp only [neighbourDiff, trueIdxFrom, hxy, decide_false, Bool.not_false, if_true, if_false,
      List.map_cons, List.cons_append]

theorem rleSpec_cons_of {α} [DecidableEq α] (x b : α) (a : List α) (n : Nat) (r : List (α × Nat))
    (h : rleSpec a = (b, n) :: r) :
    rleSpec (x :: a) = if x = b then (b, n + 1) :: r else (x, 1) :: (b, n) :: r := by
  rw [rleSpec, h]

theorem rleSpec_cons_head {α} [DecidableEq α] (y : α) (l : List α) :
    ∃ n r, rleSpec (y :: l) = (y, n) :: r := by
  cases h : rleSpec l with
  | nil => exact ⟨1, [], by rw [rleSpec, h]⟩
  | cons p r =>
    obtain ⟨b, n⟩ := p
    rw [rleSpec_cons_of y b l n r h]
    by_cases hb : y = b
    · subst hb; exact ⟨n + 1, r, if_pos rfl⟩
    · exact ⟨1, (b, n) :: r, if_neg hb⟩

/-- Induction along the runs: `rleSpec` either opens a new run in front or lengthens the first one. -/
theorem rleSpec_rec {α} [DecidableEq α] {motive : List α → Prop}
    (nil : motive []) (one : ∀ x, motive [x])
    (same : ∀ x l n r, rleSpec (x :: l) = (x, n) :: r → rleSpec (x :: x :: l) = (x, n + 1) :: r →
      motive (x :: l) → motive (x :: x :: l))
    (diff : ∀ x y l n r, x ≠ y → rleSpec (y :: l) = (y, n) :: r →
      rleSpec (x :: y :: l) = (x, 1) :: (y, n) :: r → motive (y :: l) → motive (x :: y :: l)) :
    ∀ a, motive a := by
  intro a
  induction a with
  | nil => exact nil
  | cons x a ih =>
    cases a with
    | nil => exact one x
    | cons y l =>
      obtain ⟨n, r, hr⟩ := rleSpec_cons_head y l
      have hs := rleSpec_cons_of x y _ n r hr
      by_cases hxy : x = y
      · subst hxy; exact same x l n r hr (hs.trans (if_pos rfl)) ih
      · exact diff x y l n r hxy hr (hs.trans (if_neg hxy)) ih

/-- The positions `rlencode` picks (the last position of every run) carry the run values, and they are
    the running sums of the run lengths, so that `np.diff` gives the lengths back. -/
theorem rle_main {α} [DecidableEq α] [Inhabited α] (full : List α) :
    ∀ (a : List α) (k : Nat), a ≠ [] → full.drop k = a →
      gather full ((rleIdx k a).map Int.toNat) = (rleSpec a).map (·.1) ∧
      rleIdx k a = cumsumFrom ((k : Int) - 1) ((rleSpec a).map (fun p => (p.2 : Int))) := by
  intro a
  have ek : ∀ k : Nat, ((k + 1 : Nat) : Int) - 1 = (k : Int) := fun k => Int.add_sub_cancel (k : Int) 1
  induction a using rleSpec_rec with
  | nil => intro k h; exact absurd rfl h
  | one x =>
    intro k _ hk
    have e1 : rleIdx k [x] = [(k : Int)] := congrArg (fun z => [z]) (ek k)
    rw [e1]
    exact ⟨congrArg (fun z => [z]) (getD_of_drop_eq_cons full default k x [] hk).1,
      congrArg (fun z => [z]) (Int.sub_add_cancel (k : Int) 1).symm⟩
  | same x l n r hr hs ih =>
    intro k _ hk
    obtain ⟨h1, h2⟩ := ih (k + 1) (List.cons_ne_nil x l) (getD_of_drop_eq_cons full default k x _ hk).2
    rw [hr] at h1 h2
    rw [rleIdx_cons_cons, if_pos rfl, hs]
    refine ⟨h1, ?_⟩
    have e : (k : Int) - 1 + ((n + 1 : Nat) : Int) = (k : Int) + (n : Int) := by
      rw [Int.natCast_succ, Int.add_comm (n : Int) 1, ← Int.add_assoc, Int.sub_add_cancel]
    rw [h2, ek]
    simp only [List.map_cons, cumsumFrom, e]
  | diff x y l n r hxy hr hs ih =>
    intro k _ hk
    obtain ⟨hx, hk'⟩ := getD_of_drop_eq_cons full default k x _ hk
    obtain ⟨h1, h2⟩ := ih (k + 1) (List.cons_ne_nil y l) hk'
    rw [hr] at h1 h2
    rw [rleIdx_cons_cons, if_neg hxy, hs]
    constructor
    · simp only [List.map_cons, Int.toNat_natCast, gather] at h1 ⊢
      rw [h1, hx]
    · have e : (k : Int) - 1 + ((1 : Nat) : Int) = (k : Int) := Int.sub_add_cancel (k : Int) 1
      rw [h2, ek]
      simp only [List.map_cons, cumsumFrom, e]

theorem rldecodeSpec_rleSpec {α} [DecidableEq α] (a : List α) :
    rldecodeSpec ((rleSpec a).map (·.1)) ((rleSpec a).map (fun p => (p.2 : Int))) = a := by
  induction a using rleSpec_rec with
  | nil => rfl
  | one x => rfl
  | same x l n r hr hs ih =>
    rw [hr] at ih
    rw [hs]
    simp only [List.map_cons, rldecodeSpec, Int.toNat_natCast, List.replicate_succ, List.cons_append] at ih ⊢
    rw [ih]
  | diff x y l n r _ hr hs ih =>
    rw [hr] at ih
    rw [hs]
    simp only [List.map_cons, rldecodeSpec, Int.toNat_natCast] at ih ⊢
    rw [ih]; rfl

theorem rleSpec_maximal {α} [DecidableEq α] (a : List α) :
    (neighbourDiff ((rleSpec a).map (·.1))).all id = true ∧ ∀ p ∈ rleSpec a, 1 ≤ p.2 := by
  induction a using rleSpec_rec with
  | nil => exact ⟨rfl, fun _ h => nomatch h⟩
  | one x => exact ⟨rfl, List.forall_mem_cons.mpr ⟨Nat.le_refl 1, fun _ h => nomatch h⟩⟩
  | same x l n r hr hs ih =>
    rw [hr] at ih
    rw [hs]
    exact ⟨ih.1, List.forall_mem_cons.mpr ⟨Nat.le_add_left 1 n, (List.forall_mem_cons.mp ih.2).2⟩⟩
  | diff x y l n r hxy hr hs ih =>
    rw [hr] at ih
    rw [hs]
    refine ⟨?_, List.forall_mem_cons.mpr ⟨Nat.le_refl 1, ih.2⟩⟩
    simp only [List.map_cons, neighbourDiff, List.all_cons] at ih ⊢
    simp [hxy, ih.1]

/-- `rldecode` in full: `np.repeat`, or numpy's `IndexError` when a positive count sits beyond the end of `a` -/
theorem rldecode_total {α} [Inhabited α] (a : List α) (n : List Int) :
    rldecode a n = if (whereTrue (n.map (fun c => decide (0 < c)))).any (fun k => decide (a.length ≤ k))
      then .error "IndexError" else .ok (rldecodeSpec a n) := by
  have hidx := rldecode_idx n
  simp only at hidx
  simp only [rldecode, hidx, gather_repeatSpec]
  rw [any_repeatSpec _ (whereTrue _) _ (length_trueIdxFrom_pos 0 n) (posCounts_pos n)]
  split
  · rfl
  · next hany =>
    have hlt : ∀ i ∈ trueIdxFrom 0 (n.map (fun c => decide (0 < c))), i < 0 + a.length := by
      intro i hi
      rw [Nat.zero_add]
      exact Nat.not_le.mp (fun hle => hany (List.any_eq_true.mpr ⟨i, hi, decide_eq_true hle⟩))
    rw [whereTrue, show gather a _ = _ from map_getD_trueIdx a default _ a 0 rfl hlt, repeatSpec_maskSel_pos]

theorem rldecode_eq_repeat' {α} [Inhabited α] (a : List α) (n : List Int) (h : n.length ≤ a.length) :
    rldecode a n = .ok (rldecodeSpec a n) := by
  refine (rldecode_total a n).trans (if_neg (fun hany => ?_))
  obtain ⟨k, hk, hle⟩ := List.any_eq_true.mp hany
  have := (trueIdxFrom_bounds 0 _ k hk).2
  rw [Nat.zero_add, List.length_map] at this
  exact Nat.not_le.mpr (Nat.lt_of_lt_of_le this h) (of_decide_eq_true hle)

theorem rldecodeSpec_append {α} (a1 a2 : List α) (n1 n2 : List Int) (h : a1.length = n1.length) :
    rldecodeSpec (a1 ++ a2) (n1 ++ n2) = rldecodeSpec a1 n1 ++ rldecodeSpec a2 n2 := by
  induction a1 generalizing n1 with
  | nil => cases n1 with
    | nil => rfl
    | cons _ _ => cases h
  | cons x a1 ih => cases n1 with
    | nil => cases h
    | cons c n1 =>
      rw [List.cons_append, List.cons_append, rldecodeSpec, rldecodeSpec, ih n1 (Nat.succ.inj h), List.append_assoc]

theorem rldecodeSpec_replicate {α} (a : List α) (c : Int) :
    rldecodeSpec a (List.replicate a.length c) = a.flatMap (fun x => List.replicate c.toNat x) := by
  induction a with
  | nil => rfl
  | cons x a ih => simp only [List.length_cons, List.replicate_succ, rldecodeSpec, ih, List.flatMap_cons]

theorem length_rldecodeSpec {α} (a : List α) (n : List Nat) (h : n.length ≤ a.length) :
    (rldecodeSpec a (n.map (fun (c : Nat) => (c : Int)))).length = sumN n := by
  induction n generalizing a with
  | nil => cases a <;> rfl
  | cons c n ih => cases a with
    | nil => exact absurd h (Nat.not_succ_le_zero _)
    | cons x a =>
      simp only [List.map_cons, rldecodeSpec, List.length_append, List.length_replicate, Int.toNat_natCast,
        sumN, ih a (Nat.le_of_succ_le_succ h)]

end PorepyVerif.C35
