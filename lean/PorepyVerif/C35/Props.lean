/-
C35 — property theorems (statements only depend on Model.lean; helper lemmas in the modules that Lemmas.lean imports).

Property: row/column slicing, row/column replacement, zeroing, stacking, block construction,
run-length encoding/decoding, index-pointer expansion, block-diagonal index generation and
Kronecker expansion return exactly what the equivalent dense operations return.

Every theorem has the shape  `toDense (f A …) = denseRef (toDense A) …`  (or, for the index helpers,
`f … = spec …` with `spec` the obvious structural recursion), for ALL well-formed inputs.
-/
import PorepyVerif.C35.Lemmas

namespace PorepyVerif.C35

/-! ## non-vacuity of the well-formedness predicate

`Csr.WF` is decidable; the driver evaluates it on every matrix the generator produces (`wf_in`) and
the harness fails if it is ever false.  Concrete witnesses: an empty row, unsorted and duplicate
column indices, an explicit zero; zero-size matrices. -/

example : (⟨3, 3, [0, 2, 2, 5], [2, 0, 1, 1, 0], [1, 2, 3, 4, 0]⟩ : Csr).WF := by decide +kernel
example : (⟨0, 3, [0], [], []⟩ : Csr).WF ∧ (⟨2, 0, [0, 0, 0], [], []⟩ : Csr).WF := by decide +kernel
example : (⟨3, 3, [0, 2, 2, 5], [2, 0, 1, 1, 0], [1, 2, 3, 4, 0]⟩ : Csr).toDense
    = [[2, 0, 1], [0, 0, 0], [0, 7, 0]] := by decide +kernel
/-- the hypotheses of `merge_eq_row_replacement` hold for an unsorted line list -/
example : (⟨3, 3, [0, 2, 2, 4], [0, 2, 0, 1], [1, 2, 3, 4]⟩ : Csr).WF ∧ (⟨2, 3, [0, 1, 3], [1, 0, 2], [7, 8, 9]⟩ : Csr).WF ∧
    [1, 0].length = 2 ∧ [1, 0].Nodup ∧ (∀ l ∈ [1, 0], l < 3) := by decide +kernel
/-- not well formed: decreasing `indptr`, column index out of range -/
example : ¬ (⟨2, 2, [0, 2, 1], [0, 1], [1, 2]⟩ : Csr).WF ∧ ¬ (⟨1, 2, [0, 1], [2], [1]⟩ : Csr).WF := by decide +kernel

/-- `expand_index_pointers(lo, hi)` is the concatenation of the ranges `[lo_k, hi_k)` — the loop in
    the docstring — for all integer arrays of equal length (empty and negative-length intervals,
    negative bounds included). -/
theorem expand_index_pointers_eq_ranges (lo hi : List Int) (h : lo.length = hi.length) :
    expandIndexPointers lo hi = .ok (expandSpec lo hi) :=
  expand_index_pointers_same_length lo hi h

/-- … and with numpy broadcasting of a single bound; unequal lengths are the `ValueError`. -/
theorem expand_index_pointers_broadcast (lo hi : List Int) :
    expandIndexPointers lo hi =
      if (broadcastLoHi lo hi).1.length = (broadcastLoHi lo hi).2.length
      then .ok (expandSpec (broadcastLoHi lo hi).1 (broadcastLoHi lo hi).2) else .error "ValueError" := by
  simp only [expandIndexPointers, expandCore_eq_spec]
  split <;> simp_all

example : expandIndexPointers [0, 0, 0] [2, 4, 3] = .ok [0, 1, 0, 1, 2, 3, 0, 1, 2] := by decide +kernel
example : expandIndexPointers [3, -3, 5, 5] [2, -1, 7, 5] = .ok [-3, -2, 5, 6] := by decide +kernel

/-- `rldecode(A, n)` = `np.repeat(A, n)` (counts ≤ 0 contribute nothing), for every value list and
    every count list that is not longer than the values. -/
theorem rldecode_eq_repeat {α} [Inhabited α] (a : List α) (n : List Int) (h : n.length ≤ a.length) :
    rldecode a n = .ok (rldecodeSpec a n) := rldecode_eq_repeat' a n h

example : rldecode [1, 2, 3] [2, 0, 1] = .ok [1, 1, 3] := by decide +kernel

/-- `rlencode(A)` returns the maximal runs of equal neighbouring columns: values and lengths. -/
theorem rlencode_eq_runs {α} [DecidableEq α] [Inhabited α] (a : List α) (h : a ≠ []) :
    rlencode a = .ok ((rleSpec a).map (·.1), (rleSpec a).map (fun p => (p.2 : Int))) := by
  obtain ⟨h1, h2⟩ := rle_main a a 0 h rfl
  have hl : a.length ≠ 0 := fun e => h (List.eq_nil_of_length_eq_zero e)
  have e : (trueIdxFrom 0 (neighbourDiff a)).map (fun (k : Nat) => (k : Int)) ++ [(a.length : Int) - 1] = rleIdx 0 a := by
    rw [rleIdx, Nat.zero_add]
  simp only [rlencode, hl, if_false, e, h1]
  rw [h2]
  exact congrArg (fun c => Except.ok (_, c)) (diffFrom_cumsumFrom (-1) _)

/-- The runs returned by `rlencode` are maximal (neighbouring values differ), non-empty, and decode
    back to the input. -/
theorem rleSpec_characterisation {α} [DecidableEq α] (a : List α) :
    (neighbourDiff ((rleSpec a).map (·.1))).all id = true ∧ (∀ p ∈ rleSpec a, 1 ≤ p.2) ∧
    rldecodeSpec ((rleSpec a).map (·.1)) ((rleSpec a).map (fun p => (p.2 : Int))) = a :=
  ⟨(rleSpec_maximal a).1, (rleSpec_maximal a).2, rldecodeSpec_rleSpec a⟩

/-- Round trip on the real algorithms: `rldecode(*rlencode(A)) = A` for every non-empty `A`. -/
theorem rldecode_rlencode {α} [DecidableEq α] [Inhabited α] (a : List α) (h : a ≠ []) :
    ∃ v c, rlencode a = .ok (v, c) ∧ rldecode v c = .ok a := by
  refine ⟨_, _, rlencode_eq_runs a h, ?_⟩
  rw [rldecode_eq_repeat _ _ (by simp), rldecodeSpec_rleSpec]

example : rlencode [1, 1, 2, 2, 2, 1] = .ok ([1, 2, 1], [2, 3, 1]) := by decide +kernel
example : rlencode ([] : List Int) = .error "IndexError" := by decide +kernel

/-- `stack_mat(A, B)` (csr: `vstack`, csc: `hstack` of the transposed reading): the dense matrix of
    the result is the dense matrix of `A` followed by the lines of `B`; the result is well formed. -/
theorem stack_mat_eq_vstack (A B : Csr) (hA : A.WF) (hB : B.WF) (hc : A.ncols = B.ncols) :
    (stackMat A B).toDense = A.toDense ++ B.toDense ∧ (stackMat A B).WF := by
  induction A, hA using WF_rec with | rows nc RA okA => ?_
  induction B, hB using WF_rec with | rows ncB RB okB => ?_
  have hc : nc = ncB := hc
  subst hc
  rw [stackMat_ofRows, toDense_ofRows, toDense_ofRows, toDense_ofRows, List.map_append]
  exact ⟨rfl, WF_ofRows _ _ (RowsOk_append okA okB)⟩

/-- `stack_diag(A, B)` = `[[A, 0], [0, B]]` densely, including the shortcut `B.shape == (0, 0)` of the
    code and every `B` with no lines but a non-zero minor dimension (repaired in /repo, 962d765f1). -/
theorem stack_diag_eq_block_diag (A B : Csr) (hA : A.WF) (hB : B.WF) :
    (stackDiag A B).toDense = diagDense A.toDense A.ncols B.toDense B.ncols ∧ (stackDiag A B).WF := by
  induction A, hA using WF_rec with | rows ncA RA okA => ?_
  induction B, hB using WF_rec with | rows ncB RB okB => ?_
  rw [stackDiag_ofRows, toDense_ofRows, toDense_ofRows, toDense_ofRows]
  exact ⟨diagRows_dense ncA ncB RA RB okA, WF_ofRows _ _ (RowsOk_diagRows okA okB)⟩

example : (stackDiag ⟨1, 2, [0, 1], [1], [5]⟩ ⟨2, 1, [0, 0, 1], [0], [7]⟩).toDense
    = [[0, 5, 0], [0, 0, 0], [0, 0, 7]] := by decide +kernel

/-- `slice_sparse_matrix(A, ind)`: line `k` of the result is line `ind[k]` of `A` — dense fancy
    indexing `A[ind, :]` — for every index list (unsorted, repeated, empty) in range. -/
theorem slice_eq_dense_index (A : Csr) (hA : A.WF) (ind : List Nat) (hi : ∀ i ∈ ind, i < A.nrows) :
    (sliceLines A ind).toDense = sliceDense A.toDense A.ncols ind ∧ (sliceLines A ind).WF ∧
    (sliceLines A ind).rows = ind.map (fun i => A.rows.getD i []) := by
  induction A, hA using WF_rec with | rows nc R okA => ?_
  have hi : ∀ i ∈ ind, i < R.length := hi
  have hok : RowsOk nc (ind.map (fun i => R.getD i [])) := by
    intro r hr
    obtain ⟨i, _, rfl⟩ := List.mem_map.mp hr
    exact RowsOk_getD okA i
  rw [sliceLines_ofRows nc R ind hi, toDense_ofRows, toDense_ofRows, rows_ofRows, rows_ofRows]
  refine ⟨?_, WF_ofRows _ _ hok, rfl⟩
  simp only [sliceDense, List.map_map]
  apply List.map_congr_left
  intro i hi'
  exact (getD_map_denseRow nc R i (hi i hi')).symm

/-- boolean masks: `slice_sparse_matrix(A, mask)` slices with `np.where(mask)[0]`; what the slicing
    theorems need of it is that every position is in range (that the positions are exactly those of the
    `True` entries, in order, is `slice_mask_eq_dense_mask`). -/
theorem whereTrue_spec (mask : List Bool) :
    ∀ i ∈ whereTrue mask, i < mask.length := by
  intro i hi
  have := trueIdxFrom_bounds 0 mask i hi
  omega

/-- `slice_indices(A, ind)`: the column indices stored in the lines `ind`, line after line. -/
theorem slice_indices_eq (A : Csr) (hA : A.WF) (ind : List Nat) (hi : ∀ i ∈ ind, i < A.nrows) :
    (sliceIndices A ind).1 = (ind.map (fun i => (A.rows.getD i []).map (·.1))).flatten := by
  induction A, hA using WF_rec with | rows nc R _ => ?_
  rw [sliceIndices_ofRows nc R ind hi, rows_ofRows, List.map_flatten, List.map_map]
  rfl

/-- … and `array_ind` (second output of `slice_indices`) lists the storage positions
    `indptr[i] … indptr[i+1]-1` of the lines, line after line (any matrix, any lines). -/
theorem slice_indices_array_ind (A : Csr) (ind : List Nat) :
    (sliceIndices A ind).2 = ind.flatMap (fun i =>
      List.range' (A.indptr.getD i 0) (A.indptr.getD (i + 1) 0 - A.indptr.getD i 0)) :=
  lineIdx_eq A ind

/-- scalar `slice_ind`: the column indices stored in line `i` and the slice `indptr[i]:indptr[i+1]`. -/
theorem slice_indices_int_eq (A : Csr) (hA : A.WF) (i : Nat) :
    sliceIndicesInt A i = ((A.rowEntries i).map (·.1), (A.indptr.getD i 0, A.indptr.getD (i + 1) 0)) := by
  obtain ⟨-, -, -, -, h5, -⟩ := WF_unpack A hA
  simp only [sliceIndicesInt, Csr.rowEntries, Prod.mk.injEq, and_true]
  rw [List.map_take, List.map_drop, List.map_fst_zip (by omega)]

example : (sliceLines ⟨3, 3, [0, 2, 2, 4], [0, 2, 0, 1], [1, 2, 3, 4]⟩ [2, 2, 0]).toDense
    = [[3, 4, 0], [3, 4, 0], [1, 0, 2]] := by decide +kernel

/-- `zero_rows(A, rows)` / `zero_columns`: densely `A[rows, :] = 0`; the sparsity structure
    (`indptr`, `indices`) is untouched; any index list (unsorted, repeated, empty) in range. -/
theorem zero_rows_eq_dense (A : Csr) (hA : A.WF) (rows : List Nat) (hi : ∀ i ∈ rows, i < A.nrows) :
    (zeroLines A rows).toDense = zeroRowsDense A.toDense rows ∧
    (zeroLines A rows).indptr = A.indptr ∧ (zeroLines A rows).indices = A.indices ∧ (zeroLines A rows).WF := by
  refine ⟨?_, rfl, rfl, ?_⟩
  · induction A, hA using WF_rec with | rows nc R _ => ?_
    rw [zeroLines_ofRows nc R rows hi, toDense_ofRows, toDense_ofRows, zeroRowsR_dense nc R rows hi]
  · have hw : (zeroLines A rows).wfb = A.wfb := by
      simp only [Csr.wfb, zeroLines, length_scatterConst]; rfl
    exact hw.trans hA

example : (zeroLines ⟨3, 3, [0, 2, 2, 4], [0, 2, 0, 1], [1, 2, 3, 4]⟩ [2, 2, 1]).toDense
    = [[1, 0, 2], [0, 0, 0], [0, 0, 0]] := by decide +kernel

/-- `merge_matrices(A, B, lines, fmt)`: densely `A[lines, :] = B` (csc: `A[:, lines] = B` on the
    transposed reading), for EVERY duplicate-free line list in range — sorted or not — and the
    argument checks pass; the result is well formed.  (Current /repo: unsorted lines are sorted and
    `B` is permuted accordingly; the old failing input is `corpus/C35/merge-unsorted-lines-*.json`.) -/
theorem merge_eq_row_replacement (A B : Csr) (lines : List Nat) (hA : A.WF) (hB : B.WF)
    (hc : A.ncols = B.ncols) (hl : lines.length = B.nrows) (hnd : lines.Nodup)
    (hlt : ∀ l ∈ lines, l < A.nrows) :
    mergeCheck A B lines = none ∧
    (mergeLines A B lines).toDense = replaceRows A.toDense lines B.toDense ∧
    (mergeLines A B lines).WF := by
  refine ⟨by simp [mergeCheck, hc, hl, hnd], ?_⟩
  induction A, hA using WF_rec with | rows nc RA okA => ?_
  induction B, hB using WF_rec with | rows ncB RB okB => ?_
  have hc : nc = ncB := hc
  subst hc
  rw [mergeLines_ofRows nc RA RB lines hnd hlt hl, toDense_ofRows, toDense_ofRows, toDense_ofRows,
    ← replaceRows_eq_mergedRows lines RA RB hnd hlt hl, replaceRows_map]
  exact ⟨rfl, WF_ofRows _ _ (by
    rw [replaceRows_eq_mergedRows lines RA RB hnd hlt hl]; exact RowsOk_mergedRows nc RA RB lines okA okB)⟩

/-- what `A[lines, :] = B` means entry-wise (duplicate-free `lines`): line `lines[k]` is line `k`
    of `B`, every other line is unchanged. -/
theorem replaceRows_spec (M N : List (List Rat)) (lines : List Nat) (hnd : lines.Nodup)
    (hlt : ∀ l ∈ lines, l < M.length) (hl : lines.length = N.length) (j : Nat) (hj : j < M.length) :
    (replaceRows M lines N).getD j [] = ((lines.zip N).lookup j).getD (M.getD j []) := by
  have h := replaceRows_eq_map lines M N hnd hlt hl
  rw [h]
  simp [List.getD_eq_getElem?_getD, hj]

example : (mergeLines ⟨3, 3, [0, 2, 2, 4], [0, 2, 0, 1], [1, 2, 3, 4]⟩ ⟨2, 3, [0, 1, 3], [1, 0, 2], [7, 8, 9]⟩ [1, 0]).toDense
    = [[8, 0, 9], [0, 7, 0], [3, 4, 0]] := by decide +kernel

/-- `csr_matrix_from_sparse_blocks(blocks)` / `csc_…`: densely the block-diagonal matrix of the
    blocks (`sps.block_diag`), for any non-empty list of well-formed blocks — blocks with zero
    rows and/or zero columns included; an empty list is the `ValueError` of `np.concatenate`. -/
theorem from_sparse_blocks_eq_block_diag (bs : List Csr) (hbs : ∀ b ∈ bs, b.WF) (hne : bs ≠ []) :
    ∃ C, fromSparseBlocks bs = .ok C ∧
      C.toDense = (blockDiagDense (bs.map (fun b => (b.toDense, b.ncols)))).1 ∧
      C.ncols = (blockDiagDense (bs.map (fun b => (b.toDense, b.ncols)))).2 ∧ C.WF := by
  let Rs := bs.map (fun b => (b.ncols, b.rows))
  have hRs : bs = Rs.map (fun p => ofRows p.1 p.2) := by
    rw [List.map_map]
    exact (List.map_id bs).symm.trans (List.map_congr_left (fun b hb => (WF_eq_ofRows b (hbs b hb)).1))
  obtain ⟨h1, h2, h3⟩ := blkRows_dense Rs (fun p hp => by
    obtain ⟨b, hb, rfl⟩ := List.mem_map.mp hp
    exact (WF_eq_ofRows b (hbs b hb)).2)
  have hd : Rs.map (fun p => (p.2.map (denseRow p.1), p.1)) = bs.map (fun b => (b.toDense, b.ncols)) :=
    List.map_map
  rw [hd] at h1 h2
  refine ⟨_, hRs ▸ fromSparseBlocks_ofRows Rs (by simpa [Rs] using hne), ?_, h2.symm, WF_ofRows _ _ h3⟩
  rw [toDense_ofRows, h1]

theorem from_sparse_blocks_empty : fromSparseBlocks [] = .error "ValueError" := rfl

/-- `csr_matrix_from_dense_blocks(data, block_size, num_blocks)` (csc: transposed reading, i.e. the
    data are read column-wise): densely the block diagonal of the `num_blocks` square blocks obtained
    by cutting `data` into chunks of `block_size²` values, each chunk row-major; well formed.
    `num_blocks = 0` (empty matrix) and `block_size = 1` (the code's special branch) included. -/
theorem from_dense_blocks_eq_block_diag (data : List Rat) (bs nb : Nat) (hbs : 1 ≤ bs)
    (hd : data.length = bs * bs * nb) :
    ∃ C, fromDenseBlocks data bs nb = .ok C ∧
      C.toDense = (blockDiagDense ((chunks (bs * bs) nb data).map (fun d => (chunks bs bs d, bs)))).1 ∧
      C.nrows = nb * bs ∧ C.ncols = nb * bs ∧ C.WF := by
  obtain ⟨h1, h2⟩ := fromDenseBlocks_dense data bs nb hd
  refine ⟨_, fromDenseBlocks_eq_ofRows data bs nb hbs hd, h1, ?_, rfl, WF_ofRows _ _ h2⟩
  exact (length_bdmRows _ 0 data).trans (sumN_replicate nb bs)

/-- a data array of the wrong size is the documented `ValueError` -/
theorem from_dense_blocks_size_error (data : List Rat) (bs nb : Nat) (hd : data.length ≠ bs * bs * nb) :
    fromDenseBlocks data bs nb = .error "ValueError" := by
  simp [fromDenseBlocks, hd]

example : (fromDenseBlocks [1, 2, 3, 4, 5, 6, 7, 8] 2 2).map Csr.toDense
    = .ok [[1, 2, 0, 0], [3, 4, 0, 0], [0, 0, 5, 6], [0, 0, 7, 8]] := by decide +kernel

/-- `block_diag_matrix(vals, sz)` (blocks of different sizes `sz_k`, zero sizes allowed): densely the
    block diagonal of the blocks cut from `vals` (`sz_k²` values each, row-major); built by the code
    from `block_diag_index(sz)` and `rldecode(sz, sz)`. -/
theorem block_diag_matrix_eq_block_diag (vals : List Rat) (sz : List Nat) (hv : vals.length = sumSq sz) :
    ∃ C, blockDiagMatrix vals sz = .ok C ∧
      C.toDense = (blockDiagDense ((varBlocks sz vals).map (fun p => (chunks p.2 p.2 p.1, p.2)))).1 ∧ C.WF := by
  obtain ⟨h2, h3⟩ := bdmRows_dense vals sz hv
  exact ⟨_, blockDiagMatrix_eq vals sz hv, h2, WF_ofRows _ _ h3⟩

example : (blockDiagMatrix [0, 1, 2, 3, 4] [1, 0, 2]).map Csr.toDense = .ok [[0, 0, 0], [0, 1, 2], [0, 3, 4]] := by
  decide +kernel

/-- `sps.kron(A, eye(nd))` in compressed form has the dense Kronecker product with the identity as
    its dense matrix (every `A`, well formed or not; `nd = 0` gives the empty matrix). -/
theorem kron_identity_dense (A : Csr) (nd : Nat) : (kronI A nd).toDense = kronDense A.toDense nd :=
  kronI_dense A nd

/-- `nd = 1` (the code returns the matrix unchanged): the Kronecker product with the 1×1 identity
    is the matrix itself. -/
theorem kron_one_dense (M : List (List Rat)) : kronDense M 1 = M := by
  induction M with
  | nil => rfl
  | cons row M ih =>
    simp only [kronDense, List.flatMap_cons] at ih ⊢
    rw [ih]
    simp [List.range_succ]

/-- `expand_indices_nd(ind, nd, "F")` lists `nd*i + d` for every index `i` and `d < nd`, index by
    index (the rows of `kron(·, I_nd)` that belong to the rows `ind`); `"C"` lists them `d` by `d`. -/
theorem expand_indices_nd_eq (ind : List Int) (nd : Nat) :
    expandIndicesNd ind nd true = expandNdSpecF ind nd ∧
    (nd ≠ 1 → expandIndicesNd ind nd false = expandNdSpecC ind nd) :=
  ⟨expandIndicesNd_F ind nd, expandIndicesNd_C ind nd⟩

/-- `expand_indices_add_increment(x, n, incr)` lists `x_k + incr*d`, `d < n`, entry by entry. -/
theorem expand_indices_add_increment_eq (x : List Int) (n : Nat) (incr : Int) :
    expandIndicesIncr x n incr = expandIncrSpec x n incr := expandIndicesIncr_eq x n incr

example : expandIndicesNd [0, 1, 3] 2 true = [0, 1, 2, 3, 6, 7] := by decide +kernel
example : (kronI ⟨1, 2, [0, 2], [1, 0], [5, 7]⟩ 2).toDense = [[7, 0, 5, 0], [0, 7, 0, 5]] := by decide +kernel

/-- `block_diag_index(m)` (square blocks): the row coordinates of the entries of the block diagonal,
    block after block and column after column inside a block. -/
theorem block_diag_index_square (m : List Nat) :
    blockDiagIndexSq 0 m = (bdiSpec 0 0 m m).map (·.1) := blockDiagIndexSq_eq 0 m

/-- `block_diag_index(m, n)` (rectangular blocks `m_k × n_k`, zero sizes allowed): the (row, column)
    coordinates of all entries of the block diagonal, block after block, column after column —
    computed by the code through `rldecode` and `expand_index_pointers`. -/
theorem block_diag_index_eq_coordinates (m n : List Nat) (h : m.length = n.length) :
    blockDiagIndex (m.map (fun (c : Nat) => (c : Int))) (n.map (fun (c : Nat) => (c : Int)))
      = .ok ((bdiSpec 0 0 m n).map (fun p => ((p.1 : Nat) : Int)),
             (bdiSpec 0 0 m n).map (fun p => ((p.2 : Nat) : Int))) :=
  blockDiagIndex_eq m n h

example : blockDiagIndex [2, 0, 1] [1, 0, 2] = .ok ([0, 1, 2, 2], [0, 0, 1, 2]) := by decide +kernel
example : bdiSpec 0 0 [2, 3] [1, 2] = [(0, 0), (1, 0), (2, 1), (3, 1), (4, 1), (2, 2), (3, 2), (4, 2)] := by
  decide +kernel

/-! ## the csc side

`Csc.toDense` is scipy's column-wise semantics written down directly.  `csc_eq_transposed_reading`
shows that it is the transpose of the row-wise semantics of the csr matrix with the same arrays, so
every csr theorem above transfers: the csc result is the transpose of the dense row operation
applied to the transpose (`transposeD M c` = transpose of a matrix with `c` columns).  For stacking
the transposes are eliminated (`hstack`, block diagonal). -/

/-- column-wise reading = transpose of the row-wise reading of the same arrays, in both directions -/
theorem csc_eq_transposed_reading (C : Csc) :
    C.toDense = transposeD C.read.toDense C.nrows ∧ C.read.toDense = transposeD C.toDense C.ncols :=
  ⟨csc_toDense_eq_transpose C, read_toDense C⟩

/-- transposing twice is the identity on r × c matrices (zero sizes included) -/
theorem transpose_transpose (M : List (List Rat)) (r c : Nat) (hr : M.length = r)
    (hc : ∀ row ∈ M, row.length = c) : transposeD (transposeD M c) r = M :=
  transposeD_involutive M r c hr hc

/-- `zero_columns(A, cols)`: `A[:, cols] = 0` (as the transposed row statement); structure kept -/
theorem zero_columns_eq_dense (C : Csc) (hC : C.WF) (cols : List Nat) (hi : ∀ j ∈ cols, j < C.ncols) :
    (zeroColumns C cols).toDense = transposeD (zeroRowsDense (transposeD C.toDense C.ncols) cols) C.nrows ∧
    (zeroColumns C cols).indptr = C.indptr ∧ (zeroColumns C cols).indices = C.indices ∧ (zeroColumns C cols).WF := by
  obtain ⟨h1, _, _, h4⟩ := zero_rows_eq_dense C.read hC cols hi
  refine ⟨?_, rfl, rfl, h4⟩
  rw [zeroColumns, toDense_ofRead, h1, read_toDense]
  rfl

/-- `slice_sparse_matrix(A, ind)` for csc `A`: `A[:, ind]` -/
theorem slice_columns_eq_dense_index (C : Csc) (hC : C.WF) (ind : List Nat) (hi : ∀ j ∈ ind, j < C.ncols) :
    (sliceCols C ind).toDense = transposeD (sliceDense (transposeD C.toDense C.ncols) C.nrows ind) C.nrows ∧
    (sliceCols C ind).WF ∧ (sliceCols C ind).nrows = C.nrows ∧ (sliceCols C ind).ncols = ind.length := by
  obtain ⟨h1, h2, _⟩ := slice_eq_dense_index C.read hC ind hi
  refine ⟨?_, h2, rfl, rfl⟩
  rw [sliceCols, toDense_ofRead, h1, read_toDense]
  rfl

/-- `merge_matrices(A, B, lines, "csc")`: `A[:, lines] = B` -/
theorem merge_columns_eq_replacement (A B : Csc) (lines : List Nat) (hA : A.WF) (hB : B.WF)
    (hr : A.nrows = B.nrows) (hl : lines.length = B.ncols) (hnd : lines.Nodup) (hlt : ∀ l ∈ lines, l < A.ncols) :
    (mergeCols A B lines).toDense
      = transposeD (replaceRows (transposeD A.toDense A.ncols) lines (transposeD B.toDense B.ncols)) A.nrows ∧
    (mergeCols A B lines).WF := by
  obtain ⟨_, h2, h3⟩ := merge_eq_row_replacement A.read B.read lines hA hB hr hl hnd hlt
  refine ⟨?_, h3⟩
  have hn : (mergeLines A.read B.read lines).ncols = A.nrows := by
    unfold mergeLines
    split <;> rfl
  rw [mergeCols, toDense_ofRead, h2, hn, read_toDense, read_toDense]

/-- `stack_mat(A, B)` for csc is `hstack`: every row of `A` followed by the same row of `B` -/
theorem stack_mat_csc_eq_hstack (A B : Csc) (hA : A.WF) (hB : B.WF) (hr : A.nrows = B.nrows) :
    (stackMatCsc A B).toDense = List.zipWith (· ++ ·) A.toDense B.toDense ∧ (stackMatCsc A B).WF := by
  obtain ⟨h1, h2⟩ := stack_mat_eq_vstack A.read B.read hA hB hr
  refine ⟨?_, h2⟩
  have hn : (stackMat A.read B.read).ncols = A.nrows := by
    unfold stackMat
    split <;> rfl
  rw [stackMatCsc, toDense_ofRead, h1, hn, transposeD_append, csc_toDense_eq_transpose A,
    csc_toDense_eq_transpose B, hr]

/-- `stack_diag(A, B)` for csc: the same dense block diagonal `[[A, 0], [0, B]]` -/
theorem stack_diag_csc_eq_block_diag (A B : Csc) (hA : A.WF) (hB : B.WF) :
    (stackDiagCsc A B).toDense = diagDense A.toDense A.ncols B.toDense B.ncols ∧ (stackDiagCsc A B).WF := by
  obtain ⟨h1, h2⟩ := stack_diag_eq_block_diag A.read B.read hA hB
  refine ⟨?_, h2⟩
  have hn : (stackDiag A.read B.read).ncols = A.nrows + B.nrows := by
    unfold stackDiag
    split
    · next h => exact (congrArg (A.nrows + ·) (show B.nrows = 0 from h.2)).symm
    · rfl
  have ht := transposeD_diagDense A.read.toDense B.read.toDense A.nrows B.nrows (length_row_toDense A.read)
  rw [length_toDense, length_toDense, ← csc_toDense_eq_transpose, ← csc_toDense_eq_transpose] at ht
  rw [stackDiagCsc, toDense_ofRead, h1, hn]
  exact ht

/-- `csc_matrix_from_sparse_blocks(blocks)`: the transposed statement of the csr theorem -/
theorem csc_from_sparse_blocks_eq_block_diag (bs : List Csc) (hbs : ∀ b ∈ bs, b.WF) (hne : bs ≠ []) :
    ∃ C, cscFromSparseBlocks bs = .ok C ∧
      C.toDense = transposeD
        (blockDiagDense (bs.map (fun b => (transposeD b.toDense b.ncols, b.nrows)))).1 C.nrows ∧ C.WF := by
  obtain ⟨R, h1, h2, _, h4⟩ := from_sparse_blocks_eq_block_diag (bs.map Csc.read)
    (by intro b hb; obtain ⟨c, hc, rfl⟩ := List.mem_map.mp hb; exact hbs c hc) (by simpa using hne)
  refine ⟨Csc.ofRead R, by simp [cscFromSparseBlocks, h1, Except.map], ?_, h4⟩
  rw [toDense_ofRead, h2, List.map_map]
  congr 3
  apply List.map_congr_left
  intro b _
  simp only [Function.comp, read_toDense]
  rfl

/-- `csc_matrix_from_dense_blocks(data, block_size, num_blocks)`: each block is filled column-wise,
    i.e. the transposed statement of the csr theorem -/
theorem csc_from_dense_blocks_eq_block_diag (data : List Rat) (bs nb : Nat) (hbs : 1 ≤ bs)
    (hd : data.length = bs * bs * nb) :
    ∃ C, cscFromDenseBlocks data bs nb = .ok C ∧
      C.toDense = transposeD
        (blockDiagDense ((chunks (bs * bs) nb data).map (fun d => (chunks bs bs d, bs)))).1 (nb * bs) ∧ C.WF := by
  obtain ⟨R, h1, h2, _, h4, h5⟩ := from_dense_blocks_eq_block_diag data bs nb hbs hd
  refine ⟨Csc.ofRead R, by simp [cscFromDenseBlocks, h1, Except.map], ?_, h5⟩
  rw [toDense_ofRead, h2, h4]

example : (⟨2, 3, [0, 1, 1, 3], [1, 1, 0], [5, 7, 9]⟩ : Csc).toDense = [[0, 0, 9], [5, 0, 7]] := by decide +kernel
example : (stackMatCsc ⟨2, 1, [0, 1], [1], [5]⟩ ⟨2, 2, [0, 1, 2], [0, 1], [7, 9]⟩).toDense = [[0, 7, 0], [5, 0, 9]] := by
  decide +kernel

/-- boolean `ind`: `slice_sparse_matrix(A, mask)` keeps exactly the lines whose mask entry is `True`
    (`A[mask, :]`), in order. -/
theorem slice_mask_eq_dense_mask (A : Csr) (hA : A.WF) (mask : List Bool) (hm : mask.length = A.nrows) :
    (sliceLines A (whereTrue mask)).toDense = maskSel A.toDense mask := by
  have hlt : ∀ i ∈ whereTrue mask, i < A.nrows := by
    intro i hi; rw [← hm]; exact whereTrue_spec mask i hi
  obtain ⟨h1, _, _⟩ := slice_eq_dense_index A hA (whereTrue mask) hlt
  rw [h1, sliceDense, whereTrue]
  exact map_getD_trueIdx A.toDense _ mask A.toDense 0 rfl
    (fun i hi => by rw [Nat.zero_add, length_toDense]; exact hlt i hi)

/-- boolean `slice_ind` of `slice_indices`: `IndexError` unless there is one mask entry per line,
    otherwise the array version on `np.where(mask)[0]`. -/
theorem slice_indices_mask_eq (A : Csr) (mask : List Bool) :
    sliceIndicesMask A mask =
      if mask.length = A.indptr.length - 1 then .ok (sliceIndices A (whereTrue mask)) else .error "IndexError" := by
  unfold sliceIndicesMask
  split <;> simp_all

/-- `sparse_kronecker_product(A, nd)` for every `nd` (1: unchanged; 0: empty): densely `kron(A, I_nd)`. -/
theorem sparse_kronecker_product_dense (A : Csr) (nd : Nat) :
    (sparseKron A nd).toDense = kronDense A.toDense nd := by
  unfold sparseKron
  split
  · next h => subst h; exact (kron_one_dense _).symm
  · exact kronI_dense A nd

/-- `optimized_compressed_storage(A)`: csc exactly when there are more rows than columns, and the
    dense matrix is unchanged (the conversion is represented by `denseToCsr`). -/
theorem optimized_storage_spec (A : Csr) :
    (match optimizedStorage A with
      | .inl R => ¬ A.ncols < A.nrows ∧ R.toDense = A.toDense ∧ R.WF
      | .inr C => A.ncols < A.nrows ∧ C.toDense = A.toDense ∧ C.WF) := by
  unfold optimizedStorage optimizedIsCsc
  by_cases h : A.ncols < A.nrows
  · simp only [h, decide_true, if_true]
    obtain ⟨t1, t2⟩ := transposeD_shape A.toDense A.ncols
    rw [length_toDense] at t2
    obtain ⟨d1, d2⟩ := denseToCsr_dense (transposeD A.toDense A.ncols) A.nrows t2
    refine ⟨trivial, ?_, d2⟩
    rw [csc_toDense_eq_transpose]
    show transposeD (denseToCsr (transposeD A.toDense A.ncols) A.nrows).toDense A.nrows = _
    rw [d1]
    exact transposeD_involutive _ _ _ (length_toDense A) (length_row_toDense A)
  · simp only [h, decide_false, Bool.false_eq_true, if_false]
    obtain ⟨d1, d2⟩ := denseToCsr_dense A.toDense A.ncols (length_row_toDense A)
    exact ⟨not_false, d1, d2⟩

/-- `copy(A)` is `A` (same arrays, index order untouched) -/
theorem copy_eq (A : Csr) : copyCsr A = A := rfl

/-- `sparse_array_to_row_col_data(A, remove_nz)`: summing the returned (row, col, value) triplets
    rebuilds exactly the dense matrix, with or without the explicit zeros. -/
theorem row_col_data_rebuilds_dense (A : Csr) (hA : A.WF) (removeNz : Bool) :
    tripletDense (toTriplets A removeNz) A.nrows A.ncols = A.toDense ∧
    (removeNz = true → ∀ t ∈ toTriplets A removeNz, t.2.2 ≠ 0) := by
  refine ⟨toTriplets_dense A hA removeNz, ?_⟩
  intro h t ht
  subst h
  simp only [toTriplets, if_true, List.mem_filter, decide_eq_true_eq] at ht
  exact ht.2

example : toTriplets ⟨2, 2, [0, 2, 3], [1, 0, 1], [5, 0, 7]⟩ true = [(0, 1, 5), (1, 1, 7)] := by decide +kernel

/-- repeated operations compose: zeroing lines of a slice is the dense zeroing of the dense slice
    (the output of every proved function is well formed, so the theorems chain). -/
theorem slice_then_zero_dense (A : Csr) (hA : A.WF) (ind lines : List Nat) (hi : ∀ i ∈ ind, i < A.nrows)
    (hl : ∀ l ∈ lines, l < ind.length) :
    (zeroLines (sliceLines A ind) lines).toDense = zeroRowsDense (sliceDense A.toDense A.ncols ind) lines := by
  obtain ⟨h1, h2, _⟩ := slice_eq_dense_index A hA ind hi
  rw [(zero_rows_eq_dense (sliceLines A ind) h2 lines hl).1, h1]

end PorepyVerif.C35
