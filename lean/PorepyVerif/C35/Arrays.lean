/-
Facts about lists and about the numpy primitives of the model (`cumsum`, `scatter`, `gather`, `maskSel`, `repeatSpec`,
`tile`, `chunks`, `List.lookup` on zipped index/value lists) that mention no matrix.
-/
import PorepyVerif.C35.Model
import PorepyVerif.Common.List

namespace PorepyVerif.C35

theorem set_append_head {α} (a : List α) (x v : α) (c : List α) :
    (a ++ x :: c).set a.length v = a ++ v :: c := by
  induction a with
  | nil => rfl
  | cons y a ih => simp [ih]

/-- blocks `v :: b … b` of the given sizes -/
def headed {α} (b : α) : List α → List Nat → List α
  | v :: vs, c :: cs => v :: List.replicate (c - 1) b ++ headed b vs cs
  | _, _ => []

theorem cumsumFromN_dropLast (s : Nat) (l : List Nat) :
    cumsumFromN s l.dropLast = (cumsumFromN s l).dropLast := by
  induction l generalizing s with
  | nil => rfl
  | cons a l ih =>
    cases l with
    | nil => rfl
    | cons b l =>
      simp only [List.dropLast, cumsumFromN] at *
      rw [ih]

theorem replicate_succ_pred {α} (b : α) (c m : Nat) (hc : 1 ≤ c) :
    List.replicate (c + m) b = b :: (List.replicate (c - 1) b ++ List.replicate m b) := by
  match c, hc with
  | k + 1, _ =>
    rw [Nat.add_right_comm, List.replicate_succ, Nat.add_sub_cancel, List.replicate_append_replicate]

theorem cumsumFromN_cons (s k : Nat) (l : List Nat) :
    cumsumFromN s (k :: l) = (s + k) :: cumsumFromN (s + k) l := rfl

theorem dropLast_cumsumFromN_cons2 (s k c : Nat) (cs : List Nat) :
    (cumsumFromN s (k :: c :: cs)).dropLast = (s + k) :: (cumsumFromN (s + k) (c :: cs)).dropLast := rfl

theorem scatter_blocks {α} (b : α) : ∀ (cs : List Nat) (vs pre blk : List α),
    vs.length = cs.length → (∀ c ∈ cs, 1 ≤ c) →
    scatter (pre ++ blk ++ List.replicate (sumN cs) b)
        ((cumsumFromN pre.length (blk.length :: cs)).dropLast) vs
      = pre ++ blk ++ headed b vs cs := by
  intro cs
  induction cs with
  | nil =>
    intro vs pre blk hl _
    cases vs with
    | nil => simp [cumsumFromN, scatter, headed, sumN]
    | cons v vs => cases hl
  | cons c cs ih =>
    intro vs pre blk hl hpos
    cases vs with
    | nil => cases hl
    | cons v vs =>
      have hc : 1 ≤ c := hpos c (List.mem_cons_self)
      have hl' : vs.length = cs.length := Nat.succ.inj hl
      have hpos' : ∀ c ∈ cs, 1 ≤ c := fun x hx => hpos x (List.mem_cons_of_mem _ hx)
      have h1 := ih vs (pre ++ blk) (v :: List.replicate (c - 1) b) hl' hpos'
      simp only [List.length_append, List.length_cons, List.length_replicate] at h1
      rw [Nat.sub_add_cancel hc] at h1
      rw [dropLast_cumsumFromN_cons2]
      simp only [scatter, sumN, headed]
      rw [replicate_succ_pred b c (sumN cs) hc]
      have e2 : pre.length + blk.length = (pre ++ blk).length := by simp
      rw [e2, set_append_head]
      simpa [List.append_assoc] using h1

theorem cumsumFrom_replicate_one (k : Nat) (s : Int) (rest : List Int) :
    cumsumFrom s (List.replicate k 1 ++ rest)
      = (List.range k).map (fun (j : Nat) => s + 1 + (j : Int)) ++ cumsumFrom (s + k) rest := by
  induction k generalizing s with
  | zero => simp
  | succ k ih =>
    have e1 : ∀ (t : Int) (j : Nat), t + ((j + 1 : Nat) : Int) = t + 1 + (j : Int) := fun t j => by
      rw [Int.natCast_succ, Int.add_comm (j : Int) 1, ← Int.add_assoc]
    have e := e1 s k
    have e2 : List.map (fun (j : Nat) => s + 1 + ((j + 1 : Nat) : Int)) (List.range k)
        = List.map (fun (j : Nat) => s + 1 + 1 + (j : Int)) (List.range k) :=
      List.map_congr_left (fun a _ => e1 (s + 1) a)
    rw [List.replicate_succ, List.cons_append, cumsumFrom, ih, e, List.range_succ_eq_map, List.map_cons,
      List.map_map]
    simp only [Function.comp_def, Nat.succ_eq_add_one, e2]
    simp

theorem sumN_cons (a : Nat) (l : List Nat) : sumN (a :: l) = a + sumN l := rfl

theorem scatterConst_eq_scatter {α} (x : List α) (idx : List Nat) (v : α) :
    scatterConst x idx v = scatter x idx (List.replicate idx.length v) := by
  induction idx generalizing x with
  | nil => rfl
  | cons i is ih => simp only [scatterConst, List.length_cons, List.replicate_succ, scatter, ih]

theorem length_scatter {α} (x : List α) (idx : List Nat) (vals : List α) : (scatter x idx vals).length = x.length := by
  induction idx generalizing x vals with
  | nil => cases vals <;> rfl
  | cons i is ih => cases vals with
    | nil => rfl
    | cons v vs => exact (ih (x.set i v) vs).trans List.length_set

theorem length_scatterConst {α} (x : List α) (idx : List Nat) (v : α) :
    (scatterConst x idx v).length = x.length := by
  rw [scatterConst_eq_scatter, length_scatter]

theorem maskSel_map_filter {α} (p : α → Bool) (l : List α) : maskSel l (l.map p) = l.filter p := by
  induction l with
  | nil => rfl
  | cons a l ih =>
    simp only [List.map_cons, maskSel, List.filter_cons, ih]

theorem cumsumFromN_replicate_zero (k c : Nat) (rest : List Nat) :
    cumsumFromN k (List.replicate c 0 ++ rest) = List.replicate c k ++ cumsumFromN k rest := by
  induction c with
  | zero => rfl
  | succ c ih => simp only [List.replicate_succ, List.cons_append, cumsumFromN, Nat.add_zero, ih]

theorem length_cumsumFromN (s : Nat) (l : List Nat) : (cumsumFromN s l).length = l.length := by
  induction l generalizing s with
  | nil => rfl
  | cons a l ih => exact congrArg (· + 1) (ih _)

theorem getLastD_cumsumFromN (s : Nat) (l : List Nat) :
    (s :: cumsumFromN s l).getLastD 0 = s + sumN l := by
  induction l generalizing s with
  | nil => simp [cumsumFromN, sumN]
  | cons a l ih =>
    have := ih (s + a)
    simp only [cumsumFromN, sumN, List.getLastD_cons] at *
    rw [this, Nat.add_assoc]

theorem gather_append {α} [Inhabited α] (a : List α) (i j : List Nat) :
    gather a (i ++ j) = gather a i ++ gather a j := List.map_append

theorem gather_replicate {α} [Inhabited α] (a : List α) (c k : Nat) :
    gather a (List.replicate c k) = List.replicate c (a.getD k default) := List.map_replicate

theorem gather_repeatSpec {α} [Inhabited α] (a : List α) (w cs : List Nat) :
    gather a (repeatSpec w cs) = repeatSpec (gather a w) cs := by
  induction w generalizing cs with
  | nil => cases cs <;> rfl
  | cons x w ih =>
    cases cs with
    | nil => rfl
    | cons c cs =>
      rw [repeatSpec, gather_append, gather_replicate, ih]
      rfl

theorem getD_of_drop_eq_cons {α} (full : List α) (d : α) (k : Nat) (x : α) (a : List α)
    (h : full.drop k = x :: a) : full.getD k d = x ∧ full.drop (k + 1) = a := by
  constructor
  · have : (full.drop k).getD 0 d = x := by rw [h]; rfl
    simpa [List.getD_eq_getElem?_getD, List.getElem?_drop] using this
  · have : full.drop (k + 1) = (full.drop k).drop 1 := by simp [List.drop_drop]
    rw [this, h]; rfl

theorem trueIdxFrom_bounds (k : Nat) (m : List Bool) : ∀ x ∈ trueIdxFrom k m, k ≤ x ∧ x < k + m.length := by
  induction m generalizing k with
  | nil => intro x hx; cases hx
  | cons b m ih =>
    intro x hx
    simp only [trueIdxFrom] at hx
    have h2 : ∀ y ∈ trueIdxFrom (k + 1) m, k ≤ y ∧ y < k + (b :: m).length := by
      intro y hy
      obtain ⟨h1, h2⟩ := ih (k + 1) y hy
      rw [Nat.add_right_comm] at h2
      exact ⟨Nat.le_of_succ_le h1, h2⟩
    cases b with
    | true =>
      simp only [if_true] at hx
      rcases List.mem_cons.mp hx with rfl | hx
      · simp
      · exact h2 x hx
    | false =>
      simp only [Bool.false_eq_true, if_false] at hx
      exact h2 x hx

/-- Fancy indexing with the positions of the `true` entries is selection by the mask; it is enough that those
    positions lie inside `a` (the mask may be longer). -/
theorem map_getD_trueIdx {β} (full : List β) (d : β) : ∀ (mask : List Bool) (a : List β) (k : Nat),
    full.drop k = a → (∀ i ∈ trueIdxFrom k mask, i < k + a.length) →
    (trueIdxFrom k mask).map (fun i => full.getD i d) = maskSel a mask := by
  intro mask
  induction mask with
  | nil => intro a k _ _; cases a <;> rfl
  | cons b mask ih =>
    intro a k hk hl
    cases a with
    | nil =>
      have : trueIdxFrom k (b :: mask) = [] := List.eq_nil_iff_forall_not_mem.mpr (fun i hi =>
        Nat.not_lt.mpr (trueIdxFrom_bounds k _ i hi).1 (hl i hi))
      rw [this]; rfl
    | cons x a =>
      obtain ⟨hx, hk'⟩ := getD_of_drop_eq_cons full d k x a hk
      have := ih a (k + 1) hk' (fun i hi => by
        rw [Nat.add_right_comm]; exact hl i (by cases b <;> simp [trueIdxFrom, hi]))
      cases b with
      | false => simp only [trueIdxFrom, Bool.false_eq_true, if_false, maskSel, this]
      | true => simp only [trueIdxFrom, if_true, List.map_cons, maskSel, this, hx]

theorem any_repeatSpec {α} (p : α → Bool) : ∀ (w : List α) (cs : List Nat), w.length = cs.length →
    (∀ c ∈ cs, 1 ≤ c) → (repeatSpec w cs).any p = w.any p := by
  intro w
  induction w with
  | nil => intro cs _ _; cases cs <;> rfl
  | cons x w ih =>
    intro cs h hpos
    cases cs with
    | nil => cases h
    | cons c cs =>
      obtain ⟨m, rfl⟩ := Nat.exists_eq_add_one.mpr (hpos c List.mem_cons_self)
      rw [repeatSpec, List.any_append, List.any_replicate, if_neg (Nat.succ_ne_zero m), List.any_cons,
        ih cs (Nat.succ.inj h) (fun c hc => hpos c (List.mem_cons_of_mem _ hc))]

theorem diffFrom_cumsumFrom (s : Int) (l : List Int) : diffFrom s (cumsumFrom s l) = l := by
  induction l generalizing s with
  | nil => rfl
  | cons a l ih => rw [cumsumFrom, diffFrom, ih, Int.add_comm, Int.add_sub_cancel]

theorem zip_map_fst_snd {α β} (l : List (α × β)) : (l.map (·.1)).zip (l.map (·.2)) = l :=
  (List.zip_of_prod rfl rfl).symm

theorem getLastD_cons_cons {α} (a b : α) (l : List α) (d d' : α) :
    (a :: b :: l).getLastD d = (b :: l).getLastD d' := by
  rw [List.getLastD_eq_getLast?, List.getLastD_eq_getLast?, List.getLast?_cons_cons]
  rw [List.getLast?_eq_some_getLast (l := b :: l) (by simp)]
  rfl

theorem take_drop_add {β} (E : List β) (a b c : Nat) (hab : a ≤ b) (hbc : b ≤ c) :
    (E.drop a).take (b - a) ++ (E.drop b).take (c - b) = (E.drop a).take (c - a) := by
  have e : c - a = (b - a) + (c - b) := by
    rw [Nat.add_comm]; exact (Nat.sub_add_sub_cancel hbc hab).symm
  rw [e, List.take_add, List.drop_drop, Nat.add_sub_of_le hab]

theorem gather_range' {α} [Inhabited α] (l : List α) (a n : Nat) (h : a + n ≤ l.length) :
    gather l (List.range' a n) = (l.drop a).take n := by
  induction n generalizing a with
  | zero => rfl
  | succ n ih =>
    have ha : a < l.length := Nat.lt_of_lt_of_le (Nat.lt_add_of_pos_right (Nat.succ_pos n)) h
    rw [List.range'_succ, List.drop_eq_getElem_cons ha, List.take_succ_cons,
      ← ih (a + 1) (Nat.le_trans (Nat.le_of_eq (Nat.add_right_comm a 1 n)) h)]
    show l.getD a default :: gather l _ = _
    rw [List.getD_eq_getElem?_getD, List.getElem?_eq_getElem ha, Option.getD_some]

theorem gather_flatMap {α ι} [Inhabited α] (l : List α) (f : ι → List Nat) (is : List ι) :
    gather l (is.flatMap f) = is.flatMap (fun i => gather l (f i)) := by
  induction is with
  | nil => rfl
  | cons i is ih => simp only [List.flatMap_cons, gather_append, ih]

theorem scatterConst_append_idx {α} (x : List α) (i1 i2 : List Nat) (v : α) :
    scatterConst x (i1 ++ i2) v = scatterConst (scatterConst x i1 v) i2 v := by
  induction i1 generalizing x with
  | nil => rfl
  | cons i i1 ih => simp only [List.cons_append, scatterConst, ih]

theorem scatterConst_range' {α} (v : α) : ∀ (mid pre post : List α),
    scatterConst (pre ++ mid ++ post) (List.range' pre.length mid.length) v
      = pre ++ List.replicate mid.length v ++ post := by
  intro mid
  induction mid with
  | nil => intro pre post; simp [scatterConst]
  | cons x mid ih =>
    intro pre post
    have h := ih (pre ++ [v]) post
    simp only [List.length_append, List.length_cons, List.length_nil, Nat.zero_add] at h
    simp only [List.length_cons, List.range'_succ, scatterConst, List.replicate_succ]
    have e : pre ++ x :: mid ++ post = pre ++ x :: (mid ++ post) := by simp
    rw [e, set_append_head]
    have e2 : pre ++ v :: (mid ++ post) = pre ++ [v] ++ mid ++ post := by simp
    rw [e2, h]
    simp

theorem flatten_set {β} (R : List (List β)) (l : Nat) (r : List β) (hl : l < R.length) :
    (R.set l r).flatten = (R.take l).flatten ++ r ++ (R.drop (l + 1)).flatten := by
  rw [List.set_eq_take_append_cons_drop, if_pos hl]
  simp

theorem flatten_split {β} (R : List (List β)) (l : Nat) (hl : l < R.length) :
    R.flatten = (R.take l).flatten ++ R.getD l [] ++ (R.drop (l + 1)).flatten := by
  have := flatten_set R l (R.getD l []) hl
  rw [← this]
  congr 1
  simp [List.getD_eq_getElem?_getD, List.getElem?_eq_getElem hl]

theorem range_mul (a b : Nat) :
    List.range (a * b) = (List.range a).flatMap (fun j => (List.range b).map (fun e => j * b + e)) := by
  induction a with
  | zero => simp
  | succ a ih =>
    rw [Nat.succ_mul, List.range_add, ih, List.range_succ, List.flatMap_append]
    simp

theorem tile_eq_flatMap {α} (a : List α) (n : Nat) : tile a n = (List.range n).flatMap (fun _ => a) := by
  induction n with
  | zero => rfl
  | succ n ih =>
    rw [tile, ih, List.range_succ_eq_map, List.flatMap_cons, List.flatMap_map]

theorem sumI_natCast (n : List Nat) : sumI (n.map (fun (c : Nat) => (c : Int))) = ((sumN n : Nat) : Int) := by
  induction n with
  | nil => rfl
  | cons c n ih => simp only [List.map_cons, sumI, sumN, ih]; push_cast; rfl

theorem dropLast_cons_cons {α} (a b : α) (l : List α) : (a :: b :: l).dropLast = a :: (b :: l).dropLast := rfl

theorem cumsumFrom_cons' (s x : Int) (l : List Int) : cumsumFrom s (x :: l) = (s + x) :: cumsumFrom (s + x) l := rfl

theorem length_cumsumFrom (s : Int) (l : List Int) : (cumsumFrom s l).length = l.length := by
  induction l generalizing s with
  | nil => rfl
  | cons a l ih => simp [cumsumFrom, ih]

theorem lookup_zip_of_not_mem {β} (j : Nat) (idx : List Nat) (vals : List β) (h : j ∉ idx) :
    (idx.zip vals).lookup j = none := by
  induction idx generalizing vals with
  | nil => rfl
  | cons i is ih => cases vals with
    | nil => rfl
    | cons v vs =>
      have h1 : j ≠ i := fun e => h (e ▸ List.mem_cons_self)
      have h2 : j ∉ is := fun e => h (List.mem_cons_of_mem _ e)
      simp only [List.zip_cons_cons, List.lookup_cons]
      have : (j == i) = false := by simpa using h1
      rw [this]; exact ih vs h2

theorem scatter_eq_map {α} (z : α) : ∀ (idx : List Nat) (vals x : List α), idx.Nodup → (∀ i ∈ idx, i < x.length) →
    idx.length = vals.length →
    scatter x idx vals = (List.range x.length).map (fun j => ((idx.zip vals).lookup j).getD (x.getD j z)) := by
  intro idx
  induction idx with
  | nil =>
    intro vals x _ _ _
    cases vals with
    | nil =>
      simp only [scatter, List.zip_nil_left, List.lookup_nil, Option.getD_none]
      have := Common.map_eq_map_range_getD (fun (a : α) => a) x z
      simpa using this
    | cons _ _ => simp at *
  | cons i is ih =>
    intro vals x hnd hlt hlen
    cases vals with
    | nil => cases hlen
    | cons v vs =>
      have hi : i < x.length := hlt i List.mem_cons_self
      have hnd' := (List.nodup_cons.mp hnd)
      rw [scatter, ih vs (x.set i v) hnd'.2 (by
        intro k hk; rw [List.length_set]; exact hlt k (List.mem_cons_of_mem _ hk)) (Nat.succ.inj hlen),
        List.length_set]
      apply List.map_congr_left
      intro j hj
      have hj' : j < x.length := List.mem_range.mp hj
      simp only [List.zip_cons_cons, List.lookup_cons]
      by_cases hji : j = i
      · subst hji
        rw [lookup_zip_of_not_mem j is vs hnd'.1]
        simp [List.getD_eq_getElem?_getD, hj']
      · have : (j == i) = false := by simpa using hji
        rw [this]
        simp only [List.getD_eq_getElem?_getD]
        rw [List.getElem?_set_ne (fun e => hji e.symm)]

theorem scatter_succ {α} (a : α) (x : List α) (idx : List Nat) (vals : List α) :
    scatter (a :: x) (idx.map (· + 1)) vals = a :: scatter x idx vals := by
  induction idx generalizing x vals with
  | nil => cases vals <;> rfl
  | cons i is ih => cases vals with
    | nil => rfl
    | cons v vs => simp only [List.map_cons, scatter, List.set_cons_succ, ih]

theorem lookup_zip_map {β} (j : Nat) (idx : List Nat) (g : Nat → β) :
    (idx.zip (idx.map g)).lookup j = if j ∈ idx then some (g j) else none := by
  induction idx with
  | nil => rfl
  | cons i is ih =>
    simp only [List.map_cons, List.zip_cons_cons, List.lookup_cons, List.mem_cons]
    by_cases hji : j = i
    · subst hji; simp
    · have : (j == i) = false := by simpa using hji
      rw [this, ih]
      simp [hji]

/-- cumulative sums combine entry by entry under `+` and `-` -/
theorem cumsumFrom_zipWith (op : Int → Int → Int) (hop : ∀ s x t y, op (s + x) (t + y) = op s t + op x y)
    (a b : List Int) (s t : Int) (h : a.length = b.length) :
    List.zipWith op (cumsumFrom s a) (cumsumFrom t b) = cumsumFrom (op s t) (List.zipWith op a b) := by
  induction a generalizing b s t with
  | nil => cases b <;> rfl
  | cons x a ih => cases b with
    | nil => cases h
    | cons y b =>
      simp only [cumsumFrom, List.zipWith_cons_cons]
      rw [ih b _ _ (Nat.succ.inj h), hop]

theorem filter_eq_nil_of_forall {β} (p : β → Bool) (l : List β) (h : ∀ x ∈ l, p x = false) : l.filter p = [] := by
  rw [List.filter_eq_nil_iff]
  intro x hx
  simp [h x hx]

theorem zip_repeatSpec_flatten {β} (P : List Nat) (RB : List (List β)) (h : P.length = RB.length) :
    (repeatSpec P (RB.map List.length)).zip RB.flatten
      = (List.zipWith (fun p r => r.map (fun v => (p, v))) P RB).flatten := by
  induction P generalizing RB with
  | nil => cases RB with
    | nil => rfl
    | cons _ _ => cases h
  | cons p P ih => cases RB with
    | nil => cases h
    | cons r RB =>
      simp only [List.map_cons, repeatSpec, List.flatten_cons, List.zipWith_cons_cons]
      rw [List.zip_append (by simp), ih RB (Nat.succ.inj h)]
      congr 1
      clear ih h
      induction r with
      | nil => rfl
      | cons v r ihr => simp [List.replicate_succ, ihr]

theorem lookup_cons_ne {β} (j i : Nat) (v : β) (l : List (Nat × β)) (h : j ≠ i) :
    List.lookup j ((i, v) :: l) = List.lookup j l := by
  have : (j == i) = false := by simpa using h
  simp [List.lookup_cons, this]

theorem cumsum_scatter_zeros (n : Nat) (lines : List Nat) (vals : List Int) (hnd : lines.Nodup)
    (hlt : ∀ l ∈ lines, l < n) (hlen : lines.length = vals.length) :
    cumsum (scatter (List.replicate (n + 1) (0 : Int)) (lines.map (· + 1)) vals)
      = 0 :: cumsumFrom 0 ((List.range n).map (fun j => ((lines.zip vals).lookup j).getD 0)) := by
  rw [List.replicate_succ, scatter_succ, scatter_eq_map (0 : Int) lines vals _ hnd (by simpa using hlt) hlen]
  simp only [List.length_replicate, Common.getD_replicate, cumsum, cumsumFrom, Int.add_zero]

theorem lookup_zip_map_right {β γ} (f : β → γ) (j : Nat) (idx : List Nat) (vals : List β) :
    (idx.zip (vals.map f)).lookup j = ((idx.zip vals).lookup j).map f := by
  induction idx generalizing vals with
  | nil => rfl
  | cons i is ih => cases vals with
    | nil => rfl
    | cons v vs =>
      simp only [List.map_cons, List.zip_cons_cons, List.lookup_cons]
      cases (j == i) with
      | true => rfl
      | false => exact ih vs

theorem lookup_isSome_of_mem {β} (j : Nat) (idx : List Nat) (vals : List β) (h : j ∈ idx) (hlen : idx.length = vals.length) :
    ∃ b, (idx.zip vals).lookup j = some b := by
  induction idx generalizing vals with
  | nil => cases h
  | cons i is ih => cases vals with
    | nil => cases hlen
    | cons v vs =>
      simp only [List.zip_cons_cons, List.lookup_cons]
      by_cases hji : j = i
      · subst hji; exact ⟨v, by simp⟩
      · have : (j == i) = false := by simpa using hji
        rw [this]
        rcases List.mem_cons.mp h with e | e
        · exact absurd e hji
        · exact ih vs e (Nat.succ.inj hlen)

theorem maskSel_map {β γ} (f : β → γ) (l : List β) (m : List Bool) : maskSel (l.map f) m = (maskSel l m).map f := by
  induction l generalizing m with
  | nil => cases m <;> rfl
  | cons x l ih => cases m with
    | nil => rfl
    | cons b m =>
      cases b
      · exact ih m
      · exact congrArg (f x :: ·) (ih m)

theorem maskSel_append {β} (l1 l2 : List β) (m1 m2 : List Bool) (h : l1.length = m1.length) :
    maskSel (l1 ++ l2) (m1 ++ m2) = maskSel l1 m1 ++ maskSel l2 m2 := by
  induction l1 generalizing m1 with
  | nil => cases m1 with
    | nil => rfl
    | cons _ _ => cases h
  | cons x l1 ih => cases m1 with
    | nil => cases h
    | cons b m1 =>
      cases b
      · exact ih m1 (Nat.succ.inj h)
      · exact congrArg (x :: ·) (ih m1 (Nat.succ.inj h))

theorem maskSel_replicate_true {β} (l : List β) : maskSel l (List.replicate l.length true) = l := by
  induction l with
  | nil => rfl
  | cons x l ih => simp [List.replicate_succ, maskSel, ih]

theorem maskSel_replicate_false {β} (l : List β) : maskSel l (List.replicate l.length false) = [] := by
  induction l with
  | nil => rfl
  | cons x l ih => simp [List.replicate_succ, maskSel, ih]

theorem maskSel_rows {β} (n : Nat) (r : Nat → List β) (m : Nat → List Bool) (h : ∀ j, (r j).length = (m j).length) :
    maskSel ((List.range n).map r).flatten ((List.range n).map m).flatten
      = ((List.range n).map (fun j => maskSel (r j) (m j))).flatten := by
  induction n with
  | zero => rfl
  | succ n ih =>
    simp only [List.range_succ, List.map_append, List.flatten_append, List.map_cons, List.map_nil,
      List.flatten_cons, List.flatten_nil, List.append_nil]
    rw [maskSel_append _ _ _ _ (by
      simp only [List.length_flatten, List.map_map]
      congr 1
      apply List.map_congr_left
      intro j _
      exact h j), ih]

theorem replicate_flatten_length {β} (R : List (List β)) :
    List.replicate R.flatten.length true = (R.map (fun r => List.replicate r.length true)).flatten := by
  induction R with
  | nil => rfl
  | cons r R ih =>
    simp only [List.flatten_cons, List.length_append, List.map_cons, ← ih, List.replicate_append_replicate]

theorem flatten_zipWith_eq_flatMap_zip {α β γ} (f : α → β → List γ) (l1 : List α) (l2 : List β) :
    (List.zipWith f l1 l2).flatten = (l1.zip l2).flatMap (fun p => f p.1 p.2) := by
  induction l1 generalizing l2 with
  | nil => rfl
  | cons a l1 ih => cases l2 with
    | nil => rfl
    | cons b l2 => simp only [List.zipWith_cons_cons, List.flatten_cons, List.zip_cons_cons, List.flatMap_cons, ih]

theorem lookup_perm {β} (j : Nat) {l1 l2 : List (Nat × β)} (hp : l1.Perm l2) (hnd : (l1.map (·.1)).Nodup) :
    l1.lookup j = l2.lookup j := by
  induction hp with
  | nil => rfl
  | cons x _ ih =>
    obtain ⟨k, v⟩ := x
    simp only [List.map_cons, List.nodup_cons] at hnd
    simp only [List.lookup_cons]
    cases (j == k) with
    | true => rfl
    | false => exact ih hnd.2
  | swap x y l =>
    obtain ⟨k1, v1⟩ := x
    obtain ⟨k2, v2⟩ := y
    simp only [List.map_cons, List.nodup_cons, List.mem_cons, not_or] at hnd
    simp only [List.lookup_cons]
    by_cases h1 : j = k1
    · by_cases h2 : j = k2
      · exact absurd (h1.symm.trans h2).symm hnd.1.1
      · have e1 : (j == k1) = true := by simpa using h1
        have e2 : (j == k2) = false := by simpa using h2
        simp [e1, e2]
    · have e1 : (j == k1) = false := by simpa using h1
      simp [e1]
  | trans h12 _ ih1 ih2 =>
    have hnd2 := (h12.map (·.1)).nodup_iff.mp hnd
    rw [ih1 hnd, ih2 hnd2]

theorem lookup_some_mem {β} (j : Nat) (b : β) (l : List (Nat × β)) (h : l.lookup j = some b) : (j, b) ∈ l := by
  induction l with
  | nil => simp at h
  | cons p l ih =>
    obtain ⟨k, v⟩ := p
    simp only [List.lookup_cons] at h
    by_cases hjk : j = k
    · subst hjk
      simp only [beq_self_eq_true, Option.some.injEq] at h
      subst h
      exact List.mem_cons_self
    · have : (j == k) = false := by simpa using hjk
      rw [this] at h
      exact List.mem_cons_of_mem _ (ih h)

/-- storage arrays of rows that all carry the column indices `cols` -/
theorem flatten_zip_cols (cols : List Nat) (rows : List (List Rat)) (hr : ∀ r ∈ rows, r.length = cols.length) :
    ((rows.map (fun row => cols.zip row)).flatten).map (·.2) = rows.flatten ∧
    ((rows.map (fun row => cols.zip row)).flatten).map (·.1) = tile cols rows.length := by
  induction rows with
  | nil => exact ⟨rfl, rfl⟩
  | cons r rows ih =>
    obtain ⟨i1, i2⟩ := ih (fun x hx => hr x (List.mem_cons_of_mem _ hx))
    have hl := hr r List.mem_cons_self
    constructor
    · simp only [List.map_cons, List.flatten_cons, List.map_append, i1, List.map_snd_zip (Nat.le_of_eq hl)]
    · simp only [List.map_cons, List.flatten_cons, List.map_append, List.length_cons, tile, i2,
        List.map_fst_zip (Nat.le_of_eq hl.symm)]

theorem length_chunks {α} (k : Nat) (n : Nat) (l : List α) : (chunks k n l).length = n := by
  induction n generalizing l with
  | zero => rfl
  | succ n ih => simp [chunks, ih]

theorem chunks_spec {α} (k : Nat) : ∀ (n : Nat) (l : List α), l.length = n * k →
    (chunks k n l).flatten = l ∧ ∀ r ∈ chunks k n l, r.length = k := by
  intro n
  induction n with
  | zero =>
    intro l h
    have : l = [] := List.eq_nil_of_length_eq_zero (h.trans (Nat.zero_mul k))
    subst this
    exact ⟨rfl, (fun r hr => nomatch hr)⟩
  | succ n ih =>
    intro l h
    rw [Nat.succ_mul] at h
    have hk : k ≤ l.length := by rw [h]; exact Nat.le_add_left k (n * k)
    obtain ⟨h1, h2⟩ := ih (l.drop k) (by rw [List.length_drop, h, Nat.add_sub_cancel])
    refine ⟨?_, ?_⟩
    · rw [chunks, List.flatten_cons, h1, List.take_append_drop]
    · intro r hr
      rw [chunks, List.mem_cons] at hr
      rcases hr with rfl | hr
      · rw [List.length_take, Nat.min_eq_left hk]
      · exact h2 r hr

theorem sumN_replicate (nb bs : Nat) : sumN (List.replicate nb bs) = nb * bs := by
  induction nb with
  | zero => exact (Nat.zero_mul bs).symm
  | succ nb ih => rw [List.replicate_succ, sumN, ih, Nat.succ_mul, Nat.add_comm]

theorem tile_map {α β} (f : α → β) (a : List α) (n : Nat) : (tile a n).map f = tile (a.map f) n := by
  induction n with
  | zero => rfl
  | succ n ih => simp only [tile, List.map_append, ih]

theorem length_tile {α} (a : List α) (n : Nat) : (tile a n).length = n * a.length := by
  induction n with
  | zero => simp [tile]
  | succ n ih => simp only [tile, List.length_append, ih, Nat.succ_mul]; exact Nat.add_comm _ _

theorem zipWith_add_replicate (X : List Nat) (c : Nat) :
    List.zipWith (· + ·) X (List.replicate X.length c) = X.map (· + c) := by
  induction X with
  | nil => rfl
  | cons x X ih => simp only [List.length_cons, List.replicate_succ, List.zipWith_cons_cons, List.map_cons, ih]

end PorepyVerif.C35
