/-
`stack_mat`, `stack_diag`, the block-diagonal constructions (sparse blocks, `block_diag_matrix`, dense blocks) and the
Kronecker product with the identity, on rows.
-/
import PorepyVerif.C35.Rows
import PorepyVerif.C35.RunLength
import PorepyVerif.Common.List

namespace PorepyVerif.C35

theorem stackMat_ofRows (nc nc2 : Nat) (R1 R2 : List (List (Nat × Rat))) :
    stackMat (ofRows nc R1) (ofRows nc2 R2) = ofRows nc (R1 ++ R2) := by
  unfold stackMat
  by_cases h : (ofRows nc2 R2).indptr.length = 1
  · rw [if_pos h]
    have : R2 = [] := by
      simp only [ofRows, length_ptrsFrom] at h
      exact List.eq_nil_of_length_eq_zero (Nat.succ.inj h)
    subst this
    simp
  · rw [if_neg h]
    simp only [ofRows, List.length_append, List.flatten_append, List.map_append, ptrsFrom_append,
      getLastD_ptrsFrom, Nat.zero_add]
    congr 2
    exact tail_ptrsFrom _ R2

def shiftRow (k : Nat) (r : List (Nat × Rat)) : List (Nat × Rat) := r.map (fun e => (e.1 + k, e.2))

theorem ptrsFrom_map_shiftRow (k s : Nat) (R : List (List (Nat × Rat))) :
    ptrsFrom s (R.map (shiftRow k)) = ptrsFrom s R :=
  ptrsFrom_congr s _ _ (by simp [shiftRow, Function.comp_def])

theorem stackDiag_ofRows (nc1 nc2 : Nat) (R1 R2 : List (List (Nat × Rat))) :
    stackDiag (ofRows nc1 R1) (ofRows nc2 R2) = ofRows (nc1 + nc2) (R1 ++ R2.map (shiftRow nc1)) := by
  unfold stackDiag
  by_cases hz : (ofRows nc2 R2).nrows = 0 ∧ (ofRows nc2 R2).ncols = 0
  · rw [if_pos hz]
    have h1 : R2 = [] := List.eq_nil_of_length_eq_zero hz.1
    have h2 : nc2 = 0 := hz.2
    subst h1 h2
    simp
  rw [if_neg hz]
  simp only [stackDiagGen, ofRows, List.length_append, List.length_map, List.flatten_append, List.map_append,
    ptrsFrom_append, getLastD_ptrsFrom, Nat.zero_add]
  rw [ptrsFrom_map_shiftRow, tail_ptrsFrom]
  congr 1
  · simp [List.map_flatten, shiftRow, Function.comp_def]
  · simp [List.map_flatten, shiftRow, Function.comp_def]

theorem entrySum_shift (k j : Nat) (es : List (Nat × Rat)) :
    entrySum (k + j) (shiftRow k es) = entrySum j es := by
  induction es with
  | nil => rfl
  | cons e es ih =>
    have : (e.1 + k = k + j) ↔ (e.1 = j) := by rw [Nat.add_comm e.1 k]; exact Nat.add_left_cancel_iff
    show (if e.1 + k = k + j then e.2 else 0) + entrySum (k + j) (shiftRow k es) = _
    rw [ih]
    simp only [this, entrySum]

theorem denseRow_add_left (nc1 nc2 : Nat) (es : List (Nat × Rat)) (h : ∀ e ∈ es, e.1 < nc1) :
    denseRow (nc1 + nc2) es = denseRow nc1 es ++ List.replicate nc2 0 := by
  simp only [denseRow, List.range_add, List.map_append, List.map_map]
  congr 1
  rw [List.eq_replicate_iff]
  refine ⟨by simp, ?_⟩
  intro x hx
  obtain ⟨j, _, rfl⟩ := List.mem_map.mp hx
  exact entrySum_eq_zero_of_ne _ _ (fun e he =>
    Nat.ne_of_lt (Nat.lt_of_lt_of_le (h e he) (Nat.le_add_right nc1 j)))

theorem denseRow_add_right (nc1 nc2 : Nat) (es : List (Nat × Rat)) :
    denseRow (nc1 + nc2) (shiftRow nc1 es) = List.replicate nc1 0 ++ denseRow nc2 es := by
  simp only [denseRow, List.range_add, List.map_append, List.map_map]
  congr 1
  · rw [List.eq_replicate_iff]
    refine ⟨by simp, ?_⟩
    intro x hx
    obtain ⟨j, hj, rfl⟩ := List.mem_map.mp hx
    have hj' : j < nc1 := List.mem_range.mp hj
    apply entrySum_eq_zero_of_ne
    intro e he
    obtain ⟨e', _, rfl⟩ := List.mem_map.mp he
    exact Nat.ne_of_gt (Nat.lt_of_lt_of_le hj' (Nat.le_add_left nc1 e'.1))
  · apply List.map_congr_left
    intro j _
    simp only [Function.comp]
    exact entrySum_shift nc1 j es

theorem RowsOk_append {nc : Nat} {R1 R2 : List (List (Nat × Rat))} (h1 : RowsOk nc R1) (h2 : RowsOk nc R2) :
    RowsOk nc (R1 ++ R2) := by
  intro r hr
  rcases List.mem_append.mp hr with h | h
  · exact h1 r h
  · exact h2 r h

theorem RowsOk_mono {nc nc' : Nat} {R : List (List (Nat × Rat))} (h : RowsOk nc R) (hle : nc ≤ nc') :
    RowsOk nc' R := fun r hr e he => Nat.lt_of_lt_of_le (h r hr e he) hle

theorem RowsOk_shift {nc k : Nat} {R : List (List (Nat × Rat))} (h : RowsOk nc R) :
    RowsOk (k + nc) (R.map (shiftRow k)) := by
  intro r hr e he
  obtain ⟨r', hr', rfl⟩ := List.mem_map.mp hr
  obtain ⟨e', he', rfl⟩ := List.mem_map.mp he
  have := h r' hr' e' he'
  show e'.1 + k < k + nc
  rw [Nat.add_comm]; exact Nat.add_lt_add_left this k

/-- dense form of `[[R1, 0], [0, R2]]` on rows: the one step behind `stack_diag` and every block diagonal -/
theorem diagRows_dense (nc1 nc2 : Nat) (R1 R2 : List (List (Nat × Rat))) (ok : RowsOk nc1 R1) :
    (R1 ++ R2.map (shiftRow nc1)).map (denseRow (nc1 + nc2))
      = diagDense (R1.map (denseRow nc1)) nc1 (R2.map (denseRow nc2)) nc2 := by
  simp only [diagDense, List.map_append, List.map_map]
  congr 1
  · exact List.map_congr_left (fun r hr => denseRow_add_left nc1 nc2 r (ok r hr))
  · exact List.map_congr_left (fun r _ => denseRow_add_right nc1 nc2 r)

theorem RowsOk_diagRows {nc1 nc2 : Nat} {R1 R2 : List (List (Nat × Rat))} (ok1 : RowsOk nc1 R1) (ok2 : RowsOk nc2 R2) :
    RowsOk (nc1 + nc2) (R1 ++ R2.map (shiftRow nc1)) :=
  RowsOk_append (RowsOk_mono ok1 (Nat.le_add_right _ _)) (RowsOk_shift ok2)

theorem entrySum_kron (nd d e j : Nat) (hd : d < nd) (he : e < nd) (es : List (Nat × Rat)) :
    entrySum (j * nd + e) (es.map (fun p => (p.1 * nd + d, p.2))) = if e = d then entrySum j es else 0 := by
  induction es with
  | nil => simp [entrySum]
  | cons p es ih =>
    simp only [List.map_cons, entrySum, ih]
    have key : (p.1 * nd + d = j * nd + e) ↔ (p.1 = j ∧ e = d) := by
      constructor
      · intro h
        have h1 : (p.1 * nd + d) / nd = (j * nd + e) / nd := by rw [h]
        have h2 : (p.1 * nd + d) % nd = (j * nd + e) % nd := by rw [h]
        have hnd : 0 < nd := Nat.lt_of_le_of_lt (Nat.zero_le d) hd
        rw [Nat.mul_comm p.1, Nat.mul_comm j, Nat.mul_add_div hnd, Nat.mul_add_div hnd,
          Nat.div_eq_of_lt hd, Nat.div_eq_of_lt he] at h1
        rw [Nat.mul_comm p.1, Nat.mul_comm j, Nat.mul_add_mod, Nat.mul_add_mod, Nat.mod_eq_of_lt hd,
          Nat.mod_eq_of_lt he] at h2
        exact ⟨h1, h2.symm⟩
      · rintro ⟨rfl, rfl⟩; rfl
    by_cases hed : e = d
    · subst hed
      simp only [if_true]
      have : (p.1 * nd + e = j * nd + e) ↔ p.1 = j := by rw [key]; simp
      simp only [this]
    · have : ¬ (p.1 * nd + d = j * nd + e) := by rw [key]; exact fun h => hed h.2
      simp only [this, hed, if_false]
      exact Rat.add_zero 0

theorem denseRow_kron (nc nd d : Nat) (hd : d < nd) (es : List (Nat × Rat)) :
    denseRow (nc * nd) (es.map (fun p => (p.1 * nd + d, p.2)))
      = (denseRow nc es).flatMap (fun v => (List.range nd).map (fun e => if e = d then v else 0)) := by
  simp only [denseRow, range_mul, List.map_flatMap, List.flatMap_map, List.map_map]
  apply Common.flatMap_congr
  intro j _
  apply List.map_congr_left
  intro e he
  exact entrySum_kron nd d e j hd (List.mem_range.mp he) es

theorem kronI_dense (A : Csr) (nd : Nat) : (kronI A nd).toDense = kronDense A.toDense nd := by
  rw [kronI, toDense_ofRows]
  simp only [kronDense, Csr.toDense, List.map_flatMap, List.flatMap_map, List.map_map]
  apply Common.flatMap_congr
  intro es _
  apply List.map_congr_left
  intro d hd
  exact denseRow_kron A.ncols nd d (List.mem_range.mp hd) es

/-- rows of the block-diagonal matrix of blocks given as (column count, rows): the diagonal step, folded -/
def blkRows : List (Nat × List (List (Nat × Rat))) → List (List (Nat × Rat))
  | [] => []
  | (nc, R) :: rest => R ++ (blkRows rest).map (shiftRow nc)

theorem shiftRow_zero (r : List (Nat × Rat)) : shiftRow 0 r = r := by
  simp [shiftRow]

theorem shiftRow_add (a b : Nat) (r : List (Nat × Rat)) : shiftRow a (shiftRow b r) = shiftRow (b + a) r := by
  simp [shiftRow, Function.comp_def, Nat.add_assoc]

/-- dense form of the block rows: the recursive dense block-diagonal matrix -/
theorem blkRows_dense : ∀ (Rs : List (Nat × List (List (Nat × Rat)))), (∀ p ∈ Rs, RowsOk p.1 p.2) →
    (blkRows Rs).map (denseRow (sumN (Rs.map (·.1))))
      = (blockDiagDense (Rs.map (fun p => (p.2.map (denseRow p.1), p.1)))).1 ∧
    (blockDiagDense (Rs.map (fun p => (p.2.map (denseRow p.1), p.1)))).2 = sumN (Rs.map (·.1)) ∧
    RowsOk (sumN (Rs.map (·.1))) (blkRows Rs) := by
  intro Rs
  induction Rs with
  | nil => intro _; exact ⟨rfl, rfl, fun _ h => nomatch h⟩
  | cons p Rs ih =>
    intro hok
    obtain ⟨nc, R⟩ := p
    obtain ⟨ih1, ih2, ih3⟩ := ih (fun q hq => hok q (List.mem_cons_of_mem _ hq))
    have okR : RowsOk nc R := hok (nc, R) List.mem_cons_self
    simp only [List.map_cons, blockDiagDense, blkRows, sumN, ih2]
    exact ⟨(diagRows_dense nc _ R _ okR).trans (congrArg (diagDense _ nc · _) ih1), trivial, RowsOk_diagRows okR ih3⟩

theorem RowsOk_blkRows (Rs : List (Nat × List (List (Nat × Rat)))) (hok : ∀ p ∈ Rs, RowsOk p.1 p.2) :
    RowsOk (sumN (Rs.map (·.1))) (blkRows Rs) := (blkRows_dense Rs hok).2.2

theorem length_blkRows (Rs : List (Nat × List (List (Nat × Rat)))) :
    (blkRows Rs).length = sumN (Rs.map (fun p => p.2.length)) := by
  induction Rs with
  | nil => rfl
  | cons p Rs ih => obtain ⟨nc, R⟩ := p; simp [blkRows, sumN, ih]

theorem blockArrays_ofRows : ∀ (Rs : List (Nat × List (List (Nat × Rat)))) (ioff poff : Nat),
    blockArrays ioff poff (Rs.map (fun p => ofRows p.1 p.2))
      = ((ptrsFrom poff (blkRows Rs)).tail, ((blkRows Rs).map (shiftRow ioff)).flatten.map (·.1),
         (blkRows Rs).flatten.map (·.2)) := by
  intro Rs
  induction Rs with
  | nil => intro ioff poff; rfl
  | cons p Rs ih =>
    intro ioff poff
    obtain ⟨nc, R⟩ := p
    simp only [List.map_cons, blockArrays, ih, blkRows]
    have h1 : (ofRows nc R).indptr.getLastD 0 = R.flatten.length := by
      simp only [ofRows]; rw [getLastD_ptrsFrom, Nat.zero_add]
    have h2 : (ofRows nc R).ncols = nc := rfl
    have h3 : (ofRows nc R).indptr.tail.map (· + poff) = (ptrsFrom poff R).tail := tail_ptrsFrom poff R
    rw [h1, h2, h3, ptrsFrom_append, List.tail_append_of_ne_nil (by rw [ptrsFrom_eq_cons]; simp),
      ptrsFrom_map_shiftRow]
    simp only [List.flatten_append, List.map_append, List.map_map, Prod.mk.injEq, true_and]
    constructor
    · congr 1
      · simp [ofRows, List.map_flatten, shiftRow, Function.comp_def]
      · simp [List.map_flatten, shiftRow, Function.comp_def, Nat.add_assoc, Nat.add_comm nc ioff]
    · congr 1
      simp [List.map_flatten, shiftRow, Function.comp_def]

/-- `_csx_matrix_from_sparse_blocks` on rows, the single block (returned as it is) included -/
theorem fromSparseBlocks_ofRows (Rs : List (Nat × List (List (Nat × Rat)))) (hne : Rs ≠ []) :
    fromSparseBlocks (Rs.map (fun p => ofRows p.1 p.2))
      = .ok (ofRows (sumN (Rs.map (·.1))) (blkRows Rs)) := by
  match Rs, hne with
  | [(nc, R)], _ => simp [fromSparseBlocks, blkRows, sumN]
  | p1 :: p2 :: Rs, _ =>
    simp only [List.map_cons, fromSparseBlocks]
    have := blockArrays_ofRows (p1 :: p2 :: Rs) 0 0
    have h0 : ∀ R : List (List (Nat × Rat)), R.map (shiftRow 0) = R :=
      fun R => (List.map_congr_left (fun r _ => shiftRow_zero r)).trans (List.map_id R)
    simp only [List.map_cons, h0] at this
    rw [this]
    simp only [ofRows, ← ptrsFrom_eq_cons, length_blkRows, List.map_map, List.map_cons]
    congr 3

theorem shiftRow_zip_range (k n : Nat) (row : List Rat) :
    shiftRow k ((List.range n).zip row) = (List.range' k n).zip row := by
  simp only [shiftRow]
  rw [List.range'_eq_map_range]
  induction (List.range n) generalizing row with
  | nil => rfl
  | cons a l ih => cases row with
    | nil => rfl
    | cons x row =>
      simp only [List.zip_cons_cons, List.map_cons]
      rw [ih row, Nat.add_comm]

/-- rows of `block_diag_matrix(vals, sz)`: block after block, each block row-major -/
def bdmRows : Nat → List Nat → List Rat → List (List (Nat × Rat))
  | _, [], _ => []
  | off, s :: sz, v =>
    (chunks s s (v.take (s * s))).map (fun row => (List.range' off s).zip row) ++ bdmRows (off + s) sz (v.drop (s * s))

theorem length_bdmRows (sz : List Nat) (off : Nat) (v : List Rat) : (bdmRows off sz v).length = sumN sz := by
  induction sz generalizing off v with
  | nil => rfl
  | cons s sz ih => simp only [bdmRows, List.length_append, List.length_map, length_chunks, ih, sumN]

theorem bdmRows_spec : ∀ (sz : List Nat) (off : Nat) (v : List Rat), v.length = sumSq sz →
    (bdmRows off sz v).flatten.map (·.2) = v ∧
    (bdmRows off sz v).flatten.map (·.1) = blockDiagIndexSq off sz ∧
    (bdmRows off sz v).map (fun r => (r.length : Int))
      = rldecodeSpec (sz.map (fun (s : Nat) => (s : Int))) (sz.map (fun (s : Nat) => (s : Int))) ∧
    ∀ r ∈ bdmRows off sz v, r.length ∈ sz := by
  intro sz
  induction sz with
  | nil =>
    intro off v h
    have : v = [] := List.eq_nil_of_length_eq_zero h
    subst this
    exact ⟨rfl, rfl, rfl, (fun r hr => nomatch hr)⟩
  | cons s sz ih =>
    intro off v h
    rw [sumSq] at h
    obtain ⟨i1, i2, i3, i5⟩ := ih (off + s) (v.drop (s * s))
      (by rw [List.length_drop, h, Nat.add_sub_cancel_left])
    obtain ⟨c1, c2⟩ := chunks_spec s s (v.take (s * s))
      (by rw [List.length_take, h]; exact Nat.min_eq_left (Nat.le_add_right _ _))
    have c3 := length_chunks s s (v.take (s * s))
    obtain ⟨z2, z1⟩ := flatten_zip_cols (List.range' off s) (chunks s s (v.take (s * s)))
      (fun r hr => (c2 r hr).trans List.length_range'.symm)
    have zl : ∀ row ∈ chunks s s (v.take (s * s)), ((List.range' off s).zip row).length = s := by
      intro row hrow
      rw [List.length_zip, List.length_range', c2 row hrow, Nat.min_self]
    refine ⟨?_, ?_, ?_, ?_⟩
    · simp only [bdmRows, List.flatten_append, List.map_append, i1, z2, c1, List.take_append_drop]
    · simp only [bdmRows, List.flatten_append, List.map_append, i2, z1, c3, blockDiagIndexSq]
    · have hz3 : ((chunks s s (v.take (s * s))).map (fun row => (List.range' off s).zip row)).map
          (fun r => (r.length : Int)) = List.replicate s (s : Int) := by
        rw [List.eq_replicate_iff]
        refine ⟨by rw [List.length_map, List.length_map, c3], ?_⟩
        intro b hb
        obtain ⟨r, hr, rfl⟩ := List.mem_map.mp hb
        obtain ⟨row, hrow, rfl⟩ := List.mem_map.mp hr
        exact congrArg _ (zl row hrow)
      simp only [bdmRows, List.map_append, i3, hz3, List.map_cons, rldecodeSpec, Int.toNat_natCast]
    · intro r hr
      rw [bdmRows, List.mem_append] at hr
      rcases hr with hr | hr
      · obtain ⟨row, hrow, rfl⟩ := List.mem_map.mp hr
        rw [zl row hrow]; exact List.mem_cons_self
      · exact List.mem_cons_of_mem _ (i5 r hr)

theorem bdmRows_eq_blkRows : ∀ (sz : List Nat) (off : Nat) (v : List Rat),
    bdmRows off sz v = (blkRows ((varBlocks sz v).map (fun p =>
      (p.2, (chunks p.2 p.2 p.1).map (fun row => (List.range p.2).zip row))))).map (shiftRow off) := by
  intro sz
  induction sz with
  | nil => intro off v; rfl
  | cons s sz ih =>
    intro off v
    simp only [bdmRows, varBlocks, List.map_cons, blkRows, List.map_append, List.map_map, ih, Function.comp_def,
      shiftRow_zip_range, shiftRow_add, Nat.add_comm s off]

theorem varBlocks_sizes : ∀ (sz : List Nat) (v : List Rat), v.length = sumSq sz →
    (∀ p ∈ varBlocks sz v, p.1.length = p.2 * p.2) ∧ sumN ((varBlocks sz v).map (·.2)) = sumN sz := by
  intro sz
  induction sz with
  | nil => intro v _; exact ⟨(fun p hp => nomatch hp), rfl⟩
  | cons s sz ih =>
    intro v h
    rw [sumSq] at h
    obtain ⟨i1, i2⟩ := ih (v.drop (s * s)) (by rw [List.length_drop, h, Nat.add_sub_cancel_left])
    constructor
    · intro p hp
      rw [varBlocks, List.mem_cons] at hp
      rcases hp with rfl | hp
      · rw [List.length_take, h]; exact Nat.min_eq_left (Nat.le_add_right _ _)
      · exact i1 p hp
    · simp only [varBlocks, List.map_cons, sumN, i2]

/-- `block_diag_matrix` assembles exactly the compressed form of these rows -/
theorem blockDiagMatrix_eq (vals : List Rat) (sz : List Nat) (hv : vals.length = sumSq sz) :
    blockDiagMatrix vals sz = .ok (ofRows (sumN sz) (bdmRows 0 sz vals)) := by
  obtain ⟨s1, s2, s3, -⟩ := bdmRows_spec sz 0 vals hv
  simp only [blockDiagMatrix, bind, Except.bind, rldecode_eq_repeat' _ _ (Nat.le_refl _), pure, Except.pure]
  congr 1
  simp only [ofRows, s1, s2, length_bdmRows]
  congr 1
  rw [← s3, List.map_cons, cumsum]
  have := cumsumFrom_lengths (bdmRows 0 sz vals) 0
  simp only [Int.natCast_zero] at this
  rw [this, Int.toNat_zero, ← ptrsFrom_eq_cons]

theorem bdmRows_dense (vals : List Rat) (sz : List Nat) (hv : vals.length = sumSq sz) :
    (ofRows (sumN sz) (bdmRows 0 sz vals)).toDense
      = (blockDiagDense ((varBlocks sz vals).map (fun p => (chunks p.2 p.2 p.1, p.2)))).1 ∧
    RowsOk (sumN sz) (bdmRows 0 sz vals) := by
  obtain ⟨v1, v2⟩ := varBlocks_sizes sz vals hv
  let Rs := (varBlocks sz vals).map (fun p => (p.2, (chunks p.2 p.2 p.1).map (fun row => (List.range p.2).zip row)))
  have hRs : bdmRows 0 sz vals = blkRows Rs :=
    (bdmRows_eq_blkRows sz 0 vals).trans ((List.map_congr_left (fun r _ => shiftRow_zero r)).trans (List.map_id _))
  have hsum : sumN (Rs.map (·.1)) = sumN sz := by
    simp only [Rs, List.map_map, Function.comp_def]
    exact v2
  obtain ⟨h1, -, h3⟩ := blkRows_dense Rs (fun p hp => by
    obtain ⟨q, _, rfl⟩ := List.mem_map.mp hp
    exact RowsOk_zip_range _ _)
  rw [hsum] at h1 h3
  rw [toDense_ofRows, hRs, h1]
  refine ⟨?_, h3⟩
  congr 2
  simp only [Rs, List.map_map]
  apply List.map_congr_left
  intro p hp
  simp only [Function.comp, Prod.mk.injEq, and_true]
  exact map_denseRow_zip_range p.2 _ (chunks_spec p.2 p.2 p.1 (v1 p hp)).2

/-! `_csx_matrix_from_dense_blocks` is the case of `nb` equal sizes `bs`. -/

theorem sumSq_replicate (nb bs : Nat) : sumSq (List.replicate nb bs) = bs * bs * nb := by
  induction nb with
  | zero => rfl
  | succ nb ih => rw [List.replicate_succ, sumSq, ih, Nat.mul_succ, Nat.add_comm]

theorem varBlocks_replicate (bs : Nat) : ∀ (nb : Nat) (data : List Rat),
    varBlocks (List.replicate nb bs) data = (chunks (bs * bs) nb data).map (fun d => (d, bs)) := by
  intro nb
  induction nb with
  | zero => intro data; rfl
  | succ nb ih => intro data; rw [List.replicate_succ, varBlocks, ih, chunks, List.map_cons]

/-- the index array of `_csx_matrix_from_dense_blocks` for the blocks `b0 … b0+nb-1` is
    `block_diag_index` of `nb` equal sizes -/
theorem dense_indices (bs : Nat) : ∀ (nb b0 : Nat),
    List.zipWith (· + ·) (tile (tile (List.range bs) bs) nb)
        (((List.range' b0 nb).flatMap (fun b => List.replicate (bs * bs) b)).map (· * bs))
      = blockDiagIndexSq (b0 * bs) (List.replicate nb bs) := by
  intro nb
  induction nb with
  | zero => intro b0; rfl
  | succ nb ih =>
    intro b0
    have hX : (tile (List.range bs) bs).length = bs * bs := by simp [length_tile]
    rw [tile, List.range'_succ, List.flatMap_cons, List.map_append,
      List.zipWith_append (by simp [hX]), ih (b0 + 1), List.replicate_succ, blockDiagIndexSq, Nat.succ_mul]
    congr 1
    rw [List.map_replicate, ← hX, zipWith_add_replicate, tile_map]
    congr 1
    rw [List.range'_eq_map_range]
    apply List.map_congr_left
    intro k _
    exact Nat.add_comm _ _

theorem blockDiagIndexSq_ones : ∀ (nb off : Nat), blockDiagIndexSq off (List.replicate nb 1) = List.range' off nb := by
  intro nb
  induction nb with
  | zero => intro off; rfl
  | succ nb ih => intro off; rw [List.replicate_succ, blockDiagIndexSq, ih, List.range'_succ]; rfl

theorem ptrsFrom_uniform {β} (c : Nat) : ∀ (rows : List (List β)) (s : Nat), (∀ r ∈ rows, r.length = c) →
    ptrsFrom s rows = (List.range (rows.length + 1)).map (fun i => s + i * c) := by
  intro rows
  induction rows with
  | nil => intro s _; simp [ptrsFrom]
  | cons r rows ih =>
    intro s h
    rw [ptrsFrom, ih (s + r.length) (fun x hx => h x (List.mem_cons_of_mem _ hx)), h r List.mem_cons_self]
    simp only [List.length_cons]
    conv => rhs; rw [List.range_succ_eq_map, List.map_cons, List.map_map]
    simp only [Nat.zero_mul, Nat.add_zero, List.cons.injEq, true_and]
    apply List.map_congr_left
    intro i _
    simp only [Function.comp, Nat.succ_eq_add_one, Nat.add_mul, Nat.one_mul]
    omega

theorem fromDenseBlocks_eq_ofRows (data : List Rat) (bs nb : Nat) (hbs : 1 ≤ bs) (hd : data.length = bs * bs * nb) :
    fromDenseBlocks data bs nb = .ok (ofRows (nb * bs) (bdmRows 0 (List.replicate nb bs) data)) := by
  obtain ⟨s1, s2, -, s5⟩ := bdmRows_spec (List.replicate nb bs) 0 data (hd.trans (sumSq_replicate nb bs).symm)
  have s4 := (length_bdmRows (List.replicate nb bs) 0 data).trans (sumN_replicate nb bs)
  have s3 : ∀ r ∈ bdmRows 0 (List.replicate nb bs) data, r.length = bs :=
    fun r hr => List.eq_of_mem_replicate (s5 r hr)
  have h0 : bs ≠ 0 := Nat.ne_of_gt hbs
  simp only [fromDenseBlocks, hd, ne_eq, not_true_eq_false, if_false, h0]
  congr 1
  simp only [ofRows, s1, s2, s4]
  congr 1
  · rw [ptrsFrom_uniform bs _ 0 s3, s4, Nat.mul_comm nb bs]
    apply List.map_congr_left
    intro i _
    exact (Nat.zero_add _).symm
  · by_cases h1 : 1 < bs
    · rw [if_pos h1]
      have := dense_indices bs nb 0
      rwa [← List.range_eq_range', Nat.zero_mul] at this
    · rw [if_neg h1]
      have hb : bs = 1 := Nat.le_antisymm (Nat.not_lt.mp h1) hbs
      rw [hb, blockDiagIndexSq_ones, List.range_eq_range']

theorem fromDenseBlocks_dense (data : List Rat) (bs nb : Nat) (hd : data.length = bs * bs * nb) :
    (ofRows (nb * bs) (bdmRows 0 (List.replicate nb bs) data)).toDense
      = (blockDiagDense ((chunks (bs * bs) nb data).map (fun d => (chunks bs bs d, bs)))).1 ∧
    RowsOk (nb * bs) (bdmRows 0 (List.replicate nb bs) data) := by
  have h := bdmRows_dense data (List.replicate nb bs) (hd.trans (sumSq_replicate nb bs).symm)
  rw [sumN_replicate, varBlocks_replicate, List.map_map] at h
  exact h

end PorepyVerif.C35
