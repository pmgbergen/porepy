/-
`expand_index_pointers`: the code's array of ones with the jumps written at the interval starts, summed up, is the
concatenation of the ranges.
-/
import PorepyVerif.C35.Arrays

namespace PorepyVerif.C35

/-- number of elements of a kept interval -/
def cnt (p : Int × Int) : Nat := (p.2 - 1 - p.1 + 1).toNat

/-- the array `x` of the code before the final cumulative sum, interval after interval:
    jump from the previous end, then ones -/
def jumps (prev : Int) : List (Int × Int) → List Int
  | [] => []
  | p :: P => (p.1 - prev) :: List.replicate (cnt p - 1) 1 ++ jumps (p.2 - 1) P

/-- the values `lo[1:] - hi[:-1]` -/
def jumpVals (prev : Int) : List (Int × Int) → List Int
  | [] => []
  | p :: P => (p.1 - prev) :: jumpVals (p.2 - 1) P

theorem zipWith_jumpVals (p0 : Int × Int) (P : List (Int × Int)) :
    List.zipWith (· - ·) (P.map (·.1)) (((p0 :: P).map (fun p => p.2 - 1)).dropLast)
      = jumpVals (p0.2 - 1) P := by
  induction P generalizing p0 with
  | nil => simp [jumpVals]
  | cons p1 P ih =>
    have := ih p1
    simp only [List.map_cons, List.dropLast, List.zipWith_cons_cons, jumpVals] at *
    rw [this]

theorem length_jumpVals (prev : Int) (P : List (Int × Int)) : (jumpVals prev P).length = P.length := by
  induction P generalizing prev with
  | nil => rfl
  | cons p P ih => simp [jumpVals, ih]

theorem headed_jumpVals (prev : Int) (P : List (Int × Int)) :
    headed 1 (jumpVals prev P) (P.map cnt) = jumps prev P := by
  induction P generalizing prev with
  | nil => rfl
  | cons p P ih => simp only [jumpVals, List.map_cons, headed, jumps, ih]

theorem rangeI_eq_nil (l h : Int) (hlh : ¬ (l + 1 ≤ h)) : rangeI l h = [] := by
  have : (h - l).toNat = 0 := Int.toNat_eq_zero.mpr (by omega)
  simp [rangeI, this]

theorem rangeI_cons (l h : Int) (m : Nat) (hm : (h - l).toNat = m + 1) :
    rangeI l h = l :: (List.range m).map (fun (j : Nat) => l + 1 + (j : Int)) := by
  simp only [rangeI, hm, List.range_succ_eq_map, List.map_cons, List.map_map]
  simp only [Int.natCast_zero, Int.add_zero, Function.comp_def, Int.natCast_succ]
  congr 1
  apply List.map_congr_left
  intro a _
  omega

/-- concatenated ranges of a list of intervals -/
def rangesOf : List (Int × Int) → List Int
  | [] => []
  | p :: P => rangeI p.1 p.2 ++ rangesOf P

/-- a kept interval `[p.1, p.2)` has `m + 1` elements for some `m`; everything the proofs below need to
    know about `toNat` and the bounds is said here once -/
theorem cnt_spec (p : Int × Int) (h : p.1 + 1 ≤ p.2) :
    ∃ m : Nat, cnt p = m + 1 ∧ (p.2 - p.1).toNat = m + 1 ∧ p.1 + (m : Int) = p.2 - 1 := by
  obtain ⟨l, h'⟩ := p
  obtain ⟨m, hm⟩ := Int.le.dest h
  have hm' : l + 1 + (m : Int) = h' := hm
  subst hm'
  refine ⟨m, ?_, ?_, ?_⟩
  · show (l + 1 + ↑m - 1 - l + 1).toNat = m + 1
    rw [Int.add_right_comm l 1, Int.add_sub_cancel, Int.add_comm l, Int.add_sub_cancel]; rfl
  · show (l + 1 + ↑m - l).toNat = m + 1
    rw [Int.add_assoc, Int.add_comm l, Int.add_sub_cancel, Int.add_comm]; rfl
  · show l + ↑m = l + 1 + ↑m - 1
    rw [Int.add_right_comm l 1, Int.add_sub_cancel]

theorem cnt_pos (p : Int × Int) (h : p.1 + 1 ≤ p.2) : 1 ≤ cnt p := by
  obtain ⟨m, hm, -, -⟩ := cnt_spec p h
  rw [hm]; exact Nat.le_add_left 1 m

theorem cumsumFrom_jumps (prev : Int) (P : List (Int × Int)) (hP : ∀ p ∈ P, p.1 + 1 ≤ p.2) :
    cumsumFrom prev (jumps prev P) = rangesOf P := by
  induction P generalizing prev with
  | nil => rfl
  | cons p P ih =>
    have hp : p.1 + 1 ≤ p.2 := hP p List.mem_cons_self
    have hP' : ∀ q ∈ P, q.1 + 1 ≤ q.2 := fun q hq => hP q (List.mem_cons_of_mem _ hq)
    obtain ⟨m, hc, hr, he⟩ := cnt_spec p hp
    have e0 : prev + (p.1 - prev) = p.1 := by rw [Int.add_comm, Int.sub_add_cancel]
    simp only [jumps, rangesOf, List.cons_append, cumsumFrom, hc, Nat.add_sub_cancel]
    rw [e0, cumsumFrom_replicate_one, rangeI_cons _ _ m hr, he, ih _ hP']
    simp

theorem expandSpec_eq_rangesOf_filter (lo hi : List Int) :
    expandSpec lo hi = rangesOf ((lo.zip hi).filter (fun p => decide (p.1 + 1 ≤ p.2))) := by
  induction lo generalizing hi with
  | nil => simp [expandSpec, rangesOf]
  | cons l lo ih =>
    cases hi with
    | nil => simp [expandSpec, rangesOf]
    | cons h hi =>
      simp only [expandSpec, List.zip_cons_cons, List.filter_cons]
      by_cases hlh : l + 1 ≤ h
      · simp only [hlh, decide_true, if_true, rangesOf, ih]
      · simp only [hlh, decide_false, rangeI_eq_nil l h hlh, List.nil_append, ih]
        simp

theorem expandKept_eq (P : List (Int × Int)) (hP : ∀ p ∈ P, p.1 + 1 ≤ p.2) :
    expandKept P = rangesOf P := by
  cases P with
  | nil => rfl
  | cons p0 P =>
    have hp : p0.1 + 1 ≤ p0.2 := hP p0 List.mem_cons_self
    have hc0 : 1 ≤ cnt p0 := cnt_pos p0 hp
    have hpos : ∀ c ∈ P.map cnt, 1 ≤ c := by
      intro c hc
      obtain ⟨q, hq, rfl⟩ := List.mem_map.mp hc
      exact cnt_pos q (hP q (List.mem_cons_of_mem _ hq))
    simp only [expandKept]
    show cumsum (scatter ((List.replicate (sumN (cnt p0 :: P.map cnt)) (1 : Int)).set 0 p0.1)
        (cumsumN (cnt p0 :: P.map cnt).dropLast)
        (List.zipWith (· - ·) (P.map (·.1)) (((p0 :: P).map (fun p => p.2 - 1)).dropLast))) = _
    rw [zipWith_jumpVals, sumN_cons, replicate_succ_pred 1 _ _ hc0, List.set_cons_zero, cumsumN,
      cumsumFromN_dropLast]
    have h := scatter_blocks (1 : Int) (P.map cnt) (jumpVals (p0.2 - 1) P) []
      (p0.1 :: List.replicate (cnt p0 - 1) 1) (by simp [length_jumpVals]) hpos
    simp only [List.nil_append, List.length_nil, List.length_cons, List.length_replicate] at h
    rw [Nat.sub_add_cancel hc0, List.cons_append] at h
    rw [h, headed_jumpVals]
    have := cumsumFrom_jumps 0 (p0 :: P) hP
    simp only [jumps, Int.sub_zero] at this
    exact this

theorem expandCore_eq_spec (lo hi : List Int) : expandCore lo hi = expandSpec lo hi := by
  rw [expandSpec_eq_rangesOf_filter, expandCore, expandKept_eq]
  intro p hp
  simpa using (List.mem_filter.mp hp).2

theorem broadcastLoHi_same_length (lo hi : List Int) (h : lo.length = hi.length) :
    broadcastLoHi lo hi = (lo, hi) := by
  simp only [broadcastLoHi]
  by_cases h1 : lo.length = 1
  · have h2 : hi.length = 1 := h ▸ h1
    match lo, hi, h1, h2 with
    | [x], [y], _, _ => simp
  · have h2 : ¬ hi.length = 1 := h ▸ h1
    simp only [h1, if_false, h2]

theorem expandSpec_map {ι} (f g : ι → Int) (l : List ι) :
    expandSpec (l.map f) (l.map g) = l.flatMap (fun i => rangeI (f i) (g i)) := by
  induction l with
  | nil => rfl
  | cons a l ih => simp only [List.map_cons, expandSpec, List.flatMap_cons, ih]

theorem rangeI_natCast (a b : Nat) : (rangeI (a : Int) (b : Int)).map Int.toNat = List.range' a (b - a) := by
  simp only [rangeI, Int.toNat_sub, List.map_map, List.range'_eq_map_range]
  apply List.map_congr_left
  intro k _
  simp only [Function.comp]
  rw [← Int.natCast_add, Int.toNat_natCast]

theorem expandIP_same_length (lo hi : List Int) (h : lo.length = hi.length) :
    expandIP lo hi = expandSpec lo hi := by
  simp only [expandIP, broadcastLoHi_same_length lo hi h, expandCore_eq_spec]

theorem expand_index_pointers_same_length (lo hi : List Int) (h : lo.length = hi.length) :
    expandIndexPointers lo hi = .ok (expandSpec lo hi) := by
  have hb : broadcastLoHi lo hi = (lo, hi) := broadcastLoHi_same_length lo hi h
  simp only [expandIndexPointers, hb, h, ne_eq, not_true_eq_false, if_false, expandCore_eq_spec]

theorem expandSpec_append (lo1 hi1 lo2 hi2 : List Int) (h : lo1.length = hi1.length) :
    expandSpec (lo1 ++ lo2) (hi1 ++ hi2) = expandSpec lo1 hi1 ++ expandSpec lo2 hi2 := by
  induction lo1 generalizing hi1 with
  | nil => cases hi1 with
    | nil => rfl
    | cons _ _ => cases h
  | cons l lo1 ih => cases hi1 with
    | nil => cases h
    | cons x hi1 =>
      rw [List.cons_append, List.cons_append, expandSpec, expandSpec, ih hi1 (Nat.succ.inj h), List.append_assoc]

theorem expandSpec_replicate (c : Nat) (a b : Int) :
    expandSpec (List.replicate c a) (List.replicate c b) = (List.range c).flatMap (fun _ => rangeI a b) := by
  induction c with
  | zero => rfl
  | succ c ih =>
    simp only [List.replicate_succ, expandSpec, ih, List.range_succ_eq_map, List.flatMap_cons, List.flatMap_map]

theorem rangeI_nat (a k : Nat) : rangeI (a : Int) ((a : Int) + (k : Int)) = (List.range k).map (fun (r : Nat) => ((a + r : Nat) : Int)) := by
  have e : ((a : Int) + (k : Int) - (a : Int)).toNat = k := by
    rw [Int.add_comm, Int.add_sub_cancel, Int.toNat_natCast]
  simp only [rangeI, e]
  apply List.map_congr_left
  intro r _
  push_cast; rfl

theorem rangeI_split (a x y : Nat) :
    rangeI (a : Int) ((a : Int) + ((x + y : Nat) : Int))
      = rangeI (a : Int) ((a : Int) + (x : Int)) ++ rangeI ((a + x : Nat) : Int) (((a + x : Nat) : Int) + (y : Int)) := by
  rw [rangeI_nat, rangeI_nat, rangeI_nat, List.range_add, List.map_append, List.map_map]
  congr 1
  apply List.map_congr_left
  intro r _
  exact congrArg _ (Nat.add_assoc a x r).symm

end PorepyVerif.C35
