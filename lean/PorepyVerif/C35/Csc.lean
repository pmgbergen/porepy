/-
The column-wise reading (transposes), `denseToCsr`, and the triplets of `sparse_array_to_row_col_data`.
-/
import PorepyVerif.C35.Rows
import PorepyVerif.Common.List

namespace PorepyVerif.C35

theorem length_toDense (A : Csr) : A.toDense.length = A.nrows := by simp [Csr.toDense, Csr.rows]

theorem length_row_toDense (A : Csr) : ∀ row ∈ A.toDense, row.length = A.ncols := by
  intro row h
  simp only [Csr.toDense, List.mem_map] at h
  obtain ⟨es, _, rfl⟩ := h
  simp [denseRow]

theorem getD_denseRow (n i : Nat) (es : List (Nat × Rat)) (hi : i < n) : (denseRow n es).getD i 0 = entrySum i es := by
  simp [denseRow, List.getD_eq_getElem?_getD, hi]

/-- scipy's column-wise semantics of a csc matrix is the transpose of the row-wise semantics of the
    csr matrix with the same arrays -/
theorem csc_toDense_eq_transpose (C : Csc) : C.toDense = transposeD C.read.toDense C.nrows := by
  simp only [Csc.toDense, transposeD, Csr.toDense, Csr.rows, List.map_map]
  apply List.map_congr_left
  intro i hi
  apply List.map_congr_left
  intro j _
  simp only [Function.comp]
  have := getD_denseRow C.read.ncols i (C.read.rowEntries j) (List.mem_range.mp hi)
  rw [this]
  rfl

theorem toDense_ofRead (R : Csr) : (Csc.ofRead R).toDense = transposeD R.toDense R.ncols :=
  csc_toDense_eq_transpose (Csc.ofRead R)

theorem transposeD_involutive (M : List (List Rat)) (r c : Nat) (hr : M.length = r)
    (hc : ∀ row ∈ M, row.length = c) : transposeD (transposeD M c) r = M := by
  subst hr
  simp only [transposeD, List.map_map]
  apply List.ext_getElem
  · simp
  · intro i h1 h2
    simp only [List.getElem_map, List.getElem_range]
    have hi : i < M.length := h2
    have hrow := hc M[i] (List.getElem_mem hi)
    apply List.ext_getElem
    · simp [hrow]
    · intro j h3 h4
      simp [List.getD_eq_getElem?_getD, hi, List.getElem?_eq_getElem (show j < M[i].length from h4)]

theorem read_toDense (C : Csc) : C.read.toDense = transposeD C.toDense C.ncols := by
  rw [csc_toDense_eq_transpose]
  exact (transposeD_involutive _ _ _ (length_toDense C.read) (length_row_toDense C.read)).symm

theorem transposeD_append (X Y : List (List Rat)) (r : Nat) :
    transposeD (X ++ Y) r = List.zipWith (· ++ ·) (transposeD X r) (transposeD Y r) := by
  simp only [transposeD, List.map_append, List.zipWith_map, List.zipWith_self]

theorem denseToCsr_dense (M : List (List Rat)) (c : Nat) (h : ∀ row ∈ M, row.length = c) :
    (denseToCsr M c).toDense = M ∧ (denseToCsr M c).WF := by
  constructor
  · rw [denseToCsr, toDense_ofRows, map_denseRow_zip_range c M h]
  · exact WF_ofRows _ _ (RowsOk_zip_range c M)

theorem transposeD_shape (M : List (List Rat)) (c : Nat) :
    (transposeD M c).length = c ∧ ∀ row ∈ transposeD M c, row.length = M.length := by
  constructor
  · simp [transposeD]
  · intro row h
    simp only [transposeD, List.mem_map] at h
    obtain ⟨j, _, rfl⟩ := h
    simp

theorem transposeD_diagDense (X Y : List (List Rat)) (a b : Nat) (hX : ∀ row ∈ X, row.length = a) :
    transposeD (diagDense X a Y b) (a + b) = diagDense (transposeD X a) X.length (transposeD Y b) Y.length := by
  simp only [transposeD, diagDense, List.range_add, List.map_append, List.map_map]
  congr 1
  · apply List.map_congr_left
    intro j hj
    have hj' : j < a := List.mem_range.mp hj
    simp only [Function.comp]
    congr 1
    · apply List.map_congr_left
      intro row hrow
      exact Common.getD_append_left _ 0 (by rw [hX row hrow]; exact hj')
    · rw [List.eq_replicate_iff]
      refine ⟨by simp, ?_⟩
      intro v hv
      obtain ⟨row, _, rfl⟩ := List.mem_map.mp hv
      show (List.replicate a 0 ++ row).getD j 0 = 0
      rw [Common.getD_append_left (l := List.replicate a 0) row 0 (by simpa using hj')]
      exact Common.getD_replicate a j 0
  · apply List.map_congr_left
    intro j _
    simp only [Function.comp]
    congr 1
    · rw [List.eq_replicate_iff]
      refine ⟨by simp, ?_⟩
      intro v hv
      obtain ⟨row, hrow, rfl⟩ := List.mem_map.mp hv
      show (row ++ List.replicate b 0).getD (a + j) 0 = 0
      rw [Common.getD_append_right _ 0 (by rw [hX row hrow]; exact Nat.le_add_right a j)]
      exact Common.getD_replicate b _ 0
    · apply List.map_congr_left
      intro row _
      have := Common.getD_append_right (l := List.replicate a 0) row 0 (Nat.le_add_right _ j)
      rw [List.length_replicate, Nat.add_sub_cancel_left] at this
      exact this

theorem tripletSum_append (i j : Nat) (a b : List (Nat × Nat × Rat)) :
    tripletSum i j (a ++ b) = tripletSum i j a + tripletSum i j b := by
  induction a with
  | nil => simp [tripletSum, Rat.zero_add]
  | cons t a ih => simp only [List.cons_append, tripletSum, ih, Rat.add_assoc]

theorem tripletSum_tagged (i j k : Nat) (r : List (Nat × Rat)) :
    tripletSum i j (r.map (fun e => (k, e))) = if k = i then entrySum j r else 0 := by
  induction r with
  | nil => simp [tripletSum, entrySum]
  | cons e r ih =>
    simp only [List.map_cons, tripletSum, ih, entrySum]
    by_cases h : k = i
    · simp [h]
    · simp [h, Rat.add_zero]

theorem tripletSum_rows_lt (i j : Nat) : ∀ (R : List (List (Nat × Rat))) (s : Nat), i < s →
    tripletSum i j ((List.zipWith (fun k r => r.map (fun e => (k, e))) (List.range' s R.length) R).flatten) = 0 := by
  intro R
  induction R with
  | nil => intro s _; rfl
  | cons r R ih =>
    intro s h
    rw [List.length_cons, List.range'_succ, List.zipWith_cons_cons, List.flatten_cons, tripletSum_append,
      tripletSum_tagged, if_neg (Nat.ne_of_gt h), ih (s + 1) (Nat.lt_succ_of_lt h)]
    exact Rat.add_zero 0

/-- the triplets of the lines numbered from `s` sum, at line `s + i`, to the entries of row `i` -/
theorem tripletSum_rows (j : Nat) : ∀ (R : List (List (Nat × Rat))) (s i : Nat),
    tripletSum (s + i) j ((List.zipWith (fun k r => r.map (fun e => (k, e))) (List.range' s R.length) R).flatten)
      = entrySum j (R.getD i []) := by
  intro R
  induction R with
  | nil => intro s i; rfl
  | cons r R ih =>
    intro s i
    rw [List.length_cons, List.range'_succ, List.zipWith_cons_cons, List.flatten_cons, tripletSum_append,
      tripletSum_tagged]
    cases i with
    | zero =>
      show (if s = s then entrySum j r else 0) + tripletSum s j _ = entrySum j r
      rw [if_pos rfl, tripletSum_rows_lt s j R (s + 1) (Nat.lt_succ_self s)]
      exact Rat.add_zero _
    | succ i =>
      rw [if_neg (Nat.ne_of_lt (Nat.lt_add_of_pos_right (Nat.succ_pos i))),
        (Nat.succ_add_eq_add_succ s i).symm, ih (s + 1) i]
      exact Rat.zero_add _

theorem tripletSum_filter (i j : Nat) (t : List (Nat × Nat × Rat)) :
    tripletSum i j (t.filter (fun x => decide (x.2.2 ≠ 0))) = tripletSum i j t := by
  induction t with
  | nil => rfl
  | cons x t ih =>
    by_cases h : x.2.2 = 0
    · have hd : decide (x.2.2 ≠ 0) = false := by simp [h]
      rw [List.filter_cons, hd]
      simp only [Bool.false_eq_true, if_false, tripletSum, ih, h, ite_self, Rat.zero_add]
    · have hd : decide (x.2.2 ≠ 0) = true := by simp [h]
      rw [List.filter_cons, hd]
      simp only [if_true, tripletSum, ih]

theorem toTriplets_ofRows (nc : Nat) (R : List (List (Nat × Rat))) :
    toTriplets (ofRows nc R) false
      = (List.zipWith (fun k r => r.map (fun e => (k, e))) (List.range' 0 R.length) R).flatten := by
  have hline : (List.range (ofRows nc R).nrows).flatMap (fun i =>
      List.replicate ((ofRows nc R).indptr.getD (i + 1) 0 - (ofRows nc R).indptr.getD i 0) i)
      = repeatSpec (List.range R.length) (R.map List.length) := by
    have hrep : ∀ (P : List Nat) (L : List Nat), P.length = L.length →
        repeatSpec P L = (List.zipWith (fun p c => List.replicate c p) P L).flatten := by
      intro P
      induction P with
      | nil => intro L _; cases L <;> rfl
      | cons p P ihp => intro L h; cases L with
        | nil => cases h
        | cons c L => simp [repeatSpec, ihp L (Nat.succ.inj h)]
    rw [hrep _ _ (by simp)]
    show (List.range R.length).flatMap _ = _
    rw [List.flatten_eq_flatMap, Common.map_eq_map_range_getD List.length R [], List.zipWith_map_right, List.zipWith_self,
      List.flatMap_map]
    apply Common.flatMap_congr
    intro i hi
    simp only [id, ptr_diff_ofRows nc R i (List.mem_range.mp hi)]
  simp only [toTriplets, Bool.false_eq_true, if_false]
  rw [hline]
  have hz : (ofRows nc R).indices.zip (ofRows nc R).data = R.flatten := by
    simp only [ofRows]; exact zip_map_fst_snd _
  rw [hz, zip_repeatSpec_flatten _ _ (by simp), List.range_eq_range']

theorem toTriplets_dense (A : Csr) (hA : A.WF) (b : Bool) :
    tripletDense (toTriplets A b) A.nrows A.ncols = A.toDense := by
  have hfil : ∀ i j, tripletSum i j (toTriplets A b) = tripletSum i j (toTriplets A false) := by
    intro i j
    cases b with
    | false => rfl
    | true =>
      have : toTriplets A true = (toTriplets A false).filter (fun x => decide (x.2.2 ≠ 0)) := by
        simp [toTriplets]
      rw [this, tripletSum_filter]
  induction A, hA using WF_rec with | rows nc R _ => ?_
  rw [toDense_ofRows]
  simp only [tripletDense, hfil, toTriplets_ofRows]
  apply List.ext_getElem
  · simp [ofRows]
  · intro i h1 h2
    have hi : i < R.length := by simpa using h2
    simp only [List.getElem_map, List.getElem_range, denseRow]
    apply List.map_congr_left
    intro j _
    have := tripletSum_rows j R 0 i
    rw [Nat.zero_add] at this
    rw [this, List.getD_eq_getElem?_getD, List.getElem?_eq_getElem hi, Option.getD_some]

end PorepyVerif.C35
