/-
The device used for every matrix function: a well-formed compressed matrix is `ofRows` of its list of rows
(`WF_eq_ofRows`, used as the induction principle `WF_rec`); every array manipulation of the code (cumsum, scatter, fancy
indexing, `np.insert`) is shown to act on `ofRows ncols R` as a plain list operation on `R` (`…_ofRows`, in the modules
that import this one), and the dense form is then read off with `toDense_ofRows`.
-/
import PorepyVerif.C35.Arrays

namespace PorepyVerif.C35

/-- consecutive slices `E[p_i : p_{i+1}]` -/
def splitRows {β} : List Nat → List β → List (List β)
  | a :: b :: p, E => (E.drop a).take (b - a) :: splitRows (b :: p) E
  | _, _ => []

theorem range_map_eq_splitRows {β} (E : List β) : ∀ (n : Nat) (p : List Nat), p.length = n + 1 →
    (List.range n).map (fun i => (E.drop (p.getD i 0)).take (p.getD (i + 1) 0 - p.getD i 0)) = splitRows p E := by
  intro n
  induction n with
  | zero =>
    intro p hp
    cases p with
    | nil => cases hp
    | cons a p => cases p with
      | nil => rfl
      | cons b p => cases hp
  | succ n ih =>
    intro p hp
    cases p with
    | nil => cases hp
    | cons a p => cases p with
      | nil => cases hp
      | cons b p =>
        rw [List.range_succ_eq_map, List.map_cons, List.map_map, splitRows, ← ih (b :: p) (Nat.succ.inj hp)]
        rfl

theorem rows_eq_splitRows (A : Csr) (h : A.indptr.length = A.nrows + 1) :
    A.rows = splitRows A.indptr (A.indices.zip A.data) := by
  unfold Csr.rows
  rw [← range_map_eq_splitRows _ A.nrows A.indptr h]
  rfl

theorem ptrsFrom_eq_cons {β} (s : Nat) (R : List (List β)) : ptrsFrom s R = s :: (ptrsFrom s R).tail := by
  cases R <;> rfl

theorem length_ptrsFrom {β} (s : Nat) (R : List (List β)) : (ptrsFrom s R).length = R.length + 1 := by
  induction R generalizing s with
  | nil => rfl
  | cons r R ih => simp [ptrsFrom, ih]

theorem splitRows_ptrsFrom {β} : ∀ (R : List (List β)) (s : Nat) (pre : List β), pre.length = s →
    splitRows (ptrsFrom s R) (pre ++ R.flatten) = R := by
  intro R
  induction R with
  | nil => intro s pre _; rfl
  | cons r R ih =>
    intro s pre hs
    rw [ptrsFrom, ptrsFrom_eq_cons (s + r.length) R, splitRows, ← ptrsFrom_eq_cons]
    have h1 : (List.drop s (pre ++ (r :: R).flatten)).take (s + r.length - s) = r := by
      subst hs
      simp
    rw [h1]
    have h2 := ih (s + r.length) (pre ++ r) (by simp [hs])
    simp only [List.flatten_cons, ← List.append_assoc]
    simp only [List.append_assoc] at h2 ⊢
    rw [h2]

theorem rows_ofRows (nc : Nat) (R : List (List (Nat × Rat))) : (ofRows nc R).rows = R := by
  rw [rows_eq_splitRows _ (by simp [ofRows, length_ptrsFrom])]
  simp only [ofRows, zip_map_fst_snd]
  exact splitRows_ptrsFrom R 0 [] rfl

theorem toDense_ofRows (nc : Nat) (R : List (List (Nat × Rat))) :
    (ofRows nc R).toDense = R.map (denseRow nc) := by
  simp only [Csr.toDense, rows_ofRows]
  rfl

theorem monotone_head_le_last : ∀ (p : List Nat) (a : Nat), monotone (a :: p) = true → a ≤ (a :: p).getLastD 0 := by
  intro p
  induction p with
  | nil => intro a _; simp
  | cons b p ih =>
    intro a h
    simp only [monotone, Bool.and_eq_true, decide_eq_true_eq] at h
    rw [getLastD_cons_cons a b p 0 0]
    exact Nat.le_trans h.1 (ih b h.2)

theorem splitRows_monotone {β} (E : List β) : ∀ (p : List Nat) (a : Nat), monotone (a :: p) = true →
    (a :: p).getLastD 0 ≤ E.length →
    ptrsFrom a (splitRows (a :: p) E) = a :: p ∧
    (splitRows (a :: p) E).flatten = (E.drop a).take ((a :: p).getLastD 0 - a) := by
  intro p
  induction p with
  | nil => intro a _ _; simp [splitRows, ptrsFrom]
  | cons b p ih =>
    intro a hm hl
    simp only [monotone, Bool.and_eq_true, decide_eq_true_eq] at hm
    rw [getLastD_cons_cons a b p 0 0] at hl ⊢
    obtain ⟨h1, h2⟩ := ih b hm.2 hl
    have hb := monotone_head_le_last p b hm.2
    have hlen : ((E.drop a).take (b - a)).length = b - a := by
      rw [List.length_take, List.length_drop]
      exact Nat.min_eq_left (Nat.sub_le_sub_right (Nat.le_trans hb hl) a)
    constructor
    · rw [splitRows, ptrsFrom, hlen, Nat.add_sub_of_le hm.1, h1]
    · rw [splitRows, List.flatten_cons, h2, take_drop_add E a b _ hm.1 hb]

/-- column indices of all stored entries are in range -/
def RowsOk (nc : Nat) (R : List (List (Nat × Rat))) : Prop := ∀ r ∈ R, ∀ e ∈ r, e.1 < nc

/-- a row picked by position is in range whatever the position (beyond the end it is empty) -/
theorem RowsOk_getD {nc : Nat} {R : List (List (Nat × Rat))} (ok : RowsOk nc R) (i : Nat) :
    ∀ e ∈ R.getD i [], e.1 < nc := by
  rw [List.getD_eq_getElem?_getD]
  cases h : R[i]? with
  | none => exact fun _ he => nomatch he
  | some r => exact ok r (List.mem_of_getElem? h)

theorem WF_unpack (A : Csr) (h : A.WF) :
    A.indptr.length = A.nrows + 1 ∧ A.indptr.headD 1 = 0 ∧ monotone A.indptr = true ∧
    A.indptr.getLastD 0 = A.indices.length ∧ A.indices.length = A.data.length ∧
    ∀ c ∈ A.indices, c < A.ncols := by
  simpa [Csr.WF, Csr.wfb, Bool.and_eq_true, decide_eq_true_eq, List.all_eq_true, and_assoc] using h

/-- Every well-formed compressed matrix is the compressed form of its list of rows. -/
theorem WF_eq_ofRows (A : Csr) (h : A.WF) : A = ofRows A.ncols A.rows ∧ RowsOk A.ncols A.rows := by
  obtain ⟨h1, h2, h3, h4, h5, h6⟩ := WF_unpack A h
  obtain ⟨nrows, ncols, indptr, indices, data⟩ := A
  simp only at h1 h2 h3 h4 h5 h6
  match indptr, h1, h2 with
  | a :: p, h1, h2 =>
    have ha : a = 0 := by simpa using h2
    subst ha
    have hE : (indices.zip data).length = indices.length := by simp [List.length_zip, h5]
    obtain ⟨e1, e2⟩ := splitRows_monotone (indices.zip data) p 0 h3 (by rw [hE, h4]; exact Nat.le_refl _)
    have hrows := rows_eq_splitRows ⟨nrows, ncols, 0 :: p, indices, data⟩ h1
    simp only at hrows
    have hflat : (splitRows (0 :: p) (indices.zip data)).flatten = indices.zip data := by
      rw [e2, h4, Nat.sub_zero, List.drop_zero, ← hE, List.take_length]
    constructor
    · simp only [ofRows, hrows, e1, hflat]
      have hn : (splitRows (0 :: p) (indices.zip data)).length = nrows := by
        rw [← hrows]; simp [Csr.rows]
      rw [hn]
      congr 1
      · exact (List.map_fst_zip (Nat.le_of_eq h5)).symm
      · exact (List.map_snd_zip (Nat.le_of_eq h5.symm)).symm
    · intro r hr e he
      rw [hrows] at hr
      have : e ∈ (splitRows (0 :: p) (indices.zip data)).flatten := List.mem_flatten.mpr ⟨r, hr, he⟩
      rw [hflat] at this
      exact h6 e.1 (List.of_mem_zip this).1

theorem WF_cases (A : Csr) (h : A.WF) : ∃ R, A = ofRows A.ncols R ∧ RowsOk A.ncols R ∧ A.rows = R :=
  ⟨A.rows, (WF_eq_ofRows A h).1, (WF_eq_ofRows A h).2, rfl⟩

theorem ptrsFrom_shift {β} (s t : Nat) (R : List (List β)) :
    ptrsFrom (s + t) R = (ptrsFrom s R).map (· + t) := by
  induction R generalizing s with
  | nil => rfl
  | cons r R ih =>
    simp only [ptrsFrom, List.map_cons]
    rw [← ih (s + r.length)]
    congr 2
    exact Nat.add_right_comm s t r.length

theorem tail_ptrsFrom {β} (t : Nat) (R : List (List β)) : (ptrsFrom 0 R).tail.map (· + t) = (ptrsFrom t R).tail := by
  have := ptrsFrom_shift 0 t R
  rw [Nat.zero_add] at this
  rw [this, List.map_tail]

theorem ptrsFrom_append {β} (s : Nat) (R1 R2 : List (List β)) :
    ptrsFrom s (R1 ++ R2) = ptrsFrom s R1 ++ (ptrsFrom (s + R1.flatten.length) R2).tail := by
  induction R1 generalizing s with
  | nil =>
    simpa [ptrsFrom] using ptrsFrom_eq_cons s R2
  | cons r R1 ih =>
    simp only [List.cons_append, ptrsFrom, List.flatten_cons, List.length_append, ih]
    rw [Nat.add_assoc]

theorem getLastD_ptrsFrom {β} (s d : Nat) (R : List (List β)) :
    (ptrsFrom s R).getLastD d = s + R.flatten.length := by
  induction R generalizing s d with
  | nil => simp [ptrsFrom]
  | cons r R ih =>
    rw [ptrsFrom, ptrsFrom_eq_cons, getLastD_cons_cons _ _ _ d 0, ← ptrsFrom_eq_cons, ih]
    simp [Nat.add_assoc]

theorem monotone_ptrsFrom {β} (s : Nat) (R : List (List β)) : monotone (ptrsFrom s R) = true := by
  induction R generalizing s with
  | nil => rfl
  | cons r R ih =>
    rw [ptrsFrom, ptrsFrom_eq_cons, monotone, ← ptrsFrom_eq_cons, ih]
    simp

theorem WF_ofRows (nc : Nat) (R : List (List (Nat × Rat))) (h : RowsOk nc R) : (ofRows nc R).WF := by
  have h1 : (ptrsFrom 0 R).headD 1 = 0 := by rw [ptrsFrom_eq_cons]; rfl
  have h2 : ∀ c ∈ (R.flatten.map (·.1)), c < nc := by
    intro c hc
    obtain ⟨e, he, rfl⟩ := List.mem_map.mp hc
    obtain ⟨r, hr, her⟩ := List.mem_flatten.mp he
    exact h r hr e her
  simp only [Csr.WF, Csr.wfb, ofRows, Bool.and_eq_true, decide_eq_true_eq, List.all_eq_true,
    length_ptrsFrom, monotone_ptrsFrom, getLastD_ptrsFrom, List.length_map, Nat.zero_add, h1]
  exact ⟨⟨⟨⟨⟨trivial, trivial⟩, trivial⟩, trivial⟩, trivial⟩, fun x hx => decide_eq_true (h2 x hx)⟩

/-- the row pointers depend on the row lengths only -/
theorem ptrsFrom_congr {β γ} (s : Nat) (Q : List (List β)) (Q' : List (List γ))
    (h : Q.map List.length = Q'.map List.length) : ptrsFrom s Q = ptrsFrom s Q' := by
  induction Q generalizing s Q' with
  | nil => cases Q' with
    | nil => rfl
    | cons q Q' => cases h
  | cons q Q ih => cases Q' with
    | nil => cases h
    | cons q' Q' =>
      simp only [List.map_cons, List.cons.injEq] at h
      simp only [ptrsFrom, h.1, ih _ Q' h.2]

theorem entrySum_eq_zero_of_ne (j : Nat) (es : List (Nat × Rat)) (h : ∀ e ∈ es, e.1 ≠ j) : entrySum j es = 0 := by
  induction es with
  | nil => rfl
  | cons e es ih =>
    have h1 : e.1 ≠ j := h e List.mem_cons_self
    simp only [entrySum, h1, if_false, ih (fun e he => h e (List.mem_cons_of_mem _ he))]
    exact Rat.add_zero 0

/-- To prove something of every well-formed matrix, prove it of `ofRows nc R` for in-range rows `R`. -/
theorem WF_rec {motive : (A : Csr) → A.WF → Prop}
    (rows : ∀ nc R (ok : RowsOk nc R), motive (ofRows nc R) (WF_ofRows nc R ok)) (A : Csr) (hA : A.WF) :
    motive A hA := by
  have key : ∀ B (_ : A = B) (hB : B.WF), motive B hB → motive A hA := by
    intro B e; subst e; exact fun _ h => h
  exact key _ (WF_eq_ofRows A hA).1 _ (rows _ _ (WF_eq_ofRows A hA).2)

theorem getD_ptrsFrom {β} : ∀ (R : List (List β)) (s i : Nat), i ≤ R.length →
    (ptrsFrom s R).getD i 0 = s + (R.take i).flatten.length := by
  intro R
  induction R with
  | nil => intro s i hi; have : i = 0 := by simpa using hi
           subst this; simp [ptrsFrom]
  | cons r R ih =>
    intro s i hi
    cases i with
    | zero => simp [ptrsFrom]
    | succ i =>
      have hi' : i ≤ R.length := by simpa using hi
      simp only [ptrsFrom, List.getD_cons_succ, ih _ _ hi', List.take_succ_cons, List.flatten_cons,
        List.length_append]
      exact Nat.add_assoc _ _ _

theorem ptr_succ {β} (R : List (List β)) (s i : Nat) (hi : i < R.length) :
    (ptrsFrom s R).getD (i + 1) 0 = (ptrsFrom s R).getD i 0 + (R.getD i []).length := by
  have e : R.take (i + 1) = R.take i ++ [R.getD i []] := by
    rw [List.take_add_one]
    simp [List.getD_eq_getElem?_getD, List.getElem?_eq_getElem hi]
  rw [getD_ptrsFrom R s (i + 1) hi, getD_ptrsFrom R s i (Nat.le_of_lt hi), e]
  simp [Nat.add_assoc]

theorem ptr_succ_ofRows (nc : Nat) (R : List (List (Nat × Rat))) (i : Nat) (hi : i < R.length) :
    (ofRows nc R).indptr.getD (i + 1) 0 = (ofRows nc R).indptr.getD i 0 + (R.getD i []).length :=
  ptr_succ R 0 i hi

theorem ptr_diff_ofRows (nc : Nat) (R : List (List (Nat × Rat))) (i : Nat) (hi : i < R.length) :
    (ofRows nc R).indptr.getD (i + 1) 0 - (ofRows nc R).indptr.getD i 0 = (R.getD i []).length := by
  rw [ptr_succ_ofRows nc R i hi, Nat.add_sub_cancel_left]

theorem ptrsFrom_cast {β} (s : Nat) (R : List (List β)) :
    (ptrsFrom s R).map (fun (p : Nat) => (p : Int)) = (s : Int) :: cumsumFrom (s : Int) (R.map (fun r => (r.length : Int))) := by
  induction R generalizing s with
  | nil => rfl
  | cons r R ih =>
    have e : (s : Int) + (r.length : Int) = ((s + r.length : Nat) : Int) := by push_cast; rfl
    simp only [ptrsFrom, List.map_cons, cumsumFrom, ih, e]

theorem cumsumFrom_lengths {β} (rows : List (List β)) (s : Nat) :
    (cumsumFrom (s : Int) (rows.map (fun r => (r.length : Int)))).map Int.toNat = (ptrsFrom s rows).tail := by
  have h := congrArg List.tail (ptrsFrom_cast s rows)
  rw [List.tail_cons] at h
  rw [← h, ← List.map_tail, List.map_map]
  exact (List.map_congr_left (fun p _ => Int.toNat_natCast p)).trans (List.map_id _)

theorem entrySum_zip_range'_lt (j : Nat) (row : List Rat) (s : Nat) (h : j < s) :
    entrySum j ((List.range' s row.length).zip row) = 0 :=
  entrySum_eq_zero_of_ne j _ (fun _ he =>
    Nat.ne_of_gt (Nat.lt_of_lt_of_le h (List.mem_range'_1.mp (List.of_mem_zip he).1).1))

theorem entrySum_zip_range' : ∀ (row : List Rat) (s j : Nat),
    entrySum (s + j) ((List.range' s row.length).zip row) = row.getD j 0 := by
  intro row
  induction row with
  | nil => intro s j; rfl
  | cons x row ih =>
    intro s j
    rw [List.length_cons, List.range'_succ, List.zip_cons_cons, entrySum]
    cases j with
    | zero =>
      show (if s = s then x else 0) + entrySum s _ = x
      rw [if_pos rfl, entrySum_zip_range'_lt s row (s + 1) (Nat.lt_succ_self s)]
      exact Rat.add_zero x
    | succ j =>
      show (if s = s + (j + 1) then x else 0) + entrySum (s + (j + 1)) _ = row.getD j 0
      rw [if_neg (Nat.ne_of_lt (Nat.lt_add_of_pos_right (Nat.succ_pos j))),
        (Nat.succ_add_eq_add_succ s j).symm, ih (s + 1) j]
      exact Rat.zero_add _

theorem denseRow_zip_range (row : List Rat) : denseRow row.length ((List.range row.length).zip row) = row := by
  apply List.ext_getElem
  · simp [denseRow]
  · intro j h1 h2
    have := entrySum_zip_range' row 0 j
    rw [Nat.zero_add, ← List.range_eq_range'] at this
    simp only [denseRow, List.getElem_map, List.getElem_range, this, List.getD_eq_getElem?_getD,
      List.getElem?_eq_getElem h2, Option.getD_some]

theorem map_denseRow_zip_range (c : Nat) (M : List (List Rat)) (h : ∀ row ∈ M, row.length = c) :
    (M.map (fun row => (List.range c).zip row)).map (denseRow c) = M := by
  rw [List.map_map]
  conv => rhs; rw [← List.map_id M]
  apply List.map_congr_left
  intro row hrow
  have := denseRow_zip_range row
  rw [h row hrow] at this
  exact this

theorem RowsOk_zip_range (c : Nat) (M : List (List Rat)) :
    RowsOk c (M.map (fun row => (List.range c).zip row)) := by
  intro r hr e he
  obtain ⟨row, _, rfl⟩ := List.mem_map.mp hr
  exact List.mem_range.mp (List.of_mem_zip he).1

end PorepyVerif.C35
