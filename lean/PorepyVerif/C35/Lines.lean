/-
Storage positions of whole lines (`lineIdx`), and the two functions that read or overwrite them: `slice_sparse_matrix` /
`slice_indices` and `zero_rows`.
-/
import PorepyVerif.C35.Rows
import PorepyVerif.C35.Expand
import PorepyVerif.Common.List

namespace PorepyVerif.C35

/-- storage positions of the given lines: the ranges `[indptr[i], indptr[i+1])` one after the other -/
theorem lineIdx_eq (A : Csr) (lines : List Nat) :
    A.lineIdx lines = lines.flatMap (fun i =>
      List.range' (A.indptr.getD i 0) (A.indptr.getD (i + 1) 0 - A.indptr.getD i 0)) := by
  simp only [Csr.lineIdx, Csr.ptrLo, Csr.ptrHi]
  rw [expandIP_same_length _ _ (by simp), expandSpec_map, List.map_flatMap]
  congr 1
  funext i
  exact rangeI_natCast _ _

theorem rowEntries_ofRows (nc : Nat) (R : List (List (Nat × Rat))) (i : Nat) (hi : i < R.length) :
    (ofRows nc R).rowEntries i = R.getD i [] := by
  have h := rows_ofRows nc R
  have h2 : ((ofRows nc R).rows).getD i [] = R.getD i [] := by rw [h]
  rw [← h2]
  simp [Csr.rows, List.getD_eq_getElem?_getD, ofRows, hi]

/-- `indptr[lines+1] - indptr[lines]`: the lengths of the lines -/
theorem removed_ofRows (nc : Nat) (RA : List (List (Nat × Rat))) (lines : List Nat) (hlt : ∀ l ∈ lines, l < RA.length) :
    List.zipWith (· - ·) ((ofRows nc RA).ptrHi lines) ((ofRows nc RA).ptrLo lines)
      = lines.map (fun l => ((RA.getD l []).length : Int)) := by
  simp only [Csr.ptrHi, Csr.ptrLo, List.zipWith_map, List.zipWith_self]
  apply List.map_congr_left
  intro i hi
  rw [ptr_succ_ofRows nc RA i (hlt i hi), Int.natCast_add, Int.add_comm, Int.add_sub_cancel]

/-- storage positions of line `i` in the flattened rows -/
def linePos {β} (R : List (List β)) (i : Nat) : List Nat :=
  List.range' (R.take i).flatten.length (R.getD i []).length

theorem linePos_congr {β γ} (R : List (List β)) (R' : List (List γ)) (h : R.map List.length = R'.map List.length)
    (i : Nat) : linePos R i = linePos R' i := by
  have h1 : (R.take i).flatten.length = (R'.take i).flatten.length := by
    simp only [List.length_flatten, List.map_take, h]
  have h2 : (R.getD i []).length = (R'.getD i []).length := by
    have e1 := Common.getD_map List.length R i []
    have e2 := Common.getD_map List.length R' i []
    simp only [List.length_nil] at e1 e2
    rw [← e1, ← e2, h]
  simp only [linePos, h1, h2]

/-- the positions depend on the row lengths only, so they may be read on any rows `Q` of the same shape -/
theorem lineIdx_ofRows {β} (nc : Nat) (R : List (List (Nat × Rat))) (Q : List (List β))
    (hQ : Q.map List.length = R.map List.length) (lines : List Nat) (hl : ∀ i ∈ lines, i < R.length) :
    (ofRows nc R).lineIdx lines = lines.flatMap (linePos Q) := by
  rw [lineIdx_eq]
  apply Common.flatMap_congr
  intro i hi
  have h0 : (ofRows nc R).indptr.getD i 0 = (R.take i).flatten.length :=
    (getD_ptrsFrom R 0 i (Nat.le_of_lt (hl i hi))).trans (Nat.zero_add _)
  rw [linePos_congr Q R hQ, linePos, ptr_diff_ofRows nc R i (hl i hi), h0]

theorem gather_linePos {β} [Inhabited β] (Q : List (List β)) (i : Nat) (hi : i < Q.length) :
    gather Q.flatten (linePos Q i) = Q.getD i [] := by
  have h := flatten_split Q i hi
  rw [linePos, gather_range' _ _ _ (by rw [h, List.length_append, List.length_append]; exact Nat.le_add_right _ _),
    h, List.append_assoc, List.drop_left, List.take_left]

/-- what fancy indexing with the expanded line positions picks out of a storage array -/
theorem gather_lineIdx_ofRows {γ} [Inhabited γ] (nc : Nat) (R : List (List (Nat × Rat))) (f : Nat × Rat → γ)
    (lines : List Nat) (hl : ∀ i ∈ lines, i < R.length) :
    gather (R.flatten.map f) ((ofRows nc R).lineIdx lines) = ((lines.map (fun i => R.getD i [])).flatten).map f := by
  rw [lineIdx_ofRows nc R (R.map (List.map f)) (by simp [List.map_map, Function.comp_def]) lines hl, List.map_flatten,
    gather_flatMap, List.map_flatten, List.map_map, List.flatMap_def]
  refine congrArg List.flatten (List.map_congr_left (fun i hi => ?_))
  rw [gather_linePos _ i (by rw [List.length_map]; exact hl i hi)]
  exact Common.getD_map (List.map f) R i []

theorem sliceLines_ofRows (nc : Nat) (R : List (List (Nat × Rat))) (lines : List Nat)
    (hl : ∀ i ∈ lines, i < R.length) :
    sliceLines (ofRows nc R) lines = ofRows nc (lines.map (fun i => R.getD i [])) := by
  have hd : List.zipWith (· - ·) ((ofRows nc R).ptrHi lines) ((ofRows nc R).ptrLo lines)
      = (lines.map (fun i => R.getD i [])).map (fun r => (r.length : Int)) := by
    rw [removed_ofRows nc R lines hl, List.map_map]; rfl
  have h1 := gather_lineIdx_ofRows nc R (·.1) lines hl
  have h2 := gather_lineIdx_ofRows nc R (·.2) lines hl
  simp only [sliceLines, hd]
  simp only [ofRows] at h1 h2 ⊢
  rw [h1, h2]
  simp only [List.length_map, List.map_cons, cumsum]
  have := cumsumFrom_lengths (lines.map (fun i => R.getD i [])) 0
  simp only [Int.natCast_zero] at this
  rw [this, Int.toNat_zero, ← ptrsFrom_eq_cons]

theorem sliceIndices_ofRows (nc : Nat) (R : List (List (Nat × Rat))) (lines : List Nat)
    (hl : ∀ i ∈ lines, i < R.length) :
    (sliceIndices (ofRows nc R) lines).1 = ((lines.map (fun i => R.getD i [])).flatten).map (·.1) := by
  have h1 := gather_lineIdx_ofRows nc R (·.1) lines hl
  simp only [sliceIndices]
  simp only [ofRows] at h1 ⊢
  exact h1

theorem getD_map_denseRow (nc : Nat) (R : List (List (Nat × Rat))) (i : Nat) (hi : i < R.length) :
    (R.map (denseRow nc)).getD i (List.replicate nc 0) = denseRow nc (R.getD i []) := by
  simp [List.getD_eq_getElem?_getD, hi]

/-- `R[l] = f R[l]` for the given lines, one after the other: the shape of every in-place update of
    whole lines, on entry lists and on dense rows alike -/
def mapLines {β} (f : List β → List β) (R : List (List β)) : List Nat → List (List β)
  | [] => R
  | l :: ls => mapLines f (R.set l (f (R.getD l []))) ls

/-- an update of entry lists is an update of their images under `g` -/
theorem mapLines_map {β γ} (g : List β → List γ) (f : List β → List β) (f' : List γ → List γ)
    (h : ∀ r, g (f r) = f' (g r)) (lines : List Nat) (R : List (List β)) (hl : ∀ i ∈ lines, i < R.length) :
    (mapLines f R lines).map g = mapLines f' (R.map g) lines := by
  induction lines generalizing R with
  | nil => rfl
  | cons l lines ih =>
    have e : (R.map g).getD l [] = g (R.getD l []) := by
      simp [List.getD_eq_getElem?_getD, hl l List.mem_cons_self]
    rw [mapLines, mapLines, ih _ (by intro i hi; rw [List.length_set]; exact hl i (List.mem_cons_of_mem _ hi)),
      List.map_set, e, h]

theorem mapLines_id {β} (lines : List Nat) (R : List (List β)) (hl : ∀ i ∈ lines, i < R.length) :
    mapLines id R lines = R := by
  induction lines with
  | nil => rfl
  | cons l lines ih =>
    have h := hl l List.mem_cons_self
    rw [mapLines, id, List.getD_eq_getElem?_getD, List.getElem?_eq_getElem h, Option.getD_some,
      List.set_getElem_self, ih (fun i hi => hl i (List.mem_cons_of_mem _ hi))]

/-- `R[l] = [v, …, v]` -/
abbrev setLines {β} (v : β) : List (List β) → List Nat → List (List β) :=
  mapLines (fun r => List.replicate r.length v)

theorem scatterConst_lines {β} (v : β) : ∀ (lines : List Nat) (R : List (List β)), (∀ i ∈ lines, i < R.length) →
    scatterConst R.flatten (lines.flatMap (linePos R)) v = (setLines v R lines).flatten := by
  intro lines
  induction lines with
  | nil => intro R _; rfl
  | cons l lines ih =>
    intro R hl
    have hl0 : l < R.length := hl l List.mem_cons_self
    rw [List.flatMap_cons, scatterConst_append_idx]
    show _ = (setLines v (R.set l (List.replicate (R.getD l []).length v)) lines).flatten
    have h1 : scatterConst R.flatten (linePos R l) v
        = (R.set l (List.replicate (R.getD l []).length v)).flatten := by
      rw [flatten_set _ _ _ hl0]
      conv => lhs; rw [flatten_split R l hl0]
      exact scatterConst_range' v _ _ _
    rw [h1]
    have hlen : (R.set l (List.replicate (R.getD l []).length v)).map List.length = R.map List.length := by
      rw [List.map_set, List.length_replicate]
      apply List.ext_getElem
      · simp
      · intro k h1 h2
        simp only [List.getElem_set, List.getElem_map]
        split
        · next h => subst h; simp [List.getD_eq_getElem?_getD, List.getElem?_eq_getElem hl0]
        · rfl
    have hpos : lines.flatMap (linePos R) = lines.flatMap (linePos (R.set l (List.replicate (R.getD l []).length v))) := by
      apply Common.flatMap_congr
      intro i _
      exact (linePos_congr _ _ hlen i).symm
    rw [hpos]
    apply ih
    intro i hi
    rw [List.length_set]
    exact hl i (List.mem_cons_of_mem _ hi)

/-- rows with the values of the given lines zeroed (structure kept) -/
abbrev zeroRowsR : List (List (Nat × Rat)) → List Nat → List (List (Nat × Rat)) :=
  mapLines (List.map (fun e => (e.1, (0 : Rat))))

theorem zeroRowsR_fst (R : List (List (Nat × Rat))) (lines : List Nat) (hl : ∀ i ∈ lines, i < R.length) :
    (zeroRowsR R lines).map (List.map (·.1)) = R.map (List.map (·.1)) := by
  rw [mapLines_map (List.map (·.1)) _ id (fun r => by rw [List.map_map]; rfl) lines R hl,
    mapLines_id lines _ (by simpa using hl)]

theorem zeroRowsR_snd (R : List (List (Nat × Rat))) (lines : List Nat) (hl : ∀ i ∈ lines, i < R.length) :
    (zeroRowsR R lines).map (List.map (·.2)) = setLines 0 (R.map (List.map (·.2))) lines := by
  refine mapLines_map (List.map (·.2)) _ _ (fun r => ?_) lines R hl
  rw [List.map_map, List.eq_replicate_iff]
  refine ⟨by simp, fun b hb => ?_⟩
  obtain ⟨e, _, rfl⟩ := List.mem_map.mp hb
  rfl

theorem zeroLines_ofRows (nc : Nat) (R : List (List (Nat × Rat))) (lines : List Nat)
    (hl : ∀ i ∈ lines, i < R.length) : zeroLines (ofRows nc R) lines = ofRows nc (zeroRowsR R lines) := by
  have hlen : (zeroRowsR R lines).map List.length = R.map List.length := by
    have := congrArg (List.map List.length) (zeroRowsR_fst R lines hl)
    simpa [List.map_map, Function.comp_def] using this
  have hidx := lineIdx_ofRows nc R (R.map (List.map (·.2))) (by simp [List.map_map, Function.comp_def]) lines hl
  have hsc := scatterConst_lines (0 : Rat) lines (R.map (List.map (·.2))) (by simpa using hl)
  simp only [zeroLines]
  rw [hidx]
  simp only [ofRows, List.map_flatten] at hsc ⊢
  rw [hsc, ← zeroRowsR_snd R lines hl, ← zeroRowsR_fst R lines hl, ptrsFrom_congr 0 _ _ hlen]
  have : (zeroRowsR R lines).length = R.length := by
    have := congrArg List.length hlen
    simpa using this
  rw [this]

theorem entrySum_zero_vals (j : Nat) (es : List (Nat × Rat)) :
    entrySum j (es.map (fun e => (e.1, (0 : Rat)))) = 0 := by
  induction es with
  | nil => rfl
  | cons e es ih => simp only [List.map_cons, entrySum, ite_self]; rw [ih]; exact Rat.add_zero 0

theorem zeroRowsDense_eq (M : List (List Rat)) (lines : List Nat) :
    zeroRowsDense M lines = mapLines (List.map (fun _ => 0)) M lines := by
  induction lines generalizing M with
  | nil => rfl
  | cons l lines ih => exact ih _

theorem zeroRowsR_dense (nc : Nat) (R : List (List (Nat × Rat))) (lines : List Nat)
    (hl : ∀ i ∈ lines, i < R.length) :
    (zeroRowsR R lines).map (denseRow nc) = zeroRowsDense (R.map (denseRow nc)) lines := by
  rw [zeroRowsDense_eq]
  refine mapLines_map (denseRow nc) _ _ (fun es => ?_) lines R hl
  simp only [denseRow, List.map_map]
  exact List.map_congr_left (fun j _ => entrySum_zero_vals j es)

end PorepyVerif.C35
