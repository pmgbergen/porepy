/-
C26 — 1-D overlaps: `ovl` as `max 0 (min hi - max lo)`, its additivity over adjacent intervals, the sum over the cells of a
chain (`chain_sum`) and of a tessellation in any order (`tess_sum`); the sorted chain that `isTess` accepts is a tessellation.
-/
import PorepyVerif.C26.Lemmas
import PorepyVerif.Common.InsSort

namespace PorepyVerif.C26

/-- `rmax`, `rmin` are the lattice operations, so the order lemmas of `max` / `min` apply -/
theorem rmax_eq_max (a b : Rat) : rmax a b = max a b := (max_def a b).symm
theorem rmin_eq_min (a b : Rat) : rmin a b = min a b := (min_def a b).symm

theorem ovl_eq (p q : Cell) : ovl p q = max 0 (min p.2 q.2 - max p.1 q.1) := by
  rw [ovl, rmax_eq_max, rmin_eq_min, rmax_eq_max]

theorem ovl_comm (p q : Cell) : ovl p q = ovl q p := by
  rw [ovl_eq, ovl_eq, min_comm, max_comm p.1]

theorem ovl_nonneg (p q : Cell) : 0 ≤ ovl p q := by
  rw [ovl_eq]; exact le_max_left _ _

/-- the overlap with two adjacent intervals adds up to the overlap with their union -/
theorem ovl_add (p : Cell) (a b c : Rat) (hp : p.1 ≤ p.2) (hab : a ≤ b) (hbc : b ≤ c) :
    ovl p (a, b) + ovl p (b, c) = ovl p (a, c) := by
  simp only [ovl_eq]
  rcases le_total b p.1 with h | h
  · -- `[a, b]` lies left of `p`
    rw [max_eq_left h, max_eq_left (hab.trans h), min_eq_right (h.trans hp),
      max_eq_left (sub_nonpos.mpr h), zero_add]
  · rcases le_total p.2 b with h' | h'
    · -- `[b, c]` lies right of `p`
      rw [min_eq_left h', min_eq_left (h'.trans hbc), max_eq_right h,
        max_eq_left (sub_nonpos.mpr h'), add_zero]
    · -- `b` inside `p`: both overlaps are differences, and they telescope
      have h1 : max p.1 a ≤ b := max_le h hab
      have h2 : b ≤ min p.2 c := le_min h' hbc
      rw [min_eq_right h', max_eq_right h, max_eq_right (sub_nonneg.mpr h1),
        max_eq_right (sub_nonneg.mpr h2), max_eq_right (sub_nonneg.mpr (h1.trans h2))]
      ring

theorem ovl_degenerate (p : Cell) (a : Rat) : ovl p (a, a) = 0 := by
  rw [ovl_eq, max_eq_left (sub_nonpos.mpr ((min_le_right _ _).trans (le_max_right _ _)))]

theorem ovl_inside (p : Cell) (a c : Rat) (hp : p.1 ≤ p.2) (ha : a ≤ p.1) (hc : p.2 ≤ c) :
    ovl p (a, c) = len p := by
  rw [ovl_eq, min_eq_left hc, max_eq_left ha, max_eq_right (sub_nonneg.mpr hp), len]

theorem le_lastOr : ∀ (xs : List Rat) (a : Rat), StrictSorted (a :: xs) → a ≤ lastOr a xs
  | [], a, _ => le_refl a
  | b :: t, _, h => le_trans (le_of_lt h.1) (le_lastOr t b h.2)

/-- the overlaps of `p` with the cells of a chain add up to the overlap with the whole segment -/
theorem chain_sum (p : Cell) (hp : p.1 ≤ p.2) : ∀ (xs : List Rat) (a : Rat), StrictSorted (a :: xs) →
    sumL ((chainCells (a :: xs)).map (ovl p)) = ovl p (a, lastOr a xs)
  | [], a, _ => by simp [chainCells, sumL, lastOr, ovl_degenerate p a]
  | b :: t, a, h => by
    have ih := chain_sum p hp t b h.2
    have h1 : a < b := h.1
    have h2 := le_lastOr t b h.2
    simp only [chainCells, List.map_cons, sumL, lastOr, ih]
    exact ovl_add p a b (lastOr b t) hp (le_of_lt h1) h2

theorem chain_mem_bounds : ∀ (xs : List Rat) (a : Rat), StrictSorted (a :: xs) →
    ∀ q ∈ chainCells (a :: xs), a ≤ q.1 ∧ q.1 < q.2 ∧ q.2 ≤ lastOr a xs
  | [], a, _, q, hq => by simp [chainCells] at hq
  | b :: t, a, h, q, hq => by
    have h1 : a < b := h.1
    have h2 := le_lastOr t b h.2
    simp only [chainCells, List.mem_cons] at hq
    rcases hq with rfl | hq
    · exact ⟨le_refl _, h1, h2⟩
    · have := chain_mem_bounds t b h.2 q hq
      simp only [lastOr]
      exact ⟨le_trans (le_of_lt h1) this.1, this.2.1, this.2.2⟩

theorem cellAt_mem (l : List Cell) (i : Nat) (hi : i < l.length) : cellAt l i ∈ l := getD_mem l _ i hi

theorem tess_cell_bounds {cells : List Cell} {a : Rat} {xs : List Rat} (h : Tessellates cells a xs) (i : Nat)
    (hi : i < cells.length) :
    a ≤ (cellAt cells i).1 ∧ (cellAt cells i).1 < (cellAt cells i).2 ∧ (cellAt cells i).2 ≤ lastOr a xs :=
  chain_mem_bounds xs a h.2 _ (h.1.mem_iff.mp (cellAt_mem cells i hi))

/-- Σ_j overlap(p, old_j) = |p| for a cell `p` inside the segment tessellated by `old` -/
theorem tess_sum (oldC : List Cell) (a : Rat) (ys : List Rat) (hold : Tessellates oldC a ys)
    (p : Cell) (hp : p.1 ≤ p.2) (ha : a ≤ p.1) (hb : p.2 ≤ lastOr a ys) :
    sumTo oldC.length (fun j => ovl p (cellAt oldC j)) = len p := by
  unfold cellAt
  rw [sumTo_getD oldC (0, 0) (ovl p), sumL_perm (hold.1.map (ovl p)), chain_sum p hp ys a hold.2,
    ovl_inside p a _ hp ha hb]

theorem chain_length : ∀ (xs : List Rat) (a : Rat), (chainCells (a :: xs)).length = xs.length
  | [], _ => rfl
  | b :: t, a => by simp only [chainCells, List.length_cons, chain_length t b]

theorem tess_length {cells : List Cell} {a : Rat} {xs : List Rat} (h : Tessellates cells a xs) :
    cells.length = xs.length := by rw [h.1.length_eq, chain_length]

theorem lt_lastOr (a y : Rat) (t : List Rat) (h : StrictSorted (a :: y :: t)) : a < lastOr a (y :: t) :=
  lt_of_lt_of_le h.1 (le_lastOr t y h.2)

theorem tess_nil_of_nil {o n : List Cell} {a : Rat} {xs ys : List Rat} (ho : Tessellates o a xs)
    (hn : Tessellates n a ys) (hend : lastOr a xs = lastOr a ys) (h : o = []) : n = [] := by
  have hx : xs = [] := List.eq_nil_of_length_eq_zero (by rw [← tess_length ho, h]; rfl)
  subst hx
  cases ys with
  | nil => exact List.eq_nil_of_length_eq_zero (by rw [tess_length hn]; rfl)
  | cons y t =>
    have := lt_lastOr a y t hn.2
    rw [← hend] at this
    exact absurd this (lt_irrefl a)

/-- two tessellations of the same segment are empty together -/
theorem tess_empty_iff {o n : List Cell} {a : Rat} {xs ys : List Rat} (ho : Tessellates o a xs)
    (hn : Tessellates n a ys) (hend : lastOr a xs = lastOr a ys) : o = [] ↔ n = [] :=
  ⟨tess_nil_of_nil ho hn hend, tess_nil_of_nil hn ho hend.symm⟩

/-- the two cell lists tessellate one common segment (what `tessPair` decides: `tessPair_sound`) -/
def SameSegment (n o : List Cell) : Prop :=
  ∃ a xs ys, Tessellates n a xs ∧ Tessellates o a ys ∧ lastOr a xs = lastOr a ys

theorem insSortCells : Common.InsSort (fun a b : Cell => a.1 ≤ b.1) insertCell sortCells :=
  .of_ite Rat.le_trans (fun h => Rat.le_of_lt (Rat.not_le.1 h)) (fun _ => rfl) (fun _ _ _ => rfl) rfl (fun _ _ => rfl)

theorem sortCells_perm : ∀ l : List Cell, (sortCells l).Perm l :=
  insSortCells.perm

theorem lastOr_map_hi : ∀ (t : List Cell) (c : Cell) (a : Rat), lastOr a ((c :: t).map (·.2)) = lastHi c t
  | [], c, a => rfl
  | b :: t, c, a => by
    simp only [List.map_cons, lastOr, lastHi]
    exact lastOr_map_hi t b c.2

theorem chainOK_sound : ∀ (t : List Cell) (c : Cell), chainOK (c :: t) = true →
    (c :: t) = chainCells (c.1 :: (c :: t).map (·.2)) ∧ StrictSorted (c.1 :: (c :: t).map (·.2))
  | [], c, h => by
    simp only [chainOK, decide_eq_true_eq] at h
    exact ⟨rfl, h, trivial⟩
  | b :: t, c, h => by
    simp only [chainOK, Bool.and_eq_true, decide_eq_true_eq] at h
    obtain ⟨⟨h1, h2⟩, h3⟩ := h
    obtain ⟨e, s⟩ := chainOK_sound t b h3
    constructor
    · have : chainCells (c.1 :: (c :: b :: t).map (·.2)) =
          (c.1, c.2) :: chainCells (c.2 :: (b :: t).map (·.2)) := rfl
      rw [this, h2, ← e, ← h2]
    · refine ⟨h1, ?_⟩
      simp only [List.map_cons] at s ⊢
      rw [h2]; exact s

/-- a non-empty list that passes `isTess` tessellates the segment that `segOf` reports -/
theorem isTess_sound (n : List Cell) (h : isTess n = true) (hne : n ≠ []) :
    ∃ c t, sortCells n = c :: t ∧ Tessellates n c.1 ((c :: t).map (·.2)) := by
  have pn := sortCells_perm n
  rw [isTess] at h
  cases hs : sortCells n with
  | nil => rw [hs] at pn; exact absurd pn.symm.eq_nil hne
  | cons c t =>
    rw [hs] at h pn
    obtain ⟨e, s⟩ := chainOK_sound t c h
    exact ⟨c, t, rfl, by rw [← e]; exact pn.symm, s⟩

end PorepyVerif.C26
