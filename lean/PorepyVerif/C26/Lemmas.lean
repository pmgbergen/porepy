/-
C26 — finite sums, entries of tabulated matrices, row / column sums of products, sums and transposes, products of stacked and
block-diagonal matrices, 0/1 tables of an index function (identity, selection matrices), shapes and zero patterns of the face
matrices, blocks of `A ⊗ I`.
-/
import PorepyVerif.C26.Model
import PorepyVerif.Common.List
import PorepyVerif.Common.Sum
import Mathlib.Tactic.Linarith
import Mathlib.Tactic.Ring

namespace PorepyVerif.C26

theorem sumTo_eq (n : Nat) (f : Nat → Rat) : sumTo n f = ((List.range n).map f).sum := by
  induction n with
  | zero => rfl
  | succ n ih => rw [Common.sum_range_succ, ← ih, sumTo]

theorem sumTo_congr (n : Nat) (f g : Nat → Rat) (h : ∀ i, i < n → f i = g i) :
    sumTo n f = sumTo n g := by
  rw [sumTo_eq, sumTo_eq]
  exact Common.sum_map_congr fun i hi => h i (List.mem_range.mp hi)

theorem sumTo_zero (n : Nat) : sumTo n (fun _ => 0) = 0 :=
  (sumTo_eq n _).trans (Common.sum_map_eq_zero fun _ _ => rfl)

theorem sumTo_eq_zero (n : Nat) (f : Nat → Rat) (h : ∀ i, i < n → f i = 0) : sumTo n f = 0 := by
  rw [sumTo_congr n f (fun _ => 0) h, sumTo_zero]

theorem sumTo_add (n : Nat) (f g : Nat → Rat) :
    sumTo n (fun i => f i + g i) = sumTo n f + sumTo n g := by
  simp only [sumTo_eq, Common.sum_map_add]

theorem sumTo_mul_left (n : Nat) (a : Rat) (f : Nat → Rat) :
    sumTo n (fun i => a * f i) = a * sumTo n f := by
  simp only [sumTo_eq, Common.sum_map_mul_left]

theorem sumTo_mul_right (n : Nat) (a : Rat) (f : Nat → Rat) :
    sumTo n (fun i => f i * a) = sumTo n f * a := by
  simp only [sumTo_eq, Common.sum_map_mul_right]

theorem sumTo_div_eq_one (n : Nat) (f : Nat → Rat) (d : Rat) (hs : sumTo n f = d) (hd : d ≠ 0) :
    sumTo n (fun i => f i / d) = 1 := by
  simp only [div_eq_mul_inv]
  rw [sumTo_mul_right, hs, mul_inv_cancel₀ hd]

/-- factors that are one wherever the weight is non-zero do not change a weighted sum -/
theorem sumTo_mul_eq (n : Nat) (a b : Nat → Rat) (h : ∀ k, k < n → a k ≠ 0 → b k = 1) :
    sumTo n (fun k => a k * b k) = sumTo n a :=
  sumTo_congr n _ _ fun k hk => by
    by_cases h0 : a k = 0
    · rw [h0, zero_mul]
    · rw [h k hk h0, mul_one]

theorem sumTo_comm (n m : Nat) (f : Nat → Nat → Rat) :
    sumTo n (fun i => sumTo m (fun j => f i j)) = sumTo m (fun j => sumTo n (fun i => f i j)) := by
  simp only [sumTo_eq]
  exact Common.sum_map_comm _ _ f

theorem sumTo_nonneg (n : Nat) (f : Nat → Rat) (h : ∀ i, i < n → 0 ≤ f i) : 0 ≤ sumTo n f := by
  rw [sumTo_eq]
  exact Common.sum_map_nonneg fun i hi => h i (List.mem_range.mp hi)

theorem sumTo_single (n k : Nat) (hk : k < n) (f : Nat → Rat) (h : ∀ i, i < n → i ≠ k → f i = 0) :
    sumTo n f = f k := by
  rw [sumTo_eq]
  exact Common.sum_map_single List.nodup_range (List.mem_range.mpr hk) fun i hi => h i (List.mem_range.mp hi)

theorem sumTo_split (n m : Nat) (f : Nat → Rat) :
    sumTo (n + m) f = sumTo n f + sumTo m (fun i => f (n + i)) := by
  rw [sumTo_eq, sumTo_eq, sumTo_eq, List.range_add, List.map_append, List.sum_append, List.map_map]
  rfl

theorem ent_table' (r c : Nat) (f : Nat → Nat → Rat) (i j : Nat) :
    (table r c f).ent i j = if i < r ∧ j < c then f i j else 0 := by
  unfold Mat.ent table
  by_cases hi : i < r
  · by_cases hj : j < c <;> simp [hi, hj]
  · simp [hi]

theorem ent_table (r c : Nat) (f : Nat → Nat → Rat) (i j : Nat) (hi : i < r) (hj : j < c) :
    (table r c f).ent i j = f i j :=
  (ent_table' r c f i j).trans (if_pos ⟨hi, hj⟩)

theorem ent_table_eq_zero (r c : Nat) (f : Nat → Nat → Rat) (i j : Nat) (h : i < r → j < c → f i j = 0) :
    (table r c f).ent i j = 0 := by
  rw [ent_table']
  split
  · rename_i hij
    exact h hij.1 hij.2
  · rfl

@[simp] theorem table_r (r c : Nat) (f : Nat → Nat → Rat) : (table r c f).r = r := rfl
@[simp] theorem table_c (r c : Nat) (f : Nat → Nat → Rat) : (table r c f).c = c := rfl

theorem table_congr (r c : Nat) (f g : Nat → Nat → Rat) (h : ∀ i j, i < r → j < c → f i j = g i j) :
    table r c f = table r c g := by
  unfold table
  congr 1
  apply List.map_congr_left
  intro i hi
  apply List.map_congr_left
  intro j hj
  exact h i j (List.mem_range.mp hi) (List.mem_range.mp hj)

theorem rowSum_table (r c : Nat) (f : Nat → Nat → Rat) (i : Nat) (hi : i < r) :
    (table r c f).rowSum i = sumTo c (f i) :=
  sumTo_congr _ _ _ (fun j hj => ent_table r c f i j hi hj)

theorem colSum_table (r c : Nat) (f : Nat → Nat → Rat) (j : Nat) (hj : j < c) :
    (table r c f).colSum j = sumTo r (fun i => f i j) :=
  sumTo_congr _ _ _ (fun i hi => ent_table r c f i j hi hj)

theorem sumTo_ite_eq (n k : Nat) (hk : k < n) (v : Rat) : sumTo n (fun j => if k = j then v else 0) = v := by
  rw [sumTo_single n k hk _ (fun j _ hne => if_neg (fun h => hne h.symm)), if_pos rfl]

theorem indTable_rowSum (n m : Nat) (f : Nat → Nat) (i : Nat) (hi : i < n) (hf : f i < m) :
    (table n m fun i j => if f i = j then 1 else 0).rowSum i = 1 := by
  rw [rowSum_table _ _ _ i hi, sumTo_ite_eq m (f i) hf]

/-- column `j` sums to one if exactly one row `i₀` points to it -/
theorem indTable_colSum (n m : Nat) (f : Nat → Nat) (j i0 : Nat) (hj : j < m) (hi0 : i0 < n) (e0 : f i0 = j)
    (hinj : ∀ i, i < n → f i = j → i = i0) :
    (table n m fun i j => if f i = j then 1 else 0).colSum j = 1 := by
  rw [colSum_table _ _ _ j hj, sumTo_single n i0 hi0 _ (fun i hi hne => if_neg (fun h => hne (hinj i hi h))),
    if_pos e0]

theorem indTable_ent_zero (n m : Nat) (f : Nat → Nat) (i j : Nat) (h : ∀ k, k < n → f k ≠ j) :
    (table n m fun i j => if f i = j then 1 else 0).ent i j = 0 :=
  ent_table_eq_zero _ _ _ i j fun hi _ => if_neg (h i hi)

@[simp] theorem mul_r (A B : Mat) : (A.mul B).r = A.r := rfl
@[simp] theorem mul_c (A B : Mat) : (A.mul B).c = B.c := rfl
@[simp] theorem T_r (A : Mat) : A.T.r = A.c := rfl
@[simp] theorem T_c (A : Mat) : A.T.c = A.r := rfl

theorem ent_mul (A B : Mat) (i j : Nat) (hi : i < A.r) (hj : j < B.c) :
    (A.mul B).ent i j = sumTo A.c (fun k => A.ent i k * B.ent k j) := ent_table _ _ _ i j hi hj

theorem ent_T (A : Mat) (i j : Nat) (hi : i < A.c) (hj : j < A.r) : A.T.ent i j = A.ent j i :=
  ent_table _ _ _ i j hi hj

theorem ent_T_zero (A : Mat) (i j : Nat) (h : A.ent j i = 0) : A.T.ent i j = 0 :=
  ent_table_eq_zero _ _ _ i j fun _ _ => h

theorem rowSum_mul (A B : Mat) (i : Nat) (hi : i < A.r) :
    (A.mul B).rowSum i = sumTo A.c (fun k => A.ent i k * B.rowSum k) := by
  rw [Mat.mul, rowSum_table _ _ _ i hi, sumTo_comm]
  exact sumTo_congr _ _ _ fun k _ => sumTo_mul_left _ _ _

theorem colSum_mul (A B : Mat) (j : Nat) (hj : j < B.c) :
    (A.mul B).colSum j = sumTo A.c (fun k => A.colSum k * B.ent k j) := by
  rw [Mat.mul, colSum_table _ _ _ j hj, sumTo_comm]
  exact sumTo_congr _ _ _ fun k _ => sumTo_mul_right _ _ _

/-- multiplying on the right by a matrix whose reached rows sum to one keeps a row sum -/
theorem rowSum_mul_of_rowSum_one (A B : Mat) (i : Nat) (hi : i < A.r)
    (hB : ∀ k, k < A.c → A.ent i k ≠ 0 → B.rowSum k = 1) : (A.mul B).rowSum i = A.rowSum i := by
  rw [rowSum_mul A B i hi]
  exact sumTo_mul_eq _ _ _ hB

/-- multiplying on the left by a matrix whose reached columns sum to one keeps a column sum -/
theorem colSum_mul_of_colSum_one (A B : Mat) (j : Nat) (hj : j < B.c) (hdim : A.c = B.r)
    (hA : ∀ k, k < A.c → B.ent k j ≠ 0 → A.colSum k = 1) : (A.mul B).colSum j = B.colSum j := by
  rw [colSum_mul A B j hj, Mat.colSum, ← hdim]
  exact (sumTo_congr _ _ _ fun k _ => mul_comm _ _).trans (sumTo_mul_eq _ _ _ hA)

theorem rowSum_T (A : Mat) (i : Nat) (hi : i < A.c) : A.T.rowSum i = A.colSum i := rowSum_table _ _ _ i hi

theorem colSum_T (A : Mat) (j : Nat) (hj : j < A.r) : A.T.colSum j = A.rowSum j := colSum_table _ _ _ j hj

def sumL : List Rat → Rat
  | [] => 0
  | a :: l => a + sumL l

theorem sumL_eq (l : List Rat) : sumL l = l.sum := by
  induction l with
  | nil => rfl
  | cons a l ih => rw [sumL, ih, List.sum_cons]

theorem sumL_perm {l₁ l₂ : List Rat} (h : l₁.Perm l₂) : sumL l₁ = sumL l₂ := by
  rw [sumL_eq, sumL_eq, Common.sum_perm h]

theorem sumTo_getD {α : Type} (l : List α) (d : α) (g : α → Rat) :
    sumTo l.length (fun j => g (l.getD j d)) = sumL (l.map g) := by
  rw [sumTo_eq, sumL_eq, Common.map_eq_map_range_getD g l d]

theorem strictSorted_tail {a : Rat} {xs : List Rat} (h : StrictSorted (a :: xs)) : StrictSorted xs := by
  cases xs with
  | nil => trivial
  | cons b t => exact h.2

theorem getD_mem {α : Type} (l : List α) (d : α) (i : Nat) (hi : i < l.length) : l.getD i d ∈ l :=
  Common.getD_mem d hi

theorem exists_getD_of_mem (l : List Nat) (d f : Nat) (h : f ∈ l) : ∃ a, a < l.length ∧ l.getD a d = f :=
  Common.exists_getD_of_mem d h

theorem exists_getD_of_mem' {α : Type} (l : List α) (d x : α) (h : x ∈ l) : ∃ a, a < l.length ∧ l.getD a d = x :=
  Common.exists_getD_of_mem d h

/-- positions with equal images under `f` coincide when the images are pairwise distinct -/
theorem getD_inj_of_map_nodup {α : Type} (f : α → Nat) (l : List α) (d : α) (h : (l.map f).Nodup) (i k : Nat)
    (hi : i < l.length) (hk : k < l.length) (e : f (l.getD i d) = f (l.getD k d)) : i = k := by
  have e' : (l.map f).getD i 0 = (l.map f).getD k 0 := by
    simpa [List.getD_eq_getElem?_getD, hi, hk] using e
  exact (List.getD_inj (by simpa using hi) (by simpa using hk) h).mp e'

@[simp] theorem vcat_r (A B : Mat) : (A.vcat B).r = A.r + B.r := rfl
@[simp] theorem vcat_c (A B : Mat) : (A.vcat B).c = A.c := rfl
@[simp] theorem diag2_r (A B : Mat) : (A.diag2 B).r = A.r + B.r := rfl
@[simp] theorem diag2_c (A B : Mat) : (A.diag2 B).c = A.c + B.c := rfl

theorem ent_vcat_top (A B : Mat) (i j : Nat) (hi : i < A.r) (hj : j < A.c) : (A.vcat B).ent i j = A.ent i j := by
  rw [Mat.vcat, ent_table _ _ _ i j (Nat.lt_add_right _ hi) hj, if_pos hi]

theorem ent_vcat_bot (A B : Mat) (i j : Nat) (hi : i < B.r) (hj : j < A.c) :
    (A.vcat B).ent (A.r + i) j = B.ent i j := by
  rw [Mat.vcat, ent_table _ _ _ _ j (Nat.add_lt_add_left hi _) hj, if_neg (Nat.not_lt.mpr (Nat.le_add_right _ _)),
    Nat.add_sub_cancel_left]

theorem ent_diag2_tl (A B : Mat) (i j : Nat) (hi : i < A.r) (hj : j < A.c) : (A.diag2 B).ent i j = A.ent i j := by
  rw [Mat.diag2, ent_table _ _ _ i j (Nat.lt_add_right _ hi) (Nat.lt_add_right _ hj), if_pos hi, if_pos hj]

theorem ent_diag2_tr (A B : Mat) (i j : Nat) (hi : i < A.r) (hj : j < B.c) : (A.diag2 B).ent i (A.c + j) = 0 := by
  rw [Mat.diag2, ent_table _ _ _ i _ (Nat.lt_add_right _ hi) (Nat.add_lt_add_left hj _), if_pos hi,
    if_neg (Nat.not_lt.mpr (Nat.le_add_right _ _))]

theorem ent_diag2_bl (A B : Mat) (i j : Nat) (hi : i < B.r) (hj : j < A.c) : (A.diag2 B).ent (A.r + i) j = 0 := by
  rw [Mat.diag2, ent_table _ _ _ _ j (Nat.add_lt_add_left hi _) (Nat.lt_add_right _ hj),
    if_neg (Nat.not_lt.mpr (Nat.le_add_right _ _)), if_pos hj]

theorem ent_diag2_br (A B : Mat) (i j : Nat) (hi : i < B.r) (hj : j < B.c) :
    (A.diag2 B).ent (A.r + i) (A.c + j) = B.ent i j := by
  rw [Mat.diag2, ent_table _ _ _ _ _ (Nat.add_lt_add_left hi _) (Nat.add_lt_add_left hj _),
    if_neg (Nat.not_lt.mpr (Nat.le_add_right _ _)), if_neg (Nat.not_lt.mpr (Nat.le_add_right _ _)),
    Nat.add_sub_cancel_left, Nat.add_sub_cancel_left]

theorem table_split (n m c : Nat) (f : Nat → Nat → Rat) :
    table (n + m) c f = (table n c f).vcat (table m c fun i j => f (n + i) j) := by
  show table (n + m) c f = table (n + m) c _
  apply table_congr
  intro i j hi hj
  by_cases h : i < n
  · rw [if_pos (show i < (table n c f).r from h), ent_table _ _ _ i j h hj]
  · obtain ⟨k, rfl⟩ := Nat.exists_eq_add_of_le (Nat.le_of_not_lt h)
    rw [if_neg (show ¬ n + k < (table n c f).r from h), show n + k - (table n c f).r = n + k - n from rfl,
      Nat.add_sub_cancel_left, ent_table _ _ _ k j (Nat.lt_of_add_lt_add_left hi) hj]

/-- block-diagonal times stacked = stacked products: the sides do not mix (`update_mortar`) -/
theorem diag2_mul_vcat (A B S T : Mat) (h1 : A.c = S.r) (h2 : B.c = T.r) (h3 : S.c = T.c) :
    (A.diag2 B).mul (S.vcat T) = (A.mul S).vcat (B.mul T) := by
  show table (A.r + B.r) S.c _ = (table A.r S.c _).vcat (table B.r T.c _)
  rw [table_split, ← h3]
  congr 1 <;> apply table_congr
  · -- a row of `A`: the columns of `B` contribute nothing
    intro i j hi hj
    rw [diag2_c, sumTo_split,
      sumTo_eq_zero B.c _ (fun k hk => by rw [ent_diag2_tr A B i k hi hk, zero_mul]), add_zero]
    exact sumTo_congr _ _ _ (fun k hk => by
      rw [ent_diag2_tl A B i k hi hk, ent_vcat_top S T k j (h1 ▸ hk) hj])
  · intro i j hi hj
    rw [diag2_c, sumTo_split,
      sumTo_eq_zero A.c _ (fun k hk => by rw [ent_diag2_bl A B i k hi hk, zero_mul]), zero_add]
    exact sumTo_congr _ _ _ (fun k hk => by
      rw [ent_diag2_br A B i k hi hk, h1, ent_vcat_bot S T k j (h2 ▸ hk) hj])

/-- stacked times a matrix = stacked products (`update_primary`) -/
theorem vcat_mul (P Q S : Mat) (hc : P.c = Q.c) : (P.vcat Q).mul S = (P.mul S).vcat (Q.mul S) := by
  show table (P.r + Q.r) S.c _ = (table P.r S.c _).vcat (table Q.r S.c _)
  rw [table_split]
  congr 1 <;> apply table_congr
  · intro i j hi _
    exact sumTo_congr _ _ _ (fun k hk => by rw [ent_vcat_top P Q i k hi hk])
  · intro i j hi _
    show sumTo P.c _ = sumTo Q.c _
    rw [hc]
    exact sumTo_congr _ _ _ (fun k hk => by rw [ent_vcat_bot P Q i k hi (hc ▸ hk)])

theorem vstack_c {α : Type} (c : Nat) (g : α → Mat) : ∀ (l : List α), (∀ x ∈ l, (g x).c = c) → (vstack c (l.map g)).c = c
  | [], _ => rfl
  | x :: _, h => h x List.mem_cons_self

theorem blockDiag_c_eq_vstack_r {α : Type} (c : Nat) (f g : α → Mat) : ∀ (l : List α),
    (∀ x ∈ l, (f x).c = (g x).r) → (blockDiag (l.map f)).c = (vstack c (l.map g)).r
  | [], _ => rfl
  | x :: l, h => by
    show (f x).c + (blockDiag (l.map f)).c = (g x).r + (vstack c (l.map g)).r
    rw [h x List.mem_cons_self, blockDiag_c_eq_vstack_r c f g l (fun y hy => h y (List.mem_cons_of_mem _ hy))]

/-- `blockDiag` of the per-side matrices times the stack of per-side blocks is the stack of the
    per-side products -/
theorem blockDiag_mul_vstack {α : Type} (c : Nat) (f g : α → Mat) : ∀ (l : List α),
    (∀ x ∈ l, (f x).c = (g x).r ∧ (g x).c = c) →
    (blockDiag (l.map f)).mul (vstack c (l.map g)) = vstack c (l.map fun x => (f x).mul (g x))
  | [], _ => table_congr _ _ _ _ (fun i _ hi _ => absurd hi (Nat.not_lt_zero i))
  | x :: l, h => by
    have hl : ∀ y ∈ l, (f y).c = (g y).r ∧ (g y).c = c := fun y hy => h y (List.mem_cons_of_mem _ hy)
    show ((f x).diag2 (blockDiag (l.map f))).mul ((g x).vcat (vstack c (l.map g))) = ((f x).mul (g x)).vcat _
    rw [diag2_mul_vcat _ _ _ _ (h x List.mem_cons_self).1
        (blockDiag_c_eq_vstack_r c f g l (fun y hy => (hl y hy).1))
        ((h x List.mem_cons_self).2.trans (vstack_c c g l (fun y hy => (hl y hy).2)).symm),
      blockDiag_mul_vstack c f g l hl]

theorem vstack_mul {α : Type} (c : Nat) (S : Mat) (g : α → Mat) : ∀ (l : List α), (∀ x ∈ l, (g x).c = c) →
    (vstack c (l.map g)).mul S = vstack S.c (l.map fun x => (g x).mul S)
  | [], _ => table_congr _ _ _ _ (fun i _ hi _ => absurd hi (Nat.not_lt_zero i))
  | x :: l, h => by
    have hl : ∀ y ∈ l, (g y).c = c := fun y hy => h y (List.mem_cons_of_mem _ hy)
    show ((g x).vcat (vstack c (l.map g))).mul S = ((g x).mul S).vcat _
    rw [vcat_mul _ _ _ ((h x List.mem_cons_self).trans (vstack_c c g l hl).symm), vstack_mul c S g l hl]

theorem ent_mul' (A B : Mat) (i j : Nat) :
    (A.mul B).ent i j = if i < A.r ∧ j < B.c then sumTo A.c (fun k => A.ent i k * B.ent k j) else 0 :=
  ent_table' _ _ _ i j

theorem ent_mul_zero (A B : Mat) (i j : Nat) (h : ∀ k, k < A.c → A.ent i k = 0 ∨ B.ent k j = 0) :
    (A.mul B).ent i j = 0 :=
  ent_table_eq_zero _ _ _ i j fun _ _ => sumTo_eq_zero _ _ fun k hk =>
    (h k hk).elim (fun h0 => by rw [h0, zero_mul]) (fun h0 => by rw [h0, mul_zero])

theorem match1d_r (n o : List Cell) (s : Scaling) : (match1d n o s).r = n.length := by cases s <;> rfl
theorem match1d_c (n o : List Cell) (s : Scaling) : (match1d n o s).c = o.length := by cases s <;> rfl

theorem identity_rowSum (n i : Nat) (hi : i < n) : (Mat.identity n).rowSum i = 1 :=
  indTable_rowSum n n (fun i => i) i hi hi

theorem identity_colSum (n j : Nat) (hj : j < n) : (Mat.identity n).colSum j = 1 :=
  indTable_colSum n n (fun i => i) j j hj hj rfl (fun _ _ h => h)

@[simp] theorem selMat_r (idx : List Nat) (n : Nat) : (selMat idx n).r = idx.length := rfl
@[simp] theorem selMat_c (idx : List Nat) (n : Nat) : (selMat idx n).c = n := rfl

/-- every row of a selection matrix with indices in range holds a single one … -/
theorem selMat_rowSum (idx : List Nat) (n a : Nat) (ha : a < idx.length) (h : ∀ x ∈ idx, x < n) :
    (selMat idx n).rowSum a = 1 :=
  indTable_rowSum idx.length n (idx.getD · n) a ha (h _ (getD_mem idx n a ha))

/-- … and so does the column of every listed index, if none is listed twice -/
theorem selMat_colSum (idx : List Nat) (n g : Nat) (hN : idx.Nodup) (hg : g < n) (hmem : g ∈ idx) :
    (selMat idx n).colSum g = 1 := by
  obtain ⟨a0, h0, e0⟩ := exists_getD_of_mem idx n g hmem
  exact indTable_colSum idx.length n (idx.getD · n) g a0 hg h0 e0
    (fun a ha e => (List.getD_inj ha h0 hN).mp (e.trans e0.symm))

theorem selMat_ent_zero (idx : List Nat) (n a g : Nat) (h : g ∉ idx) : (selMat idx n).ent a g = 0 :=
  indTable_ent_zero idx.length n (idx.getD · n) a g (fun k hk e => h (e ▸ getD_mem idx n k hk))

def ind (p : Prop) [Decidable p] : Rat := if p then 1 else 0

/-- row sums of `face_map_old.T * M * face_map_new`, for any `M`: the rows of `face_map_new` sum to one -/
theorem scatter_rowSum (oi ni : List Nat) (nOld nNew : Nat) (M : Mat) (hMc : M.c = ni.length)
    (hni : ∀ b, b < ni.length → ni.getD b nNew < nNew) (f : Nat) (hf : f < nOld) :
    (((selMat oi nOld).T.mul M).mul (selMat ni nNew)).rowSum f =
      sumTo oi.length (fun a => ind (oi.getD a nOld = f) * M.rowSum a) := by
  rw [rowSum_mul_of_rowSum_one ((selMat oi nOld).T.mul M) (selMat ni nNew) f hf fun k hk _ =>
      indTable_rowSum ni.length nNew (ni.getD · nNew) k (hMc ▸ hk) (hni k (hMc ▸ hk)),
    rowSum_mul _ M f hf]
  exact sumTo_congr _ _ _ fun a ha => congrArg (· * _) ((ent_T _ f a hf ha).trans (ent_table _ _ _ a f ha hf))

/-- … and its column sums: the columns of `face_map_old.T` sum to one -/
theorem scatter_colSum (oi ni : List Nat) (nOld nNew : Nat) (M : Mat) (hMc : M.c = ni.length) (hMr : M.r = oi.length)
    (hoi : ∀ a, a < oi.length → oi.getD a nOld < nOld) (g : Nat) (hg : g < nNew) :
    (((selMat oi nOld).T.mul M).mul (selMat ni nNew)).colSum g =
      sumTo ni.length (fun b => ind (ni.getD b nNew = g) * M.colSum b) := by
  rw [colSum_mul _ (selMat ni nNew) g hg, mul_c, hMc]
  refine sumTo_congr _ _ _ fun b hb => ?_
  rw [colSum_mul_of_colSum_one (selMat oi nOld).T M b (hMc ▸ hb) hMr.symm fun a ha _ =>
      (colSum_T _ a ha).trans (indTable_rowSum oi.length nOld (oi.getD · nOld) a ha (hoi a ha)),
    mul_comm]
  exact congrArg (· * _) (ent_table _ _ _ b g hb hg)

@[simp] theorem add_r (A B : Mat) : (A.add B).r = A.r := rfl
@[simp] theorem add_c (A B : Mat) : (A.add B).c = A.c := rfl

theorem ent_add (A B : Mat) (i j : Nat) (hi : i < A.r) (hj : j < A.c) :
    (A.add B).ent i j = A.ent i j + B.ent i j := ent_table _ _ _ i j hi hj

theorem add_comm_of_shape (A B : Mat) (hr : B.r = A.r) (hc : B.c = A.c) : B.add A = A.add B := by
  show table B.r B.c _ = table A.r A.c _
  rw [hr, hc]
  exact table_congr _ _ _ _ (fun i j _ _ => add_comm _ _)

theorem rowSum_add (A B : Mat) (i : Nat) (hi : i < A.r) (hc : B.c = A.c) :
    (A.add B).rowSum i = A.rowSum i + B.rowSum i := by
  rw [Mat.add, rowSum_table _ _ _ i hi, sumTo_add, Mat.rowSum, Mat.rowSum, hc]

theorem colSum_add (A B : Mat) (j : Nat) (hj : j < A.c) (hr : B.r = A.r) :
    (A.add B).colSum j = A.colSum j + B.colSum j := by
  rw [Mat.add, colSum_table _ _ _ j hj, sumTo_add, Mat.colSum, Mat.colSum, hr]

theorem ent_add_zero (A B : Mat) (i j : Nat) (hA : A.ent i j = 0) (hB : B.ent i j = 0) :
    (A.add B).ent i j = 0 :=
  ent_table_eq_zero _ _ _ i j fun _ _ => by rw [hA, hB, add_zero]

theorem sideOrZero_r (nOld nNew : Nat) (o n : List FaceRec) (s : Scaling) : (sideOrZero nOld nNew o n s).r = nOld := by
  unfold sideOrZero; split <;> rfl
theorem sideOrZero_c (nOld nNew : Nat) (o n : List FaceRec) (s : Scaling) : (sideOrZero nOld nNew o n s).c = nNew := by
  unfold sideOrZero; split <;> rfl

theorem sideOrZero_eq (nOld nNew : Nat) (o n : List FaceRec) (s : Scaling) (ho : o ≠ []) (hn : n ≠ []) :
    sideOrZero nOld nNew o n s = sideFaceMatch nOld nNew o n s :=
  if_neg (by simp [List.isEmpty_iff, ho, hn])

/-- entries of one side's matrix vanish outside (its old faces) × (its new faces) -/
theorem sideOrZero_ent_zero (nOld nNew : Nat) (o n : List FaceRec) (s : Scaling) (f g : Nat)
    (h : f ∉ o.map (·.idx) ∨ g ∉ n.map (·.idx)) : (sideOrZero nOld nNew o n s).ent f g = 0 := by
  unfold sideOrZero
  split
  · exact ent_table_eq_zero _ _ _ f g fun _ _ => rfl
  · unfold sideFaceMatch
    rcases h with h | h
    · exact ent_mul_zero _ _ f g fun b _ => Or.inl (ent_mul_zero _ _ f b fun a _ =>
        Or.inl (ent_T_zero _ f a (selMat_ent_zero _ nOld a f h)))
    · exact ent_mul_zero _ _ f g fun b _ => Or.inr (selMat_ent_zero _ nNew b g h)

theorem rowSum_zero_of_ent (A : Mat) (f : Nat) (h : ∀ g, A.ent f g = 0) : A.rowSum f = 0 :=
  sumTo_eq_zero _ _ (fun g _ => h g)

theorem colSum_zero_of_ent (A : Mat) (g : Nat) (h : ∀ f, A.ent f g = 0) : A.colSum g = 0 :=
  sumTo_eq_zero _ _ (fun f _ => h f)

theorem mem_side_idx (l : List FaceRec) (b : Bool) (f : Nat) :
    f ∈ (l.filter (·.pos == b)).map (·.idx) ↔ ∃ r, r ∈ l ∧ r.pos = b ∧ r.idx = f := by
  simp only [List.mem_map, List.mem_filter, beq_iff_eq]
  constructor
  · rintro ⟨r, ⟨hr, hp⟩, e⟩; exact ⟨r, hr, hp, e⟩
  · rintro ⟨r, hr, hp, e⟩; exact ⟨r, ⟨hr, hp⟩, e⟩

theorem side_idx_lt (l : List FaceRec) (n : Nat) (h : ∀ r ∈ l, r.idx < n) (b : Bool) :
    ∀ x ∈ (l.filter (·.pos == b)).map (·.idx), x < n := by
  intro x hx
  obtain ⟨r, hr, _, e⟩ := (mem_side_idx l b x).mp hx
  exact e ▸ h r hr

theorem not_mem_other_side (l : List FaceRec) (hN : (l.map (·.idx)).Nodup) (b : Bool) (f : Nat)
    (h : f ∈ (l.filter (·.pos == b)).map (·.idx)) : f ∉ (l.filter (·.pos == !b)).map (·.idx) := by
  intro h'
  obtain ⟨r, hr, hp, e⟩ := (mem_side_idx l b f).mp h
  obtain ⟨r', hr', hp', e'⟩ := (mem_side_idx l (!b) f).mp h'
  obtain rfl := Common.eq_of_nodup_map hN hr hr' (e.trans e'.symm)
  rw [hp] at hp'
  cases b <;> simp at hp'

theorem nodup_side_idx (l : List FaceRec) (hN : (l.map (·.idx)).Nodup) (b : Bool) :
    ((l.filter (·.pos == b)).map (·.idx)).Nodup :=
  List.Nodup.sublist (List.Sublist.map _ List.filter_sublist) hN

theorem mortarBlocks_map (s : Scaling) : ∀ (l : List (Side × List Cell × Option (List Cell))),
    mortarBlocks s (l.map (·.2.1)) (l.map (·.2.2)) = l.map fun x => blockOf s x.2.1 x.2.2
  | [] => rfl
  | (_, _, some _) :: l => by simp only [List.map_cons, mortarBlocks, blockOf, mortarBlocks_map s l]
  | (_, _, none) :: l => by simp only [List.map_cons, mortarBlocks, blockOf, mortarBlocks_map s l]

theorem blockOf_c (s : Scaling) (g : List Cell) (o : Option (List Cell)) : (blockOf s g o).c = g.length := by
  cases o with
  | none => rfl
  | some n => exact match1d_c n g s

theorem faceMatch_c (P : Mat) (nNew : Nat) (old new : List FaceRec) (s : Scaling) :
    (faceMatch P nNew old new s).c = nNew := by
  unfold faceMatch
  simp only [add_c, sideOrZero_c]

theorem one_block_table (n c : Nat) (f : Nat → Nat → Rat) :
    table n c f = (table n c f).vcat (table 0 c fun _ _ => 0) :=
  table_split n 0 c f

theorem two_block_table (n c : Nat) (f : Nat → Nat → Rat) :
    table (n + n) c f =
      (table n c f).vcat ((table n c fun i j => f (n + i) j).vcat (table 0 c fun _ _ => 0)) := by
  rw [table_split, ← one_block_table]

theorem sumL_append (l₁ l₂ : List Rat) : sumL (l₁ ++ l₂) = sumL l₁ + sumL l₂ := by
  rw [sumL_eq, sumL_eq, sumL_eq, List.sum_append]

theorem sumL_map_mul_right {α : Type} (l : List α) (f : α → Rat) (c : Rat) :
    sumL (l.map fun x => f x * c) = sumL (l.map f) * c := by
  rw [sumL_eq, sumL_eq, Common.sum_map_mul_right]

theorem sumL_map_eq_zero {α : Type} (l : List α) (f : α → Rat) (h : ∀ x ∈ l, f x = 0) : sumL (l.map f) = 0 :=
  (sumL_eq _).trans (Common.sum_map_eq_zero h)

theorem sumTo_mul_blocks (nd : Nat) (g : Nat → Rat) : ∀ c : Nat,
    sumTo (c * nd) g = sumTo c (fun j => sumTo nd (fun b => g (j * nd + b)))
  | 0 => by simp [sumTo]
  | c + 1 => by
    rw [Nat.succ_mul, sumTo_split, sumTo_mul_blocks nd g c]
    simp only [sumTo]

theorem kron_block (A : Mat) (nd i j : Nat) (hi : i < A.r * nd) (hj : j < A.c) :
    sumTo nd (fun b => (A.kron nd).ent i (j * nd + b)) = A.ent (i / nd) j := by
  have hnd : 0 < nd := Nat.pos_of_ne_zero fun h => by rw [h] at hi; exact Nat.not_lt_zero _ hi
  refine (sumTo_congr nd _ _ fun b hb => ?_).trans (sumTo_ite_eq nd (i % nd) (Nat.mod_lt i hnd) (A.ent (i / nd) j))
  have hlt : j * nd + b < A.c * nd :=
    calc j * nd + b < j * nd + nd := Nat.add_lt_add_left hb _
      _ = (j + 1) * nd := (Nat.succ_mul j nd).symm
      _ ≤ A.c * nd := Nat.mul_le_mul_right nd hj
  have e1 : (j * nd + b) % nd = b := by rw [Nat.mul_comm, Nat.mul_add_mod]; exact Nat.mod_eq_of_lt hb
  have e2 : (j * nd + b) / nd = j := by rw [Nat.mul_comm, Nat.mul_add_div hnd, Nat.div_eq_of_lt hb]; rfl
  rw [Mat.kron, ent_table _ _ _ i _ hi hlt, e1, e2]

end PorepyVerif.C26
