/-
C26 — property theorems.

Property: on each mortar side the integrated projections preserve totals (unit column sums on the
covered entities) and the averaged projections map constants to constants (unit row sums), for
matching interfaces and after any sequence of mortar / secondary / primary replacements;
mortar-to-grid integrated maps are the transposes of grid-to-mortar averaged maps and vice versa.
-/
import PorepyVerif.C26.LemmasOverlap
import PorepyVerif.C26.LemmasListing
import PorepyVerif.C26.LemmasRefine

namespace PorepyVerif.C26

/-- Overlap weights of two tessellations (cells in any order, any orientation) of the same segment:
    non-negative, every row sums to the measure of the NEW cell, every column to the measure of the
    OLD cell. -/
theorem match1d_weights (newC oldC : List Cell) (a : Rat) (xs ys : List Rat)
    (hnew : Tessellates newC a xs) (hold : Tessellates oldC a ys) (hend : lastOr a xs = lastOr a ys) :
    (∀ i j, 0 ≤ ovl (cellAt newC i) (cellAt oldC j)) ∧
    (∀ i, i < newC.length →
      sumTo oldC.length (fun j => ovl (cellAt newC i) (cellAt oldC j)) = len (cellAt newC i)) ∧
    (∀ j, j < oldC.length →
      sumTo newC.length (fun i => ovl (cellAt newC i) (cellAt oldC j)) = len (cellAt oldC j)) := by
  refine ⟨fun i j => ovl_nonneg _ _, ?_, ?_⟩
  · intro i hi
    have hb := tess_cell_bounds hnew i hi
    exact tess_sum oldC a ys hold _ (le_of_lt hb.2.1) hb.1 (hend ▸ hb.2.2)
  · intro j hj
    have hb := tess_cell_bounds hold j hj
    rw [sumTo_congr _ _ _ (fun i _ => ovl_comm (cellAt newC i) (cellAt oldC j))]
    exact tess_sum newC a xs hnew _ (le_of_lt hb.2.1) hb.1 (hend.symm ▸ hb.2.2)

/-- `match_1d(new, old, scaling="averaged")`: every row sums to one. -/
theorem match1d_avg_rowsum_one (newC oldC : List Cell) (h : SameSegment newC oldC)
    (i : Nat) (hi : i < newC.length) : (match1d newC oldC .averaged).rowSum i = 1 := by
  obtain ⟨a, xs, ys, hnew, hold, hend⟩ := h
  rw [match1d, rowSum_table _ _ _ i hi]
  exact sumTo_div_eq_one _ _ _ ((match1d_weights newC oldC a xs ys hnew hold hend).2.1 i hi)
    (sub_ne_zero.mpr (ne_of_gt (tess_cell_bounds hnew i hi).2.1))

/-- `match_1d(new, old, scaling="integrated")`: every column sums to one. -/
theorem match1d_int_colsum_one (newC oldC : List Cell) (h : SameSegment newC oldC)
    (j : Nat) (hj : j < oldC.length) : (match1d newC oldC .integrated).colSum j = 1 := by
  obtain ⟨a, xs, ys, hnew, hold, hend⟩ := h
  rw [match1d, colSum_table _ _ _ j hj]
  exact sumTo_div_eq_one _ _ _ ((match1d_weights newC oldC a xs ys hnew hold hend).2.2 j hj)
    (sub_ne_zero.mpr (ne_of_gt (tess_cell_bounds hold j hj).2.1))

/-- Averaged maps (unit row sums) compose: if row `i` of `A` sums to one and every row of `B` that
    row `i` of `A` reaches sums to one, row `i` of `A·B` sums to one — constants are preserved.
    (`update_mortar`: `A` = old-to-new mortar map, `B` = old projection;
     `update_primary`: `A` = old projection, `B` = old-face-to-new-face map, whose rows sum to one on
     the covered faces, the only ones `A` reaches.) -/
theorem avg_rowsum_one_comp (A B : Mat) (i : Nat) (hi : i < A.r) (hA : A.rowSum i = 1)
    (hB : ∀ k, k < A.c → A.ent i k ≠ 0 → B.rowSum k = 1) : (A.mul B).rowSum i = 1 :=
  (rowSum_mul_of_rowSum_one A B i hi hB).trans hA

/-- Integrated maps (unit column sums) compose: if column `j` of `B` sums to one and every column of
    `A` that column `j` of `B` reaches sums to one, column `j` of `A·B` sums to one — totals are
    preserved on the covered entities. -/
theorem int_colsum_one_comp (A B : Mat) (j : Nat) (hj : j < B.c) (hdim : A.c = B.r)
    (hB : B.colSum j = 1) (hA : ∀ k, k < A.c → B.ent k j ≠ 0 → A.colSum k = 1) :
    (A.mul B).colSum j = 1 :=
  (colSum_mul_of_colSum_one A B j hj hdim hA).trans hB

/-- what `_set_projections` promises -/
def TransposePairs (st : Proj) : Prop :=
  st.m2pInt = st.p2mAvg.T ∧ st.m2pAvg = st.p2mInt.T ∧ st.m2sInt = st.s2mAvg.T ∧ st.m2sAvg = st.s2mInt.T

/-- an update call with arbitrary matching matrices -/
inductive Update where
  | mortar (mAvg mInt : List Mat)
  | secondary (nSec : Nat) (sAvg sInt : List Mat)
  | primary (sAvg sInt : Mat)

def applyUpdate (st : Proj) : Update → Proj
  | .mortar a i => updateMortar st a i
  | .secondary n a i => updateSecondary st n a i
  | .primary a i => updatePrimary st a i

theorem transposePairs_step (st : Proj) (u : Update) (h : TransposePairs st) :
    TransposePairs (applyUpdate st u) := by
  obtain ⟨h1, h2, h3, h4⟩ := h
  cases u with
  | mortar a i => exact ⟨rfl, rfl, rfl, rfl⟩
  | secondary n a i => exact ⟨h1, h2, rfl, rfl⟩
  | primary a i => exact ⟨rfl, rfl, h3, h4⟩

/-- After construction and after EVERY sequence of `update_mortar` / `update_secondary` /
    `update_primary` calls (with whatever matching matrices), mortar-to-grid integrated maps are
    the transposes of the grid-to-mortar averaged maps and vice versa — although
    `update_secondary` / `update_primary` refresh only one of the two pairs. -/
theorem transpose_pairs (P S : Mat) (us : List Update) :
    TransposePairs (us.foldl applyUpdate (initProj P S)) := by
  suffices ∀ st, TransposePairs st → TransposePairs (us.foldl applyUpdate st) from
    this _ ⟨rfl, rfl, rfl, rfl⟩
  induction us with
  | nil => intro st h; exact h
  | cons u us ih => intro st h; exact ih _ (transposePairs_step st u h)

/-- the same for the geometry-driven state machine of the model -/
theorem transpose_pairs_run (ops : List Op) (st : St) (h : TransposePairs st.proj) :
    TransposePairs (run st ops).proj := by
  induction ops generalizing st with
  | nil => exact h
  | cons op ops ih =>
    apply ih
    cases op with
    | mortar ns => exact transposePairs_step st.proj (.mortar _ _) h
    | secondary cells => exact transposePairs_step st.proj (.secondary _ _ _) h
    | primary n o nw => exact transposePairs_step st.proj (.primary _ _) h

/-- `.T` really is the transpose, entry by entry (and swaps the shape). -/
theorem transpose_entries (A : Mat) : A.T.r = A.c ∧ A.T.c = A.r ∧
    ∀ i j, i < A.c → j < A.r → A.T.ent i j = A.ent j i :=
  ⟨rfl, rfl, fun i j hi hj => ent_T A i j hi hj⟩

/-- consequence used by the property: integrated mortar-to-grid maps have the column sums that the
    averaged grid-to-mortar maps have as row sums, and vice versa -/
theorem transposed_sums (A : Mat) :
    (∀ i, i < A.c → A.T.rowSum i = A.colSum i) ∧ (∀ j, j < A.r → A.T.colSum j = A.rowSum j) :=
  ⟨rowSum_T A, colSum_T A⟩

/-- `update_mortar`: the block-diagonal old-to-new mortar matrix acts on every side's blocks
    separately — the stored matrices after the call are the stack of the per-side products. -/
theorem stack_update_mortar {α : Type} (nP nS : Nat) (l : List α) (sd : α → Side) (a i : α → Mat)
    (h : ∀ x ∈ l, (sd x).Shaped nP nS ∧ (a x).c = (sd x).pInt.r ∧ (i x).c = (sd x).pInt.r) :
    updateMortar (stackSides nP nS (l.map sd)) (l.map a) (l.map i)
      = stackSides nP nS (l.map fun x => (sd x).apply (.mortar (a x) (i x))) := by
  unfold updateMortar stackSides setProjections
  simp only [List.map_map, Function.comp_def, Side.apply, if_true]
  have key : ∀ x ∈ l,
      (((a x).c = (sd x).pAvg.r ∧ (sd x).pAvg.c = nP) ∧ ((i x).c = (sd x).pInt.r ∧ (sd x).pInt.c = nP)) ∧
      (((a x).c = (sd x).sAvg.r ∧ (sd x).sAvg.c = nS) ∧ ((i x).c = (sd x).sInt.r ∧ (sd x).sInt.c = nS)) := by
    intro x hx
    obtain ⟨⟨pInt_c, pAvg_c, sInt_c, sAvg_c, pAvg_r, sInt_r, sAvg_r⟩, ha, hi⟩ := h x hx
    rw [pAvg_r, sInt_r, sAvg_r]
    exact ⟨⟨⟨ha, pAvg_c⟩, hi, pInt_c⟩, ⟨ha, sAvg_c⟩, hi, sInt_c⟩
  rw [blockDiag_mul_vstack nP a (fun x => (sd x).pAvg) l (fun x hx => (key x hx).1.1),
    blockDiag_mul_vstack nP i (fun x => (sd x).pInt) l (fun x hx => (key x hx).1.2),
    blockDiag_mul_vstack nS a (fun x => (sd x).sAvg) l (fun x hx => (key x hx).2.1),
    blockDiag_mul_vstack nS i (fun x => (sd x).sInt) l (fun x hx => (key x hx).2.2)]

theorem sideInv_step (c c' : Ctx) (s : Side) (u : SideUpd) (hinv : SideInv c.cov c.nP c.nS s)
    (hv : ValidUpd c s c' u) : SideInv c'.cov c'.nP c'.nS (s.apply u) := by
  cases u with
  | mortar a i =>
    obtain ⟨hcov, hnP, hnS, hac, hic, hr, harow, hicol⟩ := hv
    rw [hcov, hnP, hnS]
    exact { hinv with
      pAvg_r := hr
      sInt_r := rfl
      sAvg_r := hr
      pAvg_row := fun k hk => avg_rowsum_one_comp a s.pAvg k (hr ▸ hk) (harow k (hr ▸ hk))
        (fun m hm _ => hinv.pAvg_row m (hac ▸ hm))
      pAvg_supp := fun k j hj => ent_mul_zero a s.pAvg k j (fun m _ => Or.inr (hinv.pAvg_supp m j hj))
      pInt_col := fun j hj hcj => int_colsum_one_comp i s.pInt j (hinv.pInt_c ▸ hj) hic
        (hinv.pInt_col j hj hcj) (fun m hm _ => hicol m (hic ▸ hm))
      pInt_supp := fun k j hj => ent_mul_zero i s.pInt k j (fun m _ => Or.inr (hinv.pInt_supp m j hj))
      sAvg_row := fun k hk => avg_rowsum_one_comp a s.sAvg k (hr ▸ hk) (harow k (hr ▸ hk))
        (fun m hm _ => hinv.sAvg_row m (hac ▸ hm))
      sInt_col := fun j hj => int_colsum_one_comp i s.sInt j (hinv.sInt_c ▸ hj) (by rw [hic, hinv.sInt_r])
        (hinv.sInt_col j hj) (fun m hm _ => hicol m (hic ▸ hm)) }
  | secondary a i =>
    obtain ⟨hcov, hnP, har, hir, hac, hic, harow, hicol⟩ := hv
    rw [hcov, hnP]
    exact { hinv with
      sInt_c := hic, sAvg_c := hac, sInt_r := hir, sAvg_r := har, sAvg_row := harow, sInt_col := hicol }
  | primary a i =>
    obtain ⟨hnS, har, hir, hac, hic, harow, hasupp, hicol, hisupp1, hisupp2⟩ := hv
    rw [hnS]
    exact { hinv with
      pInt_c := hic
      pAvg_c := hac
      pAvg_row := fun k hk => avg_rowsum_one_comp s.pAvg a k (hinv.pAvg_r ▸ hk) (hinv.pAvg_row k hk)
        (fun f hf hne => harow f (hinv.pAvg_c ▸ hf) (Classical.byContradiction fun hc => hne (hinv.pAvg_supp k f hc)))
      pAvg_supp := fun k g hg => ent_mul_zero s.pAvg a k g (fun f _ => by
        by_cases hc : c.cov f
        · exact Or.inr (hasupp f g hc hg)
        · exact Or.inl (hinv.pAvg_supp k f hc))
      pInt_col := fun g hg hcg => int_colsum_one_comp s.pInt i g (hic ▸ hg) (by rw [hinv.pInt_c, hir])
        (hicol g hg hcg)
        (fun f hf hne => hinv.pInt_col f (hinv.pInt_c ▸ hf) (Classical.byContradiction fun hc => hne (hisupp1 f g hc hcg)))
      pInt_supp := fun k g hg => ent_mul_zero s.pInt i k g (fun f _ => by
        by_cases hc : c.cov f
        · exact Or.inr (hisupp2 f g hc hg)
        · exact Or.inl (hinv.pInt_supp k f hc)) }

/-- For EVERY history of valid updates of one mortar side, the side's projections keep: unit row
    sums of the averaged maps, unit column sums of the integrated maps on the covered entities. -/
theorem side_history_invariant (c : Ctx) (s : Side) (h : Reachable c s) : SideInv c.cov c.nP c.nS s := by
  induction h with
  | init c s h => exact h
  | step c c' s u _ hv ih => exact sideInv_step c c' s u ih hv

/-- replacing a side grid by another tessellation of the same segment is a valid update -/
theorem mortar_update_valid (c : Ctx) (s : Side) (newC oldC : List Cell) (h : SameSegment newC oldC)
    (hn : oldC.length = s.pInt.r) :
    ValidUpd c s c (.mortar (match1d newC oldC .averaged) (match1d newC oldC .integrated)) :=
  ⟨rfl, rfl, rfl, (match1d_c _ _ _).trans hn, (match1d_c _ _ _).trans hn,
   (match1d_r _ _ _).trans (match1d_r _ _ _).symm,
   fun k hk => match1d_avg_rowsum_one newC oldC h k (match1d_r _ _ _ ▸ hk),
   fun k hk => match1d_int_colsum_one newC oldC h k (hn ▸ hk)⟩

/-- a side that is not replaced is updated with the identity -/
theorem identity_update_valid (c : Ctx) (s : Side) :
    ValidUpd c s c (.mortar (Mat.identity s.pInt.r) (Mat.identity s.pInt.r)) :=
  ⟨rfl, rfl, rfl, rfl, rfl, rfl, fun k hk => identity_rowSum _ k hk, fun k hk => identity_colSum _ k hk⟩

/-- replacing the secondary grid by another tessellation of the fracture is a valid update -/
theorem secondary_update_valid (c : Ctx) (s : Side) (sideC cells : List Cell) (h : SameSegment sideC cells)
    (hn : sideC.length = s.pInt.r) :
    ValidUpd c s ⟨c.cov, c.nP, cells.length⟩
      (.secondary (match1d sideC cells .averaged) (match1d sideC cells .integrated)) :=
  ⟨rfl, rfl, hn, hn, rfl, rfl,
   fun k hk => match1d_avg_rowsum_one sideC cells h k (hn ▸ hk),
   fun k hk => match1d_int_colsum_one sideC cells h k hk⟩

theorem stack_update_secondary {α : Type} (nP nS nS' : Nat) (l : List α) (sd : α → Side) (a i : α → Mat) :
    updateSecondary (stackSides nP nS (l.map sd)) nS' (l.map a) (l.map i)
      = stackSides nP nS' (l.map fun x => (sd x).apply (.secondary (a x) (i x))) := by
  unfold updateSecondary stackSides setProjections
  simp [List.map_map, Function.comp_def, Side.apply]

theorem stack_update_primary (nP nS : Nat) (ss : List Side) (a i : Mat) (hai : i.c = a.c)
    (h : ∀ s ∈ ss, s.pInt.c = nP ∧ s.pAvg.c = nP) :
    updatePrimary (stackSides nP nS ss) a i = stackSides a.c nS (ss.map fun s => s.apply (.primary a i)) := by
  unfold updatePrimary stackSides setProjections
  simp only [List.map_map, Function.comp_def, Side.apply]
  rw [vstack_mul nP i (·.pInt) ss (fun s hs => (h s hs).1), vstack_mul nP a (·.pAvg) ss (fun s hs => (h s hs).2), hai]
  simp

/-- one side of the fracture: the old-face × new-face matrices of that side are row- resp.
    column-stochastic on the side's faces -/
theorem sideOrZero_sums (nOld nNew : Nat) (o n : List FaceRec) (h : SameSegment (o.map (·.cell)) (n.map (·.cell)))
    (hoN : (o.map (·.idx)).Nodup) (hnN : (n.map (·.idx)).Nodup)
    (hoR : ∀ x ∈ o.map (·.idx), x < nOld) (hnR : ∀ x ∈ n.map (·.idx), x < nNew) :
    (∀ f, f ∈ o.map (·.idx) → (sideOrZero nOld nNew o n .averaged).rowSum f = 1) ∧
    (∀ g, g ∈ n.map (·.idx) → (sideOrZero nOld nNew o n .integrated).colSum g = 1) := by
  have hemp : o = [] ↔ n = [] := by
    obtain ⟨_, _, _, hto, htn, hend⟩ := h
    simpa using tess_empty_iff hto htn hend
  constructor
  · -- row `f` of `face_map_old.T` holds a single one, the rows of `match_1d` and `face_map_new` sum to one
    intro f hf
    have hone : o ≠ [] := fun h => by rw [h] at hf; exact absurd hf List.not_mem_nil
    rw [sideOrZero_eq _ _ _ _ _ hone (fun h => hone (hemp.mpr h)), sideFaceMatch]
    refine avg_rowsum_one_comp _ _ f (hoR f hf) (avg_rowsum_one_comp _ _ f (hoR f hf) ?_ ?_) ?_
    · rw [rowSum_T _ f (hoR f hf)]
      exact selMat_colSum _ nOld f hoN (hoR f hf) hf
    · intro k hk _
      exact match1d_avg_rowsum_one _ _ h k (by simpa using hk)
    · intro k hk _
      exact selMat_rowSum _ nNew k (by simpa [match1d_c] using hk) hnR
  · intro g hg
    have hnne : n ≠ [] := fun h => by rw [h] at hg; exact absurd hg List.not_mem_nil
    rw [sideOrZero_eq _ _ _ _ _ (fun h => hnne (hemp.mp h)) hnne, sideFaceMatch]
    refine int_colsum_one_comp _ _ g (hnR g hg) (by simp [match1d_c])
      (selMat_colSum _ nNew g hnN (hnR g hg) hg) (fun k hk _ => ?_)
    refine int_colsum_one_comp _ _ k hk (by simp [match1d_r])
      (match1d_int_colsum_one _ _ h k (by simpa [match1d_c] using hk)) (fun m hm _ => ?_)
    rw [colSum_T _ m hm]
    exact selMat_rowSum _ nOld m (by simpa using hm) hoR

/-- the own side's block plus a block that vanishes on the own faces is a valid primary update
    (in either order of the sum) -/
theorem primary_valid_of_blocks (c c' : Ctx) (s : Side) (A I A' I' : Mat)
    (hnS : c'.nS = c.nS)
    (hAr : A.r = c.nP) (hAc : A.c = c'.nP) (hIr : I.r = c.nP) (hIc : I.c = c'.nP)
    (hA'r : A'.r = c.nP) (hA'c : A'.c = c'.nP) (hI'r : I'.r = c.nP) (hI'c : I'.c = c'.nP)
    (h1 : ∀ f, f < c.nP → c.cov f → A.rowSum f = 1)
    (h2 : ∀ f g, c.cov f → ¬ c'.cov g → A.ent f g = 0)
    (h3 : ∀ g, g < c'.nP → c'.cov g → I.colSum g = 1)
    (h4 : ∀ f g, ¬ c.cov f → c'.cov g → I.ent f g = 0)
    (h5 : ∀ f g, c.cov f → ¬ c'.cov g → I.ent f g = 0)
    (h6 : ∀ f g, c.cov f ∨ c'.cov g → A'.ent f g = 0 ∧ I'.ent f g = 0) :
    ValidUpd c s c' (.primary (A.add A') (I.add I')) ∧ ValidUpd c s c' (.primary (A'.add A) (I'.add I)) := by
  have first : ValidUpd c s c' (.primary (A.add A') (I.add I')) := by
    refine ⟨hnS, hAr, hIr, hAc, hIc, ?_, ?_, ?_, ?_, ?_⟩
    · intro f hf hc
      rw [rowSum_add A A' f (hAr ▸ hf) (by rw [hA'c, hAc]), h1 f hf hc,
        rowSum_zero_of_ent A' f (fun g => (h6 f g (Or.inl hc)).1), add_zero]
    · intro f g hc hg
      exact ent_add_zero A A' f g (h2 f g hc hg) (h6 f g (Or.inl hc)).1
    · intro g hg hc
      rw [colSum_add I I' g (hIc ▸ hg) (by rw [hI'r, hIr]), h3 g hg hc,
        colSum_zero_of_ent I' g (fun f => (h6 f g (Or.inr hc)).2), add_zero]
    · intro f g hf hc
      exact ent_add_zero I I' f g (h4 f g hf hc) (h6 f g (Or.inr hc)).2
    · intro f g hc hg
      exact ent_add_zero I I' f g (h5 f g hc hg) (h6 f g (Or.inl hc)).2
  refine ⟨first, ?_⟩
  rw [add_comm_of_shape A A' (hA'r.trans hAr.symm) (hA'c.trans hAc.symm),
    add_comm_of_shape I I' (hI'r.trans hIr.symm) (hI'c.trans hIc.symm)]
  exact first

/-- `update_primary`: the matrices `match_grids_along_1d_mortar` builds from the fracture faces of
    the old and the new host are a valid update for the mortar side lying on side `b` of the
    fracture — provided the faces of that side tessellate the same segment in both hosts, face
    indices are distinct and in range, and all listed old faces are covered by the mortar. -/
theorem face_update_valid (P : Mat) (nNew nS : Nat) (s : Side) (old new : List FaceRec) (b : Bool)
    (hcov : ∀ r ∈ old, covered P r.idx = true)
    (hoN : (old.map (·.idx)).Nodup) (hnN : (new.map (·.idx)).Nodup)
    (hoR : ∀ r ∈ old, r.idx < P.c) (hnR : ∀ r ∈ new, r.idx < nNew)
    (a : Rat) (xs ys : List Rat)
    (hto : Tessellates ((old.filter (·.pos == b)).map (·.cell)) a xs)
    (htn : Tessellates ((new.filter (·.pos == b)).map (·.cell)) a ys)
    (hend : lastOr a xs = lastOr a ys) :
    ValidUpd ⟨fun f => ∃ r, r ∈ old ∧ r.pos = b ∧ r.idx = f, P.c, nS⟩ s
      ⟨fun g => ∃ r, r ∈ new ∧ r.pos = b ∧ r.idx = g, nNew, nS⟩
      (.primary (faceMatch P nNew old new .averaged) (faceMatch P nNew old new .integrated)) := by
  have hfil : old.filter (fun f => covered P f.idx) = old := List.filter_eq_self.mpr hcov
  have hs := sideOrZero_sums P.c nNew (old.filter (·.pos == b)) (new.filter (·.pos == b)) ⟨a, xs, ys, hto, htn, hend⟩
    (nodup_side_idx old hoN b) (nodup_side_idx new hnN b) (side_idx_lt old P.c hoR b) (side_idx_lt new nNew hnR b)
  have key := primary_valid_of_blocks
    ⟨fun f => ∃ r, r ∈ old ∧ r.pos = b ∧ r.idx = f, P.c, nS⟩
    ⟨fun g => ∃ r, r ∈ new ∧ r.pos = b ∧ r.idx = g, nNew, nS⟩ s
    (sideOrZero P.c nNew (old.filter (·.pos == b)) (new.filter (·.pos == b)) .averaged)
    (sideOrZero P.c nNew (old.filter (·.pos == b)) (new.filter (·.pos == b)) .integrated)
    (sideOrZero P.c nNew (old.filter (·.pos == !b)) (new.filter (·.pos == !b)) .averaged)
    (sideOrZero P.c nNew (old.filter (·.pos == !b)) (new.filter (·.pos == !b)) .integrated)
    rfl (sideOrZero_r ..) (sideOrZero_c ..) (sideOrZero_r ..) (sideOrZero_c ..)
    (sideOrZero_r ..) (sideOrZero_c ..) (sideOrZero_r ..) (sideOrZero_c ..)
    (fun f _ hc => hs.1 f ((mem_side_idx old b f).mpr hc))
    (fun f g _ hg => sideOrZero_ent_zero _ _ _ _ _ f g (Or.inr (fun h => hg ((mem_side_idx new b g).mp h))))
    (fun g _ hc => hs.2 g ((mem_side_idx new b g).mpr hc))
    (fun f g hf _ => sideOrZero_ent_zero _ _ _ _ _ f g (Or.inl (fun h => hf ((mem_side_idx old b f).mp h))))
    (fun f g _ hg => sideOrZero_ent_zero _ _ _ _ _ f g (Or.inr (fun h => hg ((mem_side_idx new b g).mp h))))
    (fun f g h => by
      have : f ∉ (old.filter (·.pos == !b)).map (·.idx) ∨ g ∉ (new.filter (·.pos == !b)).map (·.idx) := by
        rcases h with h | h
        · exact Or.inl (not_mem_other_side old hoN b f ((mem_side_idx old b f).mpr h))
        · exact Or.inr (not_mem_other_side new hnN b g ((mem_side_idx new b g).mpr h))
      exact ⟨sideOrZero_ent_zero _ _ _ _ _ f g this, sideOrZero_ent_zero _ _ _ _ _ f g this⟩)
  unfold faceMatch
  simp only [hfil]
  cases b with
  | true => exact key.1
  | false => exact key.2

/-- The state machine the driver executes, `update_mortar` step: on a state whose stored matrices are
    the stack of per-side blocks, the step is the per-side update with the `match_1d` matrices. -/
theorem step_mortar_stack (nP nS : Nat) (l : List (Side × List Cell × Option (List Cell)))
    (h : ∀ x ∈ l, x.1.Shaped nP nS ∧ x.2.1.length = x.1.pInt.r) :
    (step ⟨stackSides nP nS (l.map (·.1)), l.map (·.2.1), nS⟩ (.mortar (l.map (·.2.2)))).proj =
      stackSides nP nS (l.map fun x =>
        x.1.apply (.mortar (blockOf .averaged x.2.1 x.2.2) (blockOf .integrated x.2.1 x.2.2))) := by
  show updateMortar _ (mortarBlocks .averaged _ _) (mortarBlocks .integrated _ _) = _
  rw [mortarBlocks_map, mortarBlocks_map]
  exact stack_update_mortar nP nS l (·.1) _ _ (fun x hx =>
    ⟨(h x hx).1, (blockOf_c _ _ _).trans (h x hx).2, (blockOf_c _ _ _).trans (h x hx).2⟩)

/-- … `update_secondary` step -/
theorem step_secondary_stack (nP nS : Nat) (l : List (Side × List Cell)) (cells : List Cell) :
    (step ⟨stackSides nP nS (l.map (·.1)), l.map (·.2), nS⟩ (.secondary cells)).proj =
      stackSides nP cells.length (l.map fun x =>
        x.1.apply (.secondary (match1d x.2 cells .averaged) (match1d x.2 cells .integrated))) := by
  show updateSecondary _ _ ((l.map (·.2)).map _) ((l.map (·.2)).map _) = _
  rw [List.map_map, List.map_map]
  exact stack_update_secondary nP nS cells.length l (·.1) _ _

/-- … `update_primary` step (the same two face matrices for every side) -/
theorem step_primary_stack (nP nS : Nat) (ss : List Side) (sides : List (List Cell)) (nNew : Nat)
    (old new : List FaceRec) (h : ∀ s ∈ ss, s.pInt.c = nP ∧ s.pAvg.c = nP) :
    (step ⟨stackSides nP nS ss, sides, nS⟩ (.primary nNew old new)).proj =
      stackSides nNew nS (ss.map fun s => s.apply
        (.primary (faceMatch (stackSides nP nS ss).p2mInt nNew old new .averaged)
          (faceMatch (stackSides nP nS ss).p2mInt nNew old new .integrated))) := by
  show updatePrimary _ _ _ = _
  rw [stack_update_primary nP nS ss _ _ (by rw [faceMatch_c, faceMatch_c]) h, faceMatch_c]

/-- The constructor on a two-sided interface: what `_init_projections` + `_set_projections` store is
    the stack of two matching 0/1 sides (mortar cell `i` of a side ↔ one primary face, secondary
    cell `i`), each of which satisfies the invariant; the sides cover disjoint primary faces. -/
theorem constructor_two_sides (numCells nPrim nSec : Nat) (entries : List Ent) (dup : Option (List Nat))
    (P S : Mat) (h : initBase 2 numCells nPrim nSec entries dup = some (P, S))
    (wf : WellFormedMap nPrim nSec entries) :
    ∃ pf1 sf1 pf2 sf2,
      initProj P S = stackSides nPrim nSec
        [matchingSide nSec nPrim nSec pf1 sf1, matchingSide nSec nPrim nSec pf2 sf2] ∧
      SideInv (fun j => ∃ i, i < nSec ∧ pf1 i = j) nPrim nSec (matchingSide nSec nPrim nSec pf1 sf1) ∧
      SideInv (fun j => ∃ i, i < nSec ∧ pf2 i = j) nPrim nSec (matchingSide nSec nPrim nSec pf2 sf2) ∧
      (∀ j, ¬ ((∃ i, i < nSec ∧ pf1 i = j) ∧ (∃ i, i < nSec ∧ pf2 i = j))) := by
  obtain ⟨hok, hlen, hP, hS⟩ := initBase_inv 2 numCells nPrim nSec entries dup P S h
  have hperm := ordered_perm 2 entries dup
  have hmem : ∀ t : Ent, t ∈ dupOrder 2 entries dup ↔ t ∈ entries := fun t => (dupOrder_perm 2 entries dup).mem_iff
  obtain ⟨le, lo, hs1, hs2⟩ := side_keys _ nSec (0, 0, 0)
    (sorted_keys_two nSec _ (fun t ht => wf.sec t ((hmem t).mp ht))
      (fun c hc => by obtain ⟨t, ht, e⟩ := wf.all c hc; exact ⟨t, (hmem t).mpr ht, e⟩) hok)
  rw [← sideOrder_two] at hs1 hs2
  obtain rfl : nSec + nSec = numCells := by rw [← hlen, sideOrder_two, List.length_append, le, lo]
  generalize sideOrder 2 (sortBySec (dupOrder 2 entries dup)) = l at hperm hlen hP hS hs1 hs2
  have hd : ∀ i, i < nSec + nSec → (l.getD i (0, 0, 0)).2.2 = 1 := fun i hi =>
    wf.data _ (hperm.mem_iff.mp (getD_mem l _ i (hlen ▸ hi)))
  refine ⟨fun i => (l.getD i (0, 0, 0)).2.1, fun i => (l.getD i (0, 0, 0)).1,
    fun i => (l.getD (nSec + i) (0, 0, 0)).2.1, fun i => (l.getD (nSec + i) (0, 0, 0)).1, ?_, ?_, ?_, ?_⟩
  · rw [hP, hS, pTable_unit _ _ _ hd, sTable_unit _ _ _ hd, two_block_table, two_block_table]
    rfl
  · exact listing_sideInv wf hperm nSec (fun i => i) (fun i hi => hlen ▸ Nat.lt_add_right nSec hi) (fun _ _ _ _ e => e)
      (fun i k hi hk e => by rw [hs1 i hi, hs1 k hk] at e; exact e) (fun j hj => ⟨j, hj, hs1 j hj⟩)
  · exact listing_sideInv wf hperm nSec (fun i => nSec + i) (fun i hi => hlen ▸ Nat.add_lt_add_left hi nSec)
      (fun _ _ _ _ e => Nat.add_left_cancel e)
      (fun i k hi hk e => by rw [hs2 i hi, hs2 k hk] at e; exact e) (fun j hj => ⟨j, hj, hs2 j hj⟩)
  · rintro j ⟨⟨i, hi, e1⟩, ⟨k, hk, e2⟩⟩
    have := getD_inj_of_map_nodup (·.2.1) l _ ((hperm.map _).nodup_iff.mpr wf.nodup) i (nSec + k)
      (hlen ▸ Nat.lt_add_right nSec hi) (hlen ▸ Nat.add_lt_add_left hk nSec)
      (e1.trans e2.symm)
    omega

/-- The constructor on a one-sided interface (every secondary cell coupled to exactly one face). -/
theorem constructor_one_side (numCells nPrim nSec : Nat) (entries : List Ent) (dup : Option (List Nat))
    (P S : Mat) (h : initBase 1 numCells nPrim nSec entries dup = some (P, S))
    (wf : WellFormedMap nPrim nSec entries) (hsnd : (entries.map (·.1)).Nodup) :
    ∃ pf sf,
      initProj P S = stackSides nPrim nSec [matchingSide numCells nPrim nSec pf sf] ∧
      SideInv (fun j => ∃ i, i < numCells ∧ pf i = j) nPrim nSec (matchingSide numCells nPrim nSec pf sf) := by
  obtain ⟨_, hlen, hP, hS⟩ := initBase_inv 1 numCells nPrim nSec entries dup P S h
  have hperm := ordered_perm 1 entries dup
  generalize sideOrder 1 (sortBySec (dupOrder 1 entries dup)) = l at hperm hlen hP hS
  subst hlen
  have hd : ∀ i, i < l.length → (l.getD i (0, 0, 0)).2.2 = 1 := fun i hi =>
    wf.data _ (hperm.mem_iff.mp (getD_mem l _ i hi))
  refine ⟨fun i => (l.getD i (0, 0, 0)).2.1, fun i => (l.getD i (0, 0, 0)).1, ?_, ?_⟩
  · rw [hP, hS, pTable_unit _ _ _ hd, sTable_unit _ _ _ hd, one_block_table, one_block_table l.length nSec]
    rfl
  · exact listing_sideInv wf hperm l.length (fun i => i) (fun _ hi => hi) (fun _ _ _ _ e => e)
      (fun i k hi hk e => getD_inj_of_map_nodup (·.1) l _ ((hperm.map _).nodup_iff.mpr hsnd) i k hi hk e)
      (fun j hj => by
        obtain ⟨t, ht, e⟩ := wf.all j hj
        obtain ⟨a, ha, ea⟩ := exists_getD_of_mem' l (0, 0, 0) t (hperm.mem_iff.mpr ht)
        exact ⟨a, ha, by rw [ea, e]⟩)

theorem SideInv.shaped {cov : Nat → Prop} {nP nS : Nat} {s : Side} (h : SideInv cov nP nS s) : s.Shaped nP nS :=
  ⟨h.pInt_c, h.pAvg_c, h.sInt_c, h.sAvg_c, h.pAvg_r, h.sInt_r, h.sAvg_r⟩

theorem eightOK_of_inv {cov : Nat → Prop} {nP nS : Nat} {s : Side} (h : SideInv cov nP nS s) : EightOK cov nP nS s where
  inv := h
  m2pInt_col := fun i hi => by rw [colSum_T _ i (h.pAvg_r ▸ hi)]; exact h.pAvg_row i hi
  m2pAvg_row := fun j hj hc => by rw [rowSum_T _ j (h.pInt_c ▸ hj)]; exact h.pInt_col j hj hc
  m2sInt_col := fun i hi => by rw [colSum_T _ i (h.sAvg_r ▸ hi)]; exact h.sAvg_row i hi
  m2sAvg_row := fun j hj => by rw [rowSum_T _ j (h.sInt_c ▸ hj)]; exact h.sInt_col j hj

theorem ireach_inv {nP nS : Nat} {L : List CSide} {pr : Proj} (h : IReach nP nS L pr) :
    pr = stackSides nP nS (L.map (·.1)) ∧ ∀ x ∈ L, SideInv x.2 nP nS x.1 := by
  induction h with
  | start nP nS L h => exact ⟨rfl, h⟩
  | mortar nP nS pr M _ hv ih =>
    obtain ⟨hpr, hinv⟩ := ih
    constructor
    · rw [hpr, List.map_map, List.map_map]
      exact stack_update_mortar nP nS M (fun x => x.1.1) (·.2.1) (·.2.2) (fun x hx => by
        obtain ⟨_, _, _, hac, hic, _⟩ := hv x hx
        exact ⟨(hinv x.1 (List.mem_map_of_mem hx)).shaped, hac, hic⟩)
    · exact List.forall_mem_map.mpr fun x hx =>
        sideInv_step ⟨x.1.2, nP, nS⟩ ⟨x.1.2, nP, nS⟩ x.1.1 _ (hinv x.1 (List.mem_map_of_mem hx)) (hv x hx)
  | secondary nP nS nS' pr M _ hv ih =>
    obtain ⟨hpr, hinv⟩ := ih
    constructor
    · rw [hpr, List.map_map, List.map_map]
      exact stack_update_secondary nP nS nS' M (fun x => x.1.1) (·.2.1) (·.2.2)
    · exact List.forall_mem_map.mpr fun x hx =>
        sideInv_step ⟨x.1.2, nP, nS⟩ ⟨x.1.2, nP, nS'⟩ x.1.1 _ (hinv x.1 (List.mem_map_of_mem hx)) (hv x hx)
  | primary nP nS nP' pr a i M _ ha hi hv ih =>
    obtain ⟨hpr, hinv⟩ := ih
    constructor
    · rw [hpr, stack_update_primary nP nS _ a i (by rw [ha, hi])
        (List.forall_mem_map.mpr fun y hy => ⟨(hinv y hy).pInt_c, (hinv y hy).pAvg_c⟩), ha]
      simp [List.map_map, Function.comp_def]
    · exact List.forall_mem_map.mpr fun x hx =>
        sideInv_step ⟨x.1.2, nP, nS⟩ ⟨x.2, nP', nS⟩ x.1.1 _ (hinv x.1 (List.mem_map_of_mem hx)) (hv x hx)

/-- THE PROPERTY, in one statement.  For every interface state reachable from the constructor by any
    sequence of valid `update_mortar` / `update_secondary` / `update_primary` calls:
    (1) the four mortar-to-grid matrices are the transposes of the grid-to-mortar matrices
        (int ↔ avg exchanged);
    (2) the stored matrices are the stack, side by side, of per-side blocks;
    (3) on each mortar side all eight projections behave: averaged maps have unit row sums
        (constants to constants; for mortar_to_primary_avg on the covered faces), integrated maps
        have unit column sums (totals preserved; for primary_to_mortar_int on the covered faces),
        and the maps from / to primary touch covered faces only. -/
theorem mortar_projections_conserve {nP nS : Nat} {L : List CSide} {pr : Proj} (h : IReach nP nS L pr) :
    TransposePairs pr ∧ pr = stackSides nP nS (L.map (·.1)) ∧ ∀ x ∈ L, EightOK x.2 nP nS x.1 := by
  obtain ⟨hpr, hinv⟩ := ireach_inv h
  refine ⟨?_, hpr, fun x hx => eightOK_of_inv (hinv x hx)⟩
  rw [hpr]
  exact ⟨rfl, rfl, rfl, rfl⟩

/-- the state a two-sided constructor call leaves is a start state of `IReach` -/
theorem constructor_reach_two (numCells nPrim nSec : Nat) (entries : List Ent) (dup : Option (List Nat))
    (P S : Mat) (h : initBase 2 numCells nPrim nSec entries dup = some (P, S))
    (wf : WellFormedMap nPrim nSec entries) :
    ∃ L : List CSide, L.length = 2 ∧ IReach nPrim nSec L (initProj P S) := by
  obtain ⟨pf1, sf1, pf2, sf2, hst, h1, h2, _⟩ := constructor_two_sides numCells nPrim nSec entries dup P S h wf
  refine ⟨[(matchingSide nSec nPrim nSec pf1 sf1, fun j => ∃ i, i < nSec ∧ pf1 i = j),
           (matchingSide nSec nPrim nSec pf2 sf2, fun j => ∃ i, i < nSec ∧ pf2 i = j)], rfl, ?_⟩
  rw [hst]
  exact IReach.start nPrim nSec _ (List.forall_mem_cons.mpr ⟨h1, List.forall_mem_singleton.mpr h2⟩)

/-- … and a one-sided constructor call -/
theorem constructor_reach_one (numCells nPrim nSec : Nat) (entries : List Ent) (dup : Option (List Nat))
    (P S : Mat) (h : initBase 1 numCells nPrim nSec entries dup = some (P, S))
    (wf : WellFormedMap nPrim nSec entries) (hsnd : (entries.map (·.1)).Nodup) :
    ∃ L : List CSide, L.length = 1 ∧ IReach nPrim nSec L (initProj P S) := by
  obtain ⟨pf, sf, hst, h1⟩ := constructor_one_side numCells nPrim nSec entries dup P S h wf hsnd
  refine ⟨[(matchingSide numCells nPrim nSec pf sf, fun j => ∃ i, i < numCells ∧ pf i = j)], rfl, ?_⟩
  rw [hst]
  exact IReach.start nPrim nSec _ (List.forall_mem_singleton.mpr h1)

/-- the overlap weights before scaling: row `i` has the single entry `area(new cell i)` in the column of
    its parent, so the rows trivially sum to the new cell's area; stated here: column `j` sums to the
    area of old cell `j` -/
theorem match2d_nested_weights (parents : List Tri) (recipes : List Ref)
    (hlen : recipes.length = parents.length) (j : Nat) (hj : j < parents.length) :
    sumL ((kidsFrom 0 parents recipes).map fun x => if x.1 = j then area2 x.2 else 0) =
      area2 (triAt parents j) := by
  have h := kids_sum parents recipes 0 hlen j hj
  rwa [Nat.zero_add] at h

/-- `match_2d` on a nested refinement, scaling "averaged": every row sums to one. -/
theorem match2d_nested_avg_rowsum_one (parents : List Tri) (recipes : List Ref)
    (hp : ∀ p ∈ parents, 0 < area2 p) (hr : ∀ r ∈ recipes, r.Valid)
    (i : Nat) (hi : i < (kidsFrom 0 parents recipes).length) :
    (match2dNested parents recipes .averaged).rowSum i = 1 := by
  have hmem : kidAt (kidsFrom 0 parents recipes) i ∈ kidsFrom 0 parents recipes := getD_mem _ _ i hi
  obtain ⟨⟨p, hp', r, hr', h⟩, _, hb⟩ := mem_kidsFrom parents recipes 0 _ hmem
  rw [match2dNested, rowSum_table _ _ _ i hi, sumTo_ite_eq _ _ (by omega)]
  exact div_self (ne_of_gt (refine_pos r p (hr r hr') (hp p hp') _ h))

/-- `match_2d` on a nested refinement, scaling "integrated": every column sums to one — the children
    of an old cell carry exactly its area (`refine_area`). -/
theorem match2d_nested_int_colsum_one (parents : List Tri) (recipes : List Ref)
    (hlen : recipes.length = parents.length) (hp : ∀ p ∈ parents, 0 < area2 p)
    (j : Nat) (hj : j < parents.length) :
    (match2dNested parents recipes .integrated).colSum j = 1 := by
  have hpj : 0 < area2 (triAt parents j) := hp _ (getD_mem parents _ j hj)
  rw [match2dNested, colSum_table _ _ _ j hj]
  simp only [div_eq_mul_inv, ← ite_zero_mul]
  rw [sumTo_mul_right]
  unfold kidAt
  rw [sumTo_getD (kidsFrom 0 parents recipes) _ (fun x => if x.1 = j then area2 x.2 else 0),
    match2d_nested_weights parents recipes hlen j hj]
  exact mul_inv_cancel₀ (ne_of_gt hpj)

/-- a `true` of the driver's check gives the hypotheses of the `match_1d` theorems -/
theorem tessPair_sound (n o : List Cell) (h : tessPair n o = true) :
    ∃ a xs ys, Tessellates n a xs ∧ Tessellates o a ys ∧ lastOr a xs = lastOr a ys := by
  simp only [tessPair, Bool.and_eq_true, Bool.not_eq_true', decide_eq_true_eq, List.isEmpty_eq_false_iff] at h
  obtain ⟨⟨⟨⟨hn, ho⟩, hne⟩, hoe⟩, hseg⟩ := h
  obtain ⟨c, t, hsn, tn⟩ := isTess_sound n hn hne
  obtain ⟨d, u, hso, tO⟩ := isTess_sound o ho hoe
  unfold segOf at hseg
  rw [hsn, hso] at hseg
  simp only [Prod.mk.injEq] at hseg
  refine ⟨c.1, _, (d :: u).map (·.2), tn, ?_, ?_⟩
  · rw [hseg.1]; exact tO
  · rw [lastOr_map_hi, lastOr_map_hi]; exact hseg.2

theorem wellFormedB_sound (nPrim nSec : Nat) (entries : List Ent) (h : wellFormedB nPrim nSec entries = true) :
    WellFormedMap nPrim nSec entries := by
  simp only [wellFormedB, Bool.and_eq_true, List.all_eq_true, decide_eq_true_eq, List.mem_range,
    List.any_eq_true] at h
  obtain ⟨⟨⟨⟨h1, h2⟩, h3⟩, h4⟩, h5⟩ := h
  exact ⟨h1, h2, h3, h4, fun c hc => h5 c hc⟩

/-- `update_mortar` with checked input: the driver's `tessPair` flag is all that is needed -/
theorem mortar_update_valid_checked (c : Ctx) (s : Side) (newC oldC : List Cell)
    (h : tessPair newC oldC = true) (hn : oldC.length = s.pInt.r) :
    ValidUpd c s c (.mortar (match1d newC oldC .averaged) (match1d newC oldC .integrated)) :=
  mortar_update_valid c s newC oldC (tessPair_sound newC oldC h) hn

theorem secondary_update_valid_checked (c : Ctx) (s : Side) (sideC cells : List Cell)
    (h : tessPair sideC cells = true) (hn : sideC.length = s.pInt.r) :
    ValidUpd c s ⟨c.cov, c.nP, cells.length⟩
      (.secondary (match1d sideC cells .averaged) (match1d sideC cells .integrated)) :=
  secondary_update_valid c s sideC cells (tessPair_sound sideC cells h) hn

theorem face_update_valid_checked (P : Mat) (nNew nS : Nat) (s : Side) (old new : List FaceRec) (b : Bool)
    (h : faceHypsB P nNew old new b = true) :
    ValidUpd ⟨fun f => ∃ r, r ∈ old ∧ r.pos = b ∧ r.idx = f, P.c, nS⟩ s
      ⟨fun g => ∃ r, r ∈ new ∧ r.pos = b ∧ r.idx = g, nNew, nS⟩
      (.primary (faceMatch P nNew old new .averaged) (faceMatch P nNew old new .integrated)) := by
  simp only [faceHypsB, Bool.and_eq_true, List.all_eq_true, decide_eq_true_eq] at h
  obtain ⟨⟨⟨⟨⟨h1, h2⟩, h3⟩, h4⟩, h5⟩, h6⟩ := h
  obtain ⟨a, xs, ys, t1, t2, t3⟩ := tessPair_sound _ _ h6
  exact face_update_valid P nNew nS s old new b h1 h2 h3 h4 h5 a xs ys t1 t2 t3

/-- the vector-valued variants (`nd > 1`) have the row sums of the scalar projection … -/
theorem kron_rowSum (A : Mat) (nd i : Nat) (hi : i < A.r * nd) :
    (A.kron nd).rowSum i = A.rowSum (i / nd) := by
  unfold Mat.rowSum
  show sumTo (A.c * nd) _ = _
  rw [sumTo_mul_blocks]
  exact sumTo_congr _ _ _ (fun j hj => kron_block A nd i j hi hj)

theorem kron_T (A : Mat) (nd : Nat) : (A.kron nd).T = A.T.kron nd := by
  show table (A.c * nd) (A.r * nd) _ = table (A.c * nd) (A.r * nd) _
  apply table_congr
  intro i j hi hj
  unfold Mat.kron
  rw [ent_table _ _ _ j i hj hi]
  have h1 : i / nd < A.c := Nat.div_lt_of_lt_mul (by rw [Nat.mul_comm]; exact hi)
  have h2 : j / nd < A.r := Nat.div_lt_of_lt_mul (by rw [Nat.mul_comm]; exact hj)
  rw [ent_T A _ _ h1 h2]
  by_cases h : i % nd = j % nd
  · rw [if_pos h, if_pos h.symm]
  · rw [if_neg h, if_neg (fun e => h e.symm)]

/-- … and its column sums -/
theorem kron_colSum (A : Mat) (nd j : Nat) (hj : j < A.c * nd) :
    (A.kron nd).colSum j = A.colSum (j / nd) := by
  have h1 : j / nd < A.c := Nat.div_lt_of_lt_mul (by rw [Nat.mul_comm]; exact hj)
  rw [← rowSum_T (A.kron nd) j hj, kron_T, kron_rowSum A.T nd j hj, rowSum_T A _ h1]

section nonvacuity
/-- two tessellations of [0,1]: cells listed in a permuted order / left-to-right -/
def exNew : List Cell := [((1:Rat)/2, 1), (0, 1/4), (1/4, 1/2)]
def exOld : List Cell := [((0:Rat), 1/3), (1/3, 1)]

/-- the examples pass the decidable check, as the driver's cases do -/
theorem exTess : tessPair exNew exOld = true := by decide +kernel

example : (match1d exNew exOld .averaged).rows = [[0, 1], [1, 0], [1/3, 2/3]] := by decide +kernel
example : (match1d exNew exOld .integrated).rows = [[0, 3/4], [3/4, 0], [1/4, 1/4]] := by decide +kernel
example : ∀ i, i < 3 → (match1d exNew exOld .averaged).rowSum i = 1 :=
  match1d_avg_rowsum_one exNew exOld (tessPair_sound _ _ exTess)
example : ∀ j, j < 2 → (match1d exNew exOld .integrated).colSum j = 1 :=
  match1d_int_colsum_one exNew exOld (tessPair_sound _ _ exTess)

/-- hypotheses of the composition theorems are satisfiable with a map that does not cover everything:
    `B` has an uncovered row/column (all zero) that `A` does not reach -/
def exA : Mat := table 2 3 fun i j => if j = 2 then 0 else if i = j then 1 else 0
def exB : Mat := table 3 2 fun i _ => if i = 2 then 0 else (1 : Rat) / 2
example : exA.rowSum 0 = 1 ∧ (∀ k, k < exA.c → exA.ent 0 k ≠ 0 → exB.rowSum k = 1) ∧ exB.rowSum 2 = 0
    ∧ (exA.mul exB).rowSum 0 = 1 := by decide +kernel
example : exA.T.colSum 1 = 1 ∧ (∀ k, k < exB.T.c → exA.T.ent k 1 ≠ 0 → exB.T.colSum k = 1)
    ∧ (exB.T.mul exA.T).colSum 1 = 1 := by decide +kernel

/-- a reachable history: matching side (faces 1,2 of 4; 2 secondary cells), mortar refined to three
    cells, then the secondary replaced by a non-matching two-cell grid -/
def exSide0 : Side := matchingSide 2 4 2 (· + 1) id
def exOld2 : List Cell := [((0:Rat), 1/2), (1/2, 1)]
theorem exTess2 : tessPair exNew exOld2 = true := by decide +kernel

def exCtx : Ctx := ⟨fun j => ∃ i, i < 2 ∧ i + 1 = j, 4, 2⟩

theorem exSide0_inv : SideInv exCtx.cov 4 2 exSide0 :=
  matching_init_sideInv 2 4 2 (· + 1) id (fun i hi => by omega) (fun i k _ _ h => by omega)
    (fun i hi => hi) (fun i k _ _ h => h) (fun j hj => ⟨j, hj, rfl⟩)

theorem exReach : Reachable ⟨exCtx.cov, 4, 2⟩
    ((exSide0.apply (.mortar (match1d exNew exOld2 .averaged) (match1d exNew exOld2 .integrated))).apply
      (.secondary (match1d exNew exOld .averaged) (match1d exNew exOld .integrated))) := by
  refine Reachable.step exCtx _ _ _ (Reachable.step exCtx exCtx _ _ (Reachable.init _ _ ?_) ?_) ?_
  · exact exSide0_inv
  · exact mortar_update_valid_checked exCtx exSide0 exNew exOld2 exTess2 rfl
  · exact secondary_update_valid_checked exCtx _ exNew exOld exTess rfl

/-- … and the stored matrices of a two-sided interface with these blocks on both sides -/
example : updateMortar (stackSides 4 2 [exSide0, exSide0])
    [match1d exNew exOld2 .averaged, Mat.identity 2] [match1d exNew exOld2 .integrated, Mat.identity 2]
    = stackSides 4 2 [exSide0.apply (.mortar (match1d exNew exOld2 .averaged) (match1d exNew exOld2 .integrated)),
                      exSide0.apply (.mortar (Mat.identity 2) (Mat.identity 2))] :=
  stack_update_mortar 4 2 [(exSide0, match1d exNew exOld2 .averaged, match1d exNew exOld2 .integrated),
    (exSide0, Mat.identity 2, Mat.identity 2)] (·.1) (·.2.1) (·.2.2) (by
      intro x hx
      simp only [List.mem_cons, List.not_mem_nil, or_false] at hx
      rcases hx with rfl | rfl <;> exact ⟨exSide0_inv.shaped, rfl, rfl⟩)

example : ((stackSides 4 2 [exSide0, exSide0]).s2mInt.colSum 0 = 2) ∧ exSide0.sInt.colSum 0 = 1 := by decide +kernel
/-- `update_primary` data: faces 1,2 above / 4,5 below the fracture in the old host (6 faces), faces
    1 above / 6,7 below in the new host (8 faces); all hypotheses of `face_update_valid` hold. -/
def exP : Mat := table 4 6 fun i j => if [4, 5, 1, 2].getD i 9 = j then 1 else 0
def exOldF : List FaceRec := [⟨1, true, (0, 1)⟩, ⟨2, true, (1, 2)⟩, ⟨4, false, (0, 1)⟩, ⟨5, false, (1, 2)⟩]
def exNewF : List FaceRec := [⟨1, true, (0, 2)⟩, ⟨6, false, (0, 1/2)⟩, ⟨7, false, (1/2, 2)⟩]

example : (faceMatch exP 8 exOldF exNewF .averaged).rows.getD 4 [] = [0, 0, 0, 0, 0, 0, 1/2, 1/2] ∧
    (faceMatch exP 8 exOldF exNewF .integrated).rows.getD 5 [] = [0, 0, 0, 0, 0, 0, 0, 2/3] := by
  decide +kernel

/-- the model's `update_mortar` step on a two-sided interface: first side refined, second side kept -/
example : (step ⟨stackSides 4 2 [exSide0, exSide0], [exOld2, exOld2], 2⟩ (.mortar [some exNew, none])).proj =
    stackSides 4 2 [exSide0.apply (.mortar (match1d exNew exOld2 .averaged) (match1d exNew exOld2 .integrated)),
                    exSide0.apply (.mortar (Mat.identity 2) (Mat.identity 2))] :=
  step_mortar_stack 4 2 [(exSide0, exOld2, some exNew), (exSide0, exOld2, none)] (by
    intro x hx
    simp only [List.mem_cons, List.not_mem_nil, or_false] at hx
    rcases hx with rfl | rfl <;> exact ⟨exSide0_inv.shaped, rfl⟩)

/-- constructor data of a two-sided interface: secondary cells 0,1; faces 1,2 (side 1) and 4,5 (side 2) of 6 -/
def exEntries : List Ent := [(0, 1, 1), (1, 2, 1), (0, 4, 1), (1, 5, 1)]
theorem exEntries_wf : WellFormedMap 6 2 exEntries := wellFormedB_sound 6 2 exEntries (by decide +kernel)
example : (initBase 2 4 6 2 exEntries none).isSome = true := by decide +kernel
example : (initBase 2 4 6 2 exEntries (some [1, 2])).isSome = true := by decide +kernel
/-- a cell listed once only is rejected (`ValueError`) -/
example : initBase 2 3 6 2 [(0, 1, 1), (1, 2, 1), (0, 4, 1)] none = none := by decide +kernel

/-- a reachable two-sided interface: start, first side refined (second kept), secondary replaced -/
def exM : List (CSide × Mat × Mat) :=
  [((exSide0, exCtx.cov), match1d exNew exOld2 .averaged, match1d exNew exOld2 .integrated),
   ((exSide0, exCtx.cov), Mat.identity 2, Mat.identity 2)]

example : ∃ L pr, IReach 4 2 L pr ∧ L.length = 2 :=
  ⟨_, _, IReach.mortar 4 2 _ exM (IReach.start 4 2 _ (by
      intro x hx
      simp only [exM, List.map_cons, List.map_nil, List.mem_cons, List.not_mem_nil, or_false] at hx
      rcases hx with rfl | rfl <;> exact exSide0_inv)) (by
      intro x hx
      simp only [exM, List.mem_cons, List.not_mem_nil, or_false] at hx
      rcases hx with rfl | rfl
      · exact mortar_update_valid_checked exCtx exSide0 exNew exOld2 exTess2 rfl
      · exact identity_update_valid exCtx exSide0), rfl⟩

/-- nested refinement of the unit square cut into two triangles: a bisection followed by a relabelled
    leaf, and a regular refinement with an interior node in its middle child -/
def exParents : List Tri := [⟨(0, 0), (1, 0), (1, 1)⟩, ⟨(0, 0), (1, 1), (0, 1)⟩]
def exRecipes : List Ref :=
  [.edge (1 / 4) .leaf (.rot .leaf), .red .leaf .leaf .leaf (.centre (1 / 4) (1 / 2) .leaf .leaf .leaf)]

theorem exRecipes_valid : ∀ r ∈ exRecipes, r.Valid := by
  intro r hr
  simp only [exRecipes, List.mem_cons, List.not_mem_nil, or_false] at hr
  rcases hr with rfl | rfl <;> simp only [Ref.Valid] <;> norm_num

theorem exParents_pos : ∀ p ∈ exParents, 0 < area2 p := by
  intro p hp
  simp only [exParents, List.mem_cons, List.not_mem_nil, or_false] at hp
  rcases hp with rfl | rfl <;> simp only [area2] <;> norm_num

example : (kidsFrom 0 exParents exRecipes).length = 8 := by decide +kernel
example : ∀ i, i < 8 → (match2dNested exParents exRecipes .averaged).rowSum i = 1 :=
  fun i hi => match2d_nested_avg_rowsum_one exParents exRecipes exParents_pos exRecipes_valid i hi
example : ∀ j, j < 2 → (match2dNested exParents exRecipes .integrated).colSum j = 1 :=
  fun j hj => match2d_nested_int_colsum_one exParents exRecipes rfl exParents_pos j hj
example : ((match2dNested exParents exRecipes .integrated).rows.map fun r => r.getD 1 0) =
    [0, 0, 1/4, 1/4, 1/4, 1/16, 1/16, 1/8] := by decide +kernel

example : tessPair exNew exOld = true ∧ tessPair exNew [((0:Rat), 1/2)] = false := ⟨exTess, by decide +kernel⟩
example : wellFormedB 6 2 exEntries = true ∧ wellFormedB 6 3 exEntries = false := by decide +kernel

theorem exFaceHyps : faceHypsB exP 8 exOldF exNewF false = true ∧ faceHypsB exP 8 exOldF exNewF true = true := by
  decide +kernel

example : faceHypsB exP 8 exOldF exNewF false = true ∧ faceHypsB exP 8 exOldF exNewF true = true := exFaceHyps

example (s : Side) : ValidUpd ⟨fun f => ∃ r, r ∈ exOldF ∧ r.pos = false ∧ r.idx = f, 6, 2⟩ s
    ⟨fun g => ∃ r, r ∈ exNewF ∧ r.pos = false ∧ r.idx = g, 8, 2⟩
    (.primary (faceMatch exP 8 exOldF exNewF .averaged) (faceMatch exP 8 exOldF exNewF .integrated)) :=
  face_update_valid_checked exP 8 2 s exOldF exNewF false exFaceHyps.1

example : ((exA.kron 2).rowSum 1 = 1) ∧ (exA.kron 2).r = 4 := by decide +kernel

end nonvacuity

end PorepyVerif.C26
