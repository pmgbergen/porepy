/-
C26 — nested triangle refinements: the area of each child of one refinement step as a multiple of the parent's area; hence the
children of any recipe partition the parent (`refine_area`) and keep its orientation (`refine_pos`); the children listed for one
parent carry its area (`kids_sum`).
-/
import PorepyVerif.C26.Lemmas

namespace PorepyVerif.C26

theorem area2_edge_left (t : Tri) (s : Rat) : area2 ⟨t.a, t.b, lerp t.b t.c s⟩ = s * area2 t := by
  simp only [area2, lerp]; ring

theorem area2_edge_right (t : Tri) (s : Rat) : area2 ⟨t.a, lerp t.b t.c s, t.c⟩ = (1 - s) * area2 t := by
  simp only [area2, lerp]; ring

theorem area2_rot (t : Tri) : area2 ⟨t.b, t.c, t.a⟩ = area2 t := by
  simp only [area2]; ring

theorem area2_centre_a (t : Tri) (u v : Rat) : area2 ⟨bary t u v, t.b, t.c⟩ = (1 - u - v) * area2 t := by
  simp only [area2, bary]; ring

theorem area2_centre_b (t : Tri) (u v : Rat) : area2 ⟨t.a, bary t u v, t.c⟩ = u * area2 t := by
  simp only [area2, bary]; ring

theorem area2_centre_c (t : Tri) (u v : Rat) : area2 ⟨t.a, t.b, bary t u v⟩ = v * area2 t := by
  simp only [area2, bary]; ring

theorem area2_red_a (t : Tri) :
    area2 ⟨t.a, lerp t.a t.b (1 / 2), lerp t.c t.a (1 / 2)⟩ = 1 / 4 * area2 t := by
  simp only [area2, lerp]; ring

theorem area2_red_b (t : Tri) :
    area2 ⟨lerp t.a t.b (1 / 2), t.b, lerp t.b t.c (1 / 2)⟩ = 1 / 4 * area2 t := by
  simp only [area2, lerp]; ring

theorem area2_red_c (t : Tri) :
    area2 ⟨lerp t.c t.a (1 / 2), lerp t.b t.c (1 / 2), t.c⟩ = 1 / 4 * area2 t := by
  simp only [area2, lerp]; ring

theorem area2_red_mid (t : Tri) :
    area2 ⟨lerp t.a t.b (1 / 2), lerp t.b t.c (1 / 2), lerp t.c t.a (1 / 2)⟩ = 1 / 4 * area2 t := by
  simp only [area2, lerp]; ring

/-- The children of a nested refinement partition the parent: their (signed) areas add up to the
    parent's area — for every recipe, every triangle. -/
theorem refine_area (r : Ref) : ∀ t : Tri, sumL ((refine r t).map area2) = area2 t := by
  induction r with
  | leaf => intro t; simp [refine, sumL]
  | edge s l r ihl ihr =>
    intro t
    simp only [refine, List.map_append, sumL_append, ihl, ihr, area2_edge_left, area2_edge_right]
    ring
  | rot r ih => intro t; simp only [refine, ih, area2_rot]
  | centre u v r1 r2 r3 ih1 ih2 ih3 =>
    intro t
    simp only [refine, List.map_append, sumL_append, ih1, ih2, ih3, area2_centre_a, area2_centre_b, area2_centre_c]
    ring
  | red r1 r2 r3 r4 ih1 ih2 ih3 ih4 =>
    intro t
    simp only [refine, List.map_append, sumL_append, ih1, ih2, ih3, ih4, area2_red_a, area2_red_b, area2_red_c,
      area2_red_mid]
    ring

theorem pos_of_eq_mul {x k y : Rat} (h : x = k * y) (hk : 0 < k) (hy : 0 < y) : 0 < x := h ▸ mul_pos hk hy

/-- … and all children keep the orientation of the parent (positive area): new nodes strictly inside
    an edge / the triangle never produce degenerate or flipped cells. -/
theorem refine_pos (r : Ref) : ∀ t : Tri, r.Valid → 0 < area2 t → ∀ c ∈ refine r t, 0 < area2 c := by
  induction r with
  | leaf =>
    intro t _ ht c hc
    rw [refine, List.mem_singleton] at hc
    exact hc ▸ ht
  | edge s l r ihl ihr =>
    intro t ⟨hs0, hs1, hl, hr⟩ ht c hc
    rw [refine, List.mem_append] at hc
    rcases hc with hc | hc
    · exact ihl _ hl (pos_of_eq_mul (area2_edge_left t s) hs0 ht) c hc
    · exact ihr _ hr (pos_of_eq_mul (area2_edge_right t s) (sub_pos.mpr hs1) ht) c hc
  | rot r ih =>
    intro t hv ht c hc
    exact ih _ hv (by rw [area2_rot]; exact ht) c hc
  | centre u v r1 r2 r3 ih1 ih2 ih3 =>
    intro t ⟨hu, hv, huv, h1, h2, h3⟩ ht c hc
    simp only [refine, List.mem_append] at hc
    rcases hc with hc | hc | hc
    · exact ih1 _ h1 (pos_of_eq_mul (area2_centre_a t u v) (by linarith) ht) c hc
    · exact ih2 _ h2 (pos_of_eq_mul (area2_centre_b t u v) hu ht) c hc
    · exact ih3 _ h3 (pos_of_eq_mul (area2_centre_c t u v) hv ht) c hc
  | red r1 r2 r3 r4 ih1 ih2 ih3 ih4 =>
    intro t ⟨h1, h2, h3, h4⟩ ht c hc
    simp only [refine, List.mem_append] at hc
    have q : (0 : Rat) < 1 / 4 := by norm_num
    rcases hc with hc | hc | hc | hc
    · exact ih1 _ h1 (pos_of_eq_mul (area2_red_a t) q ht) c hc
    · exact ih2 _ h2 (pos_of_eq_mul (area2_red_b t) q ht) c hc
    · exact ih3 _ h3 (pos_of_eq_mul (area2_red_c t) q ht) c hc
    · exact ih4 _ h4 (pos_of_eq_mul (area2_red_mid t) q ht) c hc

/-- every cell of the refined grid is a child of one of the parents, and carries that parent's index -/
theorem mem_kidsFrom (ps : List Tri) (rs : List Ref) (k : Nat) : ∀ x ∈ kidsFrom k ps rs,
    (∃ p ∈ ps, ∃ r ∈ rs, x.2 ∈ refine r p) ∧ k ≤ x.1 ∧ x.1 < k + ps.length := by
  induction ps generalizing rs k with
  | nil => exact fun x hx => absurd hx List.not_mem_nil
  | cons p ps ih =>
    cases rs with
    | nil => exact fun x hx => absurd hx List.not_mem_nil
    | cons r rs =>
      intro x hx
      rw [kidsFrom, List.mem_append, List.mem_map] at hx
      rcases hx with ⟨c, hc, rfl⟩ | hx
      · exact ⟨⟨p, List.mem_cons_self, r, List.mem_cons_self, hc⟩, Nat.le_refl k,
          Nat.lt_add_of_pos_right (Nat.succ_pos _)⟩
      · obtain ⟨⟨p', hp', r', hr', h⟩, h1, h2⟩ := ih rs (k + 1) x hx
        exact ⟨⟨p', List.mem_cons_of_mem _ hp', r', List.mem_cons_of_mem _ hr', h⟩, Nat.le_of_succ_le h1,
          by rw [List.length_cons, Nat.add_comm _ 1, ← Nat.add_assoc]; exact h2⟩

/-- the children of one parent, numbered `k`, count for parent `j` iff `k = j` -/
theorem sumL_kids_block (j k : Nat) (l : List Tri) :
    sumL ((l.map fun c => (k, c)).map fun x => if x.1 = j then area2 x.2 else 0) =
      if k = j then sumL (l.map area2) else 0 := by
  rw [List.map_map]
  by_cases hk : k = j
  · rw [if_pos hk]; exact congrArg sumL (List.map_congr_left fun c _ => if_pos hk)
  · rw [if_neg hk]; exact sumL_map_eq_zero l _ fun c _ => if_neg hk

/-- the children listed for the `j`-th parent carry exactly its area (parents numbered from `k`) -/
theorem kids_sum (ps : List Tri) (rs : List Ref) (k : Nat) (h : rs.length = ps.length) (j : Nat) (hj : j < ps.length) :
    sumL ((kidsFrom k ps rs).map fun x => if x.1 = k + j then area2 x.2 else 0) = area2 (triAt ps j) := by
  induction ps generalizing rs k j with
  | nil => exact absurd hj (Nat.not_lt_zero j)
  | cons p ps ih =>
    cases rs with
    | nil => nomatch h
    | cons r rs =>
      rw [kidsFrom, List.map_append, sumL_append, sumL_kids_block, refine_area]
      cases j with
      | zero =>
        -- the first parent is meant; the children of the later ones are numbered above `k`
        rw [Nat.add_zero, if_pos rfl, sumL_map_eq_zero _ _ fun x hx =>
          if_neg (Nat.ne_of_gt (mem_kidsFrom ps rs (k + 1) x hx).2.1), add_zero]
        rfl
      | succ j =>
        have ih := ih rs (k + 1) (Nat.succ.inj h) j (Nat.lt_of_succ_lt_succ hj)
        rw [Nat.add_assoc, Nat.add_comm 1 j] at ih
        rw [if_neg (Nat.ne_of_lt (Nat.lt_add_of_pos_right (Nat.succ_pos j))), zero_add, ih]
        rfl

end PorepyVerif.C26
