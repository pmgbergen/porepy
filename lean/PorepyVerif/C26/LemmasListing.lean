/-
C26 — the listing `_init_projections` builds: the stable sort and the side order are permutations of the entries; the sorted keys of
a two-sided listing are `0,0,1,1,…` (both lists are sorted with the same counts), so each side lists the secondary cells in order;
rows of a listing of a well-formed map form a matching side that satisfies the invariant (`listing_sideInv`).
-/
import PorepyVerif.C26.Lemmas
import PorepyVerif.Common.InsSort

namespace PorepyVerif.C26

theorem insSort : Common.InsSort (fun a b : Ent => a.1 ≤ b.1) insertBySec sortBySec :=
  .of_ite Nat.le_trans Nat.le_of_not_le (fun _ => rfl) (fun _ _ _ => rfl) rfl (fun _ _ => rfl)

theorem evens_odds_perm {α : Type} : ∀ l : List α, (evens l ++ odds l).Perm l
  | [] => List.Perm.refl _
  | [a] => List.Perm.refl _
  | a :: b :: l => by
    simp only [evens, odds, List.cons_append]
    exact (List.perm_middle.cons a).trans (((evens_odds_perm l).cons b).cons a)

/-- `[a, a, a+1, a+1, …]` (`k` pairs) -/
def dblFrom : Nat → Nat → List Nat
  | _, 0 => []
  | a, k + 1 => a :: a :: dblFrom (a + 1) k

theorem count_dblFrom : ∀ (k a c : Nat), (dblFrom a k).count c = if a ≤ c ∧ c < a + k then 2 else 0
  | 0, a, c => by rw [dblFrom, List.count_nil, if_neg fun h => absurd h.2 (Nat.not_lt.mpr h.1)]
  | k + 1, a, c => by
    rw [dblFrom]
    by_cases h : a = c
    · subst h
      rw [List.count_cons_self, List.count_cons_self, count_dblFrom k (a + 1) a,
        if_neg fun h => Nat.not_succ_le_self a h.1, if_pos ⟨Nat.le_refl a, Nat.lt_add_of_pos_right (Nat.succ_pos k)⟩]
    · rw [List.count_cons_of_ne h, List.count_cons_of_ne h, count_dblFrom k (a + 1) c]
      exact if_congr (by omega) rfl rfl

theorem dblFrom_sorted : ∀ (k a : Nat), (dblFrom a k).Pairwise (· ≤ ·)
  | 0, _ => List.Pairwise.nil
  | k + 1, a => by
    have hge : ∀ x ∈ dblFrom (a + 1) k, a ≤ x := fun x hx => by
      have := List.count_pos_iff.mpr hx
      rw [count_dblFrom] at this
      split at this <;> omega
    exact List.pairwise_cons.mpr ⟨fun x hx => by
        rcases List.mem_cons.mp hx with rfl | hx
        · exact Nat.le_refl _
        · exact hge x hx,
      List.pairwise_cons.mpr ⟨hge, dblFrom_sorted k (a + 1)⟩⟩

theorem evens_dblFrom : ∀ (k a : Nat), evens (dblFrom a k) = List.range' a k
  | 0, _ => rfl
  | k + 1, a => by simp only [dblFrom, evens, evens_dblFrom k (a + 1), List.range'_succ]

theorem odds_dblFrom : ∀ (k a : Nat), odds (dblFrom a k) = List.range' a k
  | 0, _ => rfl
  | k + 1, a => by simp only [dblFrom, odds, odds_dblFrom k (a + 1), List.range'_succ]

theorem evens_map {α β : Type} (f : α → β) : ∀ l : List α, (evens l).map f = evens (l.map f)
  | [] => rfl
  | [_] => rfl
  | a :: b :: l => by simp only [evens, List.map_cons, evens_map f l]

theorem odds_map {α β : Type} (f : α → β) : ∀ l : List α, (odds l).map f = odds (l.map f)
  | [] => rfl
  | [_] => rfl
  | a :: b :: l => by simp only [odds, List.map_cons, odds_map f l]

theorem countSec_eq_count (c : Nat) (l : List Ent) : countSec c l = (l.map (·.1)).count c := by
  rw [List.count_eq_countP, List.countP_map, List.countP_eq_length_filter]
  rfl

theorem countSec_perm (c : Nat) {l l' : List Ent} (h : l.Perm l') : countSec c l = countSec c l' := by
  unfold countSec
  exact (h.filter _).length_eq

theorem le_foldl_maxSec : ∀ (l : List Ent) (m : Nat),
    m ≤ l.foldl (fun m t => if m < t.1 then t.1 else m) m ∧
    ∀ t ∈ l, t.1 ≤ l.foldl (fun m t => if m < t.1 then t.1 else m) m
  | [], m => ⟨Nat.le_refl m, fun _ ht => nomatch ht⟩
  | a :: l, m => by
    rw [List.foldl_cons]
    have hm : m ≤ (if m < a.1 then a.1 else m) ∧ a.1 ≤ (if m < a.1 then a.1 else m) := by split <;> omega
    obtain ⟨h1, h2⟩ := le_foldl_maxSec l (if m < a.1 then a.1 else m)
    refine ⟨Nat.le_trans hm.1 h1, fun t ht => ?_⟩
    rcases List.mem_cons.mp ht with rfl | ht
    · exact Nat.le_trans hm.2 h1
    · exact h2 t ht

theorem le_maxSecOf (l : List Ent) : ∀ t ∈ l, t.1 ≤ maxSecOf l := (le_foldl_maxSec l 0).2

theorem initBase_inv (nsides numCells nPrim nSec : Nat) (entries : List Ent) (dup : Option (List Nat)) (P S : Mat)
    (h : initBase nsides numCells nPrim nSec entries dup = some (P, S)) :
    countsOk nsides (dupOrder nsides entries dup) = true ∧
    (sideOrder nsides (sortBySec (dupOrder nsides entries dup))).length = numCells ∧
    P = pTable numCells nPrim (sideOrder nsides (sortBySec (dupOrder nsides entries dup))) ∧
    S = sTable numCells nSec (sideOrder nsides (sortBySec (dupOrder nsides entries dup))) := by
  unfold initBase at h
  simp only [] at h
  split at h
  · cases h
  · rename_i h1
    split at h
    · cases h
    · rename_i h2
      simp only [Option.some.injEq, Prod.mk.injEq] at h
      refine ⟨by simpa using h1, by simpa using h2, h.1.symm, h.2.symm⟩

theorem dupOrder_perm (nsides : Nat) (entries : List Ent) (dup : Option (List Nat)) :
    (dupOrder nsides entries dup).Perm entries := by
  unfold dupOrder
  cases dup with
  | none => exact List.Perm.refl _
  | some d =>
    simp only
    split
    · exact List.perm_append_comm.trans (List.filter_append_perm _ entries)
    · exact List.Perm.refl _

theorem sideOrder_perm (nsides : Nat) (l : List Ent) : (sideOrder nsides l).Perm l := by
  unfold sideOrder
  split
  · exact evens_odds_perm l
  · exact List.Perm.refl _

theorem ordered_perm (nsides : Nat) (entries : List Ent) (dup : Option (List Nat)) :
    (sideOrder nsides (sortBySec (dupOrder nsides entries dup))).Perm entries :=
  (sideOrder_perm _ _).trans ((insSort.perm _).trans (dupOrder_perm _ _ _))

/-- keys of the sorted two-sided listing are `0,0,1,1,…`: both lists are sorted and contain every
    `c < nSec` exactly twice and nothing else -/
theorem sorted_keys_two (nSec : Nat) (e1 : List Ent) (hsec : ∀ t ∈ e1, t.1 < nSec)
    (hall : ∀ c, c < nSec → ∃ t ∈ e1, t.1 = c) (hok : countsOk 2 e1 = true) :
    (sortBySec e1).map (·.1) = dblFrom 0 nSec := by
  have hcnt : ∀ c, c < maxSecOf e1 + 1 → countSec c e1 = 2 := by
    simpa [countsOk] using hok
  refine List.Perm.eq_of_pairwise (fun a b _ _ => Nat.le_antisymm) (List.pairwise_map.2 (insSort.sorted e1)) (dblFrom_sorted _ _)
    (List.perm_iff_count.mpr fun c => ?_)
  rw [count_dblFrom, ← countSec_eq_count, countSec_perm c (insSort.perm e1)]
  rw [Nat.zero_add]
  by_cases hc : c < nSec
  · obtain ⟨t, ht, e⟩ := hall c hc
    rw [if_pos ⟨Nat.zero_le c, hc⟩, hcnt c (Nat.lt_succ_of_le (e ▸ le_maxSecOf e1 t ht))]
  · rw [if_neg fun h => hc h.2]
    exact List.length_eq_zero_iff.mpr (List.filter_eq_nil_iff.mpr fun t ht h =>
      hc (of_decide_eq_true h ▸ hsec t ht))

theorem getD_fst_of_map (l : List Ent) (d : Ent) (ks : List Nat) (h : l.map (·.1) = ks) (i : Nat) (hi : i < l.length) :
    (l.getD i d).1 = ks.getD i 0 :=
  h ▸ (Common.getD_map_of_lt (·.1) hi 0 d).symm

theorem getD_range' (a n i : Nat) (hi : i < n) : (List.range' a n).getD i 0 = a + i := by
  simp [List.getD_eq_getElem?_getD, hi]

theorem sideOrder_two (l : List Ent) : sideOrder 2 l = evens l ++ odds l := if_pos rfl

/-- a sorted two-sided listing with keys `0,0,1,1,…`, put in side order: both sides list the
    secondary cells `0, …, nSec - 1` in order -/
theorem side_keys (sorted : List Ent) (nSec : Nat) (d : Ent) (hk : sorted.map (·.1) = dblFrom 0 nSec) :
    (evens sorted).length = nSec ∧ (odds sorted).length = nSec ∧
    (∀ i, i < nSec → ((evens sorted ++ odds sorted).getD i d).1 = i) ∧
    (∀ i, i < nSec → ((evens sorted ++ odds sorted).getD (nSec + i) d).1 = i) := by
  have he : (evens sorted).map (·.1) = List.range' 0 nSec := by rw [evens_map, hk, evens_dblFrom]
  have ho : (odds sorted).map (·.1) = List.range' 0 nSec := by rw [odds_map, hk, odds_dblFrom]
  have le : (evens sorted).length = nSec := by rw [← List.length_map (·.1), he, List.length_range']
  have lo : (odds sorted).length = nSec := by rw [← List.length_map (·.1), ho, List.length_range']
  refine ⟨le, lo, ?_, ?_⟩
  · intro i hi
    rw [Common.getD_append_left _ _ (le.symm ▸ hi), getD_fst_of_map _ d _ he i (le.symm ▸ hi), getD_range' 0 nSec i hi,
      Nat.zero_add]
  · intro i hi
    rw [Common.getD_append_right _ _ (le.symm ▸ Nat.le_add_right nSec i), le, Nat.add_sub_cancel_left,
      getD_fst_of_map _ d _ ho i (lo.symm ▸ hi), getD_range' 0 nSec i hi, Nat.zero_add]

/-- with unit data, `pTable` / `sTable` are the 0/1 tables of the primary / secondary indices -/
theorem pTable_unit (n nP : Nat) (l : List Ent) (hd : ∀ i, i < n → (l.getD i (0, 0, 0)).2.2 = 1) :
    pTable n nP l = table n nP fun i j => if (l.getD i (0, 0, 0)).2.1 = j then 1 else 0 :=
  table_congr _ _ _ _ fun i j hi _ => by
    show (if _ then (l.getD i (0, 0, 0)).2.2 else 0) = _
    rw [hd i hi]

theorem sTable_unit (n nS : Nat) (l : List Ent) (hd : ∀ i, i < n → (l.getD i (0, 0, 0)).2.2 = 1) :
    sTable n nS l = table n nS fun i j => if (l.getD i (0, 0, 0)).1 = j then 1 else 0 :=
  table_congr _ _ _ _ fun i j hi _ => by
    show (if _ then (l.getD i (0, 0, 0)).2.2 else 0) = _
    rw [hd i hi]

theorem matching_init_sideInv (n nP nS : Nat) (pf sf : Nat → Nat)
    (hpf : ∀ i, i < n → pf i < nP) (hpinj : ∀ i k, i < n → k < n → pf i = pf k → i = k)
    (hsf : ∀ i, i < n → sf i < nS) (hsinj : ∀ i k, i < n → k < n → sf i = sf k → i = k)
    (hsurj : ∀ j, j < nS → ∃ i, i < n ∧ sf i = j) :
    SideInv (fun j => ∃ i, i < n ∧ pf i = j) nP nS (matchingSide n nP nS pf sf) := by
  exact {
    pInt_c := rfl, pAvg_c := rfl, sInt_c := rfl, sAvg_c := rfl, pAvg_r := rfl, sInt_r := rfl, sAvg_r := rfl
    pAvg_row := fun i hi => indTable_rowSum n nP pf i hi (hpf i hi)
    pAvg_supp := fun i j hj => indTable_ent_zero n nP pf i j (fun k hk e => hj ⟨k, hk, e⟩)
    pInt_col := fun j hj ⟨i0, hi0, e0⟩ =>
      indTable_colSum n nP pf j i0 hj hi0 e0 (fun i hi e => hpinj i i0 hi hi0 (e.trans e0.symm))
    pInt_supp := fun i j hj => indTable_ent_zero n nP pf i j (fun k hk e => hj ⟨k, hk, e⟩)
    sAvg_row := fun i hi => indTable_rowSum n nS sf i hi (hsf i hi)
    sInt_col := fun j hj => by
      obtain ⟨i0, hi0, e0⟩ := hsurj j hj
      exact indTable_colSum n nS sf j i0 hj hi0 e0 (fun i hi e => hsinj i i0 hi hi0 (e.trans e0.symm)) }

/-- Rows `idx 0, …, idx (n-1)` of a listing `l` of the entries of a well-formed map form a matching
    side, provided their secondary indices are `0, …, nSec - 1`, each once. -/
theorem listing_sideInv {nPrim nSec : Nat} {entries l : List Ent} (wf : WellFormedMap nPrim nSec entries)
    (hperm : l.Perm entries) (n : Nat) (idx : Nat → Nat) (hidx : ∀ i, i < n → idx i < l.length)
    (hinj : ∀ i k, i < n → k < n → idx i = idx k → i = k)
    (hsinj : ∀ i k, i < n → k < n → (l.getD (idx i) (0, 0, 0)).1 = (l.getD (idx k) (0, 0, 0)).1 → i = k)
    (hsurj : ∀ j, j < nSec → ∃ i, i < n ∧ (l.getD (idx i) (0, 0, 0)).1 = j) :
    SideInv (fun j => ∃ i, i < n ∧ (l.getD (idx i) (0, 0, 0)).2.1 = j) nPrim nSec
      (matchingSide n nPrim nSec (fun i => (l.getD (idx i) (0, 0, 0)).2.1)
        (fun i => (l.getD (idx i) (0, 0, 0)).1)) := by
  have hin : ∀ i, i < n → l.getD (idx i) (0, 0, 0) ∈ entries := fun i hi =>
    hperm.mem_iff.mp (getD_mem l _ _ (hidx i hi))
  exact matching_init_sideInv n nPrim nSec _ _
    (fun i hi => wf.prim _ (hin i hi))
    (fun i k hi hk e => hinj i k hi hk
      (getD_inj_of_map_nodup (·.2.1) l _ ((hperm.map _).nodup_iff.mpr wf.nodup) _ _ (hidx i hi) (hidx k hk) e))
    (fun i hi => wf.sec _ (hin i hi)) hsinj hsurj

end PorepyVerif.C26
