/-
C06 — the request parser: a request that parses gives the blocks of its selection `Request.sel` (the last entry
naming an equation wins, equations in the order of setting), and what the result does not depend on (order of the
items, equations that are removed and not named).
-/
import PorepyVerif.C06.LemmasBasic

namespace PorepyVerif.C06

theorem lookup_reverse_append (name : Nat) (l d : List (Nat × β)) :
    lookup name (l.reverse ++ d) =
      (match lastFor name l with
        | some v => some v
        | none => lookup name d) := by
  induction l generalizing d with
  | nil => rfl
  | cons p l ih =>
    rw [List.reverse_cons, List.append_assoc, List.singleton_append, ih]
    simp only [lastFor]
    cases lastFor name l with
    | some w => rfl
    | none =>
      simp only [lookup]
      split <;> rfl

theorem lastFor_map_val (name : Nat) (f : Nat → β → γ) (l : List (Nat × β)) :
    lastFor name (l.map (fun p => (p.1, f p.1 p.2))) = (lastFor name l).map (f name) := by
  induction l with
  | nil => rfl
  | cons p l ih =>
    simp only [List.map_cons, lastFor, ih]
    cases lastFor name l with
    | some w => rfl
    | none =>
      simp only [Option.map_none]
      split
      · rename_i h; subst h; rfl
      · rfl

theorem lastFor_append (name : Nat) (l1 l2 : List (Nat × β)) :
    lastFor name (l1 ++ l2) =
      (match lastFor name l2 with
        | some v => some v
        | none => lastFor name l1) := by
  induction l1 with
  | nil => show lastFor name l2 = _; cases lastFor name l2 <;> rfl
  | cons p l ih =>
    simp only [List.cons_append, lastFor, ih]
    cases lastFor name l2 <;> rfl

/-- image of the equation called `n` -/
def imageOf (sys : Sys) (n : Nat) : List (GridId × List Nat) :=
  match findEq sys.eqs n with
  | some e => e.image
  | none => []

/-- flattened entries with the grid lists turned into local row numbers -/
def resolve (sys : Sys) (entries : List (Nat × Option (List GridId))) : Blocks :=
  entries.map (fun p => (p.1, p.2.map (localRows (imageOf sys p.1))))

theorem resolve_append (sys : Sys) (a b : List (Nat × Option (List GridId))) :
    resolve sys (a ++ b) = resolve sys a ++ resolve sys b := by
  simp only [resolve, List.map_append]

theorem parseEntry_ok (sys : Sys) (k : Key) (gs : List GridId) (p : Nat × Option (List Nat))
    (h : parseEntry sys k gs = .ok p) :
    ∃ n, k.name? = some n ∧ p = (n, some (localRows (imageOf sys n) gs)) := by
  unfold parseEntry at h
  split at h
  · cases h
  · rename_i n hn
    split at h
    · cases h
    · rename_i e he
      split at h
      · cases h
        exact ⟨n, hn, by simp [imageOf, he]⟩
      · cases h

theorem parseEntries_ok (sys : Sys) (es : List (Key × List GridId)) (ps : Blocks)
    (h : parseEntries sys es = .ok ps) : ps = resolve sys (Request.dict es).entries := by
  induction es generalizing ps with
  | nil =>
    simp only [parseEntries] at h
    cases h
    rfl
  | cons kg es ih =>
    obtain ⟨k, gs⟩ := kg
    simp only [parseEntries] at h
    split at h
    · cases h
    · rename_i p hp
      split at h
      · cases h
      · rename_i ps' hps
        cases h
        obtain ⟨n, hn, rfl⟩ := parseEntry_ok sys k gs p hp
        rw [ih ps' hps]
        simp [Request.entries, resolve, hn]

theorem parseSingle_ok (sys : Sys) (it : Item) (b : Blocks) (h : parseSingle sys it = .ok b) :
    b = resolve sys it.entries := by
  cases it with
  | key k =>
    simp only [parseSingle] at h
    split at h
    · cases h
    · rename_i n hn
      split at h
      · cases h
        simp [Item.entries, hn, resolve]
      · cases h
  | dict es =>
    simp only [parseSingle] at h
    exact parseEntries_ok sys es b h

theorem parseItems_ok (sys : Sys) (items : List Item) (d d' : Blocks)
    (h : parseItems sys d items = .ok d') :
    d' = (resolve sys (items.flatMap Item.entries)).reverse ++ d := by
  induction items generalizing d with
  | nil =>
    simp only [parseItems] at h
    cases h
    rfl
  | cons it rest ih =>
    simp only [parseItems] at h
    split at h
    · cases h
    · rename_i b hb
      rw [ih _ h, parseSingle_ok sys it b hb]
      simp [update, resolve_append, List.reverse_append]

theorem findEq_of_mem (eqs : List Equation) (hn : (eqs.map (·.name)).Nodup) (e : Equation)
    (he : e ∈ eqs) : findEq eqs e.name = some e := by
  induction eqs with
  | nil => cases he
  | cons a l ih =>
    simp only [List.map_cons, List.nodup_cons] at hn
    simp only [findEq]
    rcases List.mem_cons.mp he with rfl | h
    · rw [if_pos rfl]
    · have hne : a.name ≠ e.name := by
        intro hh
        apply hn.1
        rw [hh]
        exact List.mem_map.mpr ⟨e, h, rfl⟩
      rw [if_neg hne]
      exact ih hn.2 h

theorem lookup_resolved (sys : Sys) (hinv : sys.Inv) (e : Equation) (he : e ∈ sys.eqs)
    (ents : List (Nat × Option (List GridId))) :
    lookup e.name (resolve sys ents).reverse =
      (lastFor e.name ents).map (fun og => og.map (localRows e.image)) := by
  rw [← List.append_nil (List.reverse _), lookup_reverse_append]
  have h3 := lastFor_map_val e.name
    (fun n (og : Option (List GridId)) => og.map (localRows (imageOf sys n))) ents
  unfold resolve
  rw [h3]
  have h2 : imageOf sys e.name = e.image := by
    simp [imageOf, findEq_of_mem sys.eqs hinv.1 e he]
  rw [h2]
  cases lastFor e.name ents <;> rfl

theorem entries_of_dict_items (es : List (Key × List GridId)) :
    (es.map (fun p => Item.dict [p])).flatMap Item.entries = (Request.dict es).entries := by
  induction es with
  | nil => rfl
  | cons p es ih =>
    simp only [List.map_cons, List.flatMap_cons, ih, Request.entries, List.filterMap_cons, Item.entries,
      List.filterMap_nil]
    cases p.1.name? <;> rfl

theorem localRows_sublist (img : List (GridId × List Nat)) (gs : List GridId) :
    (localRows img gs).Sublist (img.flatMap (·.2)) := by
  induction img with
  | nil => exact List.Sublist.refl _
  | cons p rest ih =>
    simp only [localRows, List.flatMap_cons]
    split
    · exact List.Sublist.append (List.Sublist.refl _) ih
    · exact List.Sublist.trans ih (List.sublist_append_right _ _)

theorem localRows_congr (img : List (GridId × List Nat)) (gs1 gs2 : List GridId)
    (h : ∀ g, g ∈ gs1 ↔ g ∈ gs2) : localRows img gs1 = localRows img gs2 := by
  induction img with
  | nil => rfl
  | cons p rest ih =>
    simp only [localRows, ih]
    by_cases hp : p.1 ∈ gs1
    · rw [if_pos hp, if_pos ((h _).mp hp)]
    · rw [if_neg hp, if_neg (fun h2 => hp ((h _).mpr h2))]

theorem eq_of_map_map_eq_some_some {o : Option (Option α)} {f : α → β} {b : β}
    (h : o.map (fun og => og.map f) = some (some b)) : ∃ a, b = f a := by
  cases o with
  | none => cases h
  | some og =>
    cases og with
    | none => cases h
    | some a => cases h; exact ⟨a, rfl⟩

theorem sel_sublist (sys : Sys) (req : Request) (hinv : sys.Inv)
    (e : Equation) (he : e ∈ sys.eqs) (idx : List Nat)
    (h : req.sel e = some (some idx)) : idx.Sublist (List.range e.total) := by
  have hsub : ∃ gs, idx = localRows e.image gs := by
    cases req with
    | all => cases h
    | list items => exact eq_of_map_map_eq_some_some h
    | dict es => exact eq_of_map_map_eq_some_some h
  obtain ⟨gs, rfl⟩ := hsub
  have hi : e.image.flatMap (·.2) = List.range e.total := hinv.2 e he
  rw [← hi]
  exact localRows_sublist e.image gs

theorem lastFor_perm (name : Nat) (l1 l2 : List (Nat × β)) (hp : l1.Perm l2)
    (hn : (l1.map (·.1)).Nodup) : lastFor name l1 = lastFor name l2 := by
  induction hp with
  | nil => rfl
  | cons p _ ih => simp only [lastFor, ih (List.nodup_cons.mp hn).2]
  | swap a b l =>
    -- two neighbours have different keys, so at most one of them is an entry for `name`
    have hab : b.1 ≠ a.1 := fun h => (List.nodup_cons.mp hn).1 (List.mem_cons.mpr (Or.inl h))
    simp only [lastFor]
    cases lastFor name l with
    | some w => rfl
    | none =>
      by_cases ha : a.1 = name
      · simp only [ha, if_true, if_neg (ha ▸ hab)]
      · simp only [if_neg ha]
        split <;> rfl
  | trans h1 _ ih1 ih2 => exact (ih1 hn).trans (ih2 ((h1.map _).nodup_iff.mp hn))

theorem parseItems_isOk (sys : Sys) (items : List Item) :
    ∀ d, (∃ d', parseItems sys d items = .ok d') ↔ ∀ it ∈ items, ∃ b, parseSingle sys it = .ok b := by
  induction items with
  | nil => intro d; exact ⟨fun _ _ h => (nomatch h), fun _ => ⟨d, rfl⟩⟩
  | cons it rest ih =>
    intro d
    simp only [parseItems, List.mem_cons, forall_eq_or_imp]
    cases hs : parseSingle sys it with
    | error e => simp
    | ok b =>
      simp only [Except.ok.injEq, exists_eq', true_and]
      exact ih (update d b)

theorem blocksOf_all (es : List Equation) :
    blocksOf Request.all.sel es = es.map (fun e => (e.name, none)) :=
  congrFun (List.filterMap_eq_map' (f := fun e : Equation => (e.name, (none : Option (List Nat))))) es

/-- What the re-ordering loop of `_parse_equations` makes of the collected dictionary: for each
    equation, in the order of setting, the last entry naming it. -/
theorem orderBlocks_parseItems (sys : Sys) (hinv : sys.Inv) (items : List Item) (d : Blocks)
    (hd : parseItems sys [] items = .ok d) :
    orderBlocks sys.eqs d = sys.eqs.filterMap (fun e =>
      ((lastFor e.name (items.flatMap Item.entries)).map
        (fun og => og.map (localRows e.image))).map (fun r => (e.name, r))) := by
  rw [parseItems_ok sys items [] d hd, List.append_nil]
  refine filterMap_congr _ (fun e he => ?_)
  rw [lookup_resolved sys hinv e he]

theorem parse_blocks (sys : Sys) (hinv : sys.Inv) (req : Request) (blocks : Blocks)
    (h : parseEquations sys req = .ok blocks) : blocks = blocksOf req.sel sys.eqs := by
  cases req with
  | all =>
    cases h
    exact (blocksOf_all sys.eqs).symm
  | list items =>
    simp only [parseEquations] at h
    split at h
    · cases h
    · rename_i d hd
      cases h
      exact orderBlocks_parseItems sys hinv items d hd
  | dict es =>
    simp only [parseEquations] at h
    split at h
    · cases h
    · rename_i d hd
      cases h
      rw [orderBlocks_parseItems sys hinv _ d hd, entries_of_dict_items]
      rfl

theorem parse_list_iff (sys : Sys) (hinv : sys.Inv) (items : List Item) (b : Blocks) :
    parseEquations sys (.list items) = .ok b ↔
      (∃ d, parseItems sys [] items = .ok d) ∧ b = blocksOf (Request.list items).sel sys.eqs := by
  constructor
  · intro h
    refine ⟨?_, parse_blocks sys hinv _ b h⟩
    simp only [parseEquations] at h
    cases hd : parseItems sys [] items with
    | error e => rw [hd] at h; cases h
    | ok d => exact ⟨d, rfl⟩
  · rintro ⟨⟨d, hd⟩, rfl⟩
    have h : parseEquations sys (.list items) = .ok (orderBlocks sys.eqs d) := by
      simp only [parseEquations, hd]
    rw [h, parse_blocks sys hinv _ _ h]

theorem findEq_filter (eqs : List Equation) (name n : Nat) (h : n ≠ name) :
    findEq (eqs.filter (fun e => e.name ≠ name)) n = findEq eqs n := by
  induction eqs with
  | nil => rfl
  | cons a l ih =>
    by_cases ha : a.name = name
    · have h1 : decide (a.name ≠ name) = false := decide_eq_false (fun hh => hh ha)
      have h2 : a.name ≠ n := fun hh => h (by rw [← hh, ha])
      simp only [List.filter_cons, h1, Bool.false_eq_true, ↓reduceIte, findEq, if_neg h2]
      exact ih
    · have h1 : decide (a.name ≠ name) = true := decide_eq_true ha
      simp only [List.filter_cons, h1, ↓reduceIte, findEq, ih]

theorem hasEq_filter (sys sys' : Sys) (name n : Nat) (h : n ≠ name)
    (hs : sys'.eqs = sys.eqs.filter (fun e => e.name ≠ name)) : sys'.hasEq n = sys.hasEq n := by
  rw [Bool.eq_iff_iff, hasEq_iff, hasEq_iff, hs]
  simp only [List.mem_map, List.mem_filter, decide_eq_true_eq]
  constructor
  · rintro ⟨e, ⟨he, _⟩, hn⟩; exact ⟨e, he, hn⟩
  · rintro ⟨e, he, hn⟩; exact ⟨e, ⟨he, by rw [hn]; exact h⟩, hn⟩

theorem parseEntry_filter (sys sys' : Sys) (name : Nat)
    (hs : sys'.eqs = sys.eqs.filter (fun e => e.name ≠ name)) (k : Key) (gs : List GridId)
    (hk : k.name? ≠ some name) : parseEntry sys' k gs = parseEntry sys k gs := by
  unfold parseEntry
  cases hn : k.name? with
  | none => rfl
  | some n =>
    have : n ≠ name := fun hh => hk (by rw [hn, hh])
    simp only [hs, findEq_filter sys.eqs name n this]

theorem parseEntries_filter (sys sys' : Sys) (name : Nat)
    (hs : sys'.eqs = sys.eqs.filter (fun e => e.name ≠ name)) (es : List (Key × List GridId))
    (hk : ∀ p ∈ es, p.1.name? ≠ some name) : parseEntries sys' es = parseEntries sys es := by
  induction es with
  | nil => rfl
  | cons p es ih =>
    obtain ⟨k, gs⟩ := p
    simp only [parseEntries]
    rw [parseEntry_filter sys sys' name hs k gs (hk (k, gs) List.mem_cons_self),
      ih (fun q hq => hk q (List.mem_cons_of_mem _ hq))]

theorem parseSingle_filter (sys sys' : Sys) (name : Nat)
    (hs : sys'.eqs = sys.eqs.filter (fun e => e.name ≠ name)) (it : Item)
    (hk : name ∉ it.entries.map (·.1)) : parseSingle sys' it = parseSingle sys it := by
  cases it with
  | key k =>
    simp only [parseSingle]
    cases hn : k.name? with
    | none => rfl
    | some n =>
      have : n ≠ name := fun hh => hk (by simp [Item.entries, hn, hh])
      simp only [hasEq_filter sys sys' name n this hs]
  | dict es =>
    refine parseEntries_filter sys sys' name hs es (fun p hp hpn => hk ?_)
    exact List.mem_map.mpr ⟨(name, some p.2), List.mem_filterMap.mpr ⟨p, hp, by rw [hpn]; rfl⟩, rfl⟩

theorem parseItems_filter (sys sys' : Sys) (name : Nat)
    (hs : sys'.eqs = sys.eqs.filter (fun e => e.name ≠ name)) (items : List Item) :
    ∀ d, name ∉ (items.flatMap Item.entries).map (·.1) →
      parseItems sys' d items = parseItems sys d items := by
  induction items with
  | nil => intro d _; rfl
  | cons it rest ih =>
    intro d hk
    rw [List.flatMap_cons, List.map_append, List.mem_append, not_or] at hk
    simp only [parseItems]
    rw [parseSingle_filter sys sys' name hs it hk.1]
    cases parseSingle sys it with
    | error e => rfl
    | ok b => exact ih _ hk.2

theorem lastFor_none_of_not_mem (name : Nat) (l : List (Nat × β)) (h : name ∉ l.map (·.1)) :
    lastFor name l = none := by
  induction l with
  | nil => rfl
  | cons p l ih =>
    simp only [List.map_cons, List.mem_cons, not_or] at h
    simp only [lastFor, ih h.2]
    rw [if_neg (fun hh => h.1 hh.symm)]

theorem orderBlocks_filter (eqs : List Equation) (name : Nat) (d : Blocks)
    (h : lookup name d = none) :
    orderBlocks (eqs.filter (fun e => e.name ≠ name)) d = orderBlocks eqs d := by
  unfold orderBlocks
  induction eqs with
  | nil => rfl
  | cons a l ih =>
    by_cases ha : a.name = name
    · have h1 : decide (a.name ≠ name) = false := decide_eq_false (fun hh => hh ha)
      rw [List.filter_cons, h1]
      simp only [Bool.false_eq_true, ↓reduceIte, List.filterMap_cons, ha, h, Option.map_none]
      exact ih
    · have h1 : decide (a.name ≠ name) = true := decide_eq_true ha
      simp only [List.filter_cons, h1, ↓reduceIte, List.filterMap_cons, ih]

theorem resolve_names (sys : Sys) (ents : List (Nat × Option (List GridId))) :
    (resolve sys ents).map (·.1) = ents.map (·.1) := by
  unfold resolve
  rw [List.map_map]
  rfl

theorem parse_list_filter (sys sys' : Sys) (name : Nat)
    (hs : sys'.eqs = sys.eqs.filter (fun e => e.name ≠ name)) (items : List Item)
    (hn : name ∉ (items.flatMap Item.entries).map (·.1)) :
    parseEquations sys' (.list items) = parseEquations sys (.list items) := by
  simp only [parseEquations]
  rw [parseItems_filter sys sys' name hs items [] hn]
  cases hd : parseItems sys [] items with
  | error e => rfl
  | ok d =>
    -- the collected dictionary has no entry for `name`, so dropping `name` from the order is harmless
    have hl : lookup name d = none := by
      rw [parseItems_ok sys items [] d hd, lookup_reverse_append,
        lastFor_none_of_not_mem name _ (by rw [resolve_names]; exact hn)]
      rfl
    simp only
    rw [hs, orderBlocks_filter sys.eqs name d hl]

theorem parse_dict_filter (sys sys' : Sys) (name : Nat)
    (hs : sys'.eqs = sys.eqs.filter (fun e => e.name ≠ name)) (es : List (Key × List GridId))
    (hn : name ∉ (Request.dict es).entries.map (·.1)) :
    parseEquations sys' (.dict es) = parseEquations sys (.dict es) :=
  parse_list_filter sys sys' name hs (es.map (fun p => Item.dict [p]))
    (by rw [entries_of_dict_items]; exact hn)

theorem lastFor_const (name : Nat) (v : β) (k : α → Nat) (l : List α) :
    lastFor name (l.map (fun a => (k a, v))) = if name ∈ l.map k then some v else none := by
  induction l with
  | nil => rfl
  | cons a l ih =>
    rw [List.map_cons, lastFor, ih, List.map_cons]
    by_cases h1 : name ∈ l.map k
    · rw [if_pos h1, if_pos (List.mem_cons_of_mem _ h1)]
    · rw [if_neg h1]
      by_cases h2 : k a = name
      · exact (if_pos h2).trans (if_pos (List.mem_cons.mpr (Or.inl h2.symm))).symm
      · exact (if_neg h2).trans
          (if_neg (fun h => (List.mem_cons.mp h).elim (fun e => h2 e.symm) h1)).symm

theorem parseItems_keys (sys : Sys) (l : List Equation) (hl : ∀ e ∈ l, sys.hasEq e.name = true) :
    ∀ d, parseItems sys d (l.map (fun e => Item.key (.str e.name))) =
      .ok ((l.map (fun e => (e.name, (none : Option (List Nat))))).reverse ++ d) := by
  induction l with
  | nil => intro d; rfl
  | cons a l ih =>
    intro d
    simp only [List.map_cons, parseItems, parseSingle, Key.name?, hl a List.mem_cons_self, if_true]
    rw [ih (fun e he => hl e (List.mem_cons_of_mem _ he)), List.reverse_cons, List.append_assoc]
    rfl

theorem parse_rest (sys : Sys) (name : Nat) :
    parseEquations sys (.list ((sys.eqs.filter (fun e => e.name ≠ name)).map (fun e => Item.key (.str e.name)))) =
      .ok ((sys.eqs.filter (fun e => e.name ≠ name)).map (fun e => (e.name, none))) := by
  have hl : ∀ e ∈ sys.eqs.filter (fun e => e.name ≠ name), sys.hasEq e.name = true := fun e he =>
    (hasEq_iff sys _).mpr (List.mem_map.mpr ⟨e, (List.mem_filter.mp he).1, rfl⟩)
  simp only [parseEquations, parseItems_keys sys _ hl]
  congr 1
  refine filterMap_eq_map_filter _ _ _ _ (fun e he => ?_)
  rw [lookup_reverse_append, lastFor_const]
  by_cases hne : e.name = name
  · have hm : e.name ∉ (sys.eqs.filter (fun e => e.name ≠ name)).map (·.name) := by
      intro hm
      obtain ⟨e', he', hn'⟩ := List.mem_map.mp hm
      exact of_decide_eq_true (List.mem_filter.mp he').2 (hn'.trans hne)
    rw [if_neg hm, if_neg (fun h => (of_decide_eq_true h : e.name ≠ name) hne)]
    rfl
  · rw [if_pos (List.mem_map.mpr ⟨e, List.mem_filter.mpr ⟨he, decide_eq_true hne⟩, rfl⟩),
      if_pos (decide_eq_true hne)]
    rfl

end PorepyVerif.C06
