/-
C06 — the column selection: `np.sort` as insertion sort, the dofs of a list of variables, and that the blocks of
`_cluster_dofs_gridwise` tile `0 … num_dofs-1`.
-/
import PorepyVerif.C06.LemmasBasic
import PorepyVerif.Common.InsSort
import PorepyVerif.Common.List

namespace PorepyVerif.C06

theorem insSort : Common.InsSort (· ≤ ·) insertSorted isort :=
  .of_ite Nat.le_trans Nat.le_of_not_le (fun _ => rfl) (fun _ _ _ => rfl) rfl (fun _ _ => rfl)

theorem isort_perm (l : List Nat) : (isort l).Perm l := insSort.perm l

theorem isort_sorted (l : List Nat) : (isort l).Pairwise (· ≤ ·) := insSort.sorted l

theorem dofsOf_ok (sys : Sys) (ids : List Nat) (d : List Nat) (h : dofsOf sys ids = .ok d) :
    d = ids.flatMap (dofRangeD sys) := by
  induction ids generalizing d with
  | nil =>
    simp only [dofsOf] at h
    cases h
    rfl
  | cons i is ih =>
    simp only [dofsOf] at h
    split at h
    · cases h
    · rename_i r hr
      split at h
      · cases h
      · rename_i rs hd
        cases h
        simp [dofRangeD, hr, ih rs hd]

theorem columnsOf_ok (sys : Sys) (vars : Option (List VarItem)) (cols : List Nat)
    (h : columnsOf sys vars = .ok cols) :
    ∃ ids, requestedIds sys vars = .ok ids ∧ cols = isort (ids.flatMap (dofRangeD sys)) := by
  cases vars with
  | none =>
    simp only [columnsOf] at h
    split at h
    · cases h
    · rename_i d hd
      cases h
      exact ⟨_, rfl, by rw [dofsOf_ok sys _ d hd]⟩
  | some items =>
    simp only [columnsOf] at h
    split at h
    · rename_i he
      cases h
      exact ⟨[], by simp [requestedIds, he], rfl⟩
    · rename_i he
      split at h
      · cases h
      · rename_i ids hp
        split at h
        · cases h
        · rename_i d hd
          cases h
          exact ⟨ids, by simp [requestedIds, he, hp], by rw [dofsOf_ok sys _ d hd]⟩

theorem dofRange_tile (l : List Var) :
    ∀ off, (l.map (·.id)).Nodup →
      l.flatMap (fun v => (dofRange l off v.id).getD []) =
        (List.range ((l.map (·.ndof)).sum)).map (· + off) := by
  induction l with
  | nil => intro off _; rfl
  | cons v vs ih =>
    intro off hn
    simp only [List.map_cons, List.nodup_cons] at hn
    have htail : vs.flatMap (fun w => (dofRange (v :: vs) off w.id).getD []) =
        vs.flatMap (fun w => (dofRange vs (off + v.ndof) w.id).getD []) := by
      apply Common.flatMap_congr
      intro w hw
      have hne : v.id ≠ w.id := by
        intro hh
        apply hn.1
        rw [hh]
        exact List.mem_map.mpr ⟨w, hw, rfl⟩
      simp [dofRange, hne]
    simp only [List.flatMap_cons, List.map_cons, List.sum_cons]
    rw [htail, ih (off + v.ndof) hn.2]
    simp only [dofRange, if_true, Option.getD_some]
    exact range_shift_append _ _ _

theorem dofRange_isSome (l : List Var) (v : Var) (hv : v ∈ l) :
    ∀ off, (dofRange l off v.id).isSome = true := by
  induction l with
  | nil => cases hv
  | cons a l ih =>
    intro off
    simp only [dofRange]
    by_cases h : a.id = v.id
    · rw [if_pos h]
      rfl
    · rw [if_neg h]
      rcases List.mem_cons.mp hv with rfl | hv'
      · exact absurd rfl h
      · exact ih hv' _

theorem perm_group (gs : List Grid) :
    ∀ (l : List Var), (gs.map (·.id)).Nodup → (∀ v ∈ l, v.grid ∈ gs.map (·.id)) →
      l.Perm (gs.flatMap (fun g => l.filter (fun v => v.grid = g.id))) := by
  induction gs with
  | nil =>
    intro l _ hl
    cases l with
    | nil => exact List.Perm.refl _
    | cons v l => exact (List.not_mem_nil (hl v List.mem_cons_self)).elim
  | cons g gs ih =>
    intro l hg hl
    simp only [List.map_cons, List.nodup_cons] at hg
    simp only [List.flatMap_cons]
    -- split off the variables on `g`; the rest live on `gs`, where filtering out `g` changes nothing
    have h1 := (List.filter_append_perm (fun v : Var => decide (v.grid = g.id)) l).symm
    refine h1.trans (List.Perm.append_left _ ?_)
    have hl' : ∀ v ∈ l.filter (fun x => !decide (x.grid = g.id)), v.grid ∈ gs.map (·.id) := by
      intro v hv
      obtain ⟨hvl, hvn⟩ := List.mem_filter.mp hv
      rcases List.mem_cons.mp (hl v hvl) with h | h
      · rw [decide_eq_true h] at hvn
        cases hvn
      · exact h
    refine (ih _ hg.2 hl').trans ?_
    have : gs.flatMap (fun g' => (l.filter (fun x => !decide (x.grid = g.id))).filter (fun v => v.grid = g'.id)) =
        gs.flatMap (fun g' => l.filter (fun v => v.grid = g'.id)) := by
      refine Common.flatMap_congr (fun g' hg' => ?_)
      rw [List.filter_filter]
      refine List.filter_congr (fun v _ => ?_)
      cases hd : decide (v.grid = g'.id) with
      | false => rfl
      | true =>
        have hne : v.grid ≠ g.id := fun h =>
          hg.1 (List.mem_map.mpr ⟨g', hg', (of_decide_eq_true hd).symm.trans h⟩)
        rw [decide_eq_false hne]
        rfl
    rw [this]

theorem dofsOf_succeeds (sys : Sys) (ids : List Nat)
    (h : ∀ i ∈ ids, (dofRange (dofOrder sys) 0 i).isSome = true) : ∃ d, dofsOf sys ids = .ok d := by
  induction ids with
  | nil => exact ⟨[], rfl⟩
  | cons i is ih =>
    obtain ⟨d, hd⟩ := ih (fun j hj => h j (List.mem_cons_of_mem _ hj))
    have hi := h i List.mem_cons_self
    cases hr : dofRange (dofOrder sys) 0 i with
    | none => rw [hr] at hi; cases hi
    | some r => exact ⟨r ++ d, by simp [dofsOf, hr, hd]⟩

theorem columnsOf_congr (sys sys' : Sys) (vars : Option (List VarItem))
    (hg : sys'.grids = sys.grids) (hv : sys'.vars = sys.vars) :
    columnsOf sys' vars = columnsOf sys vars := by
  have hd : dofOrder sys' = dofOrder sys := by
    unfold dofOrder
    rw [hg, hv]
  have hdo : ∀ ids, dofsOf sys' ids = dofsOf sys ids := by
    intro ids
    induction ids with
    | nil => rfl
    | cons i is ih => simp only [dofsOf, hd, ih]
  have hpv : ∀ items, parseVarItems sys' items = parseVarItems sys items := by
    intro items
    induction items with
    | nil => rfl
    | cons it rest ih => simp only [parseVarItems, ih, hv]
  cases vars with
  | none => simp only [columnsOf, hdo, hv]
  | some items => simp only [columnsOf, hdo, hpv]

end PorepyVerif.C06
