/-
C06 — property theorems (statements only depend on Model.lean; helper lemmas in Lemmas.lean and the modules
it imports: LemmasTable, LemmasParse, LemmasRows, LemmasColumns over LemmasBasic).

Property: assembling a subset of equations, equations restricted to a subset of their grids, or a
subset of variables yields exactly the corresponding rows and columns of the fully assembled
Jacobian and residual, with row blocks in the order the equations were set and row indices
reported per equation.  Residual-only assembly equals the residual from full assembly.

Reading guide.  `ev name` are the evaluated rows of equation `name` (data: AD evaluation is C01/C02);
`fullRows sys.eqs ev` is the fully assembled system; `rowIdx sys ev req` is the list of
full-system row numbers a request selects (equations in the order of setting, grids in md
order, rows ascending); `req.sel e` says what the request asks of equation `e` (the LAST entry
naming it counts).  Hypotheses: `sys.Inv` (holds in every reachable state: `inv_reachable`) and
`Covers sys ev` (the evaluated operators have AT LEAST the declared numbers of rows; implied by
`Consistent`, equality).  What happens otherwise is characterised by `index_error_iff`.
-/
import PorepyVerif.C06.Lemmas
import PorepyVerif.C05.Props

namespace PorepyVerif.C06

/-- The invariant of the equation table (names distinct; every image composition is the
    consecutive numbering 0,1,…) holds after EVERY history of set_equation / remove_equation /
    update_equation / assemble calls (failing calls included). -/
theorem inv_reachable (grids : List Grid) (vars : List Var) (ops : List Op) :
    (run (init grids vars) ops).Inv :=
  run_preserves Sys.Inv setEquation_inv removeEquation_inv (fun _ _ h => h) ops _
    ⟨List.nodup_nil, fun _ he => nomatch he⟩

/-- `set_equation` appends the equation LAST, with one block per requested grid, blocks in md
    order, block sizes = entity counts × multiplicities, local row numbers consecutive from 0. -/
theorem set_equation_image (sys sys' : Sys) (name : Nat) (grids : List GridId) (m : PerEntity)
    (h : setEquation sys name grids m = .ok sys') :
    ∃ img, sys'.eqs = sys.eqs ++ [⟨name, img⟩] ∧
      img.flatMap (·.2) = List.range (img.flatMap (·.2)).length ∧
      (img.map (·.1)).Sublist (sys.grids.map (·.id)) ∧
      (∀ g ∈ grids, g ∈ img.map (·.1)) ∧
      ∀ p ∈ img, ∃ g ∈ sys.grids, g.id = p.1 ∧ p.2.length = rowsOn g m := by
  obtain ⟨_, hr, rfl⟩ := setEquation_ok h
  refine ⟨_, rfl, imageLoop_range_zero m sys.grids grids, imageLoop_sublist m sys.grids grids 0, ?_,
    imageLoop_sizes m sys.grids grids 0⟩
  intro g hg
  rcases imageLoop_cover m sys.grids grids 0 g hg with h1 | h1
  · exact h1
  · rw [hr] at h1
    cases h1

/-- `_parse_equations` returns exactly the selection of the request: the requested equations in
    the order they were SET (not the order requested), each with `None` or the local rows of the
    listed grids in md order; the last entry naming an equation wins. -/
theorem parse_spec (sys : Sys) (hinv : sys.Inv) (req : Request) (blocks : Blocks)
    (h : parseEquations sys req = .ok blocks) : blocks = blocksOf req.sel sys.eqs :=
  parse_blocks sys hinv req blocks h

/-- Unrestricted assembly (`equations=None`) is the full system, and its row selection is the
    identity `0, 1, …`. -/
theorem full_is_all (sys : Sys) (ev : Nat → List Row) (vars : Option (List VarItem)) (cols : List Nat)
    (hcols : columnsOf sys vars = .ok cols) :
    (∃ ix, assemble sys ev true .all vars =
        ({ sys with lastIdx := ix }, .ok ⟨fullRows sys.eqs ev, cols, []⟩)) ∧
      rowIdx sys ev .all = List.range (fullRows sys.eqs ev).length := by
  have hidx : rowIdx sys ev .all = List.range (fullRows sys.eqs ev).length :=
    (sliceIdx_all ev sys.eqs 0).trans (List.map_id _)
  refine ⟨?_, hidx⟩
  obtain ⟨rows, ix, hr, hj, _⟩ := assemble_in_range sys ev .all
    (congrArg Except.ok (blocksOf_all sys.eqs).symm) (by rintro ⟨e, _, idx, hsel, _⟩; cases hsel)
  -- the slice at `0, 1, …` is the whole list
  rw [hidx] at hr
  cases (List.map_inj_right (fun x y hxy => Option.some.inj hxy)).mp (hr.trans (map_some_eq_range _).symm)
  exact ⟨ix, hj vars cols hcols⟩

/-- MAIN THEOREM.  Whenever the request parses and the variable list is valid, restricted
    assembly succeeds and returns exactly the rows `rowIdx` of the full system (as rows, as
    residual entries and as Jacobian rows restricted to the selected columns). -/
theorem assemble_is_slice (sys : Sys) (ev : Nat → List Row) (req : Request)
    (vars : Option (List VarItem)) (hinv : sys.Inv) (hc : Covers sys ev)
    (blocks : Blocks) (hp : parseEquations sys req = .ok blocks)
    (cols : List Nat) (hcols : columnsOf sys vars = .ok cols) :
    ∃ out ix, assemble sys ev true req vars = ({ sys with lastIdx := ix }, .ok out) ∧
      out.cols = cols ∧
      out.rows.map some = (rowIdx sys ev req).map (fun k => (fullRows sys.eqs ev)[k]?) ∧
      out.b.map some = (rowIdx sys ev req).map (fun k => ((fullRows sys.eqs ev).map (fun r => - r.val))[k]?) ∧
      out.A.map some = (rowIdx sys ev req).map
        (fun k => ((fullRows sys.eqs ev).map (fun r => cols.map r.coef))[k]?) := by
  cases parse_blocks sys hinv req blocks hp
  obtain ⟨rows, ix, hr, hj, _⟩ := assemble_in_range sys ev req hp (covers_not_outOfRange sys ev req hinv hc)
  exact ⟨⟨rows, cols, []⟩, ix, hj vars cols hcols, rfl, hr, map_some_comp _ hr, map_some_comp _ hr⟩

/-- The selected full-system row numbers are strictly increasing and in range: the restricted
    system is a genuine slice `full[rowIdx]`, its row blocks come in the order the equations were
    set, and inside an equation in md order of the grids. -/
theorem slice_rows_increasing (sys : Sys) (ev : Nat → List Row) (req : Request)
    (hinv : sys.Inv) (hc : Covers sys ev) :
    (rowIdx sys ev req).Pairwise (· < ·) ∧
      ∀ k ∈ rowIdx sys ev req, k < (fullRows sys.eqs ev).length := by
  have hsub := rowIdx_sublist sys ev req hinv hc
  exact ⟨List.pairwise_lt_range.sublist hsub, fun k hk => List.mem_range.mp (hsub.subset hk)⟩

/-- Column selection: the columns are the dofs of the requested variables, sorted
    (`variables=None`: all variables; `[]`: none); without repeated variables they are strictly
    increasing, i.e. a subset of the global dofs in global order. -/
theorem columns_sorted_subset (sys : Sys) (vars : Option (List VarItem)) (cols : List Nat)
    (h : columnsOf sys vars = .ok cols) :
    ∃ ids, requestedIds sys vars = .ok ids ∧
      cols.Perm (ids.flatMap (dofRangeD sys)) ∧ cols.Pairwise (· ≤ ·) ∧
      ((ids.flatMap (dofRangeD sys)).Nodup → cols.Pairwise (· < ·)) := by
  obtain ⟨ids, h1, rfl⟩ := columnsOf_ok sys vars cols h
  refine ⟨ids, h1, isort_perm _, isort_sorted _, ?_⟩
  intro hnd
  have hnd' : (isort (ids.flatMap (dofRangeD sys))).Nodup := (isort_perm _).nodup_iff.mpr hnd
  have := (isort_sorted (ids.flatMap (dofRangeD sys))).and hnd'
  exact this.imp (fun h => Nat.lt_of_le_of_ne h.1 h.2)

/-- With `variables=None` the columns are ALL dofs `0 … num_dofs-1` in order (so the full system
    is not permuted), for every well-formed variable table. -/
theorem columns_all (sys : Sys) (h : sys.VarsOk) :
    columnsOf sys none = .ok (List.range (numDofs sys)) := by
  obtain ⟨hv, hg, hvg⟩ := h
  have hperm : sys.vars.Perm (dofOrder sys) := perm_group sys.grids sys.vars hg hvg
  have hnd : ((dofOrder sys).map (·.id)).Nodup := (hperm.map _).nodup_iff.mp hv
  obtain ⟨d, hd⟩ := dofsOf_succeeds sys (sys.vars.map (·.id)) (fun i hi => by
    obtain ⟨v, hv', rfl⟩ := List.mem_map.mp hi
    exact dofRange_isSome (dofOrder sys) v (hperm.mem_iff.mp hv') 0)
  -- the blocks tile `0 … num_dofs-1` in block order, and creation order is a permutation of it
  have htile : (dofOrder sys).flatMap (fun v => dofRangeD sys v.id) = List.range (numDofs sys) :=
    (dofRange_tile (dofOrder sys) 0 hnd).trans (List.map_id _)
  have hp : d.Perm (List.range (numDofs sys)) := by
    rw [dofsOf_ok sys _ d hd, List.flatMap_map, ← htile]
    exact hperm.flatMap_right _
  have hsort : isort d = List.range (numDofs sys) :=
    ((isort_perm d).trans hp).eq_of_pairwise (le := (· ≤ ·)) (fun _ _ _ _ => Nat.le_antisymm)
      (isort_sorted d) (List.pairwise_lt_range.imp Nat.le_of_lt)
  simp only [columnsOf, hd, hsort]

/-- Tie to the driver: splitting the full system sent by the harness by the declared sizes gives
    evaluated rows that are `Consistent` and whose full system is the one that was sent. -/
theorem driver_split_sound (sys : Sys) (hinv : sys.Inv) (rows : List Row)
    (h : rows.length = (sys.eqs.map (·.total)).sum) :
    fullRows sys.eqs (evOf (splitFull sys.eqs rows)) = rows ∧
      Consistent sys (evOf (splitFull sys.eqs rows)) :=
  split_sound sys.eqs hinv.1 rows h

/-- `assembled_equation_indices` after a Jacobian assembly: one entry per requested equation, in
    the order of the parsed blocks (= order of setting), the index ranges tile `0 … nrows-1`
    consecutively (zero-length blocks included), and the rows of the restricted system at the
    reported indices are exactly the selected rows of that equation. -/
theorem indices_reported (sys sys' : Sys) (ev : Nat → List Row) (req : Request)
    (vars : Option (List VarItem)) (out : Out)
    (h : assemble sys ev true req vars = (sys', .ok out)) :
    ∃ blocks, parseEquations sys req = .ok blocks ∧
      sys'.lastIdx.map (·.1) = blocks.map (·.1) ∧
      sys'.lastIdx.flatMap (·.2) = List.range out.rows.length ∧
      ∀ p ∈ sys'.lastIdx, ∃ r part, (p.1, r) ∈ blocks ∧ takeRows (ev p.1) r = .ok part ∧
        p.2.map (fun k => out.rows[k]?) = part.map some := by
  obtain ⟨blocks, hp, hj, _, _, _⟩ := assemble_jac_inv sys sys' ev req vars out h
  obtain ⟨i1, i2, i3⟩ := jacLoop_idx ev blocks [] out.rows sys'.lastIdx hj
  exact ⟨blocks, hp, i1, i2.trans (List.map_id _), i3⟩

/-- Residual-only assembly returns the residual of the Jacobian assembly of the same request
    (whatever the `variables` argument), and does not touch the state. -/
theorem residual_only_eq (sys sys' : Sys) (ev : Nat → List Row) (req : Request)
    (vars vars' : Option (List VarItem)) (out : Out)
    (h : assemble sys ev true req vars = (sys', .ok out)) :
    assemble sys ev false req vars' = (sys, .ok ⟨[], [], out.b⟩) := by
  obtain ⟨blocks, hp, hj, _, _, _⟩ := assemble_jac_inv sys sys' ev req vars out h
  rw [assemble_res_eq sys ev req vars' blocks hp, hj]
  rfl

/-- … hence it is the slice `rowIdx` of the residual of the full system; it succeeds whenever the
    request parses (the variable list is not looked at). -/
theorem residual_only_is_slice (sys : Sys) (ev : Nat → List Row) (req : Request)
    (vars : Option (List VarItem)) (hinv : sys.Inv) (hc : Covers sys ev)
    (blocks : Blocks) (hp : parseEquations sys req = .ok blocks) :
    ∃ res, assemble sys ev false req vars = (sys, .ok ⟨[], [], res⟩) ∧
      res.map some = (rowIdx sys ev req).map (fun k => ((fullRows sys.eqs ev).map (fun r => - r.val))[k]?) := by
  cases parse_blocks sys hinv req blocks hp
  obtain ⟨rows, _, hr, _, hres⟩ := assemble_in_range sys ev req hp (covers_not_outOfRange sys ev req hinv hc)
  exact ⟨_, hres vars, map_some_comp _ hr⟩

/-- Two requests that ask the same of every equation give the same assembly: only the LAST entry
    per equation and the SET of grids in it matter, not the order of names or grids. -/
theorem restriction_order_irrelevant (sys : Sys) (ev : Nat → List Row) (jac : Bool)
    (vars : Option (List VarItem)) (hinv : sys.Inv) (r1 r2 : Request)
    (hsel : ∀ e ∈ sys.eqs, r1.sel e = r2.sel e)
    (b1 b2 : Blocks) (h1 : parseEquations sys r1 = .ok b1) (h2 : parseEquations sys r2 = .ok b2) :
    b1 = b2 ∧ assemble sys ev jac r1 vars = assemble sys ev jac r2 vars := by
  have hb : b1 = b2 := by
    rw [parse_blocks sys hinv r1 b1 h1, parse_blocks sys hinv r2 b2 h2]
    exact filterMap_congr sys.eqs (fun e he => by rw [hsel e he])
  refine ⟨hb, ?_⟩
  subst hb
  rw [assemble_eq, assemble_eq, h1, h2]

/-- Permuting a list request that names every equation at most once changes nothing: the same
    requests parse, to the same row blocks. -/
theorem request_permutation_irrelevant (sys : Sys) (hinv : sys.Inv) (items1 items2 : List Item)
    (hperm : items1.Perm items2)
    (hnodup : ((Request.list items1).entries.map (·.1)).Nodup) (b : Blocks) :
    parseEquations sys (.list items1) = .ok b ↔ parseEquations sys (.list items2) = .ok b := by
  have hent : (Request.list items1).entries.Perm (Request.list items2).entries :=
    hperm.flatMap_right Item.entries
  have hsel : (Request.list items1).sel = (Request.list items2).sel := by
    funext e
    simp only [Request.sel]
    rw [lastFor_perm e.name _ _ hent hnodup]
  have hok : (∃ d, parseItems sys [] items1 = .ok d) ↔ ∃ d, parseItems sys [] items2 = .ok d := by
    rw [parseItems_isOk, parseItems_isOk]
    exact ⟨fun h it hit => h it (hperm.mem_iff.mpr hit), fun h it hit => h it (hperm.mem_iff.mp hit)⟩
  rw [parse_list_iff sys hinv, parse_list_iff sys hinv, hok, hsel]

/-- The order and repetition of grids inside a restriction are irrelevant. -/
theorem grid_order_irrelevant (sys : Sys) (k : Key) (gs1 gs2 : List GridId)
    (h : ∀ g, g ∈ gs1 ↔ g ∈ gs2) : parseEntry sys k gs1 = parseEntry sys k gs2 := by
  unfold parseEntry
  cases k.name? with
  | none => rfl
  | some name =>
    simp only
    cases findEq sys.eqs name with
    | none => rfl
    | some e =>
      simp only
      rw [all_congr _ gs1 gs2 h, localRows_congr e.image gs1 gs2 h]

/-- `Consistent` (what the harness generates, and what `equations_per_grid_entity` promises)
    implies `Covers`. -/
theorem consistent_implies_covers (sys : Sys) (ev : Nat → List Row) (h : Consistent sys ev) :
    Covers sys ev :=
  fun e he => Nat.le_of_eq (h e he).symm

/-- When the evaluated operators do NOT have the declared sizes: for a request that parses and a
    valid variable list, Jacobian assembly raises — and then it is an IndexError — exactly when
    some equation is requested with a grid restriction whose local rows reach beyond the
    evaluated operator (`OutOfRange`); unrestricted requests never raise.  In every other case
    the result is still the slice `rowIdx` of the full system (offsets = actual operator lengths).
    On the error the reported indices are those of the blocks before the failing one. -/
theorem index_error_iff (sys : Sys) (ev : Nat → List Row) (req : Request)
    (vars : Option (List VarItem)) (hinv : sys.Inv)
    (blocks : Blocks) (hp : parseEquations sys req = .ok blocks)
    (cols : List Nat) (hcols : columnsOf sys vars = .ok cols) :
    (OutOfRange sys ev req →
        assemble sys ev true req vars =
          ({ sys with lastIdx := idxPrefix ev blocks 0 }, .error .index)) ∧
      (¬ OutOfRange sys ev req →
        ∃ out ix, assemble sys ev true req vars = ({ sys with lastIdx := ix }, .ok out) ∧
          out.rows.map some = (rowIdx sys ev req).map (fun k => (fullRows sys.eqs ev)[k]?)) := by
  cases parse_blocks sys hinv req blocks hp
  refine ⟨fun hout => (assemble_out_of_range sys ev req hp hout vars).1, fun hno => ?_⟩
  obtain ⟨rows, ix, hr, hj, _⟩ := assemble_in_range sys ev req hp hno
  exact ⟨⟨rows, cols, []⟩, ix, hj vars cols hcols, hr⟩

/-- The same characterisation for residual-only assembly. -/
theorem index_error_residual (sys : Sys) (ev : Nat → List Row) (req : Request)
    (vars : Option (List VarItem)) (hinv : sys.Inv)
    (blocks : Blocks) (hp : parseEquations sys req = .ok blocks) :
    (OutOfRange sys ev req ↔ assemble sys ev false req vars = (sys, .error .index)) := by
  cases parse_blocks sys hinv req blocks hp
  refine ⟨fun hout => (assemble_out_of_range sys ev req hp hout vars).2, fun h => ?_⟩
  apply Classical.byContradiction
  intro hno
  obtain ⟨_, _, _, _, hres⟩ := assemble_in_range sys ev req hp hno
  rw [hres] at h
  cases h

/-- `remove_equation` deletes the equation and keeps the others in their order; afterwards every
    request that does not name it assembles exactly as before (same result, same errors; the
    statement compares the returned values only — that `assembled_equation_indices` agree as well
    is the second part of `assemble_congr`), and the FULL system is the old system restricted to
    the other equations: its rows are deleted everywhere and nothing else moves. -/
theorem remove_equation_spec (sys sys' : Sys) (name : Nat) (hinv : sys.Inv)
    (h : removeEquation sys name = .ok sys') :
    sys'.eqs = sys.eqs.filter (fun e => e.name ≠ name) ∧ sys'.hasEq name = false ∧
    (∀ ev jac items vars, name ∉ (Request.list items).entries.map (·.1) →
        (assemble sys' ev jac (.list items) vars).2 = (assemble sys ev jac (.list items) vars).2) ∧
    (∀ ev jac es vars, name ∉ (Request.dict es).entries.map (·.1) →
        (assemble sys' ev jac (.dict es) vars).2 = (assemble sys ev jac (.dict es) vars).2) ∧
    (∀ ev jac vars, (assemble sys' ev jac .all vars).2 =
        (assemble sys ev jac (.list (sys'.eqs.map (fun e => Item.key (.str e.name)))) vars).2) := by
  obtain ⟨rfl, _⟩ := removeEquation_eqs sys sys' name h
  have hc := fun vars =>
    columnsOf_congr sys { sys with eqs := sys.eqs.filter (fun e => e.name ≠ name) } vars rfl rfl
  refine ⟨rfl, hasEq_removed sys name, ?_, ?_, ?_⟩
  · intro ev jac items vars hn
    exact (assemble_congr sys _ ev jac _ _ vars (parse_list_filter sys _ name rfl items hn) (hc vars)).1
  · intro ev jac es vars hn
    exact (assemble_congr sys _ ev jac _ _ vars (parse_dict_filter sys _ name rfl es hn) (hc vars)).1
  · intro ev jac vars
    exact (assemble_congr sys { sys with eqs := sys.eqs.filter (fun e => e.name ≠ name) } ev jac _ .all vars
      (parse_rest sys name).symm (hc vars)).1

/-- `update_equation` = remove + set: on success the equation is the LAST one (it moves to the
    end of the row order, it is NOT replaced in place), with the image composition `set_equation`
    builds for the given grids / multiplicities (defaults: the grids of the old image, the
    multiplicities stored when it was set). -/
theorem update_equation_spec (sys sys' : Sys) (name : Nat) (grids : Option (List GridId))
    (per : Option PerEntity) (h : updateEquation sys name grids per = (sys', none)) :
    sys.hasEq name = true ∧
    ∃ g p, (grids = some g ∨ (grids = none ∧ ∃ e, findEq sys.eqs name = some e ∧ g = e.image.map (·.1))) ∧
      (per = some p ∨ (per = none ∧ lookup name sys.sizeInfo = some p)) ∧
      setEquation { sys with eqs := sys.eqs.filter (fun e => e.name ≠ name) } name g p = .ok sys' ∧
      ∃ img, sys'.eqs = sys.eqs.filter (fun e => e.name ≠ name) ++ [⟨name, img⟩] := by
  rcases updateEquation_cases sys name grids per with
    h' | ⟨_, h'⟩ | ⟨g, p, hg, hp, hhas, ⟨e, _, h'⟩ | ⟨s2, hs, h'⟩⟩
  · rw [h'] at h; cases h
  · rw [h'] at h; cases h
  · rw [h'] at h; cases h
  · rw [h'] at h
    cases h
    obtain ⟨img, himg, _⟩ := set_equation_image _ _ name g p hs
    exact ⟨hhas, g, p, hg, hp, hs, img, himg⟩

/-- Failure of `update_equation`: either nothing happened (KeyError: a default is missing;
    ValueError: no such equation), or — partial effect — the equation has been REMOVED and the
    re-setting failed with AssertionError (unknown or repeated grid). -/
theorem update_equation_failure (sys sys' : Sys) (name : Nat) (grids : Option (List GridId))
    (per : Option PerEntity) (err : Err) (h : updateEquation sys name grids per = (sys', some err)) :
    (sys' = sys ∧ (err = .key ∨ (err = .value ∧ sys.hasEq name = false))) ∨
    (err = .assertion ∧ sys.hasEq name = true ∧
      sys' = { sys with eqs := sys.eqs.filter (fun e => e.name ≠ name) }) := by
  rcases updateEquation_cases sys name grids per with
    h' | ⟨hno, h'⟩ | ⟨g, p, _, _, hhas, ⟨e, hs, h'⟩ | ⟨s2, _, h'⟩⟩
  · rw [h'] at h; cases h
    exact Or.inl ⟨rfl, Or.inl rfl⟩
  · rw [h'] at h; cases h
    exact Or.inl ⟨rfl, Or.inr ⟨rfl, hno⟩⟩
  · rw [h'] at h
    cases h
    -- the name has just been removed, so `set_equation` can only have failed on the grids
    rcases setEquation_error hs with ⟨hh, _⟩ | ⟨_, rfl⟩
    · rw [hasEq_removed] at hh; cases hh
    · exact Or.inr ⟨rfl, hhas, rfl⟩
  · rw [h'] at h; cases h

/-- `VarsOk` is not an extra assumption: it follows from the layout invariant proved in C05 for
    every state of its model, given that the md-grid lists each grid once (C24). -/
theorem varsOk_of_c05 (e : C05.Env) (hn : e.order.Nodup) (s : C05.State) (h : C05.Inv e s) :
    (ofC05 e s).VarsOk := by
  have hg : (ofC05 e s).grids.map (·.id) = e.order := by
    simp only [ofC05, C05.Env.order, List.map_append, List.map_map, Function.comp_def, List.map_id']
  refine ⟨?_, hg ▸ hn, ?_⟩
  · have : (ofC05 e s).vars.map (·.id) = s.vars.map (·.id) := by
      simp only [ofC05, List.map_map, Function.comp_def]
    rw [this]
    exact h.idsLt.imp (fun hlt => Nat.ne_of_lt hlt)
  · intro v hv
    rw [hg]
    obtain ⟨w, hw, rfl⟩ := List.mem_map.mp hv
    have := h.kindOk w hw
    simp only [C05.Env.order, List.mem_append]
    cases hsub : w.sub with
    | true => rw [hsub] at this; exact Or.inl this
    | false => rw [hsub] at this; exact Or.inr this

/-- Every variable history of the C05 model followed by every equation history of this model gives
    a system whose `variables=None` columns are all dofs in order. -/
theorem columns_all_reachable (e : C05.Env) (hn : e.order.Nodup) (vops : List C05.Op) (ops : List Op) :
    let sys := run (ofC05 e (C05.run e C05.init vops)) ops
    sys.VarsOk ∧ columnsOf sys none = .ok (List.range (numDofs sys)) := by
  intro sys
  have h0 := varsOk_of_c05 e hn _ (C05.inv_reachable e hn vops)
  have hgv := run_gv ops (ofC05 e (C05.run e C05.init vops))
  have hok : sys.VarsOk := by
    unfold Sys.VarsOk
    show ((run _ ops).vars.map (·.id)).Nodup ∧ ((run _ ops).grids.map (·.id)).Nodup ∧ _
    rw [hgv.1, hgv.2]
    exact h0
  exact ⟨hok, columns_all sys hok⟩

/-! ### non-vacuity: a concrete system

Grids (md order): subdomain 0 (2 cells, 7 faces, 6 nodes), subdomain 1 (3 cells), interface 5
(2 cells).  Variables: id 0 on grid 0 (2 dofs), id 1 on grid 1 (3 dofs), id 2 on grid 5 (4 dofs).
Equation 1 is set on grids [1, 0] (cells), equation 2 on [5], equation 3 on no grid, a second
`set_equation` for name 2 fails and changes nothing, then equation 1 is removed and set again (it
becomes the LAST equation). -/

def exSys : Sys :=
  run (init [⟨0, false, 2, 7, 6⟩, ⟨1, false, 3, 4, 4⟩, ⟨5, true, 2, 0, 0⟩]
            [⟨0, 0, 0, 2⟩, ⟨1, 0, 1, 3⟩, ⟨2, 1, 5, 4⟩])
    [.set 1 [1, 0] ⟨1, 0, 0⟩, .set 2 [5] ⟨1, 0, 0⟩, .set 3 [] ⟨1, 0, 0⟩, .set 2 [0] ⟨1, 0, 0⟩,
     .remove 1, .set 1 [1, 0] ⟨1, 0, 0⟩]

/-- evaluated rows: equation `n`, row `i` has value `10 n + i` and one Jacobian entry `1/2` in column `i` -/
def exEv (n : Nat) : List Row :=
  (List.range (if n = 1 then 5 else if n = 2 then 2 else 0)).map
    (fun i => ⟨(10 * n + i : Nat), [(i, 1 / 2)]⟩)

example : exSys.eqs = [⟨2, [(5, [0, 1])]⟩, ⟨3, []⟩, ⟨1, [(0, [0, 1]), (1, [2, 3, 4])]⟩] := by
  decide +kernel

example : exSys.VarsOk := by
  unfold Sys.VarsOk
  decide +kernel

example : exSys.Inv ∧ Consistent exSys exEv := by
  refine ⟨inv_reachable _ _ _, ?_⟩
  unfold Consistent
  decide +kernel

/-- request `[e1 restricted to grid 1 (given twice), "e2", Operator e1 restricted to grid 1]`: rows
    4,5,6 of equation 1 come AFTER those of equation 2.  (The example after this one: the first entry
    asks for grid 0 instead and is overridden by the last; variables "name 0" = columns 0..4.) -/
example :
    rowIdx exSys exEv (.list [.dict [(.str 1, [1, 1])], .key (.str 2), .dict [(.op 1, [1])]]) = [0, 1, 4, 5, 6] := by
  decide +kernel

example :
    (assemble exSys exEv true (.list [.dict [(.str 1, [0])], .key (.str 2), .dict [(.op 1, [1])]])
        (some [.name 0])).2.toOption.map (fun o => (o.b, o.cols)) =
      some ([-20, -21, -12, -13, -14], [0, 1, 2, 3, 4]) := by
  decide +kernel

example :
    (assemble exSys exEv true (.dict [(.str 1, []), (.op 2, [5]), (.str 3, [])]) none).1.lastIdx =
      [(2, [0, 1]), (3, []), (1, [])] := by
  decide +kernel

example : errOf (assemble exSys exEv true (.dict [(.str 1, [5])]) none).2 = some .value := by
  decide +kernel

example : errOf (assemble exSys exEv false (.list [.key .bad]) none).2 = some .type := by
  decide +kernel

/-- update with the defaults: equation 2 moves to the END; with a foreign grid the equation is lost -/
example : ((updateEquation exSys 2 none none).1.eqs.map (·.name), (updateEquation exSys 2 none none).2) =
    ([3, 1, 2], none) := by decide +kernel

example : ((updateEquation exSys 2 (some [5, 77]) none).1.eqs.map (·.name),
    (updateEquation exSys 2 (some [5, 77]) none).2) = ([3, 1], some .assertion) := by decide +kernel

example : (updateEquation exSys 9 none none).2 = some .key := by decide +kernel

/-- an operator of equation 1 with only 3 of its 5 declared rows: restricting to grid 0 (rows 0,1)
    works, restricting to grid 1 (rows 2,3,4) raises IndexError, the unrestricted request works -/
def exShort (n : Nat) : List Row :=
  (List.range (if n = 1 then 3 else if n = 2 then 2 else 0)).map (fun i => ⟨(10 * n + i : Nat), []⟩)

example : (errOf (assemble exSys exShort true (.dict [(.str 1, [0])]) none).2,
    errOf (assemble exSys exShort true (.dict [(.str 2, [5]), (.str 1, [1])]) none).2,
    (assemble exSys exShort true (.dict [(.str 2, [5]), (.str 1, [1])]) none).1.lastIdx,
    errOf (assemble exSys exShort false (.list [.key (.op 1)]) none).2) =
    (none, some .index, [(2, [0, 1])], none) := by decide +kernel

example : OutOfRange exSys exShort (.dict [(.str 1, [1])]) :=
  ⟨⟨1, [(0, [0, 1]), (1, [2, 3, 4])]⟩, by decide +kernel, [2, 3, 4], by decide +kernel, 3, by decide, by decide +kernel⟩

end PorepyVerif.C06
