/-
C06 — the equation table: what `set_equation` (its two loops), `remove_equation` and `update_equation` do to it, and
that they keep `Sys.Inv`.
-/
import PorepyVerif.C06.LemmasBasic

namespace PorepyVerif.C06

theorem imageLoop_range (m : PerEntity) (gs : List Grid) (rem : List GridId) (total : Nat) :
    (imageLoop m gs rem total).1.flatMap (·.2) =
      (List.range ((imageLoop m gs rem total).1.flatMap (·.2)).length).map (· + total) := by
  induction gs generalizing rem total with
  | nil => rfl
  | cons g gs ih =>
    unfold imageLoop
    split
    · simp only [List.flatMap_cons, List.length_append, List.length_map, List.length_range]
      rw [ih (rem.erase g.id) (total + rowsOn g m)]
      rw [List.length_map, List.length_range]
      exact range_shift_append _ _ _
    · exact ih rem total

theorem imageLoop_range_zero (m : PerEntity) (gs : List Grid) (rem : List GridId) :
    (imageLoop m gs rem 0).1.flatMap (·.2) =
      List.range ((imageLoop m gs rem 0).1.flatMap (·.2)).length :=
  (imageLoop_range m gs rem 0).trans (List.map_id _)

theorem imageLoop_nil (m : PerEntity) (gs : List Grid) (t : Nat) : imageLoop m gs [] t = ([], []) := by
  induction gs with
  | nil => rfl
  | cons g gs ih => simpa only [imageLoop, List.not_mem_nil, if_false] using ih

theorem imageLoop_sublist (m : PerEntity) (gs : List Grid) (rem : List GridId) (t : Nat) :
    ((imageLoop m gs rem t).1.map (·.1)).Sublist (gs.map (·.id)) := by
  induction gs generalizing rem t with
  | nil => simp [imageLoop]
  | cons g gs ih =>
    simp only [imageLoop]
    split
    · simp only [List.map_cons]
      exact (ih _ _).cons_cons _
    · simp only [List.map_cons]
      exact (ih _ _).cons _

theorem imageLoop_sizes (m : PerEntity) (gs : List Grid) (rem : List GridId) (t : Nat) :
    ∀ p ∈ (imageLoop m gs rem t).1, ∃ g ∈ gs, g.id = p.1 ∧ p.2.length = rowsOn g m := by
  induction gs generalizing rem t with
  | nil => simp [imageLoop]
  | cons g gs ih =>
    intro p hp
    have tail : ∀ rem t, p ∈ (imageLoop m gs rem t).1 →
        ∃ g' ∈ g :: gs, g'.id = p.1 ∧ p.2.length = rowsOn g' m :=
      fun rem t hp => (ih rem t p hp).imp fun g' h => ⟨List.mem_cons_of_mem _ h.1, h.2⟩
    simp only [imageLoop] at hp
    split at hp
    · rcases List.mem_cons.mp hp with rfl | hp
      · exact ⟨g, List.mem_cons_self, rfl, by rw [List.length_map, List.length_range]⟩
      · exact tail _ _ hp
    · exact tail _ _ hp

theorem imageLoop_cover (m : PerEntity) (gs : List Grid) (rem : List GridId) (t : Nat) :
    ∀ x ∈ rem, x ∈ (imageLoop m gs rem t).1.map (·.1) ∨ x ∈ (imageLoop m gs rem t).2 := by
  induction gs generalizing rem t with
  | nil => intro x hx; exact Or.inr hx
  | cons g gs ih =>
    intro x hx
    simp only [imageLoop]
    split
    · by_cases hxg : x = g.id
      · subst hxg
        exact Or.inl List.mem_cons_self
      · rcases ih (rem.erase g.id) (t + rowsOn g m) x ((List.mem_erase_of_ne hxg).mpr hx) with h | h
        · exact Or.inl (List.mem_cons_of_mem _ h)
        · exact Or.inr h
    · exact ih rem t x hx

/-- `set_equation` in one piece: for an empty grid list the two loops would return what the
    early `return` does. -/
theorem setEquation_eq (sys : Sys) (name : Nat) (grids : List GridId) (m : PerEntity) :
    setEquation sys name grids m =
      if sys.hasEq name then .error .value
      else if (imageLoop m sys.grids grids 0).2.isEmpty then
        .ok { sys with eqs := sys.eqs ++ [⟨name, (imageLoop m sys.grids grids 0).1⟩],
                       sizeInfo := (name, m) :: sys.sizeInfo }
      else .error .assertion := by
  cases grids with
  | nil => simp only [setEquation, imageLoop_nil, List.isEmpty_nil, if_true]
  | cons g gs => rfl

theorem setEquation_ok {sys sys' : Sys} {name : Nat} {grids : List GridId} {m : PerEntity}
    (h : setEquation sys name grids m = .ok sys') :
    sys.hasEq name = false ∧ (imageLoop m sys.grids grids 0).2 = [] ∧
      sys' = { sys with eqs := sys.eqs ++ [⟨name, (imageLoop m sys.grids grids 0).1⟩],
                        sizeInfo := (name, m) :: sys.sizeInfo } := by
  rw [setEquation_eq] at h
  cases hn : sys.hasEq name with
  | true => rw [hn] at h; cases h
  | false =>
    rw [hn] at h
    cases hr : (imageLoop m sys.grids grids 0).2.isEmpty with
    | false => rw [hr] at h; cases h
    | true =>
      rw [hr] at h
      cases h
      exact ⟨rfl, List.isEmpty_iff.mp hr, rfl⟩

theorem setEquation_error {sys : Sys} {name : Nat} {grids : List GridId} {m : PerEntity} {e : Err}
    (h : setEquation sys name grids m = .error e) :
    (sys.hasEq name = true ∧ e = .value) ∨ (sys.hasEq name = false ∧ e = .assertion) := by
  rw [setEquation_eq] at h
  cases hn : sys.hasEq name with
  | true => rw [hn] at h; cases h; exact Or.inl ⟨rfl, rfl⟩
  | false =>
    rw [hn] at h
    cases hr : (imageLoop m sys.grids grids 0).2.isEmpty with
    | true => rw [hr] at h; cases h
    | false => rw [hr] at h; cases h; exact Or.inr ⟨rfl, rfl⟩

theorem inv_append (sys : Sys) (e : Equation) (hinv : sys.Inv) (hn : sys.hasEq e.name = false)
    (he : e.ImageOk) : Sys.Inv { sys with eqs := sys.eqs ++ [e] } := by
  obtain ⟨h1, h2⟩ := hinv
  refine ⟨?_, ?_⟩
  · simp only [List.map_append, List.map_cons, List.map_nil]
    rw [List.nodup_append]
    refine ⟨h1, List.pairwise_singleton _ _, ?_⟩
    intro a ha b hb hab
    rw [List.mem_singleton.mp hb] at hab
    rw [hab, ← hasEq_iff, hn] at ha
    cases ha
  · intro x hx
    rcases List.mem_append.mp hx with hx | hx
    · exact h2 x hx
    · rw [List.mem_singleton.mp hx]
      exact he

theorem setEquation_inv (sys sys' : Sys) (name : Nat) (grids : List GridId) (m : PerEntity)
    (hinv : sys.Inv) (h : setEquation sys name grids m = .ok sys') : sys'.Inv := by
  obtain ⟨hn, _, rfl⟩ := setEquation_ok h
  exact inv_append sys ⟨name, _⟩ hinv hn (imageLoop_range_zero m sys.grids grids)

theorem inv_filter (sys : Sys) (p : Equation → Bool) (hinv : sys.Inv) :
    Sys.Inv { sys with eqs := sys.eqs.filter p } :=
  ⟨(List.filter_sublist.map _).nodup hinv.1, fun e he => hinv.2 e (List.mem_filter.mp he).1⟩

theorem removeEquation_eqs (sys sys' : Sys) (name : Nat) (h : removeEquation sys name = .ok sys') :
    sys' = { sys with eqs := sys.eqs.filter (fun e => e.name ≠ name) } ∧ sys.hasEq name = true := by
  unfold removeEquation at h
  split at h
  · rename_i hh
    cases h
    exact ⟨rfl, hh⟩
  · cases h

theorem removeEquation_inv (sys sys' : Sys) (name : Nat)
    (hinv : sys.Inv) (h : removeEquation sys name = .ok sys') : sys'.Inv := by
  obtain ⟨rfl, _⟩ := removeEquation_eqs sys sys' name h
  exact inv_filter sys _ hinv

theorem hasEq_removed (sys : Sys) (name : Nat) :
    Sys.hasEq { sys with eqs := sys.eqs.filter (fun e => e.name ≠ name) } name = false := by
  rw [Bool.eq_false_iff]
  intro h
  rw [hasEq_iff] at h
  obtain ⟨e, he, hn⟩ := List.mem_map.mp h
  have := (List.mem_filter.mp he).2
  simp [hn] at this

/-- The ways `update_equation` can go: a default is missing (KeyError, nothing happens); the
    equation does not exist (ValueError from `remove_equation`, nothing happens); or the equation
    is removed and `set_equation` runs on the rest with the defaults filled in, and fails (the
    equation stays removed) or succeeds. -/
theorem updateEquation_cases (sys : Sys) (name : Nat) (grids : Option (List GridId))
    (per : Option PerEntity) :
    updateEquation sys name grids per = (sys, some .key) ∨
    (sys.hasEq name = false ∧ updateEquation sys name grids per = (sys, some .value)) ∨
    ∃ g p, (grids = some g ∨ (grids = none ∧ ∃ e, findEq sys.eqs name = some e ∧ g = e.image.map (·.1))) ∧
      (per = some p ∨ (per = none ∧ lookup name sys.sizeInfo = some p)) ∧ sys.hasEq name = true ∧
      ((∃ e, setEquation { sys with eqs := sys.eqs.filter (fun e => e.name ≠ name) } name g p = .error e ∧
          updateEquation sys name grids per =
            ({ sys with eqs := sys.eqs.filter (fun e => e.name ≠ name) }, some e)) ∨
       (∃ s2, setEquation { sys with eqs := sys.eqs.filter (fun e => e.name ≠ name) } name g p = .ok s2 ∧
          updateEquation sys name grids per = (s2, none))) := by
  generalize hu : updateEquation sys name grids per = u
  unfold updateEquation at hu
  simp only at hu
  split at hu
  · exact Or.inl hu.symm
  · rename_i g hg
    split at hu
    · exact Or.inl hu.symm
    · rename_i p hp
      right
      unfold removeEquation at hu
      cases hh : sys.hasEq name with
      | false =>
        rw [hh] at hu
        exact Or.inl ⟨rfl, hu.symm⟩
      | true =>
        simp only [hh, if_true] at hu
        refine Or.inr ⟨g, p, ?_, ?_, rfl, ?_⟩
        · cases grids with
          | some g0 => exact Or.inl hg
          | none =>
            cases hf : findEq sys.eqs name with
            | none => rw [hf] at hg; cases hg
            | some e => rw [hf] at hg; cases hg; exact Or.inr ⟨rfl, e, rfl, rfl⟩
        · cases per with
          | some p0 => exact Or.inl hp
          | none => exact Or.inr ⟨rfl, hp⟩
        · cases hs : setEquation { sys with eqs := sys.eqs.filter (fun e => e.name ≠ name) } name g p with
          | error e => rw [hs] at hu; exact Or.inl ⟨e, rfl, hu.symm⟩
          | ok s2 => rw [hs] at hu; exact Or.inr ⟨s2, rfl, hu.symm⟩

/-- `update_equation` is a `remove_equation` followed (or not) by a `set_equation`, or nothing: whatever those two
    keep, it keeps. -/
theorem updateEquation_preserves (P : Sys → Prop)
    (hset : ∀ sys sys' n gs m, P sys → setEquation sys n gs m = .ok sys' → P sys')
    (hrem : ∀ sys sys' n, P sys → removeEquation sys n = .ok sys' → P sys')
    (sys : Sys) (name : Nat) (grids : Option (List GridId)) (per : Option PerEntity) (h : P sys) :
    P (updateEquation sys name grids per).1 := by
  rcases updateEquation_cases sys name grids per with hu | ⟨_, hu⟩ | ⟨g, p, _, _, hhas, hu⟩
  · rw [hu]; exact h
  · rw [hu]; exact h
  · have h1 := hrem sys _ name h (if_pos hhas)
    rcases hu with ⟨e, _, hu⟩ | ⟨s2, hs, hu⟩
    · rw [hu]; exact h1
    · rw [hu]; exact hset _ s2 name g p h1 hs

theorem updateEquation_inv (sys : Sys) (name : Nat) (grids : Option (List GridId))
    (per : Option PerEntity) (hinv : sys.Inv) : (updateEquation sys name grids per).1.Inv :=
  updateEquation_preserves Sys.Inv setEquation_inv removeEquation_inv sys name grids per hinv

theorem setEquation_gv (sys sys' : Sys) (name : Nat) (grids : List GridId) (m : PerEntity)
    (h : setEquation sys name grids m = .ok sys') : sys'.grids = sys.grids ∧ sys'.vars = sys.vars := by
  obtain ⟨_, _, rfl⟩ := setEquation_ok h
  exact ⟨rfl, rfl⟩

end PorepyVerif.C06
