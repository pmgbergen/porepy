/-
C06 — row slicing and the loops of `assemble` over the parsed blocks: when they succeed, that the rows they stack are
the rows `sliceIdx` of the full system, and what they record in `assembled_equation_indices`.
-/
import PorepyVerif.C06.LemmasBasic
import PorepyVerif.Common.List

namespace PorepyVerif.C06

theorem getIdx_inv (xs : List α) (idx : List Nat) (r : List α) (h : getIdx xs idx = some r) :
    IsSlice r xs idx := by
  induction idx generalizing r with
  | nil =>
    simp only [getIdx] at h
    cases h
    rfl
  | cons i is ih =>
    simp only [getIdx] at h
    split at h
    · rename_i x r' hx hr
      cases h
      show (x :: r').map some = (i :: is).map (fun k => xs[k]?)
      rw [List.map_cons, List.map_cons, ih r' hr, hx]
    · cases h

theorem getIdx_isSome_iff (xs : List α) (idx : List Nat) :
    (∃ r, getIdx xs idx = some r) ↔ ∀ i ∈ idx, i < xs.length := by
  constructor
  · rintro ⟨r, hr⟩
    exact lt_length_of_map_some (getIdx_inv xs idx r hr)
  · intro h
    induction idx with
    | nil => exact ⟨[], rfl⟩
    | cons i is ih =>
      obtain ⟨r, hr⟩ := ih (fun j hj => h j (List.mem_cons_of_mem _ hj))
      have hi := h i List.mem_cons_self
      exact ⟨xs[i] :: r, by simp [getIdx, hr, List.getElem?_eq_getElem hi]⟩

theorem getIdx_map (f : α → β) (xs : List α) (idx : List Nat) :
    getIdx (xs.map f) idx = (getIdx xs idx).map (List.map f) := by
  induction idx with
  | nil => rfl
  | cons i is ih =>
    simp only [getIdx, ih, List.getElem?_map]
    cases xs[i]? <;> cases getIdx xs is <;> rfl

theorem takeRows_inv (xs : List α) (r : Option (List Nat)) (rows : List α)
    (h : takeRows xs r = .ok rows) : IsSlice rows xs (localIdx xs.length r) := by
  cases r with
  | none =>
    cases h
    exact map_some_eq_range xs
  | some idx =>
    simp only [takeRows] at h
    split at h
    · rename_i r' hr
      cases h
      exact getIdx_inv xs idx _ hr
    · cases h

theorem takeRows_isOk_iff (xs : List α) (r : Option (List Nat)) :
    (∃ rows, takeRows xs r = .ok rows) ↔ ∀ i ∈ localIdx xs.length r, i < xs.length := by
  cases r with
  | none => exact ⟨fun _ i hi => List.mem_range.mp hi, fun _ => ⟨xs, rfl⟩⟩
  | some idx =>
    rw [← getIdx_isSome_iff]
    simp only [takeRows, localIdx]
    cases getIdx xs idx <;> simp

theorem takeRows_error (xs : List α) (r : Option (List Nat)) (e : Err) (h : takeRows xs r = .error e) :
    e = .index ∧ ∃ idx, r = some idx ∧ ∃ i ∈ idx, xs.length ≤ i := by
  cases r with
  | none => cases h
  | some idx =>
    refine ⟨?_, idx, rfl, Decidable.byContradiction fun hno => ?_⟩
    · simp only [takeRows] at h
      split at h
      · cases h
      · cases h
        rfl
    · obtain ⟨rows, hr⟩ := (takeRows_isOk_iff xs (some idx)).mpr
        (fun i hi => Nat.lt_of_not_le (fun hle => hno ⟨i, hi, hle⟩))
      rw [hr] at h
      cases h

theorem takeRows_map (f : α → β) (xs : List α) (r : Option (List Nat)) :
    takeRows (xs.map f) r = (takeRows xs r).map (List.map f) := by
  cases r with
  | none => rfl
  | some idx =>
    simp only [takeRows, getIdx_map]
    cases getIdx xs idx <;> rfl

theorem takeRows_length (xs : List α) (r : Option (List Nat)) (rows : List α)
    (h : takeRows xs r = .ok rows) : rows.length = (localIdx xs.length r).length := by
  have := congrArg List.length (takeRows_inv xs r rows h)
  rw [List.length_map, List.length_map] at this
  exact this

theorem fullRows_cons (e : Equation) (es : List Equation) (ev : Nat → List Row) :
    fullRows (e :: es) ev = ev e.name ++ fullRows es ev :=
  List.flatMap_cons

theorem mem_blocksOf (sel : Equation → Option (Option (List Nat))) (es : List Equation)
    (name : Nat) (r : Option (List Nat)) :
    (name, r) ∈ blocksOf sel es ↔ ∃ e ∈ es, sel e = some r ∧ e.name = name := by
  unfold blocksOf
  rw [List.mem_filterMap]
  constructor
  · rintro ⟨e, he, h⟩
    cases hs : sel e with
    | none => rw [hs] at h; cases h
    | some r' =>
      rw [hs] at h
      cases h
      exact ⟨e, he, hs, rfl⟩
  · rintro ⟨e, he, hs, hn⟩
    exact ⟨e, he, by rw [hs, ← hn]; rfl⟩

theorem jacLoop_cons (ev : Nat → List Row) (name : Nat) (r : Option (List Nat)) (rest : Blocks) (s : Nat) :
    jacLoop ev ((name, r) :: rest) s =
      (match takeRows (ev name) r with
        | .error e => .error e
        | .ok rows =>
          match jacLoop ev rest (s + rows.length) with
          | .error e => .error e
          | .ok (rs, ix) => .ok (rows ++ rs, (name, (List.range rows.length).map (· + s)) :: ix)) := by
  simp only [jacLoop, nextStart_range]
  cases takeRows (ev name) r with
  | error e => rfl
  | ok rows =>
    simp only
    cases jacLoop ev rest (s + rows.length) <;> rfl

theorem jacLoop_cons_ok {ev : Nat → List Row} {name : Nat} {r : Option (List Nat)} {rest : Blocks}
    {s : Nat} {rows : List Row} {ix : List (Nat × List Nat)} :
    jacLoop ev ((name, r) :: rest) s = .ok (rows, ix) ↔
      ∃ part rs ix', takeRows (ev name) r = .ok part ∧
        jacLoop ev rest (s + part.length) = .ok (rs, ix') ∧
        rows = part ++ rs ∧ ix = (name, (List.range part.length).map (· + s)) :: ix' := by
  rw [jacLoop_cons]
  constructor
  · intro h
    split at h
    · cases h
    · rename_i part h0
      split at h
      · cases h
      · rename_i rs ix' h1
        cases h
        exact ⟨part, rs, ix', h0, h1, rfl, rfl⟩
  · rintro ⟨part, rs, ix', h0, h1, rfl, rfl⟩
    simp only [h0, h1]

theorem jacLoop_isOk_iff (ev : Nat → List Row) (blocks : Blocks) :
    ∀ s, (∃ q, jacLoop ev blocks s = .ok q) ↔
      ∀ name r, (name, r) ∈ blocks → ∀ i ∈ localIdx (ev name).length r, i < (ev name).length := by
  induction blocks with
  | nil => intro s; exact ⟨fun _ _ _ hm => (nomatch hm), fun _ => ⟨_, rfl⟩⟩
  | cons b rest ih =>
    obtain ⟨name, r⟩ := b
    intro s
    constructor
    · rintro ⟨⟨rows, ix⟩, h⟩ n r' hm
      obtain ⟨part, rs, ix', h0, h1, _, _⟩ := jacLoop_cons_ok.mp h
      rcases List.mem_cons.mp hm with heq | hm
      · cases heq
        exact (takeRows_isOk_iff _ _).mp ⟨part, h0⟩
      · exact (ih _).mp ⟨_, h1⟩ n r' hm
    · intro hb
      obtain ⟨part, h0⟩ := (takeRows_isOk_iff _ _).mpr (hb name r List.mem_cons_self)
      obtain ⟨⟨rs, ix'⟩, h1⟩ :=
        (ih (s + part.length)).mpr (fun n r' hm => hb n r' (List.mem_cons_of_mem _ hm))
      exact ⟨_, jacLoop_cons_ok.mpr ⟨part, rs, ix', h0, h1, rfl, rfl⟩⟩

theorem jacLoop_error (ev : Nat → List Row) (blocks : Blocks) :
    ∀ s e, jacLoop ev blocks s = .error e →
      e = .index ∧ ∃ name idx, (name, some idx) ∈ blocks ∧ ∃ i ∈ idx, (ev name).length ≤ i := by
  induction blocks with
  | nil => intro s e h; cases h
  | cons b rest ih =>
    obtain ⟨name, r⟩ := b
    intro s e h
    rw [jacLoop_cons] at h
    split at h
    · rename_i e0 h0
      cases h
      obtain ⟨he, idx, rfl, hbad⟩ := takeRows_error _ _ _ h0
      exact ⟨he, name, idx, List.mem_cons_self, hbad⟩
    · split at h
      · rename_i e1 h1
        cases h
        obtain ⟨he, n, idx, hm, hbad⟩ := ih _ _ h1
        exact ⟨he, n, idx, List.mem_cons_of_mem _ hm, hbad⟩
      · cases h

/-- Whenever the Jacobian loop over the blocks of a selection succeeds, it has produced the rows
    of the full system at the positions `sliceIdx` (generalised over the rows `pre` of equations
    already passed). -/
theorem jacLoop_slice (ev : Nat → List Row) (sel : Equation → Option (Option (List Nat)))
    (es : List Equation) :
    ∀ (pre : List Row) (s : Nat) (rows : List Row) (ix : List (Nat × List Nat)),
      jacLoop ev (blocksOf sel es) s = .ok (rows, ix) →
      IsSlice rows (pre ++ fullRows es ev) (sliceIdx ev sel es pre.length) := by
  induction es with
  | nil =>
    intro pre s rows ix h
    cases h
    rfl
  | cons e es ih =>
    intro pre s rows ix h
    have ih' := ih (pre ++ ev e.name)
    rw [List.length_append, List.append_assoc] at ih'
    rw [fullRows_cons, sliceIdx]
    cases hs : sel e with
    | none =>
      simp only [blocksOf, List.filterMap_cons, hs, Option.map_none] at h
      exact ih' s rows ix h
    | some r =>
      simp only [blocksOf, List.filterMap_cons, hs, Option.map_some] at h
      obtain ⟨part, rs, ix', h0, h1, rfl, rfl⟩ := jacLoop_cons_ok.mp h
      exact ((takeRows_inv _ _ _ h0).shift pre _).append (ih' _ _ _ h1)

/-- What the Jacobian loop records in `assembled_equation_indices`. -/
theorem jacLoop_idx (ev : Nat → List Row) (blocks : Blocks) :
    ∀ (preR rows : List Row) (ix : List (Nat × List Nat)),
      jacLoop ev blocks preR.length = .ok (rows, ix) →
      ix.map (·.1) = blocks.map (·.1) ∧
      ix.flatMap (·.2) = (List.range rows.length).map (· + preR.length) ∧
      ∀ p ∈ ix, ∃ r part, (p.1, r) ∈ blocks ∧ takeRows (ev p.1) r = .ok part ∧
        p.2.map (fun k => (preR ++ rows)[k]?) = part.map some := by
  induction blocks with
  | nil =>
    intro preR rows ix h
    cases h
    exact ⟨rfl, rfl, fun _ hp => nomatch hp⟩
  | cons b rest ih =>
    obtain ⟨name, r⟩ := b
    intro preR rows ix h
    obtain ⟨part0, rs, ix', h0, h1, rfl, rfl⟩ := jacLoop_cons_ok.mp h
    rw [← List.length_append] at h1
    obtain ⟨i1, i2, i3⟩ := ih (preR ++ part0) rs ix' h1
    refine ⟨by rw [List.map_cons, List.map_cons, i1], ?_, ?_⟩
    · rw [List.flatMap_cons, i2, List.length_append, List.length_append]
      exact range_shift_append _ _ _
    · intro p hp
      rcases List.mem_cons.mp hp with rfl | hp
      · exact ⟨r, part0, List.mem_cons_self, h0, ((map_some_eq_range part0).shift preR rs).symm⟩
      · obtain ⟨r', part, hm, ht, hv⟩ := i3 p hp
        refine ⟨r', part, List.mem_cons_of_mem _ hm, ht, ?_⟩
        rw [← hv, List.append_assoc]

theorem idxPrefix_of_ok (ev : Nat → List Row) (blocks : Blocks) :
    ∀ s rows ix, jacLoop ev blocks s = .ok (rows, ix) → idxPrefix ev blocks s = ix := by
  induction blocks with
  | nil => intro s rows ix h; cases h; rfl
  | cons b rest ih =>
    obtain ⟨name, r⟩ := b
    intro s rows ix h
    obtain ⟨part0, rs, ix', h0, h1, rfl, rfl⟩ := jacLoop_cons_ok.mp h
    simp only [idxPrefix, h0, nextStart_range, ih _ _ _ h1]

theorem resLoop_eq (ev : Nat → List Row) (blocks : Blocks) :
    ∀ s, resLoop ev blocks = (jacLoop ev blocks s).map (fun p => p.1.map (·.val)) := by
  induction blocks with
  | nil => intro s; rfl
  | cons b rest ih =>
    obtain ⟨name, r⟩ := b
    intro s
    rw [jacLoop_cons]
    simp only [resLoop, takeRows_map]
    cases takeRows (ev name) r with
    | error e => rfl
    | ok part0 =>
      simp only [Except.map]
      rw [ih (s + part0.length)]
      cases jacLoop ev rest (s + part0.length) with
      | error e => rfl
      | ok q => simp [Except.map]

/-- The selected row numbers are a sublist of all row numbers of the full system (hence strictly
    increasing and in range), provided each restriction is a sublist of its operator's local rows. -/
theorem sliceIdx_sublist (ev : Nat → List Row) (sel : Equation → Option (Option (List Nat)))
    (es : List Equation) :
    ∀ off, (∀ e ∈ es, ∀ idx, sel e = some (some idx) → idx.Sublist (List.range (ev e.name).length)) →
      (sliceIdx ev sel es off).Sublist ((List.range (fullRows es ev).length).map (· + off)) := by
  induction es with
  | nil => intro off _; exact List.nil_sublist _
  | cons e es ih =>
    intro off hb
    rw [sliceIdx, fullRows_cons, List.length_append, ← range_shift_append]
    refine List.Sublist.append ?_ (ih _ (fun e' he' => hb e' (List.mem_cons_of_mem _ he')))
    cases hs : sel e with
    | none => exact List.nil_sublist _
    | some r =>
      refine List.Sublist.map _ ?_
      cases r with
      | none => exact List.Sublist.refl _
      | some idx => exact hb e List.mem_cons_self idx hs

theorem sliceIdx_sorted (ev : Nat → List Row) (sel : Equation → Option (Option (List Nat)))
    (es : List Equation) :
    ∀ off, (∀ e ∈ es, ∀ idx, sel e = some (some idx) →
        idx.Pairwise (· < ·) ∧ ∀ i ∈ idx, i < (ev e.name).length) →
      (sliceIdx ev sel es off).Pairwise (· < ·) ∧
      ∀ k ∈ sliceIdx ev sel es off, off ≤ k ∧ k < off + (fullRows es ev).length := by
  intro off h
  have hsub := sliceIdx_sublist ev sel es off (fun e he idx hs =>
    sublist_range_of_pairwise_lt _ idx (h e he idx hs).1 (h e he idx hs).2)
  refine ⟨(List.Pairwise.map (· + off) (fun _ _ hab => Nat.add_lt_add_right hab off)
    List.pairwise_lt_range).sublist hsub, fun k hk => ?_⟩
  obtain ⟨i, hi, rfl⟩ := List.mem_map.mp (hsub.subset hk)
  exact ⟨Nat.le_add_left _ _, by rw [Nat.add_comm]; exact Nat.add_lt_add_left (List.mem_range.mp hi) off⟩

theorem sliceIdx_all (ev : Nat → List Row) (es : List Equation) :
    ∀ off, sliceIdx ev (fun _ => some none) es off =
      (List.range (fullRows es ev).length).map (· + off) := by
  induction es with
  | nil => intro off; rfl
  | cons e es ih =>
    intro off
    simp only [sliceIdx, localIdx, ih, fullRows_cons, List.length_append]
    exact range_shift_append _ _ _

theorem split_sound (eqs : List Equation) (hn : (eqs.map (·.name)).Nodup) :
    ∀ rows : List Row, rows.length = (eqs.map (·.total)).sum →
      fullRows eqs (evOf (splitFull eqs rows)) = rows ∧
      ∀ e ∈ eqs, (evOf (splitFull eqs rows) e.name).length = e.total := by
  induction eqs with
  | nil =>
    intro rows h
    simp only [List.map_nil, List.sum_nil, List.length_eq_zero_iff] at h
    subst h
    exact ⟨rfl, fun _ he => nomatch he⟩
  | cons e es ih =>
    intro rows h
    simp only [List.map_cons, List.nodup_cons, List.sum_cons] at hn h
    obtain ⟨ih1, ih2⟩ := ih hn.2 (rows.drop e.total)
      (by rw [List.length_drop, h, Nat.add_sub_cancel_left])
    have hother : ∀ e' ∈ es, evOf (splitFull (e :: es) rows) e'.name =
        evOf (splitFull es (rows.drop e.total)) e'.name := by
      intro e' he'
      have hne : e.name ≠ e'.name := by
        intro hh
        apply hn.1
        rw [hh]
        exact List.mem_map.mpr ⟨e', he', rfl⟩
      simp only [evOf, splitFull, lookup, if_neg hne]
    have hhead : evOf (splitFull (e :: es) rows) e.name = rows.take e.total := by
      simp only [evOf, splitFull, lookup, if_true, Option.getD_some]
    refine ⟨?_, ?_⟩
    · rw [fullRows_cons, hhead]
      have : fullRows es (evOf (splitFull (e :: es) rows)) =
          fullRows es (evOf (splitFull es (rows.drop e.total))) := by
        unfold fullRows
        exact Common.flatMap_congr hother
      rw [this, ih1]
      exact List.take_append_drop _ _
    · intro e' he'
      rcases List.mem_cons.mp he' with rfl | he''
      · rw [hhead, List.length_take, h]
        exact Nat.min_eq_left (Nat.le_add_right _ _)
      · rw [hother e' he'']
        exact ih2 e' he''

end PorepyVerif.C06
