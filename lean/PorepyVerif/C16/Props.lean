/-
C16 — property theorems: TPSA is invariant under rigid translations.

Property (properties.jsonl): for any grid and constant Lame parameters, a uniform displacement with matching
Dirichlet boundary data produces zero TPSA stress on every face; solving the full TPSA system with that
boundary data returns the translation in every cell with zero rotation and zero solid pressure (Dirichlet or
mixed Dirichlet/Neumann data consistent with the translation).

All statements are about the model of `Tpsa.discretize` in Model.lean, for EVERY face / every list of faces
(any number of sides, any positive or negative weights, any normals, any mix of Dirichlet / Neumann per
direction — "rolling" conditions included), every shear modulus per side (constant Lame parameters are a
special case) and every translation vector.  The hypotheses are explicit and decidable:
`FaceOK` (no Robin direction; an interior face sees opposite signs; the weights `2 mu/delta` do not sum to 0),
`Consistent` (datum = translation on Dirichlet directions, zero traction on Neumann directions), and, for the
cell balances, `closure c fs = 0` (the signed face normals of the cell sum to zero: the cell is closed).
-/
import PorepyVerif.C16.Lemmas
import Mathlib.Tactic.NormNum
import Mathlib.Tactic.Linarith

namespace PorepyVerif.C16

/-- Zero face stress.  For a uniform displacement `t` in the cell(s) of the face, zero rotation and zero solid
    pressure, and a datum consistent with `t` in direction `d`:
    (1) the displacement-difference contributions `stress @ u + bound_stress @ g` cancel,
    (2) the whole stress row (including the rotation and solid-pressure columns) vanishes,
    (3) the rotation-diffusion flux and the solid-pressure stabilisation flux vanish. -/
theorem tpsa_translation_zero_stress (dim3 : Bool) (f : Face) (t g : Vec) (d : Dir)
    (hrob : (f.bc d).isRob = false) (hint : f.bc d = .int → sgnSum f.sides = 0)
    (hc : Consistent f t g d) :
    stressU f (fun _ => t) d + stressG f g d = 0
    ∧ stressFlux dim3 f (translation t).u (translation t).r (translation t).p g d = 0
    ∧ rotRot3 f (translation t).r d = 0 ∧ rotRot2 f (translation t).r = 0
    ∧ massP dim3 f (translation t).p = 0 := by
  have key := translation_stress_cancels f t g d hrob hint hc
  refine ⟨?_, ?_, rotRot3_zero f d, rotRot2_zero f, massP_zero dim3 f⟩
  · rw [stressU_const, stressG_eq]; linear_combination key
  · rw [stressFlux_translation]; exact key

/-- Interior rows of the `stress` (displacement) block have zero row sum: one transmissibility `trm_nd[d, f]` enters
    both sides of the face, with the opposite signs of `cell_faces`. -/
theorem tpsa_stress_coefficients_balance (f : Face) (d : Dir) (hint : sgnSum f.sides = 0) :
    sideSum f.sides (fun s => -(trmNd f d * s.sgn)) = 0 := by
  unfold sgnSum at hint
  rw [sideSum_congr (ψ := fun s => -(trmNd f d) * s.sgn) (fun s _ => by ring), sideSum_mul_left, hint, mul_zero]

/-- The face displacement (average of the cell displacements + boundary contribution) of a translated state
    with consistent data is the translation itself, in every direction that is not Robin. -/
theorem tpsa_translation_face_disp (f : Face) (t g : Vec) (d : Dir) (hw : sumTwoM f.sides ≠ 0)
    (hr : (f.bc d).isRob = false) (hc : Consistent f t g d) :
    (faceDisp f (fun _ => t) g).get d = t.get d :=
  (faceDisp_get ..).trans (faceDisp_comp f t g d hw hr hc)

/-- Rotation and solid-mass fluxes of the translated state: not zero face by face, but the face normal applied
    to the constant `t` (`-n × t`, resp. `n · t`), which is what makes them cancel over a closed cell. -/
theorem tpsa_translation_face_fluxes (dim3 : Bool) (f : Face) (t g : Vec)
    (hf : FaceOK dim3 f) (hc : ∀ e ∈ dirs dim3, Consistent f t g e) :
    (∀ d ∈ rdirs dim3, rotFlux dim3 f (translation t).u (translation t).r g d = -(cross f.n t).get d)
    ∧ massFlux dim3 f (translation t).u (translation t).p g
        = t.x * f.n.x + t.y * f.n.y + (if dim3 then t.z else 0) * f.n.z :=
  have hv := fun e he => tpsa_translation_face_disp f t g e hf.2 (hf.1 e he).1 (hc e he)
  ⟨fun _ hd => rotFlux_of_faceDisp hv hd (by rw [translation_r, rotRot3_zero, rotRot2_zero, ite_self]),
    massFlux_of_faceDisp hv (massP_zero dim3 f)⟩

/-- hypotheses on the grid with its boundary data -/
def GridOK (dim3 : Bool) (fs : Faces) (t : Vec) : Prop :=
  ∀ p ∈ fs, FaceOK dim3 p.1 ∧ ∀ d ∈ dirs dim3, Consistent p.1 t p.2 d

instance (dim3 : Bool) (fs : Faces) (t : Vec) : Decidable (GridOK dim3 fs t) := by
  unfold GridOK; exact inferInstance

/-- `(u, r, p) = (t, 0, 0)` satisfies every discrete equation of the full TPSA system
    `div (F x + R g) - accum x = 0` in every closed cell `c`: momentum balance in every direction, rotation
    balance (3 equations in 3-D, 1 in 2-D) and solid-mass balance — for any grid whose faces satisfy `FaceOK`,
    with the translation as Dirichlet datum and zero traction as Neumann datum (any mix, per direction). -/
theorem tpsa_translation_solves (dim3 : Bool) (fs : Faces) (cells : Nat → Cell) (t : Vec) (c : Nat)
    (hG : GridOK dim3 fs t) (hclosed : closure c fs = Vec.zero) :
    resid dim3 fs cells (translation t) c = Resid.zero := by
  -- the stress vanishes face by face; the rotation and mass fluxes are linear in the normal and cancel over the cell
  refine (resid_eq_zero_iff ..).mpr ⟨fun d hd => ?_, fun d hd => ?_, ?_⟩
  · exact cellSum_eq_zero c (fun p hp => (stressFlux_translation dim3 p.1 t p.2 d).trans
      (translation_stress_cancels p.1 t p.2 d ((hG p hp).1.1 d hd).1 ((hG p hp).1.1 d hd).2 ((hG p hp).2 d hd)))
  · rw [cellSum_cross_zero c fs hclosed t d (fun p hp =>
      (tpsa_translation_face_fluxes dim3 p.1 t p.2 (hG p hp).1 (hG p hp).2).1 d hd), translation_r, zero_get, mul_zero]
  · rw [cellSum_normal_zero c fs hclosed t.x t.y (if dim3 then t.z else 0) (fun p hp =>
      (tpsa_translation_face_fluxes dim3 p.1 t p.2 (hG p hp).1 (hG p hp).2).2), translation_p, mul_zero]

/-- `st` satisfies all balance equations of the cells `0 .. nc-1` -/
def Solves (dim3 : Bool) (fs : Faces) (cells : Nat → Cell) (nc : Nat) (st : State) : Prop :=
  ∀ c, c < nc → resid dim3 fs cells st c = Resid.zero

/-- two states agree on the unknowns of the system (active displacement components, the rotation vector in
    3-D resp. the scalar rotation in 2-D, the solid pressure) -/
def AgreeOn (dim3 : Bool) (nc : Nat) (a b : State) : Prop :=
  ∀ c, c < nc → (∀ d ∈ dirs dim3, (a.u c).get d = (b.u c).get d)
    ∧ (if dim3 then a.r c = b.r c else (a.r c).z = (b.r c).z) ∧ a.p c = b.p c

/-- the system matrix `div F - accum` is nonsingular: the linear system has at most one solution
    (explicit hypothesis; on the real code it is observed: the sparse solve succeeds) -/
def Nonsingular (dim3 : Bool) (fs : Faces) (cells : Nat → Cell) (nc : Nat) : Prop :=
  ∀ a b, Solves dim3 fs cells nc a → Solves dim3 fs cells nc b → AgreeOn dim3 nc a b

/-- If the system is nonsingular, ANY solution of the full TPSA system with translation-consistent data is the
    translation in every cell, with zero rotation and zero solid pressure — i.e. this is what the solve returns. -/
theorem tpsa_translation_unique (dim3 : Bool) (fs : Faces) (cells : Nat → Cell) (nc : Nat) (t : Vec)
    (hG : GridOK dim3 fs t) (hclosed : ∀ c, c < nc → closure c fs = Vec.zero)
    (hns : Nonsingular dim3 fs cells nc) (st : State) (hst : Solves dim3 fs cells nc st) :
    ∀ c, c < nc → (∀ d ∈ dirs dim3, (st.u c).get d = t.get d)
      ∧ (if dim3 then st.r c = Vec.zero else (st.r c).z = 0) ∧ st.p c = 0 := by
  have hT : Solves dim3 fs cells nc (translation t) :=
    fun c hc => tpsa_translation_solves dim3 fs cells t c hG (hclosed c hc)
  exact fun c hc => hns st (translation t) hst hT c hc

/-- the conclusion of `tpsa_translation_unique` in 2-D, unknown by unknown -/
theorem unique_components {st : State} {t : Vec} {c : Nat}
    (h : (∀ d ∈ dirs false, (st.u c).get d = t.get d)
      ∧ (if (false : Bool) then st.r c = Vec.zero else (st.r c).z = 0) ∧ st.p c = 0) :
    (st.u c).x = t.x ∧ (st.u c).y = t.y ∧ (st.r c).z = 0 ∧ st.p c = 0 :=
  ⟨h.1 .x (by simp [dirs]), h.1 .y (by simp [dirs]), h.2.1, h.2.2⟩

/-- NONSINGULARITY FOR A CLASS: every one-cell grid (any number of faces, any normals, areas, distances, shear
    moduli; 2-D and 3-D) with Dirichlet conditions on all faces has at most one solution, provided the cell is
    closed, the sum of the face transmissibilities does not vanish (true for positive weights) and
    `vol/mu`, `vol/lambda` are non-zero.  The system decouples: the rotation and mass fluxes do not see the state
    (`rotFlux_dirBnd0`, `massFlux_dirBnd0`) and the momentum row is `K_d u_d + G_d` (`mom_one_cell`, `K_d = oneCellK fs d`),
    so each unknown is fixed by its own equation. -/
theorem nonsingular_one_cell_dirichlet (dim3 : Bool) (fs : Faces) (cells : Nat → Cell)
    (h1 : ∀ p ∈ fs, DirBnd0 dim3 p.1) (hcl : closure 0 fs = Vec.zero)
    (hK : ∀ d ∈ dirs dim3, oneCellK fs d ≠ 0)
    (hmu : (cells 0).vol / (cells 0).mu ≠ 0) (hlam : (cells 0).vol / (cells 0).lam ≠ 0) :
    Nonsingular dim3 fs cells 1 := by
  intro a b ha hb c hc
  obtain rfl : c = 0 := by omega
  obtain ⟨ma, ra, pa⟩ := (resid_eq_zero_iff ..).mp (ha 0 hc)
  obtain ⟨mb, rb, pb⟩ := (resid_eq_zero_iff ..).mp (hb 0 hc)
  refine ⟨fun d hd => ?_, (agree_rot_iff ..).mpr (fun d hd => ?_), ?_⟩
  · have h := (ma d hd).trans (mb d hd).symm
    rw [mom_one_cell dim3 fs h1 hcl a d hd, mom_one_cell dim3 fs h1 hcl b d hd] at h
    exact mul_left_cancel₀ (hK d hd) (add_right_cancel h)
  · exact mul_left_cancel₀ hmu ((ra d hd).symm.trans ((cellSum_congr 0 fun p hp =>
      (rotFlux_dirBnd0 (h1 p hp) a p.2 hd).trans (rotFlux_dirBnd0 (h1 p hp) b p.2 hd).symm).trans (rb d hd)))
  · exact mul_left_cancel₀ hlam (pa.symm.trans ((cellSum_congr 0 fun p hp =>
      (massFlux_dirBnd0 (h1 p hp) a p.2).trans (massFlux_dirBnd0 (h1 p hp) b p.2).symm).trans pb))

/-- … hence on every such grid the solve returns the translation -/
theorem tpsa_translation_unique_one_cell (dim3 : Bool) (fs : Faces) (cells : Nat → Cell) (t : Vec)
    (hG : GridOK dim3 fs t) (h1 : ∀ p ∈ fs, DirBnd0 dim3 p.1) (hcl : closure 0 fs = Vec.zero)
    (hK : ∀ d ∈ dirs dim3, oneCellK fs d ≠ 0)
    (hmu : (cells 0).vol / (cells 0).mu ≠ 0) (hlam : (cells 0).vol / (cells 0).lam ≠ 0)
    (st : State) (hst : Solves dim3 fs cells 1 st) :
    (∀ d ∈ dirs dim3, (st.u 0).get d = t.get d)
      ∧ (if dim3 then st.r 0 = Vec.zero else (st.r 0).z = 0) ∧ st.p 0 = 0 :=
  tpsa_translation_unique dim3 fs cells 1 t hG
    (fun c hc => Nat.lt_one_iff.mp hc ▸ hcl)
    (nonsingular_one_cell_dirichlet dim3 fs cells h1 hcl hK hmu hlam) st hst 0 (by omega)

theorem not_nonsingular_of_two_solutions (dim3 : Bool) (fs : Faces) (cells : Nat → Cell) (nc : Nat) (a b : State)
    (ha : Solves dim3 fs cells nc a) (hb : Solves dim3 fs cells nc b) (c : Nat) (hc : c < nc) (d : Dir)
    (hd : d ∈ dirs dim3) (hne : (a.u c).get d ≠ (b.u c).get d) : ¬ Nonsingular dim3 fs cells nc :=
  fun h => hne ((h a b ha hb c hc).1 d hd)

/-- THE SINGULAR MIXED CASE: a strip one cell wide.  `column n t` is a column of `n` unit squares (mu = 1) stacked
    in y: the bottom face carries the Dirichlet datum `t`, the 2n lateral faces and the top face are traction free
    (Neumann, datum 0). -/
def column (n : Nat) (t : Vec) : Faces :=
  [(⟨1, ⟨0, 1, 0⟩, [⟨0, -1, 1, 1/2⟩], .dir, .dir, .int⟩, t)]
    ++ (List.range n).flatMap (fun k =>
        [(⟨1, ⟨1, 0, 0⟩, [⟨k, -1, 1, 1/2⟩], .neu, .neu, .int⟩, Vec.zero),
         (⟨1, ⟨1, 0, 0⟩, [⟨k, 1, 1, 1/2⟩], .neu, .neu, .int⟩, Vec.zero)])
    ++ (List.range (n - 1)).map (fun k =>
        (⟨1, ⟨0, 1, 0⟩, [⟨k, 1, 1, 1/2⟩, ⟨k + 1, -1, 1, 1/2⟩], .int, .int, .int⟩, Vec.zero))
    ++ [(⟨1, ⟨0, 1, 0⟩, [⟨n - 1, 1, 1, 1/2⟩], .neu, .neu, .int⟩, Vec.zero)]

/-- the discrete null mode added to the translation: horizontal displacement growing linearly with the height of
    the cell centre (`gamma * y_k`, `y_k = (2k+1)/2`), constant rotation `2 gamma`, zero solid pressure -/
def shearMode (t : Vec) (gamma : Rat) : State :=
  ⟨fun k => ⟨t.x + gamma * ((2 * (k : Rat) + 1) / 2), t.y, 0⟩, fun _ => ⟨0, 0, 2 * gamma⟩, fun _ => 0⟩

def tEx : Vec := ⟨3, -5/2, 0⟩

def unitCells : Nat → Cell := fun _ => ⟨1, 1, 1⟩

/-- both the translation and the translation plus the shear/rotation mode satisfy every balance equation -/
theorem strip_null_mode :
    (Solves false (column 1 tEx) unitCells 1 (translation tEx) ∧ Solves false (column 1 tEx) unitCells 1 (shearMode tEx 2))
    ∧ (Solves false (column 2 tEx) unitCells 2 (translation tEx) ∧ Solves false (column 2 tEx) unitCells 2 (shearMode tEx 2))
    ∧ (Solves false (column 3 tEx) unitCells 3 (translation tEx) ∧ Solves false (column 3 tEx) unitCells 3 (shearMode tEx (-1/3))) := by
  unfold Solves
  decide +kernel

theorem strip_singular_3 : ¬ Nonsingular false (column 3 tEx) unitCells 3 :=
  not_nonsingular_of_two_solutions false _ _ 3 (translation tEx) (shearMode tEx (-1/3))
    strip_null_mode.2.2.1 strip_null_mode.2.2.2 0 (by omega) .x (by simp [dirs]) (by decide +kernel)

theorem strip_singular_1 : ¬ Nonsingular false (column 1 tEx) unitCells 1 :=
  not_nonsingular_of_two_solutions false _ _ 1 (translation tEx) (shearMode tEx 2)
    strip_null_mode.1.1 strip_null_mode.1.2 0 (by omega) .x (by simp [dirs]) (by decide +kernel)

/-- the data of the strip satisfy all hypotheses of `tpsa_translation_solves` (only `Nonsingular` fails) -/
example : GridOK false (column 3 tEx) tEx ∧ ∀ c, c < 3 → closure c (column 3 tEx) = Vec.zero := by decide +kernel

/-- Stress row of a Robin face-direction for the translated state (u = t, r = 0, p = 0), any datum `g`:
    `sgn * ((1 - b + T) g - T t)` with `T = tShear` (harmonic combination of `mu/delta` and the Robin weight)
    and `b = alpha / (2 mu/delta + alpha)`. -/
theorem tpsa_robin_stress (dim3 : Bool) (f : Face) (t g : Vec) (d : Dir) (alpha : Rat) (hb : f.bc d = .rob alpha) :
    stressFlux dim3 f (translation t).u (translation t).r (translation t).p g d
      = sgnSum f.sides * ((1 - b2fRob f d + tShear f d) * g.get d - tShear f d * t.get d) := by
  rw [stressFlux_translation]
  simp only [trmNd, trmBnd, hb]

/-- … hence the stress vanishes for exactly one datum, `g = T t / (1 - b + T)` — which is NOT the translation
    (Dirichlet-like) and not zero (Neumann-like) -/
theorem tpsa_robin_zero_stress_iff (dim3 : Bool) (f : Face) (t g : Vec) (d : Dir) (alpha : Rat)
    (hb : f.bc d = .rob alpha) (hs : sgnSum f.sides ≠ 0) (hk : 1 - b2fRob f d + tShear f d ≠ 0) :
    stressFlux dim3 f (translation t).u (translation t).r (translation t).p g d = 0
      ↔ g.get d = tShear f d * t.get d / (1 - b2fRob f d + tShear f d) := by
  rw [tpsa_robin_stress dim3 f t g d alpha hb, mul_eq_zero, or_iff_right hs, sub_eq_zero, eq_div_iff hk,
    mul_comm (g.get d)]

/-- Face displacement on a Robin face-direction for the translated state: the weighted mean
    `(Σ 2mu/delta * t + (alpha + 1/area) g) / (Σ 2mu/delta + alpha)`. -/
theorem tpsa_robin_face_disp (f : Face) (t g : Vec) (d : Dir) (alpha : Rat) (hb : f.bc d = .rob alpha) :
    (faceDisp f (fun _ => t) g).get d
      = (sumTwoM f.sides * t.get d + (alpha + 1 / f.area) * g.get d) / (sumTwoM f.sides + alpha) := by
  have hmu : muSum f d = sumTwoM f.sides + alpha := by simp [muSum, hb, BC.robW]
  have hg : gammaB f d = 1 / f.area * (1 / (sumTwoM f.sides + alpha)) + alpha / (sumTwoM f.sides + alpha) := by
    simp [gammaB, b2fRob, hb, hmu, BC.isNeu, BC.isRob, BC.isDir]
  rw [faceDisp_get, sideSum_c2fW (by simp [hb]), hmu, hg]
  ring

/-- a boundary face with Robin weight 1 (unit area, mu = 1, delta = 1/2) -/
def fRob : Face := ⟨1, ⟨1, 0, 0⟩, [⟨0, 1, 1, 1/2⟩], .rob 1, .rob 1, .rob 1⟩

/-- Robin data cannot be consistent with a translation: the datum that makes the stress vanish (5/8 t) is not the
    datum that makes the face displacement equal t (1/2 t).  This is why the property (and `FaceOK`) exclude Robin
    faces; the Robin entries of the matrices are still tied to the model by the correspondence check. -/
theorem robin_not_translation_consistent :
    ¬ ∃ g : Vec, stressFlux false fRob (translation ⟨1, 0, 0⟩).u (translation ⟨1, 0, 0⟩).r (translation ⟨1, 0, 0⟩).p g .x = 0
        ∧ (faceDisp fRob (fun _ => ⟨1, 0, 0⟩) g).get .x = 1 := by
  rintro ⟨g, h1, h2⟩
  rw [tpsa_robin_stress false fRob ⟨1, 0, 0⟩ g .x 1 rfl] at h1
  rw [tpsa_robin_face_disp fRob ⟨1, 0, 0⟩ g .x 1 rfl] at h2
  have e1 : sgnSum fRob.sides = 1 := by decide +kernel
  have e2 : b2fRob fRob .x = 1 / 5 := by decide +kernel
  have e3 : tShear fRob .x = 4 / 3 := by decide +kernel
  have e4 : sumTwoM fRob.sides = 4 := by decide +kernel
  have e5 : fRob.area = 1 := rfl
  rw [e1, e2, e3] at h1
  rw [e4, e5] at h2
  simp only [Vec.get] at h1 h2
  -- `h1` says `g.x = 5/8`, `h2` says `g.x = 1/2`
  exact zero_ne_one (α := ℚ) (by linear_combination (15/4) * h1 - 20 * h2)

theorem faceOK_of_wf (dim3 : Bool) (f : Face) (h : FaceWF dim3 f) : FaceOK dim3 f := by
  obtain ⟨hpos, hshape⟩ := h
  refine ⟨fun d hd => ?_, ne_of_gt (sumTwoM_pos f.sides (fun h0 => by simp [h0] at hshape) hpos)⟩
  split at hshape
  · next a b hs =>
    exact ⟨by simp [hshape.2 d hd, BC.isRob], fun _ => by simp only [sgnSum, hs, sideSum]; linarith [hshape.1]⟩
  · rcases hshape d hd with h | h <;> simp [h, BC.isRob]
  · exact hshape.elim

/-- the translation solves the full system on every grid of well-formed faces with consistent data and closed
    cells: no hypothesis left that is not a decidable condition on the input data -/
theorem tpsa_translation_solves_wf (dim3 : Bool) (fs : Faces) (cells : Nat → Cell) (t : Vec) (c : Nat)
    (hwf : ∀ p ∈ fs, FaceWF dim3 p.1 ∧ ∀ d ∈ dirs dim3, Consistent p.1 t p.2 d)
    (hclosed : closure c fs = Vec.zero) :
    resid dim3 fs cells (translation t) c = Resid.zero :=
  tpsa_translation_solves dim3 fs cells t c
    (fun p hp => ⟨faceOK_of_wf dim3 p.1 (hwf p hp).1, (hwf p hp).2⟩) hclosed

/-- positive areas, shear moduli and distances and signs ±1 make the sum of the face transmissibilities non-zero -/
theorem oneCell_K_ne_zero (dim3 : Bool) (fs : Faces) (hne : fs ≠ []) (h1 : ∀ p ∈ fs, DirBnd0 dim3 p.1)
    (hpos : ∀ p ∈ fs, 0 < p.1.area ∧ ∀ s ∈ p.1.sides, 0 < s.mu ∧ 0 < s.delta ∧ s.sgn * s.sgn = 1)
    (d : Dir) (hd : d ∈ dirs dim3) :
    oneCellK fs d ≠ 0 := by
  refine ne_of_lt (cellSum_neg 0 hne (fun p hp => ?_))
  obtain ⟨s, hs, -⟩ := (h1 p hp).side
  obtain ⟨hA, hS⟩ := hpos p hp
  obtain ⟨hmu, hdl, hsg⟩ := hS s (by rw [hs]; exact List.mem_singleton_self s)
  have hT : tShear p.1 d = 2 * p.1.area * s.m := by
    simp [tShear, sumInvM, hs, sideSum, (h1 p hp).2.1 d hd, BC.robInv]
  have hsum : sgnSum p.1.sides = s.sgn := by simp [sgnSum, hs, sideSum]
  rw [(h1 p hp).sgnOf_eq, hsum, hT]
  have := mul_pos (mul_pos two_pos hA) (div_pos hmu hdl)
  calc s.sgn * -(2 * p.1.area * s.m * s.sgn) = -(2 * p.1.area * s.m) * (s.sgn * s.sgn) := by ring
    _ < 0 := by rw [hsg, mul_one]; exact neg_neg_of_pos this

/-- … so on one-cell grids with positive data and Dirichlet conditions in every active direction the solve provably
    returns the translation: every hypothesis is a decidable condition on the input data -/
theorem tpsa_translation_unique_dirichlet_pos (dim3 : Bool) (fs : Faces) (cells : Nat → Cell) (t : Vec)
    (hne : fs ≠ []) (hG : GridOK dim3 fs t) (h1 : ∀ p ∈ fs, DirBnd0 dim3 p.1) (hcl : closure 0 fs = Vec.zero)
    (hpos : ∀ p ∈ fs, 0 < p.1.area ∧ ∀ s ∈ p.1.sides, 0 < s.mu ∧ 0 < s.delta ∧ s.sgn * s.sgn = 1)
    (hc : 0 < (cells 0).vol ∧ 0 < (cells 0).mu ∧ 0 < (cells 0).lam)
    (st : State) (hst : Solves dim3 fs cells 1 st) :
    (∀ d ∈ dirs dim3, (st.u 0).get d = t.get d)
      ∧ (if dim3 then st.r 0 = Vec.zero else (st.r 0).z = 0) ∧ st.p 0 = 0 :=
  tpsa_translation_unique_one_cell dim3 fs cells t hG h1 hcl (oneCell_K_ne_zero dim3 fs hne h1 hpos)
    (ne_of_gt (div_pos hc.1 hc.2.1)) (ne_of_gt (div_pos hc.1 hc.2.2)) st hst

/-- the same for faces that are Dirichlet in all three directions (`OneCellDir`) -/
theorem tpsa_translation_unique_one_cell_pos (dim3 : Bool) (fs : Faces) (cells : Nat → Cell) (t : Vec)
    (hne : fs ≠ []) (hG : GridOK dim3 fs t) (h1 : OneCellDir fs) (hcl : closure 0 fs = Vec.zero)
    (hpos : ∀ p ∈ fs, 0 < p.1.area ∧ ∀ s ∈ p.1.sides, 0 < s.mu ∧ 0 < s.delta ∧ s.sgn * s.sgn = 1)
    (hc : 0 < (cells 0).vol ∧ 0 < (cells 0).mu ∧ 0 < (cells 0).lam)
    (st : State) (hst : Solves dim3 fs cells 1 st) :
    (∀ d ∈ dirs dim3, (st.u 0).get d = t.get d)
      ∧ (if dim3 then st.r 0 = Vec.zero else (st.r 0).z = 0) ∧ st.p 0 = 0 :=
  tpsa_translation_unique_dirichlet_pos dim3 fs cells t hne hG (fun p hp => (h1 p hp).dirBnd0 dim3) hcl hpos hc st hst

/-- the default `BoundaryConditionVectorial` data (identity basis, diagonal Robin weights) with no Robin direction —
    i.e. every input the property quantifies over — passes the checks: the property's inputs never reach an
    error branch -/
theorem validate_ok (bs : List BcFace)
    (h : ∀ b ∈ bs, b.isRob ≠ [] ∧ (∀ r ∈ b.isRob, r = false) ∧ (∀ q ∈ b.basisOff, q = 0) ∧ (∀ q ∈ b.basisDiag, q = 1)
      ∧ (∀ q ∈ b.robOff, q = 0)) : validate bs = true := by
  unfold validate
  rw [List.all_eq_true]
  intro b hb
  obtain ⟨h0, h1, h2, h3, h4⟩ := h b hb
  have nopos : ∀ l : List Rat, (∀ q ∈ l, q = 0) → l.any (fun q => decide (0 < q)) = false := fun l hl =>
    List.any_eq_false.mpr (fun q hq => by simp [hl q hq])
  have e2 : b.basisDiag.all (fun q => decide (q = 1)) = true := List.all_eq_true.mpr (fun q hq => by simp [h3 q hq])
  have e4 : b.isRob.any id = false := List.any_eq_false.mpr (fun r hr => by simp [h1 r hr])
  have e5 : b.isRob.all id = false := by
    obtain ⟨r, l, hl⟩ := List.exists_cons_of_ne_nil h0
    simp [hl, h1 r (by rw [hl]; exact List.mem_cons_self)]
  simp [validFace, nopos _ h2, nopos _ h4, e2, e4, e5]

/-- a face that mixes Robin with another kind is rejected -/
theorem validate_rejects_mixed (b : BcFace) (bs : List BcFace) (hb : b ∈ bs)
    (h1 : true ∈ b.isRob) (h2 : false ∈ b.isRob) : validate bs = false := by
  have hany : b.isRob.any id = true := List.any_eq_true.mpr ⟨true, h1, rfl⟩
  have hall : b.isRob.all id = false := by
    rw [List.all_eq_false]; exact ⟨false, h2, by simp⟩
  have : validFace b = false := by simp [validFace, hany, hall]
  unfold validate
  rw [List.all_eq_false]
  exact ⟨b, hb, by simp [this]⟩

/-- `ndof` is the number of unknowns of the assembled system (displacement nd, rotation 1 / 3, pressure 1 per cell) -/
theorem ndof_counts_unknowns (nc : Nat) :
    ndof 2 nc = some (nc * (2 + 1 + 1)) ∧ ndof 3 nc = some (nc * (3 + 3 + 1))
      ∧ ∀ dim, dim ≠ 2 → dim ≠ 3 → ndof dim nc = none := by
  refine ⟨by simp [ndof], by simp [ndof], ?_⟩
  intro dim h2 h3
  simp [ndof, h2, h3]

example : validate [⟨[false, false], [0, 0], [1, 1], [0, -3]⟩, ⟨[true, true], [0, 0], [1, 1], [0, 0]⟩] = true := by decide
example : validate [⟨[true, false], [0, 0], [1, 1], [0, 0]⟩] = false := by decide
example : validate [⟨[false, false], [0, 0], [1, 1], [0, 2]⟩] = false := by decide

section Examples

/-- unit square, one cell, faces W E S N (normals +x +x +y +y, signs -1 +1 -1 +1), mu = 2, delta = 1/2 -/
def sq1 (bW bE bS bN : BC × BC) (gW gE gS gN : Vec) : Faces :=
  [ (⟨1, ⟨1, 0, 0⟩, [⟨0, -1, 2, 1/2⟩], bW.1, bW.2, .int⟩, gW),
    (⟨1, ⟨1, 0, 0⟩, [⟨0, 1, 2, 1/2⟩], bE.1, bE.2, .int⟩, gE),
    (⟨1, ⟨0, 1, 0⟩, [⟨0, -1, 2, 1/2⟩], bS.1, bS.2, .int⟩, gS),
    (⟨1, ⟨0, 1, 0⟩, [⟨0, 1, 2, 1/2⟩], bN.1, bN.2, .int⟩, gN) ]

/-- mixed data: west Dirichlet, east Neumann, south rolling (Dirichlet in x, Neumann in y), north Dirichlet -/
def sqMixed : Faces :=
  sq1 (.dir, .dir) (.neu, .neu) (.dir, .neu) (.dir, .dir) tEx Vec.zero ⟨3, 0, 0⟩ tEx

theorem sqMixed_ok : GridOK false sqMixed tEx ∧ closure 0 sqMixed = Vec.zero := by decide +kernel

example : GridOK false sqMixed tEx ∧ closure 0 sqMixed = Vec.zero := sqMixed_ok

example : resid false sqMixed (fun _ => ⟨1, 2, 3⟩) (translation tEx) 0 = Resid.zero :=
  tpsa_translation_solves false sqMixed _ tEx 0 sqMixed_ok.1 sqMixed_ok.2

/-- the hypotheses are not redundant: a Dirichlet datum that differs from the translation leaves a residual -/
example : resid false (sq1 (.dir, .dir) (.neu, .neu) (.dir, .neu) (.dir, .dir) tEx Vec.zero ⟨3, 0, 0⟩ ⟨4, 0, 0⟩)
    (fun _ => ⟨1, 2, 3⟩) (translation tEx) 0 ≠ Resid.zero := by decide +kernel

/-- two cells in 3-D sharing one interior face (unit cubes side by side in x), different shear moduli on the
    two sides; only the faces needed for the per-face statements -/
def fInt : Face := ⟨1, ⟨1, 0, 0⟩, [⟨0, 1, 2, 1/2⟩, ⟨1, -1, 5, 1/4⟩], .int, .int, .int⟩
def fDir : Face := ⟨1, ⟨1, 0, 0⟩, [⟨1, 1, 5, 1/4⟩], .dir, .neu, .dir⟩

example : FaceOK true fInt ∧ FaceOK true fDir := by decide +kernel

example : stressFlux true fInt (translation ⟨1, -2, 3⟩).u (translation ⟨1, -2, 3⟩).r (translation ⟨1, -2, 3⟩).p
    Vec.zero .y = 0 :=
  (tpsa_translation_zero_stress true fInt ⟨1, -2, 3⟩ Vec.zero .y (by decide +kernel) (by decide +kernel)
    (by decide +kernel)).2.1

/-- the interior coefficients are not trivially zero: the x-row of `fInt` has entries -T, +T with T = 20/3 ≠ 0 -/
example : trmNd fInt .x = 20 / 3 := by decide +kernel

example : (faceDisp fDir (fun _ => ⟨1, -2, 3⟩) ⟨1, 0, 3⟩).get .y = -2 :=
  tpsa_translation_face_disp fDir ⟨1, -2, 3⟩ ⟨1, 0, 3⟩ .y (by decide +kernel) (by decide +kernel)
    (by decide +kernel)

def sqDir : Faces := sq1 (.dir, .dir) (.dir, .dir) (.dir, .dir) (.dir, .dir) tEx tEx tEx tEx
def cellsEx : Nat → Cell := fun _ => ⟨1, 2, 1⟩

/-- the nonsingularity hypothesis is satisfiable: the one-cell all-Dirichlet system has a unique solution -/
theorem nonsingular_sqDir : Nonsingular false sqDir cellsEx 1 :=
  nonsingular_one_cell_dirichlet false sqDir cellsEx (by decide +kernel) (by decide +kernel) (by decide +kernel)
    (by decide +kernel) (by decide +kernel)

example (st : State) (hst : Solves false sqDir cellsEx 1 st) :
    (st.u 0).x = 3 ∧ (st.u 0).y = -5/2 ∧ (st.r 0).z = 0 ∧ st.p 0 = 0 := by
  exact unique_components (tpsa_translation_unique false sqDir cellsEx 1 tEx (by decide +kernel)
    (by decide +kernel) nonsingular_sqDir st hst 0 (by omega))

/-- two unit squares side by side (cells 0 and 1, shear moduli 2 and 5), faces in porepy's order:
    x-faces at x = 0, 1 (interior), 2; y-faces bottom of cell 0, bottom of cell 1, top of cell 0, top of cell 1;
    Dirichlet datum `tEx` on the whole boundary -/
def grid21 : Faces :=
  [ (⟨1, ⟨1, 0, 0⟩, [⟨0, -1, 2, 1/2⟩], .dir, .dir, .int⟩, tEx),
    (⟨1, ⟨1, 0, 0⟩, [⟨0, 1, 2, 1/2⟩, ⟨1, -1, 5, 1/2⟩], .int, .int, .int⟩, Vec.zero),
    (⟨1, ⟨1, 0, 0⟩, [⟨1, 1, 5, 1/2⟩], .dir, .dir, .int⟩, tEx),
    (⟨1, ⟨0, 1, 0⟩, [⟨0, -1, 2, 1/2⟩], .dir, .dir, .int⟩, tEx),
    (⟨1, ⟨0, 1, 0⟩, [⟨1, -1, 5, 1/2⟩], .dir, .dir, .int⟩, tEx),
    (⟨1, ⟨0, 1, 0⟩, [⟨0, 1, 2, 1/2⟩], .dir, .dir, .int⟩, tEx),
    (⟨1, ⟨0, 1, 0⟩, [⟨1, 1, 5, 1/2⟩], .dir, .dir, .int⟩, tEx) ]

def cells21 : Nat → Cell := fun c => if c = 0 then ⟨1, 2, 3⟩ else ⟨1, 5, 3⟩

theorem argmaxDir_ex : argmaxDir ⟨1, 0, 0⟩ = .x := by decide +kernel
theorem argmaxDir_ey : argmaxDir ⟨0, 1, 0⟩ = .y := by decide +kernel

/-- the rows of `div F - accum` and of `div R g` for the two cells of `grid21`, written out -/
theorem resid_grid21 (st : State) :
    resid false grid21 cells21 st 0 =
      ⟨⟨(-208/7) * (st.u 0).x + (40/7) * (st.u 1).x + (-2/7) * st.p 0 + (2/7) * st.p 1 + 72,
        (-208/7) * (st.u 0).y + (40/7) * (st.u 1).y + (-2/7) * (st.r 0).z + (2/7) * (st.r 1).z + (-60), 0⟩,
       ⟨0, 0, (-2/7) * (st.u 0).y + (-5/7) * (st.u 1).y + (-1/2) * (st.r 0).z + (-5/2)⟩,
       (2/7) * (st.u 0).x + (5/7) * (st.u 1).x + (-31/84) * st.p 0 + (1/28) * st.p 1 + (-3)⟩
    ∧ resid false grid21 cells21 st 1 =
      ⟨⟨(40/7) * (st.u 0).x + (-460/7) * (st.u 1).x + (-5/7) * st.p 0 + (5/7) * st.p 1 + 180,
        (40/7) * (st.u 0).y + (-460/7) * (st.u 1).y + (-5/7) * (st.r 0).z + (5/7) * (st.r 1).z + (-150), 0⟩,
       ⟨0, 0, (2/7) * (st.u 0).y + (5/7) * (st.u 1).y + (-1/5) * (st.r 1).z + (5/2)⟩,
       (-2/7) * (st.u 0).x + (-5/7) * (st.u 1).x + (1/28) * st.p 0 + (-31/84) * st.p 1 + 3⟩ := by
  -- first the incidence `sgnOf`, so that the faces not touching the cell drop out before their fluxes are expanded
  simp only [resid, grid21, cellSum, sgnOf, sideSum, if_true, if_false, one_ne_zero, zero_ne_one, add_zero, zero_add,
    zero_mul, Bool.false_eq_true]
  simp only [sideSum, stressFlux, stressU, stressG, stressR2, stressP, nvd, rotFlux2, rotRot2, massFlux, massP,
    faceDisp, sideVec, c2fW, gammaB, trmNd, trmBnd, tShear, muSum, b2fRob, sumInvM, sumTwoM, Side.m, Face.bc,
    BC.robInv, BC.robW, BC.isDir, BC.isNeu, BC.isRob, notNeu, neuRob, arith, dirNotpass, argmaxDir_ex, argmaxDir_ey,
    tEx, cells21, Vec.get, Vec.zero, robProj, Resid.mk.injEq, Vec.mk.injEq, if_true, if_false, Bool.false_eq_true,
    one_ne_zero, Bool.or_self, true_and, and_true]
  refine ⟨⟨⟨?_, ?_⟩, ?_, ?_⟩, ⟨?_, ?_⟩, ?_, ?_⟩ <;> ring

/-- the eight balance equations of `grid21` have exactly one solution, the translation `tEx`: the x-displacements
    couple with the pressures, the y-displacements with the rotations, and each 4 x 4 block is inverted explicitly -/
theorem solves_grid21 (st : State) (hst : Solves false grid21 cells21 2 st) (c : Nat) (hc : c < 2) :
    (st.u c).x = 3 ∧ (st.u c).y = -5/2 ∧ (st.r c).z = 0 ∧ st.p c = 0 := by
  have h0 := hst 0 (by omega)
  have h1 := hst 1 (by omega)
  rw [(resid_grid21 st).1] at h0
  rw [(resid_grid21 st).2] at h1
  simp only [Resid.zero, Vec.zero, Resid.mk.injEq, Vec.mk.injEq, and_true, true_and] at h0 h1
  obtain ⟨⟨e1, e2⟩, e3, e4⟩ := h0
  obtain ⟨⟨e5, e6⟩, e7, e8⟩ := h1
  have hc' : c = 0 ∨ c = 1 := by omega
  rcases hc' with rfl | rfl
  · refine ⟨?_, ?_, ?_, ?_⟩
    · linear_combination (-29/864) * e1 + (1/36) * e4 + (-1/432) * e5 + (-1/36) * e8
    · linear_combination (-87/2464) * e2 + (2/77) * e3 + (-5/1232) * e6 + (-5/77) * e7
    · linear_combination (2/77) * e2 + (-158/77) * e3 + (2/77) * e6 + (10/77) * e7
    · linear_combination (-1/36) * e1 + (-8/3) * e4 + (-1/36) * e5 + (-1/3) * e8
  · refine ⟨?_, ?_, ?_, ?_⟩
    · linear_combination (-1/432) * e1 + (1/36) * e4 + (-2/135) * e5 + (-1/36) * e8
    · linear_combination (-5/1232) * e2 + (2/77) * e3 + (-51/3080) * e6 + (-5/77) * e7
    · linear_combination (-5/77) * e2 + (10/77) * e3 + (-5/77) * e6 + (-410/77) * e7
    · linear_combination (1/36) * e1 + (-1/3) * e4 + (1/36) * e5 + (-8/3) * e8

/-- NONSINGULARITY BY EXPLICIT COMPUTATION for a grid with an interior face: the two-cell all-Dirichlet system
    (8 unknowns, heterogeneous shear modulus) has at most one solution. -/
theorem nonsingular_grid21 : Nonsingular false grid21 cells21 2 := by
  intro a b ha hb c hc
  obtain ⟨ax, ay, ar, ap⟩ := solves_grid21 a ha c hc
  obtain ⟨bx, by', br, bp⟩ := solves_grid21 b hb c hc
  exact ⟨forall_dirs.mpr ⟨ax.trans bx.symm, ay.trans by'.symm, fun h => absurd h (by simp)⟩,
    ar.trans br.symm, ap.trans bp.symm⟩

/-- … so on this grid the solve returns the translation in both cells -/
example (st : State) (hst : Solves false grid21 cells21 2 st) (c : Nat) (hc : c < 2) :
    (st.u c).x = 3 ∧ (st.u c).y = -5/2 ∧ (st.r c).z = 0 ∧ st.p c = 0 := by
  exact unique_components (tpsa_translation_unique false grid21 cells21 2 tEx (by decide +kernel)
    (by decide +kernel) nonsingular_grid21 st hst c hc)

example : ∀ p ∈ sqMixed, FaceWF false p.1 := by decide +kernel

/-- a triangle cell (vertices (0,0), (2,0), (0,1)); faces: bottom, hypotenuse, left; distances = inradius-type data -/
def triCell : Faces :=
  [ (⟨2, ⟨0, 2, 0⟩, [⟨0, -1, 3, 1/3⟩], .dir, .dir, .dir⟩, ⟨1, -1, 0⟩),
    (⟨9/4, ⟨1, 2, 0⟩, [⟨0, 1, 3, 2/5⟩], .dir, .dir, .dir⟩, ⟨1, -1, 0⟩),
    (⟨1, ⟨1, 0, 0⟩, [⟨0, -1, 3, 2/3⟩], .dir, .dir, .dir⟩, ⟨1, -1, 0⟩) ]

example (st : State) (hst : Solves false triCell (fun _ => ⟨1, 3, 7⟩) 1 st) :
    (st.u 0).x = 1 ∧ (st.u 0).y = -1 ∧ (st.r 0).z = 0 ∧ st.p 0 = 0 := by
  exact unique_components (tpsa_translation_unique_one_cell false triCell (fun _ => ⟨1, 3, 7⟩) ⟨1, -1, 0⟩
    (by decide +kernel) (by decide +kernel) (by decide +kernel) (by decide +kernel) (by decide +kernel)
    (by decide +kernel) st hst)

example (st : State) (hst : Solves false triCell (fun _ => ⟨1, 3, 7⟩) 1 st) : (st.u 0).x = 1 :=
  (tpsa_translation_unique_one_cell_pos false triCell (fun _ => ⟨1, 3, 7⟩) ⟨1, -1, 0⟩ (by decide) (by decide +kernel)
    (by decide +kernel) (by decide +kernel) (by decide +kernel) (by decide +kernel) st hst).1 .x (by simp [dirs])

end Examples

end PorepyVerif.C16
