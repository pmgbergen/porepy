/-
C16 — helper lemmas: sums over sides and over faces, the coefficients of a Dirichlet row, the fluxes of a uniformly
translated state, the balance equations of a cell as one scalar equation per unknown (`resid_eq_zero_iff`; `rdirs` and
`rotFlux` index the rotation unknown alike in 2-D and 3-D), and the fluxes on the faces of a one-cell grid with
Dirichlet data.
-/
import PorepyVerif.C16.Model
import PorepyVerif.Common.Sum
import Mathlib.Algebra.Order.Field.Rat
import Mathlib.Tactic.Ring
import Mathlib.Tactic.FieldSimp
import Mathlib.Tactic.Linarith
import Mathlib.Tactic.NormNum
import Mathlib.Tactic.LinearCombination

namespace PorepyVerif.C16

theorem sideSum_eq_sum (ss : List Side) (φ : Side → Rat) : sideSum ss φ = (ss.map φ).sum := by
  induction ss with
  | nil => rfl
  | cons s ss ih => rw [sideSum, ih, List.map_cons, List.sum_cons]

theorem sideSum_congr {ss : List Side} {φ ψ : Side → Rat} (h : ∀ s ∈ ss, φ s = ψ s) :
    sideSum ss φ = sideSum ss ψ := by
  rw [sideSum_eq_sum, sideSum_eq_sum, Common.sum_map_congr h]

theorem sideSum_eq_zero {ss : List Side} {φ : Side → Rat} (h : ∀ s ∈ ss, φ s = 0) : sideSum ss φ = 0 :=
  (sideSum_eq_sum ss φ).trans (Common.sum_map_eq_zero h)

theorem sideSum_zero (ss : List Side) : sideSum ss (fun _ => 0) = 0 := sideSum_eq_zero fun _ _ => rfl

theorem sideSum_mul_right (ss : List Side) (φ : Side → Rat) (k : Rat) :
    sideSum ss (fun s => φ s * k) = sideSum ss φ * k := by
  simp only [sideSum_eq_sum, Common.sum_map_mul_right]

theorem sideSum_mul_left (ss : List Side) (φ : Side → Rat) (k : Rat) :
    sideSum ss (fun s => k * φ s) = k * sideSum ss φ := by
  simp only [sideSum_eq_sum, Common.sum_map_mul_left]

theorem sideSum_add (ss : List Side) (φ ψ : Side → Rat) :
    sideSum ss (fun s => φ s + ψ s) = sideSum ss φ + sideSum ss ψ := by
  simp only [sideSum_eq_sum, Common.sum_map_add]

theorem sideSum_pos {φ : Side → Rat} {ss : List Side} (hne : ss ≠ []) (h : ∀ s ∈ ss, 0 < φ s) : 0 < sideSum ss φ :=
  let ⟨s, hs⟩ := List.exists_mem_of_ne_nil ss hne
  sideSum_eq_sum ss φ ▸ Common.sum_map_pos (fun r hr => (h r hr).le) hs (h s hs)

theorem sumTwoM_pos (ss : List Side) (hne : ss ≠ []) (h : ∀ s ∈ ss, 0 < s.mu ∧ 0 < s.delta) : 0 < sumTwoM ss :=
  sideSum_pos hne (fun s hs => mul_pos two_pos (div_pos (h s hs).1 (h s hs).2))

theorem sideSum_div (ss : List Side) (k c : Rat) :
    sideSum ss (fun s => 2 * s.m / k * c) = sumTwoM ss / k * c := by
  unfold sumTwoM
  rw [div_mul_eq_mul_div, div_eq_mul_inv, mul_assoc, ← sideSum_mul_right]
  exact sideSum_congr (fun s _ => by ring)

theorem Vec.ext' {a b : Vec} (hx : a.x = b.x) (hy : a.y = b.y) (hz : a.z = b.z) : a = b := by
  cases a; cases b; simp_all

theorem sideVec_zero (f : Face) (w : Dir → Side → Rat) : sideVec f w (fun _ => Vec.zero) = Vec.zero := by
  unfold sideVec
  apply Vec.ext' <;> simp only [Vec.zero] <;>
    exact sideSum_eq_zero (fun s _ => by ring)

theorem cross_zero (a : Vec) : cross a Vec.zero = Vec.zero := by
  apply Vec.ext' <;> simp only [cross, Vec.zero] <;> ring

theorem zero_get (d : Dir) : Vec.zero.get d = 0 := by cases d <;> rfl

theorem faceDisp_get (f : Face) (u : VField) (g : Vec) (d : Dir) :
    (faceDisp f u g).get d = sideSum f.sides (fun s => c2fW f d s * (u s.cell).get d) + gammaB f d * g.get d := by
  cases d <;> rfl

theorem forall_dirs {dim3 : Bool} {P : Dir → Prop} :
    (∀ d ∈ dirs dim3, P d) ↔ P .x ∧ P .y ∧ (dim3 = true → P .z) := by
  cases dim3 <;> simp [dirs]

theorem c2fW_dir {f : Face} {d : Dir} (h : f.bc d = .dir) (s : Side) : c2fW f d s = 0 := by simp [c2fW, h]

theorem gammaB_dir {f : Face} {d : Dir} (h : f.bc d = .dir) : gammaB f d = 1 := by
  simp [gammaB, b2fRob, h, BC.isNeu, BC.isRob, BC.isDir]

theorem neuRob_dir {f : Face} {d : Dir} (h : f.bc d = .dir) : neuRob f d = 0 := by
  simp [neuRob, h, BC.isNeu, BC.isRob]

/-- on a Dirichlet row the face displacement is the datum, whatever the cell values -/
theorem faceDisp_dir {f : Face} {d : Dir} (h : f.bc d = .dir) (u : VField) (g : Vec) :
    (faceDisp f u g).get d = g.get d := by
  simp [faceDisp_get, c2fW_dir h, gammaB_dir h, sideSum_zero]

/-- directions of the rotation unknown: the vector in 3-D, the scalar kept in the z-slot in 2-D -/
def rdirs (dim3 : Bool) : List Dir := if dim3 then [.x, .y, .z] else [.z]

theorem forall_rdirs {dim3 : Bool} {P : Dir → Prop} :
    (∀ d ∈ rdirs dim3, P d) ↔ (dim3 = true → P .x ∧ P .y) ∧ P .z := by
  cases dim3 <;> simp [rdirs, and_assoc]

/-- the rotation flux of either branch, indexed like the rotation unknown -/
def rotFlux (dim3 : Bool) (f : Face) (u r : VField) (g : Vec) (d : Dir) : Rat :=
  if dim3 then rotFlux3 f u r g d else rotFlux2 f u r g

/-- The rotation and solid-mass fluxes see the displacement only through the face displacement: where that is a known
    `v` in the active directions and the rotation-diffusion resp. pressure-stabilisation term drops out, they are
    `-n × v` and `n · v`. -/
theorem rotFlux_of_faceDisp {dim3 : Bool} {f : Face} {u r : VField} {g v : Vec}
    (hv : ∀ e ∈ dirs dim3, (faceDisp f u g).get e = v.get e) {d : Dir} (hd : d ∈ rdirs dim3)
    (hr : (if dim3 then rotRot3 f r d else rotRot2 f r) = 0) :
    rotFlux dim3 f u r g d = -(cross f.n v).get d := by
  obtain ⟨hx, hy, hz⟩ := forall_dirs.mp hv
  simp only [Vec.get] at hx hy hz
  cases dim3
  · obtain rfl : d = .z := by simpa [rdirs] using hd
    have hr : rotRot2 f r = 0 := hr
    simp only [rotFlux, rotFlux2, hx, hy, hr, cross, Vec.get, Bool.false_eq_true, if_false]
    ring
  · have hr : rotRot3 f r d = 0 := hr
    rw [rotFlux, if_pos rfl, rotFlux3, Vec.ext' hx hy (hz rfl), hr, add_zero]

theorem massFlux_of_faceDisp {dim3 : Bool} {f : Face} {u : VField} {p : SField} {g v : Vec}
    (hv : ∀ e ∈ dirs dim3, (faceDisp f u g).get e = v.get e) (hp : massP dim3 f p = 0) :
    massFlux dim3 f u p g = v.x * f.n.x + v.y * f.n.y + (if dim3 then v.z else 0) * f.n.z := by
  obtain ⟨hx, hy, hz⟩ := forall_dirs.mp hv
  simp only [Vec.get] at hx hy hz
  rw [massFlux, hx, hy, hp]
  cases dim3
  · simp only [Bool.false_eq_true, if_false]; ring
  · rw [if_pos rfl, if_pos rfl, hz rfl]; ring

theorem translation_u (t : Vec) : (translation t).u = fun _ => t := rfl
theorem translation_r (t : Vec) : (translation t).r = fun _ => Vec.zero := rfl
theorem translation_p (t : Vec) : (translation t).p = fun _ => 0 := rfl

theorem stressU_const (f : Face) (t : Vec) (d : Dir) :
    stressU f (fun _ => t) d = -(trmNd f d * sgnSum f.sides) * t.get d := by
  unfold stressU sgnSum
  rw [sideSum_congr (ψ := fun s => -(trmNd f d) * t.get d * s.sgn) (fun s _ => by ring), sideSum_mul_left]
  ring

theorem stressG_eq (f : Face) (g : Vec) (d : Dir) :
    stressG f g d = trmBnd f d * sgnSum f.sides * g.get d := by
  unfold stressG sgnSum
  rw [sideSum_mul_left]

theorem stressR3_zero (f : Face) (d : Dir) : stressR3 f (fun _ => Vec.zero) d = 0 := by
  unfold stressR3
  rw [sideVec_zero, cross_zero, zero_get]; ring

theorem stressR2_zero (f : Face) (d : Dir) : stressR2 f (fun _ => Vec.zero) d = 0 := by
  simp [stressR2, Vec.zero, sideSum_zero]

theorem stressP_zero (f : Face) (d : Dir) : stressP f (fun _ => 0) d = 0 := by
  simp [stressP, sideSum_zero]

theorem rotRot3_zero (f : Face) (d : Dir) : rotRot3 f (fun _ => Vec.zero) d = 0 := by
  unfold rotRot3 jumpV
  rw [sideVec_zero, cross_zero, cross_zero, zero_get]; ring

theorem rotRot2_zero (f : Face) : rotRot2 f (fun _ => Vec.zero) = 0 := by
  simp [rotRot2, Vec.zero, sideSum_zero]

theorem massP_zero (dim3 : Bool) (f : Face) : massP dim3 f (fun _ => 0) = 0 := by
  simp [massP, sideSum_zero]

/-- stress row of the translated state, any datum: only the displacement difference is left -/
theorem stressFlux_translation (dim3 : Bool) (f : Face) (t g : Vec) (d : Dir) :
    stressFlux dim3 f (translation t).u (translation t).r (translation t).p g d
      = sgnSum f.sides * (trmBnd f d * g.get d - trmNd f d * t.get d) := by
  rw [stressFlux, translation_u, translation_r, translation_p, stressR3_zero, stressR2_zero, stressP_zero, ite_self,
    stressU_const, stressG_eq]
  ring

/-- … and nothing is left when the datum is consistent with `t` and the row is not Robin: the signs of an interior row
    cancel, on a Dirichlet row `g = t` meets equal transmissibilities, on a Neumann row both transmissibilities vanish -/
theorem translation_stress_cancels (f : Face) (t g : Vec) (d : Dir) (hrob : (f.bc d).isRob = false)
    (hint : f.bc d = .int → sgnSum f.sides = 0) (hc : Consistent f t g d) :
    sgnSum f.sides * (trmBnd f d * g.get d - trmNd f d * t.get d) = 0 := by
  obtain ⟨hdir, hneu⟩ := hc
  cases h : f.bc d with
  | int => simp [hint h]
  | dir => simp only [trmNd, trmBnd, h]; rw [hdir h]; ring
  | neu => simp only [trmNd, trmBnd, h]; rw [hneu h]; ring
  | rob a => simp [h, BC.isRob] at hrob

/-- averaging a constant with the weights `2 m_s / muSum` of a row that is not Dirichlet -/
theorem sideSum_c2fW {f : Face} {d : Dir} (hd : f.bc d ≠ .dir) (c : Rat) :
    sideSum f.sides (fun s => c2fW f d s * c) = sumTwoM f.sides / muSum f d * c := by
  have : ∀ s, c2fW f d s = 2 * s.m / muSum f d := fun s => by
    unfold c2fW
    cases h : f.bc d <;> simp_all
  rw [sideSum_congr (fun s _ => by rw [this s]), sideSum_div]

/-- … if the row is not Robin either, the weights sum to one -/
theorem avg_const (f : Face) (d : Dir) (c : Rat) (hw : sumTwoM f.sides ≠ 0)
    (hd : f.bc d ≠ .dir) (hr : (f.bc d).isRob = false) :
    sideSum f.sides (fun s => c2fW f d s * c) = c := by
  have hmu : muSum f d = sumTwoM f.sides := by
    unfold muSum
    cases h : f.bc d <;> simp_all [BC.robW, BC.isRob]
  rw [sideSum_c2fW hd, hmu, div_self hw, one_mul]

/-- the face displacement of a translated state with consistent data is the translation itself, in every direction
    that is not Robin (`faceDisp_get` gives the left side its name) -/
theorem faceDisp_comp (f : Face) (t g : Vec) (d : Dir) (hw : sumTwoM f.sides ≠ 0)
    (hr : (f.bc d).isRob = false) (hc : Consistent f t g d) :
    sideSum f.sides (fun s => c2fW f d s * t.get d) + gammaB f d * g.get d = t.get d := by
  obtain ⟨hdir, hneu⟩ := hc
  cases h : f.bc d with
  | int =>
    have hg : gammaB f d = 0 := by simp [gammaB, b2fRob, h, BC.isNeu, BC.isRob, BC.isDir]
    rw [avg_const f d _ hw (by simp [h]) hr, hg]; ring
  | dir => rw [← faceDisp_get f (fun _ => t), faceDisp_dir h, hdir h]
  | neu => rw [avg_const f d _ hw (by simp [h]) hr, hneu h]; ring
  | rob a => simp [h, BC.isRob] at hr

theorem cellSum_eq_sum (c : Nat) (fs : Faces) (φ : Face → Vec → Rat) :
    cellSum c fs φ = (fs.map fun p => sgnOf c p.1 * φ p.1 p.2).sum := by
  induction fs with
  | nil => rfl
  | cons p fs ih => obtain ⟨f, g⟩ := p; rw [cellSum, ih, List.map_cons, List.sum_cons]

theorem cellSum_congr (c : Nat) {fs : Faces} {φ ψ : Face → Vec → Rat}
    (h : ∀ p ∈ fs, φ p.1 p.2 = ψ p.1 p.2) : cellSum c fs φ = cellSum c fs ψ := by
  rw [cellSum_eq_sum, cellSum_eq_sum, Common.sum_map_congr fun p hp => by rw [h p hp]]

theorem cellSum_eq_zero (c : Nat) {fs : Faces} {φ : Face → Vec → Rat}
    (h : ∀ p ∈ fs, φ p.1 p.2 = 0) : cellSum c fs φ = 0 :=
  (cellSum_eq_sum c fs φ).trans (Common.sum_map_eq_zero fun p hp => by rw [h p hp, mul_zero])

theorem cellSum_add (c : Nat) (fs : Faces) (φ ψ : Face → Vec → Rat) :
    cellSum c fs (fun f g => φ f g + ψ f g) = cellSum c fs φ + cellSum c fs ψ := by
  simp only [cellSum_eq_sum, mul_add, Common.sum_map_add]

theorem cellSum_mul_right (c : Nat) (fs : Faces) (φ : Face → Vec → Rat) (k : Rat) :
    cellSum c fs (fun f g => φ f g * k) = cellSum c fs φ * k := by
  simp only [cellSum_eq_sum, ← mul_assoc, Common.sum_map_mul_right]

theorem cellSum_neg (c : Nat) {φ : Face → Vec → Rat} :
    ∀ {fs : Faces}, fs ≠ [] → (∀ p ∈ fs, sgnOf c p.1 * φ p.1 p.2 < 0) → cellSum c fs φ < 0
  | [], hne, _ => absurd rfl hne
  | [(f, g)], _, h => by simpa [cellSum] using h (f, g) List.mem_cons_self
  | (f, g) :: q :: fs, _, h =>
    add_neg (h (f, g) List.mem_cons_self)
      (cellSum_neg c (List.cons_ne_nil q fs) (fun r hr => h r (List.mem_cons_of_mem _ hr)))

/-- a flux that is linear in the face normal sums, over a cell, to the same linear form of the closure -/
theorem cellSum_linear (c : Nat) (fs : Faces) (a b k : Rat) :
    cellSum c fs (fun f _ => a * f.n.x + b * f.n.y + k * f.n.z)
      = a * (closure c fs).x + b * (closure c fs).y + k * (closure c fs).z := by
  simp only [closure, cellSum_eq_sum, mul_add, mul_left_comm (sgnOf c _), Common.sum_map_add, Common.sum_map_mul_left]

/-- … and so vanishes on a closed cell -/
theorem cellSum_normal_zero (c : Nat) (fs : Faces) (hcl : closure c fs = Vec.zero) (a b k : Rat)
    {φ : Face → Vec → Rat} (h : ∀ p ∈ fs, φ p.1 p.2 = a * p.1.n.x + b * p.1.n.y + k * p.1.n.z) :
    cellSum c fs φ = 0 := by
  rw [cellSum_congr c (ψ := fun f _ => a * f.n.x + b * f.n.y + k * f.n.z) h, cellSum_linear, hcl]
  simp [Vec.zero]

theorem cellSum_cross_zero (c : Nat) (fs : Faces) (hcl : closure c fs = Vec.zero) (v : Vec) (d : Dir)
    {φ : Face → Vec → Rat} (h : ∀ p ∈ fs, φ p.1 p.2 = -(cross p.1.n v).get d) : cellSum c fs φ = 0 := by
  cases d
  · exact cellSum_normal_zero c fs hcl 0 (-v.z) v.y (fun p hp => by rw [h p hp]; simp only [cross, Vec.get]; ring)
  · exact cellSum_normal_zero c fs hcl v.z 0 (-v.x) (fun p hp => by rw [h p hp]; simp only [cross, Vec.get]; ring)
  · exact cellSum_normal_zero c fs hcl (-v.y) v.x 0 (fun p hp => by rw [h p hp]; simp only [cross, Vec.get]; ring)

/-- the balance equations of a cell, one scalar equation per unknown of the cell -/
theorem resid_eq_zero_iff (dim3 : Bool) (fs : Faces) (cells : Nat → Cell) (st : State) (c : Nat) :
    resid dim3 fs cells st c = Resid.zero ↔
      (∀ d ∈ dirs dim3, cellSum c fs (fun f g => stressFlux dim3 f st.u st.r st.p g d) = 0)
      ∧ (∀ d ∈ rdirs dim3, cellSum c fs (fun f g => rotFlux dim3 f st.u st.r g d)
          = (cells c).vol / (cells c).mu * (st.r c).get d)
      ∧ cellSum c fs (fun f g => massFlux dim3 f st.u st.p g) = (cells c).vol / (cells c).lam * st.p c := by
  rw [forall_dirs, forall_rdirs]
  cases dim3 <;>
    simp only [resid, Resid.zero, Vec.zero, Resid.mk.injEq, Vec.mk.injEq, rotFlux, Vec.get, sub_eq_zero, and_assoc,
      if_true, if_false, Bool.false_eq_true, true_and, and_true, forall_const, false_imp_iff]

theorem agree_rot_iff (dim3 : Bool) (a b : Vec) :
    (if dim3 then a = b else a.z = b.z) ↔ ∀ d ∈ rdirs dim3, a.get d = b.get d := by
  rw [forall_rdirs]
  cases dim3
  · simp [Vec.get]
  · exact ⟨fun h => by simp [if_pos rfl ▸ h], fun h => if_pos rfl ▸ Vec.ext' (h.1 rfl).1 (h.1 rfl).2 h.2⟩

/-- What the one-cell results need of a face: its one side is cell 0, the condition is Dirichlet in every ACTIVE
    direction, and the solid-mass row is filtered out (`dir_notpass`: the dominant direction of the normal is a
    Dirichlet one).  Weaker than `DirFace0`, which asks for a Dirichlet condition in z also in 2-D. -/
def DirBnd0 (dim3 : Bool) (f : Face) : Prop :=
  (f.sides.length = 1 ∧ ∀ s ∈ f.sides, s.cell = 0) ∧ (∀ d ∈ dirs dim3, f.bc d = .dir) ∧ dirNotpass f = 0

instance (dim3 : Bool) (f : Face) : Decidable (DirBnd0 dim3 f) := by unfold DirBnd0; exact inferInstance

theorem DirFace0.bc {f : Face} (h : DirFace0 f) (d : Dir) : f.bc d = .dir := by
  cases d
  · exact h.2.1
  · exact h.2.2.1
  · exact h.2.2.2

theorem DirFace0.dirBnd0 {f : Face} (h : DirFace0 f) (dim3 : Bool) : DirBnd0 dim3 f :=
  ⟨h.1, fun d _ => h.bc d, by simp [dirNotpass, h.bc, BC.isDir]⟩

theorem DirBnd0.side {dim3 : Bool} {f : Face} (h : DirBnd0 dim3 f) : ∃ s, f.sides = [s] ∧ s.cell = 0 := by
  obtain ⟨⟨hl, hc⟩, _⟩ := h
  obtain ⟨s, hs⟩ := List.length_eq_one_iff.mp hl
  exact ⟨s, hs, hc s (by rw [hs]; exact List.mem_singleton_self s)⟩

theorem DirBnd0.sgnOf_eq {dim3 : Bool} {f : Face} (h : DirBnd0 dim3 f) : sgnOf 0 f = sgnSum f.sides := by
  obtain ⟨s, hs, hc⟩ := h.side
  simp [sgnOf, sgnSum, hs, sideSum, hc]

theorem DirFace0.side {f : Face} (h : DirFace0 f) : ∃ s, f.sides = [s] ∧ s.cell = 0 := (h.dirBnd0 false).side

theorem DirFace0.sgnOf_eq {f : Face} (h : DirFace0 f) : sgnOf 0 f = sgnSum f.sides := (h.dirBnd0 false).sgnOf_eq

/-- stress row of such a face, for an arbitrary state: the displacement difference times the transmissibility, plus a
    part that is linear in the normal -/
theorem stressFlux_dirBnd0 {dim3 : Bool} {f : Face} (h : DirBnd0 dim3 f) (st : State) (g : Vec) (d : Dir)
    (hd : d ∈ dirs dim3) :
    stressFlux dim3 f st.u st.r st.p g d
      = (-(tShear f d * sgnSum f.sides)) * (st.u 0).get d
        + (momCx st d * f.n.x + momCy st d * f.n.y + (if dim3 then momCz st d else 0) * f.n.z)
        + tShear f d * sgnSum f.sides * g.get d := by
  obtain ⟨s, hs, hc⟩ := h.side
  obtain ⟨hx, hy, hz⟩ := forall_dirs.mp h.2.1
  cases dim3 <;> cases d <;>
    simp [dirs] at hd <;>
    simp only [stressFlux, stressU, stressG, stressR3, stressR2, stressP, sideVec, hs, sideSum, sgnSum, c2fW, hx, hy,
      hz, trmNd, trmBnd, notNeu, BC.isNeu, hc, cross, nvd, Vec.get, momCx, momCy, momCz, if_true, if_false,
      Bool.false_eq_true] <;> ring

/-- on such a face the rotation and mass fluxes do not see the state: the face displacement is the datum
    (`faceDisp_dir`) and the rotation-diffusion and pressure-stabilisation terms are filtered out -/
theorem rotFlux_dirBnd0 {dim3 : Bool} {f : Face} (h : DirBnd0 dim3 f) (st : State) (g : Vec) {d : Dir}
    (hd : d ∈ rdirs dim3) : rotFlux dim3 f st.u st.r g d = -(cross f.n g).get d := by
  refine rotFlux_of_faceDisp (fun e he => faceDisp_dir (h.2.1 e he) st.u g) hd ?_
  obtain ⟨hx, hy, hz⟩ := forall_dirs.mp h.2.1
  cases dim3
  · simp [rotRot2, neuRob_dir hx, neuRob_dir hy]
  · have hd : f.bc d = .dir := by cases d <;> simp [hx, hy, hz rfl]
    simp [rotRot3, neuRob_dir hd]

theorem massFlux_dirBnd0 {dim3 : Bool} {f : Face} (h : DirBnd0 dim3 f) (st : State) (g : Vec) :
    massFlux dim3 f st.u st.p g = g.x * f.n.x + g.y * f.n.y + (if dim3 then g.z else 0) * f.n.z :=
  massFlux_of_faceDisp (fun e he => faceDisp_dir (h.2.1 e he) st.u g) (by simp [massP, h.2.2])

theorem rotmass_dirFace0 (dim3 : Bool) {f : Face} (h : DirFace0 f) (a b : State) (g : Vec) :
    (∀ d, rotFlux3 f a.u a.r g d = rotFlux3 f b.u b.r g d)
    ∧ rotFlux2 f a.u a.r g = rotFlux2 f b.u b.r g
    ∧ massFlux dim3 f a.u a.p g = massFlux dim3 f b.u b.p g :=
  have rot (dim3 : Bool) (d : Dir) (hd : d ∈ rdirs dim3) :
      rotFlux dim3 f a.u a.r g d = rotFlux dim3 f b.u b.r g d :=
    (rotFlux_dirBnd0 (h.dirBnd0 dim3) a g hd).trans (rotFlux_dirBnd0 (h.dirBnd0 dim3) b g hd).symm
  ⟨fun d => rot true d (by cases d <;> simp [rdirs]), rot false .z (by simp [rdirs]),
    (massFlux_dirBnd0 (h.dirBnd0 dim3) a g).trans (massFlux_dirBnd0 (h.dirBnd0 dim3) b g).symm⟩

/-- `K_d`, the coefficient of `u_d` in the momentum row of a one-cell all-Dirichlet grid: minus the sum of the face
    transmissibilities when the signs are ±1 -/
def oneCellK (fs : Faces) (d : Dir) : Rat :=
  cellSum 0 fs (fun f _ => -(tShear f d * sgnSum f.sides))

/-- momentum balance of a one-cell all-Dirichlet grid: `K_d u_d + G_d`, with `G_d` the `cellSum` of `T_f sgn_f g_f`
    (the rotation and pressure columns are linear in the normal and cancel over the closed cell) -/
theorem mom_one_cell (dim3 : Bool) (fs : Faces) (h1 : ∀ p ∈ fs, DirBnd0 dim3 p.1) (hcl : closure 0 fs = Vec.zero)
    (st : State) (d : Dir) (hd : d ∈ dirs dim3) :
    cellSum 0 fs (fun f g => stressFlux dim3 f st.u st.r st.p g d)
      = oneCellK fs d * (st.u 0).get d + cellSum 0 fs (fun f g => tShear f d * sgnSum f.sides * g.get d) := by
  rw [oneCellK, cellSum_congr 0 (ψ := fun f g => (-(tShear f d * sgnSum f.sides)) * (st.u 0).get d
        + (momCx st d * f.n.x + momCy st d * f.n.y + (if dim3 then momCz st d else 0) * f.n.z)
        + tShear f d * sgnSum f.sides * g.get d)
      (fun p hp => stressFlux_dirBnd0 (h1 p hp) st p.2 d hd),
    cellSum_add, cellSum_add, cellSum_mul_right, cellSum_linear, hcl]
  simp only [Vec.zero]
  ring

end PorepyVerif.C16
