/-
Lemmas for the property theorems. First what holds over any commutative ring: `rot M` is linear and
`act M p = rot M p + t`; both are `hom M w` (weight 1 for a point, 0 for a difference), which is linear in weight and
vector, so weighted sums commute with rigid motions; a proper rotation (RᵀR = 1, det R = 1) preserves dot products and
commutes with cross products. Then, over a linearly ordered field `K` (ℚ in the driver and the examples, ℝ with the true
square root), where weights are divided out and lengths compared: means and weighted means, and every quantity of
`geom1`, `geom2`, `geom3` moved level by level (one `_move` lemma per definition of the model); the indices chosen by
`argmax` do not change because the lists of keys are equal. Last, the Rodrigues matrix as an instance of the axis-angle
form of AxisAngle.lean, and what `Real.sqrt` adds.
-/
import Mathlib.Tactic.Ring
import Mathlib.Tactic.LinearCombination
import Mathlib.Tactic.FieldSimp
import Mathlib.Algebra.Order.Field.Rat
import Mathlib.Tactic.Linarith
import Mathlib.Analysis.Real.Sqrt
import PorepyVerif.C20.AxisAngle

namespace PorepyVerif.C20
open V3

set_option linter.unusedSectionVars false

section
variable {K : Type} [CommRing K]

@[ext] theorem V3.ext {a b : V3 K} (hx : a.x = b.x) (hy : a.y = b.y) (hz : a.z = b.z) : a = b := by
  cases a; cases b; simp_all

theorem dot_zero (r : V3 K) : dot r zero = ((0 : Nat) : K) := by simp only [dot, zero]; push_cast; ring
theorem dot_add (r a b : V3 K) : dot r (add a b) = dot r a + dot r b := by simp only [dot, V3.add]; ring
theorem dot_sub (r a b : V3 K) : dot r (sub a b) = dot r a - dot r b := by simp only [dot, V3.sub]; ring
theorem dot_neg (r a : V3 K) : dot r (neg a) = -dot r a := by simp only [dot, V3.neg]; ring
theorem dot_smul (r : V3 K) (c : K) (a : V3 K) : dot r (smul c a) = c * dot r a := by simp only [dot, V3.smul]; ring

/- each row of the matrix is linear in the vector, and the operations of `V3` are coordinatewise -/
theorem rot_zero (M : Motion K) : rot M zero = zero := by simp only [rot, Mat3.mulVec, dot_zero]; rfl
theorem rot_add (M : Motion K) (a b : V3 K) : rot M (add a b) = add (rot M a) (rot M b) := by
  simp only [rot, Mat3.mulVec, dot_add]; rfl
theorem rot_sub (M : Motion K) (a b : V3 K) : rot M (sub a b) = sub (rot M a) (rot M b) := by
  simp only [rot, Mat3.mulVec, dot_sub]; rfl
theorem rot_neg (M : Motion K) (a : V3 K) : rot M (neg a) = neg (rot M a) := by
  simp only [rot, Mat3.mulVec, dot_neg]; rfl
theorem rot_smul (M : Motion K) (c : K) (a : V3 K) : rot M (smul c a) = smul c (rot M a) := by
  simp only [rot, Mat3.mulVec, dot_smul]; rfl

/-- the motion on a combination of points of total weight `w` (homogeneous coordinates): a point has weight 1, a
    difference of points weight 0. It is linear in weight and vector together, so an affine lemma is a sum of weights. -/
def hom (M : Motion K) (w : K) (v : V3 K) : V3 K := add (rot M v) (smul w M.t)

theorem hom_one (M : Motion K) (p : V3 K) : hom M 1 p = act M p := by
  simp only [hom, act, V3.smul, one_mul]
theorem hom_zero (M : Motion K) (v : V3 K) : hom M 0 v = rot M v := by
  simp only [hom, V3.smul, V3.add, zero_mul, add_zero]
theorem hom_add (M : Motion K) (w u : K) (a b : V3 K) : add (hom M w a) (hom M u b) = hom M (w + u) (add a b) := by
  simp only [hom, rot_add]
  ext <;> simp only [V3.add, V3.smul] <;> ring
theorem hom_sub (M : Motion K) (w u : K) (a b : V3 K) : sub (hom M w a) (hom M u b) = hom M (w - u) (sub a b) := by
  simp only [hom, rot_sub]
  ext <;> simp only [V3.add, V3.sub, V3.smul] <;> ring
theorem hom_smul (M : Motion K) (c w : K) (a : V3 K) : smul c (hom M w a) = hom M (c * w) (smul c a) := by
  simp only [hom, rot_smul]
  ext <;> simp only [V3.add, V3.smul] <;> ring

theorem act_sub_act (M : Motion K) (a b : V3 K) : sub (act M a) (act M b) = rot M (sub a b) := by
  rw [← hom_one, ← hom_one, hom_sub, sub_self, hom_zero]
theorem act_add_rot (M : Motion K) (a v : V3 K) : add (act M a) (rot M v) = act M (add a v) := by
  rw [← hom_one, ← hom_zero, hom_add, add_zero, hom_one]

theorem dot_rot (M : Motion K) (h : M.R.IsRot) (a b : V3 K) : dot (rot M a) (rot M b) = dot a b := by
  obtain ⟨⟨⟨a11, a12, a13⟩, ⟨a21, a22, a23⟩, ⟨a31, a32, a33⟩⟩, t⟩ := M
  obtain ⟨h11, h22, h33, h12, h13, h23, -⟩ := h
  simp only [Mat3.c1, Mat3.c2, Mat3.c3, V3.dot] at h11 h22 h33 h12 h13 h23
  simp only [rot, Mat3.mulVec, V3.dot]
  linear_combination (a.x * b.x) * h11 + (a.y * b.y) * h22 + (a.z * b.z) * h33
    + (a.x * b.y + a.y * b.x) * h12 + (a.x * b.z + a.z * b.x) * h13 + (a.y * b.z + a.z * b.y) * h23

theorem norm2_rot (M : Motion K) (h : M.R.IsRot) (a : V3 K) : norm2 (rot M a) = norm2 a := dot_rot M h a a

/-- being a rotation does not depend on which row is called the first -/
theorem isRot_cycle {r1 r2 r3 : V3 K} (h : Mat3.IsRot ⟨r1, r2, r3⟩) : Mat3.IsRot ⟨r2, r3, r1⟩ := by
  simp only [Mat3.IsRot, Mat3.c1, Mat3.c2, Mat3.c3, Mat3.det, V3.dot, V3.cross] at h ⊢
  obtain ⟨h11, h22, h33, h12, h13, h23, hd⟩ := h
  refine ⟨(add_rotate _ _ _).symm.trans h11, (add_rotate _ _ _).symm.trans h22, (add_rotate _ _ _).symm.trans h33,
    (add_rotate _ _ _).symm.trans h12, (add_rotate _ _ _).symm.trans h13, (add_rotate _ _ _).symm.trans h23, ?_⟩
  rw [← hd]
  ring

/-- first row of the cofactor matrix: `cof₁ₖ = det R · R₁ₖ − Σᵢ cof₁ᵢ (cᵢ·cₖ − δᵢₖ)` -/
theorem cross_r2_r3 (R : Mat3 K) (h : R.IsRot) : cross R.r2 R.r3 = R.r1 := by
  obtain ⟨⟨a11, a12, a13⟩, ⟨a21, a22, a23⟩, ⟨a31, a32, a33⟩⟩ := R
  simp only [Mat3.IsRot, Mat3.c1, Mat3.c2, Mat3.c3, Mat3.det, V3.dot, V3.cross] at h
  obtain ⟨h11, h22, h33, h12, h13, h23, hd⟩ := h
  simp only [V3.cross, V3.mk.injEq]
  refine ⟨?_, ?_, ?_⟩
  · linear_combination a11 * hd - (a22 * a33 - a23 * a32) * h11 - (a23 * a31 - a21 * a33) * h12 - (a21 * a32 - a22 * a31) * h13
  · linear_combination a12 * hd - (a22 * a33 - a23 * a32) * h12 - (a23 * a31 - a21 * a33) * h22 - (a21 * a32 - a22 * a31) * h23
  · linear_combination a13 * hd - (a22 * a33 - a23 * a32) * h13 - (a23 * a31 - a21 * a33) * h23 - (a21 * a32 - a22 * a31) * h33

/-- rows of a rotation: `r₂ × r₃ = r₁`, `r₃ × r₁ = r₂`, `r₁ × r₂ = r₃` (cofactor matrix = matrix) -/
theorem rows_cross (R : Mat3 K) (h : R.IsRot) :
    cross R.r2 R.r3 = R.r1 ∧ cross R.r3 R.r1 = R.r2 ∧ cross R.r1 R.r2 = R.r3 := by
  obtain ⟨r1, r2, r3⟩ := R
  exact ⟨cross_r2_r3 _ h, cross_r2_r3 _ (isRot_cycle h), cross_r2_r3 _ (isRot_cycle (isRot_cycle h))⟩

/-- for every matrix: `R a × R b = cof(R) (a × b)`, the rows of `cof(R)` being `r₂×r₃, r₃×r₁, r₁×r₂` -/
theorem cross_mulVec (R : Mat3 K) (a b : V3 K) :
    cross (R.mulVec a) (R.mulVec b) =
      ⟨dot (cross R.r2 R.r3) (cross a b), dot (cross R.r3 R.r1) (cross a b), dot (cross R.r1 R.r2) (cross a b)⟩ := by
  ext <;> simp only [Mat3.mulVec, V3.dot, V3.cross] <;> ring

theorem cross_rot (M : Motion K) (h : M.R.IsRot) (a b : V3 K) : cross (rot M a) (rot M b) = rot M (cross a b) := by
  obtain ⟨h1, h2, h3⟩ := rows_cross M.R h
  show cross (M.R.mulVec a) (M.R.mulVec b) = M.R.mulVec (cross a b)
  rw [cross_mulVec, h1, h2, h3]
  rfl

theorem vsum_map_rot {α : Type} (M : Motion K) (f : α → V3 K) (l : List α) :
    vsum (l.map fun e => rot M (f e)) = rot M (vsum (l.map f)) := by
  induction l with
  | nil => simp only [List.map_nil, vsum, rot_zero]
  | cons a l ih => simp only [List.map_cons, vsum, ih, rot_add]

/-- a weighted sum of moved points is the moved weighted sum, at the total weight -/
theorem wsum_act {α : Type} (M : Motion K) (w : α → K) (p : α → V3 K) (l : List α) :
    vsum (l.map fun e => smul (w e) (act M (p e))) = hom M (rsum (l.map w)) (vsum (l.map fun e => smul (w e) (p e))) := by
  induction l with
  | nil => simp only [List.map_nil, vsum, rsum, Nat.cast_zero, hom_zero, rot_zero]
  | cons a l ih => rw [List.map_cons, vsum, ih, ← hom_one, hom_smul, hom_add, mul_one]; rfl

theorem rsum_map_one {α : Type} (l : List α) : rsum (l.map fun _ => ((1 : Nat) : K)) = (l.length : K) := by
  induction l with
  | nil => simp [rsum]
  | cons a l ih => simp only [List.map_cons, rsum, ih, List.length_cons]; push_cast; ring

theorem vsum_map_act {α : Type} (M : Motion K) (p : α → V3 K) (l : List α) :
    vsum (l.map fun e => act M (p e)) = hom M (l.length : K) (vsum (l.map p)) := by
  have h := wsum_act M (fun _ => ((1 : Nat) : K)) p l
  have e1 : ∀ v : V3 K, smul ((1 : Nat) : K) v = v := fun v => by simp only [V3.smul, Nat.cast_one, one_mul]
  simp only [e1, rsum_map_one] at h
  exact h

end

variable {K : Type} [Field K] [LinearOrder K] [IsStrictOrderedRing K]

theorem midpoint_act (M : Motion K) (a b : V3 K) :
    smul (((1 : Nat) : K) / ((2 : Nat) : K)) (add (act M a) (act M b)) = act M (smul (((1 : Nat) : K) / ((2 : Nat) : K)) (add a b)) := by
  simp only [← hom_one, hom_add, hom_smul]; norm_num
theorem third_act (M : Motion K) (t f : V3 K) :
    smul (((1 : Nat) : K) / ((3 : Nat) : K)) (add (act M t) (smul ((2 : Nat) : K) (act M f))) = act M (smul (((1 : Nat) : K) / ((3 : Nat) : K)) (add t (smul ((2 : Nat) : K) f))) := by
  simp only [← hom_one, hom_add, hom_smul]; norm_num
theorem third3_act (M : Motion K) (p q c : V3 K) :
    smul (((1 : Nat) : K) / ((3 : Nat) : K)) (add (add (act M p) (act M q)) (act M c)) = act M (smul (((1 : Nat) : K) / ((3 : Nat) : K)) (add (add p q) c)) := by
  simp only [← hom_one, hom_add, hom_smul]; norm_num

/-- dividing an affine combination by its total weight gives a point -/
theorem smul_inv_affine (M : Motion K) (W : K) (hW : W ≠ 0) (S : V3 K) :
    smul (((1 : Nat) : K) / W) (hom M W S) = act M (smul (((1 : Nat) : K) / W) S) := by
  rw [hom_smul, Nat.cast_one, one_div_mul_cancel hW, hom_one]

theorem length_cast_ne_zero {α : Type} (l : List α) (h : l ≠ []) : (l.length : K) ≠ 0 := by
  have : 0 < l.length := List.length_pos_of_ne_nil h
  exact_mod_cast this.ne'

theorem mean_map_act {α : Type} (M : Motion K) (p : α → V3 K) (l : List α) (h : l ≠ []) :
    mean (l.map fun e => act M (p e)) = act M (mean (l.map p)) := by
  unfold mean
  rw [vsum_map_act, List.length_map, List.length_map, smul_inv_affine M _ (length_cast_ne_zero l h)]

theorem mean_act (M : Motion K) (l : List (V3 K)) (h : l ≠ []) : mean (l.map (act M)) = act M (mean l) := by
  have := mean_map_act M (fun p => p) l h
  simpa using this

theorem wavg_act (M : Motion K) (l : List (K × V3 K)) (hW : rsum (l.map (·.1)) ≠ 0) :
    wavg (l.map fun p => (p.1, act M p.2)) = act M (wavg l) := by
  unfold wavg
  simp only [List.map_map, Function.comp_def]
  rw [wsum_act M (fun p : K × V3 K => p.1) (fun p => p.2) l, smul_inv_affine M _ hW]

theorem getD_map_rot (M : Motion K) (l : List (V3 K)) (i : Nat) :
    (l.map (rot M)).getD i zero = rot M (l.getD i zero) := by
  induction l generalizing i with
  | nil => simp [rot_zero]
  | cons a l ih =>
    cases i with
    | zero => simp only [List.map_cons, List.getD_cons_zero]
    | succ n => simp only [List.map_cons, List.getD_cons_succ, ih]

theorem nrm_rot (sq : K → K) (M : Motion K) (h : M.R.IsRot) (u : V3 K) : nrm sq (rot M u) = nrm sq u := by
  simp only [nrm, norm2_rot M h]

theorem normalize_rot (sq : K → K) (M : Motion K) (h : M.R.IsRot) (u : V3 K) :
    normalize sq (rot M u) = rot M (normalize sq u) := by
  simp only [normalize, nrm_rot sq M h, rot_smul]

theorem centred_act (M : Motion K) (pts : List (V3 K)) (h : pts ≠ []) :
    centred (pts.map (act M)) = (centred pts).map (rot M) := by
  simp only [centred, mean_act M pts h, List.map_map, Function.comp_def, subFrom, act_sub_act]

theorem tangentRaw_act (M : Motion K) (hM : M.R.IsRot) (pts : List (V3 K)) (h : pts ≠ []) :
    tangentRaw (pts.map (act M)) = rot M (tangentRaw pts) := by
  simp only [tangentRaw, centred_act M pts h, List.map_map, Function.comp_def, norm2_rot M hM, getD_map_rot]

theorem pnI1_act (sq : K → K) (M : Motion K) (hM : M.R.IsRot) (pts : List (V3 K)) (h : pts ≠ []) :
    pnI1 sq (pts.map (act M)) = pnI1 sq pts := by
  simp only [pnI1, centred_act M pts h, List.map_map, Function.comp_def, nrm_rot sq M hM]

theorem pnV1_act (sq : K → K) (M : Motion K) (hM : M.R.IsRot) (pts : List (V3 K)) (h : pts ≠ []) :
    pnV1 sq (pts.map (act M)) = rot M (pnV1 sq pts) := by
  simp only [pnV1, pnI1_act sq M hM pts h, centred_act M pts h, getD_map_rot]

theorem pnCross_act (sq : K → K) (M : Motion K) (hM : M.R.IsRot) (pts : List (V3 K)) (h : pts ≠ []) :
    pnCross sq (pts.map (act M)) = (pnCross sq pts).map (rot M) := by
  simp only [pnCross, pnV1_act sq M hM pts h, centred_act M pts h, List.map_map, Function.comp_def, cross_rot M hM]

theorem pnIc_act (sq : K → K) (M : Motion K) (hM : M.R.IsRot) (pts : List (V3 K)) (h : pts ≠ []) :
    pnIc sq (pts.map (act M)) = pnIc sq pts := by
  simp only [pnIc, pnCross_act sq M hM pts h, List.map_map, Function.comp_def, nrm_rot sq M hM]

theorem pnRaw_act (sq : K → K) (M : Motion K) (hM : M.R.IsRot) (pts : List (V3 K)) (h : pts ≠ []) :
    pnRaw sq (pts.map (act M)) = rot M (pnRaw sq pts) := by
  simp only [pnRaw, pnIc_act sq M hM pts h, pnCross_act sq M hM pts h, getD_map_rot]

theorem planeNormal_act (sq : K → K) (M : Motion K) (hM : M.R.IsRot) (pts : List (V3 K)) (h : pts ≠ []) :
    planeNormal sq (pts.map (act M)) = rot M (planeNormal sq pts) := by
  simp only [planeNormal, pnRaw_act sq M hM pts h, normalize_rot sq M hM]

theorem cellCen1_move (M : Motion K) (c : Inc1 K × Inc1 K) :
    cellCen1 (c.1.move M, c.2.move M) = act M (cellCen1 c) := by
  simp only [cellCen1, Inc1.move, midpoint_act]

theorem cellVol1_move (sq : K → K) (M : Motion K) (hM : M.R.IsRot) (c : Inc1 K × Inc1 K) :
    cellVol1 sq (c.1.move M, c.2.move M) = cellVol1 sq c := by
  simp only [cellVol1, Inc1.move, act_sub_act, nrm_rot sq M hM]

/-- motion of a listed incidence (with the centre of its cell) -/
def incMove1 (M : Motion K) (p : Inc1 K × V3 K) : Inc1 K × V3 K := (p.1.move M, act M p.2)

theorem incs1_move (M : Motion K) (cells : List (Inc1 K × Inc1 K)) :
    incs1 (cells.map fun c => (c.1.move M, c.2.move M)) = (incs1 cells).map (incMove1 M) := by
  induction cells with
  | nil => rfl
  | cons c l ih => simp only [List.map_cons, incs1, ih, cellCen1_move, incMove1]

theorem firstInc1_move (M : Motion K) (f : Nat) (l : List (Inc1 K × V3 K)) :
    firstInc1 f (l.map (incMove1 M)) = (firstInc1 f l).map (incMove1 M) := by
  induction l with
  | nil => rfl
  | cons e l ih =>
    simp only [List.map_cons, firstInc1]
    have hface : (incMove1 M e).1.face = e.1.face := rfl
    rw [hface]
    by_cases hf : e.1.face = f
    · rw [if_pos hf, if_pos hf]; rfl
    · rw [if_neg hf, if_neg hf, ih]

theorem flip1_move (sq : K → K) (M : Motion K) (hM : M.R.IsRot) (t : V3 K) (sgn : Int) (fc cc : V3 K) :
    flip1 sq (rot M t) sgn (act M fc) (act M cc) = flip1 sq t sgn fc cc := by
  simp only [flip1, act_sub_act, nrm_rot sq M hM, ← rot_smul, ← rot_add]

theorem faceNormal1_move (sq : K → K) (M : Motion K) (hM : M.R.IsRot) (t : V3 K) (incs : List (Inc1 K × V3 K)) (f : Nat) :
    faceNormal1 sq (rot M t) (incs.map (incMove1 M)) f = rot M (faceNormal1 sq t incs f) := by
  simp only [faceNormal1, firstInc1_move]
  cases firstInc1 f incs with
  | none => rfl
  | some e =>
    simp only [Option.map_some, incMove1, Inc1.move, flip1_move sq M hM]
    split
    · rw [rot_neg]
    · rfl

theorem tang_move (M : Motion K) (e : Inc2 K) : tang (e.move M) = rot M (tang e) := by
  simp only [tang, Inc2.move, act_sub_act]

theorem fcen_move (M : Motion K) (e : Inc2 K) : fcen (e.move M) = act M (fcen e) := by
  simp only [fcen, Inc2.move, midpoint_act]

theorem tcc_eq_mean (c : List (Inc2 K)) : tcc c = mean (c.map fcen) := by
  simp only [tcc, mean, List.length_map]

theorem tcc_move (M : Motion K) (c : List (Inc2 K)) (h : c ≠ []) : tcc (c.map (Inc2.move M)) = act M (tcc c) := by
  rw [tcc_eq_mean, tcc_eq_mean, List.map_map]
  simp only [Function.comp_def, fcen_move]
  exact mean_map_act M fcen c h

theorem height_move (M : Motion K) (t : V3 K) (e : Inc2 K) : height (act M t) (e.move M) = rot M (height t e) := by
  simp only [height, fcen_move, act_sub_act]

theorem sgn_move (M : Motion K) (e : Inc2 K) : (e.move M).sgn = e.sgn := rfl
theorem face_move (M : Motion K) (e : Inc2 K) : (e.move M).face = e.face := rfl
theorem n0_move (M : Motion K) (e : Inc2 K) : (e.move M).n0 = e.n0 := rfl
theorem n1_move (M : Motion K) (e : Inc2 K) : (e.move M).n1 = e.n1 := rfl

theorem ssn_move (M : Motion K) (hM : M.R.IsRot) (t : V3 K) (e : Inc2 K) :
    ssn (act M t) (e.move M) = rot M (ssn t e) := by
  simp only [ssn, height_move, tang_move, sgn_move, ← rot_smul, cross_rot M hM]

theorem subCentroid_move (M : Motion K) (t : V3 K) (e : Inc2 K) :
    subCentroid (act M t) (e.move M) = act M (subCentroid t e) := by
  simp only [subCentroid, fcen_move, third_act]

theorem nodeBalance_move (M : Motion K) (c : List (Inc2 K)) (n : Nat) :
    nodeBalance (c.map (Inc2.move M)) n = nodeBalance c n := by
  induction c with
  | nil => rfl
  | cons e l ih => simp only [List.map_cons, nodeBalance, ih]; rfl

theorem cellClosed_move (M : Motion K) (c : List (Inc2 K)) : cellClosed (c.map (Inc2.move M)) = cellClosed c := by
  simp only [cellClosed, List.all_map, Function.comp_def, nodeBalance_move]
  rfl

theorem check1_move (M : Motion K) (g : Grid2 K) : check1 (g.move M) = check1 g := by
  simp only [check1, Grid2.move, List.all_map, Function.comp_def, cellClosed_move]

theorem cellNsum_move (M : Motion K) (hM : M.R.IsRot) (c : List (Inc2 K)) (h : c ≠ []) :
    cellNsum (c.map (Inc2.move M)) = rot M (cellNsum c) := by
  simp only [cellNsum, tcc_move M c h, List.map_map, Function.comp_def, ssn_move M hM]
  exact vsum_map_rot M _ c

theorem nsum_move (M : Motion K) (hM : M.R.IsRot) (g : Grid2 K) (hc : ∀ c ∈ g.cells, c ≠ []) :
    nsum (g.move M) = rot M (nsum g) := by
  simp only [nsum, Grid2.move, List.map_map, Function.comp_def]
  rw [List.map_congr_left (g := fun c => rot M (cellNsum c)) (fun c hmem => cellNsum_move M hM c (hc c hmem))]
  exact vsum_map_rot M _ _

theorem faceArea2_move (sq : K → K) (M : Motion K) (hM : M.R.IsRot) (f : V3 K × V3 K) :
    faceArea2 sq (act M f.1, act M f.2) = faceArea2 sq f := by
  simp only [faceArea2, act_sub_act, nrm_rot sq M hM]

theorem meanArea_move (sq : K → K) (M : Motion K) (hM : M.R.IsRot) (g : Grid2 K) :
    meanArea sq (g.move M) = meanArea sq g := by
  simp only [meanArea, Grid2.move, List.map_map, Function.comp_def, faceArea2_move sq M hM, List.length_map]

theorem check2Fails_move (sq : K → K) (M : Motion K) (hM : M.R.IsRot) (g : Grid2 K) (hc : ∀ c ∈ g.cells, c ≠ []) :
    check2Fails sq (g.move M) = check2Fails sq g := by
  simp only [check2Fails, nsum_move M hM g hc, nrm_rot sq M hM, meanArea_move sq M hM]

theorem normalOriented_move (sq : K → K) (M : Motion K) (hM : M.R.IsRot) (g : Grid2 K) (hc : ∀ c ∈ g.cells, c ≠ []) :
    normalOriented sq (g.move M) = normalOriented sq g := by
  simp only [normalOriented, check1_move, check2Fails_move sq M hM g hc]

theorem nhat_move (sq : K → K) (M : Motion K) (hM : M.R.IsRot) (g : Grid2 K) (hn : g.nodes ≠ [])
    (hc : ∀ c ∈ g.cells, c ≠ []) : nhat sq (g.move M) = rot M (nhat sq g) := by
  simp only [nhat, normalOriented_move sq M hM g hc, nsum_move M hM g hc, normalize_rot sq M hM]
  split
  · rfl
  · exact planeNormal_act sq M hM g.nodes hn

theorem all_congr_mem {α : Type} (l : List α) (p q : α → Bool) (h : ∀ a ∈ l, p a = q a) : l.all p = l.all q := by
  induction l with
  | nil => rfl
  | cons a l ih =>
    simp only [List.all_cons, h a List.mem_cons_self, ih (fun b hb => h b (List.mem_cons_of_mem _ hb))]

theorem ssvO_move (M : Motion K) (hM : M.R.IsRot) (nh t : V3 K) (e : Inc2 K) :
    ssvO (rot M nh) (act M t) (e.move M) = ssvO nh t e := by
  simp only [ssvO, ssn_move M hM, dot_rot M hM]

theorem volO_move (M : Motion K) (hM : M.R.IsRot) (nh : V3 K) (c : List (Inc2 K)) (h : c ≠ []) :
    volO (rot M nh) (c.map (Inc2.move M)) = volO nh c := by
  simp only [volO, tcc_move M c h, List.map_map, Function.comp_def, ssvO_move M hM]

theorem volOriented_move (M : Motion K) (hM : M.R.IsRot) (nh : V3 K) (g : Grid2 K) (hc : ∀ c ∈ g.cells, c ≠ []) :
    volOriented (rot M nh) (g.move M) = volOriented nh g := by
  simp only [volOriented, check1_move]
  congr 1
  simp only [Grid2.move, List.all_map, Function.comp_def]
  exact all_congr_mem _ _ _ (fun c hmem => by rw [volO_move M hM nh c (hc c hmem)])

theorem ssv_move (sq : K → K) (M : Motion K) (hM : M.R.IsRot) (vo : Bool) (nh t : V3 K) (e : Inc2 K) :
    ssv sq vo (rot M nh) (act M t) (e.move M) = ssv sq vo nh t e := by
  simp only [ssv, ssvO_move M hM, ssn_move M hM, nrm_rot sq M hM]

theorem vol2_move (sq : K → K) (M : Motion K) (hM : M.R.IsRot) (vo : Bool) (nh : V3 K) (c : List (Inc2 K)) (h : c ≠ []) :
    vol2 sq vo (rot M nh) (c.map (Inc2.move M)) = vol2 sq vo nh c := by
  simp only [vol2, tcc_move M c h, List.map_map, Function.comp_def, ssv_move sq M hM]

theorem cen2_move (sq : K → K) (M : Motion K) (hM : M.R.IsRot) (vo : Bool) (nh : V3 K) (c : List (Inc2 K)) (h : c ≠ [])
    (hV : vol2 sq vo nh c ≠ 0) :
    cen2 sq vo (rot M nh) (c.map (Inc2.move M)) = act M (cen2 sq vo nh c) := by
  unfold cen2
  rw [vol2_move sq M hM vo nh c h]
  simp only [tcc_move M c h, List.map_map, Function.comp_def, wcen, ssv_move sq M hM, subCentroid_move]
  rw [wsum_act M (fun e => ssv sq vo nh (tcc c) e) (fun e => subCentroid (tcc c) e) c]
  exact smul_inv_affine M (vol2 sq vo nh c) hV _

theorem flipInc_move (M : Motion K) (hM : M.R.IsRot) (nh t : V3 K) (e : Inc2 K) :
    flipInc (rot M nh) (act M t) (e.move M) = flipInc nh t e := by
  simp only [flipInc, height_move, tang_move, sgn_move, cross_rot M hM, dot_rot M hM]

theorem cellFlips_move (M : Motion K) (hM : M.R.IsRot) (nh : V3 K) (c : List (Inc2 K)) (h : c ≠ []) :
    cellFlips (rot M nh) (c.map (Inc2.move M)) = cellFlips nh c := by
  simp only [cellFlips, tcc_move M c h, List.filter_map, List.map_map, Function.comp_def, flipInc_move M hM, face_move]

theorem flips_move (M : Motion K) (hM : M.R.IsRot) (nh : V3 K) (cells : List (List (Inc2 K))) (hc : ∀ c ∈ cells, c ≠ []) :
    flips (rot M nh) (cells.map fun c => c.map (Inc2.move M)) = flips nh cells := by
  induction cells with
  | nil => rfl
  | cons c l ih =>
    simp only [List.map_cons, flips, cellFlips_move M hM nh c (hc c List.mem_cons_self),
      ih (fun b hb => hc b (List.mem_cons_of_mem _ hb))]

theorem faceNormal2_move (M : Motion K) (hM : M.R.IsRot) (nh : V3 K) (fl : List Nat) (p : Nat × (V3 K × V3 K)) :
    faceNormal2 (rot M nh) fl (p.1, (act M p.2.1, act M p.2.2)) = rot M (faceNormal2 nh fl p) := by
  simp only [faceNormal2, act_sub_act, cross_rot M hM]
  split
  · rw [rot_neg]
  · rfl

theorem faceCen2_move (M : Motion K) (f : V3 K × V3 K) : faceCen2 (act M f.1, act M f.2) = act M (faceCen2 f) := by
  simp only [faceCen2, midpoint_act]

theorem zipIdx_map {α β : Type} (f : α → β) (l : List α) : zipIdx (l.map f) = (zipIdx l).map (Prod.map id f) := by
  simp only [zipIdx, List.length_map, List.zip_map_right]

theorem nextOf_map {f : V3 K → V3 K} (ps : List (V3 K)) : nextOf (ps.map f) = (nextOf ps).map f := by
  cases ps with
  | nil => rfl
  | cons p l => simp only [List.map_cons, nextOf, List.map_append, List.map_nil]

theorem loopEdges_map {f : V3 K → V3 K} (ps : List (V3 K)) : loopEdges (ps.map f) = (loopEdges ps).map (Prod.map f f) := by
  simp only [loopEdges, nextOf_map, List.zip_map]

theorem polyEdges_eq_loopEdges (vs : List (V3 K)) : polyEdges vs = loopEdges vs := by
  cases vs <;> rfl

theorem polyEdges_map {f : V3 K → V3 K} (vs : List (V3 K)) : polyEdges (vs.map f) = (polyEdges vs).map (Prod.map f f) := by
  rw [polyEdges_eq_loopEdges, polyEdges_eq_loopEdges, loopEdges_map]

theorem polyIncs_map (M : Motion K) (vs : List (V3 K)) : polyIncs (vs.map (act M)) = (polyIncs vs).map (Inc2.move M) := by
  simp only [polyIncs, polyEdges_map, zipIdx_map, List.map_map, List.length_map]
  apply List.map_congr_left
  intro p _
  rfl

theorem polyGrid_move (M : Motion K) (vs : List (V3 K)) : polyGrid (vs.map (act M)) = (polyGrid vs).move M := by
  simp only [polyGrid, Grid2.move, polyEdges_map, polyIncs_map, List.map_cons, List.map_nil]
  rfl

theorem polyIncs_ne_nil (vs : List (V3 K)) (h : vs ≠ []) : polyIncs vs ≠ [] := by
  cases vs with
  | nil => exact absurd rfl h
  | cons p l =>
    intro hnil
    have := congrArg List.length hnil
    simp [polyIncs, polyEdges, zipIdx] at this

theorem subNormal_move (M : Motion K) (hM : M.R.IsRot) (c : V3 K) (e : V3 K × V3 K) :
    subNormal (act M c) (Prod.map (act M) (act M) e) = rot M (subNormal c e) := by
  simp only [subNormal, Prod.map_fst, Prod.map_snd, act_sub_act, cross_rot M hM, rot_smul]

theorem subCentroid3_move (M : Motion K) (c : V3 K) (e : V3 K × V3 K) :
    subCentroid3 (act M c) (Prod.map (act M) (act M) e) = act M (subCentroid3 c e) := by
  simp only [subCentroid3, Prod.map_fst, Prod.map_snd, third3_act]

theorem faceNormal3_move (M : Motion K) (hM : M.R.IsRot) (ps : List (V3 K)) (h : ps ≠ []) :
    faceNormal3 (ps.map (act M)) = rot M (faceNormal3 ps) := by
  simp only [faceNormal3, subNormals, mean_act M ps h, loopEdges_map, List.map_map, Function.comp_def,
    subNormal_move M hM, vsum_map_rot]

theorem subTris_move (sq : K → K) (M : Motion K) (hM : M.R.IsRot) (ps : List (V3 K)) (h : ps ≠ []) :
    subTris sq (ps.map (act M)) = (subTris sq ps).map (fun p => (p.1, act M p.2)) := by
  simp only [subTris, subW, mean_act M ps h, loopEdges_map, List.map_map, Function.comp_def, subNormal_move M hM,
    nrm_rot sq M hM, subCentroid3_move]

theorem faceArea3_move (sq : K → K) (M : Motion K) (hM : M.R.IsRot) (ps : List (V3 K)) (h : ps ≠ []) :
    faceArea3 sq (ps.map (act M)) = faceArea3 sq ps := by
  simp only [faceArea3, subTris_move sq M hM ps h, List.map_map, Function.comp_def]

theorem faceCentre3_move (sq : K → K) (M : Motion K) (hM : M.R.IsRot) (ps : List (V3 K)) (h : ps ≠ [])
    (hA : faceArea3 sq ps ≠ 0) : faceCentre3 sq (ps.map (act M)) = act M (faceCentre3 sq ps) := by
  simp only [faceCentre3, subTris_move sq M hM ps h]
  exact wavg_act M _ hA

/-- motion of a sub-tetrahedron base -/
def Edge3.move (M : Motion K) (e : Edge3 K) : Edge3 K := ⟨act M e.fc, act M e.sc, rot M e.outer⟩

theorem mkEdge_move (M : Motion K) (hM : M.R.IsRot) (fc fnm c : V3 K) (o : Int) (e : V3 K × V3 K) :
    mkEdge (act M fc) (rot M fnm) (act M c) o (Prod.map (act M) (act M) e) = (mkEdge fc fnm c o e).move M := by
  simp only [mkEdge, Edge3.move, subCentroid3_move, subNormal_move M hM, dot_rot M hM, rot_smul]

theorem faceEdges_move (sq : K → K) (M : Motion K) (hM : M.R.IsRot) (f : Int × List (V3 K)) (h : f.2 ≠ [])
    (hA : faceArea3 sq f.2 ≠ 0) : faceEdges sq (face3Move M f) = (faceEdges sq f).map (Edge3.move M) := by
  simp only [faceEdges, face3Move, loopEdges_map, List.map_map, Function.comp_def,
    faceCentre3_move sq M hM f.2 h hA, faceNormal3_move M hM f.2 h, mean_act M f.2 h, mkEdge_move M hM]

theorem cellEdges_move (sq : K → K) (M : Motion K) (hM : M.R.IsRot) (c : Cell3 K)
    (hf : ∀ f ∈ c, f.2 ≠ [] ∧ faceArea3 sq f.2 ≠ 0) :
    cellEdges sq (Cell3.move M c) = (cellEdges sq c).map (Edge3.move M) := by
  induction c with
  | nil => rfl
  | cons f l ih =>
    have h1 := hf f List.mem_cons_self
    simp only [Cell3.move, List.map_cons, cellEdges, List.map_append, faceEdges_move sq M hM f h1.1 h1.2]
    congr 1
    exact ih (fun b hb => hf b (List.mem_cons_of_mem _ hb))

theorem tcc3_eq_mean (es : List (Edge3 K)) : tcc3 es = mean (es.map (·.fc)) := by
  simp only [tcc3, mean, List.length_map]

theorem tcc3_move (M : Motion K) (es : List (Edge3 K)) (h : es ≠ []) : tcc3 (es.map (Edge3.move M)) = act M (tcc3 es) := by
  rw [tcc3_eq_mean, tcc3_eq_mean, List.map_map]
  rw [show List.map ((fun x => x.fc) ∘ Edge3.move M) es = es.map (fun e => act M e.fc) from
    List.map_congr_left (fun e _ => rfl)]
  exact mean_map_act M (fun e : Edge3 K => e.fc) es h

theorem dist3_move (M : Motion K) (t : V3 K) (e : Edge3 K) : dist3 (act M t) (e.move M) = rot M (dist3 t e) := by
  simp only [dist3, Edge3.move, act_sub_act]

theorem outer_move (M : Motion K) (e : Edge3 K) : (e.move M).outer = rot M e.outer := rfl

theorem tetVol_move (M : Motion K) (hM : M.R.IsRot) (t : V3 K) (e : Edge3 K) :
    tetVol (act M t) (e.move M) = tetVol t e := by
  simp only [tetVol, dist3_move, outer_move, dot_rot M hM]

theorem vol3_move (M : Motion K) (hM : M.R.IsRot) (es : List (Edge3 K)) (h : es ≠ []) :
    vol3 (es.map (Edge3.move M)) = vol3 es := by
  simp only [vol3, tcc3_move M es h, List.map_map, Function.comp_def, tetVol_move M hM]

theorem wtet_move (M : Motion K) (hM : M.R.IsRot) (t : V3 K) (e : Edge3 K) :
    wtet (act M t) (e.move M) = rot M (wtet t e) := by
  simp only [wtet, tetVol_move M hM, dist3_move, rot_smul]

theorem cen3_move (M : Motion K) (hM : M.R.IsRot) (es : List (Edge3 K)) (h : es ≠ []) :
    cen3 (es.map (Edge3.move M)) = act M (cen3 es) := by
  unfold cen3
  rw [vol3_move M hM es h, tcc3_move M es h]
  simp only [List.map_map, Function.comp_def, wtet_move M hM]
  rw [vsum_map_rot M (wtet (tcc3 es)) es, ← rot_smul, act_add_rot]

theorem loopEdges_ne_nil (ps : List (V3 K)) (h : ps ≠ []) : loopEdges ps ≠ [] := by
  cases ps with
  | nil => exact absurd rfl h
  | cons p l =>
    intro hnil
    have := congrArg List.length hnil
    simp [loopEdges, nextOf] at this

theorem cellEdges_ne_nil (sq : K → K) (c : Cell3 K) (hc : c ≠ []) (hf : ∀ f ∈ c, f.2 ≠ []) : cellEdges sq c ≠ [] := by
  cases c with
  | nil => exact absurd rfl hc
  | cons f l =>
    intro hnil
    simp only [cellEdges, List.append_eq_nil_iff, faceEdges, List.map_eq_nil_iff] at hnil
    exact loopEdges_ne_nil f.2 (hf f List.mem_cons_self) hnil.1

theorem any_congr_mem {α : Type} (l : List α) (p q : α → Bool) (h : ∀ a ∈ l, p a = q a) : l.any p = l.any q := by
  induction l with
  | nil => rfl
  | cons a l ih =>
    simp only [List.any_cons, h a List.mem_cons_self, ih (fun b hb => h b (List.mem_cons_of_mem _ hb))]

theorem cross_ez (n : V3 K) : cross n ez = ⟨n.y, -n.x, 0⟩ := by
  ext <;> simp only [cross, ez] <;> push_cast <;> ring

theorem dot_ez (n : V3 K) : dot n ez = n.z := by
  simp only [dot, ez]; push_cast; ring

/-- the Rodrigues matrix of `n = (a, b, c)`, with `d = 1 / (1 + c)`: axis `n × ref = (b, −a, 0)`, `p = 1`, `q = d` -/
def rodEntries (a b _c d : K) : Mat3 K := axisAngle ⟨b, -a, 0⟩ 1 d

theorem rodrigues_entries (n : V3 K) (d : K) (hd : d * (1 + n.z) = 1) : rodrigues n = rodEntries n.x n.y n.z d := by
  have hc : (1 : K) + n.z ≠ 0 := fun h => by rw [h, mul_zero] at hd; exact zero_ne_one hd
  rw [rodrigues_eq_axisAngle, cross_ez, dot_ez, Nat.cast_one, eq_div_of_mul_eq hc hd]
  rfl

/-- `a² + b² = (1 − c)(1 + c)` divided by `1 + c`: the one consequence of `|n| = 1` the entries need -/
theorem rod_unit {a b c d : K} (hn : a * a + b * b + c * c = 1) (hd : d * (1 + c) = 1) : (a * a + b * b) * d = 1 - c := by
  linear_combination d * hn + (1 - c) * hd

theorem rodEntries_isRot (a b c d : K) (hn : a * a + b * b + c * c = 1) (hd : d * (1 + c) = 1) :
    (rodEntries a b c d).IsRot := by
  refine axisAngle_isRot _ _ _ ?_
  simp only [norm2, dot]
  linear_combination hd - d * rod_unit hn hd

theorem rodEntries_mulVec (a b c d : K) (hn : a * a + b * b + c * c = 1) (hd : d * (1 + c) = 1) :
    (rodEntries a b c d).mulVec ⟨a, b, c⟩ = ez := by
  have hk := rod_unit hn hd
  ext <;> simp only [rodEntries, axisAngle, Mat3.mulVec, V3.dot, ez] <;> push_cast
  · linear_combination (-a) * hk
  · linear_combination (-b) * hk
  · linear_combination hn - c * hk

theorem norm2_ne_zero {v : V3 K} (h : v ≠ zero) : norm2 v ≠ 0 := by
  intro h0
  obtain ⟨hxy, hz⟩ := (add_eq_zero_iff_of_nonneg
    (add_nonneg (mul_self_nonneg v.x) (mul_self_nonneg v.y)) (mul_self_nonneg v.z)).mp h0
  obtain ⟨hx, hy⟩ := (add_eq_zero_iff_of_nonneg (mul_self_nonneg v.x) (mul_self_nonneg v.y)).mp hxy
  exact h (V3.ext ((mul_self_eq_zero.mp hx).trans Nat.cast_zero.symm)
    ((mul_self_eq_zero.mp hy).trans Nat.cast_zero.symm) ((mul_self_eq_zero.mp hz).trans Nat.cast_zero.symm))

theorem norm2_nonneg (v : V3 K) : 0 ≤ norm2 v := by
  simp only [norm2, dot]
  exact add_nonneg (add_nonneg (mul_self_nonneg _) (mul_self_nonneg _)) (mul_self_nonneg _)

theorem nrm_sqrt_mul_self (v : V3 ℝ) : nrm Real.sqrt v * nrm Real.sqrt v = norm2 v :=
  Real.mul_self_sqrt (norm2_nonneg v)

theorem nrm_sqrt_ne_zero {v : V3 ℝ} (h : v ≠ zero) : nrm Real.sqrt v ≠ 0 := by
  intro h0
  have := nrm_sqrt_mul_self v
  rw [h0, mul_zero] at this
  exact norm2_ne_zero h this.symm

theorem normalize_sqrt_unit {v : V3 ℝ} (h : v ≠ zero) : dot (normalize Real.sqrt v) (normalize Real.sqrt v) = 1 := by
  have h0 := nrm_sqrt_ne_zero h
  have hs := nrm_sqrt_mul_self v
  simp only [normalize, V3.smul, V3.dot, norm2] at hs ⊢
  push_cast
  field_simp
  linear_combination hs.symm

/-- `project_plane_matrix` / `project_line_matrix` over ℝ give a proper rotation for every vector `n`, of unit length or
    not: `clip1` keeps `c` in `[-1, 1]`, so `s = √(1 − c²)` and `c` are a sine and a cosine -/
theorem projectMatrix_isRot_real (n : V3 ℝ) : (projectMatrix Real.sqrt n).IsRot := by
  obtain ⟨h1, h2⟩ := clip1_mem (dot n ez)
  refine rotationMatrix_isRot _ _ _ _ ?_ fun hsm => normalize_sqrt_unit fun h0 => ?_
  · rw [Real.mul_self_sqrt (by push_cast; nlinarith)]; push_cast; ring
  · rw [h0, isSmall_zero] at hsm; exact absurd hsm (by decide)

/-- the rotation chosen by `map_grid` over ℝ is proper, whatever the fitted normal / tangent -/
theorem mapGrid_isRot_real (dim : Nat) (nodes : List (V3 ℝ)) (o : Out ℝ) : (mapGrid Real.sqrt dim nodes o).R.IsRot := by
  simp only [mapGrid]
  split <;> exact projectMatrix_isRot_real _

theorem mapGrid_isRot (dim : Nat) (nodes : List (V3 ℝ)) (o : Out ℝ)
    (h2 : dim = 2 → pnRaw Real.sqrt nodes ≠ zero) (h1 : dim ≠ 2 → tangentRaw nodes ≠ zero) :
    (mapGrid Real.sqrt dim nodes o).R.IsRot :=
  mapGrid_isRot_real dim nodes o

theorem mulVec_sub (R : Mat3 K) (a b : V3 K) : sub (R.mulVec a) (R.mulVec b) = R.mulVec (sub a b) :=
  (rot_sub ⟨R, zero⟩ a b).symm

theorem mulVec_isometry (R : Mat3 K) (hR : R.IsRot) (p q : V3 K) :
    norm2 (sub (R.mulVec p) (R.mulVec q)) = norm2 (sub p q) ∧ dot (R.mulVec p) (R.mulVec q) = dot p q := by
  refine ⟨?_, dot_rot ⟨R, zero⟩ hR p q⟩
  rw [mulVec_sub]
  exact norm2_rot ⟨R, zero⟩ hR _

/-- if `R n = ref` then points whose difference is orthogonal to `n` get the same third local coordinate -/
theorem mulVec_flat (R : Mat3 K) (hR : R.IsRot) (n p q : V3 K) (hRn : R.mulVec n = ez) (h : dot n (sub p q) = 0) :
    (R.mulVec p).z = (R.mulVec q).z := by
  have h1 : dot (R.mulVec n) (R.mulVec (sub p q)) = 0 := by rw [(mulVec_isometry R hR _ _).2, h]
  rw [hRn, ← mulVec_sub] at h1
  simp only [dot, ez, V3.sub] at h1
  push_cast at h1
  linear_combination h1

theorem rot_ne_zero (M : Motion K) (hM : M.R.IsRot) {v : V3 K} (h : v ≠ zero) : rot M v ≠ zero := by
  intro h0
  have : norm2 (rot M v) = 0 := by rw [h0]; simp only [norm2, dot, zero]; push_cast; ring
  rw [norm2_rot M hM] at this
  exact norm2_ne_zero h this

end PorepyVerif.C20
