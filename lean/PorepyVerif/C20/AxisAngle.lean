/-
The matrices `I + p W + q W²`, `W = skew v`: the form shared by `rotation_matrix`, the Rodrigues matrix and the matrix of
a quaternion. Such a matrix is a proper rotation as soon as `2 q = p² + q² |v|²` (polynomial identities, in any
commutative ring); each of the three constructions, which divide and compare, is brought to this form over a linearly
ordered field and the condition checked on its two scalars.
-/
import Mathlib.Tactic.Ring
import Mathlib.Tactic.LinearCombination
import Mathlib.Algebra.Order.Field.Rat
import PorepyVerif.C20.Model

namespace PorepyVerif.C20
open V3

set_option linter.unusedSectionVars false

section
variable {K : Type} [CommRing K]

/-- `I + p W + q W²` with `W = skew v`, entry by entry (`W² = v vᵀ − |v|² I`): `rotation_matrix` has `p = sin`,
    `q = 1 − cos` and a unit `v`; the Rodrigues matrix `p = 1`, `q = 1 / (1 + n·ref)`, `v = n × ref`; the matrix of a
    quaternion has `v` its vector part, `p = 2 w / |q|²`, `q = 2 / |q|²` -/
def axisAngle (v : V3 K) (p q : K) : Mat3 K :=
  ⟨⟨1 - q * (v.y * v.y + v.z * v.z), q * (v.x * v.y) - p * v.z, q * (v.x * v.z) + p * v.y⟩,
   ⟨q * (v.x * v.y) + p * v.z, 1 - q * (v.x * v.x + v.z * v.z), q * (v.y * v.z) - p * v.x⟩,
   ⟨q * (v.x * v.z) - p * v.y, q * (v.y * v.z) + p * v.x, 1 - q * (v.x * v.x + v.y * v.y)⟩⟩

theorem axisAngle_eq (v : V3 K) (p q : K) :
    Mat3.add (Mat3.add Mat3.one (Mat3.smul p (skew v))) (Mat3.smul q (Mat3.mul (skew v) (skew v))) = axisAngle v p q := by
  simp only [axisAngle, Mat3.add, Mat3.smul, Mat3.mul, Mat3.one, skew, Mat3.c1, Mat3.c2, Mat3.c3, V3.add, V3.smul,
    V3.dot, Mat3.mk.injEq, V3.mk.injEq]
  push_cast
  refine ⟨⟨?_, ?_, ?_⟩, ⟨?_, ?_, ?_⟩, ?_, ?_, ?_⟩ <;> ring

/-- with `e = 2q − p² − q²|v|²`: `RᵀR − 1 = e W²` (as `Wᵀ = −W`, `W⁴ = −|v|² W²`) and `det R − 1 = −|v|² e`, so every
    equation of `IsRot` is `h` times an entry of `W²`, resp. times `−|v|²` -/
theorem axisAngle_isRot (v : V3 K) (p q : K) (h : 2 * q = p * p + q * q * norm2 v) : (axisAngle v p q).IsRot := by
  obtain ⟨x, y, z⟩ := v
  simp only [norm2, dot] at h
  simp only [Mat3.IsRot, axisAngle, Mat3.c1, Mat3.c2, Mat3.c3, Mat3.det, V3.dot, V3.cross]
  push_cast
  refine ⟨?_, ?_, ?_, ?_, ?_, ?_, ?_⟩
  · linear_combination (-(y * y + z * z)) * h
  · linear_combination (-(x * x + z * z)) * h
  · linear_combination (-(x * x + y * y)) * h
  · linear_combination (x * y) * h
  · linear_combination (x * z) * h
  · linear_combination (y * z) * h
  · linear_combination (-(x * x + y * y + z * z)) * h

theorem axisAngle_zero (v : V3 K) : axisAngle v 0 0 = Mat3.one := by
  simp only [axisAngle, Mat3.one, zero_mul, sub_zero, add_zero, Nat.cast_one, Nat.cast_zero]

theorem one_isRot : (Mat3.one : Mat3 K).IsRot :=
  axisAngle_zero (zero : V3 K) ▸ axisAngle_isRot zero 0 0 (by simp only [mul_zero, zero_mul, add_zero])

theorem axisAngle_smul (m : K) (v : V3 K) (p q : K) : axisAngle (smul m v) p q = axisAngle v (p * m) (q * (m * m)) := by
  simp only [axisAngle, V3.smul, Mat3.mk.injEq, V3.mk.injEq]
  refine ⟨⟨?_, ?_, ?_⟩, ⟨?_, ?_, ?_⟩, ?_, ?_, ?_⟩ <;> ring

theorem Mat3.one_smul (A : Mat3 K) : Mat3.smul 1 A = A := by
  simp only [Mat3.smul, V3.smul, one_mul]

end

variable {K : Type} [Field K] [LinearOrder K] [IsStrictOrderedRing K]

theorem quatMat_eq_axisAngle (w x y z : K) (h : w * w + x * x + y * y + z * z ≠ 0) :
    quatMat w x y z =
      axisAngle ⟨x, y, z⟩ (2 * w / (w * w + x * x + y * y + z * z)) (2 / (w * w + x * x + y * y + z * z)) := by
  have hi := mul_inv_cancel₀ h
  simp only [quatMat, axisAngle, div_eq_mul_inv, Mat3.mk.injEq, V3.mk.injEq]
  -- with `i = 1 / |q|²` the entries are polynomials; the diagonal ones differ by a multiple of `|q|² i = 1`
  generalize (w * w + x * x + y * y + z * z)⁻¹ = i at hi ⊢
  push_cast
  refine ⟨⟨?_, ?_, ?_⟩, ⟨?_, ?_, ?_⟩, ?_, ?_, ?_⟩
  · linear_combination hi
  · ring
  · ring
  · ring
  · linear_combination hi
  · ring
  · ring
  · ring
  · linear_combination hi

theorem rodrigues_eq_axisAngle (n : V3 K) :
    rodrigues n = axisAngle (cross n ez) 1 (((1 : Nat) : K) / (((1 : Nat) : K) + dot n ez)) := by
  rw [← axisAngle_eq, Mat3.one_smul]
  rfl

theorem rotationMatrix_of_axis (sq : K → K) (s c : K) (v : V3 K) (h : isSmall v = false) :
    rotationMatrix sq s c v = axisAngle (normalize sq v) s (1 - c) := by
  simp only [rotationMatrix, h, Bool.false_eq_true, if_false, axisAngle_eq, Nat.cast_one]

/-- `rotation_matrix(a, vect)` is a proper rotation for every angle (`s² + c² = 1`) and every axis whose normalisation
    has length 1 (or which is numerically zero: the identity) -/
theorem rotationMatrix_isRot (sq : K → K) (s c : K) (v : V3 K) (hsc : s * s + c * c = 1)
    (hv : isSmall v = false → norm2 (normalize sq v) = 1) : (rotationMatrix sq s c v).IsRot := by
  cases hsm : isSmall v
  · rw [rotationMatrix_of_axis sq s c v hsm]
    apply axisAngle_isRot
    rw [hv hsm]
    linear_combination (-1 : K) * hsc
  · simp only [rotationMatrix, hsm, if_true]
    exact one_isRot

theorem isSmall_zero : isSmall (zero : V3 K) = true := by
  simp only [isSmall, zero, rabs]
  push_cast
  simp only [lt_self_iff_false, if_false]
  have : (0 : K) ≤ 1 / 100000000 := by positivity
  simp only [this, decide_true, Bool.and_self]

theorem clip1_id (c : K) (h1 : -1 ≤ c) (h2 : c ≤ 1) : clip1 c = c := by
  simp only [clip1]; push_cast
  rw [if_neg (not_lt.mpr h1), if_neg (not_lt.mpr h2)]

theorem clip1_mem (c : K) : -1 ≤ clip1 c ∧ clip1 c ≤ 1 := by
  simp only [clip1]; push_cast
  split
  · exact ⟨le_refl _, neg_le_self zero_le_one⟩
  · split
    · exact ⟨neg_le_self zero_le_one, le_refl _⟩
    · exact ⟨not_lt.mp ‹_›, not_lt.mp ‹_›⟩

end PorepyVerif.C20
