/-
C20 — property theorems (the statements only mention Model.lean; how each definition of the model behaves under a
motion is proved in Lemmas.lean).

Property: translating and rotating a grid's nodes (including embedding 1-D and 2-D grids in arbitrary lines
and planes of 3-D) leaves cell volumes and face areas unchanged and transforms centres and normals by the
same motion.

Everywhere: `K` is any linearly ordered field (ℚ in the examples and the driver, ℝ in the `_real` theorems);
`M : Motion K` is `x ↦ R x + t` with an explicit 3×3 matrix `R` over `K`; `M.R.IsRot` says
`RᵀR = 1 ∧ det R = 1` (seven polynomial equations, decidable); `act M` moves points, `rot M` moves vectors;
`sq : K → K` stands for the square root and is arbitrary (the statements hold for every function; the `_real`
theorems take `Real.sqrt`).
`Out.move M o` leaves `fa` (face areas) and `cv` (cell volumes) alone, maps `fc`, `cc` (centres) with `act M`
and `fn` (normals) with `rot M`.
-/
import PorepyVerif.C20.Lemmas

namespace PorepyVerif.C20
open V3

set_option linter.unusedSectionVars false

variable {K : Type} [Field K] [LinearOrder K] [IsStrictOrderedRing K]

/-- dot products are rotation invariant (`RᵀR = 1`). -/
theorem dot_rotate (M : Motion K) (hM : M.R.IsRot) (a b : V3 K) : dot (rot M a) (rot M b) = dot a b :=
  dot_rot M hM a b

/-- squared lengths are rotation invariant. -/
theorem norm2_rotate (M : Motion K) (hM : M.R.IsRot) (a : V3 K) : norm2 (rot M a) = norm2 a :=
  norm2_rot M hM a

/-- `R a × R b = R (a × b)` for proper rotations (`RᵀR = 1`, `det R = 1`; false for reflections). -/
theorem cross_rotate (M : Motion K) (hM : M.R.IsRot) (a b : V3 K) : cross (rot M a) (rot M b) = rot M (cross a b) :=
  cross_rot M hM a b

/-- difference vectors do not see the translation. -/
theorem diff_translate (M : Motion K) (a b : V3 K) : sub (act M a) (act M b) = rot M (sub a b) :=
  act_sub_act M a b

/-- the motions the harness generates satisfy the hypothesis `IsRot`: the matrix of any non-zero rational
    quaternion is a proper rotation. -/
theorem quat_rotation_isRot (w x y z : K) (h : w * w + x * x + y * y + z * z ≠ 0) : (quatMat w x y z).IsRot := by
  have hi := mul_inv_cancel₀ h
  rw [quatMat_eq_axisAngle w x y z h]
  -- `2 q = p² + q² |v|²` with `p = 2 w i`, `q = 2 i`, `i = 1 / |q|²`: `4 i = 4 i² (w² + |v|²)`
  apply axisAngle_isRot
  simp only [norm2, dot, div_eq_mul_inv]
  generalize (w * w + x * x + y * y + z * z)⁻¹ = i at hi ⊢
  linear_combination (-4 * i) * hi

/-- area-weighted normal of a triangle (the sub-simplex / sub-face normals of the 2-D and 3-D code). -/
theorem tri_normal_equivariant (M : Motion K) (hM : M.R.IsRot) (a b c : V3 K) :
    triNormal (act M a) (act M b) (act M c) = rot M (triNormal a b c) := by
  simp only [triNormal, act_sub_act, cross_rot M hM, rot_smul]

/-- squared area of a triangle. -/
theorem tri_area2_invariant (M : Motion K) (hM : M.R.IsRot) (a b c : V3 K) :
    triArea2 (act M a) (act M b) (act M c) = triArea2 a b c := by
  simp only [triArea2, tri_normal_equivariant M hM, norm2_rot M hM]

/-- signed volume of a tetrahedron (triple product; the sub-tetrahedra of the 3-D code). -/
theorem tet_volume_invariant (M : Motion K) (hM : M.R.IsRot) (a b c d : V3 K) :
    tetVolume (act M a) (act M b) (act M c) (act M d) = tetVolume a b c d := by
  simp only [tetVolume, act_sub_act, cross_rot M hM, dot_rot M hM]

/-- weighted averages with invariant weights (cell centres, face centres): the average of the moved points
    is the moved average, provided the total weight is not zero. -/
theorem centroid_equivariant (M : Motion K) (l : List (K × V3 K)) (hW : rsum (l.map (·.1)) ≠ 0) :
    wavg (l.map fun p => (p.1, act M p.2)) = act M (wavg l) :=
  wavg_act M l hW

/-- `compute_tangent`: the tangent of the moved point set is the rotated tangent; in particular the index
    chosen by `argmax` is the same (exact arithmetic). Used by `_compute_geometry_1d`. -/
theorem tangent_equivariant (sq : K → K) (M : Motion K) (hM : M.R.IsRot) (pts : List (V3 K)) (h : pts ≠ []) :
    tangent sq (pts.map (act M)) = rot M (tangent sq pts) := by
  simp only [tangent, tangentRaw_act M hM pts h, normalize_rot sq M hM]

/-- `compute_normal` (point selection by two `argmax` included): the normal of the moved point cloud is the
    rotated normal. Used by the non-oriented branch of `_compute_geometry_2d`. -/
theorem plane_normal_equivariant (sq : K → K) (M : Motion K) (hM : M.R.IsRot) (pts : List (V3 K)) (h : pts ≠ []) :
    planeNormal sq (pts.map (act M)) = rot M (planeNormal sq pts) :=
  planeNormal_act sq M hM pts h

/-- `_compute_geometry_1d` (embedded line grids): areas and volumes invariant, centres moved, normals
    (tangent ± by the sign convention, flip test included) rotated. -/
theorem geom1_equivariant (sq : K → K) (M : Motion K) (hM : M.R.IsRot) (g : Grid1 K) (h : g.nodes ≠ []) :
    geom1 sq (g.move M) = (geom1 sq g).move M := by
  simp only [geom1, Grid1.move, Out.move, tangent_equivariant sq M hM g.nodes h, incs1_move, List.length_map,
    List.map_map, Function.comp_def, cellVol1_move sq M hM, cellCen1_move]
  congr 1
  exact List.map_congr_left fun f _ => faceNormal1_move sq M hM _ _ f

/-- `_compute_geometry_2d` (embedded planar grids), on both paths: oriented path (fan of sub-triangles about the
    average of the face centres, plane normal from the sum of the sub-normals) and fallback path (plane normal from `compute_normal`,
    unsigned sub-areas, flipping of normals). Hypotheses: the grid has nodes, every cell has a face, no cell
    volume is zero (the code divides by it). -/
theorem geom2_equivariant (sq : K → K) (M : Motion K) (hM : M.R.IsRot) (g : Grid2 K) (hn : g.nodes ≠ [])
    (hc : ∀ c ∈ g.cells, c ≠ []) (hv : ∀ v ∈ (geom2 sq g).cv, v ≠ 0) :
    geom2 sq (g.move M) = (geom2 sq g).move M := by
  have hnh := nhat_move sq M hM g hn hc
  have hvo := volOriented_move M hM (nhat sq g) g hc
  have hfl : flips (rot M (nhat sq g)) (g.move M).cells = flips (nhat sq g) g.cells := flips_move M hM _ g.cells hc
  simp only [geom2, Out.move, hnh, hvo, hfl]
  have hcells : (g.move M).cells = g.cells.map (fun c => c.map (Inc2.move M)) := rfl
  have hfaces : (g.move M).faces = g.faces.map (fun f => (act M f.1, act M f.2)) := rfl
  rw [hcells, hfaces]
  congr 1
  · simp only [List.map_map, Function.comp_def, faceArea2_move sq M hM]
  · simp only [List.map_map, Function.comp_def, faceCen2_move]
  · rw [zipIdx_map, List.map_map, List.map_map]
    exact List.map_congr_left fun p _ => faceNormal2_move M hM _ _ p
  · rw [List.map_map]
    exact List.map_congr_left fun c hmem => vol2_move sq M hM _ _ c (hc c hmem)
  · rw [List.map_map, List.map_map]
    exact List.map_congr_left fun c hmem =>
      cen2_move sq M hM _ _ c (hc c hmem) (hv _ (List.mem_map_of_mem (f := vol2 sq _ _) hmem))

/-- … and the branch taken is itself invariant: the moved grid fails the same orientation checks. -/
theorem geom2_branches_invariant (sq : K → K) (M : Motion K) (hM : M.R.IsRot) (g : Grid2 K) (hn : g.nodes ≠ [])
    (hc : ∀ c ∈ g.cells, c ≠ []) :
    check1 (g.move M) = check1 g ∧ check2Fails sq (g.move M) = check2Fails sq g ∧
      volOriented (nhat sq (g.move M)) (g.move M) = volOriented (nhat sq g) g := by
  refine ⟨check1_move M g, check2Fails_move sq M hM g hc, ?_⟩
  rw [nhat_move sq M hM g hn hc]
  exact volOriented_move M hM _ g hc

/-- one polygonal cell given by its vertex loop `vs` (any length, convex or not, any plane of 3-D), geometry
    as the code forms it (`polyGrid vs`: faces = consecutive vertex pairs, fan of sub-triangles about the
    average of the edge midpoints): volume and edge lengths invariant, centre and edge midpoints moved,
    edge normals rotated. -/
theorem polygon_cell_geometry_equivariant (sq : K → K) (M : Motion K) (hM : M.R.IsRot) (vs : List (V3 K))
    (hne : vs ≠ []) (hv : ∀ v ∈ (geom2 sq (polyGrid vs)).cv, v ≠ 0) :
    geom2 sq (polyGrid (vs.map (act M))) = (geom2 sq (polyGrid vs)).move M := by
  rw [polyGrid_move]
  refine geom2_equivariant sq M hM (polyGrid vs) hne ?_ hv
  intro c hmem
  simp only [polyGrid, List.mem_singleton] at hmem
  rw [hmem]
  exact polyIncs_ne_nil vs hne

/-- one face of a 3-D grid given by its node loop (planar or not): area (sum of the sub-triangle areas)
    invariant, normal (sum of the sub-normals) rotated, centre (area-weighted mean of the sub-centroids)
    moved. First half of `_compute_geometry_3d`. -/
theorem face3_geometry_equivariant (sq : K → K) (M : Motion K) (hM : M.R.IsRot) (ps : List (V3 K)) (h : ps ≠ [])
    (hA : faceArea3 sq ps ≠ 0) :
    faceArea3 sq (ps.map (act M)) = faceArea3 sq ps ∧
      faceNormal3 (ps.map (act M)) = rot M (faceNormal3 ps) ∧
      faceCentre3 sq (ps.map (act M)) = act M (faceCentre3 sq ps) :=
  ⟨faceArea3_move sq M hM ps h, faceNormal3_move M hM ps h, faceCentre3_move sq M hM ps h hA⟩

/-- one cell of a 3-D grid given by its faces (sign in `cell_faces`, node loop): volume (sum of the signed
    sub-tetrahedra about the edge-weighted mean of the face centres, `tcc3`) invariant, centre moved, and the list of signed
    sub-tetrahedron volumes (what the "negative tetrahedron" test looks at) invariant. Second half of `_compute_geometry_3d`. -/
theorem cell3_geometry_equivariant (sq : K → K) (M : Motion K) (hM : M.R.IsRot) (c : Cell3 K) (hc : c ≠ [])
    (hf : ∀ f ∈ c, f.2 ≠ [] ∧ faceArea3 sq f.2 ≠ 0) :
    cellVol3 sq (Cell3.move M c) = cellVol3 sq c ∧ cellCen3 sq (Cell3.move M c) = act M (cellCen3 sq c) ∧
      cellTetVols sq (Cell3.move M c) = cellTetVols sq c := by
  have hne := cellEdges_ne_nil sq c hc fun f hm => (hf f hm).1
  simp only [cellVol3, cellCen3, cellTetVols, cellEdges_move sq M hM c hf]
  exact ⟨vol3_move M hM _ hne, cen3_move M hM _ hne,
    by simp only [tcc3_move M _ hne, List.map_map, Function.comp_def, tetVol_move M hM]⟩

theorem allTetVols_move (sq : K → K) (M : Motion K) (hM : M.R.IsRot) (cells : List (Cell3 K))
    (hC : ∀ c ∈ cells, c ≠ [] ∧ ∀ f ∈ c, f.2 ≠ [] ∧ faceArea3 sq f.2 ≠ 0) :
    allTetVols sq (cells.map (Cell3.move M)) = allTetVols sq cells := by
  induction cells with
  | nil => rfl
  | cons c l ih =>
    have h1 := hC c List.mem_cons_self
    simp only [List.map_cons, allTetVols, (cell3_geometry_equivariant sq M hM c h1.1 h1.2).2.2,
      ih (fun b hb => hC b (List.mem_cons_of_mem _ hb))]

/-- the ValueError test of `_compute_geometry_3d` (a negative sub-tetrahedron) looks at the cells only -/
theorem geom3Err_move (sq : K → K) (M : Motion K) (hM : M.R.IsRot) (g : Grid3 K)
    (hC : ∀ c ∈ g.cells, c ≠ [] ∧ ∀ f ∈ c, f.2 ≠ [] ∧ faceArea3 sq f.2 ≠ 0) :
    geom3Err sq (g.move M) = geom3Err sq g := by
  simp only [geom3Err, Grid3.move, allTetVols_move sq M hM g.cells hC]

/-- `_compute_geometry_3d`, whole grid: all five fields, and the ValueError test. Hypotheses: faces have
    nodes and non-zero area (the code divides by it), cells have faces. -/
theorem geom3_equivariant (sq : K → K) (M : Motion K) (hM : M.R.IsRot) (g : Grid3 K)
    (hF : ∀ ps ∈ g.faces, ps ≠ [] ∧ faceArea3 sq ps ≠ 0)
    (hC : ∀ c ∈ g.cells, c ≠ [] ∧ ∀ f ∈ c, f.2 ≠ [] ∧ faceArea3 sq f.2 ≠ 0) :
    geom3 sq (g.move M) = (geom3 sq g).move M ∧ geom3Err sq (g.move M) = geom3Err sq g := by
  refine ⟨?_, geom3Err_move sq M hM g hC⟩
  simp only [geom3, Grid3.move, Out.move, List.map_map]
  congr 1
  · exact List.map_congr_left (fun ps hm => faceArea3_move sq M hM ps (hF ps hm).1)
  · exact List.map_congr_left (fun ps hm => faceCentre3_move sq M hM ps (hF ps hm).1 (hF ps hm).2)
  · exact List.map_congr_left (fun ps hm => faceNormal3_move M hM ps (hF ps hm).1)
  · exact List.map_congr_left (fun c hm => (cell3_geometry_equivariant sq M hM c (hC c hm).1 (hC c hm).2).1)
  · exact List.map_congr_left (fun c hm => (cell3_geometry_equivariant sq M hM c (hC c hm).1 (hC c hm).2).2.1)

/-- `_compute_geometry_0d` (point grids, the dispatcher's fourth branch): unit volumes, centres moved. -/
theorem geom0_equivariant (M : Motion K) (g : Grid0 K) : geom0 (g.move M) = (geom0 g).move M := by
  simp only [geom0, Grid0.move, Out.move, List.map_map, Function.comp_def, List.map_nil]

theorem pairDists_act (sq : K → K) (M : Motion K) (hM : M.R.IsRot) (ps : List (V3 K)) :
    pairDists sq (ps.map (act M)) = pairDists sq ps := by
  induction ps with
  | nil => rfl
  | cons p l ih =>
    simp only [List.map_cons, pairDists, ih, List.map_map, Function.comp_def, act_sub_act, nrm_rot sq M hM]

/-- `Grid.cell_diameters`: the diameter of a cell (largest node distance) is invariant -/
theorem cell_diameter_invariant (sq : K → K) (M : Motion K) (hM : M.R.IsRot) (ps : List (V3 K)) :
    cellDiam sq (ps.map (act M)) = cellDiam sq ps := by
  simp only [cellDiam, pairDists_act sq M hM]

/-! `wf1`, `wf2 sq`, `wf3 sq` are Boolean functions of the grid; the driver evaluates them on every generated grid
(answer field `hyp`) and the harness requires `true`, so the hypotheses of the equivariance theorems are
checked inputs, not assumptions about the generator. -/

theorem isEmpty_false_ne_nil {α : Type} {l : List α} (h : (!l.isEmpty) = true) : l ≠ [] := by
  cases l with
  | nil => simp at h
  | cons a l => simp

/-- `geom1_equivariant` with its hypothesis as the decidable condition `wf1`. -/
theorem geom1_equivariant_wf (sq : K → K) (M : Motion K) (hM : M.R.IsRot) (g : Grid1 K) (h : wf1 g = true) :
    geom1 sq (g.move M) = (geom1 sq g).move M :=
  geom1_equivariant sq M hM g (isEmpty_false_ne_nil h)

/-- `geom2_equivariant` under `wf2 sq g = true` (nodes exist, cells have faces, no zero volume). -/
theorem geom2_equivariant_wf (sq : K → K) (M : Motion K) (hM : M.R.IsRot) (g : Grid2 K) (h : wf2 sq g = true) :
    geom2 sq (g.move M) = (geom2 sq g).move M := by
  simp only [wf2, Bool.and_eq_true, List.all_eq_true] at h
  obtain ⟨⟨h1, h2⟩, h3⟩ := h
  refine geom2_equivariant sq M hM g (isEmpty_false_ne_nil h1) (fun c hc => isEmpty_false_ne_nil (h2 c hc)) ?_
  intro v hv hv0
  have := h3 v hv
  simp [hv0] at this

theorem faceOk_sound (sq : K → K) (ps : List (V3 K)) (h : faceOk sq ps = true) : ps ≠ [] ∧ faceArea3 sq ps ≠ 0 := by
  simp only [faceOk, Bool.and_eq_true] at h
  refine ⟨isEmpty_false_ne_nil h.1, fun h0 => ?_⟩
  have := h.2
  simp [h0] at this

/-- `geom3_equivariant` under `wf3 sq g = true` (faces have nodes and area, cells have faces). -/
theorem geom3_equivariant_wf (sq : K → K) (M : Motion K) (hM : M.R.IsRot) (g : Grid3 K) (h : wf3 sq g = true) :
    geom3 sq (g.move M) = (geom3 sq g).move M ∧ geom3Err sq (g.move M) = geom3Err sq g := by
  simp only [wf3, Bool.and_eq_true, List.all_eq_true] at h
  obtain ⟨hF, hC⟩ := h
  have hF' : ∀ ps ∈ g.faces, ps ≠ [] ∧ faceArea3 sq ps ≠ 0 := fun ps hp => faceOk_sound sq ps (hF ps hp)
  have hC' : ∀ c ∈ g.cells, c ≠ [] ∧ ∀ f ∈ c, f.2 ≠ [] ∧ faceArea3 sq f.2 ≠ 0 := fun c hc =>
    ⟨isEmpty_false_ne_nil (hC c hc).1, fun f hf => faceOk_sound sq f.2 ((hC c hc).2 f hf)⟩
  exact geom3_equivariant sq M hM g hF' hC'

/-! Everything above is proved for every linearly ordered field `K` and every function `sq : K → K`. Taking
`K = ℝ` and `sq = Real.sqrt` gives the statements about the geometry the code computes up to rounding:
`M : Motion ℝ` is ANY proper rigid motion (real rotation matrix, not only a rational one). -/

/-- with `Real.sqrt`, `nrm` is the Euclidean length … -/
theorem euclidean_length_real (v : V3 ℝ) : 0 ≤ nrm Real.sqrt v ∧ nrm Real.sqrt v * nrm Real.sqrt v = norm2 v :=
  ⟨Real.sqrt_nonneg _, nrm_sqrt_mul_self v⟩

/-- … which rotations preserve: `‖R v‖ = ‖v‖` … -/
theorem norm_rotate_real (M : Motion ℝ) (hM : M.R.IsRot) (v : V3 ℝ) :
    Real.sqrt (norm2 (rot M v)) = Real.sqrt (norm2 v) := by
  rw [norm2_rot M hM]

/-- … `v / ‖v‖` is a unit vector for `v ≠ 0` … -/
theorem unit_normal_is_unit_real (v : V3 ℝ) (h : v ≠ zero) :
    dot (normalize Real.sqrt v) (normalize Real.sqrt v) = 1 :=
  normalize_sqrt_unit h

/-- … and normalisation commutes with rotations: `(R v) / ‖R v‖ = R (v / ‖v‖)`. -/
theorem unit_normal_equivariant_real (M : Motion ℝ) (hM : M.R.IsRot) (v : V3 ℝ) :
    normalize Real.sqrt (rot M v) = rot M (normalize Real.sqrt v) :=
  normalize_rot Real.sqrt M hM v

/-- `_compute_geometry_1d` with the true square root under any real proper rigid motion. -/
theorem geom1_equivariant_real (M : Motion ℝ) (hM : M.R.IsRot) (g : Grid1 ℝ) (h : g.nodes ≠ []) :
    geom1 Real.sqrt (g.move M) = (geom1 Real.sqrt g).move M :=
  geom1_equivariant Real.sqrt M hM g h

/-- `_compute_geometry_2d` with the true square root under any real proper rigid motion (all branches). -/
theorem geom2_equivariant_real (M : Motion ℝ) (hM : M.R.IsRot) (g : Grid2 ℝ) (hn : g.nodes ≠ [])
    (hc : ∀ c ∈ g.cells, c ≠ []) (hv : ∀ v ∈ (geom2 Real.sqrt g).cv, v ≠ 0) :
    geom2 Real.sqrt (g.move M) = (geom2 Real.sqrt g).move M :=
  geom2_equivariant Real.sqrt M hM g hn hc hv

/-- `_compute_geometry_3d` with the true square root under any real proper rigid motion. -/
theorem geom3_equivariant_real (M : Motion ℝ) (hM : M.R.IsRot) (g : Grid3 ℝ)
    (hF : ∀ ps ∈ g.faces, ps ≠ [] ∧ faceArea3 Real.sqrt ps ≠ 0)
    (hC : ∀ c ∈ g.cells, c ≠ [] ∧ ∀ f ∈ c, f.2 ≠ [] ∧ faceArea3 Real.sqrt f.2 ≠ 0) :
    geom3 Real.sqrt (g.move M) = (geom3 Real.sqrt g).move M ∧
      geom3Err Real.sqrt (g.move M) = geom3Err Real.sqrt g :=
  geom3_equivariant Real.sqrt M hM g hF hC

/-- the Rodrigues matrix `I + [v]ₓ + [v]ₓ²/(1 + n·ref)`, `v = n × ref`, of a unit vector `n ≠ −ref` is a proper
    rotation and takes `n` to the reference direction `ref = (0,0,1)` (any field; rational in `n`). -/
theorem rodrigues_isRot (n : V3 K) (hn : dot n n = 1) (hc : 1 + n.z ≠ 0) :
    (rodrigues n).IsRot ∧ (rodrigues n).mulVec n = ez := by
  have hd : (1 / (1 + n.z)) * (1 + n.z) = 1 := one_div_mul_cancel hc
  rw [rodrigues_entries n _ hd]
  exact ⟨rodEntries_isRot _ _ _ _ hn hd, rodEntries_mulVec n.x n.y n.z _ hn hd⟩

/-- `project_plane_matrix(pts, normal = n)` / `project_line_matrix(pts, tangent = n)` as coded (`rotation_matrix`
    of the angle `arccos (n·ref)` about `n × ref`, identity for a numerically vanishing axis; `sin (arccos c)` is
    taken to be `√(1 − c²)`), over ℝ, for a unit vector `n`: it is always a proper rotation, and unless the axis
    is numerically zero it is the Rodrigues matrix and takes `n` to `ref`. -/
theorem project_matrix_real (n : V3 ℝ) (hn : dot n n = 1) :
    (projectMatrix Real.sqrt n).IsRot ∧
      (isSmall (cross n ez) = false →
        projectMatrix Real.sqrt n = rodrigues n ∧ (projectMatrix Real.sqrt n).mulVec n = ez) := by
  refine ⟨projectMatrix_isRot_real n, fun hsm => ?_⟩
  have hn' : n.x * n.x + n.y * n.y + n.z * n.z = 1 := hn
  have hv : cross n ez ≠ zero := fun h => by rw [h, isSmall_zero] at hsm; exact absurd hsm (by decide)
  have hl0 := nrm_sqrt_ne_zero hv
  have hl := nrm_sqrt_mul_self (cross n ez)
  -- `|n × ref|² = 1 − c²`, so `sin (arccos c) = |n × ref|` and `(1 − c) / |n × ref|² = 1 / (1 + c)`
  have hnv : norm2 (cross n ez) = (1 - n.z) * (1 + n.z) := by
    rw [cross_ez]; simp only [norm2, dot]; linear_combination hn'
  have hc : (1 : ℝ) + n.z ≠ 0 := fun h0 => norm2_ne_zero hv (by rw [hnv, h0, mul_zero])
  have hz : |n.z| ≤ 1 :=
    abs_le_one_iff_mul_self_le_one.mpr (by linarith [mul_self_nonneg n.x, mul_self_nonneg n.y])
  have hclip : clip1 (dot n ez) = n.z := by rw [dot_ez]; exact clip1_id _ (abs_le.mp hz).1 (abs_le.mp hz).2
  have hs : Real.sqrt (((1 : Nat) : ℝ) - n.z * n.z) = nrm Real.sqrt (cross n ez) := by
    simp only [nrm]; congr 1; rw [hnv]; push_cast; ring
  have hq : (1 - n.z) * (1 / nrm Real.sqrt (cross n ez) * (1 / nrm Real.sqrt (cross n ez))) = 1 / (1 + n.z) := by
    rw [eq_div_iff hc, mul_right_comm, ← hnv, ← hl, one_div_mul_one_div, mul_one_div_cancel (mul_self_ne_zero.mpr hl0)]
  have hR : projectMatrix Real.sqrt n = rodrigues n := by
    simp only [projectMatrix, hclip, hs]
    rw [rotationMatrix_of_axis _ _ _ _ hsm, normalize, axisAngle_smul, rodrigues_eq_axisAngle, dot_ez, Nat.cast_one,
      mul_one_div_cancel hl0, hq]
  rw [hR]
  exact ⟨rfl, (rodrigues_isRot n hn hc).2⟩

/-- `map_grid` over ℝ (grid of dimension 1 or 2 in 3-D, fitted tangent / normal not zero): the local fields are
    the fields rotated by one proper rotation `R`, hence a rigid copy: distances and dot products of centres,
    normals and nodes are those of the embedded grid. -/
theorem map_grid_isometry_real (dim : Nat) (nodes : List (V3 ℝ)) (o : Out ℝ)
    (h2 : dim = 2 → pnRaw Real.sqrt nodes ≠ zero) (h1 : dim ≠ 2 → tangentRaw nodes ≠ zero) :
    let m := mapGrid Real.sqrt dim nodes o
    m.R.IsRot ∧ m.cc = o.cc.map m.R.mulVec ∧ m.fn = o.fn.map m.R.mulVec ∧ m.fc = o.fc.map m.R.mulVec ∧
      m.nodes = nodes.map m.R.mulVec ∧
      ∀ p q : V3 ℝ, norm2 (sub (m.R.mulVec p) (m.R.mulVec q)) = norm2 (sub p q) ∧
        dot (m.R.mulVec p) (m.R.mulVec q) = dot p q := by
  intro m
  have hR : m.R.IsRot := mapGrid_isRot_real dim nodes o
  exact ⟨hR, rfl, rfl, rfl, rfl, fun p q => mulVec_isometry m.R hR p q⟩

/-- … and for a planar 2-D grid (all node differences orthogonal to the fitted normal) whose plane is not
    numerically horizontal, the third local coordinate is the same for all nodes: the grid lies in a
    coordinate plane, as `map_grid` asserts. -/
theorem map_grid_flat_real (nodes : List (V3 ℝ)) (o : Out ℝ) (h2 : pnRaw Real.sqrt nodes ≠ zero)
    (hs : isSmall (cross (planeNormal Real.sqrt nodes) ez) = false)
    (hplanar : ∀ p ∈ nodes, ∀ q ∈ nodes, dot (pnRaw Real.sqrt nodes) (sub p q) = 0) :
    ∀ p ∈ nodes, ∀ q ∈ nodes, ((mapGrid Real.sqrt 2 nodes o).R.mulVec p).z = ((mapGrid Real.sqrt 2 nodes o).R.mulVec q).z := by
  intro p hp q hq
  have hunit := normalize_sqrt_unit h2
  obtain ⟨hR, hrest⟩ := project_matrix_real (planeNormal Real.sqrt nodes) hunit
  have hRn := (hrest hs).2
  have hRdef : (mapGrid Real.sqrt 2 nodes o).R = projectMatrix Real.sqrt (planeNormal Real.sqrt nodes) := by
    simp only [mapGrid, if_true]
  rw [hRdef]
  refine mulVec_flat _ hR _ p q hRn ?_
  have := hplanar p hp q hq
  simp only [planeNormal, normalize, V3.smul, V3.dot] at this ⊢
  linear_combination (((1 : Nat) : ℝ) / nrm Real.sqrt (pnRaw Real.sqrt nodes)) * this

/-- compute_geometry followed by map_grid on the MOVED 2-D grid: the local centres / normals are the centres /
    normals of the original grid carried along by the motion and one further proper rotation. -/
theorem map_grid_of_moved_grid2_real (M : Motion ℝ) (hM : M.R.IsRot) (g : Grid2 ℝ) (hn : g.nodes ≠ [])
    (hc : ∀ c ∈ g.cells, c ≠ []) (hv : ∀ v ∈ (geom2 Real.sqrt g).cv, v ≠ 0)
    (h2 : pnRaw Real.sqrt g.nodes ≠ zero) :
    let m := mapGrid Real.sqrt 2 (g.move M).nodes (geom2 Real.sqrt (g.move M))
    m.R.IsRot ∧ m.cc = ((geom2 Real.sqrt g).cc.map (act M)).map m.R.mulVec ∧
      m.fn = ((geom2 Real.sqrt g).fn.map (rot M)).map m.R.mulVec ∧
      m.fc = ((geom2 Real.sqrt g).fc.map (act M)).map m.R.mulVec := by
  intro m
  have hg := geom2_equivariant Real.sqrt M hM g hn hc hv
  refine ⟨mapGrid_isRot_real 2 _ _, ?_, ?_, ?_⟩ <;> (show List.map _ _ = _; rw [hg]; rfl)

/-- the same for 1-D grids (line fitted by `compute_tangent`). -/
theorem map_grid_of_moved_grid1_real (M : Motion ℝ) (hM : M.R.IsRot) (g : Grid1 ℝ) (hn : g.nodes ≠ [])
    (h1 : tangentRaw g.nodes ≠ zero) :
    let m := mapGrid Real.sqrt 1 (g.move M).nodes (geom1 Real.sqrt (g.move M))
    m.R.IsRot ∧ m.cc = ((geom1 Real.sqrt g).cc.map (act M)).map m.R.mulVec ∧
      m.fn = ((geom1 Real.sqrt g).fn.map (rot M)).map m.R.mulVec ∧
      m.fc = ((geom1 Real.sqrt g).fc.map (act M)).map m.R.mulVec := by
  intro m
  have hg := geom1_equivariant Real.sqrt M hM g hn
  refine ⟨mapGrid_isRot_real 1 _ _, ?_, ?_, ?_⟩ <;> (show List.map _ _ = _; rw [hg]; rfl)

/-- rotation from the quaternion (1,1,1,0): `R = ⅓ [[1,2,2],[2,1,-2],[-2,2,-1]]`, translation (1,-2,1/2) -/
def M0 : Motion Rat := ⟨⟨⟨1/3, 2/3, 2/3⟩, ⟨2/3, 1/3, -2/3⟩, ⟨-2/3, 2/3, -1/3⟩⟩, ⟨1, -2, 1/2⟩⟩
/-- Pythagorean rotation about the x-axis (3-4-5) -/
def M1 : Motion Rat := ⟨⟨⟨1, 0, 0⟩, ⟨0, -3/5, -4/5⟩, ⟨0, 4/5, -3/5⟩⟩, ⟨0, 0, 7⟩⟩
/-- a reflection is rejected by `IsRot` -/
def Mrefl : Motion Rat := ⟨⟨⟨1, 0, 0⟩, ⟨0, 1, 0⟩, ⟨0, 0, -1⟩⟩, ⟨0, 0, 0⟩⟩

theorem M0_isRot : M0.R.IsRot := by decide +kernel
theorem M1_isRot : M1.R.IsRot := by decide +kernel

example : M0.R.IsRot := M0_isRot
example : M0.R = quatMat 1 1 1 0 := by decide +kernel
example : M1.R = quatMat 1 2 0 0 := by decide +kernel
example : M1.R.IsRot := M1_isRot
example : ¬ Mrefl.R.IsRot := by decide +kernel
/-- `cross_rotate` really needs `det R = 1`: it fails for the reflection -/
example : cross (rot Mrefl ⟨1, 0, 0⟩) (rot Mrefl ⟨0, 1, 0⟩) ≠ rot Mrefl (cross ⟨1, 0, 0⟩ ⟨0, 1, 0⟩) := by decide +kernel

example : cross (rot M0 ⟨1, 2, 3⟩) (rot M0 ⟨-1, 0, 5⟩) = rot M0 (cross ⟨1, 2, 3⟩ ⟨-1, 0, 5⟩) :=
  cross_rotate M0 M0_isRot _ _
example : triArea2 (act M0 ⟨0, 0, 0⟩) (act M0 ⟨2, 0, 0⟩) (act M0 ⟨0, 3, 0⟩) = 9 := by decide +kernel
example : tetVolume (act M0 ⟨0, 0, 1⟩) (act M0 ⟨0, 0, 0⟩) (act M0 ⟨1, 0, 0⟩) (act M0 ⟨0, 1, 0⟩) = 1 / 6 := by decide +kernel
example : wavg ([(1, ⟨0, 0, 0⟩), (3, ⟨4, 0, 0⟩)].map fun p => (p.1, act M0 p.2)) = act M0 ⟨3, 0, 0⟩ := by
  decide +kernel

/-- a "square root" that is exact on the squares that occur below (any function would do) -/
def sq0 (q : Rat) : Rat := if q = 4 then 2 else if q = 9 then 3 else if q = 1 / 4 then 1 / 2 else q

/-- 1-D: the grid with nodes 0, 1, 3 on the x-axis (two cells) -/
def g1 : Grid1 Rat :=
  { nodes := [⟨0, 0, 0⟩, ⟨1, 0, 0⟩, ⟨3, 0, 0⟩], faces := [⟨0, 0, 0⟩, ⟨1, 0, 0⟩, ⟨3, 0, 0⟩],
    cells := [(⟨0, -1, ⟨0, 0, 0⟩⟩, ⟨1, 1, ⟨1, 0, 0⟩⟩), (⟨1, -1, ⟨1, 0, 0⟩⟩, ⟨2, 1, ⟨3, 0, 0⟩⟩)] }
theorem g1_wf : wf1 g1 = true := by decide +kernel
example : (geom1 sq0 g1).cv = [1, 2] ∧ (geom1 sq0 g1).cc = [⟨1/2, 0, 0⟩, ⟨2, 0, 0⟩] := by decide +kernel
example : geom1 sq0 (g1.move M0) = (geom1 sq0 g1).move M0 :=
  geom1_equivariant_wf sq0 M0 M0_isRot g1 g1_wf

/-- 2-D: the L-shaped (non-convex) hexagon with area 3 -/
def lshape : List (V3 Rat) := [⟨0, 0, 0⟩, ⟨2, 0, 0⟩, ⟨2, 1, 0⟩, ⟨1, 1, 0⟩, ⟨1, 2, 0⟩, ⟨0, 2, 0⟩]
theorem lshape_wf : wf2 sq0 (polyGrid lshape) = true := by decide +kernel
example : (geom2 sq0 (polyGrid lshape)).cv = [3] ∧ (geom2 sq0 (polyGrid lshape)).cc = [⟨5/6, 5/6, 0⟩] ∧
    check1 (polyGrid lshape) = true ∧ volOriented (nhat sq0 (polyGrid lshape)) (polyGrid lshape) = true := by
  decide +kernel
example : geom2 sq0 (polyGrid (lshape.map (act M0))) = (geom2 sq0 (polyGrid lshape)).move M0 :=
  polyGrid_move M0 lshape ▸ geom2_equivariant_wf sq0 M0 M0_isRot _ lshape_wf

/-- 2-D, fallback path: a unit square whose second face is stored backwards (check 1 fails) -/
def gsq : Grid2 Rat :=
  { nodes := [⟨0, 0, 0⟩, ⟨1, 0, 0⟩, ⟨1, 1, 0⟩, ⟨0, 1, 0⟩],
    faces := [(⟨0, 0, 0⟩, ⟨1, 0, 0⟩), (⟨1, 1, 0⟩, ⟨1, 0, 0⟩), (⟨1, 1, 0⟩, ⟨0, 1, 0⟩), (⟨0, 1, 0⟩, ⟨0, 0, 0⟩)],
    cells := [[⟨0, 1, 0, 1, ⟨0, 0, 0⟩, ⟨1, 0, 0⟩⟩, ⟨1, 1, 2, 1, ⟨1, 1, 0⟩, ⟨1, 0, 0⟩⟩,
               ⟨2, 1, 2, 3, ⟨1, 1, 0⟩, ⟨0, 1, 0⟩⟩, ⟨3, 1, 3, 0, ⟨0, 1, 0⟩, ⟨0, 0, 0⟩⟩]] }
theorem gsq_wf : wf2 sq0 gsq = true := by decide +kernel
example : check1 gsq = false ∧ volOriented (nhat sq0 gsq) gsq = false := by decide +kernel
example : geom2 sq0 (gsq.move M1) = (geom2 sq0 gsq).move M1 :=
  geom2_equivariant_wf sq0 M1 M1_isRot gsq gsq_wf

/-- 3-D: the unit right tetrahedron, faces oriented outwards -/
def tetFaces : List (List (V3 Rat)) :=
  [[⟨0, 0, 0⟩, ⟨0, 1, 0⟩, ⟨1, 0, 0⟩], [⟨0, 0, 0⟩, ⟨1, 0, 0⟩, ⟨0, 0, 1⟩],
   [⟨0, 0, 0⟩, ⟨0, 0, 1⟩, ⟨0, 1, 0⟩], [⟨1, 0, 0⟩, ⟨0, 1, 0⟩, ⟨0, 0, 1⟩]]
def g3 : Grid3 Rat := { faces := tetFaces, cells := [tetFaces.map fun ps => (1, ps)] }
theorem g3_wf : wf3 id g3 = true := by decide +kernel
example : (geom3 id g3).cv = [1 / 6] ∧ (geom3 id g3).cc = [⟨1/4, 1/4, 1/4⟩] ∧ geom3Err id g3 = false := by
  decide +kernel
example : geom3 id (g3.move M0) = (geom3 id g3).move M0 ∧ geom3Err id (g3.move M0) = geom3Err id g3 :=
  geom3_equivariant_wf id M0 M0_isRot g3 g3_wf

example : wf1 g1 = true ∧ wf2 sq0 (polyGrid lshape) = true ∧ wf2 sq0 gsq = true ∧ wf3 id g3 = true :=
  ⟨g1_wf, lshape_wf, gsq_wf, g3_wf⟩
example : geom2 sq0 (gsq.move M1) = (geom2 sq0 gsq).move M1 :=
  geom2_equivariant_wf sq0 M1 M1_isRot gsq gsq_wf
example : geom0 (Grid0.move M0 ⟨[⟨1, 2, 3⟩], [⟨1, 2, 3⟩]⟩) = (geom0 (⟨[⟨1, 2, 3⟩], [⟨1, 2, 3⟩]⟩ : Grid0 Rat)).move M0 :=
  geom0_equivariant M0 _
example : cellDiam sq0 (lshape.map (act M0)) = cellDiam sq0 lshape ∧ cellDiam sq0 lshape = 8 :=
  ⟨cell_diameter_invariant sq0 M0 M0_isRot lshape, by decide +kernel⟩

/-- an IRRATIONAL proper rotation (45° about the z-axis) satisfies the hypothesis of the real theorems -/
noncomputable def M45 : Motion ℝ :=
  ⟨⟨⟨Real.sqrt 2 / 2, -(Real.sqrt 2 / 2), 0⟩, ⟨Real.sqrt 2 / 2, Real.sqrt 2 / 2, 0⟩, ⟨0, 0, 1⟩⟩, ⟨Real.sqrt 2, 0, 1⟩⟩
example : M45.R.IsRot := by
  have hs : Real.sqrt 2 * Real.sqrt 2 = 2 := Real.mul_self_sqrt (by norm_num)
  simp only [Mat3.IsRot, M45, Mat3.c1, Mat3.c2, Mat3.c3, Mat3.det, V3.dot, V3.cross]
  push_cast
  refine ⟨?_, ?_, ?_, ?_, ?_, ?_, ?_⟩
  · linear_combination (1 / 2 : ℝ) * hs
  · linear_combination (1 / 2 : ℝ) * hs
  · ring
  · ring
  · ring
  · ring
  · linear_combination (1 / 2 : ℝ) * hs

/-- the Rodrigues matrix of the unit vector (2/3, 1/3, 2/3) -/
example : (rodrigues (⟨2/3, 1/3, 2/3⟩ : V3 Rat)).IsRot ∧ (rodrigues (⟨2/3, 1/3, 2/3⟩ : V3 Rat)).mulVec ⟨2/3, 1/3, 2/3⟩ = ez :=
  rodrigues_isRot _ (by decide +kernel) (by decide +kernel)
example : rodrigues (⟨2/3, 1/3, 2/3⟩ : V3 Rat) = ⟨⟨11/15, -2/15, -2/3⟩, ⟨-2/15, 14/15, -1/3⟩, ⟨2/3, 1/3, 2/3⟩⟩ := by decide +kernel

end PorepyVerif.C20
