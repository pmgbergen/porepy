/-
C31 — integer-valued rationals and the tolerance band, 3-vector algebra, what collinear / planar /
half-space tests compute.
-/
import PorepyVerif.C31.Lemmas

namespace PorepyVerif.C31

theorem IsInt.add {x y : Rat} (hx : IsInt x) (hy : IsInt y) : IsInt (x + y) := by
  obtain ⟨a, rfl⟩ := hx; obtain ⟨b, rfl⟩ := hy; exact ⟨a + b, by push_cast; ring⟩
theorem IsInt.sub {x y : Rat} (hx : IsInt x) (hy : IsInt y) : IsInt (x - y) := by
  obtain ⟨a, rfl⟩ := hx; obtain ⟨b, rfl⟩ := hy; exact ⟨a - b, by push_cast; ring⟩
theorem IsInt.mul {x y : Rat} (hx : IsInt x) (hy : IsInt y) : IsInt (x * y) := by
  obtain ⟨a, rfl⟩ := hx; obtain ⟨b, rfl⟩ := hy; exact ⟨a * b, by push_cast; ring⟩
theorem IsInt.natCast (n : Nat) : IsInt (n : Rat) := ⟨(n : Int), by push_cast; rfl⟩
theorem IsInt.zero : IsInt 0 := ⟨0, by simp⟩

theorem absR_eq_abs (x : Rat) : absR x = |x| := by
  unfold absR
  split
  · exact (abs_of_neg ‹_›).symm
  · exact (abs_of_nonneg (not_lt.mp ‹_›)).symm

/-- a non-zero integer has modulus at least one: what keeps integer input out of every tolerance
    band narrower than one -/
theorem absR_ge_one_of_int {x : Rat} (hx : IsInt x) (h : x ≠ 0) : 1 ≤ absR x := by
  obtain ⟨z, rfl⟩ := hx
  rw [absR_eq_abs, ← Int.cast_abs]
  exact_mod_cast Int.one_le_abs (Int.cast_ne_zero.mp h)

theorem IsInt.eq_zero_of_lt_one {x : Rat} (hx : IsInt x) (h0 : 0 ≤ x) (h1 : x < 1) : x = 0 := by
  by_contra hne
  have := absR_ge_one_of_int hx hne
  rw [absR_eq_abs, abs_of_nonneg h0] at this
  exact absurd h1 (not_lt.mpr this)

theorem IsInt3.sub {a b : P3} (ha : IsInt3 a) (hb : IsInt3 b) : IsInt3 (sub3 a b) :=
  ⟨ha.1.sub hb.1, ha.2.1.sub hb.2.1, ha.2.2.sub hb.2.2⟩
theorem IsInt3.cross {a b : P3} (ha : IsInt3 a) (hb : IsInt3 b) : IsInt3 (cross3 a b) :=
  ⟨(ha.2.1.mul hb.2.2).sub (ha.2.2.mul hb.2.1), (ha.2.2.mul hb.1).sub (ha.1.mul hb.2.2),
    (ha.1.mul hb.2.1).sub (ha.2.1.mul hb.1)⟩
theorem IsInt3.dot {a b : P3} (ha : IsInt3 a) (hb : IsInt3 b) : IsInt (dot3 a b) :=
  ((ha.1.mul hb.1).add (ha.2.1.mul hb.2.1)).add (ha.2.2.mul hb.2.2)

theorem isInt3B_sound {p : P3} (h : isInt3B p = true) : IsInt3 p := by
  simp only [isInt3B, isIntB, Bool.and_eq_true, beq_iff_eq] at h
  exact ⟨⟨p.1.num, ((Rat.den_eq_one_iff _).mp h.1.1).symm⟩, ⟨p.2.1.num, ((Rat.den_eq_one_iff _).mp h.1.2).symm⟩,
    ⟨p.2.2.num, ((Rat.den_eq_one_iff _).mp h.2).symm⟩⟩

theorem nsq3_nonneg (a : P3) : 0 ≤ nsq3 a :=
  add_nonneg (add_nonneg (mul_self_nonneg _) (mul_self_nonneg _)) (mul_self_nonneg _)

theorem nsq3_eq_zero {a : P3} (h : nsq3 a = 0) : a = (0, 0, 0) := by
  obtain ⟨x, y, z⟩ := a
  simp only [nsq3, dot3] at h
  have hx := mul_self_nonneg x
  have hy := mul_self_nonneg y
  have hz := mul_self_nonneg z
  rw [mul_self_eq_zero.mp (le_antisymm (by linarith) hx), mul_self_eq_zero.mp (le_antisymm (by linarith) hy),
    mul_self_eq_zero.mp (le_antisymm (by linarith) hz)]

theorem cross3_sub_self_left (p q : P3) : cross3 (sub3 p p) q = (0, 0, 0) := by
  simp [cross3, sub3]

theorem cross3_sub_self_right (p q : P3) : cross3 q (sub3 p p) = (0, 0, 0) := by
  simp [cross3, sub3]

theorem cross3_self (a : P3) : cross3 a a = (0, 0, 0) := by
  simp only [cross3, Prod.mk.injEq]; refine ⟨by ring, by ring, by ring⟩

theorem cross3_zero_of_parallel (a b d : P3) (hd : d ≠ (0, 0, 0))
    (ha : cross3 a d = (0, 0, 0)) (hb : cross3 b d = (0, 0, 0)) : cross3 a b = (0, 0, 0) := by
  have hn : nsq3 d ≠ 0 := fun h => hd (nsq3_eq_zero h)
  obtain ⟨a1, a2, a3⟩ := a; obtain ⟨b1, b2, b3⟩ := b; obtain ⟨d1, d2, d3⟩ := d
  simp only [cross3, Prod.mk.injEq, nsq3, dot3] at ha hb hn ⊢
  obtain ⟨ha1, ha2, ha3⟩ := ha
  obtain ⟨hb1, hb2, hb3⟩ := hb
  -- `|d|²` times each component of `a × b` is a combination of the components of `a × d` and `b × d`
  have k1 : (d1 * d1 + d2 * d2 + d3 * d3) * (a2 * b3 - a3 * b2) = 0 := by
    linear_combination (d2 * b2 + d3 * b3) * ha1 - d1 * b2 * ha2 - d1 * b3 * ha3
      - (d1 * a1 + d2 * a2 + d3 * a3) * hb1
  have k2 : (d1 * d1 + d2 * d2 + d3 * d3) * (a3 * b1 - a1 * b3) = 0 := by
    linear_combination (d1 * b1 + d3 * b3) * ha2 - d2 * b1 * ha1 - d2 * b3 * ha3
      - (d1 * a1 + d2 * a2 + d3 * a3) * hb2
  have k3 : (d1 * d1 + d2 * d2 + d3 * d3) * (a1 * b2 - a2 * b1) = 0 := by
    linear_combination (d1 * b1 + d2 * b2) * ha3 - d3 * b1 * ha1 - d3 * b2 * ha2
      - (d1 * a1 + d2 * a2 + d3 * a3) * hb3
  exact ⟨(mul_eq_zero.mp k1).resolve_left hn, (mul_eq_zero.mp k2).resolve_left hn,
    (mul_eq_zero.mp k3).resolve_left hn⟩

theorem nsq3_zero : nsq3 (0, 0, 0) = 0 := by simp [nsq3, dot3]

theorem cross3_zero_of_farthest (pts : List P3) (p0 pm : P3)
    (hmax : ∀ q ∈ pts, nsq3 (sub3 q p0) ≤ nsq3 (sub3 pm p0))
    (hz : ∀ p ∈ pts, cross3 (sub3 p p0) (sub3 pm p0) = (0, 0, 0)) :
    ∀ p ∈ pts, ∀ q ∈ pts, cross3 (sub3 p p0) (sub3 q p0) = (0, 0, 0) := by
  intro p hp q hq
  by_cases hd : sub3 pm p0 = (0, 0, 0)
  · -- the farthest point coincides with `p0`, so all points do
    have h1 := hmax p hp
    rw [hd, nsq3_zero] at h1
    rw [nsq3_eq_zero (le_antisymm h1 (nsq3_nonneg _))]
    simp [cross3]
  · exact cross3_zero_of_parallel _ _ _ hd (hz p hp) (hz q hq)

theorem le_maxR_left (a b : Rat) : a ≤ maxR a b := by unfold maxR; split <;> linarith
theorem maxDistTo_ge (p : P3) (l : List P3) (m : Rat) : m ≤ maxDistTo p l m := by
  induction l generalizing m with
  | nil => exact le_refl _
  | cons q t ih => exact le_trans (le_maxR_left _ _) (ih _)
theorem maxPairSq_ge (l : List P3) (m : Rat) : m ≤ maxPairSq l m := by
  induction l generalizing m with
  | nil => exact le_refl _
  | cons q t ih => exact le_trans (maxDistTo_ge _ _ _) (ih _)

/-- three or more points: every point is tested against the direction from the first point to the
    point farthest from it -/
theorem pointsAreCollinear_three (p0 p1 p2 : P3) (t : List P3) (tol : Rat) (pm : P3)
    (hpm : argmaxFirst (fun q => nsq3 (sub3 q p0)) (p0 :: p1 :: p2 :: t) = some pm) :
    pointsAreCollinear (p0 :: p1 :: p2 :: t) tol = true ↔ 0 ≤ tol ∧ ∀ p ∈ p0 :: p1 :: p2 :: t,
      nsq3 (cross3 (sub3 p p0) (sub3 pm p0)) ≤ tol * tol * maxPairSq (p0 :: p1 :: p2 :: t) 1 := by
  simp only [pointsAreCollinear, hpm, Option.getD_some, Bool.and_eq_true, decide_eq_true_eq,
    List.all_eq_true]

theorem dot3_sub3 (N p q : P3) : dot3 N (sub3 p q) = dot3 N p - dot3 N q := by
  simp only [dot3, sub3]; ring

theorem dot3_sum3 (N : P3) (l : List P3) : dot3 N (sum3 l) = rsum (l.map (fun p => dot3 N p)) := by
  induction l with
  | nil => simp [sum3, dot3, rsum]
  | cons a t ih =>
    simp only [List.map_cons, rsum, ← ih]
    simp only [sum3, dot3]; ring

theorem IsInt3_sum3 (l : List P3) (h : ∀ p ∈ l, IsInt3 p) : IsInt3 (sum3 l) := by
  induction l with
  | nil => exact ⟨IsInt.zero, IsInt.zero, IsInt.zero⟩
  | cons a t ih =>
    have ha := h a (by simp)
    have ht := ih (fun p hp => h p (by simp [hp]))
    exact ⟨ha.1.add ht.1, ha.2.1.add ht.2.1, ha.2.2.add ht.2.2⟩

theorem dot3_sub_mean (N p : P3) (l : List P3) (hl : l ≠ []) :
    (l.length : Rat) * dot3 N (sub3 p (mean3 l)) = (l.length : Rat) * dot3 N p - dot3 N (sum3 l) := by
  have hm : dot3 N (mean3 l) = dot3 N (sum3 l) / (l.length : Rat) := by
    simp only [mean3, dot3]; ring
  rw [dot3_sub3, mul_sub, hm, mul_div_cancel₀ _ (natCast_length_ne_zero hl)]

theorem insideCount_eq_countP (p : P3) (l : List (P3 × P3)) :
    insideCount p l = l.countP (fun pl => decide (dot3 (sub3 p pl.2) pl.1 ≤ 0)) := by
  induction l with
  | nil => rfl
  | cons a t ih =>
    rw [List.countP_cons, ← ih, Nat.add_comm]
    by_cases h : dot3 (sub3 p a.2) a.1 ≤ 0 <;> simp [insideCount, h]

theorem insideCount_eq_iff (p : P3) (l : List (P3 × P3)) :
    insideCount p l = l.length ↔ ∀ pl ∈ l, dot3 (sub3 p pl.2) pl.1 ≤ 0 := by
  rw [insideCount_eq_countP, List.countP_eq_length]
  simp only [decide_eq_true_eq]

end PorepyVerif.C31
