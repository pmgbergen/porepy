/-
C31 — closed polygons: the shoelace sum of is_ccw_polygon and the winding-number test of
point_in_polygon (half-plane geometry, the three per-edge analyses: kernel, separated, generic position).
-/
import PorepyVerif.C31.Lemmas

namespace PorepyVerif.C31

/-- the half plane `x > 0`, completed by the positive `y`-axis (the `+1` side of `vertexSgn`) -/
def inH (v : P2) : Prop := 0 < v.1 ∨ (v.1 = 0 ∧ 0 < v.2)
def neg2 (v : P2) : P2 := (-v.1, -v.2)

theorem inH.x_nonneg {v : P2} (h : inH v) : 0 ≤ v.1 := h.elim le_of_lt (fun h => h.1.ge)

theorem inH.y_pos {v : P2} (h : inH v) (h0 : v.1 = 0) : 0 < v.2 :=
  h.elim (fun h' => absurd h0 h'.ne') (fun h' => h'.2)

theorem inH_not_neg (v : P2) (h : inH v) (h' : inH (neg2 v)) : False := by
  have h0 : v.1 = 0 := le_antisymm (neg_nonneg.mp h'.x_nonneg) h.x_nonneg
  exact lt_asymm (h.y_pos h0) (neg_pos.mp (h'.y_pos (neg_eq_zero.mpr h0)))

theorem cross2_neg (u v : P2) : cross2 (neg2 u) (neg2 v) = cross2 u v := by
  simp only [cross2, neg2]; ring

/-- Within the half plane `inH`, "`v` is reached from `u` by a counter-clockwise turn" (`s > 0`;
    clockwise for `s < 0`) is transitive. -/
theorem cross_trans_H (s : Rat) (u v w : P2) (hu : inH u) (hv : inH v) (hw : inH w)
    (h1 : 0 < s * cross2 u v) (h2 : 0 < s * cross2 v w) : 0 < s * cross2 u w := by
  have e1 : s * cross2 u w * v.1 = s * cross2 v w * u.1 + s * cross2 u v * w.1 := by
    simp only [cross2]; ring
  have e2 : s * cross2 u w * v.2 = s * cross2 v w * u.2 + s * cross2 u v * w.2 := by
    simp only [cross2]; ring
  by_contra hC
  -- otherwise both products on the right of `e1` vanish, `u` and `w` are on the positive `y`-axis
  have p1 := mul_nonneg h2.le hu.x_nonneg
  have p2 := mul_nonneg h1.le hw.x_nonneg
  have p3 := mul_nonpos_of_nonpos_of_nonneg (not_lt.mp hC) hv.x_nonneg
  have h00 := (add_eq_zero_iff_of_nonneg p1 p2).mp (le_antisymm (e1 ▸ p3) (add_nonneg p1 p2))
  have hu0 : u.1 = 0 := (mul_eq_zero.mp h00.1).resolve_left h2.ne'
  have hw0 : w.1 = 0 := (mul_eq_zero.mp h00.2).resolve_left h1.ne'
  -- and `u × w = 0`, against `e2`
  have hC0 : cross2 u w = 0 := by simp [cross2, hu0, hw0]
  rw [hC0, mul_zero, zero_mul] at e2
  exact (add_pos (mul_pos h2 (hu.y_pos hu0)) (mul_pos h1 (hw.y_pos hw0))).ne e2

theorem cross_trans_negH (s : Rat) (u v w : P2) (hu : inH (neg2 u)) (hv : inH (neg2 v))
    (hw : inH (neg2 w)) (h1 : 0 < s * cross2 u v) (h2 : 0 < s * cross2 v w) : 0 < s * cross2 u w := by
  rw [← cross2_neg] at h1 h2 ⊢
  exact cross_trans_H s _ _ _ hu hv hw h1 h2

/-- `a` in `-H`, `b` in `H`, both strictly on the positive side of the line through the origin with
    normal `n`: the sign of `a × b` is opposite to that of `n.2` (and `n.2 ≠ 0`). -/
theorem sep_cross_sign (n a b : P2) (ha : 0 < dot2 n a) (hb : 0 < dot2 n b)
    (haH : inH (neg2 a)) (hbH : inH b) : n.2 * cross2 a b < 0 := by
  have e1 : n.2 * cross2 a b = -(dot2 n b * (-a.1) + dot2 n a * b.1) := by
    simp only [dot2, cross2]; ring
  have e2 : n.1 * cross2 a b = dot2 n a * b.2 + dot2 n b * (-a.2) := by
    simp only [dot2, cross2]; ring
  have ha1 : 0 ≤ -a.1 := haH.x_nonneg
  have p1 := mul_nonneg hb.le ha1
  have p2 := mul_nonneg ha.le hbH.x_nonneg
  by_contra hC
  -- otherwise both products in `e1` vanish, `a` and `b` are on the `y`-axis
  have h00 := (add_eq_zero_iff_of_nonneg p1 p2).mp
    (le_antisymm (neg_nonneg.mp (e1 ▸ not_lt.mp hC)) (add_nonneg p1 p2))
  have ha0 : -a.1 = 0 := (mul_eq_zero.mp h00.1).resolve_left hb.ne'
  have hb0 : b.1 = 0 := (mul_eq_zero.mp h00.2).resolve_left ha.ne'
  -- and `a × b = 0`, against `e2`
  have hC0 : cross2 a b = 0 := by simp [cross2, neg_eq_zero.mp ha0, hb0]
  rw [hC0, mul_zero] at e2
  exact (add_pos (mul_pos ha (hbH.y_pos hb0)) (mul_pos hb (haH.y_pos ha0))).ne e2

theorem sgn_pos {x : Rat} (h : 0 < x) : sgn x = 1 := by
  simp [sgn, not_lt.mpr h.le, h.ne']

theorem sgn_neg {x : Rat} (h : x < 0) : sgn x = -1 := by simp [sgn, h]

theorem sgn_eq_zero_iff {x : Rat} : sgn x = 0 ↔ x = 0 := by
  rcases lt_trichotomy x 0 with h | h | h
  · simp [sgn_neg h, h.ne]
  · simp [sgn, h]
  · simp [sgn_pos h, h.ne']

theorem sgn_of_mul_pos {x y : Rat} (h : 0 < x * y) : sgn y = sgn x := by
  rcases mul_pos_iff.mp h with ⟨hx, hy⟩ | ⟨hx, hy⟩
  · rw [sgn_pos hx, sgn_pos hy]
  · rw [sgn_neg hx, sgn_neg hy]

theorem sgn_of_mul_neg {x y : Rat} (h : x * y < 0) : sgn y = -sgn x := by
  rcases mul_neg_iff.mp h with ⟨hx, hy⟩ | ⟨hx, hy⟩
  · rw [sgn_pos hx, sgn_neg hy]
  · rw [sgn_neg hx, sgn_pos hy]; rfl

theorem vertexSgn_cases (v : P2) :
    (v.1 = 0 ∧ v.2 = 0 ∧ vertexSgn v = 0) ∨ (inH v ∧ vertexSgn v = 1) ∨ (inH (neg2 v) ∧ vertexSgn v = -1) := by
  obtain ⟨x, y⟩ := v
  have h00 : sgn (0 : Rat) = 0 := sgn_eq_zero_iff.mpr rfl
  simp only [vertexSgn, inH, neg2]
  rcases lt_trichotomy x 0 with hx | hx | hx
  · exact Or.inr (Or.inr ⟨Or.inl (neg_pos.mpr hx), by simp [sgn_neg hx]⟩)
  · subst hx
    rcases lt_trichotomy y 0 with hy | hy | hy
    · exact Or.inr (Or.inr ⟨Or.inr ⟨neg_zero, neg_pos.mpr hy⟩, by simp [h00, sgn_neg hy]⟩)
    · subst hy; exact Or.inl ⟨rfl, rfl, by simp [h00]⟩
    · exact Or.inr (Or.inl ⟨Or.inr ⟨rfl, hy⟩, by simp [h00, sgn_pos hy]⟩)
  · exact Or.inr (Or.inl ⟨Or.inl hx, by simp [sgn_pos hx]⟩)

theorem inH_of_vertexSgn {v : P2} (h : vertexSgn v = 1) : inH v := by
  rcases vertexSgn_cases v with ⟨_, _, h3⟩ | ⟨h1, _⟩ | ⟨_, h3⟩
  · rw [h3] at h; cases h
  · exact h1
  · rw [h3] at h; cases h

theorem inH_neg_of_vertexSgn {v : P2} (h : vertexSgn v = -1) : inH (neg2 v) := by
  rcases vertexSgn_cases v with ⟨_, _, h3⟩ | ⟨_, h3⟩ | ⟨h1, _⟩
  · rw [h3] at h; cases h
  · rw [h3] at h; cases h
  · exact h1

/-- the jump of the half-plane sign along an edge; the edge is `active` iff it is not zero -/
def vsDiff (e : P2 × P2) : Int := vertexSgn e.2 - vertexSgn e.1

theorem active_false_iff (e : P2 × P2) : active e = false ↔ vertexSgn e.2 = vertexSgn e.1 := by
  simp only [active, bne_eq_false_iff_eq]
  omega

/-- no vertex at the test point and no active edge seen edge-on: neither early exit is taken and the
    answer is that of the winding sum -/
theorem pipEdges_cyc (l : List P2) (d : Bool) (h0 : ∀ v ∈ l, ¬ (v.1 = 0 ∧ v.2 = 0))
    (h1 : ∀ e ∈ cycPairs l, active e = true → edgeSgn e ≠ 0) :
    pipEdges (cycPairs l) d = (wind2 (cycPairs l) != 0) := by
  have a0 : (cycPairs l).any (fun e => isOrigin e.1 || isOrigin e.2) = false := by
    rw [List.any_eq_false]
    intro e he
    have hm := mem_cycPairs l e he
    simpa [isOrigin] using ⟨not_and.mp (h0 _ hm.1), not_and.mp (h0 _ hm.2)⟩
  have a1 : (cycPairs l).any (fun e => active e && (edgeSgn e == 0)) = false := by
    rw [List.any_eq_false]
    intro e he
    simpa using h1 e he
  simp [pipEdges, a0, a1]

theorem wind2_const (es : List (P2 × P2)) (σ : Int)
    (h : ∀ e ∈ es, edgeSgn e = σ) : wind2 es = σ * (es.countP active : Nat) := by
  induction es with
  | nil => simp [wind2, isum]
  | cons a t ih =>
    have := ih (fun e he => h e (by simp [he]))
    simp only [wind2, List.map_cons, isum] at this ⊢
    rw [this, List.countP_cons]
    simp only [contrib, h a (by simp)]
    by_cases ha : active a = true
    · simp [ha]; ring
    · simp [ha]

/-- Every edge is seen counter-clockwise (`s > 0`) or every edge clockwise (`s < 0`) from
    the origin ⇒ the winding test answers True. -/
theorem pip_core_inside (l : List P2) (hl : l ≠ []) (s : Rat)
    (h : ∀ e ∈ cycPairs l, 0 < s * cross2 e.1 e.2) (d : Bool) : pipEdges (cycPairs l) d = true := by
  -- no vertex is the origin, every edge has the same non-zero sign
  have hnz : ∀ a ∈ l, ¬ (a.1 = 0 ∧ a.2 = 0) := by
    intro a ha hz
    obtain ⟨e, he, rfl⟩ := mem_snd_cycPairs l a ha
    have := h e he
    simp [cross2, hz.1, hz.2] at this
  have hσ : ∀ e ∈ cycPairs l, edgeSgn e = sgn s := fun e he => sgn_of_mul_pos (h e he)
  obtain ⟨e0, he0⟩ := List.exists_mem_of_ne_nil _ (cycPairs_ne_nil l hl)
  have hσ0 : sgn s ≠ 0 := sgn_eq_zero_iff.not.mpr (left_ne_zero_of_mul (h e0 he0).ne')
  rw [pipEdges_cyc _ _ hnz (fun e he _ => by rw [hσ e he]; exact hσ0), wind2_const _ _ hσ]
  -- it remains to find one active edge
  suffices hact : ∃ e ∈ cycPairs l, active e = true by
    have : 0 < (cycPairs l).countP active := List.countP_pos_iff.mpr hact
    have hc : ((cycPairs l).countP active : Int) ≠ 0 := by omega
    simp only [bne_iff_ne, ne_eq, mul_eq_zero, not_or]
    exact ⟨hσ0, hc⟩
  by_contra hno
  -- otherwise all vertices are in `H` or all in `-H`, where the turning direction is transitive
  have hconst : ∀ a ∈ l, ∀ b ∈ l, vertexSgn a = vertexSgn b :=
    cycPairs_const vertexSgn l (fun e he => (active_false_iff e).mp (by
      by_contra hc; exact hno ⟨e, he, by simpa using hc⟩))
  have hz0 := (mem_cycPairs l e0 he0).1
  have hside : (∀ a ∈ l, inH a) ∨ (∀ a ∈ l, inH (neg2 a)) := by
    rcases vertexSgn_cases e0.1 with ⟨z1, z2, _⟩ | ⟨_, hz1⟩ | ⟨_, hz1⟩
    · exact absurd ⟨z1, z2⟩ (hnz _ hz0)
    · exact Or.inl fun a ha => inH_of_vertexSgn ((hconst a ha _ hz0).trans hz1)
    · exact Or.inr fun a ha => inH_neg_of_vertexSgn ((hconst a ha _ hz0).trans hz1)
  have hzz : ∃ z ∈ l, 0 < s * cross2 z z := by
    rcases hside with hS | hS
    · exact cycPairs_trans (fun a b => 0 < s * cross2 a b) inH (cross_trans_H s) l hl hS h
    · exact cycPairs_trans (fun a b => 0 < s * cross2 a b) (fun v => inH (neg2 v))
        (cross_trans_negH s) l hl hS h
  obtain ⟨z, _, hz⟩ := hzz
  rw [cross2_self, mul_zero] at hz
  exact lt_irrefl _ hz

theorem dot2_zero_of_origin (n v : P2) (h : v.1 = 0 ∧ v.2 = 0) : dot2 n v = 0 := by
  simp [dot2, h.1, h.2]

/-- per edge: with both end points strictly on the positive side of `n`, the contribution to the
    winding sum is `-(k/2)·(vertexSgn b - vertexSgn a)`, `k = sign n.2`; an active edge is not seen edge-on -/
theorem contrib_sep (n : P2) (e : P2 × P2) (ha : 0 < dot2 n e.1) (hb : 0 < dot2 n e.2) :
    2 * contrib e = -(sgn n.2) * vsDiff e ∧ (active e = true → edgeSgn e ≠ 0) := by
  obtain ⟨a, b⟩ := e
  have hside : ∀ v : P2, 0 < dot2 n v →
      (inH v ∧ vertexSgn v = 1) ∨ (inH (neg2 v) ∧ vertexSgn v = -1) := by
    intro v hv
    rcases vertexSgn_cases v with ⟨v1, v2, _⟩ | h | h
    · rw [dot2_zero_of_origin n v ⟨v1, v2⟩] at hv; exact absurd hv (lt_irrefl _)
    · exact Or.inl h
    · exact Or.inr h
  -- an edge from `-H` to `H` or back: its sign is `∓ sign n.2`, which is not zero
  have hne : ∀ {c : Rat}, n.2 * c ≠ 0 → sgn c ≠ 0 := fun hc h0 =>
    hc (by rw [sgn_eq_zero_iff.mp h0, mul_zero])
  rcases hside a ha with ⟨haH, hva⟩ | ⟨haH, hva⟩ <;> rcases hside b hb with ⟨hbH, hvb⟩ | ⟨hbH, hvb⟩
  · simp [contrib, active, vsDiff, hva, hvb]
  · have hc : 0 < n.2 * cross2 a b := by
      have := sep_cross_sign n b a hb ha hbH haH
      rw [cross2_antisymm a b] at this; linarith
    have hact : active (a, b) = true := by simp [active, hva, hvb]
    refine ⟨?_, fun _ => hne hc.ne'⟩
    simp only [contrib, hact, if_true, edgeSgn, vsDiff, hva, hvb, sgn_of_mul_pos hc]
    ring
  · have hc := sep_cross_sign n a b ha hb haH hbH
    have hact : active (a, b) = true := by simp [active, hva, hvb]
    refine ⟨?_, fun _ => hne hc.ne⟩
    simp only [contrib, hact, if_true, edgeSgn, vsDiff, hva, hvb, sgn_of_mul_neg hc]
    ring
  · simp [contrib, active, vsDiff, hva, hvb]

theorem wind2_sep (l : List P2) (n : P2) (hpos : ∀ e ∈ cycPairs l, 0 < dot2 n e.1 ∧ 0 < dot2 n e.2) :
    wind2 (cycPairs l) = 0 := by
  have e1 : 2 * isum ((cycPairs l).map contrib) = -(sgn n.2) * isum ((cycPairs l).map vsDiff) :=
    isum_scale 2 (-(sgn n.2)) contrib vsDiff (cycPairs l)
      (fun e he => (contrib_sep n e (hpos e he).1 (hpos e he).2).1)
  have e4 : isum ((cycPairs l).map vsDiff) = 0 := isum_tele_cyc vertexSgn l
  rw [e4, Int.mul_zero] at e1
  unfold wind2
  omega

/-- The polygon lies strictly on one side of a line through the origin ⇒ False. -/
theorem pip_core_outside (l : List P2) (n : P2) (h : ∀ v ∈ l, 0 < dot2 n v) (d : Bool) :
    pipEdges (cycPairs l) d = false := by
  have hpos : ∀ e ∈ cycPairs l, 0 < dot2 n e.1 ∧ 0 < dot2 n e.2 := fun e he =>
    ⟨h _ (mem_cycPairs l e he).1, h _ (mem_cycPairs l e he).2⟩
  have h0 : ∀ v ∈ l, ¬ (v.1 = 0 ∧ v.2 = 0) := fun v hv hz =>
    (h v hv).ne' (dot2_zero_of_origin n v hz)
  rw [pipEdges_cyc _ _ h0 (fun e he => (contrib_sep n e (hpos e he).1 (hpos e he).2).2),
    wind2_sep l n hpos]
  rfl

theorem vertexSgn_of_x_ne {v : P2} (h : v.1 ≠ 0) : vertexSgn v = sgn v.1 := by
  have : sgn v.1 ≠ 0 := fun h' => h (sgn_eq_zero_iff.mp h')
  simp [vertexSgn, this]

/-- the edge crosses the vertical line BELOW the origin, left to right / right to left -/
def dnLR1 (e : P2 × P2) : Int := if isLR e && decide (0 < cross2 e.1 e.2) then 1 else 0
def dnRL1 (e : P2 × P2) : Int := if isRL e && decide (cross2 e.1 e.2 < 0) then 1 else 0

/-- In generic position an edge is of at most one of four kinds: it crosses the vertical line above
    or below the origin (`u`, `u'` left to right; `w`, `w'` right to left).  The coded contribution
    `c`, the half-plane jump `v` and the straddle indicator `s` are linear in the four indicators.
    The relations are linear, so they hold for the sums over any list of such edges. -/
structure CrossRel (c v s u w u' w' : Int) : Prop where
  wind : c = w - u + u' - w'
  jump : v = 2 * (u + u' - w - w')
  straddle : s = u + w + u' + w'
  nonneg : 0 ≤ u ∧ 0 ≤ w ∧ 0 ≤ u' ∧ 0 ≤ w'

theorem crossRel_iff {c v s u w u' w' : Int} : CrossRel c v s u w u' w' ↔
    c = w - u + u' - w' ∧ v = 2 * (u + u' - w - w') ∧ s = u + w + u' + w' ∧ 0 ≤ u ∧ 0 ≤ w ∧ 0 ≤ u' ∧ 0 ≤ w' :=
  ⟨fun h => ⟨h.wind, h.jump, h.straddle, h.nonneg⟩, fun ⟨h1, h2, h3, h4⟩ => ⟨h1, h2, h3, h4⟩⟩

/-- per edge, in generic position: no end point on the vertical line, not seen edge-on when it
    meets the line -/
theorem edge_generic (e : P2 × P2) (h1 : e.1.1 ≠ 0) (h2 : e.2.1 ≠ 0)
    (hoff : (isLR e || isRL e) = true → cross2 e.1 e.2 ≠ 0) :
    CrossRel (contrib e) (vsDiff e) (straddle1 e) (upLR1 e) (upRL1 e) (dnLR1 e) (dnRL1 e)
    ∧ (active e = true → edgeSgn e ≠ 0) := by
  obtain ⟨a, b⟩ := e
  simp only at h1 h2 hoff
  simp only [crossRel_iff, contrib, active, vsDiff, edgeSgn, vertexSgn_of_x_ne h1, vertexSgn_of_x_ne h2,
    upLR1, upRL1, dnLR1, dnRL1, straddle1, isLR, isRL] at hoff ⊢
  rcases lt_or_gt_of_ne h1 with ha | ha <;> rcases lt_or_gt_of_ne h2 with hb | hb
  · -- both left
    have na : ¬ 0 < a.1 := not_lt.mpr ha.le
    have nb : ¬ 0 < b.1 := not_lt.mpr hb.le
    simp [sgn_neg ha, sgn_neg hb, ha, hb, na, nb]
  · -- left to right
    have na : ¬ 0 < a.1 := not_lt.mpr ha.le
    have nb : ¬ b.1 < 0 := not_lt.mpr hb.le
    have hc := hoff (by simp [ha, hb])
    rcases lt_or_gt_of_ne hc with hcr | hcr
    · have : ¬ 0 < cross2 a b := not_lt.mpr hcr.le
      simp [sgn_neg ha, sgn_pos hb, ha, hb, na, nb, hcr, this, sgn_neg hcr]
    · have : ¬ cross2 a b < 0 := not_lt.mpr hcr.le
      simp [sgn_neg ha, sgn_pos hb, ha, hb, na, nb, hcr, this, sgn_pos hcr]
  · -- right to left
    have na : ¬ a.1 < 0 := not_lt.mpr ha.le
    have nb : ¬ 0 < b.1 := not_lt.mpr hb.le
    have hc := hoff (by simp [ha, hb])
    rcases lt_or_gt_of_ne hc with hcr | hcr
    · have : ¬ 0 < cross2 a b := not_lt.mpr hcr.le
      simp [sgn_pos ha, sgn_neg hb, ha, hb, na, nb, hcr, this, sgn_neg hcr]
    · have : ¬ cross2 a b < 0 := not_lt.mpr hcr.le
      simp [sgn_pos ha, sgn_neg hb, ha, hb, na, nb, hcr, this, sgn_pos hcr]
  · -- both right
    have na : ¬ a.1 < 0 := not_lt.mpr ha.le
    have nb : ¬ b.1 < 0 := not_lt.mpr hb.le
    simp [sgn_pos ha, sgn_pos hb, ha, hb, na, nb]

theorem crossRel_add {c v s u w u' w' c₂ v₂ s₂ u₂ w₂ u₂' w₂' : Int} (h : CrossRel c v s u w u' w')
    (h₂ : CrossRel c₂ v₂ s₂ u₂ w₂ u₂' w₂') :
    CrossRel (c + c₂) (v + v₂) (s + s₂) (u + u₂) (w + w₂) (u' + u₂') (w' + w₂') :=
  ⟨by linear_combination h.wind + h₂.wind, by linear_combination h.jump + h₂.jump,
    by linear_combination h.straddle + h₂.straddle,
    add_nonneg h.nonneg.1 h₂.nonneg.1, add_nonneg h.nonneg.2.1 h₂.nonneg.2.1,
    add_nonneg h.nonneg.2.2.1 h₂.nonneg.2.2.1, add_nonneg h.nonneg.2.2.2 h₂.nonneg.2.2.2⟩

theorem crossRel_sum (es : List (P2 × P2))
    (h : ∀ e ∈ es, CrossRel (contrib e) (vsDiff e) (straddle1 e) (upLR1 e) (upRL1 e) (dnLR1 e) (dnRL1 e)) :
    CrossRel (wind2 es) (isum (es.map vsDiff)) (straddleCount es) (upLR es) (upRL es)
      (isum (es.map dnLR1)) (isum (es.map dnRL1)) := by
  induction es with
  | nil => exact ⟨rfl, rfl, rfl, le_refl _, le_refl _, le_refl _, le_refl _⟩
  | cons a t ih =>
    exact crossRel_add (h a List.mem_cons_self) (ih (fun e he => h e (List.mem_cons_of_mem _ he)))

/-- the classical identity: twice the winding number = twice the signed number of crossings of the
    upward ray; and the vertical line is crossed equally often in both directions, so that half of
    the edges it meets go either way -/
theorem wind2_crossings (l : List P2) (hgen : ∀ v ∈ l, v.1 ≠ 0)
    (hoff : ∀ e ∈ cycPairs l, (isLR e || isRL e) = true → cross2 e.1 e.2 ≠ 0) :
    wind2 (cycPairs l) = 2 * (upRL (cycPairs l) - upLR (cycPairs l))
    ∧ straddleCount (cycPairs l) = 2 * (upLR (cycPairs l) + isum ((cycPairs l).map dnLR1))
    ∧ straddleCount (cycPairs l) = upLR (cycPairs l) + upRL (cycPairs l)
        + isum ((cycPairs l).map dnLR1) + isum ((cycPairs l).map dnRL1)
    ∧ 0 ≤ upLR (cycPairs l) ∧ 0 ≤ upRL (cycPairs l)
    ∧ 0 ≤ isum ((cycPairs l).map dnLR1) ∧ 0 ≤ isum ((cycPairs l).map dnRL1) := by
  have R := crossRel_sum (cycPairs l) (fun e he =>
    (edge_generic e (hgen _ (mem_cycPairs l e he).1) (hgen _ (mem_cycPairs l e he).2) (hoff e he)).1)
  rw [show isum ((cycPairs l).map vsDiff) = 0 from isum_tele_cyc vertexSgn l] at R
  obtain ⟨hw, hj, hs, hn⟩ := R
  -- the jumps cancel around the polygon: as many crossings left to right as right to left
  have hbal : upLR (cycPairs l) + isum ((cycPairs l).map dnLR1)
      = upRL (cycPairs l) + isum ((cycPairs l).map dnRL1) := by omega
  exact ⟨by linear_combination hw + hbal, by linear_combination hs - hbal, hs, hn⟩

theorem pip_core_generic (l : List P2) (d : Bool) (hgen : ∀ v ∈ l, v.1 ≠ 0)
    (hoff : ∀ e ∈ cycPairs l, (isLR e || isRL e) = true → cross2 e.1 e.2 ≠ 0) :
    pipEdges (cycPairs l) d = decide (upRL (cycPairs l) ≠ upLR (cycPairs l)) := by
  have h1 : ∀ e ∈ cycPairs l, active e = true → edgeSgn e ≠ 0 := fun e he =>
    (edge_generic e (hgen _ (mem_cycPairs l e he).1) (hgen _ (mem_cycPairs l e he).2) (hoff e he)).2
  rw [pipEdges_cyc _ _ (fun v hv hz => hgen v hv hz.1) h1]
  have hw := (wind2_crossings l hgen hoff).1
  by_cases hc : upRL (cycPairs l) = upLR (cycPairs l)
  · have : wind2 (cycPairs l) = 0 := by omega
    simp [this, hc]
  · have : wind2 (cycPairs l) ≠ 0 := by omega
    simp [this, hc]

theorem sub2_generic {poly : List P2} {p : P2} (hgen : ∀ v ∈ poly, v.1 ≠ p.1) :
    ∀ v ∈ poly.map (fun v => sub2 v p), v.1 ≠ 0 := by
  intro v hv
  obtain ⟨v', hv', rfl⟩ := List.mem_map.mp hv
  exact sub_ne_zero.mpr (hgen v' hv')

theorem pipKernel_iff (poly : List P2) (p : P2) (s : Rat) :
    pipKernel poly p s = true ↔ ∀ e ∈ cycPairs poly, 0 < s * cross2 (sub2 e.1 p) (sub2 e.2 p) :=
  decide_eq_true_iff

theorem pipGeneric_iff (poly : List P2) (p : P2) :
    pipGeneric poly p = true ↔ (∀ v ∈ poly, v.1 ≠ p.1)
      ∧ ∀ e ∈ edgesFrom poly p, (isLR e || isRL e) = true → cross2 e.1 e.2 ≠ 0 := by
  unfold pipGeneric
  rw [Bool.and_eq_true, decide_eq_true_iff, decide_eq_true_iff]

theorem polyValue_eq_neg_area2 (poly : List P2) : polyValue poly = - area2 poly := by
  unfold polyValue area2
  have hsplit : ∀ e ∈ cycPairs poly, (e.2.2 + e.1.2) * (e.2.1 - e.1.1)
      = (e.2.1 * e.2.2 - e.1.1 * e.1.2) - cross2 e.1 e.2 := by
    intro e _; simp only [cross2]; ring
  rw [List.map_congr_left hsplit, rsum_map_sub, rsum_tele_cyc (fun v : P2 => v.1 * v.2) poly, zero_sub]

end PorepyVerif.C31
