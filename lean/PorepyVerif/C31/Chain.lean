/-
C31 — sort_point_pairs: what `pick` and `walk` return (soundness), the walk along a simple path
(completeness), node counts and the choice of the first line.
-/
import PorepyVerif.C31.Lemmas

namespace PorepyVerif.C31

theorem map_normL_snd_enumFrom' (i : Nat) (l : List Line) :
    (enumFrom' i l).map (fun jl => normL jl.2) = l.map normL := by
  conv => rhs; rw [← map_snd_enumFrom' i l]
  rw [List.map_map]; rfl

theorem getElem?_of_mem_enumFrom' {lines : List Line} {j : Nat} {l : Line}
    (h : (j, l) ∈ enumFrom' 0 lines) : lines[j]? = some l :=
  ((mem_enumFrom' 0 lines j l).mp h).2

theorem pick_spec (prev : Int) (rem : List (Nat × Line)) (r : Placed) (rest : List (Nat × Line))
    (h : pick prev rem = some (r, rest)) :
    r.line.1 = prev ∧ (∃ l, (r.idx, l) ∈ rem ∧ r.line = (if r.flipped then flipL l else l))
      ∧ rem.Perm ((r.idx, if r.flipped then flipL r.line else r.line) :: rest) := by
  induction rem generalizing rest with
  | nil => simp [pick] at h
  | cons a t ih =>
    obtain ⟨j, l⟩ := a
    simp only [pick] at h
    split at h
    · rename_i h1
      cases h
      exact ⟨h1, ⟨l, by simp, by simp⟩, by simp⟩
    · split at h
      · rename_i h1 h2
        cases h
        refine ⟨h2, ⟨l, by simp, by simp⟩, ?_⟩
        simp [flipL]
      · cases hp : pick prev t with
        | none => simp [hp] at h
        | some q =>
          obtain ⟨r', rest'⟩ := q
          simp only [hp, Option.some.injEq, Prod.mk.injEq] at h
          obtain ⟨rfl, rfl⟩ := h
          obtain ⟨a1, ⟨l', hm, hl'⟩, a3⟩ := ih rest' hp
          refine ⟨a1, ⟨l', by simp [hm], hl'⟩, ?_⟩
          exact (List.Perm.cons _ a3).trans (List.Perm.swap _ _ _)

theorem pick_length (prev : Int) (rem : List (Nat × Line)) (r : Placed) (rest : List (Nat × Line))
    (h : pick prev rem = some (r, rest)) : rem.length = rest.length + 1 := by
  have := (pick_spec prev rem r rest h).2.2.length_eq
  simpa using this

theorem walk_nil (n : Nat) (prev : Int) : walk n prev [] = some [] := by cases n <;> rfl

theorem walk_succ {n : Nat} {prev : Int} {rem rest : List (Nat × Line)} {r : Placed}
    (hp : pick prev rem = some (r, rest)) :
    walk (n + 1) prev rem = (walk n r.line.2 rest).map (r :: ·) := by
  cases rem with
  | nil => cases hp
  | cons a t =>
    simp only [walk, hp]
    cases walk n r.line.2 rest <;> rfl

theorem walk_spec (n : Nat) (prev : Int) (rem : List (Nat × Line)) (out : List Placed)
    (h : walk n prev rem = some out) :
    ChainedFrom prev (out.map (·.line))
      ∧ (∀ r ∈ out, ∃ l, (r.idx, l) ∈ rem ∧ r.line = (if r.flipped then flipL l else l))
      ∧ (out.map (·.idx)).Perm (rem.map (·.1)) := by
  induction n generalizing prev rem out with
  | zero =>
    cases rem with
    | nil => cases h; simp [ChainedFrom]
    | cons a t => cases h
  | succ n ih =>
    cases hp : pick prev rem with
    | none =>
      cases rem with
      | nil => rw [walk_nil] at h; cases h; simp [ChainedFrom]
      | cons a t => simp [walk, hp] at h
    | some q =>
      obtain ⟨r, rest⟩ := q
      rw [walk_succ hp] at h
      obtain ⟨out', hw, rfl⟩ := Option.map_eq_some_iff.mp h
      obtain ⟨b1, b2, b3⟩ := ih r.line.2 rest out' hw
      obtain ⟨a1, ⟨l, hm, hl⟩, a3⟩ := pick_spec prev rem r rest hp
      refine ⟨⟨a1, b1⟩, ?_, ?_⟩
      · intro r' hr'
        rcases List.mem_cons.mp hr' with rfl | hr'
        · exact ⟨l, hm, hl⟩
        · obtain ⟨l', hm', hl'⟩ := b2 r' hr'
          exact ⟨l', a3.mem_iff.mpr (List.mem_cons_of_mem _ hm'), hl'⟩
      · exact (List.Perm.cons _ b3).trans (a3.map (fun x : Nat × Line => x.1)).symm

/-- what `sortPointPairs` does once the first line is placed: the walk through the remaining
    columns, then the closing check -/
def finishFrom (first : Placed) (rem : List (Nat × Line)) (check : Bool) : Except Err (List Placed) :=
  match walk rem.length first.line.2 rem with
  | none => .error .assertion
  | some out =>
    if check && (first.line.1 != lastEnd first out) then .error .assertion else .ok (first :: out)

theorem finishFrom_eq_ok (first : Placed) (rem : List (Nat × Line)) (check : Bool) (out : List Placed) :
    finishFrom first rem check = .ok out ↔
      ∃ o, walk rem.length first.line.2 rem = some o
        ∧ (check = true → first.line.1 = lastEnd first o) ∧ out = first :: o := by
  unfold finishFrom
  cases walk rem.length first.line.2 rem with
  | none => simp
  | some o =>
    simp only [Option.some.injEq, exists_eq_left', ite_eq_iff, reduceCtorEq, and_false, false_or,
      Except.ok.injEq, Bool.and_eq_true, bne_iff_ne, not_and, not_not, eq_comm (a := out)]

/-- the first line of the non-circular mode: the selected column, turned so that it starts at its
    node of count one -/
def startPlaced (lines : List Line) (j : Nat) (l : Line) : Placed :=
  if nodeCount l.1 lines > 1 then ⟨j, flipL l, true⟩ else ⟨j, l, false⟩

theorem startPlaced_idx (lines : List Line) (j : Nat) (l : Line) : (startPlaced lines j l).idx = j := by
  unfold startPlaced; split <;> rfl

theorem startPlaced_line (lines : List Line) (j : Nat) (l : Line) :
    (startPlaced lines j l).line = if nodeCount l.1 lines > 1 then flipL l else l := by
  unfold startPlaced; split <;> rfl

theorem startPlaced_fromInput (lines : List Line) (j : Nat) (l : Line) (h : lines[j]? = some l) :
    (startPlaced lines j l).FromInput lines := by
  unfold startPlaced; split <;> exact ⟨l, h, rfl⟩

theorem sortPointPairs_circular (l0 : Line) (t : List Line) (check : Bool) :
    sortPointPairs (l0 :: t) check true = finishFrom ⟨0, l0, false⟩ (enumFrom' 1 t) check := rfl

theorem sortPointPairs_open (lines : List Line) (hne : lines ≠ []) (check : Bool) :
    sortPointPairs lines check false =
      match findEndLine lines (enumFrom' 0 lines) with
      | none => .error .index
      | some (j, l) => finishFrom (startPlaced lines j l) (removeIdx j (enumFrom' 0 lines)) false := by
  cases lines with
  | nil => exact absurd rfl hne
  | cons l0 t =>
    unfold sortPointPairs startPlaced
    simp only [Bool.false_eq_true, if_false]
    cases findEndLine (l0 :: t) (enumFrom' 0 (l0 :: t)) with
    | none => rfl
    | some jl =>
      by_cases hc : nodeCount jl.2.1 (l0 :: t) > 1
      · simp only [hc, if_true]; rfl
      · simp only [hc, if_false]; rfl

theorem walk_from_input (lines : List Line) (first : Placed) (lf : Line) (rem : List (Nat × Line))
    (o : List Placed) (hfirst : first.FromInput lines)
    (hperm : (enumFrom' 0 lines).Perm ((first.idx, lf) :: rem))
    (hw : walk rem.length first.line.2 rem = some o) :
    ((first :: o).map (·.idx)).Perm (List.range lines.length)
      ∧ (∀ r ∈ first :: o, r.FromInput lines) ∧ Chained ((first :: o).map (·.line)) := by
  obtain ⟨b1, b2, b3⟩ := walk_spec _ _ _ _ hw
  refine ⟨?_, ?_, b1⟩
  · rw [List.range_eq_range', ← map_fst_enumFrom']
    exact (List.Perm.cons _ b3).trans (hperm.map (fun x : Nat × Line => x.1)).symm
  · intro r hr
    rcases List.mem_cons.mp hr with rfl | hr
    · exact hfirst
    · obtain ⟨l, hm, hl⟩ := b2 r hr
      exact ⟨l, getElem?_of_mem_enumFrom' (hperm.mem_iff.mpr (List.mem_cons_of_mem _ hm)), hl⟩

theorem findEndLine_spec (all : List Line) (ix : List (Nat × Line)) (j : Nat) (l : Line)
    (h : findEndLine all ix = some (j, l)) :
    (j, l) ∈ ix ∧ (nodeCount l.1 all = 1 ∨ nodeCount l.2 all = 1) := by
  induction ix with
  | nil => simp [findEndLine] at h
  | cons a t ih =>
    obtain ⟨k, m⟩ := a
    simp only [findEndLine] at h
    split at h
    · rename_i hc; cases h; exact ⟨List.mem_cons_self, hc⟩
    · exact ⟨List.mem_cons_of_mem _ (ih h).1, (ih h).2⟩

theorem findEndLine_isSome (all : List Line) (ix : List (Nat × Line))
    (h : ∃ jl ∈ ix, nodeCount jl.2.1 all = 1 ∨ nodeCount jl.2.2 all = 1) :
    ∃ j l, findEndLine all ix = some (j, l) := by
  induction ix with
  | nil => obtain ⟨jl, hm, _⟩ := h; cases hm
  | cons a t ih =>
    obtain ⟨k, m⟩ := a
    simp only [findEndLine]
    by_cases hc : nodeCount m.1 all = 1 ∨ nodeCount m.2 all = 1
    · exact ⟨k, m, by simp [hc]⟩
    · simp only [hc, if_false]
      apply ih
      obtain ⟨jl, hm, hcc⟩ := h
      rcases List.mem_cons.mp hm with rfl | hm
      · exact absurd hcc hc
      · exact ⟨jl, hm, hcc⟩

theorem removeIdx_perm (j : Nat) (l : Line) (ix : List (Nat × Line)) (hm : (j, l) ∈ ix)
    (hnd : (ix.map (·.1)).Nodup) : ix.Perm ((j, l) :: removeIdx j ix) := by
  induction ix with
  | nil => cases hm
  | cons a t ih =>
    obtain ⟨k, m⟩ := a
    simp only [List.map_cons, List.nodup_cons] at hnd
    simp only [removeIdx]
    by_cases hk : k = j
    · subst hk
      simp only [if_true]
      rcases List.mem_cons.mp hm with h | h
      · cases h; exact List.Perm.refl _
      · exact absurd (List.mem_map.mpr ⟨(k, l), h, rfl⟩) hnd.1
    · simp only [hk, if_false]
      rcases List.mem_cons.mp hm with h | h
      · cases h; exact absurd rfl hk
      · exact (List.Perm.cons _ (ih h hnd.2)).trans (List.Perm.swap _ _ _)

theorem removeIdx_enumFrom'_perm (lines : List Line) (j : Nat) (l : Line) (hm : (j, l) ∈ enumFrom' 0 lines) :
    (enumFrom' 0 lines).Perm ((j, l) :: removeIdx j (enumFrom' 0 lines)) :=
  removeIdx_perm j l _ hm (by rw [map_fst_enumFrom']; exact List.nodup_range')

theorem exists_cons_cons_of_two_le {α : Type} {l : List α} (h : 2 ≤ l.length) :
    ∃ a b t, l = a :: b :: t := by
  match l, h with
  | a :: b :: t, _ => exact ⟨a, b, t, rfl⟩

theorem normL_flip (l : Line) : normL (flipL l) = normL l := by
  obtain ⟨x, y⟩ := l
  simp only [normL, flipL]
  by_cases h1 : x ≤ y <;> by_cases h2 : y ≤ x <;> simp [h1, h2] <;> omega

theorem normL_eq (l l' : Line) (h : normL l = normL l') : l = l' ∨ l = flipL l' := by
  obtain ⟨x, y⟩ := l; obtain ⟨x', y'⟩ := l'
  simp only [normL, flipL] at h ⊢
  by_cases h1 : x ≤ y <;> by_cases h2 : x' ≤ y' <;> simp [h1, h2] at h <;> simp [h.1, h.2]

/-- the lines of a path are the consecutive pairs of its nodes -/
theorem pathLines_cons (a : Int) (l : List Int) : pathLines (a :: l) = pairsFrom a l := by
  induction l generalizing a with
  | nil => rfl
  | cons b t ih => simp only [pathLines, pairsFrom, ih]

/-- in a path with distinct nodes only the first line touches the first node -/
theorem normL_eq_head_of_touch (a b : Int) (t : List Int) (ha : a ∉ b :: t) (f : Line)
    (hf : normL f ∈ (pairsFrom a (b :: t)).map normL) (hc : f.1 = a ∨ f.2 = a) :
    normL f = normL (a, b) := by
  obtain ⟨e, he, hne⟩ := List.mem_map.mp hf
  rcases List.mem_cons.mp he with rfl | he
  · exact hne.symm
  · exfalso
    have hmem := mem_pairsFrom b t e he
    have hend : e.1 = a ∨ e.2 = a := by
      rcases normL_eq _ _ hne.symm with rfl | rfl
      · exact hc
      · exact hc.symm
    rcases hend with h | h
    · exact ha (h ▸ hmem.1)
    · exact ha (h ▸ List.mem_cons_of_mem _ hmem.2)

theorem line_eq_of_normL_eq (f : Line) (a b : Int) (h : normL f = normL (a, b)) (h1 : f.1 = a)
    (hab : a ≠ b) : f = (a, b) := by
  rcases normL_eq _ _ h with h | h
  · exact h
  · rw [h] at h1; exact absurd h1.symm hab

/-- if all candidates touching `prev` are copies of the unordered pair `k` and there is one, `pick`
    finds it, oriented away from `prev`, and removes exactly one copy of `k` -/
theorem pick_of_unique (prev : Int) (k : Line) (rem : List (Nat × Line))
    (hall : ∀ jl ∈ rem, (jl.2.1 = prev ∨ jl.2.2 = prev) → normL jl.2 = k)
    (hex : ∃ jl ∈ rem, jl.2.1 = prev ∨ jl.2.2 = prev) :
    ∃ r rest, pick prev rem = some (r, rest) ∧ r.line.1 = prev ∧ normL r.line = k
      ∧ (rem.map (fun jl => normL jl.2)).Perm (k :: rest.map (fun jl => normL jl.2)) := by
  induction rem with
  | nil => obtain ⟨jl, hm, _⟩ := hex; cases hm
  | cons a t ih =>
    obtain ⟨j, l⟩ := a
    simp only [pick]
    by_cases h1 : l.1 = prev
    · refine ⟨⟨j, l, false⟩, t, by simp [h1], h1, hall (j, l) (by simp) (Or.inl h1), ?_⟩
      simp only [List.map_cons]
      rw [hall (j, l) (by simp) (Or.inl h1)]
    · by_cases h2 : l.2 = prev
      · refine ⟨⟨j, flipL l, true⟩, t, by simp [h1, h2], by simp [flipL, h2], ?_, ?_⟩
        · rw [normL_flip]; exact hall (j, l) (by simp) (Or.inr h2)
        · simp only [List.map_cons]
          rw [hall (j, l) (by simp) (Or.inr h2)]
      · have hex' : ∃ jl ∈ t, jl.2.1 = prev ∨ jl.2.2 = prev := by
          obtain ⟨jl, hm, hc⟩ := hex
          rcases List.mem_cons.mp hm with rfl | hm
          · simp only at hc; tauto
          · exact ⟨jl, hm, hc⟩
        obtain ⟨r, rest, hp, hr1, hr2, hperm⟩ := ih (fun jl hm => hall jl (List.mem_cons_of_mem _ hm)) hex'
        refine ⟨r, (j, l) :: rest, by simp [h1, h2, hp], hr1, hr2, ?_⟩
        simp only [List.map_cons]
        exact (List.Perm.cons _ hperm).trans (List.Perm.swap _ _ _)

theorem pick_path (a b : Int) (t : List Int) (rem : List (Nat × Line)) (hab : a ≠ b) (ha : a ∉ b :: t)
    (hperm : (rem.map (fun jl => normL jl.2)).Perm ((pairsFrom a (b :: t)).map normL)) :
    ∃ r rest, pick a rem = some (r, rest) ∧ r.line = (a, b)
      ∧ (rest.map (fun jl => normL jl.2)).Perm ((pairsFrom b t).map normL) := by
  have hall : ∀ jl ∈ rem, (jl.2.1 = a ∨ jl.2.2 = a) → normL jl.2 = normL (a, b) := fun jl hm hc =>
    normL_eq_head_of_touch a b t ha jl.2 (hperm.mem_iff.mp (List.mem_map.mpr ⟨jl, hm, rfl⟩)) hc
  have hex : ∃ jl ∈ rem, jl.2.1 = a ∨ jl.2.2 = a := by
    obtain ⟨jl, hm, hne⟩ := List.mem_map.mp (hperm.mem_iff.mpr List.mem_cons_self)
    refine ⟨jl, hm, ?_⟩
    rcases normL_eq _ _ hne with h | h
    · left; rw [h]
    · right; rw [h]; rfl
  obtain ⟨r, rest, hp, hr1, hr2, hperm'⟩ := pick_of_unique a (normL (a, b)) rem hall hex
  exact ⟨r, rest, hp, line_eq_of_normL_eq _ a b hr2 hr1 hab,
    (List.Perm.cons_inv (hperm.symm.trans hperm')).symm⟩

/-- the walk along a simple path: the candidates are, as unordered pairs, the lines of the path
    from `a` through distinct `nodes`, and there is enough fuel -/
theorem walk_path (nodes : List Int) (a : Int) (rem : List (Nat × Line)) (n : Nat)
    (hnd : (a :: nodes).Nodup) (hn : rem.length ≤ n)
    (hperm : (rem.map (fun jl => normL jl.2)).Perm ((pairsFrom a nodes).map normL)) :
    ∃ out, walk n a rem = some out ∧ out.map (·.line) = pairsFrom a nodes := by
  induction nodes generalizing a rem n with
  | nil =>
    rw [List.map_eq_nil_iff.mp hperm.eq_nil]
    exact ⟨[], walk_nil n a, rfl⟩
  | cons b t ih =>
    have ha : a ∉ b :: t := (List.nodup_cons.mp hnd).1
    obtain ⟨r, rest, hp, hr, hperm'⟩ :=
      pick_path a b t rem (fun e => ha (e ▸ List.mem_cons_self)) ha hperm
    have hlen := pick_length _ _ _ _ hp
    cases n with
    | zero => omega
    | succ n' =>
      obtain ⟨out', hw, hout'⟩ := ih b rest n' (List.nodup_cons.mp hnd).2 (by omega) hperm'
      refine ⟨r :: out', ?_, by rw [List.map_cons, hr, hout']; rfl⟩
      rw [walk_succ hp, hr, hw]
      rfl

theorem lastEnd_eq (first : Placed) (out : List Placed) :
    lastEnd first out = (((out.map (·.line)).map (·.2)).getLast?).getD first.line.2 := by
  rw [List.map_map, List.getLast?_map]
  exact (Option.getD_map (fun r : Placed => r.line.2) first out.getLast?).symm

theorem nodeCount_eq_countP (v : Int) (ls : List Line) :
    nodeCount v ls = ls.countP (fun l => l.1 = v) + ls.countP (fun l => l.2 = v) := by
  induction ls with
  | nil => rfl
  | cons a t ih =>
    rw [nodeCount, ih, List.countP_cons, List.countP_cons]
    simp only [decide_eq_true_eq]
    omega

theorem nodeCount_normL (v : Int) (l : List Line) : nodeCount v (l.map normL) = nodeCount v l := by
  induction l with
  | nil => rfl
  | cons a t ih =>
    obtain ⟨x, y⟩ := a
    simp only [List.map_cons, nodeCount, ih, normL]
    by_cases h : x ≤ y <;> simp [h] <;> omega

theorem nodeCount_perm (v : Int) (l l' : List Line) (h : l.Perm l') : nodeCount v l = nodeCount v l' := by
  rw [nodeCount_eq_countP, nodeCount_eq_countP, h.countP_eq, h.countP_eq]

theorem nodeCount_pos_of_mem (l : Line) (ls : List Line) (h : l ∈ ls) :
    1 ≤ nodeCount l.1 ls ∧ 1 ≤ nodeCount l.2 ls := by
  have h1 : 0 < ls.countP (fun m => m.1 = l.1) := List.countP_pos_iff.mpr ⟨l, h, by simp⟩
  have h2 : 0 < ls.countP (fun m => m.2 = l.2) := List.countP_pos_iff.mpr ⟨l, h, by simp⟩
  rw [nodeCount_eq_countP, nodeCount_eq_countP]
  omega

/-- the lines of a path count every occurrence of `v` among its nodes twice, except at the two ends -/
theorem nodeCount_pairsFrom (v a : Int) (l : List Int) :
    nodeCount v (pairsFrom a l) + (if a = v then 1 else 0) + (if l.getLast?.getD a = v then 1 else 0)
      = 2 * (a :: l).count v := by
  induction l generalizing a with
  | nil => by_cases h : a = v <;> simp [pairsFrom, nodeCount, h]
  | cons b t ih =>
    have := ih b
    simp only [pairsFrom, nodeCount, List.getLast?_cons, Option.getD_some, List.count_cons, beq_iff_eq]
      at this ⊢
    omega

theorem nodeCount_path_eq_one (v : Int) (nodes : List Int) (h : nodeCount v (pathLines nodes) = 1) :
    nodes.head? = some v ∨ nodes.getLast? = some v := by
  cases nodes with
  | nil => cases h
  | cons a l =>
    have := nodeCount_pairsFrom v a l
    rw [pathLines_cons] at h
    rw [List.head?_cons, List.getLast?_cons, Option.some.injEq, Option.some.injEq]
    -- an odd count: `v` is at an end
    by_contra hc
    rw [not_or] at hc
    rw [h, if_neg hc.1, if_neg hc.2] at this
    omega

theorem pathLines_append_singleton (l : List Int) (a b : Int) :
    pathLines (l ++ [a, b]) = pathLines (l ++ [a]) ++ [(a, b)] := by
  induction l with
  | nil => simp [pathLines]
  | cons x t ih =>
    cases t with
    | nil => simp [pathLines]
    | cons y t' =>
      have := ih
      simp only [List.cons_append, pathLines] at this ⊢
      rw [this]

theorem pathLines_reverse (l : List Int) :
    pathLines l.reverse = ((pathLines l).map flipL).reverse := by
  induction l with
  | nil => simp [pathLines]
  | cons a t ih =>
    cases t with
    | nil => simp [pathLines]
    | cons b t' =>
      simp only [List.reverse_cons, List.append_assoc, List.singleton_append] at ih ⊢
      rw [pathLines_append_singleton, ih]
      simp [pathLines, flipL]

theorem pathLines_reverse_norm (l : List Int) :
    ((pathLines l.reverse).map normL).Perm ((pathLines l).map normL) := by
  rw [pathLines_reverse, List.map_reverse, List.map_map]
  have : (normL ∘ flipL) = normL := by funext x; exact normL_flip x
  rw [this]
  exact List.reverse_perm _

theorem nodeCount_zero_of_not_mem (v : Int) (nodes : List Int) (h : v ∉ nodes) :
    nodeCount v (pathLines nodes) = 0 := by
  cases nodes with
  | nil => rfl
  | cons a l =>
    have := nodeCount_pairsFrom v a l
    rw [List.count_eq_zero_of_not_mem h] at this
    rw [pathLines_cons]
    omega

/-- oriented completeness: if the selected first column, oriented as coded, starts at the head of
    the path, the path is returned -/
theorem sort_chain_from (nodes : List Int) (lines : List Line) (check : Bool)
    (hnd : nodes.Nodup) (hlen : 2 ≤ nodes.length)
    (hperm : (lines.map normL).Perm ((pathLines nodes).map normL))
    (j : Nat) (l : Line) (hf : findEndLine lines (enumFrom' 0 lines) = some (j, l))
    (hstart : nodes.head? = some (if nodeCount l.1 lines > 1 then flipL l else l).1) :
    ∃ out, sortPointPairs lines check false = .ok out ∧ out.map (·.line) = pathLines nodes := by
  obtain ⟨a0, a1, t, rfl⟩ := exists_cons_cons_of_two_le hlen
  rw [pathLines_cons] at hperm ⊢
  rw [← startPlaced_line] at hstart
  have hstart := (Option.some.inj hstart).symm
  have ha0 : a0 ∉ a1 :: t := (List.nodup_cons.mp hnd).1
  have hm := (findEndLine_spec _ _ _ _ hf).1
  have hl : l ∈ lines := List.mem_of_getElem? (getElem?_of_mem_enumFrom' hm)
  -- the oriented first line is (a0, a1)
  have hfl : normL (startPlaced lines j l).line = normL l := by
    rw [startPlaced_line]; split
    · exact normL_flip l
    · rfl
  have hfe : (startPlaced lines j l).line = (a0, a1) :=
    line_eq_of_normL_eq _ a0 a1 (normL_eq_head_of_touch a0 a1 t ha0 _
      (by rw [hfl]; exact hperm.mem_iff.mp (List.mem_map.mpr ⟨l, hl, rfl⟩)) (Or.inl hstart)) hstart
      (fun e => ha0 (e ▸ List.mem_cons_self))
  -- the remaining columns are the rest of the path
  have hrem : ((removeIdx j (enumFrom' 0 lines)).map (fun jl => normL jl.2)).Perm
      ((pairsFrom a1 t).map normL) := by
    have h2 := (removeIdx_enumFrom'_perm lines j l hm).map (fun jl => normL jl.2)
    rw [map_normL_snd_enumFrom', List.map_cons, ← hfl, hfe] at h2
    exact List.Perm.cons_inv (h2.symm.trans hperm)
  obtain ⟨out, hw, hout⟩ := walk_path t a1 (removeIdx j (enumFrom' 0 lines))
    (removeIdx j (enumFrom' 0 lines)).length (List.nodup_cons.mp hnd).2 (le_refl _) hrem
  refine ⟨startPlaced lines j l :: out, ?_, by rw [List.map_cons, hfe, hout]; rfl⟩
  rw [sortPointPairs_open lines (List.ne_nil_of_mem hl), hf]
  exact (finishFrom_eq_ok _ _ _ _).mpr ⟨out, by rw [hfe]; exact hw, by simp, rfl⟩

end PorepyVerif.C31
