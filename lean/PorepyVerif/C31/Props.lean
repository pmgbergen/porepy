/-
C31 — property theorems (statements only depend on Model.lean; helper lemmas in Lemmas.lean and the
topic modules Polygon, Space, Chain, Argsort).

Property: point-in-polygon, point-in-polyhedron, half-space, counter-clockwise, planarity and
collinearity predicates return the same answer as exact arithmetic for inputs away from the
tolerance band, and point-sorting helpers return chains or orderings that are valid for their input.

Proved here, for ALL inputs satisfying the stated hypotheses:
  ccw_eq_exact_outside_band, ccw_int_exact, ccw_in_band_default   is_ccw_polyline
  ccw_polygon_iff_area_pos                                        is_ccw_polygon = sign of the shoelace area
  point_in_polygon_kernel_inside / _separated_outside /
  point_in_convex_polygon_outside / _spec                         point_in_polygon (winding test), convex case
  point_in_polygon_eq_signed_crossings / _crossing_odd /
  point_in_polygon_crossing_parity_spec, pip_proved_answer_sound  any polygon, generic position: winding sum =
                                                                  signed crossing number of the upward ray; = even-odd
                                                                  rule when the vertical line meets <= 2 edges
  collinear_spec, planar_exact, planar_spec                       integer inputs: coded True ⇔ exact zero
  collinear_proved_answer_sound / planar_proved_answer_sound      the same with the hypotheses as decidable input
                                                                  conditions evaluated by the driver per case
  half_space_spec                                                 the counting loop = ∀ planes
  sort_point_pairs_chain                                          whatever is returned is a valid chain
  sort_point_pairs_cycle_complete / _chain_complete               simple cycles / simple open chains are never rejected
  sort_points_on_line_perm / _monotone                            permutation; monotone in the line parameter
  sort_point_plane_xy_perm / _sorted, ang_sorted_clockwise        planes z = const: permutation, ordered by the exact
                                                                  arctan2 comparison = clockwise about the centre

Not proved (correspondence + exact rational oracle only): that a SIMPLE polygon has signed crossing
number in {-1, 0, 1} (needed for point_in_polygon when the vertical line meets >= 4 edges) and the
non-generic positions (vertex exactly above/below the point); point_in_cell; polygon_hanging_nodes; compute_normal
(points_are_planar is proved for a GIVEN normal only: `planarWithNormal`); point_in_polyhedron /
PointInPolyhedron (solid angles: arctan2); half_space_interior_point (LP); sort_point_plane in planes other than z = const
(rotation by an irrational matrix before arctan2); sort_triangle_edges; sort_multiple_point_pairs; the rotation
inside sort_points_on_line (modelled as the dot product with the tangent it aligns with e_z).
-/
import PorepyVerif.C31.Polygon
import PorepyVerif.C31.Space
import PorepyVerif.C31.Chain
import PorepyVerif.C31.Argsort

namespace PorepyVerif.C31

/-- Outside the tolerance band the coded answer is the exact orientation (for every `default`). -/
theorem ccw_eq_exact_outside_band (p1 p2 p3 : P2) (tol : Rat) (d : Bool)
    (htol : 0 ≤ tol) (hband : tol < absR (det3 p1 p2 p3)) :
    isCcwPolyline p1 p2 p3 tol d = decide (0 < det3 p1 p2 p3) := by
  unfold isCcwPolyline
  rw [absR_eq_abs] at hband
  generalize det3 p1 p2 p3 = c at hband ⊢
  dsimp only
  rcases lt_abs.mp hband with hc | hc
  · rw [if_pos hc, decide_eq_true (htol.trans_lt hc)]
  · have hlt : c < -tol := lt_neg.mp hc
    have hneg : c < 0 := hlt.trans_le (neg_nonpos.mpr htol)
    rw [if_neg (not_lt.mpr (hneg.le.trans htol)), if_pos hlt, decide_eq_false (not_lt.mpr hneg.le)]

/-- Inside the band (`|det| ≤ tol`) the answer is `default`. -/
theorem ccw_in_band_default (p1 p2 p3 : P2) (tol : Rat) (d : Bool)
    (hband : absR (det3 p1 p2 p3) ≤ tol) : isCcwPolyline p1 p2 p3 tol d = d := by
  unfold isCcwPolyline
  generalize det3 p1 p2 p3 = c at hband ⊢
  dsimp only
  have hb := abs_le.mp (absR_eq_abs c ▸ hband)
  rw [if_neg (not_lt.mpr hb.2), if_neg (not_lt.mpr hb.1), if_pos hband]

/-- Integer coordinates: a non-zero determinant has modulus ≥ 1, so every tolerance below 1 is
    outside the band and the coded answer is the exact orientation. -/
theorem ccw_int_exact (p1 p2 p3 : P2) (tol : Rat) (d : Bool)
    (h1 : IsInt2 p1) (h2 : IsInt2 p2) (h3 : IsInt2 p3)
    (htol : 0 ≤ tol) (htol1 : tol < 1) (hne : det3 p1 p2 p3 ≠ 0) :
    isCcwPolyline p1 p2 p3 tol d = decide (0 < det3 p1 p2 p3) := by
  have hint : IsInt (det3 p1 p2 p3) :=
    ((h2.1.sub h1.1).mul (h3.2.sub h1.2)).sub ((h2.2.sub h1.2).mul (h3.1.sub h1.1))
  exact ccw_eq_exact_outside_band _ _ _ _ _ htol (htol1.trans_le (absR_ge_one_of_int hint hne))

example : isCcwPolyline (0, 0) (1, 1) (1, 3) (1 / 2) false = true := by decide +kernel
example : isCcwPolyline (0, 0) (1, 1) (2, 2) (1 / 2) false = false ∧
    isCcwPolyline (0, 0) (1, 1) (2, 2) (1 / 2) true = true := by decide +kernel

/-- The trapezoid sum of the code is minus twice the shoelace area: the answer is the sign of the
    signed area. -/
theorem ccw_polygon_iff_area_pos (poly : List P2) : isCcwPolygon poly = decide (0 < area2 poly) := by
  unfold isCcwPolygon
  rw [polyValue_eq_neg_area2]
  exact decide_eq_decide.mpr neg_lt_zero

example : isCcwPolygon [(0, 0), (2, 0), (2, 1), (1, 1), (1, 2), (0, 2)] = true ∧
    isCcwPolygon [(0, 2), (1, 2), (1, 1), (2, 1), (2, 0), (0, 0)] = false := by decide +kernel

/-- Kernel points: if every edge is seen counter-clockwise from `p` (`s > 0`; `s < 0`: every edge
    clockwise, polygon given clockwise), the winding test answers True.  For a convex polygon these
    are exactly its interior points. -/
theorem point_in_polygon_kernel_inside (poly : List P2) (p : P2) (d : Bool) (hne : poly ≠ [])
    (s : Rat)
    (h : ∀ e ∈ cycPairs poly, 0 < s * cross2 (sub2 e.1 p) (sub2 e.2 p)) :
    pointInPolygon poly p d = true := by
  unfold pointInPolygon
  apply pip_core_inside _ (by simpa using hne) s
  rw [cycPairs_map]
  intro e he
  obtain ⟨e', he', rfl⟩ := List.mem_map.mp he
  exact h e' he'

/-- Separated points: if some line through `p` has the whole polygon strictly on one side, the
    winding test answers False (any polygon, convex or not, any `default`). -/
theorem point_in_polygon_separated_outside (poly : List P2) (p n : P2) (d : Bool)
    (h : ∀ v ∈ poly, 0 < dot2 n (sub2 v p)) : pointInPolygon poly p d = false := by
  unfold pointInPolygon
  apply pip_core_outside _ n
  intro v hv
  obtain ⟨v', hv', rfl⟩ := List.mem_map.mp hv
  exact h v' hv'

/-- Convex counter-clockwise polygon (every vertex on the closed left of every edge line): a point
    strictly on the right of SOME edge line is reported outside — also when it lies on the
    extension of another edge. -/
theorem point_in_convex_polygon_outside (poly : List P2) (p : P2) (d : Bool)
    (hconv : ∀ e ∈ cycPairs poly, ∀ v ∈ poly, 0 ≤ cross2 (sub2 e.2 e.1) (sub2 v e.1))
    (e : P2 × P2) (he : e ∈ cycPairs poly) (hneg : cross2 (sub2 e.1 p) (sub2 e.2 p) < 0) :
    pointInPolygon poly p d = false := by
  -- the polygon is strictly on the left of the line through p parallel to the edge e
  apply point_in_polygon_separated_outside poly p (-(e.2.2 - e.1.2), e.2.1 - e.1.1) d
  intro v hv
  have hc := hconv e he v hv
  simp only [dot2, cross2, sub2] at hc hneg ⊢
  linarith

/-- Convex counter-clockwise polygon, `p` on no edge line: the coded answer is the exact one,
    "strictly left of every edge". -/
theorem point_in_convex_polygon_spec (poly : List P2) (p : P2) (d : Bool) (hne : poly ≠ [])
    (hconv : ∀ e ∈ cycPairs poly, ∀ v ∈ poly, 0 ≤ cross2 (sub2 e.2 e.1) (sub2 v e.1))
    (hoff : ∀ e ∈ cycPairs poly, cross2 (sub2 e.1 p) (sub2 e.2 p) ≠ 0) :
    pointInPolygon poly p d = decide (∀ e ∈ cycPairs poly, 0 < cross2 (sub2 e.1 p) (sub2 e.2 p)) := by
  by_cases hall : ∀ e ∈ cycPairs poly, 0 < cross2 (sub2 e.1 p) (sub2 e.2 p)
  · rw [point_in_polygon_kernel_inside poly p d hne 1 (fun e he => by rw [one_mul]; exact hall e he),
      decide_eq_true hall]
  · obtain ⟨e, hne'⟩ := not_forall.mp hall
    obtain ⟨he, hlt⟩ := Classical.not_imp.mp hne'
    rw [point_in_convex_polygon_outside poly p d hconv e he
      (lt_of_le_of_ne (not_lt.mp hlt) (hoff e he)), decide_eq_false hall]

example : pointInPolygon [(0, 0), (4, 0), (4, 3), (0, 3)] (1, 1) false = true ∧
    pointInPolygon [(0, 0), (4, 0), (4, 3), (0, 3)] (5, 1) true = false ∧
    pointInPolygon [(0, 0), (4, 0), (4, 3), (0, 3)] (4, 1) true = true := by decide +kernel

/-- the regression case of the repaired defect: inside the L, on the extension of an edge -/
example : pointInPolygon [(0, 0), (2, 0), (2, 1), (1, 1), (1, 2), (0, 2)] (1 / 2, 1) false = true := by
  decide +kernel

/-- Generic position (no vertex on the vertical line through `p`, `p` on no edge that meets this
    line): for EVERY closed polygon — convex or not, simple or not — the coded answer is
    "the signed number of crossings of the upward vertical ray from `p` (right-to-left minus
    left-to-right) is not zero", i.e. the winding-number sum of the code is the classical signed
    crossing number. -/
theorem point_in_polygon_eq_signed_crossings (poly : List P2) (p : P2) (d : Bool)
    (hgen : ∀ v ∈ poly, v.1 ≠ p.1)
    (hoff : ∀ e ∈ edgesFrom poly p, (isLR e || isRL e) = true → cross2 e.1 e.2 ≠ 0) :
    pointInPolygon poly p d = decide (upRL (edgesFrom poly p) ≠ upLR (edgesFrom poly p)) := by
  exact pip_core_generic _ d (sub2_generic hgen) hoff

/-- … hence an ODD crossing number of the upward ray (the exact even–odd rule) implies True. -/
theorem point_in_polygon_crossing_odd (poly : List P2) (p : P2) (d : Bool)
    (hgen : ∀ v ∈ poly, v.1 ≠ p.1)
    (hoff : ∀ e ∈ edgesFrom poly p, (isLR e || isRL e) = true → cross2 e.1 e.2 ≠ 0)
    (hodd : (upLR (edgesFrom poly p) + upRL (edgesFrom poly p)) % 2 = 1) :
    pointInPolygon poly p d = true := by
  rw [point_in_polygon_eq_signed_crossings poly p d hgen hoff]
  have : upRL (edgesFrom poly p) ≠ upLR (edgesFrom poly p) := by intro h; rw [h] at hodd; omega
  simp [this]

/-- … and when the vertical line through `p` meets at most two edges (every `p` for an x-monotone
    polygon, in particular a convex one; many `p` for other polygons) the coded answer IS the exact
    even–odd rule: True iff the upward ray crosses the boundary an odd number of times. -/
theorem point_in_polygon_crossing_parity_spec (poly : List P2) (p : P2) (d : Bool)
    (hgen : ∀ v ∈ poly, v.1 ≠ p.1)
    (hoff : ∀ e ∈ edgesFrom poly p, (isLR e || isRL e) = true → cross2 e.1 e.2 ≠ 0)
    (htwo : straddleCount (edgesFrom poly p) ≤ 2) :
    pointInPolygon poly p d = decide ((upLR (edgesFrom poly p) + upRL (edgesFrom poly p)) % 2 = 1) := by
  rw [point_in_polygon_eq_signed_crossings poly p d hgen hoff]
  obtain ⟨-, h2, h3, n1, n2, n3, n4⟩ :=
    wind2_crossings (poly.map (fun v => sub2 v p)) (sub2_generic hgen) hoff
  unfold edgesFrom at htwo ⊢
  -- at most two edges met, half of them in either direction: at most one upward crossing in either
  generalize upLR (cycPairs (poly.map (fun v => sub2 v p))) = u at *
  generalize upRL (cycPairs (poly.map (fun v => sub2 v p))) = w at *
  have hu : u = 0 ∨ u = 1 := by omega
  have hw : w = 0 ∨ w = 1 := by omega
  rcases hu with rfl | rfl <;> rcases hw with rfl | rfl <;> rfl

/-- L-shaped polygon, `p = (1/2, 1)` on the extension of an edge: 2 edges met, one crossing above -/
example : straddleCount (edgesFrom [(0, 0), (2, 0), (2, 1), (1, 1), (1, 2), (0, 2)] (1 / 2, 1)) = 2 ∧
    upLR (edgesFrom [(0, 0), (2, 0), (2, 1), (1, 1), (1, 2), (0, 2)] (1 / 2, 1))
      + upRL (edgesFrom [(0, 0), (2, 0), (2, 1), (1, 1), (1, 2), (0, 2)] (1 / 2, 1)) = 1 := by decide +kernel

/-- C-shaped polygon, `p = (1, 1/2)` inside the lower arm: 4 edges met (not covered by the parity
    theorem), 3 crossings above: covered by `point_in_polygon_crossing_odd` -/
example : straddleCount (edgesFrom [(0, 0), (4, 0), (4, 4), (0, 4), (0, 3), (3, 3), (3, 1), (0, 1)] (1, 1 / 2)) = 4 ∧
    upLR (edgesFrom [(0, 0), (4, 0), (4, 4), (0, 4), (0, 3), (3, 3), (3, 1), (0, 1)] (1, 1 / 2))
      + upRL (edgesFrom [(0, 0), (4, 0), (4, 4), (0, 4), (0, 3), (3, 3), (3, 1), (0, 1)] (1, 1 / 2)) = 3 := by
  decide +kernel

/-- Soundness of the driver's theorem-backed answer: whenever `pipProvedAnswer` (a decidable
    function of the input, evaluated by the driver on every case) returns `some b`, the coded
    `point_in_polygon` returns `b`, for every `default`.  The hypotheses of the point_in_polygon
    theorems above thereby become input conditions that are checked, not assumed. -/
theorem pip_proved_answer_sound (poly : List P2) (p : P2) (d b : Bool)
    (h : pipProvedAnswer poly p = some b) : pointInPolygon poly p d = b := by
  unfold pipProvedAnswer at h
  obtain ⟨hne, h⟩ := Option.ite_none_left_eq_some.mp h
  have hne' : poly ≠ [] := fun e => hne (by rw [e]; rfl)
  rcases ite_eq_iff.mp h with ⟨hk, hb⟩ | ⟨_, h⟩
  · cases hb
    rcases Bool.or_eq_true_iff.mp hk with hk | hk
    · exact point_in_polygon_kernel_inside poly p d hne' 1 ((pipKernel_iff _ _ _).mp hk)
    · exact point_in_polygon_kernel_inside poly p d hne' (-1) ((pipKernel_iff _ _ _).mp hk)
  rcases ite_eq_iff.mp h with ⟨hg, hb⟩ | ⟨_, h⟩
  · cases hb
    obtain ⟨hg, htwo⟩ := Bool.and_eq_true_iff.mp hg
    obtain ⟨hgen, hoff⟩ := (pipGeneric_iff _ _).mp hg
    exact point_in_polygon_crossing_parity_spec poly p d hgen hoff (of_decide_eq_true htwo)
  rcases ite_eq_iff.mp h with ⟨hg, hb⟩ | ⟨_, h⟩
  · cases hb
    obtain ⟨hg, hodd⟩ := Bool.and_eq_true_iff.mp hg
    obtain ⟨hgen, hoff⟩ := (pipGeneric_iff _ _).mp hg
    exact point_in_polygon_crossing_odd poly p d hgen hoff (of_decide_eq_true hodd)
  obtain ⟨hg, hb⟩ := Option.ite_none_right_eq_some.mp h
  cases hb
  obtain ⟨hconv, hany⟩ := Bool.and_eq_true_iff.mp hg
  obtain ⟨e, he, hneg⟩ := List.any_eq_true.mp hany
  exact point_in_convex_polygon_outside poly p d (of_decide_eq_true hconv) e he (of_decide_eq_true hneg)

example : pipProvedAnswer [(0, 0), (2, 0), (2, 1), (1, 1), (1, 2), (0, 2)] (1 / 2, 1) = some true ∧
    pipProvedAnswer [(0, 0), (2, 0), (2, 1), (1, 1), (1, 2), (0, 2)] (3 / 2, 3 / 2) = some false ∧
    pipProvedAnswer [(0, 0), (2, 0), (2, 1), (1, 1), (1, 2), (0, 2)] (1, 3 / 2) = none := by decide +kernel

/-- Integer points, tolerance below the reciprocal of the largest distance (`tol²·dist² < 1`, so that a
    non-zero integer cross product exceeds the band): the coded answer is True exactly if all
    points are on one line (all difference vectors from the first point are pairwise parallel). -/
theorem collinear_spec (p0 : P3) (rest : List P3) (tol : Rat)
    (hint : ∀ p ∈ p0 :: rest, IsInt3 p) (htol : 0 ≤ tol)
    (hband : tol * tol * maxPairSq (p0 :: rest) 1 < 1) :
    pointsAreCollinear (p0 :: rest) tol = true
      ↔ ∀ p ∈ p0 :: rest, ∀ q ∈ p0 :: rest, cross3 (sub3 p p0) (sub3 q p0) = (0, 0, 0) := by
  match rest, hint, hband with
  | [], _, _ =>
    simp only [pointsAreCollinear, List.mem_singleton, forall_eq, true_iff]
    exact cross3_sub_self_left _ _
  | [p1], _, _ =>
    simp only [pointsAreCollinear, List.mem_cons, List.not_mem_nil, or_false, forall_eq_or_imp, forall_eq,
      true_iff]
    exact ⟨⟨cross3_sub_self_left _ _, cross3_sub_self_left _ _⟩, cross3_sub_self_right _ _, cross3_self _⟩
  | p1 :: p2 :: t, hint, hband =>
    obtain ⟨pm, hpm⟩ := argmaxFirst_isSome (fun q => nsq3 (sub3 q p0)) (p0 :: p1 :: p2 :: t)
      (List.cons_ne_nil _ _)
    rw [pointsAreCollinear_three p0 p1 p2 t tol pm hpm]
    obtain ⟨hpm_mem, hpm_max⟩ := argmaxFirst_spec _ _ _ hpm
    have hp0 : p0 ∈ p0 :: p1 :: p2 :: t := List.mem_cons_self
    generalize p0 :: p1 :: p2 :: t = pts at hint hband hpm_mem hpm_max hp0 ⊢
    constructor
    · intro h
      -- every cross product with the direction p0 → pm is an integer vector of norm² < 1, hence zero
      refine cross3_zero_of_farthest pts p0 pm hpm_max (fun p hp => nsq3_eq_zero ?_)
      have hc := IsInt3.cross ((hint p hp).sub (hint p0 hp0)) ((hint pm hpm_mem).sub (hint p0 hp0))
      exact (hc.dot hc).eq_zero_of_lt_one (nsq3_nonneg _) (lt_of_le_of_lt (h.2 p hp) hband)
    · intro h
      refine ⟨htol, fun p hp => ?_⟩
      rw [h p hp pm hpm_mem, nsq3_zero]
      exact mul_nonneg (mul_self_nonneg tol) (le_trans zero_le_one (maxPairSq_ge _ _))

example : pointsAreCollinear [(0, 0, 0), (1, 2, 3), (3, 6, 9), (-2, -4, -6)] (1 / 100000) = true ∧
    pointsAreCollinear [(0, 0, 0), (1, 2, 3), (3, 6, 9), (-2, -4, -5)] (1 / 100000) = false ∧
    pointsAreCollinear [(0, 0, 0), (0, 0, 0), (1, 0, 0), (0, 1, 0)] (1 / 100000) = false := by decide +kernel

example : (1 / 100000 : Rat) * (1 / 100000) * maxPairSq [(0, 0, 0), (1, 2, 3), (3, 6, 9), (-2, -4, -5)] 1 < 1 := by
  decide +kernel

/-- Exactly planar points (w.r.t. the given normal `N ≠ 0`) are accepted for every `tol ≥ 0`. -/
theorem planar_exact (N p0 : P3) (rest : List P3) (tol : Rat) (hN : N ≠ (0, 0, 0)) (htol : 0 ≤ tol)
    (h : ∀ p ∈ p0 :: rest, dot3 N (sub3 p p0) = 0) : planarWithNormal N (p0 :: rest) tol = true := by
  have hN0 : nsq3 N ≠ 0 := fun h0 => hN (nsq3_eq_zero h0)
  have hl := List.cons_ne_nil p0 rest
  generalize p0 :: rest = pts at h hl ⊢
  -- `N · p` is constant, hence equal to its mean
  have hconst : ∀ p ∈ pts, dot3 N p = dot3 N p0 := fun p hp =>
    sub_eq_zero.mp (dot3_sub3 N p p0 ▸ h p hp)
  have hsum : dot3 N (sum3 pts) = (pts.length : Rat) * dot3 N p0 := by
    rw [dot3_sum3]; exact rsum_const _ _ _ hconst
  have hzero : ∀ p ∈ pts, dot3 N (sub3 p (mean3 pts)) = 0 := by
    intro p hp
    have := dot3_sub_mean N p pts hl
    rw [hsum, hconst p hp, sub_self] at this
    exact (mul_eq_zero.mp this).resolve_left (natCast_length_ne_zero hl)
  have hoff : offPlaneSq N pts = 0 := by
    unfold offPlaneSq
    exact rsum_zero _ _ (fun p hp => by rw [hzero p hp, mul_zero])
  unfold planarWithNormal
  simp only [hN0, if_false, hoff, Bool.and_eq_true, decide_eq_true_eq]
  exact ⟨htol, mul_nonneg (mul_self_nonneg tol) (nsq3_nonneg N)⟩

/-- Integer normal and integer points, `tol²·n²·|N|² < 1` (`n` = number of points): the coded answer
    is True exactly if every point is in the plane through the first point with normal `N`. -/
theorem planar_spec (N p0 : P3) (rest : List P3) (tol : Rat) (hNint : IsInt3 N) (hN : N ≠ (0, 0, 0))
    (hint : ∀ p ∈ p0 :: rest, IsInt3 p) (htol : 0 ≤ tol)
    (hband : tol * tol * (((p0 :: rest).length : Rat) * ((p0 :: rest).length : Rat)) * nsq3 N < 1) :
    planarWithNormal N (p0 :: rest) tol = true ↔ ∀ p ∈ p0 :: rest, dot3 N (sub3 p p0) = 0 := by
  refine ⟨fun h => ?_, planar_exact N p0 rest tol hN htol⟩
  have hN0 : nsq3 N ≠ 0 := fun h0 => hN (nsq3_eq_zero h0)
  have hl := List.cons_ne_nil p0 rest
  have hp0 : p0 ∈ p0 :: rest := List.mem_cons_self
  generalize p0 :: rest = pts at h hint hband hl hp0 ⊢
  unfold planarWithNormal at h
  simp only [hN0, if_false, Bool.and_eq_true, decide_eq_true_eq] at h
  -- every signed distance from the centroid vanishes: `n` times it is an integer of square below one
  have hzero : ∀ p ∈ pts, dot3 N (sub3 p (mean3 pts)) = 0 := by
    intro p hp
    have hnd : IsInt ((pts.length : Rat) * dot3 N (sub3 p (mean3 pts))) := by
      rw [dot3_sub_mean N p pts hl]
      exact ((IsInt.natCast _).mul (hNint.dot (hint p hp))).sub (hNint.dot (IsInt3_sum3 pts hint))
    have hterm : dot3 N (sub3 p (mean3 pts)) * dot3 N (sub3 p (mean3 pts)) ≤ offPlaneSq N pts :=
      rsum_ge_term (fun q => dot3 N (sub3 q (mean3 pts)) * dot3 N (sub3 q (mean3 pts))) pts
        (fun q _ => mul_self_nonneg _) p hp
    have h3 := mul_le_mul_of_nonneg_left (hterm.trans h.2) (mul_self_nonneg (pts.length : Rat))
    have hsq := (hnd.mul hnd).eq_zero_of_lt_one (mul_self_nonneg _) (lt_of_le_of_lt (by linarith) hband)
    exact (mul_eq_zero.mp (mul_self_eq_zero.mp hsq)).resolve_left (natCast_length_ne_zero hl)
  intro p hp
  have a := hzero p hp
  have b := hzero p0 hp0
  rw [dot3_sub3] at a b ⊢
  linarith

example : planarWithNormal (0, 0, 2) [(0, 0, 1), (3, 1, 1), (-2, 5, 1), (7, 7, 1)] (1 / 100000) = true ∧
    planarWithNormal (0, 0, 2) [(0, 0, 1), (3, 1, 1), (-2, 5, 2), (7, 7, 1)] (1 / 100000) = false := by
  decide +kernel

example : (1 / 100000 : Rat) * (1 / 100000) * ((4 : Rat) * 4) * nsq3 (0, 0, 2) < 1 := by decide +kernel

/-- `collinear_spec` with its hypotheses as a decidable input condition evaluated by the driver:
    whenever `collinearProvedAnswer` returns `some b`, the coded `points_are_collinear` returns `b`. -/
theorem collinear_proved_answer_sound (pts : List P3) (tol : Rat) (b : Bool)
    (h : collinearProvedAnswer pts tol = some b) : pointsAreCollinear pts tol = b := by
  cases pts with
  | nil => cases h
  | cons p0 rest =>
    obtain ⟨hc, hb⟩ := Option.ite_none_right_eq_some.mp h
    cases hb
    simp only [Bool.and_eq_true, List.all_eq_true, decide_eq_true_eq] at hc
    rw [Bool.eq_iff_iff,
      collinear_spec p0 rest tol (fun p hp => isInt3B_sound (hc.1.1 p hp)) hc.1.2 hc.2]
    exact decide_eq_true_iff.symm

/-- `planar_spec` with its hypotheses as a decidable input condition evaluated by the driver. -/
theorem planar_proved_answer_sound (N : P3) (pts : List P3) (tol : Rat) (b : Bool)
    (h : planarProvedAnswer N pts tol = some b) : planarWithNormal N pts tol = b := by
  cases pts with
  | nil => cases h
  | cons p0 rest =>
    obtain ⟨hc, hb⟩ := Option.ite_none_right_eq_some.mp h
    cases hb
    simp only [Bool.and_eq_true, List.all_eq_true, decide_eq_true_eq] at hc
    rw [Bool.eq_iff_iff, planar_spec N p0 rest tol (isInt3B_sound hc.1.1.1.1) hc.1.1.1.2
      (fun p hp => isInt3B_sound (hc.1.1.2 p hp)) hc.1.2 hc.2]
    exact decide_eq_true_iff.symm

example : collinearProvedAnswer [(0, 0, 0), (1, 2, 3), (3, 6, 9), (-2, -4, -5)] (1 / 100000) = some false ∧
    collinearProvedAnswer [(0, 0, 0), (1, 2, 3), (3, 6, 9)] (1 / 100000) = some true ∧
    collinearProvedAnswer [(0, 0, 0), (1 / 2, 2, 3), (3, 6, 9)] (1 / 100000) = none := by decide +kernel
example : planarProvedAnswer (0, 0, 2) [(0, 0, 1), (3, 1, 1), (-2, 5, 2), (7, 7, 1)] (1 / 100000) = some false := by
  decide +kernel

/-- The counting loop answers True exactly if the point satisfies every inequality `n·(p - x0) ≤ 0`
    (boundary included; no planes: True). -/
theorem half_space_spec (planes : List (P3 × P3)) (p : P3) :
    insideHalfSpaces planes p = true ↔ ∀ pl ∈ planes, dot3 (sub3 p pl.2) pl.1 ≤ 0 := by
  unfold insideHalfSpaces
  rw [beq_iff_eq]
  exact insideCount_eq_iff p planes

example : insideHalfSpaces [((0, 1, 0), (0, 0, 0)), ((1, 0, 0), (-1, 0, 0))] (-1, -2, 0) = true ∧
    insideHalfSpaces [((0, 1, 0), (0, 0, 0)), ((1, 0, 0), (-1, 0, 0))] (4, -2, 0) = false := by decide +kernel

/-- Soundness, for EVERY input and both modes: whenever `sort_point_pairs` returns (no assertion
    fails), `sort_ind` is a permutation of the columns, every output column is the input column it
    names (flipped or not), consecutive columns share a node, and with `check_circular` the chain closes. -/
theorem sort_point_pairs_chain (lines : List Line) (check circ : Bool) (out : List Placed)
    (h : sortPointPairs lines check circ = .ok out) :
    (out.map (·.idx)).Perm (List.range lines.length)
      ∧ (∀ r ∈ out, r.FromInput lines)
      ∧ Chained (out.map (·.line))
      ∧ (circ = true → check = true → ∀ f ∈ out.head?, ∀ z ∈ out.getLast?, f.line.1 = z.line.2) := by
  cases lines with
  | nil => simp [sortPointPairs] at h
  | cons l0 t =>
    cases circ with
    | true =>
      rw [sortPointPairs_circular] at h
      obtain ⟨o, hw, hc, rfl⟩ := (finishFrom_eq_ok _ _ _ _).mp h
      obtain ⟨h1, h2, h3⟩ := walk_from_input (l0 :: t) ⟨0, l0, false⟩ l0 (enumFrom' 1 t) o
        ⟨l0, rfl, rfl⟩ (List.Perm.refl _) hw
      refine ⟨h1, h2, h3, fun _ hck f hf z hz => ?_⟩
      simp only [List.head?_cons, Option.mem_def, Option.some.injEq] at hf
      subst hf
      rw [List.getLast?_cons] at hz
      simp only [Option.mem_def, Option.some.injEq] at hz
      subst hz
      exact hc hck
    | false =>
      rw [sortPointPairs_open _ (List.cons_ne_nil _ _)] at h
      cases hf : findEndLine (l0 :: t) (enumFrom' 0 (l0 :: t)) with
      | none => rw [hf] at h; cases h
      | some jl =>
        obtain ⟨j, l⟩ := jl
        rw [hf] at h
        obtain ⟨o, hw, _, rfl⟩ := (finishFrom_eq_ok _ _ _ _).mp h
        have hm := (findEndLine_spec _ _ _ _ hf).1
        obtain ⟨h1, h2, h3⟩ := walk_from_input (l0 :: t) (startPlaced (l0 :: t) j l) l _ o
          (startPlaced_fromInput _ _ _ (getElem?_of_mem_enumFrom' hm))
          (by rw [startPlaced_idx]; exact removeIdx_enumFrom'_perm _ j l hm) hw
        exact ⟨h1, h2, h3, fun hcc => by cases hcc⟩

example : sortPointPairs [(1, 3), (1, 2), (2, 3)] true true
    = .ok [⟨0, (1, 3), false⟩, ⟨2, (3, 2), true⟩, ⟨1, (2, 1), true⟩] := by decide +kernel
example : sortPointPairs [(1, 2), (0, 1), (2, 3)] true false
    = .ok [⟨1, (0, 1), false⟩, ⟨0, (1, 2), false⟩, ⟨2, (2, 3), false⟩] := by decide +kernel
example : sortPointPairs [(1, 2), (3, 4)] true true = .error .assertion := by decide +kernel

/-- Completeness for simple cycles (circular mode, with or without the closing check): let the
    first column be `(a₀, a₁)` and let the remaining columns be, in any order and with any flips,
    the lines of the path `a₁ → … → a_k → a₀` through pairwise distinct nodes.  Then no assertion
    fails and the output is the cycle walked from `a₀` through `a₁`. -/
theorem sort_point_pairs_cycle_complete (a0 a1 : Int) (mid : List Int) (tl : List Line) (check : Bool)
    (hnd : (a1 :: (mid ++ [a0])).Nodup)
    (hperm : (tl.map normL).Perm ((pathLines (a1 :: (mid ++ [a0]))).map normL)) :
    ∃ out, sortPointPairs ((a0, a1) :: tl) check true = .ok out
      ∧ out.map (·.line) = (a0, a1) :: pathLines (a1 :: (mid ++ [a0])) := by
  rw [pathLines_cons] at hperm ⊢
  obtain ⟨out, hw, hout⟩ := walk_path (mid ++ [a0]) a1 (enumFrom' 1 tl) (enumFrom' 1 tl).length
    hnd (le_refl _) (by rw [map_normL_snd_enumFrom']; exact hperm)
  have hlast : lastEnd ⟨0, (a0, a1), false⟩ out = a0 := by
    rw [lastEnd_eq, hout, map_snd_pairsFrom, List.getLast?_concat]
    rfl
  refine ⟨⟨0, (a0, a1), false⟩ :: out, ?_, by rw [List.map_cons, hout]⟩
  rw [sortPointPairs_circular]
  exact (finishFrom_eq_ok _ _ _ _).mpr ⟨out, hw, fun _ => hlast.symm, rfl⟩

/-- instance of the hypotheses: the cycle 1 → 3 → 2 → 1 given as (1,3), (1,2), (2,3) -/
example : ([3, 2, 1] : List Int).Nodup ∧
    (([(1, 2), (2, 3)] : List Line).map normL).Perm ((pathLines [3, 2, 1]).map normL) := by decide +kernel

/-- Completeness for open chains (`is_circular = False`): if the columns are, in any order and with
    any flips, the lines of a path through pairwise distinct nodes (at least one line), no assertion
    or index error occurs and the output is the path walked from one of its two end points. -/
theorem sort_point_pairs_chain_complete (nodes : List Int) (lines : List Line) (check : Bool)
    (hnd : nodes.Nodup) (hlen : 2 ≤ nodes.length)
    (hperm : (lines.map normL).Perm ((pathLines nodes).map normL)) :
    ∃ out, sortPointPairs lines check false = .ok out
      ∧ (out.map (·.line) = pathLines nodes ∨ out.map (·.line) = pathLines nodes.reverse) := by
  obtain ⟨a0, a1, t, rfl⟩ := exists_cons_cons_of_two_le hlen
  have hcount : ∀ v, nodeCount v lines = nodeCount v (pathLines (a0 :: a1 :: t)) := by
    intro v
    rw [← nodeCount_normL v lines, ← nodeCount_normL v (pathLines _)]
    exact nodeCount_perm v _ _ hperm
  have ha0 : a0 ∉ a1 :: t := (List.nodup_cons.mp hnd).1
  -- some column holds the end node a0
  have hex : ∃ jl ∈ enumFrom' 0 lines, nodeCount jl.2.1 lines = 1 ∨ nodeCount jl.2.2 lines = 1 := by
    have : normL (a0, a1) ∈ lines.map normL := hperm.mem_iff.mpr (by simp [pathLines])
    obtain ⟨l, hl, hne⟩ := List.mem_map.mp this
    obtain ⟨i, hi⟩ := List.getElem?_of_mem hl
    have hc0 : nodeCount a0 lines = 1 := by
      rw [hcount]
      have hne' : a1 ≠ a0 := fun e => ha0 (by simp [e])
      simp only [pathLines, nodeCount, if_true, hne', if_false]
      rw [nodeCount_zero_of_not_mem a0 (a1 :: t) ha0]
    refine ⟨(i, l), (mem_enumFrom' 0 lines i l).mpr ⟨Nat.zero_le _, by simpa using hi⟩, ?_⟩
    rcases normL_eq _ _ hne with h | h
    · left; rw [h]; exact hc0
    · right; rw [h]; simpa [flipL] using hc0
  obtain ⟨j, l, hf⟩ := findEndLine_isSome lines _ hex
  obtain ⟨hm, hspec⟩ := findEndLine_spec _ _ _ _ hf
  have hl : l ∈ lines := List.mem_of_getElem? (getElem?_of_mem_enumFrom' hm)
  -- the oriented first column starts at a node that occurs once, i.e. at an end of the path
  have hend : nodeCount (if nodeCount l.1 lines > 1 then flipL l else l).1 lines = 1 := by
    by_cases hc : nodeCount l.1 lines > 1
    · simp only [hc, if_true, flipL]
      rcases hspec with h | h
      · omega
      · exact h
    · simp only [hc, if_false]
      have := (nodeCount_pos_of_mem l lines hl).1
      omega
  rw [hcount] at hend
  rcases nodeCount_path_eq_one _ _ hend with hh | hh
  · exact (sort_chain_from _ lines check hnd hlen hperm j l hf hh).imp fun out h => ⟨h.1, Or.inl h.2⟩
  · -- the start is the last node: the same for the reversed path
    exact (sort_chain_from _ lines check ((List.reverse_perm _).nodup_iff.mpr hnd)
      (by rwa [List.length_reverse]) (hperm.trans (pathLines_reverse_norm _).symm) j l hf
      (by rw [List.head?_reverse]; exact hh)).imp fun out h => ⟨h.1, Or.inr h.2⟩

example : ([7, 1, 2, 3] : List Int).Nodup ∧
    (([(1, 2), (1, 7), (3, 2)] : List Line).map normL).Perm ((pathLines [7, 1, 2, 3]).map normL) := by
  decide +kernel
example : sortPointPairs [(1, 2), (1, 7), (3, 2)] true false
    = .ok [⟨1, (7, 1), true⟩, ⟨0, (1, 2), false⟩, ⟨2, (2, 3), true⟩] := by decide +kernel

/-- Whenever `sort_points_on_line` returns, the result is a permutation of the point indices. -/
theorem sort_points_on_line_perm (pts : List P3) (tol : Rat) (out : List Nat)
    (h : sortPointsOnLine pts tol = .ok out) : out.Perm (List.range pts.length) := by
  match pts, h with
  | [], h => cases h
  | [_], h => cases h; exact List.Perm.refl _
  | a :: b :: t, h =>
    obtain ⟨keys, T, hk, _, rfl⟩ := sortPointsOnLine_ok _ tol _ (by simp) h
    obtain ⟨-, hkeys⟩ := lineKeys_spec _ _ _ hk
    have hl : keys.length = (a :: b :: t).length := by rw [hkeys]; simp
    rw [← hl]
    exact argsort_perm keys

/-- Points on a parametrised line `o + tᵢ d`: whenever `sort_points_on_line` returns, the
    parameters of the returned order are monotone (increasing or decreasing) — the order is the
    order along the line. -/
theorem sort_points_on_line_monotone (o d : P3) (ts : List Rat) (tol : Rat) (out : List Nat)
    (h : sortPointsOnLine (ts.map (fun t => add3 o (scale3 t d))) tol = .ok out) :
    (out.map (fun i => ts.getD i 0)).Pairwise (· ≤ ·) ∨ (out.map (fun i => ts.getD i 0)).Pairwise (· ≥ ·) := by
  by_cases hlen : 2 ≤ ts.length
  · have hne : ts ≠ [] := fun e => by rw [e] at hlen; exact absurd hlen (by decide)
    obtain ⟨keys, T, hk, hT, rfl⟩ := sortPointsOnLine_ok _ tol out (by rwa [List.length_map]) h
    obtain ⟨hTmem, hkeys⟩ := lineKeys_spec _ _ _ hk
    -- centred points are (t - tm) d
    obtain ⟨tm, htm⟩ : ∃ tm, tm = rsum ts / (ts.length : Rat) := ⟨_, rfl⟩
    have hv : (ts.map (fun t => add3 o (scale3 t d))).map
        (fun p => sub3 p (mean3 (ts.map (fun t => add3 o (scale3 t d)))))
        = ts.map (fun t => scale3 (t - tm) d) := by
      rw [List.map_map, htm]
      exact List.map_congr_left (fun t _ => sub_mean_line o d ts hne t)
    rw [hv] at hTmem hkeys
    obtain ⟨tf, _, hTf⟩ := List.mem_map.mp hTmem
    -- the keys are κ t + β with κ ≠ 0
    obtain ⟨κ, hκ⟩ : ∃ κ, κ = sigmaT T * ((tf - tm) * nsq3 d) := ⟨_, rfl⟩
    have hkeys' : keys = ts.map (fun t => κ * t + (-(κ * tm))) := by
      rw [hkeys, List.map_map]
      apply List.map_congr_left
      intro t _
      simp only [Function.comp, ← hTf, dot3_scale, hκ]
      ring
    have hκ0 : κ ≠ 0 := by
      rw [hκ]
      refine mul_ne_zero ?_ (mul_ne_zero ?_ (fun h0 => ?_))
      · rcases sigmaT_cases T with h | h <;> rw [h] <;> norm_num
      · intro h0; apply hT; rw [← hTf, h0]; simp [scale3]
      · apply hT; rw [← hTf, nsq3_eq_zero h0]; simp [scale3]
    have := argsort_affine ts κ (-(κ * tm))
    simp only at this
    rw [← hkeys'] at this
    rcases lt_or_gt_of_ne hκ0 with hneg | hpos
    · exact Or.inr (this.2 hneg)
    · exact Or.inl (this.1 hpos)
  · -- at most one point
    match ts, hlen, h with
    | [], _, h => cases h
    | [t], _, h => cases h; left; simp
    | _ :: _ :: _, hl, _ => exact absurd (by simp) hl

example : sortPointsOnLine ([0, 3, 1, -2].map (fun t => add3 (1, 2, 3) (scale3 t (1, 1, -1)))) (1 / 100000)
    = .ok [3, 0, 2, 1] := by decide +kernel

/-- The result is a permutation of the point indices. -/
theorem sort_point_plane_xy_perm (pts : List P2) (c : P2) :
    (sortPointPlaneXY pts c).Perm (List.range pts.length) :=
  (argsort_spec (R := fun a b => angLt b a = false) insSort_angle (fun p => sub2 p c) pts (0, 0)).1

/-- The result is ordered by `arctan2(x - c.x, y - c.y)` (decided exactly by `angLt`): no later
    point has a strictly smaller angle than an earlier one. -/
theorem sort_point_plane_xy_sorted (pts : List P2) (c : P2) :
    ((sortPointPlaneXY pts c).map (fun i => sub2 (pts.getD i (0, 0)) c)).Pairwise
      (fun a b => angLt b a = false) :=
  (argsort_spec insSort_angle (fun p => sub2 p c) pts (0, 0)).2

/-- Meaning of the order inside an open half plane: a later point is reached from an earlier one by
    a clockwise turn about the centre (`arctan2(x, y)` grows clockwise). -/
theorem ang_sorted_clockwise (a b : P2) (h : angLt b a = false)
    (hside : (0 < a.1 ∧ 0 < b.1) ∨ (a.1 < 0 ∧ b.1 < 0)) : cross2 a b ≤ 0 := by
  have hreg : angRegion b = angRegion a ∧ (angRegion b = 0 ∨ angRegion b = 2) := by
    rcases hside with ⟨ha, hb⟩ | ⟨ha, hb⟩
    · rw [angRegion_eq_two_iff.mpr ha, angRegion_eq_two_iff.mpr hb]; exact ⟨rfl, Or.inr rfl⟩
    · rw [angRegion_eq_zero_iff.mpr ha, angRegion_eq_zero_iff.mpr hb]; exact ⟨rfl, Or.inl rfl⟩
  by_contra hc
  have : angLt b a = true := (angLt_iff b a).mpr (Or.inr ⟨hreg.1, hreg.2, by
    rw [cross2_antisymm a b]; linarith⟩)
  rw [h] at this
  cases this

example : sortPointPlaneXY [(1, 0), (0, 1), (-1, -1), (0, -2), (2, 2)] (0, 0) = [2, 1, 4, 0, 3] := by
  decide +kernel

end PorepyVerif.C31
