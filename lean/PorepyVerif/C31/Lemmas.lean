/-
C31 — helper lemmas shared by the topic modules (may use Mathlib tactics): consecutive pairs and the
closed polygon `cycPairs`, sums over them, `enumFrom'`, `argmaxFirst`.  The topics stand in
`Polygon` (winding test), `Space` (integer band, 3-vectors, half spaces), `Chain` (sort_point_pairs)
and `Argsort` (the two argsorts).
-/
import PorepyVerif.C31.Model
import PorepyVerif.Common.Sum
import Mathlib.Tactic.Ring
import Mathlib.Tactic.Linarith
import Mathlib.Tactic.NormNum
import Mathlib.Tactic.LinearCombination
import Mathlib.Tactic.FieldSimp

namespace PorepyVerif.C31

theorem mem_pairsFrom {α : Type} (prev : α) (l : List α) (e : α × α) (h : e ∈ pairsFrom prev l) :
    e.1 ∈ prev :: l ∧ e.2 ∈ l := by
  induction l generalizing prev with
  | nil => cases h
  | cons a t ih =>
    rcases List.mem_cons.mp h with rfl | h
    · simp
    · exact ⟨List.mem_cons_of_mem _ (ih a h).1, List.mem_cons_of_mem _ (ih a h).2⟩

theorem map_snd_pairsFrom {α : Type} (prev : α) (l : List α) : (pairsFrom prev l).map (·.2) = l := by
  induction l generalizing prev with
  | nil => rfl
  | cons a t ih => rw [pairsFrom, List.map_cons, ih]

theorem pairsFrom_map {α β : Type} (f : α → β) (prev : α) (l : List α) :
    pairsFrom (f prev) (l.map f) = (pairsFrom prev l).map (fun e => (f e.1, f e.2)) := by
  induction l generalizing prev with
  | nil => rfl
  | cons a t ih => simp [pairsFrom, ih]

theorem pairsFrom_trans {α : Type} (R : α → α → Prop) (S : α → Prop)
    (htrans : ∀ a b c, S a → S b → S c → R a b → R b c → R a c)
    (prev : α) (l : List α) (hSp : S prev) (hS : ∀ a ∈ l, S a)
    (hR : ∀ e ∈ pairsFrom prev l, R e.1 e.2) : ∀ a ∈ l, R prev a := by
  induction l generalizing prev with
  | nil => intro a ha; cases ha
  | cons x t ih =>
    have hx : R prev x := hR (prev, x) List.mem_cons_self
    have hSx : S x := hS x List.mem_cons_self
    intro a ha
    rcases List.mem_cons.mp ha with rfl | ha
    · exact hx
    · exact htrans prev x a hSp hSx (hS a (List.mem_cons_of_mem _ ha)) hx
        (ih x hSx (fun b hb => hS b (List.mem_cons_of_mem _ hb))
          (fun e he => hR e (List.mem_cons_of_mem _ he)) a ha)

theorem rsum_tele {α : Type} (g : α → Rat) (prev : α) (l : List α) :
    rsum ((pairsFrom prev l).map (fun e => g e.2 - g e.1)) = g (l.getLast?.getD prev) - g prev := by
  induction l generalizing prev with
  | nil => simp [pairsFrom, rsum]
  | cons a t ih =>
    simp only [pairsFrom, List.map_cons, rsum, ih, List.getLast?_cons]
    simp

theorem isum_tele {α : Type} (g : α → Int) (prev : α) (l : List α) :
    isum ((pairsFrom prev l).map (fun e => g e.2 - g e.1)) = g (l.getLast?.getD prev) - g prev := by
  induction l generalizing prev with
  | nil => simp [pairsFrom, isum]
  | cons a t ih =>
    simp only [pairsFrom, List.map_cons, isum, ih, List.getLast?_cons]
    simp

theorem cycPairs_cases {α : Type} (l : List α) :
    l = [] ∨ ∃ z ∈ l, l.getLast? = some z ∧ cycPairs l = pairsFrom z l := by
  cases hz : l.getLast? with
  | none => exact Or.inl (List.getLast?_eq_none_iff.mp hz)
  | some z => exact Or.inr ⟨z, List.mem_of_getLast? hz, rfl, by simp only [cycPairs, hz]⟩

theorem mem_cycPairs {α : Type} (l : List α) (e : α × α) (h : e ∈ cycPairs l) : e.1 ∈ l ∧ e.2 ∈ l := by
  rcases cycPairs_cases l with rfl | ⟨z, hzl, _, hc⟩
  · cases h
  · rw [hc] at h
    have := mem_pairsFrom z l e h
    exact ⟨(List.mem_cons.mp this.1).elim (fun h => h ▸ hzl) id, this.2⟩

theorem mem_snd_cycPairs {α : Type} (l : List α) (a : α) (ha : a ∈ l) : ∃ e ∈ cycPairs l, e.2 = a := by
  rcases cycPairs_cases l with rfl | ⟨z, _, _, hc⟩
  · cases ha
  · rw [hc]; exact List.mem_map.mp (by rwa [map_snd_pairsFrom])

theorem cycPairs_map {α β : Type} (f : α → β) (l : List α) :
    cycPairs (l.map f) = (cycPairs l).map (fun e => (f e.1, f e.2)) := by
  unfold cycPairs
  rw [List.getLast?_map]
  cases l.getLast? with
  | none => rfl
  | some z => simp [pairsFrom_map]

theorem cycPairs_ne_nil {α : Type} (l : List α) (hl : l ≠ []) : cycPairs l ≠ [] := by
  unfold cycPairs
  cases l with
  | nil => exact absurd rfl hl
  | cons a t =>
    rw [List.getLast?_cons]
    simp [pairsFrom]

/-- a relation that is transitive on a set and holds along every edge of a closed polygon with
    vertices in the set relates some vertex to itself -/
theorem cycPairs_trans {α : Type} (R : α → α → Prop) (S : α → Prop)
    (htrans : ∀ a b c, S a → S b → S c → R a b → R b c → R a c)
    (l : List α) (hl : l ≠ []) (hS : ∀ a ∈ l, S a) (hR : ∀ e ∈ cycPairs l, R e.1 e.2) :
    ∃ z ∈ l, R z z := by
  rcases cycPairs_cases l with rfl | ⟨z, hzl, _, hc⟩
  · exact absurd rfl hl
  · rw [hc] at hR
    exact ⟨z, hzl, pairsFrom_trans R S htrans z l (hS z hzl) hS hR z hzl⟩

theorem cycPairs_const {α β : Type} (f : α → β) (l : List α)
    (h : ∀ e ∈ cycPairs l, f e.2 = f e.1) : ∀ a ∈ l, ∀ b ∈ l, f a = f b := by
  rcases cycPairs_cases l with rfl | ⟨z, hzl, _, hc⟩
  · intro a ha; cases ha
  · rw [hc] at h
    have hz : ∀ a ∈ l, f a = f z :=
      pairsFrom_trans (fun a b => f b = f a) (fun _ => True) (fun _ _ _ _ _ _ h1 h2 => h2.trans h1)
        z l trivial (fun _ _ => trivial) h
    exact fun a ha b hb => (hz a ha).trans (hz b hb).symm

theorem rsum_tele_cyc {α : Type} (g : α → Rat) (l : List α) :
    rsum ((cycPairs l).map (fun e => g e.2 - g e.1)) = 0 := by
  rcases cycPairs_cases l with rfl | ⟨z, _, hz, hc⟩
  · rfl
  · rw [hc, rsum_tele, hz]; exact sub_self _

theorem isum_tele_cyc {α : Type} (g : α → Int) (l : List α) :
    isum ((cycPairs l).map (fun e => g e.2 - g e.1)) = 0 := by
  rcases cycPairs_cases l with rfl | ⟨z, _, hz, hc⟩
  · rfl
  · rw [hc, isum_tele, hz]; exact sub_self _

theorem rsum_eq (l : List Rat) : rsum l = l.sum := by
  induction l with
  | nil => rfl
  | cons x t ih => rw [rsum, ih, List.sum_cons]

theorem rsum_map_sub {α : Type} (f g : α → Rat) (l : List α) :
    rsum (l.map (fun e => f e - g e)) = rsum (l.map f) - rsum (l.map g) := by
  rw [rsum_eq, rsum_eq, rsum_eq, Common.sum_map_sub]

theorem isum_map_congr {α : Type} (f g : α → Int) (l : List α) (h : ∀ e ∈ l, f e = g e) :
    isum (l.map f) = isum (l.map g) := by
  rw [List.map_congr_left h]

theorem isum_map_mul {α : Type} (k : Int) (f : α → Int) (l : List α) :
    isum (l.map (fun e => k * f e)) = k * isum (l.map f) := by
  induction l with
  | nil => simp [isum]
  | cons a t ih => simp only [List.map_cons, isum, ih]; ring

theorem isum_scale {α : Type} (a b : Int) (f g : α → Int) (l : List α)
    (h : ∀ e ∈ l, a * f e = b * g e) : a * isum (l.map f) = b * isum (l.map g) := by
  rw [← isum_map_mul, ← isum_map_mul]
  exact isum_map_congr _ _ l h

theorem cross2_self (v : P2) : cross2 v v = 0 := by simp only [cross2]; ring

theorem cross2_antisymm (u w : P2) : cross2 w u = -cross2 u w := by simp only [cross2]; ring

/-- what `upLR1` tests: the crossing height of a left-to-right edge is positive iff `a × b < 0` -/
theorem intercept_pos_iff (a b : P2) (ha : a.1 < 0) (hb : 0 < b.1) :
    0 < a.2 + (0 - a.1) * (b.2 - a.2) / (b.1 - a.1) ↔ cross2 a b < 0 := by
  have hd : 0 < b.1 - a.1 := by linarith
  have hX : (a.2 + (0 - a.1) * (b.2 - a.2) / (b.1 - a.1)) * (b.1 - a.1) = -cross2 a b := by
    rw [add_mul, div_mul_cancel₀ _ hd.ne']; simp only [cross2]; ring
  rw [← mul_pos_iff_of_pos_right hd, hX, neg_pos]

theorem argmaxFirst_eq_none {α : Type} (f : α → Rat) (l : List α) (h : argmaxFirst f l = none) : l = [] := by
  cases l with
  | nil => rfl
  | cons x t =>
    simp only [argmaxFirst] at h
    split at h
    · cases h
    · split at h <;> cases h

theorem argmaxFirst_isSome {α : Type} (f : α → Rat) (l : List α) (hl : l ≠ []) : ∃ a, argmaxFirst f l = some a := by
  cases h : argmaxFirst f l with
  | none => exact absurd (argmaxFirst_eq_none f l h) hl
  | some a => exact ⟨a, rfl⟩

theorem argmaxFirst_spec {α : Type} (f : α → Rat) (l : List α) (a : α) (h : argmaxFirst f l = some a) :
    a ∈ l ∧ ∀ q ∈ l, f q ≤ f a := by
  induction l generalizing a with
  | nil => cases h
  | cons x t ih =>
    simp only [argmaxFirst] at h
    cases hb : argmaxFirst f t with
    | none =>
      rw [hb] at h
      cases h
      rw [argmaxFirst_eq_none f t hb]
      simp
    | some b =>
      simp only [hb] at h
      obtain ⟨hbm, hbmax⟩ := ih b hb
      split at h
      · rename_i hlt
        cases h
        refine ⟨List.mem_cons_of_mem _ hbm, fun q hq => ?_⟩
        rcases List.mem_cons.mp hq with rfl | hq
        · exact hlt.le
        · exact hbmax q hq
      · rename_i hlt
        cases h
        refine ⟨List.mem_cons_self, fun q hq => ?_⟩
        rcases List.mem_cons.mp hq with rfl | hq
        · exact le_refl _
        · exact (hbmax q hq).trans (not_lt.mp hlt)

theorem rsum_nonneg {α : Type} (f : α → Rat) (l : List α) (h : ∀ x ∈ l, 0 ≤ f x) : 0 ≤ rsum (l.map f) := by
  rw [rsum_eq]; exact Common.sum_map_nonneg h

theorem rsum_ge_term {α : Type} (f : α → Rat) (l : List α) (h : ∀ x ∈ l, 0 ≤ f x) (a : α) (ha : a ∈ l) :
    f a ≤ rsum (l.map f) := by
  induction l with
  | nil => cases ha
  | cons x t ih =>
    simp only [List.map_cons, rsum]
    have hx := h x List.mem_cons_self
    have ht := rsum_nonneg f t (fun y hy => h y (List.mem_cons_of_mem _ hy))
    rcases List.mem_cons.mp ha with rfl | ha
    · linarith
    · have := ih (fun y hy => h y (List.mem_cons_of_mem _ hy)) ha
      linarith

theorem rsum_const {α : Type} (f : α → Rat) (c : Rat) (l : List α) (h : ∀ x ∈ l, f x = c) :
    rsum (l.map f) = (l.length : Rat) * c := by
  rw [rsum_eq, Common.sum_map_congr h]; exact Common.sum_map_const l c

theorem rsum_zero {α : Type} (f : α → Rat) (l : List α) (h : ∀ x ∈ l, f x = 0) : rsum (l.map f) = 0 := by
  rw [rsum_const f 0 l h, mul_zero]

theorem natCast_length_ne_zero {α : Type} {l : List α} (hl : l ≠ []) : (l.length : Rat) ≠ 0 :=
  Nat.cast_ne_zero.mpr (fun h => hl (List.length_eq_zero_iff.mp h))

theorem enumFrom'_eq {α : Type} (i : Nat) (l : List α) :
    enumFrom' i l = (l.zipIdx i).map (fun x => (x.2, x.1)) := by
  induction l generalizing i with
  | nil => rfl
  | cons a t ih => simp [enumFrom', ih]

theorem mem_enumFrom' {α : Type} (i : Nat) (l : List α) (j : Nat) (a : α) :
    (j, a) ∈ enumFrom' i l ↔ i ≤ j ∧ l[j - i]? = some a := by
  rw [← List.mem_zipIdx_iff_le_and_getElem?_sub (x := (a, j)), enumFrom'_eq, List.mem_map]
  constructor
  · rintro ⟨x, hx, h⟩
    cases h; exact hx
  · exact fun h => ⟨(a, j), h, rfl⟩

theorem map_fst_enumFrom' {α : Type} (i : Nat) (l : List α) :
    (enumFrom' i l).map (·.1) = List.range' i l.length := by
  rw [enumFrom'_eq, List.map_map]; exact List.zipIdx_map_snd i l

theorem map_snd_enumFrom' {α : Type} (i : Nat) (l : List α) : (enumFrom' i l).map (·.2) = l := by
  rw [enumFrom'_eq, List.map_map]; exact List.zipIdx_map_fst i l

theorem snd_of_mem_enumFrom'_map {α β : Type} (f : α → β) (l : List α) (d : α) (x : Nat × β)
    (hx : x ∈ enumFrom' 0 (l.map f)) : x.2 = f (l.getD x.1 d) := by
  have := (mem_enumFrom' 0 _ x.1 x.2).mp hx
  simp only [Nat.sub_zero, List.getElem?_map] at this
  cases hg : l[x.1]? with
  | none => simp [hg] at this
  | some t =>
    simp only [hg, Option.map_some, Option.some.injEq] at this
    simp [List.getD, hg, ← this.2]

end PorepyVerif.C31
