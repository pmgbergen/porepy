/-
C31 — the two argsorts: by the coordinate along a line (sort_points_on_line) and by the exact
`arctan2` comparison (sort_point_plane); both insertion sorts are instances of `Common.InsSort`.
-/
import PorepyVerif.C31.Lemmas
import PorepyVerif.Common.InsSort
import PorepyVerif.Common.Except

namespace PorepyVerif.C31

/-- `argsort`: the indices of the sorted enumeration are a permutation of the positions, and the
    keys looked up along them are in order -/
theorem argsort_spec {κ β : Type} {R : κ → κ → Prop} {ins : Nat × κ → List (Nat × κ) → List (Nat × κ)}
    {srt : List (Nat × κ) → List (Nat × κ)} (h : Common.InsSort (fun a b => R a.2 b.2) ins srt)
    (f : β → κ) (l : List β) (d : β) :
    ((srt (enumFrom' 0 (l.map f))).map (·.1)).Perm (List.range l.length)
      ∧ (((srt (enumFrom' 0 (l.map f))).map (·.1)).map (fun i => f (l.getD i d))).Pairwise R := by
  constructor
  · have := (h.perm (enumFrom' 0 (l.map f))).map (·.1)
    rwa [map_fst_enumFrom', ← List.range_eq_range', List.length_map] at this
  · rw [List.map_map, List.pairwise_map]
    refine (h.sorted (enumFrom' 0 (l.map f))).imp_of_mem fun {a b} ha hb hab => ?_
    have key := fun x hx => snd_of_mem_enumFrom'_map f l d x ((h.perm _).mem_iff.mp hx)
    simp only [Function.comp, ← key a ha, ← key b hb]
    exact hab

theorem insSort_key : Common.InsSort (fun a b => a.2 ≤ b.2) insertByKey sortByKey :=
  .of_ite le_trans (fun h => (not_le.mp h).le) (fun _ => rfl) (fun _ _ _ => rfl) rfl (fun _ _ => rfl)

theorem argsort_perm (keys : List Rat) :
    ((sortByKey (enumFrom' 0 keys)).map (·.1)).Perm (List.range keys.length) := by
  simpa using (argsort_spec insSort_key id keys 0).1

/-- keys that are an affine function `κ t + β` of parameters `t`: the argsort orders the parameters
    increasingly (κ > 0) or decreasingly (κ < 0) -/
theorem argsort_affine (ts : List Rat) (κ β : Rat) :
    let out := (sortByKey (enumFrom' 0 (ts.map (fun t => κ * t + β)))).map (·.1)
    (0 < κ → (out.map (fun i => ts.getD i 0)).Pairwise (· ≤ ·))
    ∧ (κ < 0 → (out.map (fun i => ts.getD i 0)).Pairwise (· ≥ ·)) := by
  intro out
  have hs := (argsort_spec insSort_key (fun t => κ * t + β) ts 0).2
  simp only [out, List.pairwise_map] at hs ⊢
  exact ⟨fun hk => hs.imp fun hab => le_of_mul_le_mul_left ((add_le_add_iff_right β).mp hab) hk,
    fun hk => hs.imp fun hab => (mul_le_mul_left_of_neg hk).mp ((add_le_add_iff_right β).mp hab)⟩

/-- the sign `σ` of `lineKeys` -/
def sigmaT (T : P3) : Rat := if T.1 = 0 ∧ T.2.1 = 0 ∧ T.2.2 < 0 then -1 else 1

theorem sigmaT_cases (T : P3) : sigmaT T = 1 ∨ sigmaT T = -1 := (ite_eq_or_eq _ _ _).symm

theorem lineKeys_spec (pts : List P3) (keys : List Rat) (T : P3) (h : lineKeys pts = some (keys, T)) :
    T ∈ pts.map (fun p => sub3 p (mean3 pts))
    ∧ keys = (pts.map (fun p => sub3 p (mean3 pts))).map (fun w => sigmaT T * dot3 w T) := by
  unfold lineKeys at h
  simp only at h
  cases ha : argmaxFirst nsq3 (pts.map (fun p => sub3 p (mean3 pts))) with
  | none => simp [ha] at h
  | some T' =>
    simp only [ha, Option.some.injEq, Prod.mk.injEq] at h
    obtain ⟨h1, h2⟩ := h
    subst h2
    exact ⟨(argmaxFirst_spec _ _ _ ha).1, h1.symm⟩

theorem sum3_line (o d : P3) (ts : List Rat) :
    sum3 (ts.map (fun t => add3 o (scale3 t d)))
      = add3 (scale3 (ts.length : Rat) o) (scale3 (rsum ts) d) := by
  induction ts with
  | nil => simp [sum3, add3, scale3, rsum]
  | cons t l ih =>
    simp only [List.map_cons, sum3, ih, rsum, List.length_cons]
    simp only [add3, scale3, Prod.mk.injEq]
    push_cast
    refine ⟨by ring, by ring, by ring⟩

/-- centred points of a parametrised line: `(t - t̄) d` -/
theorem sub_mean_line (o d : P3) (ts : List Rat) (hne : ts ≠ []) (t : Rat) :
    sub3 (add3 o (scale3 t d)) (mean3 (ts.map (fun t => add3 o (scale3 t d))))
      = scale3 (t - rsum ts / (ts.length : Rat)) d := by
  have hn := natCast_length_ne_zero hne
  have key : ∀ x y : Rat, x + t * y - ((ts.length : Rat) * x + rsum ts * y) / (ts.length : Rat)
      = (t - rsum ts / (ts.length : Rat)) * y := fun x y => by
    rw [add_div, mul_div_cancel_left₀ _ hn]; ring
  simp only [mean3, sum3_line, List.length_map]
  exact Prod.ext (key _ _) (Prod.ext (key _ _) (key _ _))

theorem dot3_scale (a b : Rat) (d : P3) : dot3 (scale3 a d) (scale3 b d) = a * b * nsq3 d := by
  simp only [dot3, scale3, nsq3]; ring

theorem scale3_eq_zero (a : Rat) (d : P3) (h : scale3 a d = (0, 0, 0)) : a = 0 ∨ d = (0, 0, 0) := by
  by_cases ha : a = 0
  · exact Or.inl ha
  · right
    simp only [scale3, Prod.mk.injEq] at h
    obtain ⟨h1, h2, h3⟩ := h
    have e1 := (mul_eq_zero.mp h1).resolve_left ha
    have e2 := (mul_eq_zero.mp h2).resolve_left ha
    have e3 := (mul_eq_zero.mp h3).resolve_left ha
    exact Prod.ext e1 (Prod.ext e2 e3)

theorem sortPointsOnLine_ok (pts : List P3) (tol : Rat) (out : List Nat) (hlen : 2 ≤ pts.length)
    (h : sortPointsOnLine pts tol = .ok out) :
    ∃ keys T, lineKeys pts = some (keys, T) ∧ T ≠ (0, 0, 0)
      ∧ out = (sortByKey (enumFrom' 0 keys)).map (·.1) := by
  match pts, hlen, h with
  | [], hl, _ => exact absurd hl (by decide)
  | [_], hl, _ => exact absurd hl (by simp)
  | a :: b :: t, _, h =>
    unfold sortPointsOnLine at h
    obtain ⟨-, h⟩ := Common.ite_error_eq_ok.1 h
    cases hk : lineKeys (a :: b :: t) with
    | none => rw [hk] at h; cases h
    | some kt =>
      rw [hk] at h
      obtain ⟨hT, h⟩ := Common.ite_error_eq_ok.1 h
      obtain ⟨-, h⟩ := Common.ite_error_eq_ok.1 h
      cases h
      exact ⟨kt.1, kt.2, rfl, hT, rfl⟩

theorem angRegion_eq_zero_iff {u : P2} : angRegion u = 0 ↔ u.1 < 0 := by
  unfold angRegion
  by_cases h : u.1 < 0
  · simp [h]
  · rw [if_neg h]; split_ifs <;> simp [h]

theorem angRegion_eq_two_iff {u : P2} : angRegion u = 2 ↔ 0 < u.1 := by
  unfold angRegion
  by_cases h : 0 < u.1
  · simp [h, not_lt.mpr h.le]
  · rw [if_neg h]; split_ifs <;> simp [h]

theorem angLt_iff (u w : P2) : angLt u w = true ↔
    angRegion u < angRegion w ∨ (angRegion u = angRegion w ∧ (angRegion u = 0 ∨ angRegion u = 2) ∧ cross2 u w < 0) := by
  simp [angLt, and_assoc]

theorem angLt_asymm (u w : P2) (h : angLt u w = true) : angLt w u = false := by
  rw [Bool.eq_false_iff]
  intro h'
  rw [angLt_iff] at h h'
  rcases h with h | ⟨h1, _, h3⟩ <;> rcases h' with g | ⟨g1, _, g3⟩
  · omega
  · omega
  · omega
  · rw [cross2_antisymm] at g3; linarith

/-- in an open half plane `σ x > 0`, "not clockwise of" is transitive -/
theorem cross2_nonneg_trans (σ : Rat) (x y z : P2) (hx : 0 < σ * x.1) (hy : 0 < σ * y.1) (hz : 0 < σ * z.1)
    (c1 : 0 ≤ cross2 y x) (c2 : 0 ≤ cross2 z y) : 0 ≤ cross2 z x := by
  have key : cross2 z x * (σ * y.1) = cross2 y x * (σ * z.1) + cross2 z y * (σ * x.1) := by
    simp only [cross2]; ring
  have := add_nonneg (mul_nonneg c1 hz.le) (mul_nonneg c2 hx.le)
  rw [← key] at this
  exact (mul_nonneg_iff_of_pos_right hy).mp this

/-- negative transitivity: the order by `arctan2` is a weak order -/
theorem angLt_negtrans (z y x : P2) (h : angLt z x = true) : angLt y x = true ∨ angLt z y = true := by
  rw [angLt_iff] at h
  rw [angLt_iff, angLt_iff]
  rcases h with h | ⟨h1, h2, h3⟩
  · rcases Nat.lt_or_ge (angRegion y) (angRegion x) with hy | hy
    · exact Or.inl (Or.inl hy)
    · exact Or.inr (Or.inl (lt_of_lt_of_le h hy))
  · rcases Nat.lt_trichotomy (angRegion y) (angRegion x) with hy | hy | hy
    · exact Or.inl (Or.inl hy)
    · -- all three in the same open half plane
      obtain ⟨σ, hσ⟩ : ∃ σ : Rat, ∀ u : P2, angRegion u = angRegion z → 0 < σ * u.1 := by
        rcases h2 with h0 | h0
        · exact ⟨-1, fun u hu => by
            rw [neg_one_mul]; exact neg_pos.mpr (angRegion_eq_zero_iff.mp (hu.trans h0))⟩
        · exact ⟨1, fun u hu => by rw [one_mul]; exact angRegion_eq_two_iff.mp (hu.trans h0)⟩
      by_contra hc
      have c1 : 0 ≤ cross2 y x := not_lt.mp fun hlt =>
        hc (Or.inl (Or.inr ⟨hy, by rw [hy, ← h1]; exact h2, hlt⟩))
      have c2 : 0 ≤ cross2 z y := not_lt.mp fun hlt =>
        hc (Or.inr (Or.inr ⟨h1.trans hy.symm, h2, hlt⟩))
      exact absurd h3 (not_lt.mpr (cross2_nonneg_trans σ x y z (hσ x h1.symm)
        (hσ y (hy.trans h1.symm)) (hσ z rfl) c1 c2))
    · exact Or.inr (Or.inl (h1 ▸ hy))
/-- the order by `arctan2`: "not before" is transitive since `angLt` is a strict weak order -/
theorem insSort_angle : Common.InsSort (fun a b => angLt b.2 a.2 = false) insertByAngle sortByAngle where
  trans {a b c} hab hbc := by
    rw [Bool.eq_false_iff]
    intro hca
    rcases angLt_negtrans c.2 b.2 a.2 hca with h1 | h1
    · rw [hab] at h1; cases h1
    · rw [hbc] at h1; cases h1
  ins_nil _ := rfl
  ins_cons x y l := by
    simp only [insertByAngle]
    split
    · exact Or.inr ⟨angLt_asymm _ _ ‹_›, rfl⟩
    · exact Or.inl ⟨Bool.eq_false_iff.mpr ‹_›, rfl⟩
  srt_nil := rfl
  srt_cons _ _ := rfl

theorem sortByAngle_perm (l : List (Nat × P2)) : (sortByAngle l).Perm l := insSort_angle.perm l

theorem sortByAngle_sorted (l : List (Nat × P2)) :
    (sortByAngle l).Pairwise (fun a b => angLt b.2 a.2 = false) := insSort_angle.sorted l

end PorepyVerif.C31
