/-
C33 — property theorems (statements only depend on Model.lean; lemmas in Lemmas.lean on the pair functions,
LemmasLoop.lean on the double loop and the matrices, LemmasClip.lean on the area of clipped polygons).

Property: for two line tessellations of the same segment the reported overlaps are non-negative, sum
for each cell to its measure, and yield 'averaged' matching matrices whose rows sum to one and
'integrated' matrices whose columns sum to one.

Setting: `a = [a_0 < … < a_m]`, `b = [b_0 < … < b_n]` node parameters along the line with
`a_0 = b_0` and `a_m = b_n`; the cells are `cells a = [(a_0,a_1), …]`, `cells b`.
`lineTess ptol` is the double loop of `line_tessellation` over the collinear branch of `segments_3d`,
`ptol` the tolerance below which `segments_3d` answers with one point instead of a segment.

Hypotheses on the tolerance (`gapInc`, `sepNodes`; both decidable): cells are at least `ptol` long and
a node of `a` and a node of `b` either coincide or are at least `ptol` apart.  They are needed: an
overlap shorter than `ptol` is reported with weight 0 by the code, so that the sums are then only
correct up to `ptol` per pair.  For `ptol ≤ 0` they reduce to "strictly increasing".

The 2-D part (`triangulations`, `match_2d`) follows in the second half of the file; what it proves and
what it leaves to the oracle of harness/props/c33.py is said there.
-/
import PorepyVerif.C33.Lemmas
import PorepyVerif.C33.LemmasClip
import PorepyVerif.C44.Props

namespace PorepyVerif.C33

/-- Every reported overlap is non-negative — for arbitrary (also unsorted, overlapping) cell lists
    and any tolerance. -/
theorem line_tess_nonneg (ptol : Rat) (c1 c2 : List Cell) : ∀ t ∈ lineTess ptol c1 c2, 0 ≤ t.2.2 :=
  fun t ht => (tess_bounds _ (pairOverlap_nonneg ptol) c1 c2 0 t ht).2.2.2

/-- Reported indices are valid cell indices of the two tessellations. -/
theorem line_tess_indices (ptol : Rat) (c1 c2 : List Cell) :
    ∀ t ∈ lineTess ptol c1 c2, t.1 < c1.length ∧ t.2.1 < c2.length :=
  tessFrom_indices (pairOverlap ptol) c1 c2

/-- The total weight reported for the pair (cell `i` of `a`, cell `j` of `b`) — the `(i, j)` entry of the
    unscaled overlap matrix — is the length of the intersection of the two cells,
    `max 0 (min(a_{i+1}, b_{j+1}) - max(a_i, b_j))`. -/
theorem line_tess_entry_spec (ptol : Rat) (a b : List Rat) (ha : gapInc ptol a = true)
    (hb : gapInc ptol b = true) (hs : sepNodes ptol a b = true)
    (i j : Nat) (c d : Cell) (hc : (cells a)[i]? = some c) (hd : (cells b)[j]? = some d) :
    entry (lineTess ptol (cells a) (cells b)) i j = rmax 0 (rmin c.2 d.2 - rmax c.1 d.1) := by
  rw [lineTess_eq_X ptol a b ha hb hs]
  exact (entry_tessFrom pairOverlapX (cells a) (cells b) 0 i j c d hc hd).trans
    (ov_eq c.1 c.2 d.1 d.2 (cells_nodes ptol a ha c (List.mem_of_getElem? hc)).2.2.1.le
      (cells_nodes ptol b hb d (List.mem_of_getElem? hd)).2.2.1.le)

/-- ANY ORDER, rows: the row of a cell `c` of the tessellation `a` sums to its length whatever else the
    first cell list contains and in whatever order the cells of `b` are numbered (a row of the double loop
    only depends on its own cell and on the multiset of the other cells). -/
theorem line_tess_rowsum_anyorder (ptol : Rat) (a b : List Rat) (ha : gapInc ptol a = true)
    (hb : gapInc ptol b = true) (hs : sepNodes ptol a b = true)
    (h0 : a.head? = b.head?) (hl : a.getLast? = b.getLast?)
    (c1 ds : List Cell) (hperm : ds.Perm (cells b)) (i : Nat) (c : Cell) (hc : c1[i]? = some c)
    (hca : c ∈ cells a) : rowSum (lineTess ptol c1 ds) i = c.2 - c.1 := by
  calc rowSum (lineTess ptol c1 ds) i
      = (ds.map (ov (pairOverlap ptol) c)).sum := rowSum_tessFrom (pairOverlap ptol) c1 ds 0 i c hc
    _ = (ds.map (ov pairOverlapX c)).sum := congrArg List.sum (List.map_congr_left fun d hd =>
          congrArg (Option.getD · 0) (pairOverlap_cells ptol a b ha hb hs c hca d (hperm.mem_iff.mp hd)))
    _ = ((cells b).map (ov pairOverlapX c)).sum := (hperm.map _).sum_eq
    _ = c.2 - c.1 :=
          sum_ov_cover_row a b (gapInc_strictInc ptol a ha) (gapInc_strictInc ptol b hb) h0 hl c hca

/-- ANY ORDER, columns. -/
theorem line_tess_colsum_anyorder (ptol : Rat) (a b : List Rat) (ha : gapInc ptol a = true)
    (hb : gapInc ptol b = true) (hs : sepNodes ptol a b = true)
    (h0 : a.head? = b.head?) (hl : a.getLast? = b.getLast?)
    (cs c2 : List Cell) (hperm : cs.Perm (cells a)) (j : Nat) (d : Cell) (hd : c2[j]? = some d)
    (hdb : d ∈ cells b) : colSum (lineTess ptol cs c2) j = d.2 - d.1 :=
  calc colSum (lineTess ptol cs c2) j
      = (cs.map (fun c => ov (pairOverlap ptol) c d)).sum :=
          colSum_tessFrom (pairOverlap ptol) cs c2 0 j d hd
    _ = (cs.map (fun c => ov pairOverlapX c d)).sum := congrArg List.sum (List.map_congr_left fun c hc =>
          congrArg (Option.getD · 0) (pairOverlap_cells ptol a b ha hb hs c (hperm.mem_iff.mp hc) d hdb))
    _ = ((cells a).map (fun c => ov pairOverlapX c d)).sum := (hperm.map _).sum_eq
    _ = d.2 - d.1 :=
          sum_ov_cover_col a b (gapInc_strictInc ptol a ha) (gapInc_strictInc ptol b hb) h0 hl d hdb

/-- Row sums: the overlaps reported for cell `i` of the first tessellation add up to its measure. -/
theorem line_tess_rowsum (ptol : Rat) (a b : List Rat) (ha : gapInc ptol a = true)
    (hb : gapInc ptol b = true) (hs : sepNodes ptol a b = true)
    (h0 : a.head? = b.head?) (hl : a.getLast? = b.getLast?)
    (i : Nat) (c : Cell) (hc : (cells a)[i]? = some c) :
    rowSum (lineTess ptol (cells a) (cells b)) i = c.2 - c.1 :=
  line_tess_rowsum_anyorder ptol a b ha hb hs h0 hl (cells a) (cells b) (List.Perm.refl _) i c hc
    (List.mem_of_getElem? hc)

/-- Column sums: the overlaps reported for cell `j` of the second tessellation add up to its measure. -/
theorem line_tess_colsum (ptol : Rat) (a b : List Rat) (ha : gapInc ptol a = true)
    (hb : gapInc ptol b = true) (hs : sepNodes ptol a b = true)
    (h0 : a.head? = b.head?) (hl : a.getLast? = b.getLast?)
    (j : Nat) (d : Cell) (hd : (cells b)[j]? = some d) :
    colSum (lineTess ptol (cells a) (cells b)) j = d.2 - d.1 :=
  line_tess_colsum_anyorder ptol a b ha hb hs h0 hl (cells a) (cells b) (List.Perm.refl _) j d hd
    (List.mem_of_getElem? hd)

/-- `match_1d(new, old, tol, "averaged").toarray()`: every row sums to one. -/
theorem match_avg_rows_one (ptol : Rat) (a b : List Rat) (ha : gapInc ptol a = true)
    (hb : gapInc ptol b = true) (hs : sepNodes ptol a b = true)
    (h0 : a.head? = b.head?) (hl : a.getLast? = b.getLast?) :
    ∀ row ∈ match1d ptol .averaged (cells a) (cells b), row.sum = 1 := by
  refine avg_rows_one (fun i => cellVol ((cells a).getD i (0, 0))) _ _ _
    (fun t ht => (line_tess_indices ptol _ _ t ht).2) (fun i hi => ?_)
  have hc := List.getElem?_eq_getElem hi
  have hlt := (cells_nodes ptol a ha _ (List.mem_of_getElem? hc)).2.2.1
  rw [line_tess_rowsum ptol a b ha hb hs h0 hl i _ hc, List.getD_eq_getElem?_getD, hc, Option.getD_some,
    cellVol_of_le _ hlt.le]
  exact ⟨rfl, (sub_pos.mpr hlt).ne'⟩

/-- `match_1d(new, old, tol, "integrated").toarray()`: every column sums to one. -/
theorem match_int_cols_one (ptol : Rat) (a b : List Rat) (ha : gapInc ptol a = true)
    (hb : gapInc ptol b = true) (hs : sepNodes ptol a b = true)
    (h0 : a.head? = b.head?) (hl : a.getLast? = b.getLast?) :
    ∀ j, j < (cells b).length →
      colSumDense (match1d ptol .integrated (cells a) (cells b)) j = 1 := by
  refine int_cols_one (fun j => cellVol ((cells b).getD j (0, 0))) _ _ _
    (fun t ht => (line_tess_indices ptol _ _ t ht).1) (fun j hj => ?_)
  have hd := List.getElem?_eq_getElem hj
  have hlt := (cells_nodes ptol b hb _ (List.mem_of_getElem? hd)).2.2.1
  rw [line_tess_colsum ptol a b ha hb hs h0 hl j _ hd, List.getD_eq_getElem?_getD, hd, Option.getD_some,
    cellVol_of_le _ hlt.le]
  exact ⟨rfl, (sub_pos.mpr hlt).ne'⟩

/-- `match_1d` with an unknown `scaling` string (no `else` in the code): the matrix holds the overlap
    lengths, row `i` sums to the length of cell `i` of `a` -/
theorem match1d_other_row (ptol : Rat) (a b : List Rat) (ha : gapInc ptol a = true)
    (hb : gapInc ptol b = true) (hs : sepNodes ptol a b = true)
    (h0 : a.head? = b.head?) (hl : a.getLast? = b.getLast?) (i : Nat) (row : List Rat)
    (hrow : (match1d ptol .other (cells a) (cells b))[i]? = some row) :
    ∃ c, (cells a)[i]? = some c ∧ row.sum = c.2 - c.1 := by
  obtain ⟨hi, hsum⟩ := sum_getElem?_dense _ _ _ (fun t ht => (line_tess_indices ptol _ _ t ht).2) i row hrow
  have hc := List.getElem?_eq_getElem hi
  exact ⟨_, hc, hsum.trans (line_tess_rowsum ptol a b ha hb hs h0 hl i _ hc)⟩

/-- … in particular every row sums to the length of a cell of `a` -/
theorem match1d_other_rows (ptol : Rat) (a b : List Rat) (ha : gapInc ptol a = true)
    (hb : gapInc ptol b = true) (hs : sepNodes ptol a b = true)
    (h0 : a.head? = b.head?) (hl : a.getLast? = b.getLast?) :
    ∀ row ∈ match1d ptol .other (cells a) (cells b), ∃ c ∈ cells a, row.sum = c.2 - c.1 := by
  intro row hrow
  obtain ⟨i, hi⟩ := List.getElem?_of_mem hrow
  obtain ⟨c, hc, hsum⟩ := match1d_other_row ptol a b ha hb hs h0 hl i row hi
  exact ⟨c, List.mem_of_getElem? hc, hsum⟩

/-- the 1-D conclusions that need hypotheses, from the single decidable condition `hyp1d` (evaluated by
    the driver on every 1-D case): rows / columns of the overlaps sum to the cell lengths, averaged rows
    and integrated columns sum to one -/
theorem match1d_of_hyp (ptol : Rat) (a b : List Rat) (h : hyp1d ptol a b = true) :
    (∀ i c, (cells a)[i]? = some c → rowSum (lineTess ptol (cells a) (cells b)) i = c.2 - c.1) ∧
    (∀ j d, (cells b)[j]? = some d → colSum (lineTess ptol (cells a) (cells b)) j = d.2 - d.1) ∧
    (∀ row ∈ match1d ptol .averaged (cells a) (cells b), row.sum = 1) ∧
    (∀ j, j < (cells b).length → colSumDense (match1d ptol .integrated (cells a) (cells b)) j = 1) := by
  simp only [hyp1d, Bool.and_eq_true, decide_eq_true_eq] at h
  obtain ⟨⟨⟨⟨ha, hb⟩, hs⟩, h0⟩, hl⟩ := h
  exact ⟨fun i c hc => line_tess_rowsum ptol a b ha hb hs h0 hl i c hc,
    fun j d hd => line_tess_colsum ptol a b ha hb hs h0 hl j d hd,
    match_avg_rows_one ptol a b ha hb hs h0 hl, match_int_cols_one ptol a b ha hb hs h0 hl⟩

/-! ### non-vacuity: concrete tessellations (coincident interior node 1/2, touching cells, uneven
sizes); tolerance 1/100000000 as in the code -/

example : gapInc (1/100000000) [0, 1/2, 5/4, 2] = true ∧ gapInc (1/100000000) [0, 1/4, 1/2, 2] = true
    ∧ sepNodes (1/100000000) [0, 1/2, 5/4, 2] [0, 1/4, 1/2, 2] = true := by decide +kernel

example : hyp1d (1/100000000) [0, 1/2, 5/4, 2] [0, 1/4, 1/2, 2] = true := by decide +kernel

/-- the triples the real code reports for these node sets (weights in arc-length units), zero-weight
    touching pairs included; the matrices and the row sum below are computed from them -/
theorem lineTess_sample : lineTess (1/100000000) (cells [0, 1/2, 5/4, 2]) (cells [0, 1/4, 1/2, 2])
    = [(0, 0, 1/4), (0, 1, 1/4), (0, 2, 0), (1, 1, 0), (1, 2, 3/4), (2, 2, 3/4)] := by decide +kernel

example : lineTess (1/100000000) (cells [0, 1/2, 5/4, 2]) (cells [0, 1/4, 1/2, 2])
    = [(0, 0, 1/4), (0, 1, 1/4), (0, 2, 0), (1, 1, 0), (1, 2, 3/4), (2, 2, 3/4)] := lineTess_sample

example : match1d (1/100000000) .averaged (cells [0, 1/2, 5/4, 2]) (cells [0, 1/4, 1/2, 2])
    = [[1/2, 1/2, 0], [0, 0, 1], [0, 0, 1]] := by rw [match1d, lineTess_sample]; decide +kernel

example : match1d (1/100000000) .integrated (cells [0, 1/2, 5/4, 2]) (cells [0, 1/4, 1/2, 2])
    = [[1, 1, 0], [0, 0, 1/2], [0, 0, 1/2]] := by rw [match1d, lineTess_sample]; decide +kernel

example : match1d (1/100000000) .other (cells [0, 1/2, 5/4, 2]) (cells [0, 1/4, 1/2, 2])
    = [[1/4, 1/4, 0], [0, 0, 3/4], [0, 0, 3/4]] := by rw [match1d, lineTess_sample]; decide +kernel

example : rowSum (lineTess (1/100000000) (cells [0, 1/2, 5/4, 2]) (cells [0, 1/4, 1/2, 2])) 1
    = 5/4 - 1/2 := by rw [lineTess_sample]; decide +kernel

/-- cells of `b` numbered backwards, first list = one cell of `a` between two arbitrary intervals -/
example : rowSum (lineTess (1/100000000) [(7, 9), (1/2, 5/4), (0, 3)] [(1/2, 2), (1/4, 1/2), (0, 1/4)]) 1
    = 5/4 - 1/2 := by decide +kernel

/-- orientation of a cell does not matter to the code (it takes max/min itself) -/
example : lineTess (1/100000000) [(1/2, 0), (1/2, 2)] [(2, 1), (0, 1)]
    = [(0, 1, 1/2), (1, 0, 1), (1, 1, 1/2)] := by decide +kernel

/-- the hypothesis `sepNodes` is needed: nodes 1/2 and 1/2 + 10⁻⁹ are closer than the tolerance, the
    overlap of length 10⁻⁹ is reported with weight 0 and the row of cell 1 sums to 1/2 - 10⁻⁹. -/
example : sepNodes (1/100000000) [0, 1/2, 1] [0, 1/2 + 1/1000000000, 1] = false
    ∧ rowSum (lineTess (1/100000000) (cells [0, 1/2, 1]) (cells [0, 1/2 + 1/1000000000, 1])) 1
        = 1/2 - 1/1000000000 := by decide +kernel

/-! ## 2-D part: `_convex_polygons_common_area`, `triangulations`, `match_2d`

`commonArea S T` mirrors the implementation (Sutherland–Hodgman clipping of `S` against the half-planes
of `T`, shoelace area, absolute value).  Proved here, for ALL inputs:
  * the reported overlaps are positive, indices valid, and the dense overlap matrix has the entries
    `commonArea` (or 0 where the bounding-box filter skips the pair);
  * `clip_split` / `bsp_overlaps_sum`: cutting a cell by a line splits the overlap with any polygon `S`
    additively; hence for a tessellation obtained by successive cuts (binary space partition — e.g. an
    unperturbed structured triangle grid: vertical, horizontal and diagonal lines), with the cells
    represented by the half-planes along the path, the overlaps with `S` sum to the area of `S`;
  * the clipped polygon of a convex counter-clockwise `S` has non-negative shoelace area;
  * `match_2d`'s averaged rows / integrated columns sum to one IF the row / column sums of
    `triangulations` equal the (positive) cell areas.
NOT proved (what remains for "Σ_t area(S ∩ t) = area(S)" for two arbitrary triangulations): that the
shoelace area of the clipping result depends only on the point set `S ∩ T` — i.e. independence of the
order of the half-planes and of redundant half-planes (which would identify the BSP cell of a triangle
with the triangle's own three half-planes as the code uses them), symmetry
`commonArea S T = commonArea T S`, and that the bounding-box filter only skips pairs with overlap 0.
These are covered by the correspondence (model = code on every generated pair) and by the oracle
(sums = measures on the real code). -/

open PorepyVerif.C44 (Pt HP area2 shClip2 halfPlanes ConvexCCW)

/-- what `triangulations` reports: the triple `(i, j, w)` stands for the pair `ps[i]`, `qs[j]`, and `w` is its
    common area, which is positive (the `area > 0` filter) -/
theorem tri_tess_spec (ps qs : List Poly) (t : Triple) (ht : t ∈ triTess ps qs) :
    ∃ S T, ps[t.1]? = some S ∧ qs[t.2.1]? = some T ∧ 0 < t.2.2 ∧ t.2.2 = commonArea S T := by
  obtain ⟨i, j, S, T, hS, hT, hv, h1, h2⟩ := mem_tessFrom triPair ps qs 0 t ht
  obtain ⟨hpos, heq⟩ := triPair_some S T _ hv
  exact ⟨S, T, h1 ▸ hS, h2 ▸ hT, hpos, heq⟩

/-- every overlap reported by `triangulations` is positive and is the common area of a triangle of the first
    and a triangle of the second triangulation -/
theorem tri_tess_pos (ps qs : List Poly) :
    ∀ t ∈ triTess ps qs, 0 < t.2.2 ∧ ∃ S ∈ ps, ∃ T ∈ qs, t.2.2 = commonArea S T := by
  intro t ht
  obtain ⟨S, T, hS, hT, hpos, heq⟩ := tri_tess_spec ps qs t ht
  exact ⟨hpos, S, List.mem_of_getElem? hS, T, List.mem_of_getElem? hT, heq⟩

theorem tri_tess_indices (ps qs : List Poly) :
    ∀ t ∈ triTess ps qs, t.1 < ps.length ∧ t.2.1 < qs.length :=
  tessFrom_indices triPair ps qs

/-- entry `(i, j)` of the dense overlap matrix of `triangulations` -/
theorem tri_tess_entry (ps qs : List Poly) (i j : Nat) (S T : Poly) (hS : ps[i]? = some S)
    (hT : qs[j]? = some T) :
    entry (triTess ps qs) i j = if outsideBox S T = true then 0 else commonArea S T :=
  (entry_tessFrom triPair ps qs 0 i j S T hS hT).trans (ov_triPair S T)

/-- the overlaps reported for triangle `i` of the first triangulation add up to the sum of its common
    areas with the candidate triangles of the second -/
theorem tri_tess_rowsum_eq (ps qs : List Poly) (i : Nat) (S : Poly) (hS : ps[i]? = some S) :
    rowSum (triTess ps qs) i
      = (qs.map (fun T => if outsideBox S T = true then 0 else commonArea S T)).sum :=
  (rowSum_tessFrom triPair ps qs 0 i S hS).trans
    (congrArg List.sum (List.map_congr_left fun T _ => ov_triPair S T))

theorem tri_tess_colsum_eq (ps qs : List Poly) (j : Nat) (T : Poly) (hT : qs[j]? = some T) :
    colSum (triTess ps qs) j
      = (ps.map (fun S => if outsideBox S T = true then 0 else commonArea S T)).sum :=
  (colSum_tessFrom triPair ps qs 0 j T hT).trans
    (congrArg List.sum (List.map_congr_left fun S _ => ov_triPair S T))

/-- Sutherland–Hodgman keeps a convex counter-clockwise polygon convex counter-clockwise, and such a
    polygon has non-negative shoelace area: no absolute value is needed for ccw `S`. -/
theorem clip_area2_nonneg (hs : List HP) (S : Poly) (hc : ConvexCCW S) : 0 ≤ clipArea2 hs S :=
  area2_nonneg_of_convex _ (C44.sh2_convex hs S hc)

theorem common_area_eq_clip (S T : Poly) (hc : ConvexCCW S) :
    commonArea S T = clipArea2 (halfPlanes T) S / 2 := by
  unfold commonArea
  rw [rabs_of_nonneg _ (clip_area2_nonneg _ S hc)]

/-- SPLIT: cutting the cell `hs` by the line of `h` splits its overlap with ANY closed vertex list `S`
    additively (twice the signed areas; no convexity needed). -/
theorem clip_split (hs : List HP) (h : HP) (hnd : nondeg h = true) (S : Poly) :
    clipArea2 (hs ++ [h]) S + clipArea2 (hs ++ [negHP h]) S = clipArea2 hs S := by
  simp only [clipArea2, C44.shClip2_snoc]
  exact clip12_split h hnd _

/-- the overlaps of `S` with the cells of a binary space partition of the cell `hs` add up to the
    overlap with `hs` -/
theorem bsp_overlaps_sum (t : BSP) (hwf : t.wf = true) (hs : List HP) (S : Poly) :
    ((t.cells hs).map (fun c => clipArea2 c S)).sum = clipArea2 hs S := by
  induction t generalizing hs with
  | leaf => simp [BSP.cells]
  | node h l r ihl ihr =>
    simp only [BSP.wf, Bool.and_eq_true] at hwf
    simp only [BSP.cells, List.map_append, List.sum_append]
    rw [ihl hwf.1.2, ihr hwf.2]
    exact clip_split hs h hwf.1.1 S

/-- … in particular a partition of the whole plane: the overlaps add up to the area of `S`. -/
theorem bsp_overlaps_sum_all (t : BSP) (hwf : t.wf = true) (S : Poly) :
    ((t.cells []).map (fun c => clipArea2 c S)).sum = area2 S :=
  bsp_overlaps_sum t hwf [] S

/-- `match_2d(…, "averaged")`: rows sum to one, PROVIDED the overlaps of every cell of the new grid sum
    to its (positive) area — the tessellation property, which is what remains unproved in general. -/
theorem match2d_avg_rows_one_of_rowsum (ps qs : List Poly)
    (hsum : ∀ i S, ps[i]? = some S → rowSum (triTess ps qs) i = polyArea S ∧ 0 < polyArea S) :
    ∀ row ∈ match2d .averaged ps qs, row.sum = 1 := by
  refine avg_rows_one (fun i => (ps.map polyArea).getD i 0) _ _ _
    (fun t ht => (tri_tess_indices ps qs t ht).2) (fun i hi => ?_)
  have hS := List.getElem?_eq_getElem hi
  rw [getD_map_polyArea ps i _ hS]
  exact ⟨(hsum i _ hS).1, (hsum i _ hS).2.ne'⟩

/-- `match_2d(…, "integrated")`: columns sum to one under the corresponding hypothesis. -/
theorem match2d_int_cols_one_of_colsum (ps qs : List Poly)
    (hsum : ∀ j T, qs[j]? = some T → colSum (triTess ps qs) j = polyArea T ∧ 0 < polyArea T) :
    ∀ j, j < qs.length → colSumDense (match2d .integrated ps qs) j = 1 := by
  refine int_cols_one (fun j => (qs.map polyArea).getD j 0) _ _ _
    (fun t ht => (tri_tess_indices ps qs t ht).1) (fun j hj => ?_)
  have hT := List.getElem?_eq_getElem hj
  rw [getD_map_polyArea qs j _ hT]
  exact ⟨(hsum j _ hT).1, (hsum j _ hT).2.ne'⟩

/-- 2-D, decidable condition in place of the hypothesis of `match2d_avg_rows_one_of_rowsum`:
    `rowsOk` is computed by the driver for every generated pair of triangulations. -/
theorem match2d_avg_rows_one_of_check (ps qs : List Poly) (h : rowsOk ps qs = true) :
    ∀ row ∈ match2d .averaged ps qs, row.sum = 1 := by
  apply match2d_avg_rows_one_of_rowsum
  intro i S hS
  have := List.all_eq_true.mp h i (List.mem_range.mpr (List.getElem?_eq_some_iff.mp hS).1)
  rw [List.getD_eq_getElem?_getD, hS] at this
  simpa using this

theorem match2d_int_cols_one_of_check (ps qs : List Poly) (h : colsOk ps qs = true) :
    ∀ j, j < qs.length → colSumDense (match2d .integrated ps qs) j = 1 := by
  apply match2d_int_cols_one_of_colsum
  intro j T hT
  have := List.all_eq_true.mp h j (List.mem_range.mpr (List.getElem?_eq_some_iff.mp hT).1)
  rw [List.getD_eq_getElem?_getD, hT] at this
  simpa using this

/-- `match_2d` returns a matrix exactly when both grids are simplex grids in one plane and the scaling
    is one of the three known ones; it is then the matrix of `match2d`. -/
theorem match2d_entry_spec (sn so cp : Bool) (mode : Scaling) (ps qs : List Poly) (M : List (List Rat)) :
    match2dEntry sn so cp mode ps qs = some M ↔
      (sn = true ∧ so = true ∧ cp = true ∧ (∀ _h : mode = .other, False) ∧ M = match2d mode ps qs) := by
  unfold match2dEntry
  cases sn
  · simp
  cases so
  · simp
  cases cp
  · simp
  cases mode <;> simp [eq_comm]

/-! ### non-vacuity (2-D) -/

def triLL : Poly := [⟨0, 0⟩, ⟨1, 0⟩, ⟨0, 1⟩]          -- lower left half of the unit square
def triLR : Poly := [⟨0, 0⟩, ⟨1, 0⟩, ⟨1, 1⟩]          -- the other diagonal: lower right half
def triUL : Poly := [⟨0, 0⟩, ⟨1, 1⟩, ⟨0, 1⟩]
def triUR : Poly := [⟨1, 0⟩, ⟨1, 1⟩, ⟨0, 1⟩]

/-- two triangulations of the unit square by its two diagonals: every pair overlaps in 1/4; the clipping
    is evaluated here only, the matrix and the two checks below start from these triples -/
theorem triTess_sample : triTess [triLL, triUR] [triLR, triUL]
    = [(0, 0, 1/4), (0, 1, 1/4), (1, 0, 1/4), (1, 1, 1/4)] := by decide +kernel

example : triTess [triLL, triUR] [triLR, triUL]
    = [(0, 0, 1/4), (0, 1, 1/4), (1, 0, 1/4), (1, 1, 1/4)] := triTess_sample

example : match2d .averaged [triLL, triUR] [triLR, triUL] = [[1/2, 1/2], [1/2, 1/2]] := by
  rw [match2d, triTess_sample]; decide +kernel

/-- triangles that only share an edge are not reported (`area > 0`), clockwise input is handled -/
example : triTess [triLR] [triUL, triUL.reverse, triLR.reverse] = [(0, 2, 1/2)] := by decide +kernel

/-- a BSP of the plane: the diagonal `x = y`, then on one side the line `x + y = 1`; the overlaps of
    `triLL` with the three cells are 1/2, 0 and 1/2 (twice the areas 1/4, 0, 1/4) and sum to `area2 triLL = 1` -/
example : ((BSP.node ⟨1, -1, 0⟩ (BSP.node ⟨1, 1, 1⟩ .leaf .leaf) .leaf).cells []).map
      (fun c => clipArea2 c triLL) = [1/2, 0, 1/2] ∧ area2 triLL = 1 := by decide +kernel

example : rowsOk [triLL, triUR] [triLR, triUL] = true ∧ colsOk [triLL, triUR] [triLR, triUL] = true := by
  rw [rowsOk, colsOk, triTess_sample]; decide +kernel

/-- the condition fails when the second set does not cover the first -/
example : rowsOk [triLL, triUR] [triLR] = false := by decide +kernel

example : match2dEntry true true true .other [triLL] [triLR] = none
    ∧ match2dEntry true false true .averaged [triLL] [triLR] = none
    ∧ match2dEntry true true true .averaged [triLL] [triLR] = some [[1/2]] := by decide +kernel

end PorepyVerif.C33
