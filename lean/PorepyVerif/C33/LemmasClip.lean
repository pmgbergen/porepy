/-
C33 — the shoelace area of a polygon clipped by a line.

Shoelace sums along chains (`pathSum`, `cycSum`); Sutherland–Hodgman against one line is edge-local when the
origin of the shoelace weights is on the line (`area2_clip1`); hence the two sides of a line add up
(`clip12_split`).  The clipping is that of the C44 model; what one edge contributes is stated there
(`C44.shEdge2_in` … `C44.shEdge2_out`).
-/
import PorepyVerif.C33.Model
import PorepyVerif.C44.LemmasSH
import Mathlib.Tactic.SplitIfs
import Mathlib.Algebra.Order.BigOperators.Group.List

namespace PorepyVerif.C33

open PorepyVerif.C44 (Pt HP cross area2 edges edgesAux shEdge2 walk2 shClip12 lerp2 leftOf ConvexCCW crossPt
  eval_crossPt shEdge2_in shEdge2_in_cross shEdge2_out_in shEdge2_out)

/-- sum of `w` over the consecutive pairs of the open chain `p, x₁, x₂, …` -/
def pathSum (w : Pt → Pt → Rat) : Pt → List Pt → Rat
  | _, [] => 0
  | p, x :: xs => w p x + pathSum w x xs

/-- sum of `w` over the edges of the closed polygon -/
def cycSum (w : Pt → Pt → Rat) : List Pt → Rat
  | [] => 0
  | a :: rest => pathSum w a (rest ++ [a])

def lastD : Pt → List Pt → Pt
  | p, [] => p
  | _, x :: xs => lastD x xs

/-- shoelace weight with respect to the origin `O` -/
def wO (O A B : Pt) : Rat := cross (A.sub O) (B.sub O)

theorem pathSum_append (w : Pt → Pt → Rat) (p : Pt) (A B : List Pt) :
    pathSum w p (A ++ B) = pathSum w p A + pathSum w (lastD p A) B := by
  induction A generalizing p with
  | nil => simp [pathSum, lastD]
  | cons x A ih => simp only [List.cons_append, pathSum, lastD, ih]; ring

theorem lastD_snoc (p a : Pt) (A : List Pt) : lastD p (A ++ [a]) = a := by
  induction A generalizing p with
  | nil => rfl
  | cons x A ih => exact ih x

theorem sum_edgesAux (w : Pt → Pt → Rat) (first p : Pt) (l : List Pt) :
    ((edgesAux first (p :: l)).map (fun e => w e.1 e.2)).sum = pathSum w p (l ++ [first]) := by
  induction l generalizing p with
  | nil => simp [edgesAux, pathSum]
  | cons x l ih =>
    simp only [edgesAux, List.map_cons, List.sum_cons, List.cons_append, pathSum]
    rw [ih x]

theorem sum_edges (w : Pt → Pt → Rat) (L : List Pt) :
    ((edges L).map (fun e => w e.1 e.2)).sum = cycSum w L := by
  cases L with
  | nil => simp [edges, cycSum]
  | cons a rest => simp only [edges, cycSum]; exact sum_edgesAux w a a rest

theorem area2_eq_cycSum (L : List Pt) : area2 L = cycSum cross L := by
  rw [area2, ← List.sum_eq_foldl]
  exact sum_edges cross L

theorem wO_eq (O A B : Pt) : wO O A B = cross A B + cross O A - cross O B := by
  simp only [wO, cross, Pt.sub]; ring

theorem pathSum_wO (O p : Pt) (l : List Pt) :
    pathSum (wO O) p l = pathSum cross p l + cross O p - cross O (lastD p l) := by
  induction l generalizing p with
  | nil => simp [pathSum, lastD]
  | cons x l ih => simp only [pathSum, lastD, ih, wO_eq]; ring

/-- the shoelace sum of a closed polygon does not depend on the origin -/
theorem cycSum_wO (O : Pt) (L : List Pt) : cycSum (wO O) L = area2 L := by
  rw [area2_eq_cycSum]
  cases L with
  | nil => rfl
  | cons a rest =>
    simp only [cycSum]
    rw [pathSum_wO, lastD_snoc, add_sub_cancel_right]

theorem wO_eq_leftOf (V A B : Pt) : wO V A B = leftOf A B V := by
  simp only [wO, leftOf, cross, Pt.sub]; ring

theorem area2_nonneg_of_convex (L : List Pt) (hc : ConvexCCW L) : 0 ≤ area2 L := by
  cases L with
  | nil => simp [area2, edges]
  | cons a rest =>
    rw [← cycSum_wO a, ← sum_edges]
    apply List.sum_nonneg
    intro x hx
    obtain ⟨e, he, rfl⟩ := List.mem_map.mp hx
    show 0 ≤ wO a e.1 e.2
    rw [wO_eq_leftOf]
    exact hc a List.mem_cons_self e he

/-! Sutherland–Hodgman against one line: the shoelace sum of the output is edge-local.

With the origin of the shoelace weights ON the cutting line, the chords the algorithm inserts along the
line have weight 0 (`W1`), so the area of the clipped polygon is the sum over the INPUT edges of the
weight of the part of the edge inside the half-plane (`cIn`). -/

/-- weight of the part of the edge `P → Q` inside the half-plane `h` -/
def cIn (w : Pt → Pt → Rat) (h : HP) (P Q : Pt) : Rat :=
  if h.eval P ≤ 0 then
    (if h.eval P < 0 ∧ 0 < h.eval Q then w P (crossPt h P Q)
     else if h.eval Q ≤ 0 then w P Q else 0)
  else (if h.eval Q < 0 then w (crossPt h P Q) Q else 0)

/-- the last vertex of the chain, if it is inside: it is emitted by the NEXT step of the walk -/
def finalIn (h : HP) (cur : Pt) (nxts : List Pt) : List Pt :=
  if h.eval (lastD cur nxts) ≤ 0 then [lastD cur nxts] else []

theorem finalIn_cons (h : HP) (cur n : Pt) (rest : List Pt) :
    finalIn h cur (n :: rest) = finalIn h n rest := rfl

/-- a chain that ends in `a` leaves `a`, if inside, to the next step -/
theorem finalIn_snoc (h : HP) (cur a : Pt) (A : List Pt) :
    finalIn h cur (A ++ [a]) = if h.eval a ≤ 0 then [a] else [] := by
  rw [finalIn, lastD_snoc]

/-- invariant of the walk: `E` = last vertex emitted before, on the line whenever `cur` is outside -/
theorem walk_inv (w : Pt → Pt → Rat) (h : HP)
    (W1 : ∀ A B, h.eval A = 0 → h.eval B = 0 → w A B = 0)
    (nxts : List Pt) (cur E : Pt) (hE : 0 < h.eval cur → h.eval E = 0) :
    pathSum w E (walk2 h cur nxts ++ finalIn h cur nxts)
      = (if h.eval cur ≤ 0 then w E cur else 0) + pathSum (cIn w h) cur nxts := by
  induction nxts generalizing cur E with
  | nil =>
    show pathSum w E ([] ++ (if h.eval cur ≤ 0 then [cur] else [])) = _
    simp only [List.nil_append, pathSum, add_zero]
    split_ifs <;> simp [pathSum]
  | cons n rest ih =>
    simp only [walk2, finalIn_cons, pathSum, List.append_assoc]
    rw [pathSum_append]
    rcases le_or_gt (h.eval cur) 0 with hp | hp
    · by_cases hx : h.eval cur < 0 ∧ 0 < h.eval n
      · rw [shEdge2_in_cross h cur n hx.1 hx.2, lastD, lastD, lastD,
          ih n _ (fun _ => eval_crossPt h cur n (hx.1.trans hx.2).ne)]
        simp only [pathSum, cIn, if_pos hp, if_pos hx, if_neg (not_le_of_gt hx.2)]
        ring
      · have hon : 0 < h.eval n → h.eval cur = 0 := fun hn =>
          le_antisymm hp (not_lt.mp fun hc => hx ⟨hc, hn⟩)
        rw [shEdge2_in h cur n hp hon, lastD, lastD, ih n cur hon]
        simp only [pathSum, cIn, if_pos hp, if_neg hx]
        ring
    · have hE0 := hE hp
      rcases lt_or_ge (h.eval n) 0 with hq | hq
      · rw [shEdge2_out_in h cur n hp hq, lastD, lastD, ih n _ (fun hn => absurd hn (not_lt_of_gt hq))]
        simp only [pathSum, cIn, if_neg (not_le_of_gt hp), if_pos hq, if_pos hq.le,
          W1 E _ hE0 (eval_crossPt h cur n (hq.trans hp).ne')]
        ring
      · rw [shEdge2_out h cur n hp hq, lastD, ih n E (fun _ => hE0)]
        simp only [pathSum, cIn, if_neg (not_le_of_gt hp), if_neg (not_lt_of_ge hq)]
        split_ifs with h0
        · rw [W1 E n hE0 (le_antisymm h0 hq)]
        · rfl

theorem walk2_append (h : HP) (p : Pt) (A B : List Pt) :
    walk2 h p (A ++ B) = walk2 h p A ++ walk2 h (lastD p A) B := by
  induction A generalizing p with
  | nil => rfl
  | cons x A ih => simp only [List.cons_append, walk2, lastD, ih, List.append_assoc]

theorem wO_self_left (O X : Pt) : wO O O X = 0 := by simp [wO, cross, Pt.sub]

theorem nondeg_iff (h : HP) : nondeg h = true ↔ h.a ≠ 0 ∨ h.b ≠ 0 := by
  simp only [nondeg, Bool.not_eq_true', Bool.and_eq_false_iff, decide_eq_false_iff_not]

/-- shoelace weights with the origin on the line vanish between points of the line -/
theorem wO_on_line (h : HP) (hnd : nondeg h = true) (O : Pt) (hO : h.eval O = 0) (A B : Pt)
    (hA : h.eval A = 0) (hB : h.eval B = 0) : wO O A B = 0 := by
  simp only [HP.eval] at hO hA hB
  simp only [wO, cross, Pt.sub]
  -- (A - O) and (B - O) are both orthogonal to (a, b) ≠ 0, hence parallel
  rcases (nondeg_iff h).mp hnd with ha | hb
  · apply mul_left_cancel₀ ha
    linear_combination (B.y - O.y) * (hA - hO) - (A.y - O.y) * (hB - hO)
  · apply mul_left_cancel₀ hb
    linear_combination (A.x - O.x) * (hB - hO) - (B.x - O.x) * (hA - hO)

theorem exists_on_line (h : HP) (hnd : nondeg h = true) : ∃ O : Pt, h.eval O = 0 := by
  rcases (nondeg_iff h).mp hnd with ha | hb
  · exact ⟨⟨h.c / h.a, 0⟩, by rw [HP.eval, mul_div_cancel₀ _ ha, mul_zero, add_zero, sub_self]⟩
  · exact ⟨⟨0, h.c / h.b⟩, by rw [HP.eval, mul_div_cancel₀ _ hb, mul_zero, zero_add, sub_self]⟩

/-- EDGE-LOCAL FORMULA: the shoelace area of the polygon clipped by one half-plane is the sum over the
    input edges of the weight of their inside parts (origin `O` on the line) -/
theorem area2_clip1 (h : HP) (hnd : nondeg h = true) (O : Pt) (hO : h.eval O = 0) (a : Pt) (rest : List Pt) :
    area2 (shClip12 h (a :: rest)) = cycSum (cIn (wO O) h) (a :: rest) := by
  have W1 := wO_on_line h hnd O hO
  have hN : lastD a (rest ++ [a]) = a := lastD_snoc a a rest
  have hfin : finalIn h a ((rest ++ [a]) ++ (rest ++ [a])) = finalIn h a (rest ++ [a]) := by
    rw [← List.append_assoc, finalIn_snoc, finalIn_snoc]
  -- The invariant, started at `O`, for the walk once and twice round the polygon.  The second walk of the
  -- two produces the output again, now preceded by its own last vertex, and costs as much as the first:
  -- the difference of the two equations is the sum over the closed output polygon.
  have inv1 := walk_inv (wO O) h W1 (rest ++ [a]) a O (fun _ => hO)
  have inv2 := walk_inv (wO O) h W1 ((rest ++ [a]) ++ (rest ++ [a])) a O (fun _ => hO)
  rw [hfin, walk2_append, pathSum_append (cIn (wO O) h), hN, List.append_assoc] at inv2
  rw [← cycSum_wO O, shClip12, cycSum]
  generalize pathSum (cIn (wO O) h) a (rest ++ [a]) = C at inv1 inv2 ⊢
  generalize walk2 h a (rest ++ [a]) = out at inv1 inv2 ⊢
  generalize finalIn h a (rest ++ [a]) = fin at inv1 inv2
  cases out with
  | nil =>
    simp only [List.nil_append] at inv1 inv2
    simp only [cycSum]
    linear_combination inv2 - inv1
  | cons F tl =>
    simp only [List.cons_append, pathSum, pathSum_append, wO_self_left, zero_add] at inv1 inv2
    simp only [cycSum, pathSum_append, pathSum, add_zero]
    linear_combination inv2 - inv1

theorem eval_negHP (h : HP) (X : Pt) : (negHP h).eval X = -h.eval X := by
  simp only [negHP, HP.eval]; ring

theorem nondeg_negHP (h : HP) (hnd : nondeg h = true) : nondeg (negHP h) = true := by
  rw [nondeg_iff] at hnd ⊢
  simpa only [negHP, ne_eq, neg_eq_zero] using hnd

theorem wO_split (O P Q : Pt) (t : Rat) : wO O P (lerp2 P Q t) + wO O (lerp2 P Q t) Q = wO O P Q := by
  simp only [wO, cross, Pt.sub, lerp2]; ring

theorem crossPt_negHP (h : HP) (P Q : Pt) : crossPt (negHP h) P Q = crossPt h P Q := by
  rw [crossPt, crossPt, eval_negHP, eval_negHP, show -h.eval P - -h.eval Q = -(h.eval P - h.eval Q) by ring,
    neg_div_neg_eq]

/-- the inside parts of an edge with respect to a half-plane and its complement make up the edge -/
theorem cIn_split (h : HP) (O : Pt) (W1 : ∀ A B, h.eval A = 0 → h.eval B = 0 → wO O A B = 0) (P Q : Pt) :
    cIn (wO O) h P Q + cIn (wO O) (negHP h) P Q = wO O P Q := by
  simp only [cIn, crossPt_negHP, eval_negHP, neg_nonpos, neg_pos, Left.neg_neg_iff]
  rcases lt_trichotomy (h.eval P) 0 with hp | hp | hp <;>
    rcases lt_trichotomy (h.eval Q) 0 with hq | hq | hq
  · simp [le_of_lt hp, le_of_lt hq, not_lt_of_gt hq, not_le_of_gt hp]
  · simp [le_of_lt hp, hq, not_le_of_gt hp]
  · simp [le_of_lt hp, hp, hq, not_le_of_gt hp]
    exact wO_split O P Q _
  · simp [hp, le_of_lt hq, not_lt_of_gt hq, not_le_of_gt hq]
  · simp [hp, hq, W1 P Q hp hq]
  · simp [hp, hq, not_le_of_gt hq, le_of_lt hq]
  · simp [not_le_of_gt hp, hq, le_of_lt hp, hp]
    rw [add_comm]; exact wO_split O P Q _
  · simp [not_le_of_gt hp, hq, le_of_lt hp]
  · simp [not_le_of_gt hp, not_lt_of_gt hq, le_of_lt hp, le_of_lt hq]

theorem pathSum_cIn_split (h : HP) (O : Pt) (W1 : ∀ A B, h.eval A = 0 → h.eval B = 0 → wO O A B = 0)
    (p : Pt) (l : List Pt) :
    pathSum (cIn (wO O) h) p l + pathSum (cIn (wO O) (negHP h)) p l = pathSum (wO O) p l := by
  induction l generalizing p with
  | nil => simp [pathSum]
  | cons q l ih =>
    simp only [pathSum]
    rw [← ih q, ← cIn_split h O W1 p q]; ring

/-- SPLIT: clipping a polygon (any closed vertex list) by a half-plane and by the complementary
    half-plane gives two polygons whose shoelace areas add up to that of the polygon -/
theorem clip12_split (h : HP) (hnd : nondeg h = true) (L : List Pt) :
    area2 (shClip12 h L) + area2 (shClip12 (negHP h) L) = area2 L := by
  cases L with
  | nil => simp [shClip12, area2, edges]
  | cons a rest =>
    obtain ⟨O, hO⟩ := exists_on_line h hnd
    have hO' : (negHP h).eval O = 0 := by rw [eval_negHP, hO, neg_zero]
    rw [area2_clip1 h hnd O hO, area2_clip1 (negHP h) (nondeg_negHP h hnd) O hO', ← cycSum_wO O]
    exact pathSum_cIn_split h O (wO_on_line h hnd O hO) a (rest ++ [a])
end PorepyVerif.C33
