/-
C33 — the double loop `tessFrom` and the matrices of its triples, for any pair function `f`.

`mem_tessFrom` says what is reported (one triple `(i, j, w)` for every pair with `f cs[i] ds[j] = some w`).
Row sums, column sums and entries of the reported triples are sums of the weights `ov f c d` over the cell
lists (`rowSum_tessFrom`, `colSum_tessFrom`, `entry_tessFrom`); row (column) sums of `dense m n T` are
`rowSum T` (`colSum T`) for indices in range, whence `avg_rows_one`, `int_cols_one`.
-/
import PorepyVerif.C33.Model
import Mathlib.Tactic.SplitIfs
import Mathlib.Tactic.Ring
import Mathlib.Algebra.Order.Field.Rat
import Mathlib.Data.List.Nodup
import Mathlib.Algebra.BigOperators.Group.List.Basic

namespace PorepyVerif.C33

/-- weight contributed by the pair `(c, d)`: the reported weight, 0 if the pair is not reported -/
def ov {α β : Type} (f : α → β → Option Rat) (c : α) (d : β) : Rat := (f c d).getD 0

/-- what the inner loop reports: one triple for every reported pair.  Here and below loop indices are written
    `j + j0`, `i + k`: at the start value 0 of the counter that is `j`, `i` by definition. -/
theorem mem_rowTess {α β : Type} (f : α → β → Option Rat) (i : Nat) (c : α) (ds : List β) (j0 : Nat)
    (t : Triple) (ht : t ∈ rowTess f i c j0 ds) :
    ∃ j d, ds[j]? = some d ∧ f c d = some t.2.2 ∧ t.1 = i ∧ t.2.1 = j + j0 := by
  induction ds generalizing j0 with
  | nil => cases ht
  | cons d ds ih =>
    have tail : t ∈ rowTess f i c (j0 + 1) ds →
        ∃ j d', (d :: ds)[j]? = some d' ∧ f c d' = some t.2.2 ∧ t.1 = i ∧ t.2.1 = j + j0 := fun h =>
      let ⟨j, d', h1, h2, h3, h4⟩ := ih (j0 + 1) h
      ⟨j + 1, d', List.getElem?_cons_succ.trans h1, h2, h3, h4.trans (Nat.add_right_comm j j0 1)⟩
    rw [rowTess] at ht
    cases h : f c d with
    | none => rw [h] at ht; exact tail ht
    | some w =>
      rw [h] at ht
      rcases List.mem_cons.mp ht with rfl | ht
      · exact ⟨0, d, rfl, h, rfl, (Nat.zero_add j0).symm⟩
      · exact tail ht

theorem mem_tessFrom {α β : Type} (f : α → β → Option Rat) (cs : List α) (ds : List β) (k : Nat)
    (t : Triple) (ht : t ∈ tessFrom f k cs ds) :
    ∃ i j c d, cs[i]? = some c ∧ ds[j]? = some d ∧ f c d = some t.2.2 ∧ t.1 = i + k ∧ t.2.1 = j := by
  induction cs generalizing k with
  | nil => cases ht
  | cons c cs ih =>
    rw [tessFrom] at ht
    rcases List.mem_append.mp ht with ht | ht
    · obtain ⟨j, d, hd, hv, h1, h2⟩ := mem_rowTess f k c ds 0 t ht
      exact ⟨0, j, c, d, rfl, hd, hv, h1.trans (Nat.zero_add k).symm, h2⟩
    · obtain ⟨i, j, c', d, hc, hd, hv, h1, h2⟩ := ih (k + 1) ht
      exact ⟨i + 1, j, c', d, List.getElem?_cons_succ.trans hc, hd, hv, h1.trans (Nat.add_right_comm i k 1), h2⟩

theorem tessFrom_indices {α β : Type} (f : α → β → Option Rat) (cs : List α) (ds : List β) :
    ∀ t ∈ tessFrom f 0 cs ds, t.1 < cs.length ∧ t.2.1 < ds.length := by
  intro t ht
  obtain ⟨i, j, c, d, hc, hd, _, h1, h2⟩ := mem_tessFrom f cs ds 0 t ht
  rw [h1, h2]
  exact ⟨(List.getElem?_eq_some_iff.mp hc).1, (List.getElem?_eq_some_iff.mp hd).1⟩

theorem tess_mem_val {α β : Type} (f : α → β → Option Rat) (cs : List α) (ds : List β) (k : Nat)
    (t : Triple) (ht : t ∈ tessFrom f k cs ds) : ∃ c ∈ cs, ∃ d ∈ ds, f c d = some t.2.2 := by
  obtain ⟨_, _, c, d, hc, hd, hv, _⟩ := mem_tessFrom f cs ds k t ht
  exact ⟨c, List.mem_of_getElem? hc, d, List.mem_of_getElem? hd, hv⟩

theorem tess_bounds {α β : Type} (f : α → β → Option Rat) (hf : ∀ c d w, f c d = some w → 0 ≤ w)
    (cs : List α) (ds : List β) (k : Nat) (t : Triple) (ht : t ∈ tessFrom f k cs ds) :
    k ≤ t.1 ∧ t.1 < k + cs.length ∧ t.2.1 < ds.length ∧ 0 ≤ t.2.2 := by
  obtain ⟨i, j, c, d, hc, hd, hv, h1, h2⟩ := mem_tessFrom f cs ds k t ht
  rw [h1, h2, Nat.add_comm i k]
  exact ⟨Nat.le_add_right k i, Nat.add_lt_add_left (List.getElem?_eq_some_iff.mp hc).1 k,
    (List.getElem?_eq_some_iff.mp hd).1, hf c d _ hv⟩

/-! the loop looks at `f` only on the pairs of the two lists -/

theorem rowTess_congr {α β : Type} (f g : α → β → Option Rat) (i : Nat) (c : α) (j0 : Nat) (ds : List β)
    (h : ∀ d ∈ ds, f c d = g c d) : rowTess f i c j0 ds = rowTess g i c j0 ds := by
  induction ds generalizing j0 with
  | nil => rfl
  | cons d ds ih =>
    rw [rowTess, rowTess, h d List.mem_cons_self, ih (j0 + 1) fun d' hd' => h d' (List.mem_cons_of_mem _ hd')]

theorem tessFrom_congr {α β : Type} (f g : α → β → Option Rat) (k : Nat) (cs : List α) (ds : List β)
    (h : ∀ c ∈ cs, ∀ d ∈ ds, f c d = g c d) : tessFrom f k cs ds = tessFrom g k cs ds := by
  induction cs generalizing k with
  | nil => rfl
  | cons c cs ih =>
    rw [tessFrom, tessFrom, rowTess_congr f g k c 0 ds (h c List.mem_cons_self),
      ih (k + 1) fun c' hc' => h c' (List.mem_cons_of_mem _ hc')]

theorem rowSum_append (A B : List Triple) (i : Nat) :
    rowSum (A ++ B) i = rowSum A i + rowSum B i := by
  induction A with
  | nil => simp [rowSum]
  | cons t A ih => simp only [List.cons_append, rowSum, ih]; ring

/-- the transposed triple: the columns of `T` are the rows of `T.map transp`, so what is proved for rows holds
    for columns -/
def transp (t : Triple) : Triple := (t.2.1, t.1, t.2.2)

theorem colSum_eq_rowSum_transp (T : List Triple) (j : Nat) : colSum T j = rowSum (T.map transp) j := by
  induction T with
  | nil => rfl
  | cons t T ih => rw [colSum, List.map_cons, rowSum, ih]; rfl

theorem entry_transp (T : List Triple) (i j : Nat) : entry T i j = entry (T.map transp) j i := by
  induction T with
  | nil => rfl
  | cons t T ih => rw [entry, List.map_cons, entry, ih]; simp only [transp, and_comm]

theorem colSum_append (A B : List Triple) (j : Nat) :
    colSum (A ++ B) j = colSum A j + colSum B j := by
  simp only [colSum_eq_rowSum_transp, List.map_append, rowSum_append]

theorem entry_append (A B : List Triple) (i j : Nat) :
    entry (A ++ B) i j = entry A i j + entry B i j := by
  induction A with
  | nil => simp [entry]
  | cons t A ih => simp only [List.cons_append, entry, ih]; ring

/-! one step of the inner loop: a pair that is not reported weighs 0 -/

theorem rowSum_rowTess_cons {α β : Type} (f : α → β → Option Rat) (i : Nat) (c : α) (d : β) (ds : List β)
    (j0 i' : Nat) : rowSum (rowTess f i c j0 (d :: ds)) i'
      = (if i = i' then ov f c d else 0) + rowSum (rowTess f i c (j0 + 1) ds) i' := by
  rw [rowTess, ov]
  cases f c d <;> simp [rowSum]

theorem colSum_rowTess_cons {α β : Type} (f : α → β → Option Rat) (i : Nat) (c : α) (d : β) (ds : List β)
    (j0 j : Nat) : colSum (rowTess f i c j0 (d :: ds)) j
      = (if j0 = j then ov f c d else 0) + colSum (rowTess f i c (j0 + 1) ds) j := by
  rw [rowTess, ov]
  cases f c d <;> simp [colSum]

theorem rowSum_rowTess {α β : Type} (f : α → β → Option Rat) (i : Nat) (c : α) (ds : List β) (j0 i' : Nat) :
    rowSum (rowTess f i c j0 ds) i' = if i = i' then (ds.map (ov f c)).sum else 0 := by
  induction ds generalizing j0 with
  | nil => simp [rowTess, rowSum]
  | cons d ds ih =>
    rw [rowSum_rowTess_cons, ih]
    split_ifs <;> simp

theorem colSum_rowTess_lt {α β : Type} (f : α → β → Option Rat) (i : Nat) (c : α) (ds : List β) (j0 j : Nat)
    (h : j < j0) : colSum (rowTess f i c j0 ds) j = 0 := by
  induction ds generalizing j0 with
  | nil => rfl
  | cons d ds ih => rw [colSum_rowTess_cons, ih (j0 + 1) (Nat.lt_succ_of_lt h), if_neg h.ne', add_zero]

theorem colSum_rowTess {α β : Type} (f : α → β → Option Rat) (i : Nat) (c : α) (ds : List β) (j0 j : Nat) (d : β)
    (hd : ds[j]? = some d) : colSum (rowTess f i c j0 ds) (j + j0) = ov f c d := by
  induction ds generalizing j0 j with
  | nil => cases hd
  | cons d0 ds ih =>
    rw [colSum_rowTess_cons]
    cases j with
    | zero =>
      cases hd
      rw [Nat.zero_add, if_pos rfl, colSum_rowTess_lt f i c ds (j0 + 1) j0 j0.lt_succ_self, add_zero]
    | succ j =>
      rw [if_neg (by omega), zero_add, Nat.add_right_comm]
      exact ih (j0 + 1) j hd

/-- in a list of triples of one row `i`, the entries are the column sums of row `i` -/
theorem entry_of_row (T : List Triple) (i i' j : Nat) (hT : ∀ t ∈ T, t.1 = i) :
    entry T i' j = if i = i' then colSum T j else 0 := by
  induction T with
  | nil => simp [entry, colSum]
  | cons t T ih =>
    rw [entry, colSum, ih (fun t' h => hT t' (List.mem_cons_of_mem _ h)), hT t List.mem_cons_self]
    by_cases h : i = i' <;> simp [h]

theorem entry_rowTess {α β : Type} (f : α → β → Option Rat) (i : Nat) (c : α) (ds : List β) (i' j : Nat) :
    entry (rowTess f i c 0 ds) i' j = if i = i' then colSum (rowTess f i c 0 ds) j else 0 :=
  entry_of_row _ i i' j fun t ht => let ⟨_, _, _, _, h, _⟩ := mem_rowTess f i c ds 0 t ht; h

theorem rowSum_tessFrom_lt {α β : Type} (f : α → β → Option Rat) (cs : List α) (ds : List β) (k i : Nat)
    (h : i < k) : rowSum (tessFrom f k cs ds) i = 0 := by
  induction cs generalizing k with
  | nil => rfl
  | cons c cs ih =>
    rw [tessFrom, rowSum_append, rowSum_rowTess, ih (k + 1) (Nat.lt_succ_of_lt h), if_neg h.ne', add_zero]

theorem rowSum_tessFrom {α β : Type} (f : α → β → Option Rat) (cs : List α) (ds : List β) (k i : Nat) (c : α)
    (hc : cs[i]? = some c) : rowSum (tessFrom f k cs ds) (i + k) = (ds.map (ov f c)).sum := by
  induction cs generalizing k i with
  | nil => cases hc
  | cons c0 cs ih =>
    rw [tessFrom, rowSum_append, rowSum_rowTess]
    cases i with
    | zero =>
      cases hc
      rw [Nat.zero_add, if_pos rfl, rowSum_tessFrom_lt f cs ds (k + 1) k k.lt_succ_self, add_zero]
    | succ i =>
      rw [if_neg (by omega), zero_add, Nat.add_right_comm]
      exact ih (k + 1) i hc

theorem colSum_tessFrom {α β : Type} (f : α → β → Option Rat) (cs : List α) (ds : List β) (k j : Nat) (d : β)
    (hd : ds[j]? = some d) : colSum (tessFrom f k cs ds) j = (cs.map (fun c => ov f c d)).sum := by
  induction cs generalizing k with
  | nil => rfl
  | cons c cs ih =>
    rw [tessFrom, colSum_append, ih (k + 1), List.map_cons, List.sum_cons]
    exact congrArg (· + _) (colSum_rowTess f k c ds 0 j d hd)

theorem entry_tessFrom_lt {α β : Type} (f : α → β → Option Rat) (cs : List α) (ds : List β) (k i j : Nat)
    (h : i < k) : entry (tessFrom f k cs ds) i j = 0 := by
  induction cs generalizing k with
  | nil => rfl
  | cons c cs ih =>
    rw [tessFrom, entry_append, ih (k + 1) (Nat.lt_succ_of_lt h), entry_rowTess, if_neg h.ne', add_zero]

theorem entry_tessFrom {α β : Type} (f : α → β → Option Rat) (cs : List α) (ds : List β) (k i j : Nat) (c : α) (d : β)
    (hc : cs[i]? = some c) (hd : ds[j]? = some d) : entry (tessFrom f k cs ds) (i + k) j = ov f c d := by
  induction cs generalizing k i with
  | nil => cases hc
  | cons c0 cs ih =>
    rw [tessFrom, entry_append, entry_rowTess]
    cases i with
    | zero =>
      cases hc
      rw [Nat.zero_add, if_pos rfl, entry_tessFrom_lt f cs ds (k + 1) k j k.lt_succ_self, add_zero]
      exact colSum_rowTess f k c ds 0 j d hd
    | succ i =>
      rw [if_neg (by omega), zero_add, Nat.add_right_comm]
      exact ih (k + 1) i hc
/-- `tabFrom` is `map` over a range: the library's lemmas on `map`, `range'` and sums apply -/
theorem tabFrom_eq_map {α : Type} (f : Nat → α) (k n : Nat) : tabFrom f k n = (List.range' k n).map f := by
  induction n generalizing k with
  | zero => rfl
  | succ n ih => rw [tabFrom, ih, List.range'_succ, List.map_cons]

theorem mem_tabFrom {α : Type} (f : Nat → α) (k n : Nat) (x : α) (h : x ∈ tabFrom f k n) :
    ∃ i, k ≤ i ∧ i < k + n ∧ x = f i := by
  rw [tabFrom_eq_map] at h
  obtain ⟨i, hi, rfl⟩ := List.mem_map.mp h
  exact ⟨i, (List.mem_range'_1.mp hi).1, (List.mem_range'_1.mp hi).2, rfl⟩

theorem getElem?_tabFrom {α : Type} (f : Nat → α) (k n i : Nat) :
    (tabFrom f k n)[i]? = if i < n then some (f (i + k)) else none := by
  rw [tabFrom_eq_map, List.getElem?_map]
  split_ifs with h
  · rw [List.getElem?_range' h, Nat.one_mul, Nat.add_comm]; rfl
  · rw [List.getElem?_eq_none (by rw [List.length_range']; exact Nat.le_of_not_lt h)]; rfl

theorem getD_tabFrom (f : Nat → Rat) (k n j : Nat) (h : j < n) :
    (tabFrom f k n).getD j 0 = f (j + k) := by
  rw [List.getD_eq_getElem?_getD, getElem?_tabFrom, if_pos h]; rfl

theorem sum_range'_single (w : Rat) (j0 k n : Nat) (h : j0 ∈ List.range' k n) :
    ((List.range' k n).map fun j => if j0 = j then w else 0).sum = w := by
  rw [List.sum_map_eq_nsmul_single j0 _ fun j hj _ => if_neg (Ne.symm hj),
    List.count_eq_one_of_mem List.nodup_range' h, one_nsmul, if_pos rfl]

theorem sum_row_dense (T : List Triple) (i n : Nat) (hT : ∀ t ∈ T, t.2.1 < n) :
    (tabFrom (fun j => entry T i j) 0 n).sum = rowSum T i := by
  rw [tabFrom_eq_map]
  induction T with
  | nil => exact List.sum_map_zero
  | cons t T ih =>
    simp only [entry, rowSum]
    rw [List.sum_map_add, ih fun t' h => hT t' (List.mem_cons_of_mem _ h)]
    congr 1
    by_cases hi : t.1 = i
    · simp only [hi, true_and, if_true]
      exact sum_range'_single _ _ 0 n
        (List.mem_range'_1.mpr ⟨Nat.zero_le _, (Nat.zero_add n).symm ▸ hT t List.mem_cons_self⟩)
    · simp only [hi, false_and, if_false]
      exact List.sum_map_zero

theorem sum_col_dense (T : List Triple) (j m : Nat) (hT : ∀ t ∈ T, t.1 < m) :
    (tabFrom (fun i => entry T i j) 0 m).sum = colSum T j := by
  simp only [entry_transp T, colSum_eq_rowSum_transp]
  exact sum_row_dense (T.map transp) j m fun t ht => by
    obtain ⟨t0, h0, rfl⟩ := List.mem_map.mp ht
    exact hT t0 h0

/-- row `i` of the dense matrix sums to the row sum of the triples -/
theorem sum_getElem?_dense (m n : Nat) (T : List Triple) (hT : ∀ t ∈ T, t.2.1 < n) (i : Nat) (row : List Rat)
    (hrow : (dense m n T)[i]? = some row) : i < m ∧ row.sum = rowSum T i := by
  rw [dense, getElem?_tabFrom] at hrow
  split_ifs at hrow with hi
  cases hrow
  exact ⟨hi, sum_row_dense T i n hT⟩

theorem colSumDense_dense (T : List Triple) (m n j : Nat) (hj : j < n) (hT : ∀ t ∈ T, t.1 < m) :
    colSumDense (dense m n T) j = colSum T j := by
  rw [← sum_col_dense T j m hT, colSumDense, dense, tabFrom_eq_map, tabFrom_eq_map, List.map_map]
  exact congrArg List.sum (List.map_congr_left fun i _ => getD_tabFrom _ 0 n j hj)

theorem rowSum_scale_row (v : Nat → Rat) (T : List Triple) (i : Nat) :
    rowSum (T.map (fun t => (t.1, t.2.1, t.2.2 / v t.1))) i = rowSum T i / v i := by
  induction T with
  | nil => simp [rowSum]
  | cons t T ih =>
    simp only [List.map_cons, rowSum]
    rw [ih]
    by_cases h : t.1 = i
    · rw [if_pos h, if_pos h, h, add_div]
    · rw [if_neg h, if_neg h, zero_add, zero_add]

theorem colSum_scale_col (v : Nat → Rat) (T : List Triple) (j : Nat) :
    colSum (T.map (fun t => (t.1, t.2.1, t.2.2 / v t.2.1))) j = colSum T j / v j := by
  rw [colSum_eq_rowSum_transp, colSum_eq_rowSum_transp T, ← rowSum_scale_row v, List.map_map, List.map_map]
  rfl

/-- "averaged": overlaps divided by the row's cell volume `v i`; the rows of the matrix sum to one when
    the overlaps of each row sum to that volume -/
theorem avg_rows_one (v : Nat → Rat) (m n : Nat) (T : List Triple) (hcol : ∀ t ∈ T, t.2.1 < n)
    (hsum : ∀ i, i < m → rowSum T i = v i ∧ v i ≠ 0) :
    ∀ row ∈ dense m n (T.map (fun t => (t.1, t.2.1, t.2.2 / v t.1))), row.sum = 1 := by
  intro row hrow
  obtain ⟨i, hrow⟩ := List.getElem?_of_mem hrow
  obtain ⟨hi, hrow⟩ := sum_getElem?_dense m n _ (fun t ht => by
    obtain ⟨t0, ht0, rfl⟩ := List.mem_map.mp ht
    exact hcol t0 ht0) i row hrow
  rw [hrow, rowSum_scale_row, (hsum i hi).1]
  exact div_self (hsum i hi).2

/-- "integrated": overlaps divided by the column's cell volume; the columns sum to one -/
theorem int_cols_one (v : Nat → Rat) (m n : Nat) (T : List Triple) (hrow : ∀ t ∈ T, t.1 < m)
    (hsum : ∀ j, j < n → colSum T j = v j ∧ v j ≠ 0) :
    ∀ j, j < n → colSumDense (dense m n (T.map (fun t => (t.1, t.2.1, t.2.2 / v t.2.1)))) j = 1 := by
  intro j hj
  rw [colSumDense_dense _ m n j hj, colSum_scale_col, (hsum j hj).1]
  · exact div_self (hsum j hj).2
  · intro t ht
    obtain ⟨t0, ht0, rfl⟩ := List.mem_map.mp ht
    exact hrow t0 ht0
end PorepyVerif.C33
