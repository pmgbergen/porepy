/-
C33 — lemmas on the pair functions.

1-D.  For ordered cells the reported weight is `max 0 (min e1 e2 - max s1 s2)` (`ov_eq`, read off the two
middle values of the four sorted end points, `isort_four`).  That number is `clip q - clip p` for the clamp
`clip` to the cell (`ov_clip`), so the sum over the consecutive cells of a sorted node list telescopes
(`sum_ov_cells`, `sumOv_cover`).  On separated tessellations the model's pair function with its "end to end"
tolerance reports what the exact one reports (`pairOverlap_eq_X`, `lineTess_eq_X`).

2-D.  `triPair` reports the common area where it is positive.  The area of clipped polygons is in `LemmasClip`.
-/
import PorepyVerif.C33.LemmasLoop
import Mathlib.Tactic.Linarith
import Mathlib.Algebra.Order.Field.Basic

namespace PorepyVerif.C33

/-- the exact pair function (no "end to end" tolerance): reported length of the common part -/
def pairOverlapX (c d : Cell) : Option Rat :=
  let max1 := rmax c.1 c.2
  let min1 := rmin c.1 c.2
  let max2 := rmax d.1 d.2
  let min2 := rmin d.1 d.2
  if max1 < min2 then none
  else if max2 < min1 then none
  else
    match isort [c.1, c.2, d.1, d.2] with
    | [_, x, y, _] => some (dist x y)
    | _ => none

def strictInc : List Rat → Bool
  | [] => true
  | [_] => true
  | x :: y :: l => decide (x < y) && strictInc (y :: l)

theorem rmax_eq_max (a b : Rat) : rmax a b = max a b := (max_def a b).symm

theorem rmin_eq_min (a b : Rat) : rmin a b = min a b := (min_def a b).symm

theorem dist_of_le {a b : Rat} (h : a ≤ b) : dist a b = b - a := if_pos h

theorem cellVol_of_le (c : Cell) (h : c.1 ≤ c.2) : cellVol c = c.2 - c.1 := dist_of_le h

theorem dist_nonneg (a b : Rat) : 0 ≤ dist a b := by
  unfold dist; split_ifs with h
  exacts [sub_nonneg.mpr h, sub_nonneg.mpr (le_of_not_ge h)]

/-- The two middle values of the four sorted end points of two ordered cells that meet are the larger
    start and the smaller end. -/
theorem isort_four (s1 e1 s2 e2 : Rat) (h1 : s1 ≤ e1) (h2 : s2 ≤ e2) (a1 : s2 ≤ e1) (a2 : s1 ≤ e2) :
    ∃ lo hi, isort [s1, e1, s2, e2] = [lo, max s1 s2, min e1 e2, hi] := by
  by_cases b1 : e1 ≤ s2
  · -- `e1 = s2`: the cells touch
    refine ⟨s1, e2, ?_⟩
    simp only [isort, insertS, if_pos h2, if_pos b1, if_pos h1, max_eq_right (h1.trans b1),
      min_eq_left (b1.trans h2)]
    rw [le_antisymm b1 a1]
  · by_cases b2 : s1 ≤ s2 <;> by_cases b3 : e1 ≤ e2
    · exact ⟨s1, e2, by simp only [isort, insertS, if_pos h2, if_neg b1, if_pos b3, if_pos b2,
        max_eq_right b2, min_eq_left b3]⟩
    · exact ⟨s1, e1, by simp only [isort, insertS, if_pos h2, if_neg b1, if_neg b3, if_pos b2,
        max_eq_right b2, min_eq_right (le_of_not_ge b3)]⟩
    · exact ⟨s2, e2, by simp only [isort, insertS, if_pos h2, if_neg b1, if_pos b3, if_neg b2, if_pos h1,
        max_eq_left (le_of_not_ge b2), min_eq_left b3]⟩
    · exact ⟨s2, e1, by simp only [isort, insertS, if_pos h2, if_neg b1, if_neg b3, if_neg b2, if_pos a2,
        max_eq_left (le_of_not_ge b2), min_eq_right (le_of_not_ge b3)]⟩

theorem ov_eq (s1 e1 s2 e2 : Rat) (h1 : s1 ≤ e1) (h2 : s2 ≤ e2) :
    ov pairOverlapX (s1, e1) (s2, e2) = rmax 0 (rmin e1 e2 - rmax s1 s2) := by
  unfold ov pairOverlapX
  simp only [rmax_eq_max, rmin_eq_min, max_eq_right h1, min_eq_left h1, max_eq_right h2, min_eq_left h2]
  by_cases a1 : e1 < s2
  · rw [if_pos a1, Option.getD_none, max_eq_left]
    exact sub_nonpos.mpr ((min_le_left e1 e2).trans (a1.le.trans (le_max_right s1 s2)))
  · rw [if_neg a1]
    by_cases a2 : e2 < s1
    · rw [if_pos a2, Option.getD_none, max_eq_left]
      exact sub_nonpos.mpr ((min_le_right e1 e2).trans (a2.le.trans (le_max_left s1 s2)))
    · rw [if_neg a2]
      rw [not_lt] at a1 a2
      obtain ⟨lo, hi, hsort⟩ := isort_four s1 e1 s2 e2 h1 h2 a1 a2
      have hm : max s1 s2 ≤ min e1 e2 := max_le (le_min h1 a2) (le_min a1 h2)
      rw [hsort, max_eq_right (sub_nonneg.mpr hm)]
      exact dist_of_le hm

theorem pairOverlapX_nonneg (c d : Cell) (w : Rat) (h : pairOverlapX c d = some w) : 0 ≤ w := by
  unfold pairOverlapX at h
  simp only at h
  split_ifs at h
  split at h
  · cases h; exact dist_nonneg _ _
  · cases h

def clip (s e x : Rat) : Rat := min (max x s) e

theorem clip_lo (s e x : Rat) (h : s ≤ e) (hx : x ≤ s) : clip s e x = s := by
  rw [clip, max_eq_right hx, min_eq_left h]

theorem clip_hi (s e x : Rat) (h : s ≤ e) (hx : e ≤ x) : clip s e x = e := by
  rw [clip, max_eq_left (h.trans hx), min_eq_right hx]

/-- the part of `[p, q]` inside `[s, e]` is what clamping leaves of it: this makes the sum over
    consecutive cells telescope -/
theorem ov_clip (s e p q : Rat) (h1 : s ≤ e) (h2 : p ≤ q) :
    ov pairOverlapX (s, e) (p, q) = clip s e q - clip s e p := by
  rw [ov_eq s e p q h1 h2]
  simp only [clip, rmax_eq_max, rmin_eq_min]
  rcases le_total p s with hp | hp
  · rw [max_eq_left hp, max_eq_right hp, min_eq_left h1]
    rcases le_total q s with hq | hq
    · rw [min_eq_right (hq.trans h1), max_eq_right hq, min_eq_left h1, max_eq_left (sub_nonpos.mpr hq),
        sub_self]
    · rw [max_eq_left hq, min_comm e q, max_eq_right (sub_nonneg.mpr (le_min hq h1))]
  · rw [max_eq_right hp, max_eq_left hp, max_eq_left (hp.trans h2), min_comm e q]
    rcases le_total p e with hpe | hpe
    · rw [min_eq_left hpe, max_eq_right (sub_nonneg.mpr (le_min h2 hpe))]
    · rw [min_eq_right hpe, min_eq_right (hpe.trans h2), max_eq_left (sub_nonpos.mpr hpe), sub_self]

theorem ov_symm (c d : Cell) (hc : c.1 ≤ c.2) (hd : d.1 ≤ d.2) : ov pairOverlapX c d = ov pairOverlapX d c := by
  obtain ⟨s1, e1⟩ := c
  obtain ⟨s2, e2⟩ := d
  rw [ov_eq s1 e1 s2 e2 hc hd, ov_eq s2 e2 s1 e1 hd hc]
  simp only [rmax_eq_max, rmin_eq_min, min_comm e1 e2, max_comm s1 s2]

theorem strictInc_cons2 (x y : Rat) (l : List Rat) :
    strictInc (x :: y :: l) = true ↔ x < y ∧ strictInc (y :: l) = true := by
  simp [strictInc]

theorem sum_ov_cells (s e : Rat) (h : s ≤ e) (l : List Rat) (x : Rat)
    (hinc : strictInc (x :: l) = true) :
    ((cells (x :: l)).map (ov pairOverlapX (s, e))).sum = clip s e (l.getLastD x) - clip s e x := by
  induction l generalizing x with
  | nil => simp [cells]
  | cons y l ih =>
    obtain ⟨hxy, hrest⟩ := (strictInc_cons2 x y l).mp hinc
    simp only [cells, List.map_cons, List.sum_cons, List.getLastD_cons]
    rw [ih y hrest, ov_clip s e x y h hxy.le]
    ring

theorem le_getLastD (l : List Rat) (x : Rat) (hinc : strictInc (x :: l) = true) : x ≤ l.getLastD x := by
  induction l generalizing x with
  | nil => exact le_refl _
  | cons y l ih =>
    obtain ⟨hxy, hrest⟩ := (strictInc_cons2 x y l).mp hinc
    rw [List.getLastD_cons]
    exact hxy.le.trans (ih y hrest)

theorem cells_bounds (l : List Rat) (x : Rat) (hinc : strictInc (x :: l) = true) (c : Cell)
    (hc : c ∈ cells (x :: l)) : x ≤ c.1 ∧ c.1 < c.2 ∧ c.2 ≤ l.getLastD x := by
  induction l generalizing x with
  | nil => simp [cells] at hc
  | cons y l ih =>
    obtain ⟨hxy, hrest⟩ := (strictInc_cons2 x y l).mp hinc
    simp only [cells, List.mem_cons] at hc
    rw [List.getLastD_cons]
    rcases hc with rfl | hc
    · exact ⟨le_refl _, hxy, le_getLastD l y hrest⟩
    · have := ih y hrest hc
      exact ⟨hxy.le.trans this.1, this.2.1, this.2.2⟩

theorem cells_lt (a : List Rat) (ha : strictInc a = true) (c : Cell) (hc : c ∈ cells a) : c.1 < c.2 := by
  cases a with
  | nil => simp [cells] at hc
  | cons x l => exact (cells_bounds l x ha c hc).2.1

theorem getLast?_eq_lastOr (x : Rat) (l : List Rat) : (x :: l).getLast? = some (l.getLastD x) := by
  rw [List.getLast?_cons, List.getLastD_eq_getLast?]

/-- an interval inside `[b_0, b_n]` is covered exactly by the cells of `b` -/
theorem sumOv_cover (c : Cell) (l : List Rat) (x : Rat) (hinc : strictInc (x :: l) = true)
    (hc : c.1 ≤ c.2) (hlo : x ≤ c.1) (hhi : c.2 ≤ l.getLastD x) :
    ((cells (x :: l)).map (ov pairOverlapX c)).sum = c.2 - c.1 := by
  obtain ⟨s, e⟩ := c
  rw [sum_ov_cells s e hc l x hinc, clip_hi s e _ hc hhi, clip_lo s e _ hc hlo]

/-- two tessellations of the same segment: a cell of the one is covered exactly by the cells of the other -/
theorem sum_ov_cover_row (a b : List Rat) (ha : strictInc a = true) (hb : strictInc b = true)
    (h0 : a.head? = b.head?) (hl : a.getLast? = b.getLast?) (c : Cell) (hc : c ∈ cells a) :
    ((cells b).map (ov pairOverlapX c)).sum = c.2 - c.1 := by
  cases a with
  | nil => simp [cells] at hc
  | cons x l =>
    cases b with
    | nil => simp at h0
    | cons y l' =>
      rw [getLast?_eq_lastOr, getLast?_eq_lastOr, Option.some.injEq] at hl
      obtain ⟨hlo, hlt, hhi⟩ := cells_bounds l x ha c hc
      exact sumOv_cover c l' y hb hlt.le (Option.some.inj h0 ▸ hlo) (hl ▸ hhi)

/-- the overlap of two ordered cells is symmetric, so a sum over the first argument is one over the second -/
theorem sumOvL_eq_sumOv (d : Cell) (hd : d.1 ≤ d.2) (cs : List Cell) (hcs : ∀ c ∈ cs, c.1 ≤ c.2) :
    (cs.map (fun c => ov pairOverlapX c d)).sum = (cs.map (ov pairOverlapX d)).sum :=
  congrArg List.sum (List.map_congr_left fun c hc => ov_symm c d (hcs c hc) hd)

theorem sum_ov_cover_col (a b : List Rat) (ha : strictInc a = true) (hb : strictInc b = true)
    (h0 : a.head? = b.head?) (hl : a.getLast? = b.getLast?) (d : Cell) (hd : d ∈ cells b) :
    ((cells a).map (fun c => ov pairOverlapX c d)).sum = d.2 - d.1 :=
  (sumOvL_eq_sumOv d (cells_lt b hb d hd).le (cells a) fun c hc => (cells_lt a ha c hc).le).trans
    (sum_ov_cover_row b a hb ha h0.symm hl.symm d hd)

theorem snap_nonneg (ptol v : Rat) (hv : 0 ≤ v) : 0 ≤ snap ptol v := by
  unfold snap; split_ifs
  exacts [le_rfl, hv]

/-- the model's pair function is the exact one followed by the "end to end" test -/
theorem pairOverlap_eq_map (ptol : Rat) (c d : Cell) :
    pairOverlap ptol c d = (pairOverlapX c d).map (snap ptol) := by
  unfold pairOverlap pairOverlapX
  simp only
  split_ifs
  · rfl
  · rfl
  · generalize isort [c.1, c.2, d.1, d.2] = L
    rcases L with _ | ⟨a, _ | ⟨b, _ | ⟨c', _ | ⟨d', _ | ⟨e, l⟩⟩⟩⟩⟩ <;> rfl

theorem pairOverlap_nonneg (ptol : Rat) (c d : Cell) (w : Rat) (h : pairOverlap ptol c d = some w) :
    0 ≤ w := by
  rw [pairOverlap_eq_map] at h
  obtain ⟨v, hv, rfl⟩ := Option.map_eq_some_iff.mp h
  exact snap_nonneg _ _ (pairOverlapX_nonneg c d v hv)

/-- separation of two ordered cells: every difference "upper end − lower end" is `≤ 0` or `≥ ptol` -/
def Sep (ptol : Rat) (c d : Cell) : Prop :=
  (c.2 - c.1 ≤ 0 ∨ ptol ≤ c.2 - c.1) ∧ (c.2 - d.1 ≤ 0 ∨ ptol ≤ c.2 - d.1) ∧
  (d.2 - c.1 ≤ 0 ∨ ptol ≤ d.2 - c.1) ∧ (d.2 - d.1 ≤ 0 ∨ ptol ≤ d.2 - d.1)

theorem snap_eq_self (ptol v : Rat) (hv : 0 ≤ v) (h : v ≤ 0 ∨ ptol ≤ v) : snap ptol v = v := by
  unfold snap
  split_ifs with hlt
  · rcases h with h | h
    · exact le_antisymm hv h
    · exact absurd hlt (not_lt.mpr h)
  · rfl

theorem pairOverlap_eq_X (ptol : Rat) (c d : Cell) (hc : c.1 ≤ c.2) (hd : d.1 ≤ d.2)
    (hs : Sep ptol c d) : pairOverlap ptol c d = pairOverlapX c d := by
  rw [pairOverlap_eq_map]
  cases h : pairOverlapX c d with
  | none => rfl
  | some w =>
    obtain ⟨s1, e1⟩ := c
    obtain ⟨s2, e2⟩ := d
    obtain ⟨h11, h12, h21, h22⟩ := hs
    have hw := ov_eq s1 e1 s2 e2 hc hd
    rw [ov, h, Option.getD_some, rmax_eq_max, rmin_eq_min, rmax_eq_max] at hw
    -- the length of the intersection is 0 or one of the four differences `Sep` speaks of
    have hδ : min e1 e2 - max s1 s2 ≤ 0 ∨ ptol ≤ min e1 e2 - max s1 s2 := by
      rcases le_total e1 e2 with he | he <;> rcases le_total s1 s2 with hs | hs
      · rw [min_eq_left he, max_eq_right hs]; exact h12
      · rw [min_eq_left he, max_eq_left hs]; exact h11
      · rw [min_eq_right he, max_eq_right hs]; exact h22
      · rw [min_eq_right he, max_eq_left hs]; exact h21
    rw [Option.map_some, snap_eq_self ptol w (hw ▸ le_max_left _ _)]
    rcases hδ with h0 | h0
    · exact Or.inl (hw ▸ (max_eq_left h0).le)
    · exact Or.inr (hw ▸ h0.trans (le_max_right _ _))

theorem gapInc_cons2 (ptol x y : Rat) (l : List Rat) :
    gapInc ptol (x :: y :: l) = true ↔ x < y ∧ ptol ≤ y - x ∧ gapInc ptol (y :: l) = true := by
  simp [gapInc, and_assoc]

theorem gapInc_strictInc (ptol : Rat) (l : List Rat) (h : gapInc ptol l = true) : strictInc l = true := by
  induction l with
  | nil => rfl
  | cons x l ih =>
    cases l with
    | nil => rfl
    | cons y l =>
      obtain ⟨h1, _, h3⟩ := (gapInc_cons2 ptol x y l).mp h
      exact (strictInc_cons2 x y l).mpr ⟨h1, ih h3⟩

theorem cells_nodes (ptol : Rat) (l : List Rat) (h : gapInc ptol l = true) (c : Cell) (hc : c ∈ cells l) :
    c.1 ∈ l ∧ c.2 ∈ l ∧ c.1 < c.2 ∧ ptol ≤ c.2 - c.1 := by
  induction l with
  | nil => simp [cells] at hc
  | cons x l ih =>
    cases l with
    | nil => simp [cells] at hc
    | cons y l =>
      obtain ⟨h1, h2, h3⟩ := (gapInc_cons2 ptol x y l).mp h
      simp only [cells, List.mem_cons] at hc
      rcases hc with rfl | hc
      · exact ⟨by simp, by simp, h1, h2⟩
      · obtain ⟨a1, a2, a3, a4⟩ := ih h3 hc
        exact ⟨List.mem_cons_of_mem _ a1, List.mem_cons_of_mem _ a2, a3, a4⟩

theorem sepNodes_spec (ptol : Rat) (a b : List Rat) (h : sepNodes ptol a b = true) (x y : Rat)
    (hx : x ∈ a) (hy : y ∈ b) : x = y ∨ ptol ≤ dist x y := by
  unfold sepNodes at h
  rw [List.all_eq_true] at h
  have := h x hx
  rw [List.all_eq_true] at this
  simpa using this y hy

theorem diff_sep (ptol x y : Rat) (h : x = y ∨ ptol ≤ dist x y) :
    (x - y ≤ 0 ∨ ptol ≤ x - y) ∧ (y - x ≤ 0 ∨ ptol ≤ y - x) := by
  rcases h with rfl | h
  · rw [sub_self]; exact ⟨Or.inl le_rfl, Or.inl le_rfl⟩
  · unfold dist at h
    split_ifs at h with hxy
    · exact ⟨Or.inl (sub_nonpos.mpr hxy), Or.inr h⟩
    · exact ⟨Or.inr h, Or.inl (sub_nonpos.mpr (le_of_not_ge hxy))⟩

theorem cells_sep (ptol : Rat) (a b : List Rat) (ha : gapInc ptol a = true)
    (hb : gapInc ptol b = true) (hs : sepNodes ptol a b = true) (c d : Cell) (hc : c ∈ cells a)
    (hd : d ∈ cells b) : Sep ptol c d := by
  obtain ⟨c1, c2, _, c4⟩ := cells_nodes ptol a ha c hc
  obtain ⟨d1, d2, _, d4⟩ := cells_nodes ptol b hb d hd
  exact ⟨Or.inr c4, (diff_sep ptol c.2 d.1 (sepNodes_spec ptol a b hs c.2 d.1 c2 d1)).1,
    (diff_sep ptol c.1 d.2 (sepNodes_spec ptol a b hs c.1 d.2 c1 d2)).2, Or.inr d4⟩

/-- on the cells of separated tessellations the model's pair function reports exactly what the exact
    one reports -/
theorem pairOverlap_cells (ptol : Rat) (a b : List Rat) (ha : gapInc ptol a = true)
    (hb : gapInc ptol b = true) (hs : sepNodes ptol a b = true) (c : Cell) (hc : c ∈ cells a) (d : Cell)
    (hd : d ∈ cells b) : pairOverlap ptol c d = pairOverlapX c d :=
  pairOverlap_eq_X ptol c d (cells_nodes ptol a ha c hc).2.2.1.le (cells_nodes ptol b hb d hd).2.2.1.le
    (cells_sep ptol a b ha hb hs c d hc hd)

theorem lineTess_eq_X (ptol : Rat) (a b : List Rat) (ha : gapInc ptol a = true)
    (hb : gapInc ptol b = true) (hs : sepNodes ptol a b = true) :
    lineTess ptol (cells a) (cells b) = tessFrom pairOverlapX 0 (cells a) (cells b) :=
  tessFrom_congr _ _ 0 _ _ (pairOverlap_cells ptol a b ha hb hs)

theorem rabs_nonneg (x : Rat) : 0 ≤ rabs x := by
  unfold rabs; split_ifs with h
  exacts [h, neg_nonneg.mpr (le_of_not_ge h)]

theorem rabs_of_nonneg (x : Rat) (h : 0 ≤ x) : rabs x = x := by
  unfold rabs; rw [if_pos h]

/-- `_convex_polygons_common_area` never returns a negative number. -/
theorem common_area_nonneg (S T : Poly) : 0 ≤ commonArea S T := by
  unfold commonArea
  exact div_nonneg (rabs_nonneg _) (by norm_num)

/-- a pair is reported with its common area, and only if that is positive (the `area > 0` filter) -/
theorem triPair_some (S T : Poly) (w : Rat) (h : triPair S T = some w) : 0 < w ∧ w = commonArea S T := by
  unfold triPair at h
  split_ifs at h with h1 h2
  cases h; exact ⟨h2, rfl⟩

theorem ov_triPair (S T : Poly) :
    ov triPair S T = if outsideBox S T = true then 0 else commonArea S T := by
  unfold ov triPair
  split_ifs with h1 h2
  · rfl
  · rfl
  · exact le_antisymm (common_area_nonneg S T) (not_lt.mp h2)

theorem getD_map_polyArea (ps : List Poly) (i : Nat) (S : Poly) (h : ps[i]? = some S) :
    (ps.map polyArea).getD i 0 = polyArea S := by
  rw [List.getD_eq_getElem?_getD, List.getElem?_map, h]; rfl

end PorepyVerif.C33
