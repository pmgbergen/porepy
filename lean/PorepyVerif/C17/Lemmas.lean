/-
C17 — the discretization: sign of the flux and the upstream cell, what each kind of row contributes to the
face flux, when `discretize` raises, the per-entry bounds behind the maximum principle and the CFL step.
-/
import Mathlib.Algebra.Order.Field.Basic
import PorepyVerif.C17.Topology

namespace PorepyVerif.C17

theorem sgnR_of_pos {x : Rat} (h : 0 < x) : sgnR x = 1 := if_pos h

theorem sgnR_of_neg {x : Rat} (h : x < 0) : sgnR x = -1 := by
  rw [sgnR, if_neg (not_lt.2 h.le), if_pos h]

theorem sgnR_zero : sgnR 0 = 0 := rfl

theorem sgnR_nonneg_iff (x : Rat) : 0 ≤ sgnR x ↔ 0 ≤ x := by
  rcases lt_trichotomy 0 x with h | rfl | h
  · rw [sgnR_of_pos h]; exact iff_of_true (by decide) h.le
  · exact iff_of_true (by decide) le_rfl
  · rw [sgnR_of_neg h]; exact iff_of_false (by decide) (not_le.2 h)

theorem sgnR_pos_iff (x : Rat) : 0 < sgnR x ↔ 0 < x := by
  rcases lt_trichotomy 0 x with h | rfl | h
  · rw [sgnR_of_pos h]; exact iff_of_true (by decide) h
  · exact iff_of_false (by decide) (lt_irrefl _)
  · rw [sgnR_of_neg h]; exact iff_of_false (by decide) (not_lt.2 h.le)

theorem posFlux_iff (P : Pb) (f : Nat) : posFlux P f = true ↔ 0 ≤ P.q f := by
  rw [posFlux, decide_eq_true_iff, sgnR_nonneg_iff]

theorem posFlux_false_iff (P : Pb) (f : Nat) : posFlux P f = false ↔ P.q f < 0 := by
  rw [← not_le, ← posFlux_iff]; simp

theorem upstream_of_nonneg (P : Pb) (f : Nat) (h : 0 ≤ P.q f) : upstream P f = densePos P.T f := by
  rw [upstream, (posFlux_iff P f).mpr h, if_pos rfl]

theorem upstream_of_neg (P : Pb) (f : Nat) (h : P.q f < 0) : upstream P f = denseNeg P.T f := by
  rw [upstream, (posFlux_false_iff P f).mpr h, if_neg Bool.false_ne_true]

/-- `inflow_ind` = Dirichlet faces whose upstream side has no cell -/
theorem inflowDir_eq (P : Pb) (f : Nat) : inflowDir P f = (P.isDir f && (upstream P f).isNone) := by
  unfold inflowDir upstream
  cases posFlux P f <;> simp

theorem inflowDir_of_upstream_some (P : Pb) (f j : Nat) (hu : upstream P f = some j) :
    inflowDir P f = false := by
  rw [inflowDir_eq, hu]; exact Bool.and_false _

theorem upCol_of_not_deleted (P : Pb) (f : Nat) (h : deleted P f = false) : upCol P f = upstream P f := by
  unfold upCol; simp [h]

theorem upCol_of_deleted (P : Pb) (f : Nat) (h : deleted P f = true) : upCol P f = none := by
  unfold upCol; simp [h]

theorem upCol_of_neu (P : Pb) (f : Nat) (h : P.isNeu f = true) : upCol P f = none :=
  upCol_of_deleted P f (by rw [deleted, h, Bool.true_or])

theorem upCol_of_inflowDir (P : Pb) (f : Nat) (h : inflowDir P f = true) : upCol P f = none :=
  upCol_of_deleted P f (by rw [deleted, h, Bool.or_true])

theorem upCol_of_upstream_some (P : Pb) (f j : Nat) (hn : P.isNeu f = false) (hu : upstream P f = some j) :
    upCol P f = some j := by
  rw [upCol_of_not_deleted P f (by rw [deleted, hn, inflowDir_of_upstream_some P f j hu, Bool.or_false]), hu]

theorem U_of_upCol_none (P : Pb) (f : Nat) (h : upCol P f = none) (c : Nat) : U P f c = 0 := by
  rw [U, h]; exact if_neg (Option.some_ne_none c).symm

theorem U_of_upCol_some (P : Pb) (f a : Nat) (h : upCol P f = some a) (c : Nat) :
    U P f c = if c = a then 1 else 0 := by
  rw [U, h]
  by_cases hc : c = a
  · rw [if_pos hc, if_pos (by rw [hc])]
  · rw [if_neg hc, if_neg (fun e => hc (Option.some.inj e).symm)]

theorem upVal_of_upCol_none (P : Pb) (c : Nat → Rat) (f : Nat) (h : upCol P f = none) : upVal P c f = 0 := by
  rw [upVal, h]

theorem upVal_of_upCol_some (P : Pb) (c : Nat → Rat) (f a : Nat) (h : upCol P f = some a) :
    upVal P c f = c a := by
  rw [upVal, h]

theorem dirDiag_of_inflowDir (P : Pb) (f : Nat) (h : inflowDir P f = true) : dirDiag P f = 1 := if_pos h

theorem dirDiag_of_not_inflowDir (P : Pb) (f : Nat) (h : inflowDir P f = false) : dirDiag P f = 0 :=
  if_neg (by rw [h]; exact Bool.false_ne_true)

theorem neuDiag_of_neu (P : Pb) (f : Nat) (h : P.isNeu f = true) : neuDiag P f = sgnDiv P.T f := if_pos h

theorem neuDiag_of_not_neu (P : Pb) (f : Nat) (h : P.isNeu f = false) : neuDiag P f = 0 :=
  if_neg (by rw [h]; exact Bool.false_ne_true)

theorem faceFlux_of_upstream_some (P : Pb) (c bv : Nat → Rat) (f j : Nat) (hn : P.isNeu f = false)
    (hu : upstream P f = some j) : faceFlux P c bv f = P.q f * c j := by
  rw [faceFlux, upVal_of_upCol_some P c f j (upCol_of_upstream_some P f j hn hu),
    dirDiag_of_not_inflowDir P f (inflowDir_of_upstream_some P f j hu), neuDiag_of_not_neu P f hn,
    zero_mul, zero_mul, add_zero, add_zero]

theorem faceFlux_of_inflowDir (P : Pb) (c bv : Nat → Rat) (f : Nat) (hn : P.isNeu f = false)
    (hin : inflowDir P f = true) : faceFlux P c bv f = P.q f * bv f := by
  rw [faceFlux, upVal_of_upCol_none P c f (upCol_of_inflowDir P f hin), dirDiag_of_inflowDir P f hin,
    neuDiag_of_not_neu P f hn, mul_zero, zero_add, one_mul, zero_mul, add_zero]

/-- `discretize` fails at row `f` exactly when the face carries no flag and has no cell on its upstream side. -/
theorem upErr_iff (P : Pb) (f : Nat) :
    upErr P f = true ↔ P.isNeu f = false ∧ P.isDir f = false ∧ upstream P f = none := by
  rw [upErr, deleted, inflowDir_eq]
  cases P.isNeu f <;> cases P.isDir f <;> cases upstream P f <;> simp

theorem upErr_of_upstream_some (P : Pb) (f j : Nat) (h : upstream P f = some j) : upErr P f = false := by
  rw [upErr, h]; exact Bool.and_false _

theorem anyErr_iff (P : Pb) (nf : Nat) : anyErr P nf = true ↔ ∃ f, f < nf ∧ upErr P f = true := by
  induction nf with
  | zero => exact iff_of_false Bool.false_ne_true (fun ⟨_, h, _⟩ => Nat.not_lt_zero _ h)
  | succ n ih =>
    rw [anyErr, Bool.or_eq_true, ih]
    constructor
    · rintro (⟨f, hf, h⟩ | h)
      · exact ⟨f, Nat.lt_succ_of_lt hf, h⟩
      · exact ⟨n, Nat.lt_succ_self n, h⟩
    · rintro ⟨f, hf, h⟩
      rcases Nat.lt_succ_iff_lt_or_eq.1 hf with hf | rfl
      · exact Or.inl ⟨f, hf, h⟩
      · exact Or.inr h

theorem interior_upstream_some (P : Pb) (hwf : WF P.T) (f : Nat) (h : Interior P.T f) :
    ∃ j, upstream P f = some j := by
  rcases le_or_gt 0 (P.q f) with h0 | h0
  · obtain ⟨i, hi, hf, hs⟩ := mem_of_cntPos_pos P.T f h.1.ge
    exact ⟨i.cell, (upstream_of_nonneg P f h0).trans (densePos_of_mem P.T f (hwf.pos f) i hi hf hs)⟩
  · obtain ⟨i, hi, hf, hs⟩ := mem_of_cntNeg_pos P.T f h.2.ge
    exact ⟨i.cell, (upstream_of_neg P f h0).trans (denseNeg_of_mem P.T f (hwf.neg f) i hi hf hs)⟩

theorem upstream_of_outflow (P : Pb) (hwf : WF P.T) (i : Inc) (hi : i ∈ P.T)
    (hout : 0 < i.sgn * P.q i.face) : upstream P i.face = some i.cell := by
  rcases unit_sgn_cases (hwf.unit i hi) with ⟨h1, hp⟩ | ⟨h1, hn⟩
  · rw [h1, one_mul] at hout
    exact (upstream_of_nonneg P _ hout.le).trans (densePos_of_mem P.T i.face (hwf.pos _) i hi rfl hp)
  · rw [h1, neg_one_mul, neg_pos] at hout
    exact (upstream_of_neg P _ hout).trans (denseNeg_of_mem P.T i.face (hwf.neg _) i hi rfl hn)

theorem upstream_of_inflow (P : Pb) (hwf : WF P.T) (i : Inc) (hi : i ∈ P.T)
    (honly : ∀ j ∈ P.T, j.face = i.face → j = i) (hin : i.sgn * P.q i.face < 0) :
    upstream P i.face = none := by
  rcases cnt_of_only_entry P.T hwf i hi honly with ⟨h1, _, hn⟩ | ⟨h1, hp, _⟩
  · rw [h1, one_mul] at hin
    exact (upstream_of_neg P _ hin).trans (denseNeg_none_of_cnt P.T i.face hn)
  · rw [h1, neg_one_mul, neg_lt_zero] at hin
    exact (upstream_of_nonneg P _ hin.le).trans (densePos_none_of_cnt P.T i.face hp)

/-- a Dirichlet boundary face (only entry `i`) through which flux enters belongs to `inflow_ind` -/
theorem inflowDir_of_inflow (P : Pb) (hwf : WF P.T) (i : Inc) (hi : i ∈ P.T)
    (honly : ∀ j ∈ P.T, j.face = i.face → j = i) (hdir : P.isDir i.face = true)
    (hin : i.sgn * P.q i.face < 0) : inflowDir P i.face = true := by
  rw [inflowDir_eq, upstream_of_inflow P hwf i hi honly hin, hdir]; rfl

theorem upstream_cell_lt (P : Pb) (nc : Nat) (hcell : ∀ i ∈ P.T, i.cell < nc) (f j : Nat)
    (h : upstream P f = some j) : j < nc := by
  have key : ∀ (p : Inc → Prop) [DecidablePred p], lastCell p P.T = some j → j < nc := fun p _ hl => by
    obtain ⟨i, hi, _, hc⟩ := lastCell_some_mem p P.T j hl
    exact hc ▸ hcell i hi
  rcases le_or_gt 0 (P.q f) with h0 | h0
  · rw [upstream_of_nonneg P f h0, densePos_eq_lastCell] at h; exact key _ h
  · rw [upstream_of_neg P f h0, denseNeg_eq_lastCell] at h; exact key _ h

/-- one entry with signed flux `t`, carrying a value `x ∈ [m, M]` that is the cell's own value `ck` when
    the flux leaves the cell: the excess `t·(x - ck)` is bounded by the inflow part `max (-t) 0` -/
theorem upwind_term_bounds (t x ck m M : Rat) (hx1 : m ≤ x) (hx2 : x ≤ M) (hout : 0 < t → x = ck) :
    t * (x - ck) ≤ max (-t) 0 * (ck - m) ∧ -(max (-t) 0 * (M - ck)) ≤ t * (x - ck) := by
  rcases lt_or_ge 0 t with h | h
  · rw [hout h, max_eq_right (neg_nonpos.2 h.le), sub_self, mul_zero, zero_mul, zero_mul, neg_zero]
    exact ⟨le_refl _, le_refl _⟩
  · -- multiplying `m - ck ≤ x - ck ≤ M - ck` by `t ≤ 0`
    rw [max_eq_left (neg_nonneg.2 h), neg_mul_comm, neg_sub, neg_mul, neg_neg]
    exact ⟨mul_le_mul_of_nonpos_left (sub_le_sub_right hx1 ck) h,
      mul_le_mul_of_nonpos_left (sub_le_sub_right hx2 ck) h⟩

/-- what the maximum principle asks of the data of one step, besides a divergence-free flux and the CFL limit -/
structure BoundedData (P : Pb) (nc : Nat) (c bv : Nat → Rat) (m M : Rat) : Prop where
  wf : WF P.T
  cell : ∀ i ∈ P.T, i.cell < nc
  val : ∀ j, j < nc → m ≤ c j ∧ c j ≤ M
  neu : ∀ i ∈ P.T, P.isNeu i.face = true → P.q i.face = 0 ∧ bv i.face = 0
  noerr : ∀ i ∈ P.T, P.q i.face ≠ 0 → upErr P i.face = false
  datum : ∀ i ∈ P.T, inflowDir P i.face = true → P.q i.face ≠ 0 → m ≤ bv i.face ∧ bv i.face ≤ M

section maximumPrinciple
variable {P : Pb} {nc : Nat} {c bv : Nat → Rat} {m M : Rat} (H : BoundedData P nc c bv m M)
include H

/-- The face flux seen from the cell `k` of an entry is `flux × (a value between m and M)`, and that
    value is the cell's own value when the flux leaves the cell. -/
theorem faceFlux_as_upstream_value (i : Inc) (hi : i ∈ P.T) :
    ∃ x, faceFlux P c bv i.face = P.q i.face * x ∧ m ≤ x ∧ x ≤ M ∧
      (0 < i.sgn * P.q i.face → x = c i.cell) := by
  have hk := H.val i.cell (H.cell i hi)
  by_cases hq : P.q i.face = 0
  · -- without flux only a Neumann datum could contribute, and it is zero
    have hnb : neuDiag P i.face * bv i.face = 0 := by
      cases hn : P.isNeu i.face
      · rw [neuDiag_of_not_neu P _ hn, zero_mul]
      · rw [(H.neu i hi hn).2, mul_zero]
    refine ⟨c i.cell, ?_, hk.1, hk.2, fun _ => rfl⟩
    rw [faceFlux, hnb, hq]; ring
  · have hn : P.isNeu i.face = false := Bool.eq_false_iff.2 (fun hn => hq (H.neu i hi hn).1)
    cases hu : upstream P i.face with
    | some j =>
      have hj := H.val j (upstream_cell_lt P nc H.cell i.face j hu)
      exact ⟨c j, faceFlux_of_upstream_some P c bv _ j hn hu, hj.1, hj.2,
        fun hout => congrArg c (Option.some.inj (hu.symm.trans (upstream_of_outflow P H.wf i hi hout)))⟩
    | none =>
      have hin : inflowDir P i.face = true := by
        have he := H.noerr i hi hq
        rw [upErr, hu, deleted, hn] at he
        simpa using he
      have hb := H.datum i hi hin hq
      exact ⟨bv i.face, faceFlux_of_inflowDir P c bv _ hn hin, hb.1, hb.2,
        fun hout => nomatch hu.symm.trans (upstream_of_outflow P H.wf i hi hout)⟩

/-- bounds on the divergence of the face flux in cell `k`, obtained by summing `upwind_term_bounds` -/
theorem divAt_faceFlux_bounds (k : Nat) :
    divAt P.T (faceFlux P c bv) k - divAt P.T P.q k * c k ≤ inflow P.T P.q k * (c k - m) ∧
    -(inflow P.T P.q k * (M - c k)) ≤ divAt P.T (faceFlux P c bv) k - divAt P.T P.q k * c k := by
  have key : ∀ i ∈ P.T.filter (fun i => i.cell = k),
      i.sgn * faceFlux P c bv i.face - i.sgn * P.q i.face * c k
        ≤ max (-(i.sgn * P.q i.face)) 0 * (c k - m) ∧
      -(max (-(i.sgn * P.q i.face)) 0 * (M - c k))
        ≤ i.sgn * faceFlux P c bv i.face - i.sgn * P.q i.face * c k := by
    intro i hi
    obtain ⟨hT, rfl⟩ := mem_filter_prop hi
    obtain ⟨x, hx, hx1, hx2, hout⟩ := faceFlux_as_upstream_value H i hT
    rw [hx, ← mul_assoc, ← mul_sub]
    exact upwind_term_bounds (i.sgn * P.q i.face) x (c i.cell) m M hx1 hx2 hout
  unfold divAt inflow
  rw [← sumOver_filter, ← sumOver_filter, ← sumOver_filter, ← sumOver_mul_right, ← sumOver_mul_right,
    ← sumOver_mul_right, ← sumOver_sub, ← sumOver_neg]
  exact ⟨sumOver_le _ _ _ (fun i hi => (key i hi).1), sumOver_le _ _ _ (fun i hi => (key i hi).2)⟩

end maximumPrinciple

/-- One side of the CFL step: with `0 ≤ r` and `r·W ≤ 1`, a quantity `B ≤ W·d` (`d ≥ 0`) scaled by `r`
    stays below `d`. -/
theorem cfl_one_side (r W B d : Rat) (hr : 0 ≤ r) (hrW : r * W ≤ 1) (hd : 0 ≤ d) (hB : B ≤ W * d) :
    r * B ≤ d :=
  calc r * B ≤ r * (W * d) := mul_le_mul_of_nonneg_left hB hr
    _ = r * W * d := (mul_assoc r W d).symm
    _ ≤ 1 * d := mul_le_mul_of_nonneg_right hrW hd
    _ = d := one_mul d

theorem cfl_ratio (dt V W : Rat) (hV : 0 < V) (hcfl : dt * W ≤ V) : dt / V * W ≤ 1 := by
  rw [div_mul_eq_mul_div]; exact (div_le_one hV).mpr hcfl

/-- Under the CFL limit `dt·W ≤ V`, a quantity `A ≤ W·(ck - m)` moves `ck ≥ m` by `dt/V·A` without passing `m`. -/
theorem arith_final_lower (ck m A W dt V : Rat) (hV : 0 < V) (hdt : 0 ≤ dt) (hcfl : dt * W ≤ V)
    (hck : m ≤ ck) (hA : A ≤ W * (ck - m)) : m ≤ ck - dt / V * A :=
  le_sub_comm.1 (cfl_one_side (dt / V) W A (ck - m) (div_nonneg hdt hV.le) (cfl_ratio dt V W hV hcfl)
    (sub_nonneg.2 hck) hA)

theorem arith_final_upper (ck M A W dt V : Rat) (hV : 0 < V) (hdt : 0 ≤ dt) (hcfl : dt * W ≤ V)
    (hck : ck ≤ M) (hA : -(W * (M - ck)) ≤ A) : ck - dt / V * A ≤ M :=
  sub_le_iff_le_add.2 (neg_le_sub_iff_le_add.1 (mul_neg (dt / V) A ▸
    cfl_one_side (dt / V) W (-A) (M - ck) (div_nonneg hdt hV.le) (cfl_ratio dt V W hV hcfl)
      (sub_nonneg.2 hck) (neg_le.1 hA)))

theorem vol_mul_update (V x dt y : Rat) (hV : V ≠ 0) : V * (x - dt / V * y) = V * x - dt * y := by
  rw [mul_sub, ← mul_assoc, mul_div_cancel₀ dt hV]

theorem absR_mul_sgnR (x : Rat) : absR x * ((sgnR x : Int) : Rat) = x := by
  rcases lt_trichotomy 0 x with h | rfl | h
  · rw [sgnR_of_pos h, absR, if_neg (not_lt.2 h.le)]; simp
  · rw [sgnR_zero]; simp
  · rw [sgnR_of_neg h, absR, if_pos h]; simp

theorem cplFlag_iff (C : Cp) (m : Nat) : cplFlag C m = true ↔ 0 < C.lam m := by
  rw [cplFlag, decide_eq_true_iff, sgnR_pos_iff]

end PorepyVerif.C17
