/-
C17 — finite sums: `sumOver` over a list, `sumTo` up to `n`.  `sumOver l g` is `(l.map g).sum` (`sumOver_eq`) and takes
its algebra from `Common.Sum`; `sumTo n` is `sumOver (List.range n)`, so the facts carry over.
-/
import Mathlib.Algebra.Order.Field.Rat
import Mathlib.Tactic.Ring
import PorepyVerif.C17.Model
import PorepyVerif.Common.Sum

namespace PorepyVerif.C17

@[simp] theorem sumOver_nil (g : α → Rat) : sumOver [] g = 0 := rfl
@[simp] theorem sumOver_cons (a : α) (l : List α) (g : α → Rat) :
    sumOver (a :: l) g = g a + sumOver l g := rfl
@[simp] theorem sumTo_zero (g : Nat → Rat) : sumTo 0 g = 0 := rfl
@[simp] theorem sumTo_succ (n : Nat) (g : Nat → Rat) : sumTo (n + 1) g = sumTo n g + g n := rfl

theorem sumOver_eq (l : List α) (g : α → Rat) : sumOver l g = (l.map g).sum := by
  induction l with
  | nil => rfl
  | cons a l ih => rw [List.map_cons, List.sum_cons, ← ih, sumOver_cons]

theorem sumOver_append (l₁ l₂ : List α) (g : α → Rat) :
    sumOver (l₁ ++ l₂) g = sumOver l₁ g + sumOver l₂ g := by
  simp only [sumOver_eq, List.map_append, List.sum_append]

theorem sumOver_map {β : Type _} (l : List β) (f : β → α) (g : α → Rat) :
    sumOver (l.map f) g = sumOver l (fun b => g (f b)) := by
  induction l with
  | nil => rfl
  | cons b l ih => rw [List.map_cons, sumOver_cons, sumOver_cons, ih]

theorem sumOver_range (n : Nat) (g : Nat → Rat) : sumOver (List.range n) g = sumTo n g := by
  induction n with
  | zero => rfl
  | succ n ih => rw [sumOver_eq, Common.sum_range_succ, ← sumOver_eq, ih, sumTo_succ]

theorem sumOver_add (l : List α) (g h : α → Rat) :
    sumOver l (fun a => g a + h a) = sumOver l g + sumOver l h := by
  simp only [sumOver_eq, Common.sum_map_add]

theorem sumOver_mul_right (l : List α) (g : α → Rat) (k : Rat) :
    sumOver l (fun a => g a * k) = sumOver l g * k := by
  simp only [sumOver_eq, Common.sum_map_mul_right]

theorem sumOver_neg (l : List α) (g : α → Rat) :
    sumOver l (fun a => -g a) = -sumOver l g := by
  simp only [sumOver_eq, Common.sum_map_neg]

theorem sumOver_sub (l : List α) (g h : α → Rat) :
    sumOver l (fun a => g a - h a) = sumOver l g - sumOver l h := by
  simp only [sumOver_eq, Common.sum_map_sub]

theorem sumOver_congr (l : List α) (g h : α → Rat) (H : ∀ a ∈ l, g a = h a) :
    sumOver l g = sumOver l h := by
  rw [sumOver_eq, sumOver_eq]
  exact Common.sum_map_congr H

theorem sumOver_le (l : List α) (g h : α → Rat) (H : ∀ a ∈ l, g a ≤ h a) :
    sumOver l g ≤ sumOver l h := by
  rw [sumOver_eq, sumOver_eq]
  exact Common.sum_map_le H

theorem sumOver_eq_zero (l : List α) (g : α → Rat) (H : ∀ a ∈ l, g a = 0) : sumOver l g = 0 :=
  (sumOver_eq l g).trans (Common.sum_map_eq_zero H)

theorem sumOver_nonneg (l : List α) (g : α → Rat) (H : ∀ a ∈ l, 0 ≤ g a) : 0 ≤ sumOver l g := by
  rw [sumOver_eq]
  exact Common.sum_map_nonneg H

/-! `sumTo n` is `sumOver (List.range n)` (`sumOver_range`), so the facts about `sumOver` carry over. -/

theorem sumTo_congr (n : Nat) (g h : Nat → Rat) (H : ∀ i, i < n → g i = h i) : sumTo n g = sumTo n h := by
  rw [← sumOver_range, ← sumOver_range]
  exact sumOver_congr _ _ _ (fun i hi => H i (List.mem_range.1 hi))

theorem sumTo_eq_zero (n : Nat) (g : Nat → Rat) (H : ∀ i, i < n → g i = 0) : sumTo n g = 0 := by
  rw [← sumOver_range]
  exact sumOver_eq_zero _ _ (fun i hi => H i (List.mem_range.1 hi))

theorem sumTo_add (n : Nat) (g h : Nat → Rat) :
    sumTo n (fun i => g i + h i) = sumTo n g + sumTo n h := by
  simp only [← sumOver_range, sumOver_add]

theorem sumTo_sub (n : Nat) (g h : Nat → Rat) :
    sumTo n (fun i => g i - h i) = sumTo n g - sumTo n h := by
  simp only [← sumOver_range, sumOver_sub]

theorem sumTo_mul_right (n : Nat) (g : Nat → Rat) (k : Rat) :
    sumTo n (fun i => g i * k) = sumTo n g * k := by
  simp only [← sumOver_range, sumOver_mul_right]

theorem sumTo_mul_left (n : Nat) (g : Nat → Rat) (k : Rat) :
    sumTo n (fun i => k * g i) = k * sumTo n g := by
  simp only [mul_comm k, sumTo_mul_right]

theorem sumTo_ite_eq (a n : Nat) (h : Nat → Rat) :
    sumTo n (fun i => if a = i then h i else 0) = if a < n then h a else 0 := by
  rw [← sumOver_range, sumOver_eq]
  split
  · next ha =>
    rw [Common.sum_map_single List.nodup_range (List.mem_range.2 ha) fun i _ hi => if_neg (Ne.symm hi), if_pos rfl]
  · next ha => exact Common.sum_map_eq_zero fun i hi => if_neg fun e : a = i => ha (e ▸ List.mem_range.1 hi)

theorem sumTo_sumOver_comm (n : Nat) (l : List α) (g : α → Nat → Rat) :
    sumTo n (fun i => sumOver l (fun a => g a i)) = sumOver l (fun a => sumTo n (fun i => g a i)) := by
  simp only [← sumOver_range, sumOver_eq]
  exact Common.sum_map_comm _ l fun i a => g a i

theorem sumTo_add_range (m k : Nat) (g : Nat → Rat) :
    sumTo (m + k) g = sumTo m g + sumTo k (fun b => g (m + b)) := by
  induction k with
  | zero => simp
  | succ k ih =>
    rw [← Nat.add_assoc]
    simp only [sumTo_succ, ih]; ring

theorem sumTo_mul_blocks (n k : Nat) (g : Nat → Rat) :
    sumTo (n * k) g = sumTo n (fun c => sumTo k (fun b => g (c * k + b))) := by
  induction n with
  | zero => simp
  | succ n ih =>
    rw [Nat.succ_mul, sumTo_add_range, ih]
    simp only [sumTo_succ]

theorem sumTo_comm (n m : Nat) (g : Nat → Nat → Rat) :
    sumTo n (fun i => sumTo m (fun j => g i j)) = sumTo m (fun j => sumTo n (fun i => g i j)) := by
  simp only [← sumOver_range m]
  exact sumTo_sumOver_comm n (List.range m) (fun j i => g i j)

/-- A sum with a test inside is the sum over the entries that pass it: the sums over the entries of one cell
    or one face (`divAt`, `outflow`, `traceVal`, …) inherit the facts above with nothing to say about the
    other entries. -/
theorem sumOver_filter (l : List α) (p : α → Prop) [DecidablePred p] (g : α → Rat) :
    sumOver (l.filter p) g = sumOver l (fun a => if p a then g a else 0) := by
  simp only [sumOver_eq, Common.sum_map_filter, decide_eq_true_eq]

theorem mem_filter_prop {l : List α} {p : α → Prop} [DecidablePred p] {a : α} (h : a ∈ l.filter p) :
    a ∈ l ∧ p a := by
  simpa using h

theorem sumOver_ite_mul (l : List α) (p : α → Prop) [DecidablePred p] (g : α → Rat) (k : Rat) :
    sumOver l (fun a => if p a then g a else 0) * k = sumOver l (fun a => if p a then g a * k else 0) := by
  rw [← sumOver_filter, ← sumOver_filter, sumOver_mul_right]

/-- Summing over all `k < n` the terms of a list whose key is `k` sums every term once (a matrix given
    by its stored entries, summed column by column). -/
theorem sumTo_sumOver_pick (l : List α) (key : α → Nat) (n : Nat) (h : ∀ a ∈ l, key a < n)
    (g : α → Nat → Rat) :
    sumTo n (fun k => sumOver l (fun a => if key a = k then g a k else 0))
      = sumOver l (fun a => g a (key a)) := by
  rw [sumTo_sumOver_comm]
  exact sumOver_congr _ _ _ (fun a ha => by rw [sumTo_ite_eq (key a) n (g a), if_pos (h a ha)])

end PorepyVerif.C17
