/-
C17 — the incidence list: the two sides of a face (`cell_faces_as_dense` and the counts), what a well-formed
topology gives, and the sums over the entries of a face or of a cell (sign of the divergence, divergence,
out- and inflow, trace).
-/
import PorepyVerif.C17.Sums

namespace PorepyVerif.C17

/-! ### `cell_faces_as_dense` versus the incidence list

The two rows of `cf_dense` and the two counts differ only in the side of the face they select, so the
facts are proved for an arbitrary decidable predicate `p` on entries and instantiated at both sides. -/

/-- the cell of the last entry with `p` (a row of `cf_dense` when `p` selects a face and a side) -/
def lastCell (p : Inc → Prop) [DecidablePred p] : Topo → Option Nat
  | [] => none
  | i :: T =>
    match lastCell p T with
    | some c => some c
    | none => if p i then some i.cell else none

def cntBy (p : Inc → Prop) [DecidablePred p] : Topo → Nat
  | [] => 0
  | i :: T => (if p i then 1 else 0) + cntBy p T

section side
variable (p : Inc → Prop) [DecidablePred p]

theorem lastCell_cons (i : Inc) (T : Topo) :
    lastCell p (i :: T) = match lastCell p T with
      | some c => some c
      | none => if p i then some i.cell else none := rfl

theorem cntBy_cons (i : Inc) (T : Topo) : cntBy p (i :: T) = (if p i then 1 else 0) + cntBy p T := rfl

theorem lastCell_none_of_cnt (T : Topo) (h : cntBy p T = 0) : lastCell p T = none := by
  induction T with
  | nil => rfl
  | cons i T ih =>
    rw [cntBy_cons] at h
    have h2 : ¬ p i := by
      intro hc; rw [if_pos hc] at h; omega
    rw [lastCell_cons, ih (by omega)]; exact if_neg h2

theorem lastCell_of_mem (T : Topo) (h : cntBy p T ≤ 1) (i : Inc) (hi : i ∈ T) (hp : p i) :
    lastCell p T = some i.cell := by
  induction T with
  | nil => cases hi
  | cons j T ih =>
    rw [cntBy_cons] at h
    rcases List.mem_cons.mp hi with rfl | hi'
    · rw [if_pos hp] at h
      rw [lastCell_cons, lastCell_none_of_cnt p T (by omega)]; exact if_pos hp
    · rw [lastCell_cons, ih (by omega) hi']

theorem lastCell_some_mem (T : Topo) (a : Nat) (h : lastCell p T = some a) :
    ∃ i ∈ T, p i ∧ i.cell = a := by
  induction T with
  | nil => cases h
  | cons j T ih =>
    rw [lastCell_cons] at h
    cases hd : lastCell p T with
    | some c =>
      rw [hd] at h
      obtain ⟨i, hi, hh⟩ := ih (by rw [hd]; exact h)
      exact ⟨i, List.mem_cons_of_mem _ hi, hh⟩
    | none =>
      rw [hd] at h
      by_cases hc : p j
      · simp only [if_pos hc, Option.some.injEq] at h
        exact ⟨j, List.mem_cons_self, hc, h⟩
      · simp [if_neg hc] at h

theorem cntBy_pos_of_mem (T : Topo) (i : Inc) (hi : i ∈ T) (hp : p i) : 1 ≤ cntBy p T := by
  induction T with
  | nil => cases hi
  | cons j T ih =>
    rw [cntBy_cons]
    rcases List.mem_cons.mp hi with rfl | hi'
    · rw [if_pos hp]; omega
    · have := ih hi'; omega

theorem mem_of_cntBy_pos (T : Topo) (h : 1 ≤ cntBy p T) : ∃ i ∈ T, p i := by
  induction T with
  | nil => cases h
  | cons j T ih =>
    rw [cntBy_cons] at h
    by_cases hc : p j
    · exact ⟨j, List.mem_cons_self, hc⟩
    · rw [if_neg hc] at h
      obtain ⟨i, hi, hh⟩ := ih (by omega)
      exact ⟨i, List.mem_cons_of_mem _ hi, hh⟩

theorem cntBy_eq_zero (T : Topo) (h : ∀ j ∈ T, ¬ p j) : cntBy p T = 0 :=
  Nat.eq_zero_of_not_pos (fun hpos => let ⟨i, hi, hp⟩ := mem_of_cntBy_pos p T hpos; h i hi hp)

end side

theorem cntPos_cons (i : Inc) (T : Topo) (f : Nat) :
    cntPos (i :: T) f = (if i.face = f ∧ 0 < i.sgn then 1 else 0) + cntPos T f := rfl
theorem cntNeg_cons (i : Inc) (T : Topo) (f : Nat) :
    cntNeg (i :: T) f = (if i.face = f ∧ i.sgn < 0 then 1 else 0) + cntNeg T f := rfl

theorem densePos_cons (i : Inc) (T : Topo) (f : Nat) :
    densePos (i :: T) f = match densePos T f with
      | some c => some c
      | none => if i.face = f ∧ 0 < i.sgn then some i.cell else none := rfl
theorem denseNeg_cons (i : Inc) (T : Topo) (f : Nat) :
    denseNeg (i :: T) f = match denseNeg T f with
      | some c => some c
      | none => if i.face = f ∧ i.sgn < 0 then some i.cell else none := rfl

theorem cntPos_eq_cntBy (T : Topo) (f : Nat) : cntPos T f = cntBy (fun i => i.face = f ∧ 0 < i.sgn) T := by
  induction T with
  | nil => rfl
  | cons i T ih => rw [cntPos_cons, ih]; rfl

theorem cntNeg_eq_cntBy (T : Topo) (f : Nat) : cntNeg T f = cntBy (fun i => i.face = f ∧ i.sgn < 0) T := by
  induction T with
  | nil => rfl
  | cons i T ih => rw [cntNeg_cons, ih]; rfl

theorem densePos_eq_lastCell (T : Topo) (f : Nat) :
    densePos T f = lastCell (fun i => i.face = f ∧ 0 < i.sgn) T := by
  induction T with
  | nil => rfl
  | cons i T ih => rw [densePos_cons, ih]; rfl

theorem denseNeg_eq_lastCell (T : Topo) (f : Nat) :
    denseNeg T f = lastCell (fun i => i.face = f ∧ i.sgn < 0) T := by
  induction T with
  | nil => rfl
  | cons i T ih => rw [denseNeg_cons, ih]; rfl

theorem densePos_none_of_cnt (T : Topo) (f : Nat) (h : cntPos T f = 0) : densePos T f = none := by
  rw [densePos_eq_lastCell]; exact lastCell_none_of_cnt _ T (cntPos_eq_cntBy T f ▸ h)

theorem denseNeg_none_of_cnt (T : Topo) (f : Nat) (h : cntNeg T f = 0) : denseNeg T f = none := by
  rw [denseNeg_eq_lastCell]; exact lastCell_none_of_cnt _ T (cntNeg_eq_cntBy T f ▸ h)

theorem densePos_of_mem (T : Topo) (f : Nat) (h : cntPos T f ≤ 1) (i : Inc) (hi : i ∈ T)
    (hf : i.face = f) (hs : 0 < i.sgn) : densePos T f = some i.cell := by
  rw [densePos_eq_lastCell]; exact lastCell_of_mem _ T (cntPos_eq_cntBy T f ▸ h) i hi ⟨hf, hs⟩

theorem denseNeg_of_mem (T : Topo) (f : Nat) (h : cntNeg T f ≤ 1) (i : Inc) (hi : i ∈ T)
    (hf : i.face = f) (hs : i.sgn < 0) : denseNeg T f = some i.cell := by
  rw [denseNeg_eq_lastCell]; exact lastCell_of_mem _ T (cntNeg_eq_cntBy T f ▸ h) i hi ⟨hf, hs⟩

theorem cntPos_pos_of_mem (T : Topo) (f : Nat) (i : Inc) (hi : i ∈ T) (hf : i.face = f)
    (hs : 0 < i.sgn) : 1 ≤ cntPos T f := by
  rw [cntPos_eq_cntBy]; exact cntBy_pos_of_mem _ T i hi ⟨hf, hs⟩

theorem cntNeg_pos_of_mem (T : Topo) (f : Nat) (i : Inc) (hi : i ∈ T) (hf : i.face = f)
    (hs : i.sgn < 0) : 1 ≤ cntNeg T f := by
  rw [cntNeg_eq_cntBy]; exact cntBy_pos_of_mem _ T i hi ⟨hf, hs⟩

theorem mem_of_cntPos_pos (T : Topo) (f : Nat) (h : 1 ≤ cntPos T f) :
    ∃ i ∈ T, i.face = f ∧ 0 < i.sgn :=
  mem_of_cntBy_pos _ T (cntPos_eq_cntBy T f ▸ h)

theorem mem_of_cntNeg_pos (T : Topo) (f : Nat) (h : 1 ≤ cntNeg T f) :
    ∃ i ∈ T, i.face = f ∧ i.sgn < 0 :=
  mem_of_cntBy_pos _ T (cntNeg_eq_cntBy T f ▸ h)

theorem cntNeg_eq_zero (T : Topo) (f : Nat) (h : ∀ j ∈ T, j.face = f → ¬ j.sgn < 0) : cntNeg T f = 0 := by
  rw [cntNeg_eq_cntBy]; exact cntBy_eq_zero _ T (fun j hj hc => h j hj hc.1 hc.2)

theorem cntPos_eq_zero (T : Topo) (f : Nat) (h : ∀ j ∈ T, j.face = f → ¬ 0 < j.sgn) : cntPos T f = 0 := by
  rw [cntPos_eq_cntBy]; exact cntBy_eq_zero _ T (fun j hj hc => h j hj hc.1 hc.2)

theorem WF.mem {T : Topo} (h : WF T) (i : Inc) (hi : i ∈ T) :
    (i.sgn = 1 ∨ i.sgn = -1) ∧ cntPos T i.face ≤ 1 ∧ cntNeg T i.face ≤ 1 := by
  simpa using (List.all_eq_true.mp h) i hi

theorem WF.unit {T : Topo} (h : WF T) (i : Inc) (hi : i ∈ T) : i.sgn = 1 ∨ i.sgn = -1 := (h.mem i hi).1

/-- `wfB` bounds the counts at the faces of the entries; a face without entries has counts 0. -/
theorem WF.pos {T : Topo} (h : WF T) (f : Nat) : cntPos T f ≤ 1 := by
  by_cases h0 : 1 ≤ cntPos T f
  · obtain ⟨i, hi, hf, _⟩ := mem_of_cntPos_pos T f h0
    exact hf ▸ (h.mem i hi).2.1
  · omega

theorem WF.neg {T : Topo} (h : WF T) (f : Nat) : cntNeg T f ≤ 1 := by
  by_cases h0 : 1 ≤ cntNeg T f
  · obtain ⟨i, hi, hf, _⟩ := mem_of_cntNeg_pos T f h0
    exact hf ▸ (h.mem i hi).2.2
  · omega

theorem unit_sgn_cases {s : Rat} (h : s = 1 ∨ s = -1) : (s = 1 ∧ 0 < s) ∨ (s = -1 ∧ s < 0) :=
  h.imp (fun h => ⟨h, h ▸ one_pos⟩) (fun h => ⟨h, h ▸ neg_one_lt_zero⟩)

/-- Sum over the entries of a face of a function of the sign, for unit signs: one term per cell on the
    positive side and one per cell on the negative side. -/
theorem sumOver_face_unit (T : Topo) (f : Nat) (w : Rat → Rat) (hu : ∀ i ∈ T, i.sgn = 1 ∨ i.sgn = -1) :
    sumOver T (fun i => if i.face = f then w i.sgn else 0) = cntPos T f * w 1 + cntNeg T f * w (-1) := by
  induction T with
  | nil => simp [cntPos, cntNeg]
  | cons j T ih =>
    rw [sumOver_cons, ih (fun i hi => hu i (List.mem_cons_of_mem _ hi)), cntPos_cons, cntNeg_cons]
    by_cases hf : j.face = f
    · rcases unit_sgn_cases (hu j List.mem_cons_self) with ⟨h1, hp⟩ | ⟨h1, hn⟩
      · rw [if_pos hf, if_pos ⟨hf, hp⟩, if_neg (fun h => absurd h.2 (not_lt.2 hp.le)), h1,
          zero_add, Nat.cast_add, Nat.cast_one, add_mul, one_mul, add_assoc]
      · rw [if_pos hf, if_neg (fun h => absurd h.2 (not_lt.2 hn.le)), if_pos ⟨hf, hn⟩, h1,
          zero_add, Nat.cast_add, Nat.cast_one, add_mul, one_mul]
        exact add_left_comm _ _ _
    · rw [if_neg hf, if_neg (fun h => hf h.1), if_neg (fun h => hf h.1), zero_add, zero_add, zero_add]

theorem sgnDiv_eq_cnt (T : Topo) (f : Nat) (hu : ∀ i ∈ T, i.sgn = 1 ∨ i.sgn = -1) :
    sgnDiv T f = (cntPos T f : Rat) - (cntNeg T f : Rat) := by
  rw [sgnDiv, sumOver_face_unit T f (fun s => s) hu]; ring

theorem sgnDiv_interior (T : Topo) (f : Nat) (h : WF T) (hi : Interior T f) : sgnDiv T f = 0 := by
  rw [sgnDiv_eq_cnt T f h.unit, hi.1, hi.2]; simp

theorem sum_divAt (T : Topo) (g : Nat → Rat) (nc : Nat) (hc : ∀ i ∈ T, i.cell < nc) :
    sumTo nc (divAt T g) = sumOver T (fun i => i.sgn * g i.face) :=
  sumTo_sumOver_pick T Inc.cell nc hc (fun i _ => i.sgn * g i.face)

theorem sum_faces (T : Topo) (g : Nat → Rat) (nf : Nat) (hf : ∀ i ∈ T, i.face < nf) :
    sumOver T (fun i => i.sgn * g i.face) = sumTo nf (fun f => sgnDiv T f * g f) := by
  unfold sgnDiv
  rw [sumTo_congr nf _ _ (fun f _ => sumOver_ite_mul T (fun i => i.face = f) Inc.sgn (g f))]
  exact (sumTo_sumOver_pick T Inc.face nf hf (fun i f => i.sgn * g f)).symm

theorem divAt_eq_out_sub_in (T : Topo) (q : Nat → Rat) (k : Nat) :
    divAt T q k = outflow T q k - inflow T q k := by
  unfold divAt outflow inflow
  rw [← sumOver_filter, ← sumOver_filter, ← sumOver_filter, ← sumOver_sub]
  apply sumOver_congr
  intro i _
  rcases le_total (i.sgn * q i.face) 0 with h1 | h1
  · rw [max_eq_right h1, max_eq_left (neg_nonneg.2 h1), zero_sub, neg_neg]
  · rw [max_eq_left h1, max_eq_right (neg_nonpos.2 h1), sub_zero]

theorem cnt_of_only_entry (T : Topo) (hwf : WF T) (i : Inc) (hi : i ∈ T)
    (honly : ∀ j ∈ T, j.face = i.face → j = i) :
    (i.sgn = 1 ∧ cntPos T i.face = 1 ∧ cntNeg T i.face = 0) ∨
    (i.sgn = -1 ∧ cntPos T i.face = 0 ∧ cntNeg T i.face = 1) := by
  rcases unit_sgn_cases (hwf.unit i hi) with ⟨h1, hp⟩ | ⟨h1, hn⟩
  · exact Or.inl ⟨h1, le_antisymm (hwf.pos _) (cntPos_pos_of_mem T i.face i hi rfl hp),
      cntNeg_eq_zero T i.face (fun j hj hf => by rw [honly j hj hf]; exact not_lt.2 hp.le)⟩
  · exact Or.inr ⟨h1, cntPos_eq_zero T i.face (fun j hj hf => by rw [honly j hj hf]; exact not_lt.2 hn.le),
      le_antisymm (hwf.neg _) (cntNeg_pos_of_mem T i.face i hi rfl hn)⟩

theorem absR_nonneg (x : Rat) : 0 ≤ absR x := by
  unfold absR; split
  · next h => exact neg_nonneg.2 h.le
  · next h => exact not_lt.1 h

theorem traceVal_eq_matvec (T : Topo) (c : Nat → Rat) (f nc : Nat) (hc : ∀ i ∈ T, i.cell < nc) :
    sumTo nc (fun k => traceW T f k * c k) = traceVal T c f := by
  -- among the entries of face `f`, column `k` picks those of cell `k`
  unfold traceW traceVal
  simp only [ite_and, ← sumOver_filter (p := fun i : Inc => i.face = f), sumOver_ite_mul]
  exact sumTo_sumOver_pick _ Inc.cell nc (fun i hi => hc i (mem_filter_prop hi).1) (fun i k => absR i.sgn * c k)

/-- total weight of a face in the trace operator: the number of its cells -/
def faceWeight (T : Topo) (f : Nat) : Rat := sumOver T (fun i => if i.face = f then absR i.sgn else 0)

theorem sum_traceW (T : Topo) (f nc : Nat) (hc : ∀ i ∈ T, i.cell < nc) :
    sumTo nc (fun c => traceW T f c) = faceWeight T f := by
  simpa only [mul_one, traceVal, faceWeight] using traceVal_eq_matvec T (fun _ => 1) f nc hc

theorem faceWeight_eq_cnt (T : Topo) (f : Nat) (hu : ∀ i ∈ T, i.sgn = 1 ∨ i.sgn = -1) :
    faceWeight T f = (cntPos T f : Rat) + (cntNeg T f : Rat) := by
  have h1 : absR 1 = 1 := by decide
  have h2 : absR (-1) = 1 := by decide
  rw [faceWeight, sumOver_face_unit T f absR hu, h1, h2, mul_one, mul_one]

theorem traceVal_const (T : Topo) (f : Nat) (x : Rat) (hu : ∀ i ∈ T, i.sgn = 1 ∨ i.sgn = -1) :
    traceVal T (fun _ => x) f = ((cntPos T f : Rat) + cntNeg T f) * x := by
  rw [← faceWeight_eq_cnt T f hu]
  exact (sumOver_ite_mul T (fun i => i.face = f) (fun i => absR i.sgn) x).symm

end PorepyVerif.C17
