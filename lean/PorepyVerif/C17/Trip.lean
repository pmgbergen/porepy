/-
C17 — triplet lists: entries of the copies made by the Kronecker expansion, of a list built row by row, and
of the three matrices of `discretize`.
-/
import PorepyVerif.C17.Sums

namespace PorepyVerif.C17

theorem entryOf_append (M₁ M₂ : List Trip) (r c : Nat) :
    entryOf (M₁ ++ M₂) r c = entryOf M₁ r c + entryOf M₂ r c := sumOver_append _ _ _

theorem entryOf_cons (t : Trip) (M : List Trip) (r c : Nat) :
    entryOf (t :: M) r c = (if t.1 = r ∧ t.2.1 = c then t.2.2 else 0) + entryOf M r c := rfl

theorem entryOf_nil (r c : Nat) : entryOf [] r c = 0 := rfl

theorem block_mod (k x y : Nat) (h : y < k) : (x * k + y) % k = y := by
  rw [Nat.mul_comm, Nat.mul_add_mod, Nat.mod_eq_of_lt h]

theorem block_div (k x y : Nat) (h : y < k) : (x * k + y) / k = x := by
  rw [Nat.mul_comm, Nat.mul_add_div (Nat.lt_of_le_of_lt (Nat.zero_le y) h), Nat.div_eq_of_lt h, Nat.add_zero]

theorem kronE_block (A : Nat → Nat → Rat) (k f c a b : Nat) (ha : a < k) (hb : b < k) :
    kronE A k (f * k + a) (c * k + b) = if a = b then A f c else 0 := by
  rw [kronE, block_mod k f a ha, block_mod k c b hb, block_div k f a ha, block_div k c b hb]

/-- entries of the first `n ≤ k` copies of one triplet: the first `n` places on the diagonal of block `(t.1, t.2.1)` -/
theorem entryOf_block (k : Nat) (hk : 0 < k) (t : Trip) (r c : Nat) (n : Nat) (hn : n ≤ k) :
    entryOf ((List.range n).map (fun a => (t.1 * k + a, t.2.1 * k + a, t.2.2))) r c
      = if r / k = t.1 ∧ c / k = t.2.1 ∧ r % k = c % k ∧ r % k < n then t.2.2 else 0 := by
  -- copy `a` contributes exactly when `a = r % k` and `(r, c)` lies on the diagonal of block `(t.1, t.2.1)`
  have e : ∀ a, a < n → (if t.1 * k + a = r ∧ t.2.1 * k + a = c then t.2.2 else 0)
      = if r % k = a then (if r / k = t.1 ∧ c / k = t.2.1 ∧ r % k = c % k then t.2.2 else 0) else 0 := by
    intro a han
    have ha : a < k := Nat.lt_of_lt_of_le han hn
    by_cases h : t.1 * k + a = r ∧ t.2.1 * k + a = c
    · obtain ⟨rfl, rfl⟩ := h
      rw [if_pos ⟨rfl, rfl⟩, block_mod k _ a ha, block_mod k _ a ha, block_div k _ a ha, block_div k _ a ha,
        if_pos rfl, if_pos ⟨rfl, rfl, rfl⟩]
    · rw [if_neg h]
      by_cases ha' : r % k = a
      · rw [if_pos ha', if_neg]
        rintro ⟨h1, h2, h3⟩
        refine h ⟨?_, ?_⟩
        · rw [← h1, ← ha']; exact Nat.div_add_mod' r k
        · rw [← h2, ← ha', h3]; exact Nat.div_add_mod' c k
      · rw [if_neg ha']
  rw [entryOf, sumOver_map, sumOver_range, sumTo_congr n _ _ e, sumTo_ite_eq (r % k) n (fun _ => _), ← ite_and]
  exact if_congr ⟨fun h => ⟨h.2.1, h.2.2.1, h.2.2.2, h.1⟩, fun h => ⟨h.2.2.2, h.1, h.2.1, h.2.2.1⟩⟩ rfl rfl

/-- A triplet list built row by row (`L (n+1) = L n ++ row n`): if row `n` contributes `v n c` to the
    entries `(n, c)` and nothing elsewhere, the first `n` rows hold `v`. -/
theorem entryOf_rows (L row : Nat → List Trip) (v : Nat → Nat → Rat) (h0 : L 0 = [])
    (hs : ∀ n, L (n + 1) = L n ++ row n)
    (hrow : ∀ n r c, entryOf (row n) r c = if r = n then v r c else 0) (n r c : Nat) :
    entryOf (L n) r c = if r < n then v r c else 0 := by
  have e : entryOf (L n) r c = sumTo n (fun k => entryOf (row k) r c) := by
    induction n with
    | zero => rw [h0]; rfl
    | succ n ih => rw [hs, entryOf_append, ih]; rfl
  rw [e, sumTo_congr n _ _ (fun k _ => hrow k r c), sumTo_ite_eq r n (fun _ => v r c)]

theorem entryOf_diag (L : Nat → List Trip) (b : Nat → Bool) (d : Nat → Rat) (h0 : L 0 = [])
    (hs : ∀ n, L (n + 1) = L n ++ (if b n then [(n, n, d n)] else [])) (n r c : Nat) :
    entryOf (L n) r c = if r < n ∧ r = c then (if b r then d r else 0) else 0 := by
  rw [ite_and]
  refine entryOf_rows L _ (fun r c => if r = c then (if b r then d r else 0) else 0) h0 hs ?_ n r c
  intro n r c
  by_cases h : r = n
  · subst h; cases b r <;> simp [entryOf_cons, entryOf_nil]
  · cases b n <;> simp [h, Ne.symm h, entryOf_cons, entryOf_nil]

theorem upwindTrip_entry (P : Pb) (nf f c : Nat) :
    entryOf (upwindTrip P nf) f c = if f < nf then U P f c else 0 := by
  refine entryOf_rows (upwindTrip P) _ (U P) rfl (fun _ => rfl) ?_ nf f c
  intro n r c
  by_cases h : r = n
  · subst h; cases hu : upCol P r <;> simp [U, hu, entryOf_cons, entryOf_nil]
  · cases upCol P n <;> simp [h, Ne.symm h, entryOf_cons, entryOf_nil]

theorem dirTrip_entry (P : Pb) (nf r c : Nat) :
    entryOf (dirTrip P nf) r c = if r < nf ∧ r = c then dirDiag P r else 0 :=
  entryOf_diag (dirTrip P) (inflowDir P) (fun _ => 1) rfl (fun _ => rfl) nf r c

theorem neuTrip_entry (P : Pb) (nf r c : Nat) :
    entryOf (neuTrip P nf) r c = if r < nf ∧ r = c then neuDiag P r else 0 :=
  entryOf_diag (neuTrip P) P.isNeu (sgnDiv P.T) rfl (fun _ => rfl) nf r c

end PorepyVerif.C17
