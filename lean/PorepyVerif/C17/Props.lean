/-
C17 — property theorems (statements depend on Model.lean only; helper lemmas in Sums, Topology, Trip, Lemmas).

Property: for any grid, face flux field and assignment of Dirichlet or Neumann conditions to the
boundary faces, each face with nonzero flux selects in the upwind matrix exactly the cell the flux
leaves (no cell on Neumann faces and on Dirichlet inflow faces), with boundary data entering only
on those faces.  An explicit transport step under the CFL limit with no-flow boundaries and a
divergence-free flux keeps the total advected amount unchanged and keeps cell values within the
initial bounds.

"Any grid" = any list `T` of signed incidences `(face, cell, ±1)` with at most one cell on each
side of a face (`WF T`, decidable); fluxes, boundary flags, boundary data, volumes are arbitrary
functions.  An entry `⟨f, a, 1⟩ ∈ T` says that the normal of face `f` points out of cell `a`.
-/
import PorepyVerif.C17.Lemmas
import PorepyVerif.C17.Trip

namespace PorepyVerif.C17

/-- Interior face `f` (normal pointing from cell `a` to cell `b`), not flagged Neumann: row `f` of the
    upwind matrix has exactly one nonzero entry, a 1, at the cell the flux leaves — `a` for positive
    flux, `b` for negative flux; zero flux is treated as positive (as coded: `np.sign(flux) >= 0`). -/
theorem upwind_selects_upstream (P : Pb) (hwf : WF P.T) (f a b : Nat)
    (ha : (⟨f, a, 1⟩ : Inc) ∈ P.T) (hb : (⟨f, b, -1⟩ : Inc) ∈ P.T) (hneu : P.isNeu f = false) :
    (0 < P.q f → ∀ c, U P f c = if c = a then 1 else 0) ∧
    (P.q f < 0 → ∀ c, U P f c = if c = b then 1 else 0) ∧
    (P.q f = 0 → ∀ c, U P f c = if c = a then 1 else 0) := by
  have dp : densePos P.T f = some a := densePos_of_mem P.T f (hwf.pos f) ⟨f, a, 1⟩ ha rfl one_pos
  have dn : denseNeg P.T f = some b := denseNeg_of_mem P.T f (hwf.neg f) ⟨f, b, -1⟩ hb rfl neg_one_lt_zero
  have pos_case : 0 ≤ P.q f → ∀ c, U P f c = if c = a then 1 else 0 := fun h =>
    U_of_upCol_some P f a (upCol_of_upstream_some P f a hneu
      ((upstream_of_nonneg P f h).trans dp))
  refine ⟨fun h => pos_case h.le, fun h => ?_, fun h => pos_case h.ge⟩
  exact U_of_upCol_some P f b (upCol_of_upstream_some P f b hneu
    ((upstream_of_neg P f h).trans dn))

/-- Neumann faces (any topology): no cell is selected, `bound_transport_neu` carries the sign of the
    divergence and `bound_transport_neu` is zero on every other face. -/
theorem upwind_boundary_rows_neumann (P : Pb) (f : Nat) :
    (P.isNeu f = true → (∀ c, U P f c = 0) ∧ neuDiag P f = sgnDiv P.T f) ∧
    (P.isNeu f = false → neuDiag P f = 0) :=
  ⟨fun h => ⟨U_of_upCol_none P f (upCol_of_neu P f h), neuDiag_of_neu P f h⟩, neuDiag_of_not_neu P f⟩

/-- On a boundary face (its only entry is `i`) the sign of the divergence is the sign of that entry:
    +1 if the normal points out of the domain, -1 if it points in. -/
theorem sgnDiv_boundary (T : Topo) (hwf : WF T) (i : Inc) (hi : i ∈ T)
    (honly : ∀ j ∈ T, j.face = i.face → j = i) : sgnDiv T i.face = i.sgn := by
  rw [sgnDiv_eq_cnt T i.face hwf.unit]
  rcases cnt_of_only_entry T hwf i hi honly with ⟨h1, hp, hn⟩ | ⟨h1, hp, hn⟩
  · rw [hp, hn, h1]; norm_num
  · rw [hp, hn, h1]; norm_num

/-- Dirichlet boundary face (only entry `i`, not Neumann): if the flux enters the domain the row is
    empty and `bound_transport_dir` has a 1; if it leaves the domain the row selects the interior
    cell and `bound_transport_dir` has nothing. -/
theorem upwind_boundary_rows_dirichlet (P : Pb) (hwf : WF P.T) (i : Inc) (hi : i ∈ P.T)
    (honly : ∀ j ∈ P.T, j.face = i.face → j = i)
    (hdir : P.isDir i.face = true) (hneu : P.isNeu i.face = false) :
    (i.sgn * P.q i.face < 0 → (∀ c, U P i.face c = 0) ∧ dirDiag P i.face = 1) ∧
    (0 < i.sgn * P.q i.face →
      (∀ c, U P i.face c = if c = i.cell then 1 else 0) ∧ dirDiag P i.face = 0) := by
  constructor
  · intro hin
    have hinf := inflowDir_of_inflow P hwf i hi honly hdir hin
    exact ⟨U_of_upCol_none P _ (upCol_of_inflowDir P _ hinf), dirDiag_of_inflowDir P _ hinf⟩
  · intro hout
    have hup := upstream_of_outflow P hwf i hi hout
    exact ⟨U_of_upCol_some P _ _ (upCol_of_upstream_some P _ _ hneu hup),
      dirDiag_of_not_inflowDir P _ (inflowDir_of_upstream_some P _ _ hup)⟩

/-- `bound_transport_dir` is nonzero only on Dirichlet faces whose upstream side has no cell. -/
theorem dirDiag_support (P : Pb) (f : Nat) (h : dirDiag P f ≠ 0) :
    P.isDir f = true ∧ upstream P f = none := by
  have hin : inflowDir P f = true := by
    cases hin : inflowDir P f
    · exact absurd (dirDiag_of_not_inflowDir P f hin) h
    · rfl
  rw [inflowDir_eq] at hin
  simpa using hin

/-- Boundary data enters only on the deleted rows (Neumann faces and Dirichlet inflow faces), with the
    coded signs, and cell values enter only on the other rows: the composed face flux
    `flux·(upwind c) + bound_transport_dir (flux·bv) + bound_transport_neu bv` is
    `flux · c[upstream cell]` on kept rows and `[Dirichlet inflow]·flux·bv + [Neumann]·sgn_div·bv` on
    deleted rows. -/
theorem boundary_data_only_on_boundary_rows (P : Pb) (c bv : Nat → Rat) (f : Nat) :
    (deleted P f = false →
      dirDiag P f = 0 ∧ neuDiag P f = 0 ∧ faceFlux P c bv f = P.q f * upVal P c f) ∧
    (deleted P f = true →
      (∀ j, U P f j = 0) ∧
      faceFlux P c bv f = dirDiag P f * (P.q f * bv f) + neuDiag P f * bv f) := by
  constructor
  · intro h
    rw [deleted, Bool.or_eq_false_iff] at h
    have hd := dirDiag_of_not_inflowDir P f h.2
    have hn := neuDiag_of_not_neu P f h.1
    exact ⟨hd, hn, by rw [faceFlux, hd, hn, zero_mul, zero_mul, add_zero, add_zero]⟩
  · intro h
    have hcol := upCol_of_deleted P f h
    exact ⟨U_of_upCol_none P f hcol, by rw [faceFlux, upVal_of_upCol_none P c f hcol, mul_zero, zero_add]⟩

/-- The property's second clause in one statement. -/
theorem upwind_boundary_rows (P : Pb) (hwf : WF P.T) (c bv : Nat → Rat) (i : Inc) (hi : i ∈ P.T)
    (honly : ∀ j ∈ P.T, j.face = i.face → j = i) :
    -- Neumann: no cell, the sign of the divergence multiplies the boundary value
    (P.isNeu i.face = true → (∀ j, U P i.face j = 0) ∧ neuDiag P i.face = i.sgn) ∧
    -- Dirichlet (not Neumann), flux entering the domain: no cell, the boundary value is transported
    (P.isDir i.face = true → P.isNeu i.face = false → i.sgn * P.q i.face < 0 →
      (∀ j, U P i.face j = 0) ∧ faceFlux P c bv i.face = P.q i.face * bv i.face) ∧
    -- Dirichlet (not Neumann), flux leaving the domain: the interior cell, no boundary value
    (P.isDir i.face = true → P.isNeu i.face = false → 0 < i.sgn * P.q i.face →
      (∀ j, U P i.face j = if j = i.cell then 1 else 0) ∧
      faceFlux P c bv i.face = P.q i.face * c i.cell) := by
  refine ⟨fun hn => ?_, fun hd hn hin => ?_, fun hd hn hout => ?_⟩
  · exact ⟨U_of_upCol_none P _ (upCol_of_neu P _ hn),
      (neuDiag_of_neu P _ hn).trans (sgnDiv_boundary P.T hwf i hi honly)⟩
  · have hinf := inflowDir_of_inflow P hwf i hi honly hd hin
    exact ⟨U_of_upCol_none P _ (upCol_of_inflowDir P _ hinf), faceFlux_of_inflowDir P c bv _ hn hinf⟩
  · have hup := upstream_of_outflow P hwf i hi hout
    exact ⟨U_of_upCol_some P _ _ (upCol_of_upstream_some P _ _ hn hup),
      faceFlux_of_upstream_some P c bv _ _ hn hup⟩

/-- `(upwind @ c)[f]` computed from the matrix entries is the value in the selected cell. -/
theorem upVal_eq_matvec (P : Pb) (c : Nat → Rat) (f nc : Nat) (h : ∀ j, upCol P f = some j → j < nc) :
    sumTo nc (fun j => U P f j * c j) = upVal P c f := by
  cases hu : upCol P f with
  | none =>
    rw [upVal_of_upCol_none P c f hu]
    exact sumTo_eq_zero _ _ (fun j _ => by rw [U_of_upCol_none P f hu, zero_mul])
  | some a =>
    have e : ∀ j, U P f j * c j = if a = j then c j else 0 := fun j => by
      rw [U_of_upCol_some P f a hu, ite_mul, one_mul, zero_mul]
      exact if_congr eq_comm rfl rfl
    rw [upVal_of_upCol_some P c f a hu, sumTo_congr nc _ _ (fun j _ => e j), sumTo_ite_eq, if_pos (h a hu)]

/-- `discretize` is defined (no kept row with column -1, i.e. scipy does not raise) whenever every face is
    interior or carries a Dirichlet or a Neumann flag — for any flux field. -/
theorem discretize_defined (P : Pb) (hwf : WF P.T) (nf : Nat)
    (hbc : ∀ f, f < nf → P.isNeu f = true ∨ P.isDir f = true ∨ Interior P.T f) :
    anyErr P nf = false := by
  -- a failing row would be an unflagged face without a cell on its upstream side; an interior face has one
  refine Bool.eq_false_iff.2 (fun h => ?_)
  obtain ⟨f, hf, he⟩ := (anyErr_iff P nf).1 h
  obtain ⟨hn, hd, hu⟩ := (upErr_iff P f).1 he
  rcases hbc f hf with h | h | h
  · rw [hn] at h; cases h
  · rw [hd] at h; cases h
  · obtain ⟨j, hj⟩ := interior_upstream_some P hwf f h
    rw [hu] at hj; cases hj

/-- Balance for ANY topology, flux, flags and data: one explicit step changes the total amount
    `Σ V c` by `-dt ×` the net face flux through the faces, weighted by the sign of the divergence
    (which vanishes on interior faces). -/
theorem transport_balance (P : Pb) (nf nc : Nat) (dt : Rat) (V bv c : Nat → Rat)
    (hcell : ∀ i ∈ P.T, i.cell < nc) (hface : ∀ i ∈ P.T, i.face < nf)
    (hV : ∀ i, i < nc → V i ≠ 0) :
    sumTo nc (fun i => V i * step P dt V bv c i)
      = sumTo nc (fun i => V i * c i) - dt * sumTo nf (fun f => sgnDiv P.T f * faceFlux P c bv f) := by
  have e : ∀ i, i < nc → V i * step P dt V bv c i = V i * c i - dt * divAt P.T (faceFlux P c bv) i :=
    fun i hi => vol_mul_update (V i) (c i) dt _ (hV i hi)
  rw [sumTo_congr nc _ _ e, sumTo_sub, sumTo_mul_left, sum_divAt P.T _ nc hcell, sum_faces P.T _ nf hface]

/-- Every face interior or a Neumann face with zero data: the boundary term of `transport_balance` vanishes
    (interior faces have `sgn_div = 0`, the Neumann rows carry only their datum). -/
theorem closed_boundary_flux (P : Pb) (hwf : WF P.T) (nf : Nat) (bv c : Nat → Rat)
    (hclosed : ∀ f, f < nf → Interior P.T f ∨ (P.isNeu f = true ∧ bv f = 0)) :
    sumTo nf (fun f => sgnDiv P.T f * faceFlux P c bv f) = 0 := by
  apply sumTo_eq_zero
  intro f hf
  rcases hclosed f hf with h | ⟨h1, h2⟩
  · rw [sgnDiv_interior P.T f hwf h, zero_mul]
  · rw [faceFlux, upVal_of_upCol_none P c f (upCol_of_neu P f h1), h2]; ring

/-- Conservation: if every face is interior or a Neumann face with zero data (no-flow boundary), an
    explicit step keeps `Σ V c` for ANY flux field and any time step. -/
theorem transport_conserves (P : Pb) (hwf : WF P.T) (nf nc : Nat) (dt : Rat) (V bv c : Nat → Rat)
    (hcell : ∀ i ∈ P.T, i.cell < nc) (hface : ∀ i ∈ P.T, i.face < nf)
    (hV : ∀ i, i < nc → V i ≠ 0)
    (hclosed : ∀ f, f < nf → Interior P.T f ∨ (P.isNeu f = true ∧ bv f = 0)) :
    sumTo nc (fun i => V i * step P dt V bv c i) = sumTo nc (fun i => V i * c i) := by
  rw [transport_balance P nf nc dt V bv c hcell hface hV, closed_boundary_flux P hwf nf bv c hclosed,
    mul_zero, sub_zero]

/-- … and therefore after any number of steps. -/
theorem transport_conserves_iter (P : Pb) (hwf : WF P.T) (nf nc : Nat) (dt : Rat) (V bv : Nat → Rat)
    (hcell : ∀ i ∈ P.T, i.cell < nc) (hface : ∀ i ∈ P.T, i.face < nf)
    (hV : ∀ i, i < nc → V i ≠ 0)
    (hclosed : ∀ f, f < nf → Interior P.T f ∨ (P.isNeu f = true ∧ bv f = 0))
    (n : Nat) (c : Nat → Rat) :
    sumTo nc (fun i => V i * iter P dt V bv n c i) = sumTo nc (fun i => V i * c i) := by
  induction n generalizing c with
  | zero => rfl
  | succ n ih =>
    show sumTo nc (fun i => V i * iter P dt V bv n (step P dt V bv c) i) = _
    rw [ih, transport_conserves P hwf nf nc dt V bv c hcell hface hV hclosed]

/-- General form (covers flow through Dirichlet in/outflow boundaries): divergence-free flux, CFL
    condition `dt · outflow ≤ V`, Neumann faces carry neither flux nor data, every face where flux
    enters from outside is a Dirichlet face (`upErr = false`: the discretization is defined) whose
    datum lies in `[m, M]`.  Then one explicit step keeps every cell value in `[m, M]`. -/
theorem transport_maximum_principle_inflow (P : Pb) (hwf : WF P.T) (nc : Nat) (dt : Rat)
    (V bv c : Nat → Rat) (m M : Rat)
    (hcell : ∀ i ∈ P.T, i.cell < nc)
    (hV : ∀ i, i < nc → 0 < V i) (hdt : 0 ≤ dt)
    (hdiv : ∀ i, i < nc → divAt P.T P.q i = 0)
    (hcfl : ∀ i, i < nc → dt * outflow P.T P.q i ≤ V i)
    (hneu : ∀ i ∈ P.T, P.isNeu i.face = true → P.q i.face = 0 ∧ bv i.face = 0)
    (hnoerr : ∀ i ∈ P.T, P.q i.face ≠ 0 → upErr P i.face = false)
    (hbv : ∀ i ∈ P.T, inflowDir P i.face = true → P.q i.face ≠ 0 → m ≤ bv i.face ∧ bv i.face ≤ M)
    (hc : ∀ j, j < nc → m ≤ c j ∧ c j ≤ M) :
    ∀ i, i < nc → m ≤ step P dt V bv c i ∧ step P dt V bv c i ≤ M := by
  intro i hi
  have hb := divAt_faceFlux_bounds ⟨hwf, hcell, hc, hneu, hnoerr, hbv⟩ i
  have hio : inflow P.T P.q i = outflow P.T P.q i :=
    (sub_eq_zero.1 ((divAt_eq_out_sub_in P.T P.q i).symm.trans (hdiv i hi))).symm
  rw [hdiv i hi, zero_mul, sub_zero, hio] at hb
  exact ⟨arith_final_lower (c i) m _ _ dt (V i) (hV i hi) hdt (hcfl i hi) (hc i hi).1 hb.1,
    arith_final_upper (c i) M _ _ dt (V i) (hV i hi) hdt (hcfl i hi) (hc i hi).2 hb.2⟩

/-- The property as stated: no-flow boundaries (zero flux on every face that is not interior; Neumann
    flags only on faces without flux, with zero data), divergence-free flux, CFL limit ⇒ one
    explicit step keeps every cell value within the bounds of the old values. -/
theorem transport_maximum_principle (P : Pb) (hwf : WF P.T) (nc : Nat) (dt : Rat)
    (V bv c : Nat → Rat) (m M : Rat)
    (hcell : ∀ i ∈ P.T, i.cell < nc)
    (hV : ∀ i, i < nc → 0 < V i) (hdt : 0 ≤ dt)
    (hdiv : ∀ i, i < nc → divAt P.T P.q i = 0)
    (hcfl : ∀ i, i < nc → dt * outflow P.T P.q i ≤ V i)
    (hnoflow : ∀ i ∈ P.T, ¬ Interior P.T i.face → P.q i.face = 0)
    (hneu : ∀ i ∈ P.T, P.isNeu i.face = true → P.q i.face = 0 ∧ bv i.face = 0)
    (hc : ∀ j, j < nc → m ≤ c j ∧ c j ≤ M) :
    ∀ i, i < nc → m ≤ step P dt V bv c i ∧ step P dt V bv c i ≤ M := by
  have hint : ∀ i ∈ P.T, P.q i.face ≠ 0 → ∃ j, upstream P i.face = some j := by
    intro i hi hq
    by_cases h : Interior P.T i.face
    · exact interior_upstream_some P hwf _ h
    · exact absurd (hnoflow i hi h) hq
  apply transport_maximum_principle_inflow P hwf nc dt V bv c m M hcell hV hdt hdiv hcfl hneu _ _ hc
  · intro i hi hq
    obtain ⟨j, hj⟩ := hint i hi hq
    exact upErr_of_upstream_some P _ j hj
  · intro i hi hin hq
    obtain ⟨j, hj⟩ := hint i hi hq
    rw [inflowDir_of_upstream_some P _ j hj] at hin
    cases hin

/-- … and after any number of steps the values stay within the INITIAL bounds. -/
theorem transport_maximum_principle_iter (P : Pb) (hwf : WF P.T) (nc : Nat) (dt : Rat)
    (V bv : Nat → Rat) (m M : Rat)
    (hcell : ∀ i ∈ P.T, i.cell < nc)
    (hV : ∀ i, i < nc → 0 < V i) (hdt : 0 ≤ dt)
    (hdiv : ∀ i, i < nc → divAt P.T P.q i = 0)
    (hcfl : ∀ i, i < nc → dt * outflow P.T P.q i ≤ V i)
    (hneu : ∀ i ∈ P.T, P.isNeu i.face = true → P.q i.face = 0 ∧ bv i.face = 0)
    (hnoerr : ∀ i ∈ P.T, P.q i.face ≠ 0 → upErr P i.face = false)
    (hbv : ∀ i ∈ P.T, inflowDir P i.face = true → P.q i.face ≠ 0 → m ≤ bv i.face ∧ bv i.face ≤ M)
    (n : Nat) (c : Nat → Rat) (hc : ∀ j, j < nc → m ≤ c j ∧ c j ≤ M) :
    ∀ i, i < nc → m ≤ iter P dt V bv n c i ∧ iter P dt V bv n c i ≤ M := by
  induction n generalizing c with
  | zero => exact hc
  | succ n ih =>
    exact ih (step P dt V bv c)
      (transport_maximum_principle_inflow P hwf nc dt V bv c m M hcell hV hdt hdiv hcfl hneu hnoerr hbv hc)

/-- `sps.kron(M, eye(k))` on triplet lists has the entries of the Kronecker product:
    `(r, c) ↦ M[r / k, c / k]` if `r % k = c % k`, else 0 — for every sparse matrix `M`. -/
theorem kron_entry (k : Nat) (hk : 0 < k) (M : List Trip) (r c : Nat) :
    entryOf (kronTrip k M) r c = kronE (entryOf M) k r c := by
  induction M with
  | nil => exact (ite_self 0).symm
  | cons t M ih =>
    rw [kronTrip, entryOf_append, ih, entryOf_block k hk t r c k (le_refl k), kronE, kronE, entryOf_cons]
    by_cases hm : r % k = c % k
    · rw [if_pos hm, if_pos hm]
      congr 1
      exact if_congr ⟨fun h => ⟨h.1.symm, h.2.1.symm⟩, fun h => ⟨h.1.symm, h.2.symm, hm, Nat.mod_lt r hk⟩⟩ rfl rfl
    · rw [if_neg hm, if_neg hm, if_neg (fun h => hm h.2.2.1), add_zero]

/-- Components do not mix: applying the expanded matrix to a vector that stores component `a` of
    cell `c` at index `c*k + a` applies the one-component matrix to each component separately. -/
theorem kron_components (A : Nat → Nat → Rat) (k nc : Nat) (x : Nat → Rat) (f a : Nat) (ha : a < k) :
    sumTo (nc * k) (fun j => kronE A k (f * k + a) j * x j)
      = sumTo nc (fun c => A f c * x (c * k + a)) := by
  rw [sumTo_mul_blocks]
  apply sumTo_congr
  intro c _
  have e : ∀ b, b < k → kronE A k (f * k + a) (c * k + b) * x (c * k + b)
      = if a = b then A f c * x (c * k + b) else 0 := by
    intro b hb
    rw [kronE_block A k f c a b ha hb, ite_mul, zero_mul]
  rw [sumTo_congr k _ _ e, sumTo_ite_eq a k (fun b => A f c * x (c * k + b)), if_pos ha]

/-- The expanded upwind matrix of `discretize` for `k` components: entry `(f*k+a, c*k+b)` is the
    one-component entry `U f c` if `a = b`, else 0 (likewise for the two boundary matrices, whose
    triplet lists represent `dirDiag` / `neuDiag` by `dirTrip_entry` / `neuTrip_entry`). -/
theorem kron_upwind_entry (P : Pb) (nf k : Nat) (f c a b : Nat) (hf : f < nf) (ha : a < k) (hb : b < k) :
    entryOf (kronTrip k (upwindTrip P nf)) (f * k + a) (c * k + b) = if a = b then U P f c else 0 := by
  rw [kron_entry k (Nat.lt_of_le_of_lt (Nat.zero_le a) ha), kronE_block _ k f c a b ha hb,
    upwindTrip_entry, if_pos hf]

/-- Upstream selection on an interface: for positive mortar flux (from primary to secondary) the value
    on the primary side (trace of the cell values at the matched face) is transported, otherwise —
    including zero flux, as coded (`np.sign(lam) > 0`) — the value of the secondary cell. -/
theorem coupling_selects_upstream (C : Cp) (ch cl : Nat → Rat) (m : Nat) :
    (0 < C.lam m → upPrimDiag C m = 1 ∧ upSecDiag C m = 0 ∧
      eta C ch cl m = C.lam m * traceVal C.Th ch (C.pf m)) ∧
    (C.lam m ≤ 0 → upPrimDiag C m = 0 ∧ upSecDiag C m = 1 ∧
      eta C ch cl m = C.lam m * cl (C.sc m)) := by
  constructor
  · intro h
    have hf := (cplFlag_iff C m).mpr h
    exact ⟨if_pos hf, by rw [upSecDiag, upPrimDiag, if_pos hf, sub_self], by rw [eta, if_pos h]⟩
  · intro h
    have hf : ¬ cplFlag C m = true := fun hc => not_lt.2 h ((cplFlag_iff C m).mp hc)
    exact ⟨if_neg hf, by rw [upSecDiag, upPrimDiag, if_neg hf, sub_zero], by rw [eta, if_neg (not_lt.2 h)]⟩

/-- On a fracture face of a well-formed primary grid (its only entry is `i`) the trace is the value of
    the adjacent cell: the primary-side value is the value of the cell the mortar flux leaves. -/
theorem traceVal_fracture_face (T : Topo) (hwf : WF T) (c : Nat → Rat) (i : Inc) (hi : i ∈ T)
    (honly : ∀ j ∈ T, j.face = i.face → j = i) (hnd : T.Nodup) : traceVal T c i.face = c i.cell := by
  -- every entry of the face is `i`, so the trace is that of the constant `c i.cell` on a one-cell face
  have e : traceVal T c i.face = traceVal T (fun _ => c i.cell) i.face := by
    rw [traceVal, traceVal, ← sumOver_filter, ← sumOver_filter]
    exact sumOver_congr _ _ _ (fun j hj => by rw [honly j (mem_filter_prop hj).1 (mem_filter_prop hj).2])
  rw [e, traceVal_const T i.face _ hwf.unit]
  rcases cnt_of_only_entry T hwf i hi honly with ⟨_, hp, hn⟩ | ⟨_, hp, hn⟩
  · rw [hp, hn, Nat.cast_one, Nat.cast_zero, add_zero, one_mul]
  · rw [hp, hn, Nat.cast_one, Nat.cast_zero, zero_add, one_mul]

/-- Row 2 of the assembled coupling blocks applied to the cell values of both sides is the upwinded
    mortar flux `η` (`cc[2,0] c_h + cc[2,1] c_l − η = 0`). -/
theorem coupling_row_matvec (C : Cp) (ch cl : Nat → Rat) (nch ncl m : Nat)
    (hcell : ∀ i ∈ C.Th, i.cell < nch) (hsc : C.sc m < ncl) :
    sumTo nch (fun c => cc20 C m c * ch c) + sumTo ncl (fun l => cc21 C m l * cl l) = eta C ch cl m := by
  have e1 : sumTo nch (fun c => cc20 C m c * ch c)
      = absR (C.lam m) * cplFluxDiag C m * upPrimDiag C m * traceVal C.Th ch (C.pf m) := by
    unfold cc20
    rw [← traceVal_eq_matvec C.Th ch (C.pf m) nch hcell, ← sumTo_mul_left]
    exact sumTo_congr _ _ _ (fun c _ => mul_assoc _ _ _)
  have e2 : sumTo ncl (fun l => cc21 C m l * cl l)
      = absR (C.lam m) * cplFluxDiag C m * upSecDiag C m * cl (C.sc m) := by
    unfold cc21
    have e : ∀ l, absR (C.lam m) * cplFluxDiag C m * upSecDiag C m * (if C.sc m = l then 1 else 0) * cl l
        = if C.sc m = l then absR (C.lam m) * cplFluxDiag C m * upSecDiag C m * cl l else 0 := by
      intro l; rw [mul_ite, mul_one, mul_zero, ite_mul, zero_mul]
    rw [sumTo_congr ncl _ _ (fun l _ => e l), sumTo_ite_eq, if_pos hsc]
  have hl : absR (C.lam m) * cplFluxDiag C m = C.lam m := absR_mul_sgnR (C.lam m)
  rw [e1, e2, hl]
  rcases lt_or_ge 0 (C.lam m) with h | h
  · obtain ⟨a, b, c⟩ := (coupling_selects_upstream C ch cl m).1 h
    rw [a, b, c, mul_one, mul_zero, zero_mul, add_zero]
  · obtain ⟨a, b, c⟩ := (coupling_selects_upstream C ch cl m).2 h
    rw [a, b, c, mul_one, mul_zero, zero_mul, zero_add]

/-- Conservation across the interface: for ANY mortar fluxes `η`, what the blocks `cc[0,2]` take out of
    the primary cells is what `cc[1,2]` puts into the secondary cells (every matched primary face is a
    face with exactly one cell). -/
theorem coupling_interface_conserves (C : Cp) (hwf : WF C.Th) (nm nch ncl : Nat) (η : Nat → Rat)
    (hcell : ∀ i ∈ C.Th, i.cell < nch) (hsc : ∀ m, m < nm → C.sc m < ncl)
    (hface : ∀ m, m < nm → cntPos C.Th (C.pf m) + cntNeg C.Th (C.pf m) = 1) :
    sumTo nch (fun k => sumTo nm (fun m => cc02 C k m * η m))
      + sumTo ncl (fun l => sumTo nm (fun m => cc12 C l m * η m)) = 0 := by
  rw [sumTo_comm nch nm, sumTo_comm ncl nm, ← sumTo_add]
  apply sumTo_eq_zero
  intro m hm
  have e1 : sumTo nch (fun k => cc02 C k m * η m) = η m := by
    unfold cc02
    rw [sumTo_mul_right, sum_traceW C.Th (C.pf m) nch hcell, faceWeight_eq_cnt C.Th (C.pf m) hwf.unit,
      ← Nat.cast_add, hface m hm, Nat.cast_one, one_mul]
  have e2 : sumTo ncl (fun l => cc12 C l m * η m) = -η m := by
    unfold cc12
    have e : ∀ l, (if C.sc m = l then (-1 : Rat) else 0) * η m = if C.sc m = l then -η m else 0 := by
      intro l; rw [ite_mul, zero_mul, neg_one_mul]
    rw [sumTo_congr ncl _ _ (fun l _ => e l), sumTo_ite_eq (C.sc m) ncl (fun _ => -η m), if_pos (hsc m hm)]
  rw [e1, e2, add_neg_cancel]

/-- Balance on a mixed-dimensional grid (any graph of subdomains coupled by interfaces, flattened to global
    indices) for ANY boundary flags and data: if every mortar cell is matched with a one-cell face and a cell,
    the interfaces cancel and `Σ V c` over ALL subdomains changes by the net flux through the faces only. -/
theorem md_transport_balance (M : Md) (hwf : WF M.P.T) (nf nc : Nat) (dt : Rat) (V bv c : Nat → Rat)
    (hcell : ∀ i ∈ M.P.T, i.cell < nc) (hface : ∀ i ∈ M.P.T, i.face < nf)
    (hV : ∀ i, i < nc → V i ≠ 0)
    (hsc : ∀ m, m < M.nm → M.sc m < nc)
    (hpf : ∀ m, m < M.nm → cntPos M.P.T (M.pf m) + cntNeg M.P.T (M.pf m) = 1) :
    sumTo nc (fun i => V i * mdStep M dt V bv c i)
      = sumTo nc (fun i => V i * c i) - dt * sumTo nf (fun f => sgnDiv M.P.T f * faceFlux M.P c bv f) := by
  have e : ∀ i, i < nc → V i * mdStep M dt V bv c i
      = V i * step M.P dt V bv c i - dt * intfOut M c i := by
    intro i hi
    rw [mdStep, step, vol_mul_update _ _ _ _ (hV i hi), vol_mul_update _ _ _ _ (hV i hi), mul_add, sub_sub]
  have hintf : sumTo nc (intfOut M c) = 0 := by
    unfold intfOut
    rw [sumTo_add]
    exact coupling_interface_conserves M.cp hwf M.nm nc nc (eta M.cp c c) hcell hsc hpf
  rw [sumTo_congr nc _ _ e, sumTo_sub, sumTo_mul_left,
    transport_balance M.P nf nc dt V bv c hcell hface hV, hintf, mul_zero, sub_zero]

/-- Explicit transport step on a mixed-dimensional grid: if every face is interior or a Neumann face with
    zero data (outer no-flow boundary; fracture faces are Neumann faces, their flux is the mortar flux) and
    every mortar cell is matched with a one-cell face and a cell, the total amount `Σ V c` over ALL subdomains
    is unchanged — for any subdomain fluxes and any mortar fluxes (in particular divergence-free ones). -/
theorem md_transport_conserves (M : Md) (hwf : WF M.P.T) (nf nc : Nat) (dt : Rat) (V bv c : Nat → Rat)
    (hcell : ∀ i ∈ M.P.T, i.cell < nc) (hface : ∀ i ∈ M.P.T, i.face < nf)
    (hV : ∀ i, i < nc → V i ≠ 0)
    (hclosed : ∀ f, f < nf → Interior M.P.T f ∨ (M.P.isNeu f = true ∧ bv f = 0))
    (hsc : ∀ m, m < M.nm → M.sc m < nc)
    (hpf : ∀ m, m < M.nm → cntPos M.P.T (M.pf m) + cntNeg M.P.T (M.pf m) = 1) :
    sumTo nc (fun i => V i * mdStep M dt V bv c i) = sumTo nc (fun i => V i * c i) := by
  rw [md_transport_balance M hwf nf nc dt V bv c hcell hface hV hsc hpf,
    closed_boundary_flux M.P hwf nf bv c hclosed, mul_zero, sub_zero]

theorem md_transport_conserves_iter (M : Md) (hwf : WF M.P.T) (nf nc : Nat) (dt : Rat) (V bv : Nat → Rat)
    (hcell : ∀ i ∈ M.P.T, i.cell < nc) (hface : ∀ i ∈ M.P.T, i.face < nf)
    (hV : ∀ i, i < nc → V i ≠ 0)
    (hclosed : ∀ f, f < nf → Interior M.P.T f ∨ (M.P.isNeu f = true ∧ bv f = 0))
    (hsc : ∀ m, m < M.nm → M.sc m < nc)
    (hpf : ∀ m, m < M.nm → cntPos M.P.T (M.pf m) + cntNeg M.P.T (M.pf m) = 1)
    (n : Nat) (c : Nat → Rat) :
    sumTo nc (fun i => V i * mdIter M dt V bv n c i) = sumTo nc (fun i => V i * c i) := by
  induction n generalizing c with
  | zero => rfl
  | succ n ih =>
    show sumTo nc (fun i => V i * mdIter M dt V bv n (mdStep M dt V bv c) i) = _
    rw [ih, md_transport_conserves M hwf nf nc dt V bv c hcell hface hV hclosed hsc hpf]

theorem consHypB_spec (P : Pb) (nf nc : Nat) (V bv : Nat → Rat) (h : consHypB P nf nc V bv = true) :
    WF P.T ∧ (∀ i ∈ P.T, i.cell < nc) ∧ (∀ i ∈ P.T, i.face < nf) ∧ (∀ i, i < nc → V i ≠ 0) ∧
    (∀ f, f < nf → Interior P.T f ∨ (P.isNeu f = true ∧ bv f = 0)) := by
  simp only [consHypB, Bool.and_eq_true] at h
  obtain ⟨⟨⟨hwf, hbounds⟩, hclosed⟩, hvol⟩ := h
  have hb : ∀ i ∈ P.T, i.face < nf ∧ i.cell < nc := fun i hi => by
    simpa using (List.all_eq_true.mp hbounds) i hi
  refine ⟨hwf, fun i hi => (hb i hi).2, fun i hi => (hb i hi).1, fun i hi => ?_, fun f hf => ?_⟩
  · simpa using (List.all_eq_true.mp hvol) i (List.mem_range.mpr hi)
  · simpa using (List.all_eq_true.mp hclosed) f (List.mem_range.mpr hf)

/-- `consHypB` (well-formed grid, indices in range, every face interior or Neumann with zero data, nonzero
    volumes) is a Boolean the driver evaluates; when it answers `true` the total amount is conserved. -/
theorem transport_conserves_checked (P : Pb) (nf nc : Nat) (dt : Rat) (V bv c : Nat → Rat)
    (h : consHypB P nf nc V bv = true) :
    sumTo nc (fun i => V i * step P dt V bv c i) = sumTo nc (fun i => V i * c i) := by
  obtain ⟨hwf, hcell, hface, hV, hclosed⟩ := consHypB_spec P nf nc V bv h
  exact transport_conserves P hwf nf nc dt V bv c hcell hface hV hclosed

/-- `mpHypB` = all hypotheses of the maximum principle (divergence-free, CFL, Neumann faces without flux and
    data, flux enters only through Dirichlet faces with data in `[m, M]`, cell values in `[m, M]`). -/
theorem transport_maximum_principle_checked (P : Pb) (nc : Nat) (dt : Rat) (V bv c : Nat → Rat) (m M : Rat)
    (h : mpHypB P nc dt V bv c m M = true) :
    ∀ i, i < nc → m ≤ step P dt V bv c i ∧ step P dt V bv c i ≤ M := by
  simp only [mpHypB, Bool.and_eq_true, Bool.or_eq_true, Bool.not_eq_true', List.all_eq_true, List.mem_range,
    decide_eq_true_eq, and_assoc] at h
  obtain ⟨hwf, hcell, hdt, hcells, hfaces⟩ := h
  refine transport_maximum_principle_inflow P hwf nc dt V bv c m M hcell (fun i hi => (hcells i hi).1) hdt
    (fun i hi => (hcells i hi).2.1) (fun i hi => (hcells i hi).2.2.1) (fun i hi hn => ?_) (fun i hi hq => ?_)
    (fun i hi hin hq => ?_) (fun j hj => (hcells j hj).2.2.2)
  · exact (hfaces i hi).1.resolve_left (by rw [hn]; decide)
  · exact ((hfaces i hi).2.resolve_left hq).1
  · exact ((hfaces i hi).2.resolve_left hq).2.resolve_left (by rw [hin]; decide)

theorem md_transport_conserves_checked (M : Md) (nf nc : Nat) (dt : Rat) (V bv c : Nat → Rat)
    (h1 : consHypB M.P nf nc V bv = true) (h2 : mdHypB M nc = true) :
    sumTo nc (fun i => V i * mdStep M dt V bv c i) = sumTo nc (fun i => V i * c i) := by
  obtain ⟨hwf, hcell, hface, hV, hclosed⟩ := consHypB_spec M.P nf nc V bv h1
  have hm : ∀ m, m < M.nm → M.sc m < nc ∧ cntPos M.P.T (M.pf m) + cntNeg M.P.T (M.pf m) = 1 :=
    fun m hm => by simpa using (List.all_eq_true.mp h2) m (List.mem_range.mpr hm)
  exact md_transport_conserves M hwf nf nc dt V bv c hcell hface hV hclosed
    (fun m h => (hm m h).1) (fun m h => (hm m h).2)

/-- The flux `darcy_flux` computes for a constant velocity `beta` is divergence-free on every grid whose
    cells are geometrically closed (`Σ_faces sign · normal = 0` per cell, the discrete divergence theorem
    of C19), provided the face aperture is the same on all faces (in particular without apertures). This
    discharges the "divergence-free flux" hypothesis of the maximum principle for uniform flow fields. -/
theorem darcy_flux_divergence_free (T : Topo) (nx ny nz : Nat → Rat) (bx by' bz a : Rat)
    (ap : Option (Nat → Rat)) (hap : ∀ i ∈ T, faceAperture T ap i.face = a) (k : Nat)
    (hx : divAt T nx k = 0) (hy : divAt T ny k = 0) (hz : divAt T nz k = 0) :
    divAt T (darcyFlux T nx ny nz bx by' bz ap) k = 0 := by
  -- on the entries of cell `k` the flux is a fixed combination of the three normal components
  rw [divAt, ← sumOver_filter] at hx hy hz ⊢
  have e : ∀ i ∈ T.filter (fun i => i.cell = k), i.sgn * darcyFlux T nx ny nz bx by' bz ap i.face
      = i.sgn * nx i.face * (a * bx) + i.sgn * ny i.face * (a * by') + i.sgn * nz i.face * (a * bz) := by
    intro i hi
    rw [darcyFlux, hap i (mem_filter_prop hi).1]; ring
  rw [sumOver_congr _ _ _ e, sumOver_add, sumOver_add, sumOver_mul_right, sumOver_mul_right,
    sumOver_mul_right, hx, hy, hz]
  ring

theorem faceAperture_none (T : Topo) (f : Nat) : faceAperture T none f = 1 := rfl

/-- entries of the legacy matrix `div · diag(flux) · upwind`, before duplicates are summed -/
theorem assembleTrip_entry (P : Pb) (T : Topo) (k j : Nat) :
    entryOf (assembleTrip P T) k j
      = sumOver T (fun i => if i.cell = k then i.sgn * P.q i.face * U P i.face j else 0) := by
  induction T with
  | nil => rfl
  | cons i T ih =>
    rw [assembleTrip, entryOf_append, ih, sumOver_cons]
    congr 1
    cases hu : upCol P i.face with
    | none => rw [U_of_upCol_none P _ hu, mul_zero, ite_self]; rfl
    | some a =>
      rw [U_of_upCol_some P _ a hu, mul_ite, mul_one, mul_zero, ← ite_and]
      exact (add_zero _).trans (if_congr (and_congr_right' eq_comm) rfl rfl)

/-- `assemble_matrix_rhs` (one component) returns `A = div · diag(flux) · upwind` and
    `rhs = div · (bound_transport_neu + bound_transport_dir · diag(flux)) · bc_values`; in the code's sign
    convention `A c + rhs` is the divergence of the composed face flux, so a transport loop that discretizes
    once and re-assembles in every step (`c − dt/V (A c + rhs)`) performs exactly `step` — every theorem about
    `step` (conservation, maximum principle) is a theorem about that loop. -/
theorem assemble_matvec (P : Pb) (c bv : Nat → Rat) (nc k : Nat)
    (hcol : ∀ f j, upCol P f = some j → j < nc) :
    sumTo nc (fun j => entryOf (assembleTrip P P.T) k j * c j) + assembleRhs P bv k
      = divAt P.T (faceFlux P c bv) k := by
  have e : ∀ j, entryOf (assembleTrip P P.T) k j * c j
      = sumOver (P.T.filter (fun i => i.cell = k)) (fun i => i.sgn * P.q i.face * (U P i.face j * c j)) := by
    intro j
    rw [assembleTrip_entry, ← sumOver_filter, ← sumOver_mul_right]
    exact sumOver_congr _ _ _ (fun i _ => mul_assoc _ _ _)
  rw [sumTo_congr nc _ _ (fun j _ => e j), sumTo_sumOver_comm, assembleRhs, divAt, divAt, ← sumOver_filter,
    ← sumOver_filter, ← sumOver_add]
  apply sumOver_congr
  intro i _
  rw [sumTo_mul_left, upVal_eq_matvec P c i.face nc (hcol i.face), faceFlux]
  ring

/-! ### non-vacuity: concrete data

`T3` = `CartGrid(3)` in 1-d (faces 0..3, cells 0..2, normals pointing right): the stored entries of
`cell_faces` in `sps.find` order.  `ring4` = four cells in a ring (a closed loop, no boundary). -/

def T3 : Topo := [⟨0, 0, -1⟩, ⟨1, 0, 1⟩, ⟨1, 1, -1⟩, ⟨2, 1, 1⟩, ⟨2, 2, -1⟩, ⟨3, 2, 1⟩]

def ring4 : Topo := [⟨0, 0, 1⟩, ⟨0, 1, -1⟩, ⟨1, 1, 1⟩, ⟨1, 2, -1⟩, ⟨2, 2, 1⟩, ⟨2, 3, -1⟩, ⟨3, 3, 1⟩, ⟨3, 0, -1⟩]

theorem ring4_wf : WF ring4 := by decide +kernel

example : WF T3 := by decide +kernel
example : WF ring4 := ring4_wf
example : Interior T3 1 ∧ ¬ Interior T3 0 := by decide +kernel

/-- flux to the left on face 1, to the right on face 2, Dirichlet at both ends -/
def Pex : Pb := ⟨T3, fun f => if f = 1 then -2 else if f = 2 then 3 else if f = 0 then 1 else -1,
  fun f => f = 0 ∨ f = 3, fun _ => false⟩

-- hypotheses of `upwind_selects_upstream` on face 1 and what it yields
example : (⟨1, 0, 1⟩ : Inc) ∈ Pex.T ∧ (⟨1, 1, -1⟩ : Inc) ∈ Pex.T ∧ Pex.isNeu 1 = false ∧ Pex.q 1 < 0 := by
  decide +kernel
example : (List.range 3).map (U Pex 1) = [0, 1, 0] ∧ (List.range 3).map (U Pex 2) = [0, 1, 0] := by
  decide +kernel
-- both boundary faces are Dirichlet inflow faces here: empty rows, unit entries in bound_transport_dir
example : (List.range 3).map (U Pex 0) = [0, 0, 0] ∧ dirDiag Pex 0 = 1 ∧ dirDiag Pex 3 = 1 ∧
    (List.range 3).map (U Pex 3) = [0, 0, 0] := by decide +kernel
-- `discretize_defined`: its hypothesis holds for Pex; with a Robin-like (unflagged) inflow end the model reports the error
example : (∀ f, f < 4 → Pex.isNeu f = true ∨ Pex.isDir f = true ∨ Interior Pex.T f) ∧ anyErr Pex 4 = false := by
  decide +kernel
example : anyErr ⟨T3, fun _ => 1, fun f => f = 3, fun _ => false⟩ 4 = true := by decide +kernel

/-- circulation of strength 2 around the ring, no boundary; `dt · outflow = 1/2 · 2 ≤ V = 1` -/
def Pring : Pb := ⟨ring4, fun _ => 2, fun _ => false, fun _ => false⟩

def cRing : Nat → Rat := fun j => if j = 0 then 5 else if j = 2 then -3 else 1

theorem Pring_div_free : ∀ i, i < 4 → divAt Pring.T Pring.q i = 0 := by decide +kernel
theorem Pring_cfl : ∀ i, i < 4 → (1 / 2 : Rat) * outflow Pring.T Pring.q i ≤ 1 := by decide +kernel

example : (∀ i, i < 4 → divAt Pring.T Pring.q i = 0) ∧
    (∀ i, i < 4 → (1 / 2 : Rat) * outflow Pring.T Pring.q i ≤ 1) := ⟨Pring_div_free, Pring_cfl⟩
example : (List.range 4).map (step Pring (1 / 2) (fun _ => 1) (fun _ => 0) cRing) = [1, 5, 1, -3] := by
  decide +kernel
example : sumTo 4 (fun i => 1 * step Pring (1 / 2) (fun _ => 1) (fun _ => 0) cRing i)
    = sumTo 4 (fun i => 1 * cRing i) := by decide +kernel

/-- Neumann (no-flow) ends on the 1-d grid, arbitrary flux: conservation hypothesis and conclusion -/
def Pneu : Pb := ⟨T3, fun f => if f = 1 then -2 else if f = 2 then 3 else 7, fun _ => false,
  fun f => f = 0 ∨ f = 3⟩

theorem Pneu_consHyp : consHypB Pneu 4 3 (fun i => (i + 1 : Rat)) (fun _ => 0) = true := by decide +kernel

example : ∀ f, f < 4 → Interior Pneu.T f ∨ (Pneu.isNeu f = true ∧ (fun _ => (0 : Rat)) f = 0) := by
  decide +kernel
example : sumTo 3 (fun i => (i + 1 : Rat) * step Pneu (1 / 4) (fun i => (i + 1 : Rat)) (fun _ => 0) cRing i)
    = sumTo 3 (fun i => (i + 1 : Rat) * cRing i) := by decide +kernel

example : entryOf (kronTrip 2 (upwindTrip Pex 4)) (1 * 2 + 1) (1 * 2 + 1) = 1 ∧
    entryOf (kronTrip 2 (upwindTrip Pex 4)) (1 * 2 + 1) (1 * 2 + 0) = 0 := by decide +kernel

/-! all hypotheses of the transport theorems hold together on non-trivial data (where a Boolean checker states
them, as its answer `true`, which the `_checked` theorem decodes into the hypotheses) -/

example : ∀ i, i < 4 → (-3 : Rat) ≤ step Pring (1 / 2) (fun _ => 1) (fun _ => 0) cRing i ∧
    step Pring (1 / 2) (fun _ => 1) (fun _ => 0) cRing i ≤ 5 :=
  transport_maximum_principle Pring ring4_wf 4 (1 / 2) (fun _ => 1) (fun _ => 0) cRing (-3) 5
    (by decide +kernel) (by decide +kernel) (by decide +kernel) Pring_div_free Pring_cfl
    (by decide +kernel) (by decide +kernel) (by decide +kernel)

/-- uniform flow to the right through the 1-d grid, Dirichlet at both ends, inflow datum 4 -/
def Pthru : Pb := ⟨T3, fun _ => 1, fun f => f = 0 ∨ f = 3, fun _ => false⟩

def cThru : Nat → Rat := fun j => if j = 0 then 1 else if j = 1 then 2 else 3

theorem Pthru_mpHyp : mpHypB Pthru 3 (1 / 2) (fun _ => 1) (fun _ => 4) cThru 1 4 = true := by decide +kernel

example : ∀ i, i < 3 → (1 : Rat) ≤ step Pthru (1 / 2) (fun _ => 1) (fun _ => 4) cThru i ∧
    step Pthru (1 / 2) (fun _ => 1) (fun _ => 4) cThru i ≤ 4 :=
  transport_maximum_principle_checked Pthru 3 (1 / 2) (fun _ => 1) (fun _ => 4) cThru 1 4 Pthru_mpHyp

example : (List.range 3).map (step Pthru (1 / 2) (fun _ => 1) (fun _ => 4) cThru) = [5 / 2, 3 / 2, 5 / 2] := by
  decide +kernel

example : sumTo 3 (fun i => (i + 1 : Rat) * step Pneu (1 / 4) (fun i => (i + 1 : Rat)) (fun _ => 0) cRing i)
    = sumTo 3 (fun i => (i + 1 : Rat) * cRing i) :=
  transport_conserves_checked Pneu 4 3 (1 / 4) (fun i => (i + 1 : Rat)) (fun _ => 0) cRing Pneu_consHyp

/-! ### the legacy `assemble_matrix_rhs` sign (an observation, not part of the property)

`assemble_matrix_rhs` returns `rhs = +div @ (…) @ bc_values`, i.e. the boundary term with the sign it
has on the LEFT-hand side.  On `CartGrid(3)` with unit flux to the right and Dirichlet inflow datum 3,
the system `A c = rhs` is solved by `c = (-3, -3, -3)`, whereas the explicit step composed as in
porepy's models (`faceFlux`) transports the datum with its own sign. -/

def Pleg : Pb := ⟨T3, fun _ => 1, fun f => f = 0 ∨ f = 3, fun _ => false⟩
def bvLeg : Nat → Rat := fun f => if f = 0 then 3 else 0

example : (List.range 3).map (assembleRhs Pleg bvLeg) = [-3, 0, 0] := by decide +kernel
example : ∀ k, k < 3 → sumTo 3 (fun j => entryOf (assembleTrip Pleg Pleg.T) k j * (-3)) = assembleRhs Pleg bvLeg k := by
  decide +kernel
-- one explicit step from c = 0 raises the inflow cell towards the datum (dt/V = 1/2): +3/2, not −3/2
example : (List.range 3).map (step Pleg (1 / 2) (fun _ => 1) bvLeg (fun _ => 0)) = [3 / 2, 0, 0] := by
  decide +kernel

/-! ### interface coupling and mixed-dimensional step on concrete data

Primary: two 1-d cells separated by a fracture point (faces 0,1 | 2,3; faces 1 and 2 are the split
fracture faces), global cell 2 = the 0-d fracture cell; two mortar cells. -/

def Tmd : Topo := [⟨0, 0, -1⟩, ⟨1, 0, 1⟩, ⟨2, 1, -1⟩, ⟨3, 1, 1⟩]

def Mex : Md := ⟨⟨Tmd, fun _ => 0, fun _ => false, fun _ => true⟩, 2,
  fun m => if m = 0 then 1 else 2, fun _ => 2, fun m => if m = 0 then 2 else -2⟩

def cMd : Nat → Rat := fun j => if j = 0 then 4 else if j = 1 then 1 else -2

theorem Tmd_wf : WF Tmd := by decide +kernel
theorem Mex_hyps : mdHypB Mex 3 = true ∧ consHypB Mex.P 4 3 (fun _ => 1) (fun _ => 0) = true := by decide +kernel

example : WF Tmd ∧ Tmd.Nodup := ⟨Tmd_wf, by decide +kernel⟩
-- flux 2 from cell 0 into the fracture cell (takes the primary value 4), flux -2 on the other side,
-- i.e. from the fracture cell into cell 1 (takes the secondary value -2)
example : (List.range 2).map (eta Mex.cp cMd cMd) = [8, 4] := by decide +kernel
example : (List.range 3).map (mdStep Mex (1 / 4) (fun _ => 1) (fun _ => 0) cMd) = [2, 0, 1] := by
  decide +kernel

example : sumTo 3 (fun i => 1 * mdStep Mex (1 / 4) (fun _ => 1) (fun _ => 0) cMd i) = sumTo 3 (fun i => 1 * cMd i) :=
  md_transport_conserves_checked Mex 4 3 (1 / 4) (fun _ => 1) (fun _ => 0) cMd Mex_hyps.2 Mex_hyps.1

example : traceVal Tmd cMd 1 = cMd 0 :=
  traceVal_fracture_face Tmd Tmd_wf cMd ⟨1, 0, 1⟩ (by decide +kernel) (by decide +kernel) (by decide +kernel)

-- `assemble_matvec` on the through-flow example: A c + rhs = div(face flux) in every cell
example : ∀ k, k < 3 → sumTo 3 (fun j => entryOf (assembleTrip Pthru Pthru.T) k j * cThru j) + assembleRhs Pthru (fun _ => 4) k
    = divAt Pthru.T (faceFlux Pthru cThru (fun _ => 4)) k := by decide +kernel

/-! the checkers answer `true` on the concrete data above, and `false` when a hypothesis fails -/
example : consHypB Pneu 4 3 (fun i => (i + 1 : Rat)) (fun _ => 0) = true := Pneu_consHyp
example : consHypB Pthru 4 3 (fun _ => 1) (fun _ => 0) = false := by decide +kernel      -- Dirichlet ends: open
example : mpHypB Pring 4 (1 / 2) (fun _ => 1) (fun _ => 0) cRing (-3) 5 = true := by decide +kernel
example : mpHypB Pthru 3 (1 / 2) (fun _ => 1) (fun _ => 4) cThru 1 4 = true := Pthru_mpHyp
example : mpHypB Pthru 3 2 (fun _ => 1) (fun _ => 4) cThru 1 4 = false := by decide +kernel  -- CFL violated
example : mdHypB Mex 3 = true ∧ consHypB Mex.P 4 3 (fun _ => 1) (fun _ => 0) = true := Mex_hyps

/-- unit normals of the 1-d grid `T3` (pointing right): `darcy_flux` with `beta = (5/2, 7, 0)` -/
example : (List.range 4).map (darcyFlux T3 (fun _ => 1) (fun _ => 0) (fun _ => 0) (5 / 2) 7 0 none) = [5 / 2, 5 / 2, 5 / 2, 5 / 2] := by
  decide +kernel
example : ∀ k, k < 3 → divAt T3 (darcyFlux T3 (fun _ => 1) (fun _ => 0) (fun _ => 0) (5 / 2) 7 0 none) k = 0 :=
  fun k hk => darcy_flux_divergence_free T3 _ _ _ _ _ _ 1 none (fun _ _ => rfl) k
    ((by decide +kernel : ∀ k, k < 3 → divAt T3 (fun _ => 1) k = 0) k hk)
    (sumOver_eq_zero _ _ (fun _ _ => by simp)) (sumOver_eq_zero _ _ (fun _ _ => by simp))
-- with cell apertures 2, 4, 6 the face apertures are the means over the adjacent cells
example : (List.range 4).map (faceAperture T3 (some (fun c => (2 * c + 2 : Rat)))) = [2, 3, 5, 6] := by decide +kernel

end PorepyVerif.C17
