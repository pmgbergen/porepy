/-
C13 — the interaction regions the grid model `GridS` builds: which faces and cells a node sees (the topology
is that of C11's grid), the rows of a face by its kind, that the rows refer to sub-cells of the region, that
the local matrix, hence the certificate, depends neither on the data nor on the Dirichlet flag of an interior
face, and that affine data of the grid are affine data of every region in which `_eliminate_ncasym` does no
harm to the field (`ElimOK`).
-/
import PorepyVerif.C13.LemmasMatrix

namespace PorepyVerif.C13

namespace GridS
variable (G : GridS)

/-- The topology arrays as a grid of the scalar scheme (C11): `fnodes`, `fcells`, `facesOf`, `cellsOf`, `loc` are
    word for word the same functions there, so what C11 proves about them holds here by unfolding. -/
def toGrid2 : C11.Grid2 :=
  { nodes := G.nodes, faceNodes := G.faceNodes, faceCells := G.faceCells, cellCenters := G.cellCenters,
    faceCenters := G.faceCenters, faceNormals := G.faceNormals, perm := [], isDir := G.isDir, eta := G.eta }

theorem mem_facesOf (v f : Nat) : f ∈ G.facesOf v ↔ f < G.numFaces ∧ v ∈ G.fnodes f :=
  C11.Grid2.mem_facesOf G.toGrid2 v f

theorem mem_cellsOf (v c : Nat) :
    c ∈ G.cellsOf v ↔ c < G.numCells ∧ ∃ f ∈ G.facesOf v, ∃ s, (c, s) ∈ G.fcells f :=
  C11.Grid2.mem_cellsOf G.toGrid2 v c

theorem loc_lt (v c : Nat) (h : c ∈ G.cellsOf v) : G.loc v c < (G.cellsOf v).length :=
  List.idxOf_lt_length_of_mem h

theorem cell_mem (v f c : Nat) (s : Rat) (hc : c < G.numCells) (hf : f ∈ G.facesOf v)
    (hm : (c, s) ∈ G.fcells f) : c ∈ G.cellsOf v :=
  (G.mem_cellsOf v c).mpr ⟨hc, f, hf, s, hm⟩

theorem mem_region_rows (bc : Nat → Vec 2) (v : Nat) (r : Row 2) :
    r ∈ (G.region bc v).rows ↔ ∃ f ∈ G.facesOf v, r ∈ G.mkRows bc v f :=
  List.mem_flatMap

theorem mkRows_bnd (bc : Nat → Vec 2) (v f c : Nat) (s : Rat) (h : G.fcells f = [(c, s)]) :
    G.mkRows bc v f =
      if G.dirAt f then [.dirichlet (G.loc v c) (G.fcAt f) (bc f)]
      else [.neumann (G.loc v c) (G.subNormal f) (fun a => s * bc f a / G.nN f) (G.elimAt v)] := by
  unfold mkRows; rw [h]

theorem mkRows_int (bc : Nat → Vec 2) (v f c1 c2 : Nat) (s1 s2 : Rat)
    (h : G.fcells f = [(c1, s1), (c2, s2)]) :
    G.mkRows bc v f =
      [.tractionCont (G.loc v c1) (G.loc v c2) (G.subNormal f),
       .dispCont (G.loc v c1) (G.loc v c2) (G.contPt v f)] := by
  unfold mkRows; rw [h]

theorem affineBc_bnd (A : Mat 2) (b : Vec 2) (f c : Nat) (s : Rat) (h : G.fcells f = [(c, s)]) :
    G.affineBc A b f =
      if G.dirAt f then affine A b (G.fcAt f)
      else fun a => s * mulVec (hooke G.lam G.mu A) (G.fnAt f) a := by
  unfold affineBc; rw [h]

theorem fcells_cases (hwf : G.WF) (f : Nat) (hf : f < G.numFaces) :
    (∃ c s, G.fcells f = [(c, s)] ∧ c < G.numCells ∧ s * s = 1) ∨
    (∃ c1 s1 c2 s2, G.fcells f = [(c1, s1), (c2, s2)] ∧ c1 < G.numCells ∧ c2 < G.numCells) := by
  obtain ⟨hfc, _, hfcells, _⟩ := hwf
  have h : fcOK G.numCells (G.fcells f) := hfcells _ (C11.getD_mem' G.faceCells f [] (hfc ▸ hf))
  unfold fcOK at h
  split at h
  · next c s hl => exact .inl ⟨c, s, hl, h⟩
  · next c1 s1 c2 s2 hl => exact .inr ⟨c1, s1, c2, s2, hl, h.1, h.2.1⟩
  · exact h.elim

/-- the same seen from a node of the face: its cells are sub-cells of the node's region -/
theorem fcells_at_node (hwf : G.WF) (v f : Nat) (hf : f ∈ G.facesOf v) :
    (∃ c s, G.fcells f = [(c, s)] ∧ c ∈ G.cellsOf v ∧ s * s = 1) ∨
    (∃ c1 s1 c2 s2, G.fcells f = [(c1, s1), (c2, s2)] ∧ c1 ∈ G.cellsOf v ∧ c2 ∈ G.cellsOf v) := by
  rcases G.fcells_cases hwf f ((G.mem_facesOf v f).mp hf).1 with
    ⟨c, s, hl, hc, hs⟩ | ⟨c1, s1, c2, s2, hl, hc1, hc2⟩
  · exact .inl ⟨c, s, hl, G.cell_mem v f c s hc hf (by rw [hl]; simp), hs⟩
  · exact .inr ⟨c1, s1, c2, s2, hl, G.cell_mem v f c1 s1 hc1 hf (by rw [hl]; simp),
      G.cell_mem v f c2 s2 hc2 hf (by rw [hl]; simp)⟩

theorem fnodes_ok (hwf : G.WF) (f : Nat) (hf : f < G.numFaces) :
    G.fnodes f ≠ [] ∧ ∀ v ∈ G.fnodes f, v < G.numNodes :=
  hwf.2.1 _ (C11.getD_mem' G.faceNodes f [] hf)

theorem nN_ne_zero (hwf : G.WF) (f : Nat) (hf : f < G.numFaces) : G.nN f ≠ 0 := by
  unfold nN
  intro h0
  have : (G.fnodes f).length = 0 := by exact_mod_cast h0
  exact (G.fnodes_ok hwf f hf).1 (List.length_eq_zero_iff.mp this)

theorem region_vol_ne_zero (hwf : G.WF) (bc : Nat → Vec 2) (v : Nat) (hv : v < G.numNodes) :
    sumTo (G.region bc v).vol (G.region bc v).m ≠ 0 :=
  hwf.2.2.2 v hv

/-- the rows the model builds refer to sub-cells of the region -/
theorem region_rowsOK (hwf : G.WF) (bc : Nat → Vec 2) (v : Nat) : RowsOK (G.region bc v) := by
  intro r hr
  obtain ⟨f, hf, hr⟩ := (G.mem_region_rows bc v r).mp hr
  show r.idxOK (G.cellsOf v).length
  rcases G.fcells_at_node hwf v f hf with ⟨c, s, hl, hc, _⟩ | ⟨c1, s1, c2, s2, hl, hc1, hc2⟩
  · rw [G.mkRows_bnd bc v f c s hl] at hr
    split at hr <;> rw [List.mem_singleton.mp hr] <;> exact G.loc_lt v c hc
  · rw [G.mkRows_int bc v f c1 c2 s1 s2 hl] at hr
    simp only [List.mem_cons, List.not_mem_nil, or_false] at hr
    rcases hr with rfl | rfl <;> exact ⟨G.loc_lt v c1 hc1, G.loc_lt v c2 hc2⟩

theorem mkRows_matrix (bc : Nat → Vec 2) (v f : Nat) (R : Region 2) :
    (G.mkRows bc v f).flatMap (fun r => [flatB (r.coefs R 0) R.m, flatB (r.coefs R 1) R.m])
      = (G.mkRows zeroData v f).flatMap (fun r => [flatB (r.coefs R 0) R.m, flatB (r.coefs R 1) R.m]) := by
  unfold mkRows
  split
  · split <;> simp only [List.flatMap_cons, Row.coefs]
  · rfl
  · rfl

/-- the local matrix does not depend on the data -/
theorem matrix_region (bc : Nat → Vec 2) (v : Nat) :
    (G.region bc v).matrix2 = (G.region zeroData v).matrix2 := by
  -- field by field: a direct `rfl` on the rows would unfold `region` down to `cellsOf`
  have e : ∀ (a : Fin 2) (r : Row 2), r.coefs (G.region bc v) a = r.coefs (G.region zeroData v) a :=
    Row.coefs_congr rfl rfl rfl rfl rfl
  unfold Region.matrix2
  simp only [e]
  show ((G.facesOf v).flatMap (G.mkRows bc v)).flatMap _ = ((G.facesOf v).flatMap (G.mkRows zeroData v)).flatMap _
  rw [List.flatMap_assoc, List.flatMap_assoc]
  congr 1
  funext f
  exact G.mkRows_matrix bc v f (G.region zeroData v)

/-- every certificate of `certs` passes the check for the region WITH data -/
theorem certs_ok (Ls : List C11.Mat) (h : G.certs = some Ls) (bc : Nat → Vec 2) (v : Nat)
    (hv : v < G.numNodes) : certOK2 (G.region bc v) (Ls.getD v []) = true := by
  unfold certs at h
  have h1 := C11.Grid2.allSome_getD _ Ls h v (by simpa using hv) []
  rw [C11.getD_map_range G.certAt G.numNodes v none hv] at h1
  simp only [certAt] at h1
  have hm : certOK2 (G.region bc v) (Ls.getD v []) = certOK2 (G.region zeroData v) (Ls.getD v []) := by
    unfold certOK2; rw [G.matrix_region bc v]; rfl
  rw [hm]
  split at h1
  · cases h1
  · split at h1
    · rw [← Option.some.inj h1]; assumption
    · cases h1

theorem lt_of_isBoundary {f : Nat} (h : G.isBoundary f = true) : f < G.faceCells.length := by
  by_contra hlt
  have : G.fcells f = [] := by
    unfold fcells; rw [List.getD_eq_getElem?_getD, List.getElem?_eq_none (Nat.le_of_not_lt hlt)]; rfl
  simp [isBoundary, this] at h

section setDir
variable (dir : List Bool)
  (h : ∀ f < G.faceCells.length, G.isBoundary f = true → dir.getD f false = G.dirAt f)
include h

/-- The model reads the Dirichlet flag of a face on boundary faces only: changing it elsewhere changes no
    interaction region, hence no certificate. -/
theorem region_setDir (bc : Nat → Vec 2) (v : Nat) :
    ({ G with isDir := dir } : GridS).region bc v = G.region bc v := by
  let G' : GridS := { G with isDir := dir }
  have hd : ∀ f, G.isBoundary f = true → G'.dirAt f = G.dirAt f :=
    fun f hb => h f (G.lt_of_isBoundary hb) hb
  have hneu : G'.isNeu = G.isNeu := by
    funext f
    show (G.isBoundary f && !G'.dirAt f) = (G.isBoundary f && !G.dirAt f)
    cases hb : G.isBoundary f with
    | false => rfl
    | true => rw [hd f hb]
  have hel : G'.elimAt v = G.elimAt v := by
    show decide (_ < ((G.facesOf v).filter G'.isNeu).length) = _
    rw [hneu]; rfl
  have hrows : G'.mkRows bc v = G.mkRows bc v := by
    funext f
    unfold mkRows
    rw [show G'.fcells f = G.fcells f from rfl]
    generalize hl : G.fcells f = l
    rcases l with _ | ⟨⟨c, s⟩, _ | ⟨⟨c2, s2⟩, _ | _⟩⟩
    · rfl
    · simp only [hel, hd f (by simp [isBoundary, hl])]
      rfl
    · rfl
    · rfl
  show Region.mk _ _ _ _ _ ((G.facesOf v).flatMap (G'.mkRows bc v)) = _
  rw [hrows]; rfl

theorem certs_setDir : ({ G with isDir := dir } : GridS).certs = G.certs := by
  have : ({ G with isDir := dir } : GridS).certAt = G.certAt := by
    funext v; unfold certAt; rw [G.region_setDir dir h]
  unfold certs; rw [this]; rfl

end setDir

theorem elimAt_false {v : Nat} (h : ∀ f ∈ G.facesOf v, G.isNeu f = false) : G.elimAt v = false := by
  unfold elimAt
  rw [List.filter_eq_nil_iff.mpr (fun f hf => Bool.eq_false_iff.mp (h f hf))]
  exact decide_eq_false (Nat.not_lt_zero _)

theorem noElimFace_iff (f : Nat) : G.noElimFace f = true ↔ ∀ v ∈ G.fnodes f, G.elimAt v = false := by
  simp [noElimFace]

/-- `_eliminate_ncasym` at node `v` does no harm to the affine field with gradient `A`: the term it drops from the
    Neumann rows, `casym(A) n_f`, vanishes on the Neumann faces at `v`.  Always so where nothing is eliminated; where
    something is, it asks that `A` has no shear across those faces, and by `elim_row_iff` nothing less will do. -/
def ElimOK (A : Mat 2) (v : Nat) : Prop :=
  G.elimAt v = true → ∀ f ∈ G.facesOf v, G.isNeu f = true → ∀ a, mulVec (casym G.mu A) (G.fnAt f) a = 0

variable {G} in
theorem ElimOK.of_not_elim {A : Mat 2} {v : Nat} (h : G.elimAt v = false) : G.ElimOK A v :=
  fun h' => by rw [h] at h'; cases h'

/-- affine data of the grid are affine data of every region whose eliminated rows do no harm to the field -/
theorem region_linear_of_elimOK (hwf : G.WF) (A : Mat 2) (b : Vec 2) (v : Nat) (hel : G.ElimOK A v) :
    LinearData (G.region (G.affineBc A b) v) A b := by
  intro r hr
  obtain ⟨f, hf, hr⟩ := (G.mem_region_rows _ v r).mp hr
  rcases G.fcells_at_node hwf v f hf with ⟨c, s, hl, _, hs⟩ | ⟨c1, s1, c2, s2, hl, _, _⟩
  · rw [G.mkRows_bnd _ v f c s hl, G.affineBc_bnd A b f c s hl] at hr
    by_cases hd : G.dirAt f = true
    · simp only [if_pos hd, List.mem_singleton] at hr
      subst hr
      exact fun a => rfl
    · simp only [if_neg hd, List.mem_singleton] at hr
      subst hr
      have hneu : G.isNeu f = true := by simp [isNeu, isBoundary, hl, hd]
      refine ⟨fun a => ?_, fun h a => ?_⟩
      · -- the outward sign `s = ±1` enters twice: in the datum and in the row
        show s * (s * mulVec (hooke G.lam G.mu A) (G.fnAt f) a) / G.nN f
          = mulVec (hooke G.lam G.mu A) (G.subNormal f) a
        unfold subNormal
        rw [mulVec_scale]
        linear_combination (mulVec (hooke G.lam G.mu A) (G.fnAt f) a / G.nN f) * hs
      · show mulVec (casym G.mu A) (G.subNormal f) a = 0
        unfold subNormal
        rw [mulVec_scale, hel h f hf hneu a, mul_zero]
  · rw [G.mkRows_int _ v f c1 c2 s1 s2 hl] at hr
    simp only [List.mem_cons, List.not_mem_nil, or_false] at hr
    rcases hr with rfl | rfl <;> trivial

theorem region_linear (hwf : G.WF) (A : Mat 2) (b : Vec 2) (v : Nat) (hel : G.elimAt v = false) :
    LinearData (G.region (G.affineBc A b) v) A b :=
  G.region_linear_of_elimOK hwf A b v (.of_not_elim hel)

theorem firstCell_mem (hwf : G.WF) (v f : Nat) (hf : f ∈ G.facesOf v) :
    G.firstCell f ∈ G.cellsOf v := by
  rcases G.fcells_at_node hwf v f hf with ⟨c, s, hl, hc, _⟩ | ⟨c, s, _, _, hl, hc, _⟩ <;>
  · unfold firstCell
    rw [hl]
    exact hc

theorem nodeSol_R (Ls : List C11.Mat) (u bc : Nat → Vec 2) (v : Nat) :
    (G.nodeSol Ls u bc v).R = G.region bc v := rfl

theorem nodeSol_u (Ls : List C11.Mat) (u bc : Nat → Vec 2) (v : Nat) :
    (G.nodeSol Ls u bc v).u = G.uLoc u v := rfl

theorem solOf_tab (n : Nat) (d : Nat → NodeSol) : solOf ((List.range n).map d) d = d := by
  funext v
  unfold solOf
  by_cases hv : v < n <;> simp [hv]

end GridS

end PorepyVerif.C13