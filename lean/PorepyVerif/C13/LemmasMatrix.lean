/-
C13 — the local matrix of `mpsa2d`.  `row_lin` is the link between the two forms of the local system: the
coefficient blocks of a row (`Row.coefs`, laid out by `flatB` into `Region.matrix2`) applied to the gradients,
minus `Row.rhsAt`, are the residual of the row.  From it: a solution of the rows solves the matrix equation
(`mulVec_matrix2`), so a checked left inverse returns it (`cert_solution2`) and the rows determine the
gradients (`cert_unisolvent`).
-/
import PorepyVerif.C13.Lemmas

namespace PorepyVerif.C13

theorem Blk.dot_add (x y z : Blk) : Blk.dot (Blk.add x y) z = Blk.dot x z + Blk.dot y z := by
  unfold Blk.dot Blk.add; ring

theorem Blk.dot_smul (s : Rat) (x z : Blk) : Blk.dot (Blk.smul s x) z = s * Blk.dot x z := by
  unfold Blk.dot Blk.smul; ring

theorem csymB_dot (lam mu : Rat) (n : Vec 2) (a : Fin 2) (G : Mat 2) :
    Blk.dot (csymB lam mu n a) (blkOf G) = mulVec (csym lam mu G) n a := by
  rcases fin2_cases a with rfl | rfl <;>
    simp only [csymB, Blk.dot, blkOf, mulVec, csym, tr, sumFin_two, Fin.reduceEq, ↓reduceIte] <;> ring

theorem casymB_dot (mu : Rat) (n : Vec 2) (a : Fin 2) (G : Mat 2) :
    Blk.dot (casymB mu n a) (blkOf G) = mulVec (casym mu G) n a := by
  rcases fin2_cases a with rfl | rfl <;>
    simp only [casymB, Blk.dot, blkOf, mulVec, casym, sumFin_two, Fin.reduceEq, ↓reduceIte] <;> ring

theorem distB_dot (x : Vec 2) (a : Fin 2) (G : Mat 2) :
    Blk.dot (distB x a) (blkOf G) = mulVec G x a := by
  rcases fin2_cases a with rfl | rfl <;>
    simp only [distB, Blk.dot, blkOf, mulVec, sumFin_two, Fin.reduceEq, ↓reduceIte] <;> ring

theorem flatB_succ (c : Nat → Blk) (m : Nat) : flatB c (m + 1) = flatB c m ++ (c m).toList := by
  unfold flatB
  rw [List.range_succ, List.flatMap_append]
  simp

theorem length_flatB (c : Nat → Blk) (m : Nat) : (flatB c m).length = 4 * m := by
  induction m with
  | zero => rfl
  | succ m ih => rw [flatB_succ, List.length_append, ih]; rfl

theorem dot_flatB (c g : Nat → Blk) (m : Nat) :
    C11.dot (flatB c m) (flatB g m) = sumTo (fun k => Blk.dot (c k) (g k)) m := by
  induction m with
  | zero => rfl
  | succ m ih =>
    rw [flatB_succ, flatB_succ, C11.dot_append _ _ _ _ (by rw [length_flatB, length_flatB]), ih]
    simp [sumTo, Blk.toList, Blk.dot, C11.dot]
    ring

theorem getD_flatB (g : Nat → Blk) (m k t : Nat) (hk : k < m) (ht : t < 4) :
    (flatB g m).getD (4 * k + t) 0 = (g k).toList.getD t 0 := by
  induction m with
  | zero => omega
  | succ m ih =>
    have hl := length_flatB g m
    rw [flatB_succ, List.getD_eq_getElem?_getD]
    by_cases h : k = m
    · subst h
      rw [List.getElem?_append_right (hl ▸ Nat.le_add_right _ _), hl, Nat.add_sub_cancel_left,
        ← List.getD_eq_getElem?_getD]
    · have hkm : k < m := Nat.lt_of_le_of_ne (Nat.le_of_lt_succ hk) h
      rw [List.getElem?_append_left (by omega), ← List.getD_eq_getElem?_getD]
      exact ih hkm

theorem unflat_flatB (G : Nat → Mat 2) (m k : Nat) (hk : k < m) :
    unflat (flatB (fun k => blkOf (G k)) m) k = G k := by
  funext p q
  unfold unflat
  rw [Nat.add_assoc, getD_flatB _ m k _ hk (by omega)]
  rcases fin2_cases p with rfl | rfl <;> rcases fin2_cases q with rfl | rfl <;> rfl

theorem avg_lin (R : Region 2) (G : Nat → Mat 2) (n : Vec 2) (a : Fin 2) :
    sumTo (fun k => R.vol k / sumTo R.vol R.m * mulVec (casym R.mu (G k)) n a) R.m
      = mulVec (avgAsym R G) n a := by
  have h := sumTo_lin2 (n 0 / sumTo R.vol R.m) (n 1 / sumTo R.vol R.m)
    (fun k => R.vol k * casym R.mu (G k) a 0) (fun k => R.vol k * casym R.mu (G k) a 1) R.m
  simp only [mulVec, sumFin_two, avgAsym]
  rw [sumTo_congr (g := fun k => n 0 / sumTo R.vol R.m * (R.vol k * casym R.mu (G k) a 0)
      + n 1 / sumTo R.vol R.m * (R.vol k * casym R.mu (G k) a 1)) R.m (fun k _ => by ring), h]
  ring

theorem sumTo_dot_ind (c : Blk) (g : Nat → Blk) (i m : Nat) (hi : i < m) :
    sumTo (fun k => Blk.dot (Blk.smul (ind k i) c) (g k)) m = Blk.dot c (g i) := by
  rw [sumTo_congr (g := fun k => ind k i * Blk.dot c (g k)) m (fun k _ => Blk.dot_smul _ _ _),
    sumTo_ind _ i m hi]

theorem sumTo_dot_neg_ind (c : Blk) (g : Nat → Blk) (i m : Nat) (hi : i < m) :
    sumTo (fun k => Blk.dot (Blk.smul (-(ind k i)) c) (g k)) m = -Blk.dot c (g i) := by
  rw [sumTo_congr (g := fun k => ind k i * -Blk.dot c (g k)) m
    (fun k _ => by rw [Blk.dot_smul]; ring), sumTo_ind _ i m hi]

theorem sumTo_dot_add (x y g : Nat → Blk) (m : Nat) :
    sumTo (fun k => Blk.dot (Blk.add (x k) (y k)) (g k)) m
      = sumTo (fun k => Blk.dot (x k) (g k)) m + sumTo (fun k => Blk.dot (y k) (g k)) m := by
  rw [← sumTo_add]
  exact sumTo_congr m (fun k _ => Blk.dot_add _ _ _)

theorem row_lin (R : Region 2) (u : Nat → Vec 2) (G : Nat → Mat 2) (r : Row 2)
    (hidx : r.idxOK R.m) (a : Fin 2) :
    sumTo (fun k => Blk.dot (r.coefs R a k) (blkOf (G k))) R.m - r.rhsAt u a
      = r.residual R u G a := by
  cases r with
  | tractionCont i j n =>
    simp only [Row.coefs, Row.rhsAt, Row.residual]
    rw [sumTo_dot_add, sumTo_dot_ind _ _ i _ hidx.1, sumTo_dot_neg_ind _ _ j _ hidx.2,
      csymB_dot, csymB_dot]
    ring
  | dispCont i j xs =>
    simp only [Row.coefs, Row.rhsAt, Row.residual, subDisp]
    rw [sumTo_dot_add, sumTo_dot_ind _ _ i _ hidx.1, sumTo_dot_neg_ind _ _ j _ hidx.2,
      distB_dot, distB_dot]
    ring
  | dirichlet i xs uD =>
    simp only [Row.coefs, Row.rhsAt, Row.residual, subDisp]
    rw [sumTo_dot_ind _ _ i _ hidx, distB_dot]
    ring
  | neumann i n t elim =>
    simp only [Row.coefs, Row.rhsAt, Row.residual]
    rw [subTraction_eq, sumTo_dot_add, sumTo_dot_ind _ _ i _ hidx, csymB_dot]
    cases elim with
    | true =>
      rw [sumTo_congr (g := fun _ => 0) R.m (fun k _ => by rw [Blk.dot_smul]; simp), sumTo_zero]
      rfl
    | false =>
      rw [← avg_lin]
      simp only [Bool.false_eq_true, if_false]
      rw [sumTo_congr R.m (fun k _ => by rw [Blk.dot_smul, casymB_dot])]

def RowsOK (R : Region 2) : Prop := ∀ r ∈ R.rows, r.idxOK R.m

theorem mulVec_matrix2_aux (R : Region 2) (u : Nat → Vec 2) (G : Nat → Mat 2) (rows : List (Row 2))
    (hidx : ∀ r ∈ rows, r.idxOK R.m) (hsol : ∀ r ∈ rows, ∀ a, r.residual R u G a = 0) :
    C11.mulVec (rows.flatMap (fun r => [flatB (r.coefs R 0) R.m, flatB (r.coefs R 1) R.m]))
        (flatB (fun k => blkOf (G k)) R.m)
      = rows.flatMap (fun r => [r.rhsAt u 0, r.rhsAt u 1]) := by
  induction rows with
  | nil => rfl
  | cons r rows ih =>
    have hr : ∀ a, sumTo (fun k => Blk.dot (r.coefs R a k) (blkOf (G k))) R.m = r.rhsAt u a :=
      fun a => sub_eq_zero.mp
        ((row_lin R u G r (hidx r (List.mem_cons_self ..)) a).trans (hsol r (List.mem_cons_self ..) a))
    have ih' := ih (fun r hr => hidx r (List.mem_cons_of_mem _ hr))
      (fun r hr => hsol r (List.mem_cons_of_mem _ hr))
    simp only [List.flatMap_cons, C11.mulVec, List.map_cons, List.cons_append,
      List.nil_append] at ih' ⊢
    rw [dot_flatB, dot_flatB, ih', hr 0, hr 1]

theorem mulVec_matrix2 (R : Region 2) (u : Nat → Vec 2) (G : Nat → Mat 2) (hidx : RowsOK R)
    (hsol : Solves R u G) :
    C11.mulVec R.matrix2 (flatB (fun k => blkOf (G k)) R.m) = R.rhs2 u :=
  mulVec_matrix2_aux R u G R.rows hidx hsol

/-- A passing certificate and any solution: the solver's output `L · rhs` IS that solution. -/
theorem cert_solution2 (R : Region 2) (L : C11.Mat) (u : Nat → Vec 2) (G : Nat → Mat 2)
    (hidx : RowsOK R) (hcert : certOK2 R L = true) (hsol : Solves R u G) (k : Nat) (hk : k < R.m) :
    unflat (C11.mulVec L (R.rhs2 u)) k = G k := by
  rw [← mulVec_matrix2 R u G hidx hsol,
    C11.leftInvOK_apply (4 * R.m) L R.matrix2 hcert _ (length_flatB _ _)]
  exact unflat_flatB G R.m k hk

/-- A passing certificate discharges the hypothesis `Unisolvent`. -/
theorem cert_unisolvent (R : Region 2) (L : C11.Mat) (hidx : RowsOK R)
    (hcert : certOK2 R L = true) : Unisolvent R := by
  intro u G₁ G₂ h₁ h₂ k hk
  rw [← cert_solution2 R L u G₁ hidx hcert h₁ k hk, ← cert_solution2 R L u G₂ hidx hcert h₂ k hk]

theorem Row.coefs_congr {R R' : Region 2} (hlam : R.lam = R'.lam) (hmu : R.mu = R'.mu)
    (hm : R.m = R'.m) (hvol : R.vol = R'.vol) (hxc : R.xc = R'.xc) (a : Fin 2) (r : Row 2) :
    r.coefs R a = r.coefs R' a := by
  cases r <;> simp only [Row.coefs, hlam, hmu, hm, hvol, hxc]

end PorepyVerif.C13
