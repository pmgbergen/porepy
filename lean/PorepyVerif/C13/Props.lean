/-
C13 — MPSA reproduces linear displacement fields exactly: property theorems.

Setting (Model.lean): one interaction region `R` around a node, in any dimension `d`; sub-cell
gradients `G k`, cell-centre displacements `u k`; Hooke's law with constant isotropic stiffness,
split as in the code into `csym` and the volume-averaged `casym` part (weak symmetry); rows =
traction continuity, displacement continuity, Dirichlet, Neumann (with the `_eliminate_ncasym` flag).

For `u(x) = A x + b`:
* `local_consistency_vec`  — `G ≡ A` satisfies every row (all sub-cell gradients coincide, so the
  weak-symmetry average is the gradient itself: `avg_of_equal`);
* `subface_traction_exact` — if the local system is uniquely solvable, the discrete Hooke's law
  applied to its solution is the exact traction `σ(A) n` on every sub-face; `face_traction_exact`
  sums the sub-faces of a face; `neumann_traction_prescribed` covers Neumann sub-faces (also the
  eliminated ones); `rigid_translation_zero_traction`, `rigid_rotation_zero_traction`;
* `dirichlet_reconstruction_exact` — the reconstructed boundary displacement is `A x + b`;
* `elim_row_iff` — why the property restricts the Neumann sets: an eliminated Neumann row is
  consistent with `G ≡ A` iff the dropped term `casym(A) n` vanishes;
* `GridS.mpsa2d_exact`, its instance `GridS.mpsa2d_linear_exact` and the corollaries of that — the same
  for the whole 2-D scheme of the model: regions built from the grid arrays, unisolvence from the
  re-checked left inverses, sub-faces summed per face; exact on every face at whose nodes
  `_eliminate_ncasym` does no harm to the field (`GridS.ElimOK`), in particular where it does not fire;
* `GridS.cell_balance_zero` — exact tractions on ALL faces of a closed cell sum to zero (not
  combined with the grid theorem, which gives exactness only on faces without eliminated nodes).

Outside these theorems (bridged by the correspondence check and the oracle): that the matrices
assembled by the vectorised code are these rows for every node, the inversion of the local
matrices (in `mpsa2d` replaced by the certificate), floating point rounding.
-/
import PorepyVerif.C13.LemmasGrid

namespace PorepyVerif.C13

variable {d : Nat}

/-- The row the code assembles for an internal sub-face (only `csym` is paired) is continuity of
    the full weakly-symmetric traction. -/
theorem traction_row_iff (R : Region d) (u : Nat → Vec d) (G : Nat → Mat d) (i j : Nat) (n : Vec d) :
    (∀ a, (Row.tractionCont i j n).residual R u G a = 0) ↔
      (∀ a, subTraction R G i n false a = subTraction R G j n false a) := by
  -- both tractions carry the same averaged part
  refine forall_congr' fun a => ?_
  rw [subTraction_eq, subTraction_eq]
  exact sub_eq_zero.trans (add_left_inj _).symm

/-- **Local consistency.**  For the affine field `u(x) = A x + b` (cell-centre values `A x_k + b`,
    Dirichlet data `A x_s + b`, Neumann data `σ(A) n`) the assignment `G_k ≡ A` satisfies every row
    of the local system: traction continuity, displacement continuity, Dirichlet and Neumann. -/
theorem local_consistency_vec (R : Region d) (A : Mat d) (b : Vec d)
    (hvol : sumTo R.vol R.m ≠ 0) (hlin : LinearData R A b) :
    Solves R (affineCells R A b) (fun _ => A) := by
  intro r hr a
  have hl := hlin r hr
  cases r with
  | tractionCont i j n => simp only [Row.residual]; ring
  | dispCont i j xs =>
    simp only [Row.residual]
    rw [subDisp_affine R A b _ i rfl, subDisp_affine R A b _ j rfl]; ring
  | dirichlet i xs uD =>
    simp only [Row.residual]
    rw [subDisp_affine R A b _ i rfl, hl a]; ring
  | neumann i n t elim =>
    obtain ⟨ht, he⟩ := hl
    simp only [Row.residual]
    rw [ht a]
    cases elim with
    | false =>
      unfold subTraction
      rw [mulVec_congr (subStress_const R A hvol i) n a]; ring
    | true =>
      -- the row lacks the `casym` part of `σ(A) n`, which vanishes by admissibility
      rw [subTraction_eq, mulVec_hooke, he rfl a]
      simp only [if_true]; ring

/-- **Exact gradients.**  If the local system determines the gradients (the matrix the code inverts
    is nonsingular) then for affine data its solution is `G_k = A` on every sub-cell. -/
theorem gradient_exact (R : Region d) (A : Mat d) (b : Vec d) (G : Nat → Mat d)
    (hvol : sumTo R.vol R.m ≠ 0) (hlin : LinearData R A b) (huniq : Unisolvent R)
    (hsol : Solves R (affineCells R A b) G) (k : Nat) (hk : k < R.m) : G k = A :=
  huniq _ G (fun _ => A) hsol (local_consistency_vec R A b hvol hlin) k hk

/-- **Exact sub-face traction.**  … and the discrete Hooke's law (`csym` of the own gradient plus
    the averaged `casym` part) gives the exact traction `σ(A) n` on every sub-face, whatever the grid
    geometry. -/
theorem subface_traction_exact (R : Region d) (A : Mat d) (b : Vec d) (G : Nat → Mat d)
    (hvol : sumTo R.vol R.m ≠ 0) (hlin : LinearData R A b) (huniq : Unisolvent R)
    (hsol : Solves R (affineCells R A b) G) (i : Nat) (hi : i < R.m) (n : Vec d) (a : Fin d) :
    subTraction R G i n false a = mulVec (hooke R.lam R.mu A) n a :=
  have hG := gradient_exact R A b G hvol hlin huniq hsol
  mulVec_congr (subStress_of_equal R G A hvol hG (hG i hi)) n a

/-- On a Neumann sub-face the discrete traction of ANY solution is the prescribed one — also where
    `_eliminate_ncasym` removed the averaged part (the same flag is used in row and Hooke's law). -/
theorem neumann_traction_prescribed (R : Region d) (u : Nat → Vec d) (G : Nat → Mat d)
    (hsol : Solves R u G) (i : Nat) (n t : Vec d) (elim : Bool)
    (hrow : Row.neumann i n t elim ∈ R.rows) (a : Fin d) :
    subTraction R G i n elim a = t a :=
  sub_eq_zero.mp (hsol _ hrow a)

/-- The traction on a face is the sum over its `nn` sub-faces, each with normal `n_f / nn`. -/
theorem face_traction_exact (S : Mat d) (n : Vec d) (nn : Rat) (hnn : nn ≠ 0) (a : Fin d) :
    nn * mulVec S (fun j => (1 / nn) * n j) a = mulVec S n a := by
  rw [mulVec_scale, ← mul_assoc, mul_one_div_cancel hnn, one_mul]

/-- **Rigid rotations** (`A` skew-symmetric): `σ(A) = 0`, hence zero traction on every sub-face. -/
theorem rigid_rotation_zero_traction (R : Region d) (A : Mat d) (b : Vec d) (G : Nat → Mat d)
    (hskew : ∀ i j, A i j = -A j i)
    (hvol : sumTo R.vol R.m ≠ 0) (hlin : LinearData R A b) (huniq : Unisolvent R)
    (hsol : Solves R (affineCells R A b) G) (i : Nat) (hi : i < R.m) (n : Vec d) (a : Fin d) :
    subTraction R G i n false a = 0 := by
  rw [subface_traction_exact R A b G hvol hlin huniq hsol i hi n a]
  exact mulVec_zero_mat (hooke_skew _ _ hskew) n a

/-- **Rigid translations** (`A = 0`, all cell-centre and Dirichlet values equal `b`, zero Neumann
    data) produce zero traction on every sub-face. -/
theorem rigid_translation_zero_traction (R : Region d) (b : Vec d) (G : Nat → Mat d)
    (hvol : sumTo R.vol R.m ≠ 0) (hlin : LinearData R (fun _ _ => 0) b) (huniq : Unisolvent R)
    (hsol : Solves R (fun _ => b) G) (i : Nat) (hi : i < R.m) (n : Vec d) (a : Fin d) :
    subTraction R G i n false a = 0 :=
  rigid_rotation_zero_traction R _ b G (fun _ _ => neg_zero.symm) hvol hlin huniq
    (affineCells_zero R b ▸ hsol) i hi n a

/-- **Boundary displacement reconstruction.**  With the solution of a uniquely solvable local
    system for affine data, the displacement reconstructed at any point `x` of a sub-face (the code
    uses the continuity point, the face centre on the boundary) from the adjacent sub-cell is the
    exact displacement `A x + b`. -/
theorem dirichlet_reconstruction_exact (R : Region d) (A : Mat d) (b : Vec d) (G : Nat → Mat d)
    (hvol : sumTo R.vol R.m ≠ 0) (hlin : LinearData R A b) (huniq : Unisolvent R)
    (hsol : Solves R (affineCells R A b) G) (i : Nat) (hi : i < R.m) (x : Vec d) (a : Fin d) :
    subDisp R (affineCells R A b) G i x a = affine A b x a :=
  subDisp_affine R A b G i (gradient_exact R A b G hvol hlin huniq hsol i hi) x a

/-- The admissibility condition is sharp: a Neumann row whose averaged part was eliminated, with
    exact data `t = σ(A) n`, is satisfied by `G ≡ A` iff the dropped term `casym(A) n` vanishes. -/
theorem elim_row_iff (R : Region d) (A : Mat d) (u : Nat → Vec d) (i : Nat) (n : Vec d) :
    (∀ a, (Row.neumann i n (mulVec (hooke R.lam R.mu A) n) true).residual R u (fun _ => A) a = 0) ↔
      (∀ a, mulVec (casym R.mu A) n a = 0) := by
  -- the residual is `csym(A) n − σ(A) n = −casym(A) n`
  refine forall_congr' fun a => ?_
  simp only [Row.residual]
  rw [subTraction_eq, mulVec_hooke, if_pos rfl, add_zero, sub_add_cancel_left, neg_eq_zero]

/-- Why the admissible boundary sets of the property never trigger `_eliminate_ncasym` in 3-D:
    the rule fires iff a node has more Neumann sub-faces than sub-cells (`#sub-cells − #Neumann < 0`).
    If distinct Neumann sub-faces at the node lie in distinct sub-cells — two boundary faces of one
    cell that meet at a node share an edge, which "no two Neumann faces share an edge" excludes —
    the rule does not fire (pigeonhole).  In 2-D it fires only at a corner with one sub-cell and two
    Neumann sub-faces, where no other sub-face is involved. -/
theorem admissible_no_elimination (m : Nat) (neu : List Nat) (cellOf : Nat → Nat)
    (hnd : neu.Nodup) (hr : ∀ s ∈ neu, cellOf s < m)
    (hinj : ∀ s ∈ neu, ∀ s' ∈ neu, cellOf s = cellOf s' → s = s') :
    ¬ (m < neu.length) := by
  have h1 : (neu.map cellOf).Nodup := List.Nodup.map_on hinj hnd
  have h2 : (neu.map cellOf).toFinset ⊆ Finset.range m := by
    intro x hx
    rw [List.mem_toFinset, List.mem_map] at hx
    obtain ⟨s, hs, rfl⟩ := hx
    exact Finset.mem_range.mpr (hr s hs)
  have h3 := Finset.card_le_card h2
  rw [List.toFinset_card_of_nodup h1, List.length_map, Finset.card_range] at h3
  omega

/-- The executable row check of the driver decides `Solves`. -/
theorem checkSolves_iff (R : Region d) (u : Nat → Vec d) (G : Nat → Mat d) :
    checkSolves R u G = true ↔ Solves R u G := by
  unfold checkSolves Solves
  simp only [List.all_eq_true, allFin_iff, beq_iff_eq]

/-- What the driver answers as `lin_ok` is an instance of `local_consistency_vec`: for ANY region
    geometry sent by the harness, once the row data are rewritten to those of the affine field and
    the eliminated Neumann rows are set aside, the executable check succeeds (total volume ≠ 0). -/
theorem driver_lin_ok (R : Region d) (A : Mat d) (b : Vec d) (rows : List (Row d))
    (hrows : R.rows = (rows.map (Row.withLinData R.lam R.mu A b)).filter (fun r => !r.isElim))
    (hvol : sumTo R.vol R.m ≠ 0) :
    checkSolves R (affineCells R A b) (fun _ => A) = true := by
  apply (checkSolves_iff R _ _).mpr
  apply local_consistency_vec R A b hvol
  intro r hr
  rw [hrows, List.mem_filter, List.mem_map] at hr
  obtain ⟨⟨r0, _, rfl⟩, he⟩ := hr
  cases r0 with
  | tractionCont i j n => trivial
  | dispCont i j xs => trivial
  | dirichlet i xs uD => intro a; rfl
  | neumann i n t elim =>
    refine ⟨fun a => rfl, fun h => ?_⟩
    simp [Row.withLinData, Row.isElim, h] at he

namespace GridS
variable (G : GridS)

/-- In a certified grid every interaction region is uniquely solvable: the hypothesis `Unisolvent`
    of the region theorems is discharged per instance by the checked left inverse. -/
theorem mpsa2d_regions_unisolvent (Ls : List C11.Mat) (hwf : G.WF) (hcert : G.certs = some Ls)
    (bc : Nat → Vec 2) (v : Nat) (hv : v < G.numNodes) : Unisolvent (G.region bc v) :=
  cert_unisolvent _ _ (G.region_rowsOK hwf bc v) (G.certs_ok Ls hcert bc v hv)

/-- per node where elimination does no harm to the field: the solver's gradients for affine data are all `A` -/
theorem node_gradient_exact_of_elimOK (A : Mat 2) (b : Vec 2) (Ls : List C11.Mat) (hwf : G.WF)
    (hcert : G.certs = some Ls) (v : Nat) (hv : v < G.numNodes) (hel : G.ElimOK A v)
    (k : Nat) (hk : k < (G.cellsOf v).length) :
    (G.nodeSol Ls (G.affineU A b) (G.affineBc A b) v).Gs k = A :=
  cert_solution2 (G.region (G.affineBc A b) v) (Ls.getD v [])
    (affineCells (G.region (G.affineBc A b) v) A b) (fun _ => A)
    (G.region_rowsOK hwf _ v) (G.certs_ok Ls hcert _ v hv)
    (local_consistency_vec _ A b (G.region_vol_ne_zero hwf _ v hv) (G.region_linear_of_elimOK hwf A b v hel))
    k hk

theorem node_gradient_exact (A : Mat 2) (b : Vec 2) (Ls : List C11.Mat) (hwf : G.WF)
    (hcert : G.certs = some Ls) (v : Nat) (hv : v < G.numNodes) (hel : G.elimAt v = false)
    (k : Nat) (hk : k < (G.cellsOf v).length) :
    (G.nodeSol Ls (G.affineU A b) (G.affineBc A b) v).Gs k = A :=
  G.node_gradient_exact_of_elimOK A b Ls hwf hcert v hv (.of_not_elim hel) k hk

/-- … so on every sub-face at the node the discrete Hooke's law gives the exact traction on the sub-face normal
    `n_f / #nodes(f)` -/
theorem subTr_exact (A : Mat 2) (b : Vec 2) (Ls : List C11.Mat) (hwf : G.WF)
    (hcert : G.certs = some Ls) (v : Nat) (hv : v < G.numNodes) (hel : G.ElimOK A v)
    (f : Nat) (hf : f ∈ G.facesOf v) (a : Fin 2) :
    G.subTr (G.nodeSol Ls (G.affineU A b) (G.affineBc A b) v) v f a
      = mulVec (hooke G.lam G.mu A) (G.subNormal f) a := by
  have hG := G.node_gradient_exact_of_elimOK A b Ls hwf hcert v hv hel
  have hi := hG _ (G.loc_lt v _ (G.firstCell_mem hwf v f hf))
  unfold subTr
  cases he : (G.elimAt v && G.isNeu f) with
  | false =>
    exact mulVec_congr (subStress_of_equal (G.region (G.affineBc A b) v) _ A
      (G.region_vol_ne_zero hwf _ v hv) hG hi) _ a
  | true =>
    -- eliminated Neumann sub-face: Hooke's law lacks the `casym` part of `σ(A) n`, which vanishes by `hel`
    rw [Bool.and_eq_true] at he
    rw [subTraction_eq, if_pos rfl, add_zero, hi, mulVec_hooke]
    unfold subNormal
    rw [mulVec_scale (casym _ A), hel he.1 f hf he.2 a, mul_zero, add_zero]
    rfl

/-- … and on a boundary sub-face the reconstructed displacement is the exact one at the face centre -/
theorem subU_exact_bnd (A : Mat 2) (b : Vec 2) (Ls : List C11.Mat) (hwf : G.WF)
    (hcert : G.certs = some Ls) (v : Nat) (hv : v < G.numNodes) (hel : G.ElimOK A v)
    (f : Nat) (hf : f ∈ G.facesOf v) (hb : G.isBoundary f = true) (a : Fin 2) :
    G.subU (G.nodeSol Ls (G.affineU A b) (G.affineBc A b) v) v f a = affine A b (G.fcAt f) a := by
  rcases G.fcells_at_node hwf v f hf with ⟨c, s, hl, hc, _⟩ | ⟨c1, s1, c2, s2, hl, _, _⟩
  · have hG := G.node_gradient_exact_of_elimOK A b Ls hwf hcert v hv hel _ (G.loc_lt v c hc)
    unfold subU
    rw [hl, G.nodeSol_R, G.nodeSol_u]
    exact subDisp_affine (G.region (G.affineBc A b) v) A b _ _ hG _ a
  · simp [isBoundary, hl] at hb

/-- Exactness on every face at whose nodes elimination does no harm to the field `A x + b` (`ElimOK`): this is what
    `_eliminate_ncasym` costs.  Where it fires, the scheme is still exact for the fields without shear across the
    Neumann faces of the node; for a field with such shear the eliminated rows are inconsistent (`elim_row_iff`). -/
theorem mpsa2d_exact (A : Mat 2) (b : Vec 2) (Ls : List C11.Mat) (hwf : G.WF)
    (hcert : G.certs = some Ls) (f : Nat) (hf : f < G.numFaces) (hel : ∀ v ∈ G.fnodes f, G.ElimOK A v) :
    (∀ a, G.faceTraction (G.nodeSol Ls (G.affineU A b) (G.affineBc A b)) f a
        = mulVec (hooke G.lam G.mu A) (G.fnAt f) a) ∧
    (G.isBoundary f = true →
      ∀ a, G.faceDisp (G.nodeSol Ls (G.affineU A b) (G.affineBc A b)) f a = affine A b (G.fcAt f) a) := by
  have hnodes := (G.fnodes_ok hwf f hf).2
  have hN := G.nN_ne_zero hwf f hf
  have hfv : ∀ v ∈ G.fnodes f, f ∈ G.facesOf v := fun v hv => (G.mem_facesOf v f).mpr ⟨hf, hv⟩
  constructor
  · intro a
    unfold faceTraction
    rw [sumList_const _ _ _ (fun v hv =>
      G.subTr_exact A b Ls hwf hcert v (hnodes v hv) (hel v hv) f (hfv v hv) a)]
    exact face_traction_exact _ _ _ hN a
  · intro hb a
    unfold faceDisp
    rw [sumList_const _ _ _ (fun v hv =>
      G.subU_exact_bnd A b Ls hwf hcert v (hnodes v hv) (hel v hv) f (hfv v hv) hb a)]
    exact mul_div_cancel_left₀ _ hN

/-- **`mpsa2d_linear_exact`.**  For EVERY well-formed 2-D grid (any topology given by
    `face_nodes` / `cell_faces`, any geometry arrays, any η, λ, μ, any Dirichlet/Neumann assignment)
    all of whose interaction regions are certified nonsingular (`G.certs = some Ls`), the assembled
    scheme — per node the region the model builds itself, gradients `L_v · rhs_v`, discrete Hooke's
    law with weak-symmetry averaging, sub-face tractions summed per face, sub-face displacements
    averaged per face — applied to the data of `u(x) = A x + b` (cell values `u(x_c)`, Dirichlet
    values `u(x_f)`, Neumann values `sgn · σ(A) n_f`) gives the exact traction `σ(A) n_f` on every
    face none of whose nodes had the averaged part eliminated, and the exact displacement `u(x_f)`
    on every such boundary face. -/
theorem mpsa2d_linear_exact (A : Mat 2) (b : Vec 2) (Ls : List C11.Mat) (hwf : G.WF)
    (hcert : G.certs = some Ls) (f : Nat) (hf : f < G.numFaces) (hne : G.noElimFace f = true) :
    (∀ a, G.faceTraction (G.nodeSol Ls (G.affineU A b) (G.affineBc A b)) f a
        = mulVec (hooke G.lam G.mu A) (G.fnAt f) a) ∧
    (G.isBoundary f = true →
      ∀ a, G.faceDisp (G.nodeSol Ls (G.affineU A b) (G.affineBc A b)) f a = affine A b (G.fcAt f) a) :=
  G.mpsa2d_exact A b Ls hwf hcert f hf (fun v hv => .of_not_elim ((G.noElimFace_iff f).mp hne v hv))

/-- … in particular (the property's wording) on every non-Neumann face of a grid whose boundary
    set is admissible: elimination only at nodes all of whose faces are Neumann.  In genuine 2-D
    grids every Dirichlet/Neumann assignment is admissible (`elimAt` fires only at a corner with
    one cell and two Neumann faces). -/
theorem mpsa2d_nonneumann_exact (A : Mat 2) (b : Vec 2) (Ls : List C11.Mat) (hwf : G.WF)
    (hcert : G.certs = some Ls) (hadm : G.admissible = true) (f : Nat) (hf : f < G.numFaces)
    (hnn : G.isNeu f = false) :
    (∀ a, G.faceTraction (G.nodeSol Ls (G.affineU A b) (G.affineBc A b)) f a
        = mulVec (hooke G.lam G.mu A) (G.fnAt f) a) ∧
    (G.isBoundary f = true →
      ∀ a, G.faceDisp (G.nodeSol Ls (G.affineU A b) (G.affineBc A b)) f a = affine A b (G.fcAt f) a) := by
  apply G.mpsa2d_linear_exact A b Ls hwf hcert f hf
  have := (List.all_eq_true.mp hadm) f (List.mem_range.mpr hf)
  simpa [hnn] using this

/-- On a manifold grid the averaged part is eliminated only at nodes all of whose faces are Neumann:
    `#cells < #Neumann faces ≤ #faces ≤ #cells + 1` forces `#Neumann faces = #faces`. -/
theorem neumann_of_elim (hman : G.manifold = true) (v : Nat) (hv : v < G.numNodes)
    (hel : G.elimAt v = true) : ∀ f ∈ G.facesOf v, G.isNeu f = true := by
  unfold elimAt at hel
  have hlt := of_decide_eq_true hel
  have hm := of_decide_eq_true ((List.all_eq_true.mp hman) v (List.mem_range.mpr hv))
  exact all_of_filter_length G.isNeu (G.facesOf v) (by omega)

/-- The hypothesis `admissible` is discharged by a decidable condition on the topology arrays: on a
    2-D manifold grid (a node has at most one more face than cells) EVERY Dirichlet/Neumann
    assignment is admissible — `_eliminate_ncasym` can fire only at a node all of whose faces are
    Neumann.  This is the property's clause "in 2D with any Dirichlet/Neumann mix". -/
theorem admissible_of_manifold (hwf : G.WF) (hman : G.manifold = true) : G.admissible = true := by
  unfold admissible
  rw [List.all_eq_true]
  intro f hf
  have hfl : f < G.numFaces := List.mem_range.mp hf
  cases hn : G.isNeu f with
  | true => rfl
  | false =>
    rw [Bool.false_or, G.noElimFace_iff]
    intro v hv
    cases hel : G.elimAt v with
    | false => rfl
    | true =>
      have := G.neumann_of_elim hman v ((G.fnodes_ok hwf f hfl).2 v hv) hel f
        ((G.mem_facesOf v f).mpr ⟨hfl, hv⟩)
      rw [hn] at this; cases this

/-- the property's first clause: all boundary faces Dirichlet ⇒ exact on EVERY face -/
theorem mpsa2d_all_dirichlet_exact (A : Mat 2) (b : Vec 2) (Ls : List C11.Mat) (hwf : G.WF)
    (hcert : G.certs = some Ls) (hdir : ∀ f < G.numFaces, G.isNeu f = false) (f : Nat) (hf : f < G.numFaces) :
    (∀ a, G.faceTraction (G.nodeSol Ls (G.affineU A b) (G.affineBc A b)) f a
        = mulVec (hooke G.lam G.mu A) (G.fnAt f) a) ∧
    (G.isBoundary f = true →
      ∀ a, G.faceDisp (G.nodeSol Ls (G.affineU A b) (G.affineBc A b)) f a = affine A b (G.fcAt f) a) := by
  refine G.mpsa2d_linear_exact A b Ls hwf hcert f hf ((G.noElimFace_iff f).mpr fun v _ => ?_)
  exact G.elimAt_false fun x hx => hdir x ((G.mem_facesOf v x).mp hx).1

/-- the momentum balance is linear in the face tractions -/
theorem cellBalance_mulVec (S : Mat 2) (T : Nat → Vec 2) (c : Nat)
    (hT : ∀ f < G.numFaces, ∀ a, T f a = mulVec S (G.fnAt f) a) (a : Fin 2) :
    G.cellBalance T c a = S a 0 * G.cellBalance G.fnAt c 0 + S a 1 * G.cellBalance G.fnAt c 1 := by
  unfold cellBalance
  rw [← sumList_map_lin]
  refine sumList_map_congr _ _ _ fun f hf => ?_
  rw [← sumList_map_lin]
  refine sumList_map_congr _ _ _ fun p _ => ?_
  rw [hT f (List.mem_range.mp hf) a]
  simp only [mulVec, sumFin_two]; ring

/-- the neighbouring entry point `assemble_matrix_rhs` (`div·stress`, `−div·bound_stress·bc`): if
    the face tractions of a closed cell are all exact, the momentum balance of the cell vanishes, i.e.
    the cell-centre values of the affine field solve the assembled system with zero source. -/
theorem cell_balance_zero (S : Mat 2) (T : Nat → Vec 2) (c : Nat)
    (hT : ∀ f < G.numFaces, ∀ a, T f a = mulVec S (G.fnAt f) a) (hclosed : G.cellClosed c) (a : Fin 2) :
    G.cellBalance T c a = 0 := by
  rw [G.cellBalance_mulVec S T c hT, hclosed 0, hclosed 1]; ring

/-- rigid motions (`A` skew, in particular `A = 0`): zero traction on the faces covered by
    `mpsa2d_linear_exact` (no node of the face has the averaged part eliminated) -/
theorem mpsa2d_rigid_motion_zero_traction (A : Mat 2) (b : Vec 2) (hskew : ∀ i j, A i j = -A j i)
    (Ls : List C11.Mat) (hwf : G.WF) (hcert : G.certs = some Ls) (f : Nat) (hf : f < G.numFaces)
    (hne : G.noElimFace f = true) (a : Fin 2) :
    G.faceTraction (G.nodeSol Ls (G.affineU A b) (G.affineBc A b)) f a = 0 := by
  rw [(G.mpsa2d_linear_exact A b Ls hwf hcert f hf hne).1 a]
  exact mulVec_zero_mat (hooke_skew _ _ hskew) _ a

/-- what the driver executes (`apply`, with the node solutions tabulated once) is the scheme the
    theorems talk about -/
theorem apply_eq (Ls : List C11.Mat) (u bc : Nat → Vec 2) :
    G.apply Ls u bc =
      ((List.range G.numFaces).map (fun f => vecToList (G.faceTraction (G.nodeSol Ls u bc) f)),
       (List.range G.numFaces).map (fun f => vecToList (G.faceDisp (G.nodeSol Ls u bc) f))) := by
  unfold apply
  simp only [solOf_tab]

end GridS

section examples

def v2 (x y : Rat) : Vec 2 := fun i => if i.val = 0 then x else y
def m2 (a b c e : Rat) : Mat 2 := fun i j =>
  if i.val = 0 then (if j.val = 0 then a else b) else (if j.val = 0 then c else e)

/-- a non-symmetric gradient with rotation part -/
def exA : Mat 2 := m2 2 (-3) 5 (1/2)
def exb : Vec 2 := v2 (1/3) (-7)

/-- Boundary node of a skewed grid with two sub-cells: one internal sub-face (traction and
    displacement continuity), a Dirichlet sub-face on sub-cell 0, a Neumann sub-face on
    sub-cell 1; the data are those of `exA x + exb`. -/
def exRegion : Region 2 :=
  let lam : Rat := 3 / 2
  let mu : Rat := 3 / 4
  { lam := lam, mu := mu, m := 2
    vol := fun k => if k = 0 then 1 / 4 else 3 / 8
    xc := fun k => if k = 0 then v2 (1/2) (1/2) else v2 (7/4) (5/8)
    rows := [ .tractionCont 0 1 (v2 (1/2) (-1/8)),
              .dispCont 0 1 (v2 1 (1/3)),
              .dirichlet 0 (v2 (1/2) 0) (affine exA exb (v2 (1/2) 0)),
              .neumann 1 (v2 0 (-3/4)) (mulVec (hooke lam mu exA) (v2 0 (-3/4))) false ] }

theorem exRegion_vol : sumTo exRegion.vol exRegion.m ≠ 0 := by decide +kernel

theorem exRegion_lin : LinearData exRegion exA exb := by
  intro r hr
  simp only [exRegion, List.mem_cons, List.not_mem_nil, or_false] at hr
  rcases hr with rfl | rfl | rfl | rfl
  · trivial
  · trivial
  · intro a; rfl
  · exact ⟨fun a => rfl, fun h => by cases h⟩

/-- hypotheses of `local_consistency_vec` are satisfiable, with a gradient that is neither symmetric
    nor skew and a non-trivial weak-symmetry average -/
example : Solves exRegion (affineCells exRegion exA exb) (fun _ => exA) :=
  local_consistency_vec exRegion exA exb exRegion_vol exRegion_lin

/-- the executable check agrees on this instance, and detects a wrong gradient -/
example : checkSolves exRegion (affineCells exRegion exA exb) (fun _ => exA) = true := by
  decide +kernel
example : checkSolves exRegion (affineCells exRegion exA exb) (fun _ => m2 2 (-3) 5 1) = false := by
  decide +kernel
example : avgAsym exRegion (fun _ => exA) 0 1 = 3 / 4 * 5 := by decide +kernel

/-- Corner node with one sub-cell and two Dirichlet sub-faces: uniquely solvable. -/
def exCorner : Region 2 :=
  { lam := 1, mu := 2, m := 1
    vol := fun _ => 1 / 4
    xc := fun _ => v2 (1/2) (1/2)
    rows := [ .dirichlet 0 (v2 0 (1/2)) (affine exA exb (v2 0 (1/2))),
              .dirichlet 0 (v2 (1/2) 0) (affine exA exb (v2 (1/2) 0)) ] }

theorem exCorner_lin : LinearData exCorner exA exb := by
  intro r hr
  simp only [exCorner, List.mem_cons, List.not_mem_nil, or_false] at hr
  rcases hr with rfl | rfl
  · intro a; rfl
  · intro a; rfl

theorem exCorner_unisolvent : Unisolvent exCorner := by
  -- the local matrix is `-1/2` times a permutation; its inverse certifies unisolvence
  refine cert_unisolvent exCorner [[-2, 0, 0, 0], [0, 0, -2, 0], [0, -2, 0, 0], [0, 0, 0, -2]] ?_
    (by decide +kernel)
  intro r hr
  simp only [exCorner, List.mem_cons, List.not_mem_nil, or_false] at hr
  rcases hr with rfl | rfl
  · exact Nat.zero_lt_one
  · exact Nat.zero_lt_one

/-- hypotheses of the exactness theorems are jointly satisfiable -/
example (G : Nat → Mat 2) (hsol : Solves exCorner (affineCells exCorner exA exb) G) (n : Vec 2)
    (a : Fin 2) : subTraction exCorner G 0 n false a = mulVec (hooke 1 2 exA) n a :=
  subface_traction_exact exCorner exA exb G (by decide +kernel) exCorner_lin exCorner_unisolvent
    hsol 0 (by decide) n a

/-- three Neumann sub-faces in three different sub-cells of a node with four sub-cells -/
example : ¬ (4 < [10, 11, 12].length) :=
  admissible_no_elimination 4 [10, 11, 12] (fun s => s - 10) (by decide) (by decide) (by decide)

/-- a concrete grid for `mpsa2d_linear_exact`: two unit squares side by side; Dirichlet on the left
    and top-right faces, Neumann elsewhere, so that the corner node 2 has two Neumann faces and one
    cell (`_eliminate_ncasym` fires there) -/
def exGridS : GridS :=
  { nodes := [[0, 0], [1, 0], [2, 0], [0, 1], [1, 1], [2, 1]],
    faceNodes := [[0, 3], [1, 4], [2, 5], [0, 1], [1, 2], [3, 4], [4, 5]],
    faceCells := [[(0, -1)], [(0, 1), (1, -1)], [(1, 1)], [(0, -1)], [(1, -1)], [(0, 1)], [(1, 1)]],
    cellCenters := [[1/2, 1/2], [3/2, 1/2]],
    faceCenters := [[0, 1/2], [1, 1/2], [2, 1/2], [1/2, 0], [3/2, 0], [1/2, 1], [3/2, 1]],
    faceNormals := [[1, 0], [1, 0], [1, 0], [0, 1], [0, 1], [0, 1], [0, 1]],
    volShare := [1/4, 1/4],
    isDir := [true, false, false, false, false, false, true],
    eta := 0, lam := 3/2, mu := 3/4 }

theorem exGridS_wf : exGridS.WF := by decide +kernel

theorem exGridS_manifold : exGridS.manifold = true := by decide +kernel

/-- hypotheses of `mpsa2d_linear_exact` / `mpsa2d_nonneumann_exact` are satisfiable (well-formed,
    admissible, all six regions certified, elimination does occur at node 2), and the conclusion is
    what the model computes: for `u = exA x + exb` the assembled scheme returns `σ(A) n_f` on all
    seven faces and `u(x_f)` on the two Dirichlet faces -/
example :
    exGridS.WF ∧ exGridS.admissible = true ∧ exGridS.elimAt 2 = true ∧ exGridS.noElimFace 1 = true ∧
    (exGridS.certs).isSome = true ∧
    (exGridS.certs).map (fun Ls => (exGridS.apply Ls (exGridS.affineU exA exb) (exGridS.affineBc exA exb)).1)
      = some [[27/4, 3/2], [27/4, 3/2], [27/4, 3/2], [3/2, 9/2], [3/2, 9/2], [3/2, 9/2], [3/2, 9/2]] ∧
    (exGridS.certs).map (fun Ls =>
        ((exGridS.apply Ls (exGridS.affineU exA exb) (exGridS.affineBc exA exb)).2.getD 0 [],
         (exGridS.apply Ls (exGridS.affineU exA exb) (exGridS.affineBc exA exb)).2.getD 6 []))
      = some (vecToList (affine exA exb (exGridS.fcAt 0)), vecToList (affine exA exb (exGridS.fcAt 6))) :=
  ⟨exGridS_wf, exGridS.admissible_of_manifold exGridS_wf exGridS_manifold, by decide +kernel⟩

/-- `ElimOK` also holds where elimination fires: at the corner node 2 for a gradient without shear, not for `exA` -/
example : exGridS.ElimOK (m2 2 0 0 (1/2)) 2 ∧ ¬ exGridS.ElimOK exA 2 := by
  unfold GridS.ElimOK; decide +kernel

/-- `manifold` holds for the example grid, so every boundary assignment on it is admissible; below:
    its cell 1 is closed (hypothesis of `cell_balance_zero`), and the all-Dirichlet variant satisfies
    the hypotheses of `mpsa2d_all_dirichlet_exact` -/
example : exGridS.manifold = true ∧ exGridS.admissible = true :=
  ⟨exGridS_manifold, exGridS.admissible_of_manifold exGridS_wf exGridS_manifold⟩
example : exGridS.admissible = true := exGridS.admissible_of_manifold exGridS_wf exGridS_manifold
example : ∀ a, exGridS.cellBalance exGridS.fnAt 1 a = 0 := by decide +kernel
def exGridDir : GridS := { exGridS with isDir := [true, true, true, true, true, true, true] }

/-- The six left inverses `exGridDir.certs` computes, node by node (rows: the unknowns
    `(G k 0 0, G k 0 1, G k 1 0, G k 1 1)_k`, columns: the equations, two per row of the region).  Corner nodes 0, 2, 3, 5
    have one sub-cell and two Dirichlet sub-faces: `±2` times a permutation, compare `exCorner_unisolvent`.  Nodes 1, 4
    have two sub-cells, the interior face (traction and displacement continuity) and two Dirichlet sub-faces. -/
def exLsDir : List C11.Mat :=
  [ [[-2, 0, 0, 0], [0, 0, -2, 0], [0, -2, 0, 0], [0, 0, 0, -2]],
    [[ 1/3,    0, 1, 0,  0,  1/2,  0, -1/2],
     [   0,    0, 0, 0, -2,    0,  0,    0],
     [   0,  4/3, 0, 1,  0,    0,  0,    0],
     [   0,    0, 0, 0,  0,   -2,  0,    0],
     [-1/3,    0, 1, 0,  0, -1/2,  0,  1/2],
     [   0,    0, 0, 0,  0,    0, -2,    0],
     [   0, -4/3, 0, 1,  0,    0,  0,    0],
     [   0,    0, 0, 0,  0,    0,  0,   -2]],
    [[2, 0, 0, 0], [0, 0, -2, 0], [0, 2, 0, 0], [0, 0, 0, -2]],
    [[-2, 0, 0, 0], [0, 0, 2, 0], [0, -2, 0, 0], [0, 0, 0, 2]],
    [[ 1/3,    0, 1, 0,  0, -1/2,  0,  1/2],
     [   0,    0, 0, 0,  2,    0,  0,    0],
     [   0,  4/3, 0, 1,  0,    0,  0,    0],
     [   0,    0, 0, 0,  0,    2,  0,    0],
     [-1/3,    0, 1, 0,  0,  1/2,  0, -1/2],
     [   0,    0, 0, 0,  0,    0,  2,    0],
     [   0, -4/3, 0, 1,  0,    0,  0,    0],
     [   0,    0, 0, 0,  0,    0,  0,    2]],
    [[2, 0, 0, 0], [0, 0, 2, 0], [0, 2, 0, 0], [0, 0, 0, 2]] ]

/-- evaluated once; C15's all-Dirichlet example grid has the same certificates (`GridS.certs_setDir`) -/
theorem exGridDir_certs : exGridDir.certs = some exLsDir := by decide +kernel

example : exGridDir.WF ∧ (∀ f < exGridDir.numFaces, exGridDir.isNeu f = false) ∧ exGridDir.certs.isSome = true :=
  ⟨exGridS_wf, by decide +kernel, exGridDir_certs ▸ rfl⟩

/-- the certificate is not vacuous: with both cell centres of the corner node 0 moved onto the line
    through the two boundary face centres the local system is singular and `certs` refuses the grid
    (the degenerate configuration of corpus/C13/07-deltri-singular-corner-noclaim.json) -/
example :
    ({ nodes := [[0, 0], [1, 0], [0, 1], [1, 1]],
       faceNodes := [[0, 1], [0, 2], [0, 3], [1, 3], [2, 3]],
       faceCells := [[(0, -1)], [(1, -1)], [(0, 1), (1, -1)], [(0, 1)], [(1, 1)]],
       cellCenters := [[3/8, 1/8], [1/8, 3/8]],
       faceCenters := [[1/2, 0], [0, 1/2], [1/2, 1/2], [1, 1/2], [1/2, 1]],
       faceNormals := [[0, 1], [1, 0], [1, -1], [1, 0], [0, 1]],
       volShare := [1/6, 1/6], isDir := [true, true, false, true, true],
       eta := 1/3, lam := 1, mu := 1 } : GridS).certs = none := by
  decide +kernel

/-- a rotation: `σ(A) = 0` -/
example : ∀ i j : Fin 2, hooke (5/3) (7/2) (m2 0 (-4) 4 0) i j = 0 := by decide +kernel

/-- an eliminated Neumann row is NOT consistent for a general gradient (here `casym(A) n ≠ 0`) -/
example : mulVec (casym (3/4) exA) (v2 0 (-3/4)) 0 ≠ 0 := by decide +kernel

end examples

end PorepyVerif.C13
