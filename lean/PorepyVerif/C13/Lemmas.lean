/-
C13 — lemmas behind the property theorems, for one region in any dimension: the three sum recursions of
the model (each is a `List.sum`: `sumFin_eq`, `sumTo_eq`, `sumList_eq`, and takes its rules from `Common.Sum`),
matrix-vector algebra, the discrete Hooke's law and the weak-symmetry average.  `LemmasMatrix`
(the local matrix of `mpsa2d` and its certificate) and `LemmasGrid` (the regions the grid model builds)
stand on this file.
-/
import PorepyVerif.C13.Model
import PorepyVerif.C11.Lemmas
import PorepyVerif.Common.Sum
import Mathlib.Algebra.Order.Field.Rat
import Mathlib.Tactic.Ring
import Mathlib.Tactic.Linarith
import Mathlib.Tactic.LinearCombination
import Mathlib.Data.Finset.Card
import Mathlib.Data.List.Nodup

namespace PorepyVerif.C13

variable {d : Nat}

theorem sumFin_eq : ∀ (n : Nat) (f : Fin n → Rat), sumFin n f = ((List.finRange n).map f).sum := by
  intro n
  induction n with
  | zero => intro f; rfl
  | succ n ih => intro f; rw [Common.sum_finRange_succ, ← ih, sumFin]

theorem sumTo_eq (f : Nat → Rat) (m : Nat) : sumTo f m = ((List.range m).map f).sum := by
  induction m with
  | zero => rfl
  | succ m ih => rw [Common.sum_range_succ, ← ih, sumTo]

theorem sumList_eq (l : List Rat) : GridS.sumList l = l.sum := by
  induction l with
  | nil => rfl
  | cons x l ih => rw [GridS.sumList, ih, List.sum_cons]

theorem sumFin_congr {n : Nat} {f g : Fin n → Rat} (h : ∀ i, f i = g i) :
    sumFin n f = sumFin n g := by
  rw [funext h]

theorem sumFin_zero : ∀ (n : Nat), sumFin n (fun _ => 0) = 0 :=
  fun n => (sumFin_eq n _).trans (Common.sum_map_eq_zero fun _ _ => rfl)

theorem sumFin_add : ∀ (n : Nat) (f g : Fin n → Rat),
    sumFin n (fun i => f i + g i) = sumFin n f + sumFin n g := by
  simp only [sumFin_eq, Common.sum_map_add, implies_true]

theorem sumFin_sub : ∀ (n : Nat) (f g : Fin n → Rat),
    sumFin n (fun i => f i - g i) = sumFin n f - sumFin n g := by
  simp only [sumFin_eq, Common.sum_map_sub, implies_true]

theorem sumFin_mul_left : ∀ (n : Nat) (c : Rat) (f : Fin n → Rat),
    sumFin n (fun i => c * f i) = c * sumFin n f := by
  simp only [sumFin_eq, Common.sum_map_mul_left, implies_true]

theorem sumFin_eq_zero {n : Nat} {f : Fin n → Rat} (h : ∀ i, f i = 0) : sumFin n f = 0 := by
  rw [sumFin_congr h, sumFin_zero]

theorem sumFin_two (f : Fin 2 → Rat) : sumFin 2 f = f 0 + (f 1 + 0) := rfl

theorem fin2_cases (i : Fin 2) : i = 0 ∨ i = 1 := by
  revert i; decide

theorem allFin_iff : ∀ (n : Nat) (p : Fin n → Bool), allFin n p = true ↔ ∀ i, p i = true := by
  intro n
  induction n with
  | zero => intro p; simp [allFin]
  | succ n ih =>
    intro p
    simp only [allFin, Bool.and_eq_true, ih, Fin.forall_fin_succ]

theorem sumTo_congr {f g : Nat → Rat} (m : Nat) (h : ∀ k, k < m → f k = g k) :
    sumTo f m = sumTo g m := by
  rw [sumTo_eq, sumTo_eq]
  exact Common.sum_map_congr fun k hk => h k (List.mem_range.mp hk)

theorem sumTo_zero (m : Nat) : sumTo (fun _ => 0) m = 0 :=
  (sumTo_eq _ m).trans (Common.sum_map_eq_zero fun _ _ => rfl)

theorem sumTo_lin2 (c0 c1 : Rat) (f0 f1 : Nat → Rat) (m : Nat) :
    sumTo (fun k => c0 * f0 k + c1 * f1 k) m = c0 * sumTo f0 m + c1 * sumTo f1 m := by
  simp only [sumTo_eq, Common.sum_map_add, Common.sum_map_mul_left]

theorem sumTo_add (f g : Nat → Rat) (m : Nat) :
    sumTo (fun k => f k + g k) m = sumTo f m + sumTo g m := by
  simp only [sumTo_eq, Common.sum_map_add]

theorem sumTo_mul_const (v f : Nat → Rat) (c : Rat) (m : Nat) (h : ∀ k, k < m → f k = v k * c) :
    sumTo f m = sumTo v m * c := by
  rw [sumTo_congr m h, sumTo_eq, sumTo_eq, Common.sum_map_mul_right]

theorem sumTo_ind (f : Nat → Rat) (i m : Nat) (hi : i < m) :
    sumTo (fun k => ind k i * f k) m = f i := by
  rw [sumTo_eq, Common.sum_map_single List.nodup_range (List.mem_range.mpr hi)
    (fun k _ hk => by rw [ind, if_neg hk, zero_mul]), ind, if_pos rfl, one_mul]

theorem sumList_const {α : Type} (l : List α) (g : α → Rat) (c : Rat) (h : ∀ x ∈ l, g x = c) :
    GridS.sumList (l.map g) = (l.length : Rat) * c := by
  rw [sumList_eq, Common.sum_map_congr h, Common.sum_map_const]

theorem all_of_filter_length {α : Type} (p : α → Bool) :
    ∀ (l : List α), l.length ≤ (l.filter p).length → ∀ x ∈ l, p x = true :=
  fun l h => List.length_filter_eq_length_iff.mp (Nat.le_antisymm (List.length_filter_le p l) h)

theorem sumList_append (l r : List Rat) : GridS.sumList (l ++ r) = GridS.sumList l + GridS.sumList r := by
  rw [sumList_eq, sumList_eq, sumList_eq, List.sum_append]

theorem sumList_map_lin {α : Type} (l : List α) (g0 g1 : α → Rat) (c0 c1 : Rat) :
    GridS.sumList (l.map (fun x => c0 * g0 x + c1 * g1 x))
      = c0 * GridS.sumList (l.map g0) + c1 * GridS.sumList (l.map g1) := by
  simp only [sumList_eq, Common.sum_map_add, Common.sum_map_mul_left]

theorem sumList_map_congr {α : Type} (l : List α) (g h : α → Rat) (e : ∀ x ∈ l, g x = h x) :
    GridS.sumList (l.map g) = GridS.sumList (l.map h) := by
  rw [List.map_congr_left e]

theorem mulVec_congr {M N : Mat d} (h : ∀ i j, M i j = N i j) (v : Vec d) (a : Fin d) :
    mulVec M v a = mulVec N v a := by
  unfold mulVec
  exact sumFin_congr (fun j => by rw [h])

theorem mulVec_zero_mat {M : Mat d} (h : ∀ i j, M i j = 0) (v : Vec d) (a : Fin d) :
    mulVec M v a = 0 := by
  unfold mulVec
  exact sumFin_eq_zero (fun j => by rw [h]; ring)

theorem mulVec_add_mat (M N : Mat d) (v : Vec d) (a : Fin d) :
    mulVec (fun i j => M i j + N i j) v a = mulVec M v a + mulVec N v a := by
  unfold mulVec
  rw [← sumFin_add]
  exact sumFin_congr (fun j => by ring)

theorem mulVec_vsub (M : Mat d) (x y : Vec d) (a : Fin d) :
    mulVec M (vsub x y) a = mulVec M x a - mulVec M y a := by
  unfold mulVec vsub
  rw [← sumFin_sub]
  exact sumFin_congr (fun j => by ring)

theorem mulVec_scale (M : Mat d) (c : Rat) (v : Vec d) (a : Fin d) :
    mulVec M (fun j => c * v j) a = c * mulVec M v a := by
  unfold mulVec
  rw [← sumFin_mul_left]
  exact sumFin_congr (fun j => by ring)

/-- The code's split of the isotropic stiffness tensor is a split of Hooke's law. -/
theorem hooke_split (lam mu : Rat) (G : Mat d) (i j : Fin d) :
    csym lam mu G i j + casym mu G i j = hooke lam mu G i j := by
  unfold csym casym hooke
  by_cases h : i = j
  · subst h; simp only [if_true]; ring
  · simp only [if_neg h]; ring

theorem mulVec_hooke (lam mu : Rat) (G : Mat d) (n : Vec d) (a : Fin d) :
    mulVec (hooke lam mu G) n a = mulVec (csym lam mu G) n a + mulVec (casym mu G) n a := by
  rw [← mulVec_add_mat]
  exact mulVec_congr (fun i j => (hooke_split lam mu G i j).symm) n a

theorem tr_skew {A : Mat d} (h : ∀ i j, A i j = -A j i) : tr A = 0 := by
  unfold tr
  apply sumFin_eq_zero
  exact fun i => self_eq_neg.mp (h i i)

theorem hooke_skew (lam mu : Rat) {A : Mat d} (h : ∀ i j, A i j = -A j i) (i j : Fin d) :
    hooke lam mu A i j = 0 := by
  unfold hooke
  rw [tr_skew h, h i j]
  by_cases hij : i = j
  · simp only [if_pos hij]; ring
  · simp only [if_neg hij]; ring

theorem hooke_zero (lam mu : Rat) (i j : Fin d) :
    hooke lam mu (fun _ _ => (0 : Rat)) i j = 0 :=
  hooke_skew lam mu (A := fun _ _ => (0 : Rat)) (fun _ _ => by ring) i j

theorem subTraction_eq (R : Region d) (G : Nat → Mat d) (i : Nat) (n : Vec d) (elim : Bool)
    (a : Fin d) :
    subTraction R G i n elim a
      = mulVec (csym R.lam R.mu (G i)) n a + (if elim then 0 else mulVec (avgAsym R G) n a) := by
  unfold subTraction subStress
  rw [mulVec_add_mat]
  cases elim with
  | false => rfl
  | true => exact congrArg _ (mulVec_zero_mat (fun _ _ => rfl) n a)

theorem subTraction_zero (R : Region d) (i : Nat) (n : Vec d) (e : Bool) (a : Fin d) :
    subTraction R (fun _ _ _ => 0) i n e a = 0 := by
  refine mulVec_zero_mat (fun x y => ?_) n a
  unfold subStress avgAsym csym casym tr
  simp only [sumFin_zero, sumTo_zero, mul_zero, add_zero, zero_div, ite_self]

/-- Weak symmetry: if all sub-cell gradients around the node coincide, the volume weighted
    average of the `casym` parts is the `casym` part of that gradient (weights sum to one as soon
    as the total volume is non-zero). -/
theorem avg_of_equal (R : Region d) (G : Nat → Mat d) (A : Mat d)
    (hvol : sumTo R.vol R.m ≠ 0) (hG : ∀ k, k < R.m → G k = A) (a b : Fin d) :
    avgAsym R G a b = casym R.mu A a b := by
  unfold avgAsym
  rw [sumTo_mul_const R.vol _ (casym R.mu A a b) R.m (fun k hk => by rw [hG k hk])]
  exact mul_div_cancel_left₀ _ hvol

theorem subStress_of_equal (R : Region d) (G : Nat → Mat d) (A : Mat d)
    (hvol : sumTo R.vol R.m ≠ 0) (hG : ∀ k, k < R.m → G k = A) {i : Nat} (hi : G i = A)
    (a b : Fin d) : subStress R G i false a b = hooke R.lam R.mu A a b := by
  unfold subStress
  rw [avg_of_equal R G A hvol hG, hi]
  exact hooke_split _ _ _ _ _

theorem subStress_const (R : Region d) (A : Mat d) (hvol : sumTo R.vol R.m ≠ 0) (i : Nat)
    (a b : Fin d) : subStress R (fun _ => A) i false a b = hooke R.lam R.mu A a b :=
  subStress_of_equal R _ A hvol (fun _ _ => rfl) rfl a b

theorem subDisp_affine (R : Region d) (A : Mat d) (b : Vec d) (G : Nat → Mat d) (i : Nat)
    (hG : G i = A) (x : Vec d) (a : Fin d) :
    subDisp R (affineCells R A b) G i x a = affine A b x a := by
  unfold subDisp affineCells affine
  rw [hG, mulVec_vsub]
  ring

theorem affineCells_zero (R : Region d) (b : Vec d) :
    affineCells R (fun _ _ => 0) b = fun _ => b := by
  funext k c
  unfold affineCells affine
  rw [mulVec_zero_mat (fun _ _ => rfl)]; ring

end PorepyVerif.C13
