/-
C46 — one dictionary entry under a batch of writes (for any value type, so that the scalar dictionary
and the dictionary of value columns share it), first-match lookup, lookup and key list after `upsert`.
-/
import PorepyVerif.C46.Model

namespace PorepyVerif.C46

theorem mapM_eq_none {α β : Type} {f : α → Option β} {l : List α} {x : α} (hx : x ∈ l)
    (h : f x = none) : l.mapM f = none := by
  induction l with
  | nil => exact nomatch hx
  | cons a l ih =>
    rw [List.mapM_cons]
    rcases List.mem_cons.mp hx with rfl | hx
    · rw [h]; rfl
    · rw [ih hx]
      cases f a <;> rfl

section Entry
variable {α : Type}

/-- values of the batch given for coordinate `c`, in batch order (`vals` for any value type) -/
def valsOf (c : Coord) (B : List (Coord × α)) : List α := (B.filter (fun p => p.1 = c)).map (·.2)

theorem valsOf_cons (c : Coord) (p : Coord × α) (B : List (Coord × α)) :
    valsOf c (p :: B) = if p.1 = c then p.2 :: valsOf c B else valsOf c B := by
  unfold valsOf
  rw [List.filter_cons]
  by_cases h : p.1 = c
  · rw [if_pos (decide_eq_true h), if_pos h, List.map_cons]
  · rw [if_neg (by simpa using h), if_neg h]

theorem valsOf_map {β : Type} (f : α → β) (c : Coord) (B : List (Coord × α)) :
    valsOf c (B.map fun p => (p.1, f p.2)) = (valsOf c B).map f := by
  unfold valsOf
  rw [List.filter_map, List.map_map, List.map_map]
  rfl

/-- one write of `v` to an entry; `op` is the addition of the value type -/
def upd (op : α → α → α) (additive : Bool) (old : Option α) (v : α) : α :=
  match old with
  | some e => if additive then op e v else v
  | none => v

/-- what one dictionary entry becomes when the values `vs` are written to it in order -/
def specVal (op : α → α → α) (additive : Bool) (old : Option α) (vs : List α) : Option α :=
  vs.foldl (fun o v => some (upd op additive o v)) old

/-- Writing a batch entry by entry with `ins` (`Dict.ins` or `DictK.ins`) writes to the entry of
    `c` exactly the values given for `c`. -/
theorem foldl_ins_at (op : α → α → α) (additive : Bool)
    (ins : (Coord → Option α) → Coord × α → Coord → Option α)
    (hins : ∀ d p c, ins d p c = if c = p.1 then some (upd op additive (d c) p.2) else d c)
    (B : List (Coord × α)) (c : Coord) :
    ∀ d : Coord → Option α, B.foldl ins d c = specVal op additive (d c) (valsOf c B) := by
  induction B with
  | nil => intro d; rfl
  | cons p B ih =>
    intro d
    rw [List.foldl_cons, ih, valsOf_cons, hins]
    by_cases h : p.1 = c
    · rw [if_pos h, if_pos h.symm]; rfl
    · rw [if_neg h, if_neg (fun e : c = p.1 => h e.symm)]

end Entry

theorem vals_cons (c : Coord) (p : Coord × Rat) (batch : List (Coord × Rat)) :
    vals c (p :: batch) = if p.1 = c then p.2 :: vals c batch else vals c batch :=
  valsOf_cons c p batch

theorem addBatch_at (additive : Bool) (d : Dict) (batch : List (Coord × Rat)) (c : Coord) :
    Dict.addBatch additive d batch c = specVal (· + ·) additive (d c) (vals c batch) :=
  foldl_ins_at (· + ·) additive (Dict.ins additive)
    (fun d p c => by unfold Dict.ins; cases d c <;> rfl) batch c d

theorem addBatchK_at (additive : Bool) (d : DictK) (B : BatchK) (c : Coord) :
    DictK.addBatch additive d B c = specVal vadd additive (d c) (valsOf c B) :=
  foldl_ins_at vadd additive (DictK.ins additive)
    (fun d p c => by unfold DictK.ins; cases d c <;> rfl) B c d

theorem vals_eq_nil_iff (c : Coord) (batch : List (Coord × Rat)) :
    vals c batch = [] ↔ c ∉ batch.map (·.1) := by
  unfold vals
  rw [List.map_eq_nil_iff, List.filter_eq_nil_iff, List.mem_map]
  constructor
  · rintro h ⟨p, hp, rfl⟩
    exact h p hp (decide_eq_true rfl)
  · intro h p hp e
    exact h ⟨p, hp, of_decide_eq_true e⟩

theorem foldl_add_shift (a : Rat) (vs : List Rat) :
    vs.foldl (· + ·) a = a + vs.foldl (· + ·) 0 := by
  rw [← List.foldl_assoc (op := fun x y : Rat => x + y), Rat.add_zero]

theorem specVal_some_additive (e : Rat) (vs : List Rat) :
    specVal (· + ·) true (some e) vs = some (e + vs.foldl (· + ·) 0) :=
  (List.foldl_hom some fun _ _ => rfl).trans (congrArg some (foldl_add_shift e vs))

theorem specVal_overwrite (old : Option Rat) (vs : List Rat) :
    specVal (· + ·) false old vs = match vs.getLast? with
      | some l => some l
      | none => old := by
  induction vs generalizing old with
  | nil => rfl
  | cons v vs ih =>
    show specVal (· + ·) false (some (upd (· + ·) false old v)) vs = _
    rw [ih, List.getLast?_cons]
    cases old <;> cases vs.getLast? <;> rfl

/-- Writing the values of a batch one by one amounts to one write of their consolidated value
    (the sum, or the last one): what `add` does with `combine`. -/
theorem specVal_nonempty (additive : Bool) (old : Option Rat) (vs : List Rat) (h : vs ≠ []) :
    specVal (· + ·) additive old vs =
      some (upd (· + ·) additive old
        (if additive then vs.foldl (· + ·) 0 else vs.getLast?.getD 0)) := by
  cases vs with
  | nil => exact absurd rfl h
  | cons v vs =>
    cases additive with
    | false =>
      rw [specVal_overwrite, List.getLast?_cons]
      cases old <;> rfl
    | true =>
      show specVal (· + ·) true (some (upd (· + ·) true old v)) vs = _
      rw [specVal_some_additive, if_pos rfl, List.foldl_cons, foldl_add_shift (0 + v), Rat.zero_add]
      cases old with
      | none => rfl
      | some e => exact congrArg some (Rat.add_assoc e v _)

theorem get1_eq_none_iff (s : Store) (c : Coord) : get1 s c = none ↔ c ∉ s.map (·.1) := by
  induction s with
  | nil => exact iff_of_true rfl List.not_mem_nil
  | cons p s ih =>
    unfold get1
    rw [List.map_cons, List.mem_cons, not_or]
    by_cases h : p.1 = c
    · rw [if_pos h]; exact iff_of_false (fun e => nomatch e) (fun e => e.1 h.symm)
    · rw [if_neg h, ih]; exact (and_iff_right (fun e => h e.symm)).symm

theorem get1_isNone_iff (s : Store) (c : Coord) : (get1 s c).isNone = true ↔ c ∉ s.map (·.1) := by
  rw [Option.isNone_iff_eq_none, get1_eq_none_iff]

theorem get1_isSome_iff (s : Store) (c : Coord) : (get1 s c).isSome = true ↔ c ∈ s.map (·.1) := by
  rw [Option.isSome_iff_ne_none, Ne, get1_eq_none_iff, Classical.not_not]

theorem get1_of_mem (s : Store) (hn : (s.map (·.1)).Nodup) (p : Coord × Rat) (hp : p ∈ s) :
    get1 s p.1 = some p.2 := by
  induction s with
  | nil => exact nomatch hp
  | cons q s ih =>
    rw [List.map_cons, List.nodup_cons] at hn
    unfold get1
    rcases List.mem_cons.mp hp with rfl | hp
    · rw [if_pos rfl]
    · rw [if_neg (fun e : q.1 = p.1 => hn.1 (e ▸ List.mem_map_of_mem hp))]
      exact ih hn.2 hp

/-- a duplicate-free store is its key list paired with the looked-up values -/
theorem store_eq_map_keys (s : Store) (hn : (s.map (·.1)).Nodup) :
    s = (s.map (·.1)).map (fun c => (c, (get1 s c).getD 0)) := by
  rw [List.map_map]
  refine (List.map_id s).symm.trans (List.map_congr_left fun p hp => ?_)
  show p = (p.1, (get1 s p.1).getD 0)
  rw [get1_of_mem s hn p hp]
  rfl

theorem abs_upsert (additive : Bool) (s : Store) (u : Coord) (v : Rat) (c : Coord) :
    abs (upsert additive s u v) c =
      if c = u then some (upd (· + ·) additive (abs s u) v) else abs s c := by
  unfold abs
  induction s with
  | nil =>
    by_cases hc : c = u
    · subst hc; simp [upsert, get1, upd]
    · have : ¬ u = c := fun e => hc e.symm
      simp [upsert, get1, hc, this]
  | cons p s ih =>
    unfold upsert
    by_cases hp : p.1 = u
    · rw [if_pos hp]
      by_cases hc : c = u
      · subst hc; simp [get1, hp, upd]
      · have : ¬ p.1 = c := fun e => hc (e ▸ hp)
        simp [get1, this, hc]
    · rw [if_neg hp]
      by_cases hpc : p.1 = c
      · have hc : ¬ c = u := fun e => hp (hpc ▸ e)
        simp [get1, hpc, hc]
      · simp only [get1, if_neg hpc, ih]
        by_cases hc : c = u
        · subst hc; simp [hp]
        · simp [hc]

theorem abs_foldl_upsert (additive : Bool) (f : Coord → Rat) (us : List Coord) (hn : us.Nodup)
    (s : Store) (c : Coord) :
    abs (us.foldl (fun acc u => upsert additive acc u (f u)) s) c =
      if c ∈ us then some (upd (· + ·) additive (abs s c) (f c)) else abs s c := by
  induction us generalizing s with
  | nil => rfl
  | cons u us ih =>
    rw [List.nodup_cons] at hn
    rw [List.foldl_cons, ih hn.2, abs_upsert]
    by_cases hc : c = u
    · subst hc
      simp [hn.1]
    · simp [hc]

theorem keys_upsert (additive : Bool) (s : Store) (u : Coord) (v : Rat) :
    (upsert additive s u v).map (·.1) =
      if u ∈ s.map (·.1) then s.map (·.1) else s.map (·.1) ++ [u] := by
  induction s with
  | nil => rfl
  | cons p s ih =>
    unfold upsert
    by_cases hp : p.1 = u
    · subst hp
      rw [if_pos rfl]
      exact (if_pos List.mem_cons_self).symm
    · have hu : u ∈ p.1 :: s.map (·.1) ↔ u ∈ s.map (·.1) :=
        List.mem_cons.trans (or_iff_right (fun e => hp e.symm))
      rw [if_neg hp, List.map_cons, List.map_cons, ih]
      by_cases h : u ∈ s.map (·.1)
      · rw [if_pos h, if_pos (hu.mpr h)]
      · rw [if_neg h, if_neg (mt hu.mp h)]; rfl

theorem nodup_upsert (additive : Bool) (s : Store) (u : Coord) (v : Rat)
    (h : (s.map (·.1)).Nodup) : ((upsert additive s u v).map (·.1)).Nodup := by
  rw [keys_upsert]
  split
  · exact h
  · rename_i hu
    refine List.nodup_append.mpr ⟨h, List.pairwise_singleton _ u, ?_⟩
    intro a ha b hb e
    exact hu (List.mem_singleton.mp hb ▸ e ▸ ha)

/-- keys after a sequence of upserts: old keys, then the new ones in the given order -/
theorem keys_foldl_upsert (a : Bool) (f : Coord → Rat) (us : List Coord) (hu : us.Nodup) (s : Store) :
    (us.foldl (fun acc u => upsert a acc u (f u)) s).map (·.1) =
      s.map (·.1) ++ us.filter (fun u => decide (u ∉ s.map (·.1))) := by
  induction us generalizing s with
  | nil => exact (List.append_nil _).symm
  | cons u us ih =>
    rw [List.nodup_cons] at hu
    rw [List.foldl_cons, ih hu.2, keys_upsert, List.filter_cons]
    by_cases h : u ∈ s.map (·.1)
    · rw [if_pos h, if_neg (mt of_decide_eq_true (not_not_intro h))]
    · rw [if_neg h, if_pos (decide_eq_true h), List.append_assoc]
      refine congrArg (fun l => s.map (·.1) ++ u :: l) (List.filter_congr fun x hx => ?_)
      have hxu : x ∉ [u] := fun e => hu.1 (List.mem_singleton.mp e ▸ hx)
      exact decide_eq_decide.mpr (not_congr (List.mem_append.trans (or_iff_left hxu)))

theorem nodup_foldl_upsert (additive : Bool) (f : Coord → Rat) (us : List Coord) (s : Store)
    (h : (s.map (·.1)).Nodup) :
    ((us.foldl (fun acc u => upsert additive acc u (f u)) s).map (·.1)).Nodup := by
  induction us generalizing s with
  | nil => exact h
  | cons u us ih => exact ih _ (nodup_upsert additive s u (f u) h)

end PorepyVerif.C46
