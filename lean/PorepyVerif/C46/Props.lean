/-
C46 — property theorems (statements only depend on Model.lean; helper lemmas in Lemmas*.lean).

Property: after any sequence of additive or overwriting insertions (duplicates inside and across
batches), reading any inserted coordinate returns what a plain dictionary would hold, and reading
a coordinate never inserted raises.
-/
import PorepyVerif.C46.LemmasK
import PorepyVerif.C46.LemmasB

namespace PorepyVerif.C46

/-- `get` on the array is `get` on the dictionary (including the error case). -/
theorem get_refines (s : Store) (cs : List Coord) : get s cs = Dict.get (abs s) cs := rfl

/-- Headline theorem: for EVERY history of add/get calls, started from any store, the observable
    outputs of the sparse array equal those of the dictionary specification. -/
theorem sparse_refines_dict (ops : List Op) (s : Store) : run s ops = specRun (abs s) ops := by
  induction ops generalizing s with
  | nil => rfl
  | cons op ops ih =>
    cases op with
    | add b a =>
      simp only [run, specRun, step, specStep]
      rw [ih, add_refines]
    | get cs =>
      simp only [run, specRun, step, specStep]
      rw [ih, get_refines]

/-- … in particular from the empty array (what `SparseNdArray(dim)` constructs). -/
theorem sparse_refines_dict_from_empty (ops : List Op) : run [] ops = specRun (fun _ => none) ops :=
  sparse_refines_dict ops []

/-- Reading a coordinate that the dictionary does not hold is an error (`ValueError`). -/
theorem get_missing_errors (s : Store) (cs : List Coord) (c : Coord) (hc : c ∈ cs)
    (hmiss : abs s c = none) : get s cs = none :=
  mapM_eq_none hc hmiss

/-- Reading only stored coordinates succeeds and returns the stored values. -/
theorem get_present (s : Store) (cs : List Coord) (h : ∀ c ∈ cs, (abs s c).isSome) :
    get s cs = some (cs.map (fun c => (abs s c).getD 0)) :=
  Common.mapM_eq_pure _ fun c hc => by
    obtain ⟨v, e⟩ := Option.isSome_iff_exists.mp (h c hc)
    show abs s c = _
    rw [e]
    rfl

theorem get_singleton (s : Store) (c : Coord) (v : Rat) (h : abs s c = some v) :
    get s [c] = some [v] :=
  Common.mapM_eq_pure (fun _ => v) fun x hx => by rw [List.mem_singleton.mp hx]; exact h

/-- Storage invariant: coordinates are stored at most once.  `add` preserves it; that it holds in
    every state reachable from the empty array is `coords_nodup_reachable`. -/
theorem coords_nodup_step (s : Store) (batch : List (Coord × Rat)) (additive : Bool)
    (h : (s.map (·.1)).Nodup) : (((add s batch additive).1).map (·.1)).Nodup :=
  nodup_foldl_upsert additive _ _ s h

theorem coords_nodup_reachable (ops : List (List (Coord × Rat) × Bool)) :
    ((ops.foldl (fun s o => (add s o.1 o.2).1) []).map (·.1)).Nodup := by
  suffices ∀ s : Store, (s.map (·.1)).Nodup →
      ((ops.foldl (fun s o => (add s o.1 o.2).1) s).map (·.1)).Nodup from this [] (by simp)
  induction ops with
  | nil => intro s h; exact h
  | cons o ops ih => intro s h; exact ih _ (coords_nodup_step s o.1 o.2 h)

/-! ## Order of `np.unique`, the vector returned by `add`, storage order -/

/-- `lexLe` (column order of `np.unique(axis=1)`) is a total order on coordinates of any lengths:
    reflexive, total, transitive, antisymmetric. -/
theorem lexLe_total_order (a b c : Coord) :
    lexLe a a = true ∧ (lexLe a b = true ∨ lexLe b a = true) ∧
    (lexLe a b = true → lexLe b c = true → lexLe a c = true) ∧
    (lexLe a b = true → lexLe b a = true → a = b) :=
  ⟨lexLe_refl a, lexLe_total a b, lexLe_trans a b c, lexLe_antisymm a b⟩

/-- `isort` returns a sorted permutation of its input. -/
theorem isort_sorted_perm (l : List Coord) :
    (isort l).Pairwise (fun a b => lexLe a b = true) ∧ (isort l).Perm l :=
  ⟨sortedLe_isort l, perm_isort l⟩

/-- `uniqueCoords` (= `np.unique(coord_array, axis=1)`): strictly increasing, and exactly the
    coordinates of the batch. -/
theorem uniqueCoords_spec (keys : List Coord) :
    (uniqueCoords keys).Pairwise (fun a b => lexLe a b = true ∧ a ≠ b) ∧
    ∀ c, c ∈ uniqueCoords keys ↔ c ∈ keys :=
  ⟨sortedLt_uniqueCoords keys, fun c => mem_uniqueCoords c keys⟩

/-- The coordinates appended by `add`: strictly increasing, exactly the batch coordinates that
    were not stored before. -/
theorem freshCoords_spec (s : Store) (keys : List Coord) :
    (freshCoords s keys).Pairwise (fun a b => lexLe a b = true ∧ a ≠ b) ∧
    ∀ c, c ∈ freshCoords s keys ↔ (c ∈ keys ∧ abs s c = none) :=
  ⟨sortedLt_freshCoords s keys, mem_freshCoords s keys⟩

/-- Specification of the vector returned by `add` (`unique_2_all[~is_mem]`).  With `keys` the
    coordinates of the batch in the order given:
    (a) every returned position is a valid batch position, the coordinate there was not stored
        before, and it is the FIRST occurrence of that coordinate in the batch;
    (b) every coordinate that was new is listed;
    (c) the listed coordinates are strictly increasing lexicographically (so: one position per new
        distinct coordinate, in lexicographic order of the coordinates);
    (d) the positions are pairwise distinct. -/
theorem add_ret_spec (s : Store) (batch : List (Coord × Rat)) (additive : Bool) :
    (∀ i ∈ (add s batch additive).2, ∃ c, (batch.map (·.1))[i]? = some c ∧ abs s c = none ∧
        ∀ j, j < i → (batch.map (·.1))[j]? ≠ some c) ∧
    (∀ c ∈ batch.map (·.1), abs s c = none →
        ∃ i ∈ (add s batch additive).2, (batch.map (·.1))[i]? = some c) ∧
    (((add s batch additive).2).map (fun i => (batch.map (·.1)).getD i [])).Pairwise
        (fun a b => lexLe a b = true ∧ a ≠ b) ∧
    ((add s batch additive).2).Nodup := by
  have hc : (((add s batch additive).2).map (fun i => (batch.map (·.1)).getD i [])).Pairwise
      (fun a b => lexLe a b = true ∧ a ≠ b) := by
    rw [ret_map_getD]; exact sortedLt_freshCoords s _
  refine ⟨?_, ?_, hc, ?_⟩
  · intro i hi
    rw [add_ret] at hi
    rcases List.mem_map.mp hi with ⟨u, hu, rfl⟩
    have hm := (mem_freshCoords s _ u).mp hu
    exact ⟨u, (idxOf_first _ u hm.1).1, hm.2, (idxOf_first _ u hm.1).2⟩
  · intro c hc hn
    refine ⟨(batch.map (·.1)).idxOf c, ?_, (idxOf_first _ c hc).1⟩
    rw [add_ret]
    exact List.mem_map.mpr ⟨c, (mem_freshCoords s _ c).mpr ⟨hc, hn⟩, rfl⟩
  · rw [List.pairwise_map] at hc
    exact List.Pairwise.imp (fun h e => h.2 (by rw [e])) hc

/-- Length of the returned vector = number of new distinct coordinates: it equals the length of
    ANY duplicate-free enumeration of the batch coordinates that were not stored before. -/
theorem add_ret_length (s : Store) (batch : List (Coord × Rat)) (additive : Bool) (l : List Coord)
    (hl : l.Nodup) (hm : ∀ c, c ∈ l ↔ (c ∈ batch.map (·.1) ∧ abs s c = none)) :
    ((add s batch additive).2).length = l.length := by
  rw [add_ret, List.length_map]
  apply List.Perm.length_eq
  rw [List.perm_ext_iff_of_nodup (sortedLt_freshCoords s _).nodup hl]
  intro c
  rw [mem_freshCoords, hm]

/-- The specification (a)–(c) of `add_ret_spec` determines the returned vector uniquely. -/
theorem add_ret_unique (s : Store) (batch : List (Coord × Rat)) (additive : Bool) (r : List Nat)
    (ha : ∀ i ∈ r, ∃ c, (batch.map (·.1))[i]? = some c ∧ abs s c = none ∧
        ∀ j, j < i → (batch.map (·.1))[j]? ≠ some c)
    (hb : ∀ c ∈ batch.map (·.1), abs s c = none → ∃ i ∈ r, (batch.map (·.1))[i]? = some c)
    (hc : (r.map (fun i => (batch.map (·.1)).getD i [])).Pairwise
        (fun a b => lexLe a b = true ∧ a ≠ b)) :
    r = (add s batch additive).2 := by
  have hfresh : freshCoords s (batch.map (·.1)) = r.map (fun i => (batch.map (·.1)).getD i []) := by
    refine freshCoords_eq_of_sortedLt s _ _ hc fun x => ?_
    rw [List.mem_map]
    constructor
    · rintro ⟨i, hi, rfl⟩
      rcases ha i hi with ⟨c, h1, h2, _⟩
      rw [getD_of_getElem? h1]
      exact ⟨List.mem_of_getElem? h1, h2⟩
    · rintro ⟨hx, hn⟩
      rcases hb x hx hn with ⟨i, hi, h1⟩
      exact ⟨i, hi, getD_of_getElem? h1⟩
  rw [add_ret, hfresh, List.map_map]
  refine ((List.map_congr_left fun i hi => ?_).trans (List.map_id r)).symm
  rcases ha i hi with ⟨c, h1, _, h3⟩
  show (batch.map (·.1)).idxOf ((batch.map (·.1)).getD i []) = i
  rw [getD_of_getElem? h1]
  exact idxOf_eq_of_first h1 h3

/-- Storage order after `add`: the old storage in its old order with the values updated in
    place, followed by the new distinct coordinates in lexicographic order (`freshCoords`, see
    `freshCoords_spec`) with their consolidated values. -/
theorem add_storage_order (s : Store) (batch : List (Coord × Rat)) (additive : Bool)
    (h : (s.map (·.1)).Nodup) :
    (add s batch additive).1 =
      s.map (fun p => (p.1, updated additive batch p)) ++
        (freshCoords s (batch.map (·.1))).map (fun u => (u, combine additive batch u)) :=
  add_storage_eq s batch additive h

/-- "Permutation vector applied before the coordinates and data were added to storage": the
    coordinates appended to the storage are the batch coordinates at the returned positions, in
    the order of the returned vector; the values stored with them are the consolidated values. -/
theorem add_ret_is_storage_permutation (s : Store) (batch : List (Coord × Rat)) (additive : Bool)
    (h : (s.map (·.1)).Nodup) :
    (add s batch additive).1 =
      s.map (fun p => (p.1, updated additive batch p)) ++
        ((add s batch additive).2).map (fun i =>
          ((batch.map (·.1)).getD i [], combine additive batch ((batch.map (·.1)).getD i []))) := by
  rw [add_storage_eq s batch additive h, ← ret_map_getD s batch additive, List.map_map]
  rfl

/-- … in every reachable state (the duplicate-freeness hypothesis is an invariant). -/
theorem add_storage_order_reachable (ops : List (List (Coord × Rat) × Bool))
    (batch : List (Coord × Rat)) (additive : Bool) :
    let s := ops.foldl (fun s o => (add s o.1 o.2).1) []
    (add s batch additive).1 =
      s.map (fun p => (p.1, updated additive batch p)) ++
        (freshCoords s (batch.map (·.1))).map (fun u => (u, combine additive batch u)) :=
  add_storage_eq _ batch additive (coords_nodup_reachable ops)

/-! ### the docstring of `add`, sentence by sentence -/

/-- "If False, existing values will be overwritten by the new value (if there are duplicates in
    new coordinates the last of this coordinates are used)": the value read afterwards is the one
    given at the LAST occurrence of the coordinate in the batch, whatever was stored before. -/
theorem add_overwrite_last (s : Store) (pre post : List (Coord × Rat)) (c : Coord) (v : Rat)
    (h : c ∉ post.map (·.1)) :
    get (add s (pre ++ (c, v) :: post) false).1 [c] = some [v] := by
  have hpost : vals c post = [] := (vals_eq_nil_iff c post).mpr h
  have hv : vals c (pre ++ (c, v) :: post) = vals c pre ++ [v] := by
    unfold vals at hpost ⊢
    rw [List.filter_append, List.filter_cons, if_pos (decide_eq_true rfl), List.map_append,
      List.map_cons, hpost]
  apply get_singleton
  rw [abs_add_at, hv, specVal_overwrite, List.getLast?_concat]

/-- "If True, values associated with duplicate coordinates (either between new and existing
    coordinates, or within the new coordinates) are added": the value read afterwards is the
    stored value (0 if the coordinate was new) plus the sum of ALL values given for it. -/
theorem add_additive_sum (s : Store) (batch : List (Coord × Rat)) (c : Coord)
    (h : c ∈ batch.map (·.1)) :
    get (add s batch true).1 [c] = some [(abs s c).getD 0 + (vals c batch).sum] := by
  apply get_singleton
  rw [abs_add, if_pos h, List.sum_eq_foldl]
  cases abs s c with
  | none => exact congrArg some (Rat.zero_add _).symm
  | some e => rfl

/-- Coordinates not mentioned in the batch keep their value (or stay absent). -/
theorem add_untouched (s : Store) (batch : List (Coord × Rat)) (additive : Bool) (c : Coord)
    (h : c ∉ batch.map (·.1)) : abs (add s batch additive).1 c = abs s c := by
  rw [abs_add_at, (vals_eq_nil_iff c batch).mpr h]
  rfl

/-! ### `value_dim = k`: what the driver executes (`addK`, `getK` on `k` value rows) -/

/-- The invariant "all rows hold the same coordinates" and the number of rows are preserved. -/
theorem addK_preserves (st : StoreK) (B : BatchK) (additive : Bool) (h : SameKeys st) :
    SameKeys (addK st B additive).1 ∧ (addK st B additive).1.length = st.length := by
  rw [addK_eq]
  rcases h with ⟨ks, h⟩
  exact ⟨⟨_, sameKeys_addRows additive B ks 0 st h⟩, length_addRows additive B 0 st⟩

/-- One `add` on `k` rows commutes with the abstraction to a dictionary of value columns. -/
theorem addK_refines (st : StoreK) (B : BatchK) (additive : Bool)
    (hB : ∀ p ∈ B, p.2.length = st.length) (hk : SameKeys st) :
    absK (addK st B additive).1 = DictK.addBatch additive (absK st) B := by
  funext c
  rw [addK_eq, addBatchK_at]
  exact absK_addRows additive c st B hB hk

/-- `get` on `k` rows is the dictionary read, in the implementation's layout (`k` rows of `n`
    values), including the error case. -/
theorem getK_refines (st : StoreK) (cs : List Coord) :
    getK st cs = DictK.get st.length (absK st) cs := getK_eq st cs

/-- Headline theorem for `value_dim = k`: for EVERY history of well-formed add/get calls, started
    from any `k`-row store whose rows hold the same coordinates, the observable outputs equal
    those of a dictionary with `List Rat` values. -/
theorem sparseK_refines_dictK (ops : List OpK) (st : StoreK) (hk : SameKeys st)
    (hw : ∀ op ∈ ops, op.WF st.length) :
    runK st ops = specRunK st.length (absK st) ops := by
  induction ops generalizing st with
  | nil => rfl
  | cons op ops ih =>
    have hop := hw op List.mem_cons_self
    have hrest : ∀ o ∈ ops, o.WF st.length := fun o ho => hw o (List.mem_cons_of_mem _ ho)
    cases op with
    | add B a =>
      have hp := addK_preserves st B a hk
      simp only [runK, specRunK, stepK, specStepK]
      rw [ih _ hp.1 (by rw [hp.2]; exact hrest), addK_refines st B a hop hk, hp.2]
    | get cs =>
      simp only [runK, specRunK, stepK, specStepK]
      rw [ih _ hk hrest, getK_refines]

/-- … in particular from the empty array `SparseNdArray(dim, value_dim = k)`, `k ≥ 1`. -/
theorem sparseK_refines_dictK_from_empty (k : Nat) (hk : 0 < k) (ops : List OpK)
    (hw : ∀ op ∈ ops, op.WF k) :
    runK (List.replicate k []) ops = specRunK k (fun _ => none) ops := by
  have hs : SameKeys (List.replicate k ([] : Store)) :=
    ⟨[], fun s hs => by rw [(List.mem_replicate.mp hs).2]; rfl⟩
  have ha : absK (List.replicate k ([] : Store)) = fun _ => none := by
    funext c
    cases k with
    | zero => exact absurd hk (Nat.lt_irrefl 0)
    | succ k => rw [List.replicate_succ, absK_cons]; rfl
  have := sparseK_refines_dictK ops (List.replicate k []) hs (by rw [List.length_replicate]; exact hw)
  rwa [ha, List.length_replicate] at this

/-- The vector returned by `add` for `value_dim = k` depends on the coordinates only: it is the
    vector specified by `add_ret_spec` for the coordinate list of the batch. -/
theorem addK_ret (s : Store) (st : StoreK) (B : BatchK) (additive : Bool) :
    (addK (s :: st) B additive).2 =
      (freshCoords s (B.map (·.1))).map (fun u => (B.map (·.1)).idxOf u) := by
  rw [addK_eq]
  show (add s (rowBatch 0 B) additive).2 = _
  rw [add_ret, keys_rowBatch]

/-! ## The property text clause by clause, neighbouring entry points -/

/-- Clause "reading a coordinate never inserted raises an error", for EVERY history: if `c`
    occurs in no batch of the `add` calls made so far, any `get` that asks for `c` raises. -/
theorem never_inserted_raises (adds : List (List (Coord × Rat) × Bool)) (cs : List Coord) (c : Coord)
    (hc : c ∈ cs) (h : ¬ insertedBy adds c) : get (reach adds) cs = none := by
  apply get_missing_errors _ cs c hc
  unfold abs
  rw [get1_eq_none_iff, mem_keys_reach]
  exact h

/-- Clause "reading any inserted coordinate returns the value a plain dictionary would hold under
    the same operations", for EVERY history: if every requested coordinate occurs in some earlier
    batch, `get` succeeds and returns the entries of the dictionary written by the same calls. -/
theorem inserted_reads_dict (adds : List (List (Coord × Rat) × Bool)) (cs : List Coord)
    (h : ∀ c ∈ cs, insertedBy adds c) :
    get (reach adds) cs = some (cs.map (fun c =>
      ((adds.foldl (fun d o => Dict.addBatch o.2 d o.1) (fun _ => none)) c).getD 0)) ∧
    ∀ c ∈ cs, ((adds.foldl (fun d o => Dict.addBatch o.2 d o.1) (fun _ => none)) c).isSome := by
  have ha : abs (reach adds) = adds.foldl (fun d o => Dict.addBatch o.2 d o.1) (fun _ => none) :=
    abs_foldl_add adds []
  have hs : ∀ c ∈ cs, (abs (reach adds) c).isSome := fun c hc =>
    (get1_isSome_iff _ c).mpr ((mem_keys_reach adds c).mpr (h c hc))
  rw [← ha]
  exact ⟨get_present _ cs hs, hs⟩

/-- Converse bookkeeping: a coordinate is stored after a history iff some `add` inserted it. -/
theorem stored_iff_inserted (adds : List (List (Coord × Rat) × Bool)) (c : Coord) :
    (abs (reach adds) c).isSome = true ↔ insertedBy adds c := by
  unfold abs
  rw [get1_isSome_iff, mem_keys_reach]

/-- `intersect_sets` matches columns by a proximity query with tolerance 1e-10; on integer
    columns of equal length, "squared distance below 1" already means equality, so the
    tolerance match is the exact match used by the model (`get1`, `upsert`). -/
theorem int_proximity_is_equality (a b : Coord) (h : a.length = b.length) :
    sqDist a b < 1 ↔ a = b := sqDist_lt_one a b h

/-- What `AdaptiveInterpolationTable._fill_values` relies on: for a batch of strictly increasing
    (hence distinct) coordinates none of which is stored, the returned vector is the identity
    `0, 1, …, n-1` (no permutation is applied), so `_pt` may be extended by `coord` as is. -/
theorem add_ret_sorted_fresh (s : Store) (batch : List (Coord × Rat)) (additive : Bool)
    (hs : (batch.map (·.1)).Pairwise (fun a b => lexLe a b = true ∧ a ≠ b))
    (hn : ∀ c ∈ batch.map (·.1), abs s c = none) :
    (add s batch additive).2 = List.range batch.length := by
  rw [add_ret, freshCoords_eq_self s _ hs hn, map_idxOf_self _ (SortedLt.nodup hs), List.length_map]

/-- `AdaptiveInterpolationTable.assign_values(val, coord, indices)` (the table's entry point to
    `SparseNdArray.add`): if `_pt` was aligned with the stored indices (`_pt[:, j]` is the grid
    point `g` of `_coords[:, j]`) and every given coordinate column is the grid point of its
    index, then afterwards
    (1) the table holds the dictionary overwritten with the batch,
    (2) `_pt` is still aligned — because `coord` is permuted by the vector that `add` returns —,
    (3) all value rows still share their coordinates. -/
theorem assignValues_spec (g : Coord → List Rat) (s : Store) (st : StoreK) (pts : List (List Rat))
    (B : BatchK) (hB : ∀ p ∈ B, p.2.length = (s :: st).length) (hk : SameKeys (s :: st))
    (hA : Aligned g (s :: st, pts)) :
    absK (assignValues (s :: st, pts) B (B.map (fun p => g p.1))).1 =
        DictK.addBatch false (absK (s :: st)) B ∧
    Aligned g (assignValues (s :: st, pts) B (B.map (fun p => g p.1))) ∧
    SameKeys (assignValues (s :: st, pts) B (B.map (fun p => g p.1))).1 := by
  refine ⟨addK_refines (s :: st) B false hB hk, ?_, (addK_preserves (s :: st) B false hk).1⟩
  have hA' : pts = (s.map (·.1)).map g := hA
  have hP : B.map (fun p => g p.1) = ((rowBatch 0 B).map (·.1)).map g := by
    rw [keys_rowBatch, List.map_map]; rfl
  unfold Aligned assignValues
  rw [addK_eq, hP]
  show pts ++ ((add s (rowBatch 0 B) false).2).map _ = (((add s (rowBatch 0 B) false).1).map (·.1)).map g
  rw [ret_map_getD_map, keys_add, List.map_append, ← hA']

/-! ### non-vacuity: concrete histories (the replay of finding F15 among them) -/

/-- F15 history: add [2]→1, add [0]→5, add {[0]→10,[2]→20}, get [0],[2]  gives [10,20]. -/
example :
    run [] [.add [([2], 1)] false, .add [([0], 5)] false, .add [([0], 10), ([2], 20)] false,
            .get [[0], [2]]] = [none, none, none, some (some [10, 20])] := by decide +kernel

example : run [] [.add [([1, 2], 3), ([1, 2], 4)] true, .get [[1, 2]], .get [[0, 0]]]
    = [none, some (some [7]), some none] := by decide +kernel

/-! ### non-vacuity: order, returned vector, storage order, `value_dim = k` -/

example : lexLe [1, -5] [1, 2] = true ∧ lexLe [1, 2] [1, -5] = false ∧ lexLe [-1000000] [1000000] = true := by
  decide

example : isort [[2, 1], [0, 5], [2, -1], [0, 5]] = [[0, 5], [0, 5], [2, -1], [2, 1]] := by decide +kernel

example : uniqueCoords [[2, 1], [0, 5], [2, -1], [0, 5]] = [[0, 5], [2, -1], [2, 1]] := by decide +kernel

/-- stored: (0,5); batch: (2,1) (0,5) (2,1) (-1,7) (-1,7).  New are (-1,7) < (2,1); their first
    occurrences are at positions 3 and 0. -/
example : (add [([0, 5], 1)] [([2, 1], 1), ([0, 5], 2), ([2, 1], 3), ([-1, 7], 4), ([-1, 7], 5)] false).2
    = [3, 0] := by decide +kernel

/-- returned vector [3, 0] and appended storage (-1,7), (2,1) = batch[3], batch[0] -/
example : (add [([0, 5], 1)] [([2, 1], 1), ([0, 5], 2), ([2, 1], 3), ([-1, 7], 4), ([-1, 7], 5)] false).1
    = [([0, 5], 2), ([-1, 7], 5), ([2, 1], 3)] := by decide +kernel

/-- the hypotheses of `add_ret_length` are satisfiable for every input -/
example (s : Store) (batch : List (Coord × Rat)) :
    ∃ l : List Coord, l.Nodup ∧ ∀ c, c ∈ l ↔ (c ∈ batch.map (·.1) ∧ abs s c = none) :=
  ⟨freshCoords s (batch.map (·.1)), (sortedLt_freshCoords s _).nodup, mem_freshCoords s _⟩

/-- the hypotheses of `add_ret_unique` are satisfiable for every input (by the returned vector) -/
example (s : Store) (batch : List (Coord × Rat)) (a : Bool) :
    ∃ r : List Nat,
      (∀ i ∈ r, ∃ c, (batch.map (·.1))[i]? = some c ∧ abs s c = none ∧
        ∀ j, j < i → (batch.map (·.1))[j]? ≠ some c) ∧
      (∀ c ∈ batch.map (·.1), abs s c = none → ∃ i ∈ r, (batch.map (·.1))[i]? = some c) ∧
      (r.map (fun i => (batch.map (·.1)).getD i [])).Pairwise (fun a b => lexLe a b = true ∧ a ≠ b) :=
  ⟨_, (add_ret_spec s batch a).1, (add_ret_spec s batch a).2.1, (add_ret_spec s batch a).2.2.1⟩

/-- storage order: old entries keep their place (values updated), new ones follow sorted -/
example : (add [([2], 1), ([0], 5)] [([0], 10), ([3], 7), ([2], 20), ([1], 8), ([3], 9)] false).1
    = [([2], 20), ([0], 10), ([1], 8), ([3], 9)] := by decide +kernel

example : (([([2], (1 : Rat)), ([0], 5)] : Store).map (·.1)).Nodup := by decide

example : get (add [([1], 7)] ([([1], 2)] ++ ([1], 3) :: [([0], 4)]) false).1 [[1]] = some [3] :=
  add_overwrite_last _ _ _ _ _ (by decide)

example : get (add [([1], 7)] [([1], 2), ([0], 4), ([1], 3)] true).1 [[1]] = some [12] := by
  decide +kernel

example : get (add [] [([1], 2), ([0], 4), ([1], 3)] true).1 [[1]] = some [5] := by
  decide +kernel

example : abs (add [([1], 7)] [([0], 4)] true).1 [1] = abs [([1], 7)] [1] :=
  add_untouched _ _ _ _ (by decide)

/-- value_dim = 2: additive batch with an in-batch duplicate, overwrite of one coordinate, reads
    in both orders, read of a missing coordinate -/
example :
    runK (List.replicate 2 [])
      [.add [([1], [1, 10]), ([0], [2, 20]), ([1], [3, 30])] true, .get [[1], [0]],
       .add [([0], [5, 50])] false, .get [[0], [1]], .get [[7]]]
    = [none, some (some [[4, 2], [40, 20]]), none, some (some [[5, 4], [50, 40]]), some none] := by
  decide +kernel

/-- … and the hypotheses of the headline theorem hold for that history -/
example :
    runK (List.replicate 2 [])
      [.add [([1], [1, 10]), ([0], [2, 20]), ([1], [3, 30])] true, .get [[1], [0]]]
    = specRunK 2 (fun _ => none)
      [.add [([1], [1, 10]), ([0], [2, 20]), ([1], [3, 30])] true, .get [[1], [0]]] :=
  sparseK_refines_dictK_from_empty 2 (by decide) _ (by
    intro op h
    rcases List.mem_cons.mp h with rfl | h
    · unfold OpK.WF
      decide
    · obtain rfl := List.mem_singleton.mp h
      trivial)

example : SameKeys [[([1], 2), ([0], 3)], [([1], 5), ([0], 7)]] := ⟨[[1], [0]], by decide⟩

example : (addK [[([0, 5], 1)], [([0, 5], 2)]]
    [([2, 1], [1, 1]), ([0, 5], [2, 2]), ([2, 1], [3, 3]), ([-1, 7], [4, 4])] false).2 = [3, 0] := by
  decide +kernel

/-! ### non-vacuity: histories, proximity, the adaptive table -/

example : get (reach [([([1], 2)], false), ([([0], 3), ([1], 4)], true)]) [[1], [5]] = none :=
  never_inserted_raises _ _ [5] (by decide) (by unfold insertedBy; decide)

example : get (reach [([([1], 2)], false), ([([0], 3), ([1], 4)], true)]) [[1], [0], [1]]
    = some [6, 3, 6] := by decide +kernel

/-- the hypothesis of `inserted_reads_dict` holds for that history and inquiry -/
example : ∀ c ∈ [[1], [0], [1]],
    insertedBy [([([1], 2)], false), ([([0], 3), ([1], (4 : Rat))], true)] c := by
  unfold insertedBy
  decide

example : sqDist [1000000, -1] [999999, -1] = 1 ∧ sqDist [1000000, -1] [1000000, -1] = 0 := by decide

example : (add [([5], 1)] [([0], 1), ([2], 2), ([7], 3)] false).2 = List.range 3 :=
  add_ret_sorted_fresh _ _ _ (by decide) (by decide)

/-- adaptive table with base point 0, resolution 1/2: index 2 is stored with `_pt` column 1;
    assigning indices 3, 0, 3 with their grid points keeps `_pt` aligned (columns 0 and 3/2 are
    appended in the order of the sorted new indices) -/
example : Aligned (gridPoint [0] [1 / 2]) ([[([2], 5)]], [[1]]) := by
  unfold Aligned; decide +kernel

example : assignValues ([[([2], 5)]], [[1]]) [([3], [7]), ([0], [8]), ([3], [9])]
      ([([3], [7]), ([0], [8]), ([3], [(9 : Rat)])].map (fun p => gridPoint [0] [1 / 2] p.1))
    = ([[([2], 5), ([0], 8), ([3], 9)]], [[1], [0], [3 / 2]]) := by decide +kernel

end PorepyVerif.C46
