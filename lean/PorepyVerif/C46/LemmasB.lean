/-
C46 — integer proximity = equality; which coordinates a history of `add` calls has inserted and what it
has stored for them.
-/
import PorepyVerif.C46.LemmasOrder

namespace PorepyVerif.C46

theorem int_mul_self_nonneg (x : Int) : 0 ≤ x * x := by
  rcases Int.le_total 0 x with h | h
  · exact Int.mul_nonneg h h
  · exact Int.neg_mul_neg x x ▸ Int.mul_nonneg (Int.neg_nonneg_of_nonpos h) (Int.neg_nonneg_of_nonpos h)

theorem sqDist_nonneg (a b : Coord) : 0 ≤ sqDist a b := by
  induction a generalizing b with
  | nil => exact Int.le_refl 0
  | cons a as ih =>
    cases b with
    | nil => exact Int.le_refl 0
    | cons b bs => exact Int.add_nonneg (int_mul_self_nonneg (a - b)) (ih bs)

theorem sqDist_lt_one (a b : Coord) (h : a.length = b.length) : sqDist a b < 1 ↔ a = b := by
  induction a generalizing b with
  | nil =>
    cases b with
    | nil => exact iff_of_true Int.zero_lt_one rfl
    | cons _ _ => exact nomatch h
  | cons a as ih =>
    cases b with
    | nil => exact nomatch h
    | cons b bs =>
      have h1 := sqDist_nonneg as bs
      have h2 := int_mul_self_nonneg (a - b)
      rw [sqDist, List.cons.injEq, ← ih bs (Nat.succ.inj h)]
      constructor
      · intro hlt
        have hm : (a - b) * (a - b) < 0 + 1 :=
          Int.lt_of_le_of_lt (Int.le_add_of_nonneg_right h1) hlt
        have hz : (a - b) * (a - b) = 0 := Int.le_antisymm (Int.lt_add_one_iff.mp hm) h2
        exact ⟨Int.eq_of_sub_eq_zero ((Int.mul_eq_zero.mp hz).elim id id),
          Int.lt_of_le_of_lt (Int.le_add_of_nonneg_left h2) hlt⟩
      · rintro ⟨rfl, e⟩
        rw [Int.sub_self, Int.mul_zero, Int.zero_add]
        exact e

theorem mem_keys_add (s : Store) (batch : List (Coord × Rat)) (a : Bool) (c : Coord) :
    c ∈ ((add s batch a).1).map (·.1) ↔ c ∈ s.map (·.1) ∨ c ∈ batch.map (·.1) := by
  rw [keys_add, List.mem_append, mem_freshCoords, show abs s c = get1 s c from rfl, get1_eq_none_iff]
  by_cases h : c ∈ s.map (·.1)
  · exact iff_of_true (Or.inl h) (Or.inl h)
  · exact or_congr_right (and_iff_left h)

theorem insertedBy_cons (o : List (Coord × Rat) × Bool) (adds : List (List (Coord × Rat) × Bool))
    (c : Coord) : insertedBy (o :: adds) c ↔ c ∈ o.1.map (·.1) ∨ insertedBy adds c := by
  unfold insertedBy
  simp only [List.mem_cons, exists_eq_or_imp]

theorem mem_keys_foldl_add (adds : List (List (Coord × Rat) × Bool)) (c : Coord) : ∀ (s : Store),
    c ∈ (adds.foldl (fun s o => (add s o.1 o.2).1) s).map (·.1) ↔
      c ∈ s.map (·.1) ∨ insertedBy adds c := by
  induction adds with
  | nil => exact fun s => (or_iff_left (fun ⟨_, h, _⟩ => nomatch h)).symm
  | cons o adds ih =>
    intro s
    rw [List.foldl_cons, ih, mem_keys_add, insertedBy_cons, or_assoc]

theorem mem_keys_reach (adds : List (List (Coord × Rat) × Bool)) (c : Coord) :
    c ∈ (reach adds).map (·.1) ↔ insertedBy adds c :=
  (mem_keys_foldl_add adds c []).trans (or_iff_right List.not_mem_nil)

theorem abs_foldl_add (adds : List (List (Coord × Rat) × Bool)) : ∀ (s : Store),
    abs (adds.foldl (fun s o => (add s o.1 o.2).1) s)
      = adds.foldl (fun d o => Dict.addBatch o.2 d o.1) (abs s) :=
  fun _ => (List.foldl_hom abs fun s o => (add_refines s o.1 o.2).symm).symm

end PorepyVerif.C46
