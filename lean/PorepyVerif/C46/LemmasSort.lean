/-
C46 — the order `np.unique` sorts by and the sort itself: `lexLe` is the lexicographic order of lists,
`isort` an insertion sort for it, `uniqueCoords` lists the members of its argument in strictly increasing
order, and a strictly increasing list is determined by its members.
-/
import PorepyVerif.C46.Model
import PorepyVerif.Common.InsSort
import PorepyVerif.Common.List

namespace PorepyVerif.C46

theorem lexLe_cons_cons (a b : Int) (as bs : Coord) :
    lexLe (a :: as) (b :: bs) = true ↔ a < b ∨ a = b ∧ lexLe as bs = true := by
  show (if a < b then true else if b < a then false else lexLe as bs) = true ↔ _
  by_cases hab : a < b
  · rw [if_pos hab]; exact iff_of_true rfl (Or.inl hab)
  · rw [if_neg hab]
    by_cases hba : b < a
    · rw [if_pos hba]
      exact iff_of_false Bool.noConfusion (fun h => h.elim hab (fun h => Int.lt_irrefl a (h.1 ▸ hba)))
    · rw [if_neg hba]
      exact ⟨fun h => Or.inr ⟨Int.le_antisymm (Int.not_lt.mp hba) (Int.not_lt.mp hab), h⟩,
        fun h => h.elim (fun h => absurd h hab) (fun h => h.2)⟩

/-- `lexLe` decides the lexicographic order that core Lean puts on lists of integers; that it is a total
    order is core's theorem. -/
theorem lexLe_iff_le (a b : Coord) : lexLe a b = true ↔ a ≤ b := by
  induction a generalizing b with
  | nil => exact iff_of_true rfl (List.nil_le b)
  | cons a as ih =>
    cases b with
    | nil => exact iff_of_false Bool.noConfusion fun h => h (List.nil_lt_cons a as)
    | cons b bs => rw [lexLe_cons_cons, List.cons_le_cons_iff, ih]

theorem lexLe_refl (a : Coord) : lexLe a a = true := (lexLe_iff_le a a).mpr (List.le_refl a)

theorem lexLe_total (a b : Coord) : lexLe a b = true ∨ lexLe b a = true := by
  rw [lexLe_iff_le, lexLe_iff_le]
  exact List.le_total a b

theorem lexLe_trans (a b c : Coord) (h1 : lexLe a b = true) (h2 : lexLe b c = true) :
    lexLe a c = true :=
  (lexLe_iff_le a c).mpr (List.le_trans ((lexLe_iff_le a b).mp h1) ((lexLe_iff_le b c).mp h2))

theorem lexLe_antisymm (a b : Coord) (h1 : lexLe a b = true) (h2 : lexLe b a = true) : a = b :=
  List.le_antisymm ((lexLe_iff_le a b).mp h1) ((lexLe_iff_le b a).mp h2)

/-- sorted (weakly increasing) w.r.t. `lexLe` -/
def SortedLe (l : List Coord) : Prop := l.Pairwise (fun a b => lexLe a b = true)

/-- strictly increasing w.r.t. `lexLe` -/
def SortedLt (l : List Coord) : Prop := l.Pairwise (fun a b => lexLe a b = true ∧ a ≠ b)

theorem insSort : Common.InsSort (fun a b => lexLe a b = true) insertSorted isort :=
  .of_ite (lexLe_trans _ _ _) (fun h => (lexLe_total _ _).resolve_left h) (fun _ => rfl) (fun _ _ _ => rfl) rfl
    (fun _ _ => rfl)

theorem sortedLe_isort (l : List Coord) : SortedLe (isort l) := insSort.sorted l

theorem perm_isort (l : List Coord) : (isort l).Perm l := insSort.perm l

theorem mem_insertSorted (c a : Coord) (l : List Coord) : c ∈ insertSorted a l ↔ c = a ∨ c ∈ l :=
  (insSort.ins_perm a l).mem_iff.trans List.mem_cons

theorem mem_isort (c : Coord) (l : List Coord) : c ∈ isort l ↔ c ∈ l := (perm_isort l).mem_iff

theorem mem_dedup (c : Coord) (l : List Coord) : c ∈ dedup l ↔ c ∈ l := by
  induction l with
  | nil => exact Iff.rfl
  | cons a l ih =>
    unfold dedup
    by_cases h : a ∈ l
    · rw [if_pos h, ih, List.mem_cons]
      exact ⟨Or.inr, fun hc => hc.elim (fun e => e ▸ h) id⟩
    · rw [if_neg h, List.mem_cons, List.mem_cons, ih]

theorem nodup_dedup (l : List Coord) : (dedup l).Nodup := by
  induction l with
  | nil => exact List.nodup_nil
  | cons a l ih =>
    unfold dedup
    by_cases h : a ∈ l
    · rw [if_pos h]; exact ih
    · rw [if_neg h]
      exact List.nodup_cons.mpr ⟨fun hd => h ((mem_dedup a l).mp hd), ih⟩

theorem dedup_sublist (l : List Coord) : (dedup l).Sublist l := by
  induction l with
  | nil => exact List.Sublist.refl _
  | cons c l ih =>
    unfold dedup
    split
    · exact ih.cons c
    · exact ih.cons_cons c

theorem mem_uniqueCoords (c : Coord) (keys : List Coord) : c ∈ uniqueCoords keys ↔ c ∈ keys :=
  (mem_dedup c _).trans (mem_isort c keys)

theorem nodup_uniqueCoords (keys : List Coord) : (uniqueCoords keys).Nodup := nodup_dedup _

theorem sortedLt_of (l : List Coord) (h : SortedLe l) (hn : l.Nodup) : SortedLt l :=
  List.Pairwise.imp₂ (fun _ _ hle hne => ⟨hle, hne⟩) h hn

theorem SortedLt.sortedLe {l : List Coord} (h : SortedLt l) : SortedLe l :=
  List.Pairwise.imp (fun h => h.1) h

theorem SortedLt.nodup {l : List Coord} (h : SortedLt l) : l.Nodup :=
  List.Pairwise.imp (fun h => h.2) h

theorem sortedLt_uniqueCoords (keys : List Coord) : SortedLt (uniqueCoords keys) :=
  sortedLt_of _ ((sortedLe_isort keys).sublist (dedup_sublist _)) (nodup_uniqueCoords keys)

/-- a strictly increasing list is determined by its set of members -/
theorem sortedLt_unique (l₁ l₂ : List Coord) (h1 : SortedLt l₁) (h2 : SortedLt l₂)
    (h : ∀ c, c ∈ l₁ ↔ c ∈ l₂) : l₁ = l₂ :=
  Common.eq_of_pairwise_of_mem_iff (fun a b hab hba => hab.2 (lexLe_antisymm a b hab.1 hba.1)) h1 h2 h

end PorepyVerif.C46
