/-
Reading a successful outcome of an `Except` computation backwards: through a bind, through a guard
`if c then .error e else x`, through a `map`; and `List.mapM` of a function that succeeds on every member
(any lawful monad: `Option`'s `some` and `Except`'s `.ok` are its `pure`).  Core Lean only; no instance, notation or
attribute is declared.
-/
namespace PorepyVerif.Common

universe u v w
variable {ε : Type u} {α β : Type v}

theorem bind_eq_ok {x : Except ε α} {f : α → Except ε β} {b : β} :
    (x >>= f) = .ok b ↔ ∃ a, x = .ok a ∧ f a = .ok b := by
  cases x with
  | error e => exact ⟨nofun, fun ⟨_, h, _⟩ => nomatch h⟩
  | ok a => exact ⟨fun h => ⟨a, rfl, h⟩, fun ⟨_, h, hf⟩ => by cases h; exact hf⟩

theorem map_eq_ok {f : α → β} {x : Except ε α} {b : β} : f <$> x = .ok b ↔ ∃ a, x = .ok a ∧ f a = b := by
  cases x with
  | error e => exact ⟨nofun, fun ⟨_, h, _⟩ => nomatch h⟩
  | ok a => exact ⟨fun h => ⟨a, rfl, Except.ok.inj h⟩, fun ⟨_, h, hf⟩ => by cases h; exact congrArg _ hf⟩

theorem ite_error_eq_ok {c : Prop} [Decidable c] {e : ε} {x : Except ε α} {a : α} :
    (if c then .error e else x) = .ok a ↔ ¬ c ∧ x = .ok a := by
  split
  · exact ⟨nofun, fun h => absurd ‹c› h.1⟩
  · exact ⟨fun h => ⟨‹¬ c›, h⟩, fun h => h.2⟩

theorem mapM_map_eq_pure {m : Type v → Type w} [Monad m] [LawfulMonad m] {γ : Type v} (k : α → γ) {f : γ → m β} (g : α → β)
    {l : List α} (h : ∀ a ∈ l, f (k a) = pure (g a)) : (l.map k).mapM f = pure (l.map g) := by
  induction l with
  | nil => rfl
  | cons a t ih =>
    rw [List.map_cons, List.mapM_cons, h a List.mem_cons_self, ih fun b hb => h b (List.mem_cons_of_mem a hb),
      pure_bind, pure_bind, List.map_cons]

theorem mapM_eq_pure {m : Type v → Type w} [Monad m] [LawfulMonad m] {f : α → m β} (g : α → β) {l : List α}
    (h : ∀ a ∈ l, f a = pure (g a)) : l.mapM f = pure (l.map g) := by
  rw [← mapM_map_eq_pure id g h, List.map_id]

end PorepyVerif.Common
