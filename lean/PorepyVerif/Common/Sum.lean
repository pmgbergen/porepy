/-
Finite sums of rationals.  Every model that sums has its own recursion for `Σ` (`sumTo n f`, `sumL l f`, `sumFin n f`,
`sideSum`, `sumf` ...), so that it runs without the others; each is `((List.range n).map f).sum`,
`(l.map f).sum` or `((List.finRange n).map f).sum` by a two-line induction (`sum_range_succ`, `List.sum_cons`,
`sum_finRange_succ` are the steps).  The algebra of such sums is proved here once, about core's `List.sum`, and a
directory takes its `sumTo_add`, `sumTo_comm` ... from it through that one equation.  Core Lean only; no instance,
notation or attribute is declared.
-/
namespace PorepyVerif.Common

universe u v
variable {α : Type u} {β : Type v}

theorem sum_map_congr {l : List α} {f g : α → Rat} (h : ∀ a ∈ l, f a = g a) : (l.map f).sum = (l.map g).sum := by
  rw [List.map_congr_left h]

theorem sum_map_eq_zero {l : List α} {f : α → Rat} (h : ∀ a ∈ l, f a = 0) : (l.map f).sum = 0 := by
  induction l with
  | nil => rfl
  | cons a l ih =>
    rw [List.map_cons, List.sum_cons, h a List.mem_cons_self, ih fun b hb => h b (List.mem_cons_of_mem a hb),
      Rat.add_zero]

theorem sum_map_add (l : List α) (f g : α → Rat) :
    (l.map fun a => f a + g a).sum = (l.map f).sum + (l.map g).sum := by
  induction l with
  | nil => exact (Rat.add_zero 0).symm
  | cons a l ih =>
    simp only [List.map_cons, List.sum_cons, ih]
    rw [Rat.add_assoc, Rat.add_assoc, ← Rat.add_assoc (g a), Rat.add_comm (g a), Rat.add_assoc]

theorem sum_map_mul_left (c : Rat) (l : List α) (f : α → Rat) : (l.map fun a => c * f a).sum = c * (l.map f).sum := by
  induction l with
  | nil => exact (Rat.mul_zero c).symm
  | cons a l ih => simp only [List.map_cons, List.sum_cons, ih, Rat.mul_add]

theorem sum_map_mul_right (l : List α) (f : α → Rat) (c : Rat) : (l.map fun a => f a * c).sum = (l.map f).sum * c := by
  rw [Rat.mul_comm, ← sum_map_mul_left]
  exact sum_map_congr fun a _ => Rat.mul_comm _ _

theorem sum_map_neg (l : List α) (f : α → Rat) : (l.map fun a => -f a).sum = -(l.map f).sum := by
  induction l with
  | nil => exact Rat.neg_zero.symm
  | cons a l ih => simp only [List.map_cons, List.sum_cons, ih, Rat.neg_add]

theorem sum_map_sub (l : List α) (f g : α → Rat) :
    (l.map fun a => f a - g a).sum = (l.map f).sum - (l.map g).sum := by
  rw [Rat.sub_eq_add_neg, ← sum_map_neg, ← sum_map_add]
  exact sum_map_congr fun a _ => Rat.sub_eq_add_neg _ _

theorem sum_map_const (l : List α) (c : Rat) : (l.map fun _ => c).sum = l.length * c := by
  induction l with
  | nil => exact (Rat.zero_mul c).symm
  | cons a l ih =>
    rw [List.map_cons, List.sum_cons, ih, List.length_cons, Rat.natCast_add, Rat.add_mul, Rat.natCast_ofNat, Rat.one_mul,
      Rat.add_comm]

/-- The order of two summations does not matter. -/
theorem sum_map_comm (l : List α) (m : List β) (f : α → β → Rat) :
    (l.map fun a => (m.map fun b => f a b).sum).sum = (m.map fun b => (l.map fun a => f a b).sum).sum := by
  induction l with
  | nil => exact (sum_map_eq_zero fun _ _ => rfl).symm
  | cons a l ih => simp only [List.map_cons, List.sum_cons, ih, sum_map_add]

theorem sum_map_nonneg {l : List α} {f : α → Rat} (h : ∀ a ∈ l, 0 ≤ f a) : 0 ≤ (l.map f).sum := by
  induction l with
  | nil => exact Rat.le_refl
  | cons a l ih =>
    rw [List.map_cons, List.sum_cons]
    exact Rat.add_nonneg (h a List.mem_cons_self) (ih fun b hb => h b (List.mem_cons_of_mem a hb))

theorem sum_map_le {l : List α} {f g : α → Rat} (h : ∀ a ∈ l, f a ≤ g a) : (l.map f).sum ≤ (l.map g).sum := by
  induction l with
  | nil => exact Rat.le_refl
  | cons a l ih =>
    rw [List.map_cons, List.sum_cons, List.map_cons, List.sum_cons]
    exact Rat.le_trans (Rat.add_le_add_right.mpr (h a List.mem_cons_self))
      (Rat.add_le_add_left.mpr (ih fun b hb => h b (List.mem_cons_of_mem a hb)))

/-- A sum of non-negative terms one of which is positive. -/
theorem sum_map_pos {l : List α} {f : α → Rat} (h : ∀ a ∈ l, 0 ≤ f a) {a : α} (ha : a ∈ l) (hpos : 0 < f a) :
    0 < (l.map f).sum := by
  induction l with
  | nil => cases ha
  | cons b l ih =>
    have hl : ∀ c ∈ l, 0 ≤ f c := fun c hc => h c (List.mem_cons_of_mem b hc)
    rw [List.map_cons, List.sum_cons]
    rcases List.mem_cons.mp ha with rfl | ha'
    · have := Rat.add_le_add_left (c := f a) |>.mpr (sum_map_nonneg hl)
      rw [Rat.add_zero] at this
      exact Std.lt_of_lt_of_le hpos this
    · have := Rat.add_le_add_right (c := (l.map f).sum) |>.mpr (h b List.mem_cons_self)
      rw [Rat.zero_add] at this
      exact Std.lt_of_lt_of_le (ih hl ha') this

/-- A sum whose terms vanish except at one member `a` of a duplicate-free list is the term at `a`. -/
theorem sum_map_single {l : List α} (hl : l.Nodup) {a : α} (ha : a ∈ l) {f : α → Rat}
    (h : ∀ b ∈ l, b ≠ a → f b = 0) : (l.map f).sum = f a := by
  induction l with
  | nil => cases ha
  | cons b l ih =>
    have hb := List.nodup_cons.mp hl
    rw [List.map_cons, List.sum_cons]
    rcases List.mem_cons.mp ha with rfl | ha'
    · rw [sum_map_eq_zero fun c hc => h c (List.mem_cons_of_mem a hc) fun e => hb.1 (e ▸ hc), Rat.add_zero]
    · rw [ih hb.2 ha' fun c hc => h c (List.mem_cons_of_mem b hc), h b List.mem_cons_self fun e => hb.1 (e ▸ ha'),
        Rat.zero_add]

/-- Summing over the members that pass a test is summing an indicator over all of them. -/
theorem sum_map_filter (p : α → Bool) (l : List α) (f : α → Rat) :
    ((l.filter p).map f).sum = (l.map fun a => if p a then f a else 0).sum := by
  induction l with
  | nil => rfl
  | cons a l ih =>
    rw [List.filter_cons, List.map_cons, List.sum_cons, ← ih]
    split
    · rw [List.map_cons, List.sum_cons]
    · rw [Rat.zero_add]

theorem sum_perm {l l' : List Rat} (h : l.Perm l') : l.sum = l'.sum := by
  induction h with
  | nil => rfl
  | cons a _ ih => rw [List.sum_cons, List.sum_cons, ih]
  | swap a b l => rw [List.sum_cons, List.sum_cons, List.sum_cons, List.sum_cons, ← Rat.add_assoc, ← Rat.add_assoc,
      Rat.add_comm a]
  | trans _ _ ih₁ ih₂ => exact ih₁.trans ih₂

theorem sum_range_succ (f : Nat → Rat) (n : Nat) :
    ((List.range (n + 1)).map f).sum = ((List.range n).map f).sum + f n := by
  rw [List.range_succ, List.map_append, List.sum_append, List.map_singleton, List.sum_singleton]

theorem sum_finRange_succ {n : Nat} (f : Fin (n + 1) → Rat) :
    ((List.finRange (n + 1)).map f).sum = f 0 + ((List.finRange n).map fun i => f i.succ).sum := by
  rw [List.finRange_succ, List.map_cons, List.sum_cons, List.map_map]
  rfl

end PorepyVerif.Common
