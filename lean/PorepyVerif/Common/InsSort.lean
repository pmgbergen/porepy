/-
Insertion sorts, whatever functions implement them.  Every model has its own `ins` / `srt` (by `≤` or `<`, on
elements or on keys, with a `Prop` or a `Bool` test, recursive or a `foldr`); what the proofs need of such a pair is one
fact about an insertion step, and from it the sorted list is a permutation and is sorted.  `InsUniq` is the
same for the sorts that drop duplicates (`np.unique`).  Core Lean only; nothing of any model is mentioned, no
instance, notation or attribute is declared.
-/
namespace PorepyVerif.Common

universe u
variable {α : Type u} {R : α → α → Prop} {ins : α → List α → List α} {srt : List α → List α}

/-- What the proofs use of an insertion sort `srt` (inserting with `ins`) for the order `R`: an insertion step
    either puts `x` in front of a `y` it may precede, or goes on behind a `y` that may precede `x`. -/
structure InsSort (R : α → α → Prop) (ins : α → List α → List α) (srt : List α → List α) : Prop where
  trans : ∀ {a b c}, R a b → R b c → R a c
  ins_nil : ∀ x, ins x [] = [x]
  ins_cons : ∀ x y l, (R x y ∧ ins x (y :: l) = x :: y :: l) ∨ (R y x ∧ ins x (y :: l) = y :: ins x l)
  srt_nil : srt [] = []
  srt_cons : ∀ x l, srt (x :: l) = ins x (srt l)

namespace InsSort

/-- The usual shape `if R x y then x :: y :: l else y :: ins x l` with a total `R`; for a sort defined by
    structural recursion the four equations hold by `rfl`. -/
theorem of_ite [DecidableRel R] (trans : ∀ {a b c}, R a b → R b c → R a c) (total : ∀ {a b}, ¬ R a b → R b a)
    (ins_nil : ∀ x, ins x [] = [x])
    (ins_cons : ∀ x y l, ins x (y :: l) = if R x y then x :: y :: l else y :: ins x l)
    (srt_nil : srt [] = []) (srt_cons : ∀ x l, srt (x :: l) = ins x (srt l)) : InsSort R ins srt where
  trans := trans
  ins_nil := ins_nil
  ins_cons x y l := by
    rw [ins_cons]
    split
    · exact .inl ⟨‹_›, rfl⟩
    · exact .inr ⟨total ‹_›, rfl⟩
  srt_nil := srt_nil
  srt_cons := srt_cons

theorem ins_perm (h : InsSort R ins srt) (x : α) (l : List α) : (ins x l).Perm (x :: l) := by
  induction l with
  | nil => rw [h.ins_nil]
  | cons y t ih =>
    rcases h.ins_cons x y t with ⟨_, e⟩ | ⟨_, e⟩ <;> rw [e]
    exact (List.Perm.cons y ih).trans (List.Perm.swap x y t)

theorem ins_sorted (h : InsSort R ins srt) (x : α) (l : List α) (hl : l.Pairwise R) :
    (ins x l).Pairwise R := by
  induction l with
  | nil => rw [h.ins_nil]; exact List.pairwise_singleton _ _
  | cons y t ih =>
    have hy := List.pairwise_cons.mp hl
    rcases h.ins_cons x y t with ⟨hxy, e⟩ | ⟨hyx, e⟩ <;> rw [e]
    · exact List.pairwise_cons.mpr ⟨fun b hb => (List.mem_cons.mp hb).elim (fun e => e ▸ hxy)
        (fun hb => h.trans hxy (hy.1 b hb)), hl⟩
    · exact List.pairwise_cons.mpr ⟨fun b hb => (List.mem_cons.mp ((h.ins_perm x t).mem_iff.mp hb)).elim
        (fun e => e ▸ hyx) (hy.1 b), ih hy.2⟩

theorem perm (h : InsSort R ins srt) (l : List α) : (srt l).Perm l := by
  induction l with
  | nil => rw [h.srt_nil]
  | cons x t ih => rw [h.srt_cons]; exact (h.ins_perm x _).trans (List.Perm.cons x ih)

theorem sorted (h : InsSort R ins srt) (l : List α) : (srt l).Pairwise R := by
  induction l with
  | nil => rw [h.srt_nil]; exact List.Pairwise.nil
  | cons x t ih => rw [h.srt_cons]; exact h.ins_sorted x _ ih

/-- A sort that puts `x` in front of every `y` it may precede (a stable one) leaves a sorted list as it is. -/
theorem eq_self (h : InsSort R ins srt) (first : ∀ x y l, R x y → ins x (y :: l) = x :: y :: l) {l : List α}
    (hl : l.Pairwise R) : srt l = l := by
  induction l with
  | nil => exact h.srt_nil
  | cons x t ih =>
    have hx := List.pairwise_cons.mp hl
    rw [h.srt_cons, ih hx.2]
    cases t with
    | nil => exact h.ins_nil x
    | cons y t => exact first x y t (hx.1 y List.mem_cons_self)

end InsSort

/-- The insertion sort that keeps one copy of equal elements, for a strict order `R`: a step puts `x` in front of
    a larger `y`, drops `x` at an equal `y`, or goes on behind a smaller `y`. -/
structure InsUniq (R : α → α → Prop) (ins : α → List α → List α) (srt : List α → List α) : Prop where
  trans : ∀ {a b c}, R a b → R b c → R a c
  ins_nil : ∀ x, ins x [] = [x]
  ins_cons : ∀ x y l, (R x y ∧ ins x (y :: l) = x :: y :: l) ∨ (x = y ∧ ins x (y :: l) = y :: l)
    ∨ (R y x ∧ ins x (y :: l) = y :: ins x l)
  srt_nil : srt [] = []
  srt_cons : ∀ x l, srt (x :: l) = ins x (srt l)

namespace InsUniq

theorem mem_ins (h : InsUniq R ins srt) {x z : α} {l : List α} : z ∈ ins x l ↔ z = x ∨ z ∈ l := by
  induction l with
  | nil => rw [h.ins_nil, List.mem_singleton]; exact (or_iff_left List.not_mem_nil).symm
  | cons y t ih =>
    rcases h.ins_cons x y t with ⟨_, e⟩ | ⟨rfl, e⟩ | ⟨_, e⟩ <;> rw [e]
    · exact List.mem_cons
    · exact ⟨Or.inr, fun hz => hz.elim (fun e => e ▸ List.mem_cons_self) id⟩
    · rw [List.mem_cons, ih, List.mem_cons, or_left_comm]

theorem ins_sorted (h : InsUniq R ins srt) (x : α) {l : List α} (hl : l.Pairwise R) : (ins x l).Pairwise R := by
  induction l with
  | nil => rw [h.ins_nil]; exact List.pairwise_singleton _ _
  | cons y t ih =>
    have hy := List.pairwise_cons.mp hl
    rcases h.ins_cons x y t with ⟨hxy, e⟩ | ⟨_, e⟩ | ⟨hyx, e⟩ <;> rw [e]
    · exact List.pairwise_cons.mpr ⟨fun b hb => (List.mem_cons.mp hb).elim (fun e => e ▸ hxy)
        (fun hb => h.trans hxy (hy.1 b hb)), hl⟩
    · exact hl
    · exact List.pairwise_cons.mpr ⟨fun b hb => (h.mem_ins.mp hb).elim (fun e => e ▸ hyx) (hy.1 b), ih hy.2⟩

theorem mem (h : InsUniq R ins srt) {z : α} {l : List α} : z ∈ srt l ↔ z ∈ l := by
  induction l with
  | nil => rw [h.srt_nil]
  | cons x t ih => rw [h.srt_cons, h.mem_ins, ih, List.mem_cons]

theorem sorted (h : InsUniq R ins srt) (l : List α) : (srt l).Pairwise R := by
  induction l with
  | nil => rw [h.srt_nil]; exact List.Pairwise.nil
  | cons x t ih => rw [h.srt_cons]; exact h.ins_sorted x ih

end InsUniq

end PorepyVerif.Common
