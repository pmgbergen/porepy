/-
C05 — property theorems (statements only depend on Model.lean; helper lemmas in the Lemmas modules).

Property: after any sequence of variable creations and removals on subdomains and interfaces, the
index sets of all registered variables partition 0..num_dofs-1 into contiguous blocks ordered by
subdomain order, then interface order, then creation order.  Looking up the variable owning any
index returns the variable whose block contains it, projections select exactly those indices, and
setting then getting values for any subset of variables in global order returns the written values.

`e.order.Nodup` (a grid is listed once by the md-grid) is the only assumption on the grid.
-/
import PorepyVerif.C05.Lemmas
import PorepyVerif.Common.Except

namespace PorepyVerif.C05

theorem inv_init (e : Env) : Inv e init :=
  ⟨rfl, List.Perm.refl _, List.Pairwise.nil, by simp [init], rfl, by simp [init], by simp [init]⟩

/-- Every call — well-formed or not, succeeding or raising half-way — preserves the invariant. -/
theorem inv_step (e : Env) (hn : e.order.Nodup) (s : State) (op : Op) (h : Inv e s) :
    Inv e (step e s op).1 := by
  cases op with
  | create name dof subs intfs => exact create_inv e hn s name dof subs intfs h
  | remove refs => exact removeLoop_inv e hn _ s h
  | setVals values refs iter ts additive => exact setValsIds_inv e s values _ _ additive h
  | updateNumDofs => exact updateNumDofs_inv e e rfl rfl s h
  | _ => exact h

/-- a property that every admissible call preserves holds along every admissible history -/
theorem run_induction (e : Env) (P : State → Prop) (Q : Op → Prop)
    (hstep : ∀ s op, Q op → P s → P (step e s op).1) (ops : List Op) (hq : ∀ op ∈ ops, Q op)
    (s : State) (h : P s) : P (run e s ops) := by
  induction ops generalizing s with
  | nil => exact h
  | cons op ops ih =>
    exact ih (fun o ho => hq o (List.mem_cons_of_mem _ ho)) _ (hstep s op (hq op List.mem_cons_self) h)

/-- … hence in every state reachable from a fresh `EquationSystem`. -/
theorem inv_reachable (e : Env) (hn : e.order.Nodup) (ops : List Op) : Inv e (run e init ops) :=
  run_induction e (Inv e) (fun _ => True) (fun s op _ => inv_step e hn s op) ops (fun _ _ => trivial)
    init (inv_init e)

/-- What the invariant says: read in dict order the block numbers are 0,1,…,#variables-1, their keys
    are the registered variables (each exactly once), there is one size per block, and the size of
    the block of a variable is its number of dofs on its grid. -/
theorem numbers_bijection (e : Env) (s : State) (h : Inv e s) :
    s.numbers.map (·.2) = List.range s.vars.length ∧
    (s.numbers.map (·.1)).Perm (s.vars.map (·.id)) ∧ (s.vars.map (·.id)).Nodup ∧
    s.sizes.length = s.vars.length ∧
    ∀ v ∈ s.vars, ∃ b, numberOf s.numbers v.id = some b ∧ s.sizes[b]? = some (varSize e v) := by
  have hlen : s.numbers.length = s.vars.length := by
    have := h.perm.length_eq; simpa using this
  refine ⟨?_, h.perm, h.idsLt.imp (fun hab => Nat.ne_of_lt hab), by rw [h.sizesLen, hlen], ?_⟩
  · rw [h.numbered, map_snd_numberFrom, List.range_eq_range']
    simp [hlen]
  · intro v hv
    obtain ⟨b, hb, hlt, hsz, _⟩ := inv_numberOf_of_mem h v hv
    refine ⟨b, hb, ?_⟩
    rw [← hsz, List.getD_eq_getElem?_getD, List.getElem?_eq_getElem hlt]
    rfl

theorem clustered_step (e : Env) (s : State) (op : Op) (hk : GridsKnown e op) (h : Clustered e s) :
    Clustered e (step e s op).1 := by
  cases op with
  | create name dof subs intfs =>
    show Clustered e (create e s name dof subs intfs).1
    rcases create_cases e s name dof subs intfs with hc | ⟨isSub, g, rfl, rfl, hc⟩ <;> rw [hc]
    · exact h
    · cases isSub <;> exact createOn_clustered e s name dof _ g hk h
  | remove refs => exact removeLoop_clustered e _ s h
  | setVals values refs iter ts additive =>
    show Clustered e (setValsIds s values _ _ additive).1
    rw [setValsIds_fst]
    exact clustered_store e s _ h
  | _ => exact h

/-- After any history whose `create` calls name grids of the md-grid, the blocks are in the order in
    which `_cluster_dofs_gridwise` enumerates the registered variables. -/
theorem clustered_reachable (e : Env) (ops : List Op) (hk : ∀ op ∈ ops, GridsKnown e op) :
    Clustered e (run e init ops) :=
  run_induction e (Clustered e) (GridsKnown e) (clustered_step e) ops hk init
    (by simp [Clustered, init, clusterOrder])

/-- …and that order is: position of the grid in the md-grid listing (subdomains, then interfaces),
    then creation order; every registered variable has exactly one block. -/
theorem cluster_order (e : Env) (hn : e.order.Nodup) (s : State) (h : Inv e s) (hc : Clustered e s) :
    ∃ blocks : List Var, blocks.map (·.id) = s.numbers.map (·.1) ∧ blocks.Perm s.vars ∧
      blocks.Pairwise (fun v w =>
        gridPos e v.grid < gridPos e w.grid ∨ (v.grid = w.grid ∧ v.id < w.id)) :=
  ⟨clusterOrder e s.vars, hc.symm,
    clusterOrder_perm e hn s.vars (fun v hv => kind_order e v (h.kindOk v hv)),
    clusterOrder_pairwise e hn s.vars h.idsLt⟩

/-- `dofs_of` of one registered variable is the contiguous range starting at the cumulative size of
    the preceding blocks, of length the variable's number of dofs. -/
theorem dofs_of_block (e : Env) (s : State) (h : Inv e s) (v : Var) (hv : v ∈ s.vars) :
    ∃ b, numberOf s.numbers v.id = some b ∧
      dofsOfIds s [v.id] = .ok (List.range' (cum s.sizes b) (varSize e v)) := by
  obtain ⟨b, hb, _, hsz, _⟩ := inv_numberOf_of_mem h v hv
  refine ⟨b, hb, ?_⟩
  simp only [dofsOfIds, hb, blockRange_eq, hsz, List.append_nil]

/-- Taken in block order, the index sets of all registered variables are consecutive and tile
    `0 .. num_dofs-1`. -/
theorem dofs_partition (e : Env) (s : State) (h : Inv e s) :
    dofsOfIds s (s.numbers.map (·.1)) = .ok (List.range (numDofs s)) := by
  have := dofsOfIds_consecutive s (s.numbers.map (·.1)) 0 (fun j hj => by
    simpa using inv_numberOf_idx h j hj)
  rw [this]
  have hl : (s.numbers.map (·.1)).length = s.sizes.length := by simp [h.sizesLen]
  simp [hl, cum_length, numDofs, List.range_eq_range']

/-- For every index in range, `identify_dof` returns a registered variable whose block contains the
    index (zero-size blocks are skipped), and no other variable's block contains it. -/
theorem identify_spec (e : Env) (s : State) (h : Inv e s) (d : Nat) (hd : d < numDofs s) :
    ∃ v ∈ s.vars, identify s (d : Int) = .ok v.id ∧ owns s v.id d ∧ ∀ i, owns s i d → i = v.id := by
  obtain ⟨v, hv, b, h1, h2, _, h4, h5⟩ := identify_ok h d hd
  exact ⟨v, hv, h1, ⟨b, h2, h4, h5⟩, fun i hi => owns_unique h i v.id d hi ⟨b, h2, h4, h5⟩⟩

/-- Outside `0 .. num_dofs-1` it raises `KeyError`. -/
theorem identify_out_of_range (s : State) (d : Int) (h : d < 0 ∨ (numDofs s : Int) ≤ d) :
    identify s d = .error .key := by
  unfold identify
  have : ¬ (0 ≤ d ∧ d < (numDofs s : Int)) := by omega
  simp [this]

/-- The projection onto a non-empty list of variables has one row per selected dof, `num_dofs`
    columns, its rows pick the selected indices in increasing order, an index is picked iff it lies
    in the block of one of the variables, and exactly once if no variable is listed twice. -/
theorem projection_selects (e : Env) (s : State) (h : Inv e s) (r0 : Ref) (refs : List Ref)
    (rows cols : Nat) (idx : List Nat) (hp : projection s (some (r0 :: refs)) = .ok (rows, cols, idx)) :
    cols = numDofs s ∧ rows = idx.length ∧ idx.Pairwise (· ≤ ·) ∧
    (∀ d, d ∈ idx ↔ ∃ i ∈ parse s (some (r0 :: refs)), owns s i d) ∧
    ((parse s (some (r0 :: refs))).Nodup → idx.Pairwise (· < ·)) := by
  unfold projection at hp
  cases hd : dofsOfIds s (parse s (some (r0 :: refs))) with
  | error err => simp [hd] at hp
  | ok l =>
    simp only [hd, Except.ok.injEq, Prod.mk.injEq] at hp
    obtain ⟨h1, h2, h3⟩ := hp
    subst h1 h2 h3
    refine ⟨rfl, (perm_isort l).length_eq.symm, sorted_isort l, ?_, ?_⟩
    · intro d
      rw [(perm_isort l).mem_iff]
      exact mem_dofsOfIds s _ l hd d
    · intro hnd
      exact strict_of_sorted_nodup _ (sorted_isort l)
        ((perm_isort l).nodup_iff.mpr (nodup_dofsOfIds h _ l hnd hd))

theorem keys_unique_step (e : Env) (s : State) (op : Op) (hg : GridsNodup op) (h : KeysUnique s) :
    KeysUnique (step e s op).1 := by
  cases op with
  | create name dof subs intfs =>
    show KeysUnique (create e s name dof subs intfs).1
    rcases create_cases e s name dof subs intfs with hc | ⟨isSub, g, rfl, rfl, hc⟩ <;> rw [hc]
    · exact h
    · cases isSub <;> exact createOn_keys e s name dof _ g hg h
  | remove refs => exact removeLoop_keys e _ s h
  | setVals values refs iter ts additive =>
    show KeysUnique (setValsIds s values _ _ additive).1
    rw [setValsIds_fst]
    exact h
  | _ => exact h

/-- After any history whose `create` calls do not repeat a grid, no two registered variables share
    name and domain, i.e. every variable has its own storage. -/
theorem keys_unique_reachable (e : Env) (ops : List Op) (hg : ∀ op ∈ ops, GridsNodup op) :
    KeysUnique (run e init ops) :=
  run_induction e KeysUnique GridsNodup (keys_unique_step e) ops hg init List.Pairwise.nil

/-- `_validate_indices` yields distinct storage slots. -/
theorem validateSet_nodup (iter ts : Option Int) (sl : List (Bool × Nat))
    (h : validateSet iter ts = .ok sl) : sl.Nodup := by
  unfold validateSet at h
  split at h
  · cases h
  all_goals
    split at h
    · cases h
    · cases h
      simp

/-- Overwrite: for any subset `sel` of variables (any order, repetitions allowed), any slots, and a
    vector whose length is the number of selected dofs, the write succeeds and reading the same
    subset returns exactly the written vector. -/
theorem set_get_roundtrip (e : Env) (s : State) (hI : Inv e s) (hK : KeysUnique s) (sel : List Nat)
    (values : List Rat) (sl : List (Bool × Nat)) (hsl : sl.Nodup) (slot : Bool × Nat) (hslot : slot ∈ sl)
    (hlen : values.length = selectedSize s sel) :
    (setValsIds s values sel (.ok sl) false).2 = .ok () ∧
    getValsIds (setValsIds s values sel (.ok sl) false).1 sel (.ok slot) = .ok values :=
  setValsIds_get hI hK sel values sl false hsl slot hslot hlen [] nofun nofun

/-- Additive write: if every selected variable holds values of the right length in all addressed
    slots, the write succeeds and reading returns old + written, entry by entry. -/
theorem set_get_additive (e : Env) (s : State) (hI : Inv e s) (hK : KeysUnique s) (sel : List Nat)
    (values : List Rat) (sl : List (Bool × Nat)) (hsl : sl.Nodup) (slot : Bool × Nat) (hslot : slot ∈ sl)
    (hlen : values.length = selectedSize s sel)
    (hstored : ∀ v ∈ s.vars, v.id ∈ sel → ∀ s' ∈ sl,
      ∃ o, s.store (keyOf v s') = some o ∧ o.length = varSize e v)
    (old : List Rat) (hold : getValsIds s sel (.ok slot) = .ok old) :
    (setValsIds s values sel (.ok sl) true).2 = .ok () ∧
    getValsIds (setValsIds s values sel (.ok sl) true).1 sel (.ok slot) =
      .ok (List.zipWith (· + ·) old values) :=
  setValsIds_get hI hK sel values sl true hsl slot hslot hlen old (fun _ => hstored) (fun _ => hold)

/-- A write to the variables `sel` (whatever its outcome) leaves the values of all other variables
    untouched. -/
theorem set_frame (e : Env) (s : State) (hI : Inv e s) (hK : KeysUnique s) (sel sel' : List Nat)
    (hdisj : ∀ i ∈ sel', i ∉ sel) (values : List Rat) (slots : Except Err (List (Bool × Nat)))
    (additive : Bool) (slot' : Bool × Nat) :
    getValsIds (setValsIds s values sel slots additive).1 sel' (.ok slot') =
      getValsIds s sel' (.ok slot') := by
  rw [setValsIds_fst]
  unfold getValsIds
  apply getLoop_congr
  intro p hp hps' v hv
  apply setLoop_frame
  intro q hq hqs w hw sl _ s'' _
  exact inv_keyOf_ne hK p.1 q.1 (fun e => hdisj p.1 hps' (e ▸ hqs)) v w hv hw slot' s''

/-- Reading (and writing) depends only on WHICH variables are passed, not on their order or on
    repetitions: the values always come in global (block) order. -/
theorem get_order_irrelevant (s : State) (sel sel' : List Nat) (h : ∀ i, i ∈ sel ↔ i ∈ sel')
    (slot : Except Err (Bool × Nat)) (values : List Rat) (slots : Except Err (List (Bool × Nat)))
    (additive : Bool) :
    getValsIds s sel slot = getValsIds s sel' slot ∧
    setValsIds s values sel slots additive = setValsIds s values sel' slots additive := by
  refine ⟨getLoop_sel_congr _ _ _ _ _ _ h, ?_⟩
  unfold setValsIds
  rw [setLoop_sel_congr _ _ _ _ _ _ _ _ _ _ h]

/-- "In global order": if every registered variable holds values of the right length in `slot`,
    then the global vector (variables = None) has `num_dofs` entries and the values read for any
    duplicate-free list `sel` of registered variables are the entries of the global vector at the
    sorted dof indices of `sel` — i.e. `get(sel) = projection_to(sel) · get(all)`, whatever the
    order in which `sel` lists the variables. -/
theorem get_is_projection_of_global (e : Env) (s : State) (hI : Inv e s) (slot : Bool × Nat)
    (sel : List Nat) (hsel : sel.Nodup) (hreg : ∀ i ∈ sel, i ∈ s.vars.map (·.id))
    (hstored : ∀ v ∈ s.vars, ∃ o, s.store (keyOf v slot) = some o ∧ o.length = varSize e v)
    (g x : List Rat) (l : List Nat)
    (hg : getValsIds s (s.vars.map (·.id)) (.ok slot) = .ok g)
    (hx : getValsIds s sel (.ok slot) = .ok x) (hl : dofsOfIds s sel = .ok l) :
    g.length = numDofs s ∧ x = applyProj (isort l) g := by
  have hreg' : ∀ i ∈ sel, i ∈ s.numbers.map (·.1) := fun i hi => hI.perm.mem_iff.mpr (hreg i hi)
  unfold getValsIds at hg hx
  rw [hI.numbered] at hg hx
  have key := get_sel_eq_applyProj s.vars s.sizes sel (s.vars.map (·.id)) slot s.store
    (s.numbers.map (·.1)) 0 (fun i hi => hI.perm.mem_iff.mp hi)
    (by
      rw [← hI.numbered]
      intro p hp
      obtain ⟨v, hv⟩ := inv_findVar hI p hp
      obtain ⟨o, ho, hol⟩ := hstored v (findVar_some _ _ _ hv).1
      exact ⟨v, o, hv, ho, by rw [hol, inv_size_of_block hI p hp v hv]⟩)
    [] g x rfl hg hx
  obtain ⟨k1, k2⟩ := key
  refine ⟨?_, ?_⟩
  · rw [Nat.zero_add, List.length_map, ← hI.sizesLen, cum_length] at k1
    simpa [numDofs] using k1
  · rw [isort_dofs_eq_selIdx hI sel l hsel hreg' hl, k2, ← hI.numbered]
    rfl

/-- `_validate_indices` + the one-index rule of `get_solution_values`: exactly one non-negative
    index is accepted; both given, both None, or a negative index are a ValueError. -/
theorem validateGet_spec (iter ts : Option Int) :
    validateGet iter ts =
      match iter, ts with
      | some i, none => if i < 0 then .error .value else .ok (true, i.toNat)
      | none, some t => if t < 0 then .error .value else .ok (false, t.toNat)
      | _, _ => .error .value := by
  cases iter <;> cases ts
  · simp [validateGet, validateSet]
  · rename_i t; by_cases h : t < 0 <;> simp [validateGet, validateSet, h]
  · rename_i i; by_cases h : i < 0 <;> simp [validateGet, validateSet, h]
  · rename_i i t; by_cases h : i < 0 ∨ t < 0 <;> simp [validateGet, validateSet, h]

/-- A read with inadmissible indices never changes the state; it raises ValueError as soon as one
    requested variable is registered, and returns the empty vector otherwise. -/
theorem get_bad_indices (e : Env) (s : State) (hI : Inv e s) (refs : Option (List Ref))
    (iter ts : Option Int) (err : Err) (hbad : validateGet iter ts = .error err) :
    step e s (.getVals refs iter ts) =
      (s, if selected s (parse s refs) = [] then .ok (.rats []) else .error err) := by
  show (s, (getValsIds s (parse s refs) (validateGet iter ts)).map Out.rats) = _
  rw [hbad]
  unfold getValsIds selected
  rw [getLoop_error_slot _ _ _ _ _ (fun p hp => inv_findVar hI p hp)]
  split <;> rfl

/-- A write with inadmissible indices never changes the state either: ValueError as soon as one
    addressed variable is registered; otherwise only the final size assertion is evaluated. -/
theorem set_bad_indices (e : Env) (s : State) (hI : Inv e s) (values : List Rat)
    (refs : Option (List Ref)) (iter ts : Option Int) (additive : Bool) (err : Err)
    (hbad : validateSet iter ts = .error err) :
    step e s (.setVals values refs iter ts additive) =
      (s, if selected s (parse s refs) = [] then
            (if values = [] then .ok .unit else .error .assertion)
          else .error err) := by
  show ((setValsIds s values (parse s refs) (validateSet iter ts) additive).1,
    (setValsIds s values (parse s refs) (validateSet iter ts) additive).2.map (fun _ => Out.unit)) = _
  rw [hbad]
  unfold setValsIds selected
  rw [setLoop_error_slot _ _ _ _ _ _ _ _ _ (fun p hp => inv_findVar hI p hp)]
  by_cases hsel : s.numbers.filter (fun p => decide (p.1 ∈ parse s refs)) = []
  · simp only [hsel, if_true]
    cases values with
    | nil => simp; rfl
    | cons a r => simp; rfl
  · simp only [hsel, if_false]
    rfl

/-- Removing a duplicate-free list of registered variables in ONE call succeeds and gives exactly
    the state obtained by one call per variable, taken in ANY order `ids'`; the remaining variables
    are the others, and the layout is the canonical clustering of what remains. -/
theorem remove_multi_eq_sequential (e : Env) (hn : e.order.Nodup) (s : State) (hI : Inv e s)
    (ids ids' : List Nat) (hp : ids.Perm ids') (hnd : ids.Nodup)
    (hreg : ∀ i ∈ ids, i ∈ s.vars.map (·.id)) :
    (removeLoop e s ids).2 = .ok () ∧
    (removeLoop e s ids).1 = seqRemove e s ids' ∧
    (removeLoop e s ids).1.vars = s.vars.filter (fun v => !(ids.contains v.id)) ∧
    (ids ≠ [] → Canonical e (removeLoop e s ids).1) := by
  obtain ⟨h1, h2, h3, _⟩ := removeLoop_spec e hn ids s hI hnd hreg
  refine ⟨h1, ?_, h2, h3⟩
  rw [seqRemove_eq e ids' s
    (removeLoop_spec e hn ids' s hI (hp.nodup_iff.mp hnd) (fun i hi => hreg i (hp.mem_iff.mpr hi))).1]
  exact removeLoop_perm e hn s hI ids ids' hp hnd hreg

/-- `update_variable_num_dofs` after the grids changed their entity counts (same md-grid listing):
    the layout invariant holds for the NEW grid, i.e. every block again has its variable's dof count
    and all statements above (partition, lookup, projection, values) apply to the resized system. -/
theorem update_num_dofs_inv (e e' : Env) (hs : e'.subs = e.subs) (hi : e'.intfs = e.intfs) (s : State)
    (h : Inv e s) : Inv e' (step e' s .updateNumDofs).1 ∧ (step e' s .updateNumDofs).2 = .ok .unit :=
  ⟨updateNumDofs_inv e e' hs hi s h, rfl⟩

/-- No assumption on the history: whenever a `create_variables` call returns (does not raise), or a
    `remove_variables` call on a non-empty list returns, the layout is in cluster order afterwards —
    so the order clause holds after every successful call, also after earlier half-failed ones. -/
theorem success_implies_clustered (e : Env) (s : State) :
    (∀ name dof subs intfs out, (step e s (.create name dof subs intfs)).2 = .ok out →
      Clustered e (step e s (.create name dof subs intfs)).1) ∧
    (∀ refs, parse s refs ≠ [] → (step e s (.remove refs)).2 = .ok .unit →
      Clustered e (step e s (.remove refs)).1) := by
  constructor
  · intro name dof subs intfs out h
    obtain ⟨ids, hc, -⟩ := Common.map_eq_ok.1 h
    exact create_ok_clustered e s name dof subs intfs ids hc
  · intro refs hne h
    obtain ⟨_, hr, -⟩ := Common.map_eq_ok.1 h
    exact removeLoop_ok_clustered e s _ hne hr

theorem parse_of_vars_eq (s s' : State) (h : s'.vars = s.vars) (refs : Option (List Ref)) :
    parse s' refs = parse s refs := by
  have hr : parseRef s' = parseRef s := by
    funext r
    cases r with
    | name n => show (s'.vars.filter _).map _ = (s.vars.filter _).map _; rw [h]
    | var i => rfl
  cases refs with
  | none => show s'.vars.map _ = s.vars.map _; rw [h]
  | some rs => show rs.flatMap (parseRef s') = rs.flatMap (parseRef s); rw [hr]

/-- The round trip through the public entry points: `set_variable_values(values, refs, …)` followed
    by `get_variable_values(refs', …)` for ANY argument `refs'` denoting the same variables (names,
    Variables, in any order; an md-variable is the list of its sub-variables, as in
    `_parse_variable_type`) at one of the written slots returns `values`. -/
theorem set_then_get_op (e : Env) (s : State) (hI : Inv e s) (hK : KeysUnique s)
    (refs refs' : Option (List Ref)) (hsame : ∀ i, i ∈ parse s refs ↔ i ∈ parse s refs')
    (values : List Rat) (iter ts iter' ts' : Option Int) (sl : List (Bool × Nat)) (slot : Bool × Nat)
    (hv : validateSet iter ts = .ok sl) (hg : validateGet iter' ts' = .ok slot) (hslot : slot ∈ sl)
    (hlen : values.length = selectedSize s (parse s refs)) :
    outputs e s [.setVals values refs iter ts false, .getVals refs' iter' ts'] =
      [.ok .unit, .ok (.rats values)] := by
  obtain ⟨r1, r2⟩ := set_get_roundtrip e s hI hK (parse s refs) values sl (validateSet_nodup iter ts sl hv)
    slot hslot hlen
  have hparse : parse (setValsIds s values (parse s refs) (.ok sl) false).1 refs' = parse s refs' := by
    apply parse_of_vars_eq
    rw [setValsIds_fst]
  simp only [outputs, step, hv, hg, r1, hparse]
  rw [← (get_order_irrelevant _ (parse s refs) (parse s refs') hsame (.ok slot) [] (.ok []) false).1, r2]
  rfl

theorem parse_name (s : State) (name : Nat) :
    parse s (some [.name name]) = (s.vars.filter (fun v => v.name == name)).map (·.id) :=
  List.append_nil _

theorem mdVariable_none_ok (s : State) (name : Nat) (ids : List Nat)
    (h : mdVariable s name none = .ok ids) : ids = parse s (some [.name name]) ∧ ids ≠ [] := by
  rw [parse_name]
  unfold mdVariable at h
  simp only at h
  split at h
  · cases h
  · next v r hf =>
    rw [hf]
    split at h
    · cases h
    · cases h
      exact ⟨rfl, List.cons_ne_nil _ _⟩

/-- `md_variable(name)` wraps exactly the registered variables of that name, in creation order — the
    same variables the string `name` denotes in every VariableList argument — and raises IndexError
    when there is none; with `domains` it is the sub-list on those domains. -/
theorem md_variable_spec (s : State) (name : Nat) :
    (∀ ids, mdVariable s name none = .ok ids → ids = parse s (some [.name name]) ∧ ids ≠ []) ∧
    (parse s (some [.name name]) = [] → mdVariable s name none = .error .index) ∧
    (∀ ds, mdVariable s name (some ds) =
      .ok ((s.vars.filter (fun v => v.name == name && ds.contains v.grid)).map (·.id))) := by
  refine ⟨mdVariable_none_ok s name, ?_, mdVariable_some s name⟩
  intro h
  rw [parse_name, List.map_eq_nil_iff] at h
  simp only [mdVariable, h]

/-- md-grid with a 2-d subdomain (key 2), a 1-d subdomain (key 0) and an interface (key 1) -/
def exEnv : Env :=
  ⟨[2, 0], [1], fun g => if g = 2 then 2 else if g = 0 then 3 else 2,
    fun g => if g = 2 then 7 else if g = 0 then 4 else 0,
    fun g => if g = 2 then 6 else if g = 0 then 4 else 0⟩

/-- create p (cells+faces) on both subdomains in the order [1-d, 2-d], λ (2 per cell) on the
    interface, an empty variable on the 2-d grid; then remove and re-create p on the 1-d grid -/
def exOps : List Op :=
  [.create 0 [(0, 1), (1, 1)] (some [0, 2]) none, .create 1 [(0, 2)] none (some [1]),
   .create 2 [] (some [2]) none, .remove (some [.var 0]), .create 0 [(2, 1)] (some [0]) none]

instance {α : Type} [DecidableEq α] : DecidableEq (Except Err α) := fun a b =>
  match a, b with
  | .ok x, .ok y => if h : x = y then isTrue (h ▸ rfl) else isFalse (fun e => h (Except.ok.inj e))
  | .error x, .error y => if h : x = y then isTrue (h ▸ rfl) else isFalse (fun e => h (Except.error.inj e))
  | .ok _, .error _ => isFalse (fun e => by cases e)
  | .error _, .ok _ => isFalse (fun e => by cases e)

example : exEnv.order.Nodup := by decide

/-- The state after `exOps`, evaluated once for the examples below.  The store stays as it is: it is a function
    (no decidable equality), and the examples that read it evaluate it themselves. -/
theorem run_exOps : run exEnv init exOps =
    ⟨[⟨1, 0, 2, true, 1, 1, 0⟩, ⟨2, 1, 1, false, 2, 0, 0⟩, ⟨3, 2, 2, true, 0, 0, 0⟩, ⟨4, 0, 0, true, 0, 0, 1⟩],
     [(1, 0), (3, 1), (4, 2), (2, 3)], [9, 0, 4, 4], (run exEnv init exOps).store, 5⟩ :=
  state_ext _ _ (by decide +kernel) (by decide +kernel) (by decide +kernel) rfl (by decide +kernel)

example : (run exEnv init exOps).numbers = [(1, 0), (3, 1), (4, 2), (2, 3)] ∧
    (run exEnv init exOps).sizes = [9, 0, 4, 4] := by rw [run_exOps]; decide +kernel

example : outputs exEnv (run exEnv init exOps)
    [.identify 9, .identify 8, .identify 17, .dofsOf (some [.name 0]), .projection (some [.var 2, .var 4]),
     .setVals [1/2, 3, -1, 5, 1/4, 7, 2, 9] (some [.var 2, .var 4]) (some 0) none false,
     .setVals [1, 1, 1, 1] (some [.var 2]) (some 0) none true,
     .getVals (some [.var 4, .var 2]) (some 0) none, .identify 17, .remove (some [.var 0])]
  = [.ok (.num 4), .ok (.num 1), .error .key, .ok (.ids [0, 1, 2, 3, 4, 5, 6, 7, 8, 9, 10, 11, 12]),
     .ok (.proj 8 17 [9, 10, 11, 12, 13, 14, 15, 16]), .ok .unit, .ok .unit,
     .ok (.rats [1/2, 3, -1, 5, 5/4, 8, 3, 10]), .error .key, .error .value] := by rw [run_exOps]; decide +kernel

/-- the hypotheses of the theorems are met by this history: invariant, cluster order, own storage -/
example : Inv exEnv (run exEnv init exOps) ∧ Clustered exEnv (run exEnv init exOps) ∧
    KeysUnique (run exEnv init exOps) :=
  ⟨inv_reachable exEnv (by decide) exOps,
   clustered_reachable exEnv exOps (by decide),
   keys_unique_reachable exEnv exOps (by decide)⟩

/-- a zero-size block (variable 3) sits between two non-empty ones and is never returned by identify -/
example : dofsOfIds (run exEnv init exOps) [3] = .ok [] ∧ identify (run exEnv init exOps) 9 = .ok 4 := by
  rw [run_exOps]; decide +kernel

/-- the subset read in the "wrong" order [λ, p(1-d)] equals the projection of the global vector -/
example :
    let s := (step exEnv (run exEnv init exOps)
      (.setVals [1, 2, 3, 4, 5, 6, 7, 8, 9, 10, 11, 12, 13, 14, 15, 16, 17] none (some 0) none false)).1
    getValsIds s [2, 4] (.ok (true, 0)) = .ok [10, 11, 12, 13, 14, 15, 16, 17] ∧
    (dofsOfIds s [2, 4]).map isort = .ok [9, 10, 11, 12, 13, 14, 15, 16] ∧
    applyProj [9, 10, 11, 12, 13, 14, 15, 16] [1, 2, 3, 4, 5, 6, 7, 8, 9, 10, 11, 12, 13, 14, 15, 16, 17]
      = [10, 11, 12, 13, 14, 15, 16, 17] := by
  rw [run_exOps]; decide +kernel

/-- a malformed history: `create` on a grid that is not in the md-grid (key 7) raises after having
    registered the first variable (`num_dofs` = 3 afterwards); the invariant still holds
    (`inv_reachable`), `clustered_reachable` does not apply to such a history (`GridsKnown` fails) -/
example : outputs exEnv init [.create 0 [(0, 1)] (some [0, 7, 2]) none, .numDofs,
      .create 0 [(0, 1)] (some [2, 2]) none, .create 5 [(3, 1)] (some [2]) none,
      .create 5 [] (some [2]) (some [1]), .create 5 [] (some [1]) none]
    = [.error .key, .ok (.num 3), .error .assertion, .error .value, .error .value, .error .assertion] := by
  decide +kernel

/-- removing [λ, empty, p(2-d)] in one call = removing them one by one in another order -/
example :
    let s := run exEnv init exOps
    let a := (removeLoop exEnv s [2, 3, 1]).1
    let b := seqRemove exEnv s [1, 2, 3]
    (a.vars, a.numbers, a.sizes) = (b.vars, b.numbers, b.sizes) ∧ a.numbers = [(4, 0)] ∧ a.sizes = [4] := by
  rw [run_exOps]; decide +kernel

/-- inadmissible indices: both given / none / negative -/
example : outputs exEnv (run exEnv init exOps)
    [.getVals none (some 0) (some 0), .getVals none none none, .getVals none (some (-1)) none,
     .getVals (some [.name 9]) none none, .setVals [] (some [.var 4]) none none false,
     .setVals [1] (some [.name 9]) none (some (-2)) true]
    = [.error .value, .error .value, .error .value, .ok (.rats []), .error .value, .error .assertion] := by
  rw [run_exOps]; decide +kernel

/-- the 1-d grid (key 0) refined from 3 to 5 cells -/
def exEnv' : Env :=
  { exEnv with cells := fun g => if g = 0 then 5 else exEnv.cells g,
               faces := fun g => if g = 0 then 6 else exEnv.faces g,
               nodes := fun g => if g = 0 then 6 else exEnv.nodes g }

/-- sizes follow the refined grid, and the invariant holds for the new grid -/
example : (step exEnv' (run exEnv init exOps) .updateNumDofs).1.sizes = [9, 0, 6, 4] ∧
    Inv exEnv' (step exEnv' (run exEnv init exOps) .updateNumDofs).1 :=
  ⟨by rw [run_exOps]; decide +kernel,
   (update_num_dofs_inv exEnv exEnv' rfl rfl _ (inv_reachable exEnv (by decide) exOps)).1⟩

/-- md_variable: name 0 lives on both subdomains; name 7 nowhere; round trip through two spellings -/
example : outputs exEnv (run exEnv init exOps)
    [.mdVariable 0 none, .mdVariable 7 none, .mdVariable 0 (some [0]),
     .setVals [1, 2, 3, 4, 5, 6, 7, 8, 9, 10, 11, 12, 13] (some [.var 4, .var 1]) (some 1) (some 0) false,
     .getVals (some [.name 0]) none (some 0)]
    = [.ok (.ids [1, 4]), .error .index, .ok (.ids [4]), .ok .unit,
       .ok (.rats [1, 2, 3, 4, 5, 6, 7, 8, 9, 10, 11, 12, 13])] := by
  rw [run_exOps]; decide +kernel

end PorepyVerif.C05
