/-
C05 — what holds of the model's functions without the layout invariant: cumulative sizes and block ranges,
`dofsOfIds`, the search of `identify`, insertion sort, and the two storage loops `getLoop` / `setLoop` with the
index list `selIdx` that `projection_to` produces for them.
-/
import PorepyVerif.C05.Model
import PorepyVerif.Common.InsSort

namespace PorepyVerif.C05

theorem cum_succ (sizes : List Nat) (b : Nat) : cum sizes (b + 1) = cum sizes b + sizes.getD b 0 := by
  unfold cum
  rw [List.take_add_one, List.sum_append, List.getD_eq_getElem?_getD]
  cases sizes[b]? <;> rfl

theorem cum_mono (sizes : List Nat) (a b : Nat) (h : a ≤ b) : cum sizes a ≤ cum sizes b := by
  induction h with
  | refl => exact Nat.le_refl _
  | step _ ih =>
    rw [cum_succ]
    exact Nat.le_trans ih (Nat.le_add_right _ _)

@[simp] theorem cum_zero (sizes : List Nat) : cum sizes 0 = 0 := rfl

theorem cum_length (sizes : List Nat) : cum sizes sizes.length = sizes.sum := by
  rw [cum, List.take_length]

theorem blockRange_eq (sizes : List Nat) (b : Nat) :
    blockRange sizes b = List.range' (cum sizes b) (sizes.getD b 0) := by
  rw [blockRange, cum_succ, Nat.add_sub_cancel_left]

theorem mem_blockRange (sizes : List Nat) (b d : Nat) :
    d ∈ blockRange sizes b ↔ cum sizes b ≤ d ∧ d < cum sizes (b + 1) := by
  rw [blockRange_eq, List.mem_range'_1, cum_succ]

theorem dofsOfIds_consecutive (s : State) (l : List Nat) (k : Nat)
    (hnum : ∀ j (hj : j < l.length), numberOf s.numbers l[j] = some (k + j)) :
    dofsOfIds s l = .ok (List.range' (cum s.sizes k) (cum s.sizes (k + l.length) - cum s.sizes k)) := by
  induction l generalizing k with
  | nil => rw [dofsOfIds, List.length_nil, Nat.add_zero, Nat.sub_self]; rfl
  | cons i r ih =>
    have h0 : numberOf s.numbers i = some k := hnum 0 (Nat.zero_lt_succ _)
    have hr := ih (k + 1) (fun j hj => by
      rw [Nat.add_right_comm k 1 j]
      exact hnum (j + 1) (Nat.succ_lt_succ hj))
    have m := cum_mono s.sizes (k + 1) (k + 1 + r.length) (Nat.le_add_right _ _)
    simp only [dofsOfIds, h0, hr]
    rw [blockRange_eq, List.length_cons, ← Nat.add_assoc, Nat.add_right_comm k r.length 1]
    generalize cum s.sizes (k + 1 + r.length) = C at m ⊢
    rw [cum_succ] at m ⊢
    rw [List.range'_append_1, Nat.sub_add_eq, Nat.add_sub_of_le (Nat.le_sub_of_add_le' m)]

theorem cumList_head (a : Nat) (l : List Nat) : ∃ t, cumList a l = a :: t := by
  cases l with
  | nil => exact ⟨[], rfl⟩
  | cons x xs => exact ⟨cumList (a + x) xs, rfl⟩

/-- `np.argmax(cumsum > d)` finds the block `k` with `cum k ≤ d < cum (k+1)` (entry `k + 1` of the
    array with the leading 0); zero-size blocks before it are passed over -/
theorem firstGt_cumList (sizes : List Nat) (acc d : Nat) (h1 : acc ≤ d) (h2 : d < acc + sizes.sum) :
    ∃ k, firstGt (d : Int) (cumList acc sizes) = some (k + 1) ∧ k < sizes.length ∧
      acc + cum sizes k ≤ d ∧ d < acc + cum sizes (k + 1) := by
  induction sizes generalizing acc with
  | nil => exact absurd h2 (Nat.not_lt.mpr h1)
  | cons x xs ih =>
    rw [cumList, firstGt, if_neg (Int.not_lt.mpr (Int.ofNat_le.mpr h1))]
    by_cases hx : d < acc + x
    · obtain ⟨t, ht⟩ := cumList_head (acc + x) xs
      refine ⟨0, ?_, Nat.zero_lt_succ _, h1, hx⟩
      rw [ht, firstGt, if_pos (Int.ofNat_lt.mpr hx)]
      rfl
    · rw [List.sum_cons, ← Nat.add_assoc] at h2
      obtain ⟨k, hk1, hk2, hk3, hk4⟩ := ih (acc + x) (Nat.le_of_not_lt hx) h2
      rw [Nat.add_assoc] at hk3 hk4
      exact ⟨k + 1, by rw [hk1]; rfl, Nat.succ_lt_succ hk2, hk3, hk4⟩

theorem insSort : Common.InsSort (· ≤ ·) insertSorted isort :=
  .of_ite Nat.le_trans Nat.le_of_not_le (fun _ => rfl) (fun _ _ _ => rfl) rfl (fun _ _ => rfl)

theorem dofsOfIds_cons_ok (s : State) (i : Nat) (r l : List Nat) (h : dofsOfIds s (i :: r) = .ok l) :
    ∃ b l', numberOf s.numbers i = some b ∧ dofsOfIds s r = .ok l' ∧ l = blockRange s.sizes b ++ l' := by
  rw [dofsOfIds] at h
  split at h
  · cases h
  · next b hb =>
    split at h
    · cases h
    · next l' hl' =>
      cases h
      exact ⟨b, l', hb, hl', rfl⟩

/-- a successful `dofs_of`: every id is numbered, and the result lists their blocks in argument order -/
theorem dofsOfIds_eq_flatMap (s : State) (sel l : List Nat) (h : dofsOfIds s sel = .ok l) :
    (∀ i ∈ sel, ∃ b, numberOf s.numbers i = some b) ∧
    l = sel.flatMap (fun i => blockRange s.sizes ((numberOf s.numbers i).getD 0)) := by
  induction sel generalizing l with
  | nil =>
    cases h
    exact ⟨nofun, rfl⟩
  | cons i r ih =>
    obtain ⟨b, l', hb, hr, rfl⟩ := dofsOfIds_cons_ok s i r l h
    obtain ⟨hnum, rfl⟩ := ih l' hr
    exact ⟨List.forall_mem_cons.mpr ⟨⟨b, hb⟩, hnum⟩, by rw [List.flatMap_cons, hb]; rfl⟩

theorem mem_dofsOfIds (s : State) (sel l : List Nat) (h : dofsOfIds s sel = .ok l) (d : Nat) :
    d ∈ l ↔ ∃ i ∈ sel, owns s i d := by
  obtain ⟨hnum, rfl⟩ := dofsOfIds_eq_flatMap s sel l h
  rw [List.mem_flatMap]
  refine exists_congr (fun i => and_congr_right (fun hi => ?_))
  obtain ⟨b, hb⟩ := hnum i hi
  rw [hb, Option.getD_some, mem_blockRange]
  exact ⟨fun hd => ⟨b, hb, hd⟩, fun ⟨b', hb', hd⟩ => Option.some.inj (hb.symm.trans hb') ▸ hd⟩

/-- number of values consumed by the blocks of `nums` that are selected -/
def selSize (sizes sel : List Nat) (nums : List (Nat × Nat)) : Nat :=
  ((nums.filter (fun p => p.1 ∈ sel)).map (fun p => sizes.getD p.2 0)).sum

theorem selectedSize_eq (s : State) (sel : List Nat) : selectedSize s sel = selSize s.sizes sel s.numbers := rfl

theorem selSize_cons_pos {sizes sel : List Nat} {p : Nat × Nat} {r : List (Nat × Nat)} (h : p.1 ∈ sel) :
    selSize sizes sel (p :: r) = sizes.getD p.2 0 + selSize sizes sel r := by
  simp [selSize, h]

theorem selSize_cons_neg {sizes sel : List Nat} {p : Nat × Nat} {r : List (Nat × Nat)} (h : p.1 ∉ sel) :
    selSize sizes sel (p :: r) = selSize sizes sel r := by
  simp [selSize, h]

theorem keyOf_eq_iff (v w : Var) (a b : Bool × Nat) :
    keyOf v a = keyOf w b ↔ (v.grid = w.grid ∧ v.name = w.name ∧ a = b) := by
  simp only [keyOf, Key.mk.injEq, Prod.ext_iff]
  constructor
  · rintro ⟨h1, h2, h3, h4⟩; exact ⟨h1, h3, h2, h4⟩
  · rintro ⟨h1, h3, h2, h4⟩; exact ⟨h1, h2, h3, h4⟩

theorem findVar_eq_find? (vars : List Var) (i : Nat) : findVar vars i = vars.find? (·.id == i) := by
  induction vars with
  | nil => rfl
  | cons v r ih =>
    rw [findVar, ih, List.find?_cons]
    by_cases h : v.id = i
    · rw [if_pos h, beq_iff_eq.mpr h]
    · rw [if_neg h, beq_false_of_ne h]

theorem findVar_some (vars : List Var) (i : Nat) (v : Var) (h : findVar vars i = some v) :
    v ∈ vars ∧ v.id = i := by
  rw [findVar_eq_find?] at h
  exact ⟨List.mem_of_find?_eq_some h, beq_iff_eq.mp (List.find?_some (p := fun w : Var => w.id == i) h)⟩

theorem put_same (st : Store) (k : Key) (x : List Rat) : st.put k x k = some x := by simp [Store.put]

theorem put_other (st : Store) (k k' : Key) (x : List Rat) (h : k' ≠ k) : st.put k x k' = st k' := by
  simp [Store.put, h]

theorem writeOne_frame (st : Store) (k : Key) (a : Bool) (x : List Rat) (k' : Key) (h : k' ≠ k) :
    (writeOne st k a x).1 k' = st k' := by
  unfold writeOne
  cases a with
  | false => simp [put_other _ _ _ _ h]
  | true =>
    simp only [if_true]
    cases st k with
    | none => rfl
    | some old =>
      simp only
      cases addVec old x with
      | none => rfl
      | some r => simp [put_other _ _ _ _ h]

theorem writeSlots_frame (v : Var) (a : Bool) (x : List Rat) (sl : List (Bool × Nat)) (st : Store) (k' : Key)
    (h : ∀ s' ∈ sl, k' ≠ keyOf v s') : (writeSlots st v a x sl).1 k' = st k' := by
  induction sl generalizing st with
  | nil => rfl
  | cons s0 rest ih =>
    have h0 := writeOne_frame st (keyOf v s0) a x k' (h s0 List.mem_cons_self)
    rw [writeSlots]
    split <;> rename_i heq <;> rw [heq] at h0
    · exact h0
    · exact (ih _ (fun s' hs => h s' (List.mem_cons_of_mem _ hs))).trans h0

theorem writeOne_ok (st : Store) (k : Key) (a : Bool) (x : List Rat)
    (hadd : a = true → ∃ o, st k = some o ∧ o.length = x.length) :
    writeOne st k a x =
      (st.put k (if a then List.zipWith (· + ·) ((st k).getD []) x else x), none) := by
  unfold writeOne
  cases a with
  | false => simp
  | true =>
    obtain ⟨o, ho, hlen⟩ := hadd rfl
    simp [ho, addVec, hlen]

theorem writeSlots_spec (v : Var) (a : Bool) (x : List Rat) (sl : List (Bool × Nat)) (hn : sl.Nodup)
    (st : Store) (hadd : a = true → ∀ s' ∈ sl, ∃ o, st (keyOf v s') = some o ∧ o.length = x.length) :
    (writeSlots st v a x sl).2 = none ∧
    ∀ s' ∈ sl, (writeSlots st v a x sl).1 (keyOf v s') =
      some (if a then List.zipWith (· + ·) ((st (keyOf v s')).getD []) x else x) := by
  induction sl generalizing st with
  | nil => exact ⟨rfl, by simp⟩
  | cons s0 rest ih =>
    obtain ⟨hs0, hn'⟩ := List.nodup_cons.mp hn
    have hne : ∀ s' ∈ rest, keyOf v s' ≠ keyOf v s0 := fun s' hs' he =>
      hs0 (((keyOf_eq_iff v v s' s0).mp he).2.2 ▸ hs')
    have hw := writeOne_ok st (keyOf v s0) a x (fun ha => hadd ha s0 List.mem_cons_self)
    generalize hy : (if a then List.zipWith (· + ·) ((st (keyOf v s0)).getD []) x else x) = y at hw
    have hstep : writeSlots st v a x (s0 :: rest) = writeSlots (st.put (keyOf v s0) y) v a x rest := by
      rw [writeSlots, hw]
    rw [hstep]
    obtain ⟨i1, i2⟩ := ih hn' (st.put (keyOf v s0) y) (fun ha s' hs' => by
      rw [put_other _ _ _ _ (hne s' hs')]
      exact hadd ha s' (List.mem_cons_of_mem _ hs'))
    refine ⟨i1, fun s' hs' => ?_⟩
    rcases List.mem_cons.mp hs' with rfl | hs'
    · rw [writeSlots_frame v a x rest _ _ (fun s'' hs'' => (hne s'' hs'').symm), put_same, hy]
    · rw [i2 s' hs', put_other _ _ _ _ (hne s' hs')]

section
variable {vars : List Var} {sizes sel : List Nat} {a : Bool} {values : List Rat} {st : Store}
  {start : Nat} {p : Nat × Nat} {rest : List (Nat × Nat)} {v : Var}

theorem setLoop_cons_neg {slots : Except Err (List (Bool × Nat))} (hp : p.1 ∉ sel) :
    setLoop vars sizes sel slots a values st start (p :: rest) =
      setLoop vars sizes sel slots a values st start rest := by
  rw [setLoop, if_neg hp]

theorem setLoop_cons_pos {sl : List (Bool × Nat)} (hp : p.1 ∈ sel) (hv : findVar vars p.1 = some v)
    (hw : (writeSlots st v a ((values.drop start).take (sizes.getD p.2 0)) sl).2 = none) :
    setLoop vars sizes sel (.ok sl) a values st start (p :: rest) =
      setLoop vars sizes sel (.ok sl) a values
        (writeSlots st v a ((values.drop start).take (sizes.getD p.2 0)) sl).1
        (start + sizes.getD p.2 0) rest := by
  rw [setLoop, if_pos hp]
  simp only [hv]
  rcases hws : writeSlots st v a ((values.drop start).take (sizes.getD p.2 0)) sl with ⟨st1, _ | err⟩
  · rfl
  · rw [hws] at hw; cases hw

theorem getLoop_cons_neg {slot : Except Err (Bool × Nat)} (hp : p.1 ∉ sel) :
    getLoop vars st sel slot (p :: rest) = getLoop vars st sel slot rest := by
  rw [getLoop, if_neg hp]

theorem getLoop_cons_pos {slot : Bool × Nat} {x : List Rat} (hp : p.1 ∈ sel)
    (hv : findVar vars p.1 = some v) (hx : st (keyOf v slot) = some x) :
    getLoop vars st sel (.ok slot) (p :: rest) =
      match getLoop vars st sel (.ok slot) rest with
      | .error err => .error err
      | .ok l => .ok (x ++ l) := by
  rw [getLoop, if_pos hp]
  simp only [hv, hx]
  cases getLoop vars st sel (.ok slot) rest <;> rfl

theorem getLoop_ok_cons {slot : Bool × Nat} {o xs : List Rat} (hp : p.1 ∈ sel)
    (hv : findVar vars p.1 = some v) (ho : st (keyOf v slot) = some o)
    (h : getLoop vars st sel (.ok slot) (p :: rest) = .ok xs) :
    ∃ xs', getLoop vars st sel (.ok slot) rest = .ok xs' ∧ xs = o ++ xs' := by
  rw [getLoop_cons_pos hp hv ho] at h
  cases hr : getLoop vars st sel (.ok slot) rest with
  | error err => rw [hr] at h; cases h
  | ok l =>
    rw [hr] at h
    cases h
    exact ⟨l, rfl, rfl⟩

end

theorem setLoop_frame (vars : List Var) (sizes sel : List Nat) (slots : Except Err (List (Bool × Nat)))
    (a : Bool) (values : List Rat) (k' : Key) (nums : List (Nat × Nat)) (st : Store) (start : Nat)
    (h : ∀ p ∈ nums, p.1 ∈ sel → ∀ v, findVar vars p.1 = some v → ∀ sl, slots = .ok sl →
      ∀ s' ∈ sl, k' ≠ keyOf v s') :
    (setLoop vars sizes sel slots a values st start nums).1 k' = st k' := by
  induction nums generalizing st start with
  | nil => rfl
  | cons p rest ih =>
    have hrest := fun q (hq : q ∈ rest) => h q (List.mem_cons_of_mem _ hq)
    rw [setLoop]
    split
    · next hp =>
      split
      · rfl
      · next v hv =>
        split
        · rfl
        · next sl =>
          have hf := writeSlots_frame v a ((values.drop start).take (sizes.getD p.2 0)) sl st k' (h p List.mem_cons_self hp v hv sl rfl)
          dsimp only
          rcases hws : writeSlots st v a ((values.drop start).take (sizes.getD p.2 0)) sl with ⟨st1, _ | err⟩ <;>
            rw [hws] at hf
          · exact (ih st1 _ hrest).trans hf
          · exact hf
    · exact ih st start hrest

theorem getLoop_congr (vars : List Var) (sel : List Nat) (slot : Bool × Nat) (st1 st2 : Store)
    (nums : List (Nat × Nat))
    (h : ∀ p ∈ nums, p.1 ∈ sel → ∀ v, findVar vars p.1 = some v → st1 (keyOf v slot) = st2 (keyOf v slot)) :
    getLoop vars st1 sel (.ok slot) nums = getLoop vars st2 sel (.ok slot) nums := by
  induction nums with
  | nil => rfl
  | cons p rest ih =>
    have ihr := ih (fun q hq => h q (List.mem_cons_of_mem _ hq))
    rw [getLoop, getLoop, ihr]
    split
    · next hp =>
      split
      · rfl
      · next v hv => simp only [h p List.mem_cons_self hp v hv]
    · rfl

theorem getLoop_sel_congr (vars : List Var) (st : Store) (sel sel' : List Nat)
    (slot : Except Err (Bool × Nat)) (nums : List (Nat × Nat)) (h : ∀ i, i ∈ sel ↔ i ∈ sel') :
    getLoop vars st sel slot nums = getLoop vars st sel' slot nums := by
  induction nums with
  | nil => rfl
  | cons p rest ih => simp only [getLoop, h p.1, ih]

theorem setLoop_sel_congr (vars : List Var) (sizes sel sel' : List Nat)
    (slots : Except Err (List (Bool × Nat))) (a : Bool) (values : List Rat) (nums : List (Nat × Nat))
    (st : Store) (start : Nat) (h : ∀ i, i ∈ sel ↔ i ∈ sel') :
    setLoop vars sizes sel slots a values st start nums = setLoop vars sizes sel' slots a values st start nums := by
  induction nums generalizing st start with
  | nil => rfl
  | cons p rest ih => simp only [setLoop, h p.1, ih]

/-- the selected global indices, block by block in block order -/
def selIdx (sizes sel : List Nat) (nums : List (Nat × Nat)) : List Nat :=
  (nums.filter (fun p => p.1 ∈ sel)).flatMap (fun p => blockRange sizes p.2)

theorem selIdx_cons_pos {sizes sel : List Nat} {p : Nat × Nat} {r : List (Nat × Nat)} (h : p.1 ∈ sel) :
    selIdx sizes sel (p :: r) = blockRange sizes p.2 ++ selIdx sizes sel r := by
  simp [selIdx, h]

theorem selIdx_cons_neg {sizes sel : List Nat} {p : Nat × Nat} {r : List (Nat × Nat)} (h : p.1 ∉ sel) :
    selIdx sizes sel (p :: r) = selIdx sizes sel r := by
  simp [selIdx, h]

theorem applyProj_append (a b : List Nat) (x : List Rat) :
    applyProj (a ++ b) x = applyProj a x ++ applyProj b x := by
  simp [applyProj]

theorem applyProj_range'_mid (pre o tail : List Rat) :
    applyProj (List.range' pre.length o.length) (pre ++ (o ++ tail)) = o := by
  apply List.ext_getElem
  · rw [applyProj, List.length_map, List.length_range']
  · intro j h1 h2
    simp only [applyProj, List.getElem_map, List.getElem_range', Nat.one_mul, List.getD_eq_getElem?_getD]
    rw [List.getElem?_append_right (Nat.le_add_right _ _), Nat.add_sub_cancel_left,
      List.getElem?_append_left h2, List.getElem?_eq_getElem h2]
    rfl

/-- loop level: with `pre` the values of the blocks before block `k`, the values read for `sel` are
    the global vector `pre ++ gs` at the selected indices -/
theorem get_sel_eq_applyProj (vars : List Var) (sizes sel selAll : List Nat) (slot : Bool × Nat) (st : Store)
    (ids : List Nat) (k : Nat) (hall : ∀ i ∈ ids, i ∈ selAll)
    (hst : ∀ p ∈ numberFrom k ids, ∃ v o, findVar vars p.1 = some v ∧
      st (keyOf v slot) = some o ∧ o.length = sizes.getD p.2 0)
    (pre gs xs : List Rat) (hpre : pre.length = cum sizes k)
    (hg : getLoop vars st selAll (.ok slot) (numberFrom k ids) = .ok gs)
    (hx : getLoop vars st sel (.ok slot) (numberFrom k ids) = .ok xs) :
    pre.length + gs.length = cum sizes (k + ids.length) ∧
    xs = applyProj (selIdx sizes sel (numberFrom k ids)) (pre ++ gs) := by
  induction ids generalizing k pre gs xs with
  | nil =>
    cases hg
    cases hx
    exact ⟨hpre, rfl⟩
  | cons i r ih =>
    obtain ⟨v, o, hv, ho, (hol : o.length = sizes.getD k 0)⟩ := hst (i, k) List.mem_cons_self
    obtain ⟨gs', hg', rfl⟩ :=
      getLoop_ok_cons (p := (i, k)) (hall i List.mem_cons_self) hv ho hg
    have hpre' : (pre ++ o).length = cum sizes (k + 1) := by
      rw [List.length_append, hpre, hol, cum_succ]
    have IH := fun xs' => ih (k + 1) (fun j hj => hall j (List.mem_cons_of_mem _ hj))
      (fun p hp => hst p (List.mem_cons_of_mem _ hp)) (pre ++ o) gs' xs' hpre' hg'
    have hlen : ∀ n, (pre ++ o).length + gs'.length = n → pre.length + (o ++ gs').length = n := by
      intro n hn
      rw [← hn, List.length_append, List.length_append, Nat.add_assoc]
    rw [List.length_cons, ← Nat.add_assoc, Nat.add_right_comm k r.length 1]
    by_cases hp : i ∈ sel
    · obtain ⟨xs', hx', rfl⟩ := getLoop_ok_cons (p := (i, k)) hp hv ho hx
      obtain ⟨l1, l2⟩ := IH xs' hx'
      refine ⟨hlen _ l1, ?_⟩
      rw [numberFrom, selIdx_cons_pos hp, applyProj_append, l2, List.append_assoc]
      congr 1
      show o = applyProj (blockRange sizes k) (pre ++ (o ++ gs'))
      rw [blockRange_eq, ← hpre, ← hol, applyProj_range'_mid]
    · rw [numberFrom, getLoop_cons_neg hp] at hx
      obtain ⟨l1, l2⟩ := IH xs hx
      refine ⟨hlen _ l1, ?_⟩
      rw [numberFrom, selIdx_cons_neg hp, l2, List.append_assoc]

theorem selIdx_sorted (sizes sel : List Nat) (nums : List (Nat × Nat))
    (hn : nums.Pairwise (fun p q => p.2 < q.2)) : (selIdx sizes sel nums).Pairwise (· ≤ ·) := by
  rw [selIdx, List.pairwise_flatMap]
  refine ⟨fun p _ => blockRange_eq sizes p.2 ▸ List.pairwise_le_range', (hn.filter _).imp ?_⟩
  intro p q hpq a ha b hb
  rw [mem_blockRange] at ha hb
  -- the earlier block ends before the later one begins
  exact Nat.le_of_lt (Nat.lt_of_lt_of_le ha.2 (Nat.le_trans (cum_mono sizes _ _ hpq) hb.1))

theorem getLoop_error_slot (vars : List Var) (st : Store) (sel : List Nat) (err : Err)
    (nums : List (Nat × Nat)) (hf : ∀ p ∈ nums, ∃ v, findVar vars p.1 = some v) :
    getLoop vars st sel (.error err) nums =
      if nums.filter (fun p => p.1 ∈ sel) = [] then .ok [] else .error err := by
  induction nums with
  | nil => rfl
  | cons p rest ih =>
    by_cases hp : p.1 ∈ sel
    · obtain ⟨v, hv⟩ := hf p List.mem_cons_self
      rw [getLoop, if_pos hp, List.filter_cons_of_pos (by simpa using hp)]
      simp [hv]
    · rw [getLoop_cons_neg hp, ih (fun q hq => hf q (List.mem_cons_of_mem _ hq)),
        List.filter_cons_of_neg (by simpa using hp)]

theorem setLoop_error_slot (vars : List Var) (sizes sel : List Nat) (err : Err) (a : Bool)
    (values : List Rat) (st : Store) (start : Nat) (nums : List (Nat × Nat))
    (hf : ∀ p ∈ nums, ∃ v, findVar vars p.1 = some v) :
    setLoop vars sizes sel (.error err) a values st start nums =
      (st, if nums.filter (fun p => p.1 ∈ sel) = [] then .ok start else .error err) := by
  induction nums with
  | nil => rfl
  | cons p rest ih =>
    by_cases hp : p.1 ∈ sel
    · obtain ⟨v, hv⟩ := hf p List.mem_cons_self
      rw [setLoop, if_pos hp, List.filter_cons_of_pos (by simpa using hp)]
      simp [hv]
    · rw [setLoop_cons_neg hp, ih (fun q hq => hf q (List.mem_cons_of_mem _ hq)),
        List.filter_cons_of_neg (by simpa using hp)]

end PorepyVerif.C05
