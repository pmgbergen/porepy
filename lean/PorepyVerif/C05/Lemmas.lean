/-
C05 — the layout invariant: what it says about a block, its preservation by every operation, cluster order and
storage keys, the canonical result of removals, and what the invariant gives `identify`, `dofsOfIds` and the two
storage loops.  The property theorems are in Props.lean.
-/
import PorepyVerif.C05.LemmasNumbering
import PorepyVerif.C05.LemmasLoops
import PorepyVerif.Common.List

namespace PorepyVerif.C05

theorem map_snd_numberFrom (a : Nat) (l : List Nat) : (numberFrom a l).map (·.2) = List.range' a l.length := by
  rw [numberFrom_eq_zipIdx]; exact List.zipIdx_map_snd a l

/-- what `_cluster_dofs_gridwise` needs from its input (the block numbers may have gaps) -/
structure PreInv (e : Env) (s : State) : Prop where
  idsLt : (s.vars.map (·.id)).Pairwise (· < ·)
  fresh : ∀ v ∈ s.vars, v.id < s.next
  kindOk : ∀ v ∈ s.vars, v.grid ∈ (if v.sub then e.subs else e.intfs)
  sizeOk : ∀ v ∈ s.vars, sizeOf s v.id = varSize e v

theorem Inv.pre {e : Env} {s : State} (h : Inv e s) : PreInv e s :=
  ⟨h.idsLt, h.fresh, h.kindOk, h.sizeOk⟩

theorem kind_order (e : Env) (v : Var) (h : v.grid ∈ (if v.sub then e.subs else e.intfs)) :
    v.grid ∈ e.order := by
  rw [Env.order, List.mem_append]
  cases hs : v.sub <;> rw [hs] at h
  · exact Or.inr h
  · exact Or.inl h

theorem getD_map_of_id (ord : List Var) (g : Nat → Nat) (b i : Nat)
    (h : (ord.map (·.id))[b]? = some i) : (ord.map (fun w => g w.id)).getD b 0 = g i := by
  have : ord.map (fun w => g w.id) = (ord.map (·.id)).map g := by rw [List.map_map]; rfl
  rw [this, List.getD_eq_getElem?_getD, List.getElem?_map, h]
  rfl

theorem sizeOf_of_numberOf {s : State} {i b : Nat} (h : numberOf s.numbers i = some b) :
    sizeOf s i = s.sizes.getD b 0 := by
  rw [sizeOf, h]
  rfl

theorem cluster_inv (e : Env) (hn : e.order.Nodup) (s : State) (h : PreInv e s) :
    Inv e (cluster e s) := by
  have hp : (clusterOrder e s.vars).Perm s.vars :=
    clusterOrder_perm e hn s.vars (fun v hv => kind_order e v (h.kindOk v hv))
  have hids : (cluster e s).numbers.map (·.1) = (clusterOrder e s.vars).map (·.id) :=
    map_fst_numberFrom 0 _
  refine ⟨?_, ?_, h.idsLt, h.fresh, ?_, h.kindOk, ?_⟩
  · rw [hids]; rfl
  · rw [hids]; exact hp.map (·.id)
  · show (List.map _ _).length = (numberFrom 0 _).length
    rw [length_numberFrom, List.length_map, List.length_map]
  · intro v hv
    obtain ⟨b, hb⟩ := exists_numberOf (cluster e s).numbers v.id
      (hids ▸ List.mem_map_of_mem (hp.mem_iff.mpr hv))
    rw [sizeOf_of_numberOf hb, ← h.sizeOk v hv]
    exact getD_map_of_id _ (sizeOf s) b v.id (numberOf_numberFrom_some 0 _ _ _ hb).2.2

theorem inv_nodup_ids {e : Env} {s : State} (h : Inv e s) : (s.numbers.map (·.1)).Nodup :=
  h.perm.nodup_iff.mpr (h.idsLt.imp Nat.ne_of_lt)

theorem inv_numberOf_idx {e : Env} {s : State} (h : Inv e s) (k : Nat)
    (hk : k < (s.numbers.map (·.1)).length) :
    numberOf s.numbers (s.numbers.map (·.1))[k] = some k := by
  have := numberOf_numberFrom_idx 0 _ (inv_nodup_ids h) k hk
  rwa [← h.numbered, Nat.zero_add] at this

/-- a block number in use is in range and sits at its own position in dict order -/
theorem inv_key_of_number {e : Env} {s : State} (h : Inv e s) {i b : Nat}
    (hb : numberOf s.numbers i = some b) :
    b < s.numbers.length ∧ (s.numbers.map (·.1))[b]? = some i := by
  rw [h.numbered] at hb
  obtain ⟨_, h2, h3⟩ := numberOf_numberFrom_some 0 _ _ _ hb
  exact ⟨by rwa [Nat.zero_add, List.length_map] at h2, h3⟩

/-- a registered variable has a block: its number is in range, the block has the variable's size, and
    the block's key is the variable -/
theorem inv_numberOf_of_mem {e : Env} {s : State} (h : Inv e s) (v : Var) (hv : v ∈ s.vars) :
    ∃ b, numberOf s.numbers v.id = some b ∧ b < s.sizes.length ∧ s.sizes.getD b 0 = varSize e v ∧
      (s.numbers.map (·.1))[b]? = some v.id := by
  obtain ⟨b, hb⟩ := exists_numberOf s.numbers v.id (h.perm.mem_iff.mpr (List.mem_map_of_mem hv))
  obtain ⟨h2, h3⟩ := inv_key_of_number h hb
  exact ⟨b, hb, h.sizesLen ▸ h2, by rw [← sizeOf_of_numberOf hb, h.sizeOk v hv], h3⟩

theorem appendVar_inv (e : Env) (s : State) (v : Var) (h : Inv e s) (hid : v.id = s.next)
    (hk : v.grid ∈ (if v.sub then e.subs else e.intfs)) : Inv e (appendVar e s v) := by
  have hlt : ∀ w ∈ s.vars, w.id < v.id := fun w hw => hid ▸ h.fresh w hw
  have hmem : ∀ w ∈ s.vars ++ [v], w ∈ s.vars ∨ w = v := fun w hw => by simpa using hw
  refine ⟨?_, ?_, ?_, ?_, ?_, ?_, ?_⟩ <;> dsimp only [appendVar, sizeOf]
  · rw [List.map_append, List.map_cons, List.map_nil, numberFrom_append, List.length_map, Nat.zero_add]
    exact congrArg (· ++ _) h.numbered
  · rw [List.map_append, List.map_append]
    exact h.perm.append_right [v.id]
  · rw [List.map_append, List.pairwise_append]
    refine ⟨h.idsLt, List.pairwise_singleton _ _, ?_⟩
    intro a ha b hb
    obtain ⟨w, hw, rfl⟩ := List.mem_map.mp ha
    rw [List.mem_singleton.mp hb]
    exact hlt w hw
  · intro w hw
    rcases hmem w hw with hw | rfl
    · exact Nat.lt_succ_of_lt (h.fresh w hw)
    · exact hid ▸ Nat.lt_succ_self _
  · rw [List.length_append, List.length_append, h.sizesLen]
    rfl
  · intro w hw
    rcases hmem w hw with hw | rfl
    · exact h.kindOk w hw
    · exact hk
  · intro w hw
    rw [numberOf_append]
    rcases hmem w hw with hw | rfl
    · obtain ⟨b, hb, hblt, hsz, _⟩ := inv_numberOf_of_mem h w hw
      rw [hb, Option.some_or, Option.getD_some, ← hsz, List.getD_eq_getElem?_getD,
        List.getD_eq_getElem?_getD, List.getElem?_append_left hblt]
    · have hnew : numberOf s.numbers w.id = none := by
        rw [numberOf_eq_none_iff]
        intro hm
        obtain ⟨u, hu, hui⟩ := List.mem_map.mp (h.perm.mem_iff.mp hm)
        exact Nat.lt_irrefl _ (hui ▸ hlt u hu)
      rw [hnew, Option.none_or, numberOf, if_pos rfl, Option.getD_some, ← h.sizesLen,
        List.getD_eq_getElem?_getD, List.getElem?_append_right (Nat.le_refl _), Nat.sub_self]
      rfl

/-- `del self._variables[id]`, `self._variable_numbers.pop(id)` -/
def popVar (s : State) (i : Nat) : State :=
  { s with vars := s.vars.filter (fun v => v.id != i), numbers := s.numbers.filter (fun p => p.1 != i) }

theorem pop_preinv (e : Env) (s : State) (i : Nat) (h : PreInv e s) : PreInv e (popVar s i) := by
  refine ⟨?_, ?_, ?_, ?_⟩
  · exact List.Pairwise.sublist (List.Sublist.map _ List.filter_sublist) h.idsLt
  · intro v hv; exact h.fresh v ((List.mem_filter.mp hv).1)
  · intro v hv; exact h.kindOk v ((List.mem_filter.mp hv).1)
  · intro v hv
    have hne : v.id ≠ i := by simpa using (List.mem_filter.mp hv).2
    have := h.sizeOk v (List.mem_filter.mp hv).1
    rwa [sizeOf, ← numberOf_filter_ne _ _ _ hne] at this

theorem inv_store (e : Env) (s : State) (st : Store) (h : Inv e s) : Inv e { s with store := st } :=
  ⟨h.numbered, h.perm, h.idsLt, h.fresh, h.sizesLen, h.kindOk, h.sizeOk⟩

/-- one round of the loop of `create_variables`: the grid is registered and the loop goes on, or the
    loop stops and the state stays as it is -/
theorem addLoop_cons (e : Env) (name : Nat) (dof : List (Nat × Nat)) (isSub : Bool) (s : State)
    (g : Nat) (gs : List Nat) :
    (g ∈ (if isSub then e.subs else e.intfs) ∧ addLoop e name dof isSub s (g :: gs) =
      addLoop e name dof isSub
        (appendVar e s ⟨s.next, name, g, isSub, dofGet dof 0, dofGet dof 1, dofGet dof 2⟩) gs) ∨
    (addLoop e name dof isSub s (g :: gs)).1 = s := by
  rw [addLoop]
  by_cases hg : g ∈ (if isSub then e.subs else e.intfs)
  · rw [if_pos hg]
    exact Or.inl ⟨hg, rfl⟩
  · rw [if_neg hg]
    right
    by_cases h2 : g ∈ (if isSub then e.intfs else e.subs)
    · rw [if_pos h2]
    · rw [if_neg h2]

theorem addLoop_inv (e : Env) (name : Nat) (dof : List (Nat × Nat)) (isSub : Bool)
    (gs : List Nat) (s : State) (h : Inv e s) : Inv e (addLoop e name dof isSub s gs).1 := by
  induction gs generalizing s with
  | nil => exact h
  | cons g gs ih =>
    rcases addLoop_cons e name dof isSub s g gs with ⟨hg, hc⟩ | hc <;> rw [hc]
    · exact ih _ (appendVar_inv e s _ h rfl hg)
    · exact h

/-- the three ways `createOn` ends: the name is taken on one of the grids (nothing done); a grid is
    rejected half-way (what was registered stays, not clustered); all grids registered and clustered -/
theorem createOn_cases (e : Env) (s : State) (name : Nat) (dof : List (Nat × Nat)) (isSub : Bool)
    (gs : List Nat) :
    createOn e s name dof isSub gs = (s, .error .key) ∨
    s.vars.any (fun v => v.name == name && gs.contains v.grid) = false ∧
      ((∃ err, (addLoop e name dof isSub s gs).2 = some err ∧
          createOn e s name dof isSub gs = ((addLoop e name dof isSub s gs).1, .error err)) ∨
       ((addLoop e name dof isSub s gs).2 = none ∧
          ∃ r, createOn e s name dof isSub gs = (cluster e (addLoop e name dof isSub s gs).1, r))) := by
  rw [createOn]
  by_cases hany : (s.vars.any fun v => v.name == name && gs.contains v.grid) = true
  · rw [if_pos hany]
    exact Or.inl rfl
  · rw [if_neg hany]
    refine Or.inr ⟨Bool.eq_false_iff.mpr hany, ?_⟩
    rcases addLoop e name dof isSub s gs with ⟨s', _ | err⟩
    · exact Or.inr ⟨rfl, by dsimp only; split <;> exact ⟨_, rfl⟩⟩
    · exact Or.inl ⟨err, rfl, rfl⟩

theorem create_cases (e : Env) (s : State) (name : Nat) (dof : List (Nat × Nat))
    (subs intfs : Option (List Nat)) :
    create e s name dof subs intfs = (s, .error .value) ∨
    ∃ isSub g, subs = (bif isSub then some g else none) ∧ intfs = (bif isSub then none else some g) ∧
      create e s name dof subs intfs = createOn e s name dof isSub g := by
  unfold create
  split
  · exact Or.inl rfl
  · split
    · next g => exact Or.inr ⟨true, g, rfl, rfl, rfl⟩
    · next g => exact Or.inr ⟨false, g, rfl, rfl, rfl⟩
    · exact Or.inl rfl

theorem createOn_inv (e : Env) (hn : e.order.Nodup) (s : State) (name : Nat) (dof : List (Nat × Nat))
    (isSub : Bool) (gs : List Nat) (h : Inv e s) : Inv e (createOn e s name dof isSub gs).1 := by
  have ha := addLoop_inv e name dof isSub gs s h
  rcases createOn_cases e s name dof isSub gs with hc | ⟨_, ⟨_, _, hc⟩ | ⟨_, _, hc⟩⟩ <;> rw [hc]
  · exact h
  · exact ha
  · exact cluster_inv e hn _ ha.pre

theorem create_inv (e : Env) (hn : e.order.Nodup) (s : State) (name : Nat) (dof : List (Nat × Nat))
    (subs intfs : Option (List Nat)) (h : Inv e s) : Inv e (create e s name dof subs intfs).1 := by
  rcases create_cases e s name dof subs intfs with hc | ⟨isSub, g, _, _, hc⟩ <;> rw [hc]
  · exact h
  · exact createOn_inv e hn s name dof isSub g h

/-- what every round of `remove_variables` preserves, the whole call preserves (also when it raises) -/
theorem removeLoop_induction (e : Env) (P : State → Prop)
    (hpop : ∀ s i, P s → P (cluster e (popVar s i))) (ids : List Nat) (s : State) (h : P s) :
    P (removeLoop e s ids).1 := by
  induction ids generalizing s with
  | nil => exact h
  | cons i r ih =>
    rw [removeLoop]
    split
    · exact ih _ (hpop s i h)
    · exact h

theorem removeLoop_inv (e : Env) (hn : e.order.Nodup) (ids : List Nat) (s : State) (h : Inv e s) :
    Inv e (removeLoop e s ids).1 :=
  removeLoop_induction e (Inv e) (fun s i h => cluster_inv e hn _ (pop_preinv e s i h.pre)) ids s h

theorem setValsIds_fst (s : State) (values : List Rat) (sel : List Nat)
    (slots : Except Err (List (Bool × Nat))) (additive : Bool) :
    (setValsIds s values sel slots additive).1 =
      { s with store := (setLoop s.vars s.sizes sel slots additive values s.store 0 s.numbers).1 } := by
  unfold setValsIds
  split <;> rename_i heq <;> rw [heq]

theorem setValsIds_snd_ok (s : State) (values : List Rat) (sel : List Nat)
    (slots : Except Err (List (Bool × Nat))) (additive : Bool)
    (h : (setLoop s.vars s.sizes sel slots additive values s.store 0 s.numbers).2 = .ok values.length) :
    (setValsIds s values sel slots additive).2 = .ok () := by
  unfold setValsIds
  split <;> rename_i heq <;> rw [heq] at h
  · cases h
  · cases h
    exact if_pos rfl

theorem setValsIds_inv (e : Env) (s : State) (values : List Rat) (sel : List Nat)
    (slots : Except Err (List (Bool × Nat))) (additive : Bool) (h : Inv e s) :
    Inv e (setValsIds s values sel slots additive).1 := by
  rw [setValsIds_fst]
  exact inv_store e s _ h

theorem identify_ok {e : Env} {s : State} (h : Inv e s) (d : Nat) (hd : d < numDofs s) :
    ∃ v ∈ s.vars, ∃ b, identify s (d : Int) = .ok v.id ∧ numberOf s.numbers v.id = some b ∧
      b < s.sizes.length ∧ cum s.sizes b ≤ d ∧ d < cum s.sizes (b + 1) := by
  obtain ⟨k, hk1, hk2, hk3, hk4⟩ := firstGt_cumList s.sizes 0 d (Nat.zero_le _) (by rwa [Nat.zero_add])
  rw [Nat.zero_add] at hk3 hk4
  have hklen : k < (s.numbers.map (·.1)).length := by rwa [List.length_map, ← h.sizesLen]
  obtain ⟨v, hv, hvid⟩ := List.mem_map.mp (h.perm.mem_iff.mp (List.getElem_mem hklen))
  have hnum : numberOf s.numbers v.id = some k := hvid ▸ inv_numberOf_idx h k hklen
  refine ⟨v, hv, k, ?_, hnum, hk2, hk3, hk4⟩
  have hr : (0 ≤ (d : Int) ∧ (d : Int) < (numDofs s : Int)) := ⟨Int.natCast_nonneg d, Int.ofNat_lt.mpr hd⟩
  -- block number `k` belongs to `v.id` alone, and `v.id` to `v` alone
  have hf : s.numbers.filter (fun p => decide ((p.2 : Int) = ((k + 1 : Nat) : Int) - 1)) = [(v.id, k)] :=
    filter_eq_singleton (fun p : Nat × Nat => p.2) _ s.numbers
      (by rw [h.numbered, map_snd_numberFrom]; exact List.nodup_range')
      (v.id, k) (mem_of_numberOf _ _ _ hnum) (fun p _ => by
        rw [decide_eq_true_iff, Int.natCast_add, Int.natCast_one, Int.add_sub_cancel, Int.natCast_inj])
  have hg : s.vars.filter (fun w => w.id == v.id) = [v] :=
    filter_eq_singleton (fun w : Var => w.id) _ s.vars (h.idsLt.imp Nat.ne_of_lt) v hv (fun w _ => beq_iff_eq)
  rw [identify, if_neg (not_not_intro hr), hk1]
  simp only [Option.getD_some, hf, List.map_cons, List.map_nil, hg]

theorem perm_isort (l : List Nat) : (isort l).Perm l := insSort.perm l

theorem sorted_isort (l : List Nat) : (isort l).Pairwise (· ≤ ·) := insSort.sorted l

theorem strict_of_sorted_nodup (l : List Nat) (h : l.Pairwise (· ≤ ·)) (hn : l.Nodup) :
    l.Pairwise (· < ·) :=
  Common.strict_of_sorted_nodup h hn

theorem owns_unique {e : Env} {s : State} (h : Inv e s) (i i' d : Nat) (h1 : owns s i d) (h2 : owns s i' d) :
    i = i' := by
  obtain ⟨b, hb, l1, u1⟩ := h1
  obtain ⟨b', hb', l2, u2⟩ := h2
  -- a block ends before a later block begins
  have key : ∀ a c, a < c → d < cum s.sizes (a + 1) → ¬ cum s.sizes c ≤ d := fun a c hac hu hl =>
    Nat.lt_irrefl d (Nat.lt_of_lt_of_le hu (Nat.le_trans (cum_mono s.sizes (a + 1) c hac) hl))
  have hbb : b = b' := by
    rcases Nat.lt_trichotomy b b' with hlt | heq | hgt
    · exact absurd l2 (key b b' hlt u1)
    · exact heq
    · exact absurd l1 (key b' b hgt u2)
  subst hbb
  exact Option.some.inj ((inv_key_of_number h hb).2.symm.trans (inv_key_of_number h hb').2)

theorem nodup_dofsOfIds {e : Env} {s : State} (hI : Inv e s) (sel l : List Nat) (hn : sel.Nodup)
    (h : dofsOfIds s sel = .ok l) : l.Nodup := by
  induction sel generalizing l with
  | nil =>
    cases h
    simp
  | cons i r ih =>
    obtain ⟨b, l', hb, hr, rfl⟩ := dofsOfIds_cons_ok s i r l h
    rw [List.nodup_append]
    refine ⟨List.nodup_range' 1, ih l' (List.nodup_cons.mp hn).2 hr, ?_⟩
    intro x hx y hy hxy
    subst hxy
    obtain ⟨j, hj, ho⟩ := (mem_dofsOfIds s r l' hr x).mp hy
    have hx' := (mem_blockRange s.sizes b x).mp hx
    have : i = j := owns_unique hI i j x ⟨b, hb, hx'.1, hx'.2⟩ ho
    subst this
    exact (List.nodup_cons.mp hn).1 hj

theorem dofsOfIds_isOk (s : State) (sel : List Nat) (h : ∀ i ∈ sel, i ∈ s.numbers.map (·.1)) :
    ∃ l, dofsOfIds s sel = .ok l := by
  induction sel with
  | nil => exact ⟨[], rfl⟩
  | cons i r ih =>
    obtain ⟨l', hl'⟩ := ih (fun j hj => h j (List.mem_cons_of_mem _ hj))
    obtain ⟨b, hb⟩ := exists_numberOf s.numbers i (h i List.mem_cons_self)
    exact ⟨blockRange s.sizes b ++ l', by simp [dofsOfIds, hb, hl']⟩

theorem pairwise_idxOf_lt (l : List Nat) (hn : l.Nodup) :
    l.Pairwise (fun a b => l.idxOf a < l.idxOf b) := by
  rw [List.pairwise_iff_getElem]
  intro i j hi hj hij
  rw [hn.idxOf_getElem i hi, hn.idxOf_getElem j hj]
  exact hij

theorem clusterOrder_pairwise (e : Env) (hn : e.order.Nodup) (vars : List Var)
    (hp : (vars.map (·.id)).Pairwise (· < ·)) :
    (clusterOrder e vars).Pairwise (fun v w =>
      gridPos e v.grid < gridPos e w.grid ∨ (v.grid = w.grid ∧ v.id < w.id)) := by
  rw [clusterOrder_eq_flatMap, List.pairwise_flatMap]
  constructor
  · intro g _
    have hp' : vars.Pairwise (fun a b => a.id < b.id) := List.pairwise_map.mp hp
    refine List.Pairwise.imp_of_mem ?_ (hp'.filter _)
    intro a b ha hb hab
    have ga : a.grid = g := by simpa using (List.mem_filter.mp ha).2
    have gb : b.grid = g := by simpa using (List.mem_filter.mp hb).2
    exact Or.inr ⟨ga.trans gb.symm, hab⟩
  · refine (pairwise_idxOf_lt _ hn).imp ?_
    intro g1 g2 hlt x hx y hy
    have gx : x.grid = g1 := by simpa using (List.mem_filter.mp hx).2
    have gy : y.grid = g2 := by simpa using (List.mem_filter.mp hy).2
    left
    rw [gridPos, gridPos, gx, gy]
    exact hlt

theorem clustered_cluster (e : Env) (s : State) : Clustered e (cluster e s) := by
  simp [Clustered, cluster]

theorem addLoop_known (e : Env) (name : Nat) (dof : List (Nat × Nat)) (isSub : Bool) (gs : List Nat)
    (s : State) (hk : ∀ g ∈ gs, g ∈ (if isSub then e.subs else e.intfs)) :
    (addLoop e name dof isSub s gs).2 = none := by
  induction gs generalizing s with
  | nil => rfl
  | cons g gs ih =>
    rw [addLoop, if_pos (hk g List.mem_cons_self)]
    exact ih _ (fun x hx => hk x (List.mem_cons_of_mem _ hx))

theorem createOn_clustered (e : Env) (s : State) (name : Nat) (dof : List (Nat × Nat)) (isSub : Bool)
    (gs : List Nat) (hk : ∀ g ∈ gs, g ∈ (if isSub then e.subs else e.intfs)) (h : Clustered e s) :
    Clustered e (createOn e s name dof isSub gs).1 := by
  rcases createOn_cases e s name dof isSub gs with hc | ⟨_, ⟨err, herr, _⟩ | ⟨_, _, hc⟩⟩
  · rw [hc]; exact h
  · rw [addLoop_known e name dof isSub gs s hk] at herr
    cases herr
  · rw [hc]; exact clustered_cluster e _

theorem removeLoop_clustered (e : Env) (ids : List Nat) (s : State) (h : Clustered e s) :
    Clustered e (removeLoop e s ids).1 :=
  removeLoop_induction e (Clustered e) (fun _ _ _ => clustered_cluster e _) ids s h

theorem clustered_store (e : Env) (s : State) (st : Store) (h : Clustered e s) :
    Clustered e { s with store := st } := h

theorem addLoop_keys (e : Env) (name : Nat) (dof : List (Nat × Nat)) (isSub : Bool) (gs : List Nat)
    (s : State) (hK : KeysUnique s) (hfree : ∀ v ∈ s.vars, v.name = name → v.grid ∉ gs)
    (hn : gs.Nodup) : KeysUnique (addLoop e name dof isSub s gs).1 := by
  induction gs generalizing s with
  | nil => exact hK
  | cons g gs ih =>
    rcases addLoop_cons e name dof isSub s g gs with ⟨_, hc⟩ | hc <;> rw [hc]
    · obtain ⟨hg, hn'⟩ := List.nodup_cons.mp hn
      refine ih _ ?_ ?_ hn'
      · show (s.vars ++ [_]).Pairwise _
        rw [List.pairwise_append]
        refine ⟨hK, List.pairwise_singleton _ _, ?_⟩
        intro v hv w hw ⟨h1, h2⟩
        obtain rfl := List.mem_singleton.mp hw
        exact hfree v hv h1 (h2 ▸ List.mem_cons_self)
      · intro v hv hname
        rcases List.mem_append.mp hv with hv | hv
        · exact fun hm => hfree v hv hname (List.mem_cons_of_mem _ hm)
        · obtain rfl := List.mem_singleton.mp hv
          exact hg
    · exact hK

theorem keys_cluster (e : Env) (s : State) (h : KeysUnique s) : KeysUnique (cluster e s) := h

theorem createOn_keys (e : Env) (s : State) (name : Nat) (dof : List (Nat × Nat)) (isSub : Bool)
    (gs : List Nat) (hn : gs.Nodup) (h : KeysUnique s) : KeysUnique (createOn e s name dof isSub gs).1 := by
  rcases createOn_cases e s name dof isSub gs with hc | ⟨hany, hc⟩
  · rw [hc]; exact h
  · have hfree : ∀ v ∈ s.vars, v.name = name → v.grid ∉ gs := by
      intro v hv hname hm
      have := List.any_eq_false.mp hany v hv
      simp [hname, hm] at this
    have ha := addLoop_keys e name dof isSub gs s h hfree hn
    rcases hc with ⟨_, _, hc⟩ | ⟨_, _, hc⟩ <;> rw [hc]
    · exact ha
    · exact keys_cluster e _ ha

theorem removeLoop_keys (e : Env) (ids : List Nat) (s : State) (h : KeysUnique s) :
    KeysUnique (removeLoop e s ids).1 :=
  removeLoop_induction e KeysUnique
    (fun s i h => keys_cluster e (popVar s i) (List.Pairwise.sublist List.filter_sublist h)) ids s h

theorem findVar_of_mem_ids (vars : List Var) (i : Nat) (h : i ∈ vars.map (·.id)) :
    ∃ v, findVar vars i = some v := by
  obtain ⟨v, hv, hvi⟩ := List.mem_map.mp h
  rw [findVar_eq_find?]
  exact Option.isSome_iff_exists.mp (List.find?_isSome.mpr ⟨v, hv, beq_iff_eq.mpr hvi⟩)

/-- set-then-get on the level of the two loops, overwrite (`a = false`) and additive (`a = true`) -/
theorem set_get_loop (vars : List Var) (sizes sel : List Nat) (sl : List (Bool × Nat)) (a : Bool)
    (values : List Rat) (slot : Bool × Nat) (hsl : sl.Nodup) (hslot : slot ∈ sl)
    (nums : List (Nat × Nat)) (hfind : ∀ p ∈ nums, p.1 ∈ sel → ∃ v, findVar vars p.1 = some v)
    (hkeys : nums.Pairwise (fun p q => ∀ v w, findVar vars p.1 = some v → findVar vars q.1 = some w →
      ∀ s1 s2, keyOf v s1 ≠ keyOf w s2))
    (st : Store) (start : Nat) (hlen : start + selSize sizes sel nums ≤ values.length) (old : List Rat)
    (hadd : a = true → ∀ p ∈ nums, p.1 ∈ sel → ∀ v, findVar vars p.1 = some v → ∀ s' ∈ sl,
      ∃ o, st (keyOf v s') = some o ∧ o.length = sizes.getD p.2 0)
    (hold : a = true → getLoop vars st sel (.ok slot) nums = .ok old) :
    (setLoop vars sizes sel (.ok sl) a values st start nums).2 = .ok (start + selSize sizes sel nums) ∧
    getLoop vars (setLoop vars sizes sel (.ok sl) a values st start nums).1 sel (.ok slot) nums =
      .ok (if a then List.zipWith (· + ·) old ((values.drop start).take (selSize sizes sel nums))
           else (values.drop start).take (selSize sizes sel nums)) := by
  induction nums generalizing st start old with
  | nil =>
    refine ⟨rfl, ?_⟩
    show Except.ok [] = Except.ok (if a then List.zipWith (· + ·) old ((values.drop start).take 0)
      else (values.drop start).take 0)
    rw [List.take_zero, List.zipWith_nil_right, ite_self]
  | cons p rest ih =>
    obtain ⟨hhead, hkeys'⟩ := List.pairwise_cons.mp hkeys
    have IH := ih (fun q hq => hfind q (List.mem_cons_of_mem _ hq)) hkeys'
    by_cases hp : p.1 ∈ sel
    · obtain ⟨v, hv⟩ := hfind p List.mem_cons_self hp
      have hss := selSize_cons_pos (sizes := sizes) (r := rest) hp
      generalize hn : sizes.getD p.2 0 = n at hss
      rw [hss, ← Nat.add_assoc] at hlen
      have hloclen : ((values.drop start).take n).length = n := by
        rw [List.length_take, List.length_drop]
        exact Nat.min_eq_left (Nat.le_sub_of_add_le' (Nat.le_trans (Nat.le_add_right _ _) hlen))
      have hW := writeSlots_spec v a ((values.drop start).take n) sl hsl st (by
        intro ha s' hs'
        obtain ⟨o, ho, hol⟩ := hadd ha p List.mem_cons_self hp v hv s' hs'
        exact ⟨o, ho, by rw [hol, hn, hloclen]⟩)
      have hstep := setLoop_cons_pos (rest := rest) hp hv (hn ▸ hW.1)
      rw [hn] at hstep
      generalize hst1 : (writeSlots st v a ((values.drop start).take n) sl).1 = st1 at hstep hW
      have hfr1 : ∀ q ∈ rest, ∀ w, findVar vars q.1 = some w → ∀ s', st1 (keyOf w s') = st (keyOf w s') := by
        intro q hq w hw s'
        rw [← hst1]
        exact writeSlots_frame v a _ sl st _ (fun s2 _ => (hhead q hq v w hv hw s2 s').symm)
      -- the old values split into those of the head block and those of the tail
      obtain ⟨oldr, holdr, hsplit⟩ : ∃ oldr, (a = true → getLoop vars st sel (.ok slot) rest = .ok oldr) ∧
          (a = true → ∃ o, st (keyOf v slot) = some o ∧ o.length = n ∧ old = o ++ oldr) := by
        cases a with
        | false => exact ⟨[], nofun, nofun⟩
        | true =>
          obtain ⟨o, ho, hol⟩ := hadd rfl p List.mem_cons_self hp v hv slot hslot
          obtain ⟨oldr, h1, h2⟩ := getLoop_ok_cons hp hv ho (hold rfl)
          exact ⟨oldr, fun _ => h1, fun _ => ⟨o, ho, hol.trans hn, h2⟩⟩
      obtain ⟨IH1, IH2⟩ := IH st1 (start + n) hlen oldr
        (fun ha q hq hqs w hw s' hs' => by
          rw [hfr1 q hq w hw s']
          exact hadd ha q (List.mem_cons_of_mem _ hq) hqs w hw s' hs')
        (fun ha => by
          rw [getLoop_congr vars sel slot st1 st rest (fun q hq _ w hw => hfr1 q hq w hw slot)]
          exact holdr ha)
      rw [hstep]
      generalize hR : setLoop vars sizes sel (.ok sl) a values st1 (start + n) rest = R at IH1 IH2
      refine ⟨by rw [IH1, hss, Nat.add_assoc], ?_⟩
      -- the head's slot survives the writes of the tail
      have hhead : R.1 (keyOf v slot) = st1 (keyOf v slot) := by
        rw [← hR]
        exact setLoop_frame _ _ _ _ _ _ _ _ _ _ (fun q hq _ w hw _ _ s' _ => hhead q hq v w hv hw slot s')
      rw [getLoop_cons_pos hp hv (hhead.trans (hW.2 slot hslot)), IH2, hss,
        List.take_add, List.drop_drop]
      cases a with
      | false => rfl
      | true =>
        obtain ⟨o, hc1, hc2, hc4⟩ := hsplit rfl
        show Except.ok (_ ++ _) = Except.ok _
        rw [hc1, hc4, List.zipWith_append (hc2.trans hloclen.symm)]
        rfl
    · have hss := selSize_cons_neg (sizes := sizes) (r := rest) hp
      rw [setLoop_cons_neg hp, hss]
      rw [hss] at hlen
      obtain ⟨IH1, IH2⟩ := IH st start hlen old (fun ha q hq => hadd ha q (List.mem_cons_of_mem _ hq))
        (fun ha => by rw [← getLoop_cons_neg hp]; exact hold ha)
      exact ⟨IH1, by rw [getLoop_cons_neg hp]; exact IH2⟩

theorem inv_findVar {e : Env} {s : State} (h : Inv e s) :
    ∀ p ∈ s.numbers, ∃ v, findVar s.vars p.1 = some v := by
  intro p hp
  exact findVar_of_mem_ids _ _ (h.perm.mem_iff.mp (List.mem_map.mpr ⟨p, hp, rfl⟩))

/-- different registered variables have different storage keys, whatever the slots -/
theorem inv_keyOf_ne {s : State} (hK : KeysUnique s) (i j : Nat) (hij : i ≠ j)
    (v w : Var) (hv : findVar s.vars i = some v) (hw : findVar s.vars j = some w) (a b : Bool × Nat) :
    keyOf v a ≠ keyOf w b := by
  obtain ⟨hv1, hv2⟩ := findVar_some _ _ _ hv
  obtain ⟨hw1, hw2⟩ := findVar_some _ _ _ hw
  have hK' : s.vars.Pairwise (fun v w => ¬ (v.name = w.name ∧ v.grid = w.grid)) := hK
  -- the relation is symmetric, so it holds of any two different registered variables
  have h1 : s.vars.Pairwise (fun a b => a ≠ b → ¬ (a.name = b.name ∧ a.grid = b.grid)) :=
    hK'.imp (fun {a b} h (_ : a ≠ b) => h)
  have h2 : s.vars.Pairwise (fun a b => b ≠ a → ¬ (b.name = a.name ∧ b.grid = a.grid)) :=
    hK'.imp (fun {a b} h (_ : b ≠ a) hba => h ⟨hba.1.symm, hba.2.symm⟩)
  intro he
  have hk := (keyOf_eq_iff v w a b).mp he
  exact List.Pairwise.forall_of_forall_of_flip (fun a _ h => absurd rfl h) h1 h2 hv1 hw1
    (fun e => hij (hv2.symm.trans ((congrArg Var.id e).trans hw2))) ⟨hk.2.1, hk.1⟩

theorem inv_size_of_block {e : Env} {s : State} (h : Inv e s) (p : Nat × Nat) (hp : p ∈ s.numbers)
    (v : Var) (hv : findVar s.vars p.1 = some v) : s.sizes.getD p.2 0 = varSize e v := by
  obtain ⟨hv1, hv2⟩ := findVar_some _ _ _ hv
  rw [← h.sizeOk v hv1, sizeOf_of_numberOf (hv2 ▸ numberOf_of_mem _ (inv_nodup_ids h) p hp)]

theorem setValsIds_get {e : Env} {s : State} (hI : Inv e s) (hK : KeysUnique s) (sel : List Nat)
    (values : List Rat) (sl : List (Bool × Nat)) (a : Bool) (hsl : sl.Nodup) (slot : Bool × Nat)
    (hslot : slot ∈ sl) (hlen : values.length = selectedSize s sel) (old : List Rat)
    (hstored : a = true → ∀ v ∈ s.vars, v.id ∈ sel → ∀ s' ∈ sl,
      ∃ o, s.store (keyOf v s') = some o ∧ o.length = varSize e v)
    (hold : a = true → getValsIds s sel (.ok slot) = .ok old) :
    (setValsIds s values sel (.ok sl) a).2 = .ok () ∧
    getValsIds (setValsIds s values sel (.ok sl) a).1 sel (.ok slot) =
      .ok (if a then List.zipWith (· + ·) old values else values) := by
  have key := set_get_loop s.vars s.sizes sel sl a values slot hsl hslot s.numbers
    (fun p hp _ => inv_findVar hI p hp)
    ((List.pairwise_map.mp (inv_nodup_ids hI)).imp (fun hpq v w hv hw => inv_keyOf_ne hK _ _ hpq v w hv hw))
    s.store 0 (by rw [Nat.zero_add, ← selectedSize_eq, hlen]; exact Nat.le_refl _) old
    (by
      intro ha p hp hps v hv s' hs'
      obtain ⟨hv1, hv2⟩ := findVar_some _ _ _ hv
      obtain ⟨o, ho, hol⟩ := hstored ha v hv1 (hv2 ▸ hps) s' hs'
      exact ⟨o, ho, by rw [hol, inv_size_of_block hI p hp v hv]⟩)
    hold
  rw [← selectedSize_eq, ← hlen, Nat.zero_add, List.drop_zero, List.take_length] at key
  rw [getValsIds, setValsIds_fst]
  exact ⟨setValsIds_snd_ok s values sel _ a key.1, key.2⟩

theorem selIdx_eq_flatMap (sizes sel : List Nat) (nums : List (Nat × Nat)) (hn : (nums.map (·.1)).Nodup) :
    selIdx sizes sel nums =
      ((nums.map (·.1)).filter (fun i => i ∈ sel)).flatMap
        (fun i => blockRange sizes ((numberOf nums i).getD 0)) := by
  unfold selIdx
  rw [show (nums.map (·.1)).filter (fun i => decide (i ∈ sel))
      = (nums.filter (fun p => decide (p.1 ∈ sel))).map (·.1) from by rw [List.filter_map]; rfl]
  rw [List.flatMap_map, List.flatMap_def, List.flatMap_def]
  congr 1
  apply List.map_congr_left
  intro p hp
  rw [numberOf_of_mem nums hn p (List.mem_filter.mp hp).1]
  rfl

/-- `np.sort(dofs_of(sel))` is the list of selected indices in block order -/
theorem isort_dofs_eq_selIdx {e : Env} {s : State} (hI : Inv e s) (sel l : List Nat) (hsel : sel.Nodup)
    (hreg : ∀ i ∈ sel, i ∈ s.numbers.map (·.1)) (hl : dofsOfIds s sel = .ok l) :
    isort l = selIdx s.sizes sel s.numbers := by
  have hn := inv_nodup_ids hI
  apply List.Perm.eq_of_pairwise (le := (· ≤ ·))
  · intro a b _ _ h1 h2; exact Nat.le_antisymm h1 h2
  · exact sorted_isort l
  · refine selIdx_sorted _ _ _ (List.pairwise_map.mp ?_)
    rw [hI.numbered, map_snd_numberFrom]
    exact List.pairwise_lt_range'
  · refine (perm_isort l).trans ?_
    rw [(dofsOfIds_eq_flatMap s sel l hl).2, selIdx_eq_flatMap s.sizes sel s.numbers hn]
    apply List.Perm.flatMap_right
    rw [List.perm_ext_iff_of_nodup hsel (hn.filter _)]
    intro i
    simp only [List.mem_filter, decide_eq_true_eq]
    exact ⟨fun h => ⟨hreg i h, h⟩, fun h => h.2⟩

theorem cluster_canonical (e : Env) (s : State) (h : PreInv e s) : Canonical e (cluster e s) := by
  refine ⟨rfl, ?_⟩
  show (clusterOrder e s.vars).map (fun v => sizeOf s v.id) = (clusterOrder e s.vars).map (varSize e)
  apply List.map_congr_left
  intro v hv
  exact h.sizeOk v ((mem_clusterOrder e s.vars v).mp hv).1

theorem state_ext (a b : State) (h1 : a.vars = b.vars) (h2 : a.numbers = b.numbers) (h3 : a.sizes = b.sizes)
    (h4 : a.store = b.store) (h5 : a.next = b.next) : a = b := by
  cases a; cases b; simp_all

theorem removeLoop_cons_pos (e : Env) (s : State) (i : Nat) (r : List Nat)
    (h : s.vars.any (fun v => v.id == i) = true) :
    removeLoop e s (i :: r) = removeLoop e (cluster e (popVar s i)) r := by
  rw [removeLoop, if_pos h]; rfl

theorem any_of_registered (s : State) (i : Nat) (h : i ∈ s.vars.map (·.id)) :
    s.vars.any (fun v => v.id == i) = true := by
  obtain ⟨v, hv, hvi⟩ := List.mem_map.mp h
  rw [List.any_eq_true]
  exact ⟨v, hv, by simp [hvi]⟩

theorem registered_after_pop (e : Env) (s : State) (i j : Nat) (hji : j ≠ i) (h : j ∈ s.vars.map (·.id)) :
    j ∈ (cluster e (popVar s i)).vars.map (·.id) := by
  obtain ⟨v, hv, hvj⟩ := List.mem_map.mp h
  exact List.mem_map.mpr ⟨v, List.mem_filter.mpr ⟨hv, by simp [hvj, hji]⟩, hvj⟩

theorem removeLoop_spec (e : Env) (hn : e.order.Nodup) (ids : List Nat) (s : State) (hI : Inv e s)
    (hnd : ids.Nodup) (hreg : ∀ i ∈ ids, i ∈ s.vars.map (·.id)) :
    (removeLoop e s ids).2 = .ok () ∧
    (removeLoop e s ids).1.vars = s.vars.filter (fun v => !(ids.contains v.id)) ∧
    (ids ≠ [] → Canonical e (removeLoop e s ids).1) ∧
    (removeLoop e s ids).1.store = s.store ∧ (removeLoop e s ids).1.next = s.next := by
  induction ids generalizing s with
  | nil =>
    refine ⟨rfl, ?_, absurd rfl, rfl, rfl⟩
    exact (List.filter_eq_self.mpr (fun _ _ => rfl)).symm
  | cons i r ih =>
    rw [removeLoop_cons_pos e s i r (any_of_registered s i (hreg i List.mem_cons_self))]
    have hpre : PreInv e (popVar s i) := pop_preinv e s i hI.pre
    obtain ⟨hi, hnd'⟩ := List.nodup_cons.mp hnd
    obtain ⟨hok, hvars, hcan, hstore, hnext⟩ := ih _ (cluster_inv e hn _ hpre) hnd'
      (fun j hj => registered_after_pop e s i j (fun e => hi (e ▸ hj)) (hreg j (List.mem_cons_of_mem _ hj)))
    refine ⟨hok, ?_, fun _ => ?_, hstore, hnext⟩
    · rw [hvars]
      show (s.vars.filter (fun v => v.id != i)).filter _ = _
      rw [List.filter_filter]
      apply List.filter_congr
      intro v _
      by_cases h : v.id = i <;> simp [h]
    · -- the last round ends with a clustering
      by_cases hr : r = []
      · rw [hr]
        exact cluster_canonical e _ hpre
      · exact hcan hr

/-- a call that does not raise has removed its variables one by one -/
theorem seqRemove_eq (e : Env) (ids : List Nat) (s : State) (h : (removeLoop e s ids).2 = .ok ()) :
    seqRemove e s ids = (removeLoop e s ids).1 := by
  induction ids generalizing s with
  | nil => rfl
  | cons i r ih =>
    by_cases hany : s.vars.any (fun v => v.id == i) = true
    · have h1 : (removeLoop e s [i]).1 = cluster e (popVar s i) := by
        rw [removeLoop_cons_pos e s i [] hany]; rfl
      rw [removeLoop_cons_pos e s i r hany] at h ⊢
      show seqRemove e (removeLoop e s [i]).1 r = _
      rw [h1]
      exact ih _ h
    · rw [removeLoop, if_neg hany] at h
      cases h

theorem removeLoop_perm (e : Env) (hn : e.order.Nodup) (s : State) (hI : Inv e s) (ids ids' : List Nat)
    (hp : ids.Perm ids') (hnd : ids.Nodup) (hreg : ∀ i ∈ ids, i ∈ s.vars.map (·.id)) :
    (removeLoop e s ids).1 = (removeLoop e s ids').1 := by
  by_cases hnil : ids = []
  · subst hnil
    rw [← hp.nil_eq]
  · obtain ⟨_, avars, acan, astore, anext⟩ := removeLoop_spec e hn ids s hI hnd hreg
    obtain ⟨_, bvars, bcan, bstore, bnext⟩ := removeLoop_spec e hn ids' s hI (hp.nodup_iff.mp hnd)
      (fun i hi => hreg i (hp.mem_iff.mpr hi))
    have acan := acan hnil
    have bcan := bcan (fun e => hnil (e ▸ hp).eq_nil)
    have hv : (removeLoop e s ids).1.vars = (removeLoop e s ids').1.vars := by
      rw [avars, bvars]
      exact List.filter_congr (fun v _ => by rw [hp.contains_eq])
    apply state_ext _ _ hv
    · rw [acan.1, bcan.1, hv]
    · rw [acan.2, bcan.2, hv]
    · rw [astore, bstore]
    · rw [anext, bnext]

theorem updateLoop_spec (e : Env) (numbers : List (Nat × Nat)) (l : List Var) (sizes : List Nat)
    (hd : l.Pairwise (fun v w => (numberOf numbers v.id).getD 0 ≠ (numberOf numbers w.id).getD 0))
    (hlt : ∀ v ∈ l, (numberOf numbers v.id).getD 0 < sizes.length) :
    (updateLoop e numbers sizes l).length = sizes.length ∧
    (∀ v ∈ l, (updateLoop e numbers sizes l).getD ((numberOf numbers v.id).getD 0) 0 = varSize e v) ∧
    (∀ k, (∀ v ∈ l, (numberOf numbers v.id).getD 0 ≠ k) →
      (updateLoop e numbers sizes l).getD k 0 = sizes.getD k 0) := by
  induction l generalizing sizes with
  | nil => exact ⟨rfl, by simp, fun _ _ => rfl⟩
  | cons v r ih =>
    obtain ⟨hv, hr⟩ := List.pairwise_cons.mp hd
    have hlen : (sizes.set ((numberOf numbers v.id).getD 0) (varSize e v)).length = sizes.length :=
      List.length_set
    obtain ⟨i1, i2, i3⟩ := ih (sizes.set ((numberOf numbers v.id).getD 0) (varSize e v)) hr
      (fun w hw => by rw [hlen]; exact hlt w (List.mem_cons_of_mem _ hw))
    refine ⟨by rw [updateLoop, i1, hlen], ?_, ?_⟩
    · intro w hw
      rw [updateLoop]
      rcases List.mem_cons.mp hw with rfl | hw
      · rw [i3 _ (fun u hu => (hv u hu).symm), List.getD_eq_getElem?_getD,
          List.getElem?_set_self (hlt w List.mem_cons_self)]
        rfl
      · exact i2 w hw
    · intro k hk
      rw [updateLoop, i3 k (fun u hu => hk u (List.mem_cons_of_mem _ hu))]
      rw [List.getD_eq_getElem?_getD, List.getElem?_set_ne (hk v List.mem_cons_self),
        ← List.getD_eq_getElem?_getD]

theorem inv_numbers_distinct {e : Env} {s : State} (h : Inv e s) :
    s.vars.Pairwise (fun v w => (numberOf s.numbers v.id).getD 0 ≠ (numberOf s.numbers w.id).getD 0) := by
  have hp : s.vars.Pairwise (fun a b => a.id < b.id) := List.pairwise_map.mp h.idsLt
  refine List.Pairwise.imp_of_mem ?_ hp
  intro v w hv hw hlt heq
  obtain ⟨b, hb, _, _, hb3⟩ := inv_numberOf_of_mem h v hv
  obtain ⟨b', hb', _, _, hb3'⟩ := inv_numberOf_of_mem h w hw
  rw [hb, hb'] at heq
  simp only [Option.getD_some] at heq
  subst heq
  rw [hb3] at hb3'
  have := Option.some.inj hb3'
  omega

/-- After the grids were refined / coarsened (same md-grid listing, other entity counts),
    `update_variable_num_dofs` re-establishes the layout invariant for the new grid. -/
theorem updateNumDofs_inv (e e' : Env) (hs : e'.subs = e.subs) (hi : e'.intfs = e.intfs) (s : State)
    (h : Inv e s) : Inv e' (updateNumDofs e' s) := by
  have hlt : ∀ v ∈ s.vars, (numberOf s.numbers v.id).getD 0 < s.sizes.length := by
    intro v hv
    obtain ⟨b, hb, hblt, _⟩ := inv_numberOf_of_mem h v hv
    rw [hb]; exact hblt
  obtain ⟨u1, u2, _⟩ := updateLoop_spec e' s.numbers s.vars s.sizes (inv_numbers_distinct h) hlt
  refine ⟨h.numbered, h.perm, h.idsLt, h.fresh, ?_, ?_, ?_⟩
  · show (updateLoop e' s.numbers s.sizes s.vars).length = s.numbers.length
    rw [u1, h.sizesLen]
  · intro v hv
    rw [hs, hi]; exact h.kindOk v hv
  · intro v hv
    exact u2 v hv

theorem create_ok_clustered (e : Env) (s : State) (name : Nat) (dof : List (Nat × Nat))
    (subs intfs : Option (List Nat)) (ids : List Nat)
    (h : (create e s name dof subs intfs).2 = .ok ids) : Clustered e (create e s name dof subs intfs).1 := by
  rcases create_cases e s name dof subs intfs with hc | ⟨isSub, g, _, _, hc⟩ <;> rw [hc] at h ⊢
  · cases h
  · rcases createOn_cases e s name dof isSub g with hc | ⟨_, ⟨_, _, hc⟩ | ⟨_, _, hc⟩⟩ <;> rw [hc] at h ⊢
    · cases h
    · cases h
    · exact clustered_cluster e _

theorem removeLoop_ok_clustered (e : Env) (s : State) (ids : List Nat) (hne : ids ≠ [])
    (h : (removeLoop e s ids).2 = .ok ()) : Clustered e (removeLoop e s ids).1 := by
  cases ids with
  | nil => exact absurd rfl hne
  | cons i r =>
    by_cases hany : s.vars.any (fun v => v.id == i) = true
    · rw [removeLoop_cons_pos e s i r hany]
      exact removeLoop_clustered e r _ (clustered_cluster e _)
    · rw [removeLoop, if_neg hany] at h
      cases h

theorem mdVariable_some (s : State) (name : Nat) (ds : List Nat) :
    mdVariable s name (some ds) =
      .ok ((s.vars.filter (fun v => v.name == name && ds.contains v.grid)).map (·.id)) := rfl

end PorepyVerif.C05
