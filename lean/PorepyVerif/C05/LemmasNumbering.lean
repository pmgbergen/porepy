/-
C05 — the numbering dictionary (`numberFrom`, `numberOf`) read through core's `zipIdx` and `lookup`, and
`clusterOrder` as a list function: a permutation of the variables on listed grids.
-/
import PorepyVerif.C05.Model

namespace PorepyVerif.C05

theorem numberFrom_eq_zipIdx (a : Nat) (l : List Nat) : numberFrom a l = l.zipIdx a := by
  induction l generalizing a with
  | nil => rfl
  | cons i r ih => rw [numberFrom, ih, List.zipIdx_cons]

@[simp] theorem map_fst_numberFrom (a : Nat) (l : List Nat) : (numberFrom a l).map (·.1) = l := by
  rw [numberFrom_eq_zipIdx]; exact List.zipIdx_map_fst a l

@[simp] theorem length_numberFrom (a : Nat) (l : List Nat) : (numberFrom a l).length = l.length := by
  rw [numberFrom_eq_zipIdx, List.length_zipIdx]

theorem numberFrom_append (a : Nat) (l : List Nat) (i : Nat) :
    numberFrom a (l ++ [i]) = numberFrom a l ++ [(i, a + l.length)] := by
  simp only [numberFrom_eq_zipIdx, List.zipIdx_append]; rfl

theorem mem_numberFrom (a : Nat) (l : List Nat) (i b : Nat) :
    (i, b) ∈ numberFrom a l ↔ a ≤ b ∧ l[b - a]? = some i := by
  rw [numberFrom_eq_zipIdx]; exact List.mk_mem_zipIdx_iff_le_and_getElem?_sub

theorem numberOf_eq_lookup (nums : List (Nat × Nat)) (i : Nat) : numberOf nums i = nums.lookup i := by
  induction nums with
  | nil => rfl
  | cons p r ih =>
    rw [numberOf, ih, List.lookup_cons]
    by_cases h : p.1 = i
    · rw [if_pos h, h, beq_self_eq_true]
    · rw [if_neg h, beq_false_of_ne (Ne.symm h)]

theorem mem_of_numberOf (nums : List (Nat × Nat)) (i b : Nat) (h : numberOf nums i = some b) :
    (i, b) ∈ nums := by
  obtain ⟨l₁, l₂, rfl, _⟩ := List.lookup_eq_some_iff.mp (numberOf_eq_lookup nums i ▸ h)
  exact List.mem_append_right _ List.mem_cons_self

theorem numberOf_of_mem (nums : List (Nat × Nat)) (hn : (nums.map (·.1)).Nodup) (p : Nat × Nat)
    (hp : p ∈ nums) : numberOf nums p.1 = some p.2 := by
  induction nums with
  | nil => cases hp
  | cons q r ih =>
    obtain ⟨hq, hr⟩ := List.nodup_cons.mp hn
    rw [numberOf]
    rcases List.mem_cons.mp hp with rfl | hp'
    · rw [if_pos rfl]
    · rw [if_neg (fun e => hq (List.mem_map.mpr ⟨p, hp', Eq.symm e⟩)), ih hr hp']

theorem numberOf_eq_none_iff (nums : List (Nat × Nat)) (i : Nat) :
    numberOf nums i = none ↔ i ∉ nums.map (·.1) := by
  rw [numberOf_eq_lookup, List.lookup_eq_none_iff, List.mem_map]
  exact ⟨fun h ⟨p, hp, e⟩ => bne_iff_ne.mp (h p hp) e.symm,
    fun h p hp => bne_iff_ne.mpr fun e => h ⟨p, hp, e.symm⟩⟩

theorem exists_numberOf (nums : List (Nat × Nat)) (i : Nat) (h : i ∈ nums.map (·.1)) :
    ∃ b, numberOf nums i = some b :=
  match hb : numberOf nums i with
  | some b => ⟨b, rfl⟩
  | none => absurd h ((numberOf_eq_none_iff nums i).mp hb)

theorem numberOf_append (n m : List (Nat × Nat)) (i : Nat) :
    numberOf (n ++ m) i = (numberOf n i).or (numberOf m i) := by
  simp only [numberOf_eq_lookup, List.lookup_append]

theorem numberOf_filter_ne (nums : List (Nat × Nat)) (i j : Nat) (h : i ≠ j) :
    numberOf (nums.filter (fun p => p.1 != j)) i = numberOf nums i := by
  induction nums with
  | nil => rfl
  | cons p r ih =>
    by_cases hp : p.1 = j
    · rw [List.filter_cons_of_neg (by simp [hp]), ih, numberOf, if_neg (fun e => h (e.symm.trans hp))]
    · rw [List.filter_cons_of_pos (by simp [hp]), numberOf, numberOf, ih]

theorem numberOf_numberFrom_some (a : Nat) (l : List Nat) (i b : Nat)
    (h : numberOf (numberFrom a l) i = some b) : a ≤ b ∧ b < a + l.length ∧ l[b - a]? = some i := by
  obtain ⟨h1, h2⟩ := (mem_numberFrom a l i b).mp (mem_of_numberOf _ i b h)
  have := (List.getElem?_eq_some_iff.mp h2).1
  exact ⟨h1, by omega, h2⟩

theorem numberOf_numberFrom_idx (a : Nat) (l : List Nat) (hn : l.Nodup) (k : Nat) (hk : k < l.length) :
    numberOf (numberFrom a l) l[k] = some (a + k) := by
  apply numberOf_of_mem (numberFrom a l) (by rwa [map_fst_numberFrom]) (l[k], a + k)
  rw [mem_numberFrom, Nat.add_sub_cancel_left]
  exact ⟨Nat.le_add_right a k, List.getElem?_eq_getElem hk⟩

theorem filter_eq_singleton {α β : Type} (f : α → β) (p : α → Bool) (l : List α) (hn : (l.map f).Nodup)
    (x : α) (hx : x ∈ l) (hp : ∀ y ∈ l, p y = true ↔ f y = f x) : l.filter p = [x] := by
  induction l with
  | nil => cases hx
  | cons a r ih =>
    obtain ⟨ha, hr⟩ := List.nodup_cons.mp hn
    rcases List.mem_cons.mp hx with rfl | hx'
    · rw [List.filter_cons_of_pos ((hp x List.mem_cons_self).mpr rfl), List.filter_eq_nil_iff.mpr]
      intro y hy hpy
      exact ha ((hp y (List.mem_cons_of_mem _ hy)).mp hpy ▸ List.mem_map_of_mem hy)
    · have hpa : ¬ p a = true := fun hpa =>
        ha ((hp a List.mem_cons_self).mp hpa ▸ List.mem_map_of_mem hx')
      rw [List.filter_cons_of_neg hpa]
      exact ih hr hx' (fun y hy => hp y (List.mem_cons_of_mem _ hy))

theorem flatMap_filter_perm (order : List Nat) (hn : order.Nodup) (vars : List Var) :
    (order.flatMap (fun g => vars.filter (fun v => v.grid == g))).Perm
      (vars.filter (fun v => order.contains v.grid)) := by
  induction order with
  | nil => simp
  | cons g gs ih =>
    obtain ⟨hg, hn'⟩ := List.nodup_cons.mp hn
    -- the variables on `g :: gs` are those on `g` followed by those on `gs`, up to order
    have hsplit := List.filter_append_perm (fun v : Var => v.grid == g)
      (vars.filter (fun v => (g :: gs).contains v.grid))
    rw [List.filter_filter, List.filter_filter] at hsplit
    rw [List.flatMap_cons]
    refine ((List.Perm.append_left _ (ih hn')).trans (List.Perm.of_eq ?_)).trans hsplit
    congr 1
    · exact List.filter_congr (fun v _ => by by_cases h : v.grid = g <;> simp [h])
    · exact List.filter_congr (fun v _ => by by_cases h : v.grid = g <;> simp [h, hg])

theorem clusterOrder_eq_flatMap (e : Env) (vars : List Var) :
    clusterOrder e vars = e.order.flatMap (fun g => vars.filter (fun v => v.grid == g)) :=
  List.flatMap_append.symm

theorem clusterOrder_perm (e : Env) (hn : e.order.Nodup) (vars : List Var)
    (hk : ∀ v ∈ vars, v.grid ∈ e.order) : (clusterOrder e vars).Perm vars := by
  rw [clusterOrder_eq_flatMap]
  refine (flatMap_filter_perm _ hn vars).trans (List.Perm.of_eq (List.filter_eq_self.mpr ?_))
  intro v hv
  exact List.contains_iff_mem.mpr (hk v hv)

theorem mem_clusterOrder (e : Env) (vars : List Var) (v : Var) :
    v ∈ clusterOrder e vars ↔ v ∈ vars ∧ v.grid ∈ e.order := by
  simp only [clusterOrder_eq_flatMap, List.mem_flatMap, List.mem_filter, beq_iff_eq]
  exact ⟨fun ⟨g, hg, hv, hvg⟩ => ⟨hv, hvg ▸ hg⟩, fun ⟨hv, hg⟩ => ⟨_, hg, hv, rfl⟩⟩

end PorepyVerif.C05
