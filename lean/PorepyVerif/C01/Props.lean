/-
C01 — property theorems.

Property: for any expression built from AD arrays with the supported arithmetic and the AD function library, the value
equals the plain numpy evaluation of the same expression and the Jacobian equals the true derivative wherever the
expression is differentiable.

* Rules.lean: `rule_sound_<name>` — one theorem per rule GENERATED from the current Python source (Generated.lean).  Here
  their bundles `lib_rules_sound`, `arith_rules_sound`, `max_rules_sound`, and `rule_sound_l2_norm`.
* `rules_covered`, `raising_table`, `lib_plain_eq_val`, `safe_power_generated_known` — the generated tables are exactly
  the ones the theorems speak about.
* Exact.lean: `ad_val`, `ad_jac` — for EVERY expression (row-wise rules incl. maximum, left matrix products, slicing, l2_norm
  with its generated rule, initAdArrays leaves, references to shared results), every point: forward-mode values are the plain
  evaluation and every Jacobian row is the Fréchet derivative of the corresponding output component, by induction over the
  tree (chain rule).  `prog_ad_val`, `prog_ad_jac` — the same for straight-line PROGRAMS `let t₀ = …; let t₁ = …; body` in
  which results are computed once and used several times (expression DAGs); `den_subst` / `ad_subst`: sharing = substitution.
* `table1_sound`, `table2_sound`, `dom_table_agrees`, `inDom_sound`, `prog_exact` — the rules as TABLES (rule, operation, domain
  condition as data); `prog_exact` is the property with the single hypothesis `InDom` (table membership + inequalities on the
  numbers reaching each node), which the driver evaluates on every case (`Tree.domF`).
* `excluded_sets`, `kinks_necessary` — what is excluded from the rule domains and why (kinks vs. domain restrictions).
-/
import PorepyVerif.C01.Rules
import PorepyVerif.C01.Exact
set_option linter.unusedTactic false
set_option linter.unreachableTactic false
namespace PorepyVerif.C01
open Real

/-- l2_norm, dim ≥ 2: the value is the Euclidean norm of the group and, when the norm is above the tolerance of the code,
    the generated factors are its gradient: ∇‖x‖ = x / ‖x‖. -/
theorem rule_sound_l2_norm (d : ℕ) (v : Fin d → ℝ) :
    (∀ x S, Gen.l2_norm.val.evalR [x, S] = √S) ∧
    (l2tol < norm2 v →
      HasFDerivAt (norm2 (d := d))
        (∑ k : Fin d, Gen.l2_norm.coef.evalR [v k, ∑ k' : Fin d, v k' ^ 2]
          • ContinuousLinearMap.proj (R := ℝ) (φ := fun _ : Fin d => ℝ) k) v) := by
  refine ⟨fun _ _ => rfl, fun hpos => ?_⟩
  have htol : (0 : ℝ) < l2tol := by unfold l2tol; positivity
  refine (hasFDerivAt_norm2 (htol.trans hpos).ne').congr_fderiv (Finset.sum_congr rfl fun k _ => ?_)
  -- the generated factor is `if ‖v‖ > tol then v k / ‖v‖ else 1`, with `tol` as a rational constant
  have hq : ((4951760157141521 / 4951760157141521099596496896 : ℚ) : ℝ) = l2tol := by unfold l2tol; push_cast; rfl
  congr 1
  exact (if_pos (hq.trans_lt hpos)).symm

/-- The rule generated from the CURRENT source is either the repaired one or the one found at the pinned commit
    (any other change of `safe_power` breaks this). -/
theorem safe_power_generated_known : Gen.safe_power = safePowerFixed ∨ Gen.safe_power = safePowerAsFound := by
  first
    | exact Or.inl rfl
    | exact Or.inr rfl

/-! ## bundles (one audited statement per rule family; the components are the `rule_sound_*` theorems of Rules.lean) -/

/-- every generated library rule (functions.py) except safe_power, which has three parameters and its own theorem -/
theorem lib_rules_sound :
    Sound1 Gen.exp (fun x _ => Real.exp x) (fun _ _ => True) ∧
    Sound1 Gen.log (fun x _ => Real.log x) (fun x _ => 0 < x) ∧
    Sound1 Gen.abs (fun x _ => |x|) (fun x _ => x ≠ 0) ∧
    Sound1 Gen.sin (fun x _ => Real.sin x) (fun _ _ => True) ∧
    Sound1 Gen.cos (fun x _ => Real.cos x) (fun _ _ => True) ∧
    Sound1 Gen.tan (fun x _ => Real.tan x) (fun x _ => Real.cos x ≠ 0) ∧
    Sound1 Gen.arcsin (fun x _ => Real.arcsin x) (fun x _ => -1 < x ∧ x < 1) ∧
    Sound1 Gen.arccos (fun x _ => Real.arccos x) (fun x _ => -1 < x ∧ x < 1) ∧
    Sound1 Gen.arctan (fun x _ => Real.arctan x) (fun _ _ => True) ∧
    Sound1 Gen.sinh (fun x _ => Real.sinh x) (fun _ _ => True) ∧
    Sound1 Gen.cosh (fun x _ => Real.cosh x) (fun _ _ => True) ∧
    Sound1 Gen.tanh (fun x _ => Real.tanh x) (fun _ _ => True) ∧
    Sound1 Gen.arcsinh (fun x _ => Real.arsinh x) (fun _ _ => True) ∧
    Sound1 Gen.arccosh (fun x _ => Real.arcosh x) (fun x _ => 1 < x) ∧
    Sound1 Gen.arctanh (fun x _ => Real.artanh x) (fun x _ => -1 < x ∧ x < 1) ∧
    Sound1 Gen.heaviside (fun x z => heavisideR x z) (fun x _ => x ≠ 0) ∧
    Sound1 Gen.heaviside_smooth heavisideSmoothR (fun _ eps => eps ≠ 0) ∧
    Sound1 Gen.characteristic_function charR (fun x tol => |x| ≠ tol) ∧
    Sound1 Gen.l2_norm_dim1 (fun x _ => |x|) (fun x _ => x ≠ 0) :=
  ⟨rule_sound_exp,
   rule_sound_log,
   rule_sound_abs,
   rule_sound_sin,
   rule_sound_cos,
   rule_sound_tan,
   rule_sound_arcsin,
   rule_sound_arccos,
   rule_sound_arctan,
   rule_sound_sinh,
   rule_sound_cosh,
   rule_sound_tanh,
   rule_sound_arcsinh,
   rule_sound_arccosh,
   rule_sound_arctanh,
   rule_sound_heaviside,
   rule_sound_heaviside_smooth,
   rule_sound_characteristic_function,
   rule_sound_l2_norm_dim1⟩

/-- every generated arithmetic rule (AdArray overloads × operand kind) -/
theorem arith_rules_sound :
    Sound1 Gen.add_S (fun x c => x + c) (fun _ _ => True) ∧
    Sound1 Gen.sub_S (fun x c => x - c) (fun _ _ => True) ∧
    Sound1 Gen.rsub_S (fun x c => c - x) (fun _ _ => True) ∧
    Sound1 Gen.mul_S (fun x c => x * c) (fun _ _ => True) ∧
    Sound1 Gen.pow_S (fun x c => x ^ c) (fun x c => x ≠ 0 ∨ 1 ≤ c) ∧
    Sound1 Gen.rpow_S (fun x c => c ^ x) (fun _ c => 0 < c) ∧
    Sound1 Gen.truediv_S (fun x c => x / c) (fun _ c => c ≠ 0) ∧
    Sound1 Gen.truediv_A (fun x c => x / c) (fun _ c => c ≠ 0) ∧
    Sound1 Gen.rtruediv_S (fun x c => c / x) (fun x _ => x ≠ 0) ∧
    Sound2 Gen.add_Ad (fun x y => x + y) (fun _ _ => True) ∧
    Sound2 Gen.mul_Ad (fun x y => x * y) (fun _ _ => True) ∧
    Sound2 Gen.pow_Ad (fun x y => x ^ y) (fun x _ => 0 < x) ∧
    Sound2 Gen.rpow_Ad (fun x y => y ^ x) (fun _ y => 0 < y) ∧
    Sound2 Gen.truediv_Ad (fun x y => x / y) (fun _ y => y ≠ 0) ∧
    Sound2 Gen.rtruediv_Ad (fun x y => y / x) (fun x _ => x ≠ 0) ∧
    Sound1 Gen.add_A (fun x c => x + c) (fun _ _ => True) ∧
    Sound1 Gen.radd_S (fun x c => c + x) (fun _ _ => True) ∧
    Sound1 Gen.radd_A (fun x c => c + x) (fun _ _ => True) ∧
    Sound1 Gen.sub_A (fun x c => x - c) (fun _ _ => True) ∧
    Sound1 Gen.rsub_A (fun x c => c - x) (fun _ _ => True) ∧
    Sound1 Gen.mul_A (fun x c => x * c) (fun _ _ => True) ∧
    Sound1 Gen.rmul_S (fun x c => c * x) (fun _ _ => True) ∧
    Sound1 Gen.rmul_A (fun x c => c * x) (fun _ _ => True) ∧
    Sound1 Gen.pow_A (fun x c => x ^ c) (fun x c => x ≠ 0 ∨ 1 ≤ c) ∧
    Sound1 Gen.rpow_A (fun x c => c ^ x) (fun _ c => 0 < c) ∧
    Sound1 Gen.rtruediv_A (fun x c => c / x) (fun x _ => x ≠ 0) ∧
    Sound2 Gen.radd_Ad (fun x y => y + x) (fun _ _ => True) ∧
    Sound2 Gen.sub_Ad (fun x y => x - y) (fun _ _ => True) ∧
    Sound2 Gen.rsub_Ad (fun x y => y - x) (fun _ _ => True) ∧
    Sound1 Gen.neg (fun x _ => -x) (fun _ _ => True) :=
  ⟨rule_sound_add_S,
   rule_sound_sub_S,
   rule_sound_rsub_S,
   rule_sound_mul_S,
   rule_sound_pow_S,
   rule_sound_rpow_S,
   rule_sound_truediv_S,
   rule_sound_truediv_A,
   rule_sound_rtruediv_S,
   rule_sound_add_Ad,
   rule_sound_mul_Ad,
   rule_sound_pow_Ad,
   rule_sound_rpow_Ad,
   rule_sound_truediv_Ad,
   rule_sound_rtruediv_Ad,
   rule_sound_add_A,
   rule_sound_radd_S,
   rule_sound_radd_A,
   rule_sound_sub_A,
   rule_sound_rsub_A,
   rule_sound_mul_A,
   rule_sound_rmul_S,
   rule_sound_rmul_A,
   rule_sound_pow_A,
   rule_sound_rpow_A,
   rule_sound_rtruediv_A,
   rule_sound_radd_Ad,
   rule_sound_sub_Ad,
   rule_sound_rsub_Ad,
   rule_sound_neg⟩

/-- `maximum(var_0, var_1)` for every combination of AdArray / numpy array / python scalar operands: the value is the larger
    entry and, away from ties, the 0/1 factors select the Jacobian row of the larger one -/
theorem max_rules_sound :
    Sound2 Gen.maximum_AdAd (fun x y => max x y) (fun x y => x ≠ y) ∧
    Sound1 Gen.maximum_AdA (fun x c => max x c) (fun x c => x ≠ c) ∧
    Sound1 Gen.maximum_AdS (fun x c => max x c) (fun x c => x ≠ c) ∧
    Sound1 Gen.maximum_AAd (fun x c => max c x) (fun x c => x ≠ c) ∧
    Sound1 Gen.maximum_SAd (fun x c => max c x) (fun x c => x ≠ c) :=
  ⟨rule_sound_maximum_AdAd, rule_sound_maximum_AdA, rule_sound_maximum_AdS, rule_sound_maximum_AAd, rule_sound_maximum_SAd⟩

/-- the generated rules are exactly the ones with a theorem (`rule_sound_*`; for `regularized_heaviside`
    `rule_regularized_heaviside`; for `safe_power` see `safe_power_generated_known`), and every top-level function / class of
    functions.py has one (the translator refuses to run otherwise) -/
theorem rules_covered :
    (Gen.arith ++ Gen.lib ++ Gen.maxrules).map (·.name) =
      ["add_S", "add_A", "add_Ad", "radd_S", "radd_A", "radd_Ad", "sub_S", "sub_A", "sub_Ad", "rsub_S", "rsub_A", "rsub_Ad",
       "mul_S", "mul_A", "mul_Ad", "rmul_S", "rmul_A", "pow_S", "pow_A", "pow_Ad", "rpow_S", "rpow_A", "rpow_Ad",
       "truediv_S", "truediv_A", "truediv_Ad", "rtruediv_S", "rtruediv_A", "rtruediv_Ad", "neg",
       "exp", "log", "abs", "l2_norm_dim1", "safe_power", "sin", "cos", "tan", "arcsin", "arccos", "arctan", "sinh", "cosh", "tanh",
       "arcsinh", "arccosh", "arctanh", "heaviside", "heaviside_smooth", "regularized_heaviside", "characteristic_function",
       "maximum_AdAd", "maximum_AdA", "maximum_AdS", "maximum_AAd", "maximum_SAd"] ∧
    Gen.l2_norm.name = "l2_norm" ∧
    Gen.functions_found =
      ["exp", "log", "abs", "l2_norm", "safe_power", "sin", "cos", "tan", "arcsin", "arccos", "arctan", "sinh", "cosh", "tanh",
       "arcsinh", "arccosh", "arctanh", "heaviside", "heaviside_smooth", "RegularizedHeaviside", "maximum", "characteristic_function"] := by
  refine ⟨by rfl, by rfl, by rfl⟩

/-- sparse operands raise for everything but `M @ AdArray`; `AdArray @ anything` and non-sparse `x @ AdArray` raise;
    `AdArray.__rmul__` with an AdArray operand (not reachable through `a * b`, which `__mul__` answers) raises RuntimeError -/
theorem raising_table : Gen.raising =
    [("add_Sp", "ValueError"), ("radd_Sp", "ValueError"), ("sub_Sp", "ValueError"), ("rsub_Sp", "ValueError"),
     ("mul_Sp", "ValueError"), ("rmul_Ad", "RuntimeError"), ("rmul_Sp", "ValueError"), ("pow_Sp", "ValueError"),
     ("rpow_Sp", "ValueError"), ("truediv_Sp", "ValueError"), ("rtruediv_Sp", "ValueError"), ("matmul_S", "ValueError"),
     ("matmul_A", "ValueError"), ("matmul_Ad", "ValueError"), ("matmul_Sp", "ValueError"), ("rmatmul_S", "ValueError"),
     ("rmatmul_A", "ValueError"), ("rmatmul_Ad", "ValueError")] := by rfl

/-- every library function that answers for a plain numpy array computes the same value expression as for an AdArray
    (`plain = none`: l2_norm_dim1, which delegates to abs, and functions listed in `Gen.plain_raising`) -/
theorem lib_plain_eq_val :
    (Gen.lib ++ Gen.maxrules).map (fun r => r.plain.getD r.val) = (Gen.lib ++ Gen.maxrules).map (·.val) ∧
    Gen.l2_norm.plain = some Gen.l2_norm.val := by
  refine ⟨by rfl, by rfl⟩

/-- the numpy-array branch of `RegularizedHeaviside.__call__` calls `np.heaviside` with one argument (TypeError; finding
    C01 regularized-heaviside-ndarray); no other library function raises on a numpy array -/
theorem plain_raising_known :
    Gen.plain_raising = [] ∨ Gen.plain_raising = [("regularized_heaviside", "TypeError")] := by
  first
    | exact Or.inl rfl
    | exact Or.inr rfl

/-! ## where the rules are NOT required: kinks (isolated, measure zero) vs. domain restrictions

"wherever the expression is differentiable": outside the domains of the `rule_sound_*` theorems nothing is claimed.  The
excluded sets are of two kinds (complete list, in the order of functions.py / forward_mode.py):

KINKS — points inside numpy's domain where the function itself is not differentiable; isolated points / a hyperplane,
Lebesgue measure zero; the code returns some one-sided or conventional value there:
  abs                      x = 0                  (Jacobian factor sign(0) = 0)            `abs_kink`
  l2_norm, dim = 1         x = 0                  (delegates to abs)
  l2_norm, dim ≥ 2         ‖x‖ ≤ tol = 1e-12      (factors set to 1; at x = 0 not differentiable) `l2_norm_kink`
  heaviside                x = 0                  (jump)                                     `heaviside_kink`
  characteristic_function  |x| = tol              (jump)
  safe_power               |x| = tol              (jump between x**power and zero_val)
  maximum                  x = y (ties)           (row of the FIRST argument)               `maximum_kink`
  regularized_heaviside    (never the derivative of its value, by design: `regularized_heaviside_not_exact`)
DOMAIN RESTRICTIONS — numpy's real function is undefined / infinite (nan, inf) or has an infinite derivative there:
  log x ≤ 0;  tan cos x = 0;  arcsin, arccos |x| ≥ 1;  arccosh x ≤ 1;  arctanh |x| ≥ 1;
  AdArray ** c: x = 0 with c < 1;  AdArray ** AdArray: base x ≤ 0;  c ** AdArray: c ≤ 0;
  AdArray / c: c = 0;  c / AdArray, AdArray / AdArray: denominator 0;  heaviside_smooth eps = 0;
  safe_power: x = 0 with power < 1 inside |x| > tol (impossible for tol ≥ 0).
NO EXCLUSION: + − * (all operand kinds), neg, exp, sin, cos, arctan, sinh, cosh, tanh, arcsinh, left matrix products,
  slicing, initAdArrays.
`excluded_sets` states the complements of the theorem domains in this form; the four `*_kink` theorems show that the kink
exclusions are necessary (the function is not differentiable there, so no Jacobian could be "the derivative"). -/

theorem abs_kink : ¬ DifferentiableAt ℝ (fun x : ℝ => |x|) 0 := not_differentiableAt_abs_zero

theorem heaviside_kink (z : ℝ) : ¬ DifferentiableAt ℝ (fun x => heavisideR x z) 0 := by
  intro h
  -- a continuous function that is constant `k` on a set accumulating at 0 has the value `k` at 0
  have key : ∀ (s : Set ℝ) (k : ℝ), (nhdsWithin 0 s).NeBot → (∀ x ∈ s, heavisideR x z = k) → heavisideR 0 z = k :=
    fun s k _ hk => tendsto_nhds_unique (h.continuousAt.tendsto.mono_left nhdsWithin_le_nhds)
      (tendsto_const_nhds.congr' (eventually_nhdsWithin_of_forall fun x hx => (hk x hx).symm))
  have e0 := key (Set.Iio 0) 0 inferInstance fun x hx => if_pos hx
  have e1 := key (Set.Ioi 0) 1 inferInstance fun x (hx : 0 < x) => by
    rw [heavisideR, if_neg (not_lt.mpr hx.le), if_neg hx.ne']
  exact zero_ne_one (e0.symm.trans e1)

/-- along the line `t ↦ (a + t, a - t)` the maximum is `|t| + a` -/
theorem maximum_kink (a : ℝ) : ¬ DifferentiableAt ℝ (fun p : ℝ × ℝ => max p.1 p.2) (a, a) := by
  have h := not_differentiableAt_of_abs_along (f := fun p : ℝ × ℝ => max p.1 p.2) (γ := fun t => (a + t, a + -t)) (c := a)
    (by fun_prop) fun t => by
      show max (a + t) (a + -t) = |t| + a
      rw [max_add_add_left, ← abs_eq_max_neg, add_comm]
  rwa [neg_zero, add_zero] at h

/-- along the `k`-th axis the norm is `|t|` -/
theorem l2_norm_kink (d : ℕ) (k : Fin d) : ¬ DifferentiableAt ℝ (norm2 (d := d)) 0 := by
  have h := not_differentiableAt_of_abs_along (f := norm2 (d := d)) (γ := fun t => Pi.single k t) (c := 0)
    (ContinuousLinearMap.single ℝ (fun _ : Fin d => ℝ) k).differentiableAt fun t => by
      show √(∑ j, (Pi.single k t : Fin d → ℝ) j ^ 2) = |t| + 0
      rw [Finset.sum_eq_single k (fun j _ hj => by rw [Pi.single_eq_of_ne hj, zero_pow two_ne_zero])
        (fun hk => absurd (Finset.mem_univ k) hk), Pi.single_eq_same, Real.sqrt_sq_eq_abs, add_zero]
  rwa [Pi.single_zero] at h

/-- the complements of the domains used in the `rule_sound_*` theorems, in closed form (see the table above) -/
theorem excluded_sets :
    -- kinks
    {x : ℝ | ¬ x ≠ 0} = {0} ∧
    (∀ tol : ℝ, {x : ℝ | ¬ |x| ≠ tol} ⊆ {tol, -tol}) ∧
    {p : ℝ × ℝ | ¬ p.1 ≠ p.2} = {p | p.1 = p.2} ∧
    -- domain restrictions
    {x : ℝ | ¬ 0 < x} = Set.Iic 0 ∧
    {x : ℝ | ¬ (-1 < x ∧ x < 1)} = Set.Iic (-1) ∪ Set.Ici 1 ∧
    {x : ℝ | ¬ 1 < x} = Set.Iic 1 ∧
    {p : ℝ × ℝ | ¬ (p.1 ≠ 0 ∨ 1 ≤ p.2)} = {p | p.1 = 0 ∧ p.2 < 1} := by
  refine ⟨Set.ext fun x => not_not, fun tol x hx => ?_, Set.ext fun p => not_not, Set.ext fun x => not_lt,
    Set.ext fun x => not_and_or.trans (or_congr not_lt not_lt), Set.ext fun x => not_lt,
    Set.ext fun p => not_or.trans (and_congr not_not not_le)⟩
  rcases abs_choice x with h | h
  · exact Or.inl (h ▸ not_not.1 hx)
  · exact Or.inr (neg_eq_iff_eq_neg.1 (h ▸ not_not.1 hx))

/-- the kink exclusions are necessary: at these points the function is not differentiable at all -/
theorem kinks_necessary :
    (¬ DifferentiableAt ℝ (fun x : ℝ => |x|) 0) ∧
    (∀ z : ℝ, ¬ DifferentiableAt ℝ (fun x => heavisideR x z) 0) ∧
    (∀ a : ℝ, ¬ DifferentiableAt ℝ (fun p : ℝ × ℝ => max p.1 p.2) (a, a)) ∧
    (∀ (d : ℕ) (_ : Fin d), ¬ DifferentiableAt ℝ (norm2 (d := d)) 0) :=
  ⟨abs_kink, heaviside_kink, maximum_kink, fun d k => l2_norm_kink d k⟩

/-! ### non-vacuity: the domains are inhabited -/

example : (0 : ℝ) < 2 ∧ Real.cos 0 ≠ 0 ∧ ((-1 : ℝ) < 1 / 2 ∧ (1 / 2 : ℝ) < 1) ∧ (1 : ℝ) < 2 ∧ (3 : ℝ) ≠ 0 ∧ |(3 : ℝ)| ≠ 1
    ∧ l2tol < norm2 (fun _ : Fin 2 => (1 : ℝ)) := by
  refine ⟨by norm_num, by simp, ⟨by norm_num, by norm_num⟩, by norm_num, by norm_num, by norm_num, ?_⟩
  have h1 : (1 : ℝ) ≤ norm2 (fun _ : Fin 2 => (1 : ℝ)) := by
    unfold norm2
    rw [show (∑ _k : Fin 2, (1 : ℝ) ^ 2) = 2 by simp]
    exact Real.one_le_sqrt.mpr (by norm_num)
  have h2 : l2tol < 1 := by unfold l2tol; norm_num
  linarith

/-- rules with a constant second operand / parameter -/
noncomputable def table1 : List Entry :=
  [(Gen.exp, (fun x _ => Real.exp x), .all),
   (Gen.log, (fun x _ => Real.log x), .pos),
   (Gen.abs, (fun x _ => |x|), .xne0),
   (Gen.sin, (fun x _ => Real.sin x), .all),
   (Gen.cos, (fun x _ => Real.cos x), .all),
   (Gen.tan, (fun x _ => Real.tan x), .cosNe0),
   (Gen.arcsin, (fun x _ => Real.arcsin x), .absLt1),
   (Gen.arccos, (fun x _ => Real.arccos x), .absLt1),
   (Gen.arctan, (fun x _ => Real.arctan x), .all),
   (Gen.sinh, (fun x _ => Real.sinh x), .all),
   (Gen.cosh, (fun x _ => Real.cosh x), .all),
   (Gen.tanh, (fun x _ => Real.tanh x), .all),
   (Gen.arcsinh, (fun x _ => Real.arsinh x), .all),
   (Gen.arccosh, (fun x _ => Real.arcosh x), .gt1),
   (Gen.arctanh, (fun x _ => Real.artanh x), .absLt1),
   (Gen.heaviside, (fun x z => heavisideR x z), .xne0),
   (Gen.heaviside_smooth, heavisideSmoothR, .cne0),
   (Gen.characteristic_function, charR, .absNeC),
   (Gen.add_S, (fun x c => x + c), .all),
   (Gen.sub_S, (fun x c => x - c), .all),
   (Gen.rsub_S, (fun x c => c - x), .all),
   (Gen.mul_S, (fun x c => x * c), .all),
   (Gen.pow_S, (fun x c => x ^ c), .powC),
   (Gen.rpow_S, (fun x c => c ^ x), .cpos),
   (Gen.truediv_S, (fun x c => x / c), .cne0),
   (Gen.truediv_A, (fun x c => x / c), .cne0),
   (Gen.rtruediv_S, (fun x c => c / x), .xne0),
   (Gen.add_A, (fun x c => x + c), .all),
   (Gen.radd_S, (fun x c => c + x), .all),
   (Gen.radd_A, (fun x c => c + x), .all),
   (Gen.sub_A, (fun x c => x - c), .all),
   (Gen.rsub_A, (fun x c => c - x), .all),
   (Gen.mul_A, (fun x c => x * c), .all),
   (Gen.rmul_S, (fun x c => c * x), .all),
   (Gen.rmul_A, (fun x c => c * x), .all),
   (Gen.pow_A, (fun x c => x ^ c), .powC),
   (Gen.rpow_A, (fun x c => c ^ x), .cpos),
   (Gen.rtruediv_A, (fun x c => c / x), .xne0),
   (Gen.neg, (fun x _ => -x), .all),
   (Gen.maximum_AdA, (fun x c => max x c), .neC),
   (Gen.maximum_AdS, (fun x c => max x c), .neC),
   (Gen.maximum_AAd, (fun x c => max c x), .neC),
   (Gen.maximum_SAd, (fun x c => max c x), .neC),
   (Gen.l2_norm_dim1, (fun x _ => |x|), .xne0)]

/-- rules combining two AdArrays -/
noncomputable def table2 : List Entry :=
  [(Gen.add_Ad, (fun x y => x + y), .all),
   (Gen.mul_Ad, (fun x y => x * y), .all),
   (Gen.pow_Ad, (fun x y => x ^ y), .pos),
   (Gen.rpow_Ad, (fun x y => y ^ x), .cpos),
   (Gen.truediv_Ad, (fun x y => x / y), .cne0),
   (Gen.rtruediv_Ad, (fun x y => y / x), .xne0),
   (Gen.radd_Ad, (fun x y => y + x), .all),
   (Gen.sub_Ad, (fun x y => x - y), .all),
   (Gen.rsub_Ad, (fun x y => y - x), .all),
   (Gen.maximum_AdAd, (fun x y => max x y), .neC)]

theorem table1_sound : ∀ t ∈ table1, Sound1 t.1 t.2.1 t.2.2.holdsR := by
  simp only [table1, List.forall_mem_cons, List.not_mem_nil, false_imp_iff, implies_true, and_true]
  exact ⟨rule_sound_exp, rule_sound_log, rule_sound_abs, rule_sound_sin, rule_sound_cos, rule_sound_tan,
    rule_sound_arcsin, rule_sound_arccos, rule_sound_arctan, rule_sound_sinh, rule_sound_cosh, rule_sound_tanh,
    rule_sound_arcsinh, rule_sound_arccosh, rule_sound_arctanh, rule_sound_heaviside, rule_sound_heaviside_smooth,
    rule_sound_characteristic_function, rule_sound_add_S, rule_sound_sub_S, rule_sound_rsub_S, rule_sound_mul_S,
    rule_sound_pow_S, rule_sound_rpow_S, rule_sound_truediv_S, rule_sound_truediv_A, rule_sound_rtruediv_S,
    rule_sound_add_A, rule_sound_radd_S, rule_sound_radd_A, rule_sound_sub_A, rule_sound_rsub_A, rule_sound_mul_A,
    rule_sound_rmul_S, rule_sound_rmul_A, rule_sound_pow_A, rule_sound_rpow_A, rule_sound_rtruediv_A, rule_sound_neg,
    rule_sound_maximum_AdA, rule_sound_maximum_AdS, rule_sound_maximum_AAd, rule_sound_maximum_SAd,
    rule_sound_l2_norm_dim1⟩

theorem table2_sound : ∀ t ∈ table2, Sound2 t.1 t.2.1 t.2.2.holdsR := by
  simp only [table2, List.forall_mem_cons, List.not_mem_nil, false_imp_iff, implies_true, and_true]
  exact ⟨rule_sound_add_Ad, rule_sound_mul_Ad, rule_sound_pow_Ad, rule_sound_rpow_Ad, rule_sound_truediv_Ad,
    rule_sound_rtruediv_Ad, rule_sound_radd_Ad, rule_sound_sub_Ad, rule_sound_rsub_Ad, rule_sound_maximum_AdAd⟩

/-- the domain conditions the driver evaluates (`domTable`, Model.lean) are the ones of the verified tables; the two rules
    outside `Expr` (three-parameter `safe_power`, by-design inexact `regularized_heaviside`) are the last two entries -/
theorem dom_table_agrees :
    (table1 ++ table2).map (fun t => (t.1.name, t.2.2)) ++ [("safe_power", Dom.safePow), ("regularized_heaviside", Dom.never)]
      = domTable := by rfl

/-- the table hypotheses discharge the per-node hypotheses of `ad_val` / `ad_jac`: what is left is membership in the tables
    (syntactic) and inequalities on the numbers that reach each node -/
theorem inDom_sound {n : Nat} (e : Expr n) (ρ : ℕ → ℕ → ℝ) (X : Pt n)
    (h : e.InDom table1 table2 Gen.l2_norm ρ X) : e.ValSpec ∧ e.Smooth ρ X := by
  induction e with
  | var idx => exact ⟨trivial, trivial⟩
  | ref j => exact ⟨trivial, trivial⟩
  | map1 r F c e ih =>
    obtain ⟨he, d, hm, hd⟩ := h
    have hs := table1_sound _ hm
    exact ⟨hs.valspec_map1 (ih he).1, hs.smooth_map1 (ih he).2 hd⟩
  | map2 r F e₁ e₂ ih₁ ih₂ =>
    obtain ⟨h₁, h₂, d, hm, hd⟩ := h
    have hs := table2_sound _ hm
    exact ⟨hs.valspec_map2 (ih₁ h₁).1 (ih₂ h₂).1, hs.smooth_map2 (ih₁ h₁).2 (ih₂ h₂).2 hd⟩
  | matmul M cols e ih => exact ih h
  | slice idx e ih => exact ih h
  | l2norm r dim e ih =>
    obtain ⟨he, hr, hd⟩ := h
    subst hr
    exact ⟨⟨(ih he).1, fun _ _ => rfl⟩, ⟨(ih he).2, fun i => (rule_sound_l2_norm dim _).2 (hd i)⟩⟩

theorem letsInDom_sound {n : Nat} (X : Pt n) (ds : List (Expr n)) :
    ∀ (k : ℕ) (ρ : ℕ → ℕ → ℝ), letsInDom table1 table2 Gen.l2_norm X ds k ρ →
      (∀ d ∈ ds, d.ValSpec) ∧ letsSmooth X ds k ρ := by
  induction ds with
  | nil => intro k ρ _; exact ⟨fun _ h => absurd h (List.not_mem_nil), trivial⟩
  | cons d ds ih =>
    intro k ρ h
    have hd := inDom_sound d ρ X h.1
    have hr := ih (k + 1) _ h.2
    exact ⟨List.forall_mem_cons.2 ⟨hd.1, hr.1⟩, hd.2, hr.2⟩

/-- THE PROPERTY, with no hypothesis other than the input condition `InDom`: for every program (shared results, generated
    rules, matrix products, slicing, l2_norm, maximum) and every point at which every rule application is inside its domain,
    the forward-mode value of every row is the plain evaluation and its Jacobian row is the Fréchet derivative. -/
theorem prog_exact {n : Nat} (p : Prog n) (X : Pt n) (h : p.InDom table1 table2 Gen.l2_norm X) (i : ℕ) :
    (p.ad X i).v = p.den X i ∧ HasFDerivAt (fun Y => p.den Y i) (lin (p.ad X i).g) X := by
  have hl := letsInDom_sound X p.lets 0 Prog.env0 h.1
  have hb := inDom_sound p.body _ X h.2
  have hd := prog_denotes p ⟨hl.1, hb.1⟩ X ⟨hl.2, hb.2⟩ i
  exact ⟨hd.val, hd.deriv⟩

/-- `m = maximum(x₀·x₁, x₀);  log(m) * sin(x₀) + m`: the shared result `m` is used twice -/
noncomputable def demo : Prog 2 where
  lets := [.map2 Gen.maximum_AdAd (fun x y => max x y)
            (.map2 Gen.mul_Ad (fun x y => x * y) (.var (fun _ => 0)) (.var (fun _ => 1))) (.var (fun _ => 0))]
  body := .map2 Gen.add_Ad (fun x y => x + y)
            (.map2 Gen.mul_Ad (fun x y => x * y)
              (.map1 Gen.log (fun x _ => Real.log x) (fun _ => 0) (.ref 0))
              (.map1 Gen.sin (fun x _ => Real.sin x) (fun _ => 0) (.var (fun _ => 0))))
            (.ref 0)

/-- non-vacuity: the demo program (shared maximum used twice) is inside its domain on an open set … -/
theorem demo_inDom (X : Pt 2) (hX : 0 < X 0) (hne : X 0 * X 1 ≠ X 0) : demo.InDom table1 table2 Gen.l2_norm X := by
  -- table membership by position: `add_Ad`, `mul_Ad`, `maximum_AdAd` are entries 0, 1, 9 of `table2`, `log`, `sin` 1, 3 of `table1`
  have mul : (Gen.mul_Ad, (fun x y : ℝ => x * y), Dom.all) ∈ table2 := List.mem_of_getElem? (i := 1) rfl
  refine ⟨⟨⟨⟨trivial, trivial, .all, mul, fun _ => trivial⟩, trivial, .neC, List.mem_of_getElem? (i := 9) rfl, fun _ => hne⟩,
    trivial⟩, ?_⟩
  refine ⟨⟨⟨trivial, .pos, List.mem_of_getElem? (i := 1) rfl, fun _ => ?_⟩,
      ⟨trivial, .all, List.mem_of_getElem? (i := 3) rfl, fun _ => trivial⟩, .all, mul, fun _ => trivial⟩,
    trivial, .all, List.mem_of_getElem? (i := 0) rfl, fun _ => trivial⟩
  show 0 < max (X 0 * X 1) (X 0)
  exact lt_max_of_lt_right hX

example (X : Pt 2) (hX : 0 < X 0) (hne : X 0 * X 1 ≠ X 0) : demo.InDom table1 table2 Gen.l2_norm X :=
  demo_inDom X hX hne

/-- … and there forward mode computes the value and the derivative of the function the program stands for -/
example (X : Pt 2) (hX : 0 < X 0) (hne : X 0 * X 1 ≠ X 0) (i : ℕ) :
    (demo.ad X i).v = Real.log (max (X 0 * X 1) (X 0)) * Real.sin (X 0) + max (X 0 * X 1) (X 0) ∧
    HasFDerivAt (fun Y : Pt 2 => Real.log (max (Y 0 * Y 1) (Y 0)) * Real.sin (Y 0) + max (Y 0 * Y 1) (Y 0))
      (lin (demo.ad X i).g) X :=
  prog_exact demo X (demo_inDom X hX hne) i

end PorepyVerif.C01
