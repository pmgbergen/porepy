/-
C01 — real-number semantics of the rule language and calculus helper lemmas.

`SExpr.evalR` is the second interpretation of `SExpr` (the first, `evalF`, is in Model.lean and is what the
driver executes).  `a ** b` is read as `Real.rpow`, which agrees with C `pow` wherever `pow` is finite
(positive base: any exponent; any base: integer-valued exponent, `Real.rpow_intCast`).
-/
import Mathlib.Analysis.SpecialFunctions.ExpDeriv
import Mathlib.Analysis.SpecialFunctions.Log.Deriv
import Mathlib.Analysis.SpecialFunctions.Trigonometric.Deriv
import Mathlib.Analysis.SpecialFunctions.Trigonometric.DerivHyp
import Mathlib.Analysis.SpecialFunctions.Trigonometric.ArctanDeriv
import Mathlib.Analysis.SpecialFunctions.Trigonometric.InverseDeriv
import Mathlib.Analysis.SpecialFunctions.Arsinh
import Mathlib.Analysis.SpecialFunctions.Arcosh
import Mathlib.Analysis.SpecialFunctions.Artanh
import Mathlib.Analysis.SpecialFunctions.Pow.Deriv
import Mathlib.Analysis.SpecialFunctions.Sqrt
import Mathlib.Analysis.Calculus.Deriv.Abs
import Mathlib.Analysis.Calculus.FDeriv.Pi
import PorepyVerif.C01.Model

namespace PorepyVerif.C01
open Real

/-- `np.sign` -/
noncomputable def signR (x : ℝ) : ℝ := if x < 0 then -1 else if 0 < x then 1 else 0

/-- `np.heaviside(x, z)` -/
noncomputable def heavisideR (x z : ℝ) : ℝ := if x < 0 then 0 else if x = 0 then z else 1

noncomputable def UFun.evalR : UFun → ℝ → ℝ
  | .exp, x => Real.exp x
  | .log, x => Real.log x
  | .sin, x => Real.sin x
  | .cos, x => Real.cos x
  | .tan, x => Real.tan x
  | .arcsin, x => Real.arcsin x
  | .arccos, x => Real.arccos x
  | .arctan, x => Real.arctan x
  | .sinh, x => Real.sinh x
  | .cosh, x => Real.cosh x
  | .tanh, x => Real.tanh x
  | .arcsinh, x => Real.arsinh x
  | .arccosh, x => Real.arcosh x
  | .arctanh, x => Real.artanh x
  | .abs, x => |x|
  | .sign, x => signR x
  | .sqrt, x => Real.sqrt x

noncomputable def SExpr.evalR : SExpr → List ℝ → ℝ
  | .var i, ρ => ρ.getD i 0
  | .const q, _ => (q : ℝ)
  | .pi, _ => Real.pi
  | .add a b, ρ => a.evalR ρ + b.evalR ρ
  | .sub a b, ρ => a.evalR ρ - b.evalR ρ
  | .mul a b, ρ => a.evalR ρ * b.evalR ρ
  | .div a b, ρ => a.evalR ρ / b.evalR ρ
  | .neg a, ρ => - a.evalR ρ
  | .pow a b, ρ => (a.evalR ρ) ^ (b.evalR ρ)
  | .un f a, ρ => f.evalR (a.evalR ρ)
  | .heaviside x z, ρ => heavisideR (x.evalR ρ) (z.evalR ρ)
  | .ifgt a b t e, ρ => if a.evalR ρ > b.evalR ρ then t.evalR ρ else e.evalR ρ

/-- A rule with a constant second operand / parameter `c` (python scalar, entry of a numpy array, `eps`, …):
    its value expression denotes `F · c` everywhere, and on `dom` its Jacobian factor is the derivative.
    A function of one argument (`exp`, …) is the case where `F` ignores `c`. -/
structure Sound1 (r : Rule) (F : ℝ → ℝ → ℝ) (dom : ℝ → ℝ → Prop) : Prop where
  val : ∀ x c, r.val.evalR [x, c] = F x c
  deriv : ∀ x c, dom x c → HasDerivAt (fun t => F t c) (r.dself.evalR [x, c]) x
  no_other : r.dother = none

/-- A rule combining two AdArrays: the two Jacobian factors are the partial derivatives, jointly
    (Fréchet derivative of `(x, y) ↦ F x y`). -/
structure Sound2 (r : Rule) (F : ℝ → ℝ → ℝ) (dom : ℝ → ℝ → Prop) : Prop where
  val : ∀ x y, r.val.evalR [x, y] = F x y
  deriv : ∀ x y, dom x y → HasFDerivAt (fun p : ℝ × ℝ => F p.1 p.2)
      (r.dself.evalR [x, y] • ContinuousLinearMap.fst ℝ ℝ ℝ
        + (r.dother.getD (.const 0)).evalR [x, y] • ContinuousLinearMap.snd ℝ ℝ ℝ) (x, y)
  has_other : r.dother.isSome = true

theorem rpow_neg_half {x : ℝ} (hx : 0 ≤ x) : x ^ ((-1 : ℝ) / 2) = (√x)⁻¹ := by
  rw [Real.sqrt_eq_rpow, ← Real.rpow_neg hx]; norm_num

theorem rpow_neg_two (x : ℝ) : x ^ (-2 : ℝ) = (x ^ 2)⁻¹ := by
  have : (-2 : ℝ) = ((-2 : ℤ) : ℝ) := by norm_num
  rw [this, Real.rpow_intCast]; simp [zpow_neg]

theorem hasDerivAt_tanh (x : ℝ) : HasDerivAt Real.tanh ((Real.cosh x ^ 2)⁻¹) x := by
  have h := (Real.hasDerivAt_sinh x).div (Real.hasDerivAt_cosh x) (Real.cosh_pos x).ne'
  rw [funext Real.tanh_eq_sinh_div_cosh]
  refine h.congr_deriv ?_
  rw [← pow_two, ← pow_two, Real.cosh_sq_sub_sinh_sq, one_div]

theorem hasDerivAt_artanh {x : ℝ} (h1 : -1 < x) (h2 : x < 1) :
    HasDerivAt Real.artanh ((1 - x ^ 2)⁻¹) x := by
  have hp : 1 + x ≠ 0 := (neg_lt_iff_pos_add'.1 h1).ne'
  have hm : 1 - x ≠ 0 := (sub_pos.2 h2).ne'
  have hl := (((hasDerivAt_id x).const_add 1).log hp).sub (((hasDerivAt_id x).const_sub 1).log hm)
  have he : Real.artanh =ᶠ[nhds x] fun y => 1 / 2 * (Real.log (1 + y) - Real.log (1 - y)) := by
    filter_upwards [Ioo_mem_nhds h1 h2] with y hy
    rw [Real.artanh_eq_half_log ⟨hy.1.le, hy.2.le⟩,
      Real.log_div (neg_lt_iff_pos_add'.1 hy.1).ne' (sub_pos.2 hy.2).ne']
  refine ((hl.const_mul (1 / 2 : ℝ)).congr_of_eventuallyEq he).congr_deriv ?_
  show 1 / 2 * (1 / (1 + x) - -1 / (1 - x)) = (1 - x ^ 2)⁻¹
  rw [show 1 - x ^ 2 = (1 + x) * (1 - x) by ring, neg_div, sub_neg_eq_add, div_add_div _ _ hp hm]
  ring

theorem hasDerivAt_signR_abs {x : ℝ} (hx : x ≠ 0) : HasDerivAt (fun t => |t|) (signR x) x := by
  have h := hasDerivAt_abs hx
  refine h.congr_deriv ?_
  unfold signR
  rcases lt_or_gt_of_ne hx with h | h
  · simp [h]
  · simp [h, not_lt.mpr h.le]

/-- a function that is locally constant around `x` has derivative 0 there -/
theorem hasDerivAt_of_eventually_const {f : ℝ → ℝ} {x k : ℝ} (h : f =ᶠ[nhds x] fun _ => k) :
    HasDerivAt f 0 x :=
  (hasDerivAt_const x k).congr_of_eventuallyEq h

/-- A function that agrees with `g` on the open set `{y | a y < b y}` has the derivative of `g` at its points: the branches
    of `np.where`, `np.heaviside`, `np.maximum` away from the switch. -/
theorem hasDerivAt_of_eq_on_lt {f g a b : ℝ → ℝ} {g' x : ℝ} (ha : Continuous a) (hb : Continuous b) (hx : a x < b x)
    (h : ∀ y, a y < b y → f y = g y) (hg : HasDerivAt g g' x) : HasDerivAt f g' x :=
  hg.congr_of_eventuallyEq (Filter.mem_of_superset ((isOpen_lt ha hb).mem_nhds hx) h)

theorem heavisideR_hasDerivAt {x z : ℝ} (hx : x ≠ 0) : HasDerivAt (fun t => heavisideR t z) 0 x := by
  rcases lt_or_gt_of_ne hx with h | h
  · exact hasDerivAt_of_eq_on_lt continuous_id continuous_const h (fun y hy => if_pos hy) (hasDerivAt_const x 0)
  · refine hasDerivAt_of_eq_on_lt continuous_const continuous_id h (fun y (hy : 0 < y) => ?_) (hasDerivAt_const x 1)
    rw [heavisideR, if_neg (not_lt.mpr hy.le), if_neg hy.ne']

/-- A Fréchet derivative on `ℝ × ℝ` in the form `Sound2` wants: a functional on `ℝ × ℝ` is determined by its values at
    `(1, 0)` and `(0, 1)`. -/
theorem fderiv2_of {f : ℝ × ℝ → ℝ} {L : ℝ × ℝ →L[ℝ] ℝ} {q : ℝ × ℝ} {a b : ℝ}
    (h : HasFDerivAt f L q) (ha : L (1, 0) = a) (hb : L (0, 1) = b) :
    HasFDerivAt f (a • ContinuousLinearMap.fst ℝ ℝ ℝ + b • ContinuousLinearMap.snd ℝ ℝ ℝ) q := by
  refine h.congr_fderiv (ContinuousLinearMap.ext fun p => ?_)
  calc L p = L (p.1 • ((1 : ℝ), (0 : ℝ)) + p.2 • ((0 : ℝ), (1 : ℝ))) := by
          simp only [Prod.smul_mk, Prod.mk_add_mk, smul_eq_mul, mul_one, mul_zero, add_zero, zero_add]
    _ = a * p.1 + b * p.2 := by
          rw [map_add, map_smul, map_smul, ha, hb, smul_eq_mul, smul_eq_mul, mul_comm a, mul_comm b]

/-- Where `(x, y) ↦ F x y` is differentiable, its derivative is assembled from the derivatives of `F · y` and `F x ·`: a rule
    between two AdArrays needs, beyond joint differentiability, only the facts about its two one-operand forms. -/
theorem hasFDerivAt_of_partials {F : ℝ → ℝ → ℝ} {x y a b : ℝ}
    (hd : DifferentiableAt ℝ (fun p : ℝ × ℝ => F p.1 p.2) (x, y))
    (ha : HasDerivAt (fun t => F t y) a x) (hb : HasDerivAt (fun t => F x t) b y) :
    HasFDerivAt (fun p : ℝ × ℝ => F p.1 p.2)
      (a • ContinuousLinearMap.fst ℝ ℝ ℝ + b • ContinuousLinearMap.snd ℝ ℝ ℝ) (x, y) := by
  have h := hd.hasFDerivAt
  have h1 := HasFDerivAt.comp_hasDerivAt (f := fun t => (t, y)) x h ((hasDerivAt_id x).prodMk (hasDerivAt_const x y))
  have h2 := HasFDerivAt.comp_hasDerivAt (f := fun t => (x, t)) y h ((hasDerivAt_const y x).prodMk (hasDerivAt_id y))
  exact fderiv2_of h (h1.unique ha) (h2.unique hb)

theorem one_sub_sq_nonneg {x : ℝ} (h1 : -1 < x) (h2 : x < 1) : 0 ≤ 1 - x ^ 2 :=
  sub_nonneg.2 ((sq_lt_one_iff_abs_lt_one x).2 (abs_lt.2 ⟨h1, h2⟩)).le

theorem hasDerivAt_const_div (c : ℝ) {x : ℝ} (hx : x ≠ 0) : HasDerivAt (fun t => c / t) (c * -(x ^ 2)⁻¹) x :=
  (funext fun t => div_eq_mul_inv c t : (fun t => c / t) = fun t => c * t⁻¹) ▸ (hasDerivAt_inv hx).const_mul c

/-- `x ** (-1 - 1)` in the generated factors of the divisions -/
theorem rpow_neg_one_sub_one (x : ℝ) : x ^ ((-1 : ℝ) - 1) = (x ^ 2)⁻¹ := by
  rw [show ((-1 : ℝ) - 1) = -2 by norm_num, rpow_neg_two]

theorem hasDerivAt_max_const {x c : ℝ} (h : x ≠ c) :
    HasDerivAt (fun t => max t c) (if c > x then 0 else 1) x := by
  rcases lt_or_gt_of_ne h with h | h
  · rw [if_pos h]
    exact hasDerivAt_of_eq_on_lt continuous_id continuous_const h (fun t ht => max_eq_right ht.le) (hasDerivAt_const x c)
  · rw [if_neg (not_lt.mpr h.le)]
    exact hasDerivAt_of_eq_on_lt continuous_const continuous_id h (fun t ht => max_eq_left ht.le) (hasDerivAt_id x)

/-- the same with the constant as first argument, the factor written as the rules for `maximum(c, x)` have it -/
theorem hasDerivAt_const_max {x c : ℝ} (h : x ≠ c) :
    HasDerivAt (fun t => max c t) (if x > c then 1 else 0) x := by
  rw [funext fun t => max_comm c t]
  refine (hasDerivAt_max_const h).congr_deriv ?_
  rcases lt_or_gt_of_ne h with h | h
  · rw [if_pos h, if_neg (not_lt.mpr h.le)]
  · rw [if_neg (not_lt.mpr h.le), if_pos h]

theorem ifgt_max (x y : ℝ) : (if y > x then y else x) = max x y := by
  by_cases h : y > x
  · rw [if_pos h, max_eq_right h.le]
  · rw [if_neg h, max_eq_left (not_lt.mp h)]

theorem differentiableAt_max {x y : ℝ} (h : x ≠ y) : DifferentiableAt ℝ (fun p : ℝ × ℝ => max p.1 p.2) (x, y) := by
  rcases lt_or_gt_of_ne h with h | h
  · refine differentiableAt_snd.congr_of_eventuallyEq ?_
    filter_upwards [(isOpen_lt continuous_fst continuous_snd).mem_nhds h] with p hp
    exact max_eq_right hp.le
  · refine differentiableAt_fst.congr_of_eventuallyEq ?_
    filter_upwards [(isOpen_lt continuous_snd continuous_fst).mem_nhds h] with p hp
    exact max_eq_left hp.le

/-- a function that is `|t| + c` along a differentiable curve `γ` is not differentiable at `γ 0` -/
theorem not_differentiableAt_of_abs_along {E : Type} [NormedAddCommGroup E] [NormedSpace ℝ E] {f : E → ℝ} {γ : ℝ → E}
    {c : ℝ} (hγ : DifferentiableAt ℝ γ 0) (h : ∀ t, f (γ t) = |t| + c) : ¬ DifferentiableAt ℝ f (γ 0) := fun hf =>
  not_differentiableAt_abs_zero (((hf.comp 0 hγ).sub_const c).congr_of_eventuallyEq (.of_forall fun t => eq_sub_of_add_eq (h t).symm))

/-- Soundness of a rule depends on its three expressions only: generated rules that differ in name alone
    (`add_S` / `add_A`, …) share one proof. -/
theorem Sound1.of_eq {r r' : Rule} {F : ℝ → ℝ → ℝ} {dom : ℝ → ℝ → Prop} (h : Sound1 r F dom)
    (hv : r'.val = r.val) (hd : r'.dself = r.dself) (ho : r'.dother = none) : Sound1 r' F dom :=
  ⟨fun x c => hv ▸ h.val x c, fun x c hx => hd ▸ h.deriv x c hx, ho⟩

/-- … and on the operation only up to pointwise equality (`x + c` / `c + x`). -/
theorem Sound1.congr_op {r : Rule} {F F' : ℝ → ℝ → ℝ} {dom : ℝ → ℝ → Prop} (h : Sound1 r F dom)
    (hF : ∀ x c, F' x c = F x c) : Sound1 r F' dom :=
  ⟨fun x c => (h.val x c).trans (hF x c).symm,
   fun x c hx => (funext fun t => hF t c : (fun t => F' t c) = fun t => F t c) ▸ h.deriv x c hx, h.no_other⟩

/-! ### AD programs on vectors over ℝ

Rows are indexed by `ℕ` (an AdArray of size m uses rows 0..m-1; size bookkeeping and the size errors of the
code are part of the Float model `Tree.evalF`, not of the calculus statement).  The independent variables are
`X : Fin n → ℝ` (all variables of `initAdArrays` jointly).  Programs may SHARE results: `ref j` is the j-th
result computed before (let-binding, evaluated once); expressions are evaluated in an environment of such
results. -/

abbrev Pt (n : Nat) := Fin n → ℝ

/-- a Jacobian row read as a linear functional -/
noncomputable def lin {n : Nat} (g : Fin n → ℝ) : Pt n →L[ℝ] ℝ :=
  ∑ j, g j • ContinuousLinearMap.proj (R := ℝ) (φ := fun _ : Fin n => ℝ) j

theorem lin_apply {n : Nat} (g : Fin n → ℝ) (Y : Pt n) : lin g Y = ∑ j, g j * Y j := by
  simp only [lin, sum_apply, smul_apply, ContinuousLinearMap.proj_apply,
    smul_eq_mul]

theorem lin_single {n : Nat} (k : Fin n) :
    lin (Pi.single k (1 : ℝ)) = ContinuousLinearMap.proj (R := ℝ) (φ := fun _ : Fin n => ℝ) k := by
  ext Y
  simp only [lin_apply, Pi.single_apply, ite_mul, one_mul, zero_mul, Finset.sum_ite_eq', Finset.mem_univ, if_true,
    ContinuousLinearMap.proj_apply]

theorem lin_zero {n : Nat} : lin (fun _ : Fin n => (0 : ℝ)) = 0 := by
  ext Y
  simp only [lin_apply, zero_mul, Finset.sum_const_zero, zero_apply]

theorem lin_smul {n : Nat} (d : ℝ) (g : Fin n → ℝ) : lin (fun j => d * g j) = d • lin g := by
  ext Y
  simp only [lin_apply, smul_apply, smul_eq_mul, Finset.mul_sum, mul_assoc]

theorem lin_add_smul {n : Nat} (d₁ d₂ : ℝ) (g h : Fin n → ℝ) :
    lin (fun j => d₁ * g j + d₂ * h j) = d₁ • lin g + d₂ • lin h := by
  ext Y
  simp only [lin_apply, add_apply, smul_apply, smul_eq_mul, Finset.mul_sum,
    mul_assoc, add_mul, Finset.sum_add_distrib]

theorem lin_sum {n : Nat} {ι : Type} (s : Finset ι) (m : ι → ℝ) (g : ι → Fin n → ℝ) :
    lin (fun j => ∑ k ∈ s, m k * g k j) = ∑ k ∈ s, m k • lin (g k) := by
  ext Y
  simp only [lin_apply, sum_apply, smul_apply, smul_eq_mul, Finset.mul_sum,
    Finset.sum_mul, mul_assoc]
  exact Finset.sum_comm

/-- one row of an AdArray: value and gradient -/
structure Dual (n : Nat) where
  v : ℝ
  g : Fin n → ℝ

/-- `tol = 1e-12` of `l2_norm` (the binary64 number) -/
noncomputable def l2tol : ℝ := (4951760157141521 : ℝ) / 4951760157141521099596496896

/-- Euclidean norm of one group, as `np.linalg.norm` computes it -/
noncomputable def norm2 {d : ℕ} (y : Fin d → ℝ) : ℝ := √(∑ k, y k ^ 2)

/-- `∇‖v‖ = v / ‖v‖` away from the origin -/
theorem hasFDerivAt_norm2 {d : ℕ} {v : Fin d → ℝ} (hv : norm2 v ≠ 0) :
    HasFDerivAt (norm2 (d := d)) (lin fun k => v k / norm2 v) v := by
  have hS : ∑ k : Fin d, v k ^ 2 ≠ 0 := fun h0 => hv (by rw [norm2, h0, Real.sqrt_zero])
  have hsum : HasFDerivAt (fun y : Fin d → ℝ => ∑ k : Fin d, y k ^ 2) (lin fun k => (2 : ℕ) • v k ^ (2 - 1)) v :=
    HasFDerivAt.fun_sum fun k _ => HasFDerivAt.pow (hasFDerivAt_apply (𝕜 := ℝ) (F' := fun _ : Fin d => ℝ) k v) 2
  refine (hsum.sqrt hS).congr_fderiv ?_
  rw [← lin_smul]
  congr 1
  funext k
  simp only [norm2, Nat.add_one_sub_one, pow_one, nsmul_eq_mul, Nat.cast_ofNat]
  rw [div_mul_eq_mul_div, one_mul, mul_div_mul_left _ _ two_ne_zero]

inductive Expr (n : Nat) where
  /-- an AdArray of `initAdArrays` (or any row selection of the identity): row i is the variable `idx i` -/
  | var (idx : ℕ → Fin n)
  /-- the j-th shared result (the SAME AdArray object used again) -/
  | ref (j : ℕ)
  /-- row-wise rule `r` with constant operand or parameter `c i` (python scalar: `c` constant; numpy array: its
      entries); `F` = what the operation means on numbers.  Also `maximum` with a constant operand. -/
  | map1 (r : Rule) (F : ℝ → ℝ → ℝ) (c : ℕ → ℝ) (e : Expr n)
  /-- row-wise rule between two AdArrays (arithmetic, `maximum`) -/
  | map2 (r : Rule) (F : ℝ → ℝ → ℝ) (e₁ e₂ : Expr n)
  /-- `M @ e` for a (sparse) matrix with `cols` columns -/
  | matmul (M : ℕ → ℕ → ℝ) (cols : ℕ) (e : Expr n)
  /-- `e[key]`, `idx` = the rows selected -/
  | slice (idx : ℕ → ℕ) (e : Expr n)
  /-- `l2_norm(dim, e)`, dim ≥ 2 branch, with the generated rule -/
  | l2norm (r : NormRule) (dim : ℕ) (e : Expr n)

/-- plain evaluation (what numpy computes for the same expression); `ρ j` = value of the j-th shared result -/
noncomputable def Expr.den {n : Nat} : Expr n → (ℕ → ℕ → ℝ) → Pt n → ℕ → ℝ
  | .var idx, _, X, i => X (idx i)
  | .ref j, ρ, _, i => ρ j i
  | .map1 _ F c e, ρ, X, i => F (e.den ρ X i) (c i)
  | .map2 _ F e₁ e₂, ρ, X, i => F (e₁.den ρ X i) (e₂.den ρ X i)
  | .matmul M cols e, ρ, X, i => ∑ k ∈ Finset.range cols, M i k * e.den ρ X k
  | .slice idx e, ρ, X, i => e.den ρ X (idx i)
  | .l2norm _ dim e, ρ, X, i => norm2 (fun k : Fin dim => e.den ρ X (dim * i + k))

/-- forward-mode evaluation as the code does it: values by the rules' value expressions, Jacobian rows by
    `diag(dself) @ jac (+ diag(dother) @ other.jac)`, `M @ jac`, row selection, `norm_jac * jac`;
    `σ j` = the j-th shared AdArray. -/
noncomputable def Expr.ad {n : Nat} : Expr n → (ℕ → ℕ → Dual n) → Pt n → ℕ → Dual n
  | .var idx, _, X, i => ⟨X (idx i), Pi.single (idx i) 1⟩
  | .ref j, σ, _, i => σ j i
  | .map1 r _ c e, σ, X, i =>
      let d := e.ad σ X i
      ⟨r.val.evalR [d.v, c i], fun j => r.dself.evalR [d.v, c i] * d.g j⟩
  | .map2 r _ e₁ e₂, σ, X, i =>
      let a := e₁.ad σ X i
      let b := e₂.ad σ X i
      ⟨r.val.evalR [a.v, b.v],
       fun j => r.dself.evalR [a.v, b.v] * a.g j + (r.dother.getD (.const 0)).evalR [a.v, b.v] * b.g j⟩
  | .matmul M cols e, σ, X, i =>
      ⟨∑ k ∈ Finset.range cols, M i k * (e.ad σ X k).v, fun j => ∑ k ∈ Finset.range cols, M i k * (e.ad σ X k).g j⟩
  | .slice idx e, σ, X, i => e.ad σ X (idx i)
  | .l2norm r dim e, σ, X, i =>
      let S := ∑ k : Fin dim, ((e.ad σ X (dim * i + k)).v) ^ 2
      ⟨r.val.evalR [0, S], fun j => ∑ k : Fin dim, r.coef.evalR [(e.ad σ X (dim * i + k)).v, S] * (e.ad σ X (dim * i + k)).g j⟩

/-- every rule's value expression means the operation attached to the node (a property of the tree alone) -/
def Expr.ValSpec {n : Nat} : Expr n → Prop
  | .var _ => True
  | .ref _ => True
  | .map1 r F _ e => e.ValSpec ∧ ∀ x c, r.val.evalR [x, c] = F x c
  | .map2 r F e₁ e₂ => e₁.ValSpec ∧ e₂.ValSpec ∧ ∀ x y, r.val.evalR [x, y] = F x y
  | .matmul _ _ e => e.ValSpec
  | .slice _ e => e.ValSpec
  | .l2norm r _ e => e.ValSpec ∧ ∀ x S, r.val.evalR [x, S] = √S

/-- at the point `X` every rule application is at a point where its Jacobian factor(s) are the derivative of
    the node's operation (provided by the `rule_sound_*` theorems on the rule's domain) -/
def Expr.Smooth {n : Nat} : Expr n → (ℕ → ℕ → ℝ) → Pt n → Prop
  | .var _, _, _ => True
  | .ref _, _, _ => True
  | .map1 r F c e, ρ, X => e.Smooth ρ X ∧
      ∀ i, HasDerivAt (fun t => F t (c i)) (r.dself.evalR [e.den ρ X i, c i]) (e.den ρ X i)
  | .map2 r F e₁ e₂, ρ, X => e₁.Smooth ρ X ∧ e₂.Smooth ρ X ∧
      ∀ i, HasFDerivAt (fun p : ℝ × ℝ => F p.1 p.2)
        (r.dself.evalR [e₁.den ρ X i, e₂.den ρ X i] • ContinuousLinearMap.fst ℝ ℝ ℝ
          + (r.dother.getD (.const 0)).evalR [e₁.den ρ X i, e₂.den ρ X i] • ContinuousLinearMap.snd ℝ ℝ ℝ)
        (e₁.den ρ X i, e₂.den ρ X i)
  | .matmul _ _ e, ρ, X => e.Smooth ρ X
  | .slice _ e, ρ, X => e.Smooth ρ X
  | .l2norm r dim e, ρ, X => e.Smooth ρ X ∧
      ∀ i, HasFDerivAt (norm2 (d := dim))
        (∑ k : Fin dim, r.coef.evalR [e.den ρ X (dim * i + k), ∑ k' : Fin dim, (e.den ρ X (dim * i + k')) ^ 2]
          • ContinuousLinearMap.proj (R := ℝ) (φ := fun _ : Fin dim => ℝ) k)
        (fun k : Fin dim => e.den ρ X (dim * i + k))

/-! ### programs with shared results: `lets[0]; lets[1]; …; body`, every result computed once -/

structure Prog (n : Nat) where
  lets : List (Expr n)
  body : Expr n

/-- values of the shared results after running `ds` (the k-th result so far goes to slot k) -/
noncomputable def envDen {n : Nat} (X : Pt n) : List (Expr n) → ℕ → (ℕ → ℕ → ℝ) → (ℕ → ℕ → ℝ)
  | [], _, ρ => ρ
  | d :: ds, k, ρ => envDen X ds (k + 1) (Function.update ρ k (d.den ρ X))

noncomputable def envAd {n : Nat} (X : Pt n) : List (Expr n) → ℕ → (ℕ → ℕ → Dual n) → (ℕ → ℕ → Dual n)
  | [], _, σ => σ
  | d :: ds, k, σ => envAd X ds (k + 1) (Function.update σ k (d.ad σ X))

def letsSmooth {n : Nat} (X : Pt n) : List (Expr n) → ℕ → (ℕ → ℕ → ℝ) → Prop
  | [], _, _ => True
  | d :: ds, k, ρ => d.Smooth ρ X ∧ letsSmooth X ds (k + 1) (Function.update ρ k (d.den ρ X))

noncomputable def Prog.env0 : ℕ → ℕ → ℝ := fun _ _ => 0
noncomputable def Prog.envAd0 (n : Nat) : ℕ → ℕ → Dual n := fun _ _ => ⟨0, fun _ => 0⟩

noncomputable def Prog.den {n : Nat} (p : Prog n) (X : Pt n) (i : ℕ) : ℝ :=
  p.body.den (envDen X p.lets 0 Prog.env0) X i

noncomputable def Prog.ad {n : Nat} (p : Prog n) (X : Pt n) (i : ℕ) : Dual n :=
  p.body.ad (envAd X p.lets 0 (Prog.envAd0 n)) X i

def Prog.ValSpec {n : Nat} (p : Prog n) : Prop := (∀ d ∈ p.lets, d.ValSpec) ∧ p.body.ValSpec

def Prog.Smooth {n : Nat} (p : Prog n) (X : Pt n) : Prop :=
  letsSmooth X p.lets 0 Prog.env0 ∧ p.body.Smooth (envDen X p.lets 0 Prog.env0) X

/-- substitution of closed expressions for the shared results (what the Float model and the harness do) -/
def Expr.subst {n : Nat} (L : ℕ → Expr n) : Expr n → Expr n
  | .var idx => .var idx
  | .ref j => L j
  | .map1 r F c e => .map1 r F c (e.subst L)
  | .map2 r F e₁ e₂ => .map2 r F (e₁.subst L) (e₂.subst L)
  | .matmul M cols e => .matmul M cols (e.subst L)
  | .slice idx e => .slice idx (e.subst L)
  | .l2norm r dim e => .l2norm r dim (e.subst L)

/-! ### smooth-domain conditions as data (`Dom`, Model.lean), real reading -/

def Dom.holdsR : Dom → ℝ → ℝ → Prop
  | .all, _, _ => True
  | .pos, x, _ => 0 < x
  | .xne0, x, _ => x ≠ 0
  | .cne0, _, c => c ≠ 0
  | .cpos, _, c => 0 < c
  | .absLt1, x, _ => -1 < x ∧ x < 1
  | .gt1, x, _ => 1 < x
  | .cosNe0, x, _ => Real.cos x ≠ 0
  | .powC, x, c => x ≠ 0 ∨ 1 ≤ c
  | .absNeC, x, c => |x| ≠ c
  | .neC, x, c => x ≠ c
  | .safePow, _, _ => False   -- three parameters, see `rule_sound_safe_power`; not a node of `Expr`
  | .never, _, _ => False     -- `regularized_heaviside_not_exact`; not a node of `Expr` either

/-- a table entry: rule as generated, the operation it stands for, its domain condition -/
abbrev Entry := Rule × (ℝ → ℝ → ℝ) × Dom

/-- Every rule node is an entry of the (verified) tables and the values arriving at it satisfy the entry's domain
    condition; every `l2_norm` group is above the tolerance.  Only inequalities between numbers computed from the
    input point — what `Tree.domF` evaluates in the driver. -/
def Expr.InDom {n : Nat} (T1 T2 : List Entry) (NR : NormRule) : Expr n → (ℕ → ℕ → ℝ) → Pt n → Prop
  | .var _, _, _ => True
  | .ref _, _, _ => True
  | .map1 r F c e, ρ, X => e.InDom T1 T2 NR ρ X ∧ ∃ d, (r, F, d) ∈ T1 ∧ ∀ i, d.holdsR (e.den ρ X i) (c i)
  | .map2 r F e₁ e₂, ρ, X => e₁.InDom T1 T2 NR ρ X ∧ e₂.InDom T1 T2 NR ρ X ∧
      ∃ d, (r, F, d) ∈ T2 ∧ ∀ i, d.holdsR (e₁.den ρ X i) (e₂.den ρ X i)
  | .matmul _ _ e, ρ, X => e.InDom T1 T2 NR ρ X
  | .slice _ e, ρ, X => e.InDom T1 T2 NR ρ X
  | .l2norm r dim e, ρ, X => e.InDom T1 T2 NR ρ X ∧ r = NR ∧
      ∀ i, l2tol < norm2 (fun k : Fin dim => e.den ρ X (dim * i + k))

def letsInDom {n : Nat} (T1 T2 : List Entry) (NR : NormRule) (X : Pt n) : List (Expr n) → ℕ → (ℕ → ℕ → ℝ) → Prop
  | [], _, _ => True
  | d :: ds, k, ρ => d.InDom T1 T2 NR ρ X ∧ letsInDom T1 T2 NR X ds (k + 1) (Function.update ρ k (d.den ρ X))

def Prog.InDom {n : Nat} (T1 T2 : List Entry) (NR : NormRule) (p : Prog n) (X : Pt n) : Prop :=
  letsInDom T1 T2 NR X p.lets 0 Prog.env0 ∧ p.body.InDom T1 T2 NR (envDen X p.lets 0 Prog.env0) X

end PorepyVerif.C01
