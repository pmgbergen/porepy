/-
C01 — one theorem per rule GENERATED from the current Python source (Generated.lean).

`rule_sound_<name>`: the rule's value expression is the operation on real numbers it stands for, everywhere, and on the stated
domain (inequalities between the operands, each satisfiable) its Jacobian factor(s) are the derivative (`HasDerivAt` / joint
`HasFDerivAt` for AdArray∘AdArray).  A flipped sign, swapped factor or dropped chain-rule factor in the source changes the
generated term and the corresponding theorem stops compiling.
-/
import PorepyVerif.C01.Lemmas
import PorepyVerif.C01.Generated
namespace PorepyVerif.C01
open Real

/-! ## the library rules (functions.py)

Where a generated expression contains no rational constant, `evalR` unfolds to the real expression itself and the Mathlib
derivative fits as it stands; otherwise `congr_deriv` compares the two factors. -/

theorem rule_sound_exp : Sound1 Gen.exp (fun x _ => Real.exp x) (fun _ _ => True) where
  val _ _ := rfl
  deriv x _ _ := Real.hasDerivAt_exp x
  no_other := rfl

theorem rule_sound_log : Sound1 Gen.log (fun x _ => Real.log x) (fun x _ => 0 < x) where
  val _ _ := rfl
  deriv _ _ hx := (Real.hasDerivAt_log hx.ne').congr_deriv (by simp [Gen.log, SExpr.evalR])
  no_other := rfl

theorem rule_sound_abs : Sound1 Gen.abs (fun x _ => |x|) (fun x _ => x ≠ 0) where
  val _ _ := rfl
  deriv _ _ hx := hasDerivAt_signR_abs hx
  no_other := rfl

theorem rule_sound_l2_norm_dim1 : Sound1 Gen.l2_norm_dim1 (fun x _ => |x|) (fun x _ => x ≠ 0) :=
  rule_sound_abs.of_eq rfl rfl rfl

theorem rule_sound_sin : Sound1 Gen.sin (fun x _ => Real.sin x) (fun _ _ => True) where
  val _ _ := rfl
  deriv x _ _ := Real.hasDerivAt_sin x
  no_other := rfl

theorem rule_sound_cos : Sound1 Gen.cos (fun x _ => Real.cos x) (fun _ _ => True) where
  val _ _ := rfl
  deriv x _ _ := Real.hasDerivAt_cos x
  no_other := rfl

theorem rule_sound_tan : Sound1 Gen.tan (fun x _ => Real.tan x) (fun x _ => Real.cos x ≠ 0) where
  val _ _ := rfl
  deriv _ _ hx := (Real.hasDerivAt_tan hx).congr_deriv
    (by simp [Gen.tan, SExpr.evalR, UFun.evalR, Real.rpow_neg_one])
  no_other := rfl

theorem rule_sound_arcsin : Sound1 Gen.arcsin (fun x _ => Real.arcsin x) (fun x _ => -1 < x ∧ x < 1) where
  val _ _ := rfl
  deriv _ _ h := (Real.hasDerivAt_arcsin h.1.ne' h.2.ne).congr_deriv
    (by simp [Gen.arcsin, SExpr.evalR, rpow_neg_half (one_sub_sq_nonneg h.1 h.2)])
  no_other := rfl

theorem rule_sound_arccos : Sound1 Gen.arccos (fun x _ => Real.arccos x) (fun x _ => -1 < x ∧ x < 1) where
  val _ _ := rfl
  deriv _ _ h := (Real.hasDerivAt_arccos h.1.ne' h.2.ne).congr_deriv
    (by simp [Gen.arccos, SExpr.evalR, rpow_neg_half (one_sub_sq_nonneg h.1 h.2)])
  no_other := rfl

theorem rule_sound_arctan : Sound1 Gen.arctan (fun x _ => Real.arctan x) (fun _ _ => True) where
  val _ _ := rfl
  deriv x _ _ := (Real.hasDerivAt_arctan x).congr_deriv
    (by simp [Gen.arctan, SExpr.evalR, Real.rpow_neg_one, add_comm])
  no_other := rfl

theorem rule_sound_sinh : Sound1 Gen.sinh (fun x _ => Real.sinh x) (fun _ _ => True) where
  val _ _ := rfl
  deriv x _ _ := Real.hasDerivAt_sinh x
  no_other := rfl

theorem rule_sound_cosh : Sound1 Gen.cosh (fun x _ => Real.cosh x) (fun _ _ => True) where
  val _ _ := rfl
  deriv x _ _ := Real.hasDerivAt_cosh x
  no_other := rfl

theorem rule_sound_tanh : Sound1 Gen.tanh (fun x _ => Real.tanh x) (fun _ _ => True) where
  val _ _ := rfl
  deriv x _ _ := (hasDerivAt_tanh x).congr_deriv (by simp [Gen.tanh, SExpr.evalR, UFun.evalR])
  no_other := rfl

theorem rule_sound_arcsinh : Sound1 Gen.arcsinh (fun x _ => Real.arsinh x) (fun _ _ => True) where
  val _ _ := rfl
  deriv x _ _ := (Real.hasDerivAt_arsinh x).congr_deriv
    (by simp [Gen.arcsinh, SExpr.evalR, rpow_neg_half (add_nonneg (sq_nonneg x) zero_le_one), add_comm])
  no_other := rfl

theorem rule_sound_arccosh : Sound1 Gen.arccosh (fun x _ => Real.arcosh x) (fun x _ => 1 < x) where
  val _ _ := rfl
  deriv := by
    intro x c hx
    refine (Real.hasDerivAt_arcosh (Set.mem_Ioi.mpr hx)).congr_deriv ?_
    have h1 : (0 : ℝ) ≤ x - 1 := by linarith
    have h2 : (0 : ℝ) ≤ x + 1 := by linarith
    simp [Gen.arccosh, SExpr.evalR]
    rw [rpow_neg_half h1, rpow_neg_half h2, ← mul_inv, ← Real.sqrt_mul h1]
    congr 2; ring
  no_other := rfl

theorem rule_sound_arctanh : Sound1 Gen.arctanh (fun x _ => Real.artanh x) (fun x _ => -1 < x ∧ x < 1) where
  val _ _ := rfl
  deriv _ _ h := (hasDerivAt_artanh h.1 h.2).congr_deriv
    (by simp [Gen.arctanh, SExpr.evalR, Real.rpow_neg_one])
  no_other := rfl

theorem rule_sound_heaviside : Sound1 Gen.heaviside (fun x z => heavisideR x z) (fun x _ => x ≠ 0) where
  val _ _ := rfl
  deriv _ _ hx := (heavisideR_hasDerivAt hx).congr_deriv Rat.cast_zero.symm
  no_other := rfl

/-- `H_eps(x) = (1/2) (1 + (2/π) arctan(x/eps))` (docstring of `heaviside_smooth`) -/
noncomputable def heavisideSmoothR (x eps : ℝ) : ℝ := 1 / 2 * (1 + 2 / π * Real.arctan (x / eps))

theorem heavisideSmooth_hasDerivAt {x c : ℝ} (hc : c ≠ 0) :
    HasDerivAt (fun t => heavisideSmoothR t c) (π⁻¹ * c * (c ^ 2 + x ^ 2)⁻¹) x := by
  have h1 : HasDerivAt (fun t : ℝ => t / c) (1 / c) x := (hasDerivAt_id x).div_const c
  refine (((h1.arctan.const_mul (2 / π)).const_add 1).const_mul (1 / 2 : ℝ)).congr_deriv ?_
  have hpi : π ≠ 0 := Real.pi_ne_zero
  have hs : c ^ 2 + x ^ 2 ≠ 0 := by positivity
  field_simp

/-- the generated factor of `heaviside_smooth`; `RegularizedHeaviside` generates the same expression -/
theorem heaviside_smooth_dself (x eps : ℝ) (ps : List ℝ) :
    Gen.heaviside_smooth.dself.evalR (x :: eps :: ps) = π⁻¹ * eps * (eps ^ 2 + x ^ 2)⁻¹ := by
  simp [Gen.heaviside_smooth, SExpr.evalR, Real.rpow_neg_one]

theorem rule_sound_heaviside_smooth : Sound1 Gen.heaviside_smooth heavisideSmoothR (fun _ eps => eps ≠ 0) where
  val x c := by
    simp [Gen.heaviside_smooth, SExpr.evalR, UFun.evalR, heavisideSmoothR, Real.rpow_neg_one, div_eq_mul_inv]
  deriv x c hc := (heavisideSmooth_hasDerivAt hc).congr_deriv (heaviside_smooth_dself x c []).symm
  no_other := rfl

/-- `np.isclose(x, 0, atol=tol)` as a float -/
noncomputable def charR (x tol : ℝ) : ℝ := if |x| ≤ tol then 1 else 0

theorem rule_sound_characteristic_function :
    Sound1 Gen.characteristic_function charR (fun x tol => |x| ≠ tol) where
  val x c := by
    show (if |x| > c then ((0 : ℚ) : ℝ) else ((1 : ℚ) : ℝ)) = if |x| ≤ c then 1 else 0
    simp only [Rat.cast_zero, Rat.cast_one, gt_iff_lt, ← not_le, ite_not]
  deriv x c hx := by
    refine HasDerivAt.congr_deriv ?_ (Rat.cast_zero.symm : (0 : ℝ) = Gen.characteristic_function.dself.evalR [x, c])
    rcases lt_or_gt_of_ne hx with h | h
    · exact hasDerivAt_of_eq_on_lt continuous_abs continuous_const h (fun y hy => if_pos hy.le) (hasDerivAt_const x 1)
    · exact hasDerivAt_of_eq_on_lt continuous_const continuous_abs h (fun y hy => if_neg (not_le.mpr hy)) (hasDerivAt_const x 0)
  no_other := rfl

/-- `RegularizedHeaviside(partial(heaviside_smooth, eps=eps))`: the VALUE is the sharp step `heaviside(x, 0)`, the Jacobian
    factor is the derivative of the REGULARIZATION `heaviside_smooth(x, eps)` — by design not the derivative of the value. -/
theorem rule_regularized_heaviside (x eps z : ℝ) :
    Gen.regularized_heaviside.val.evalR [x, eps, z] = heavisideR x 0 ∧
    (eps ≠ 0 → HasDerivAt (fun t => heavisideSmoothR t eps) (Gen.regularized_heaviside.dself.evalR [x, eps, z]) x) :=
  ⟨congrArg (heavisideR x) Rat.cast_zero,
   fun he => (heavisideSmooth_hasDerivAt he).congr_deriv (heaviside_smooth_dself x eps [z]).symm⟩

/-- … so it lies outside the property on purpose: away from 0 the step has derivative 0, the class reports a positive number. -/
theorem regularized_heaviside_not_exact (x eps z : ℝ) (hx : x ≠ 0) (he : 0 < eps) :
    ¬ HasDerivAt (fun t => heavisideR t 0) (Gen.regularized_heaviside.dself.evalR [x, eps, z]) x := by
  intro h
  have e : Gen.regularized_heaviside.dself.evalR [x, eps, z] = 0 := h.unique (heavisideR_hasDerivAt hx)
  have hpos : 0 < π⁻¹ * eps * (eps ^ 2 + x ^ 2)⁻¹ := by positivity
  exact hpos.ne' ((heaviside_smooth_dself x eps [z]).symm.trans e)

/-! ## safe_power (three parameters; see Model.lean: the theorem is about the repaired rule) -/

/-- `x ** power` where `|x| > tol`, the constant `zero_val` elsewhere -/
noncomputable def safePowR (x p z tol : ℝ) : ℝ := if |x| > tol then x ^ p else z

theorem rule_sound_safe_power (x p z tol : ℝ) :
    safePowerFixed.val.evalR [x, p, z, tol] = safePowR x p z tol ∧
    (|x| ≠ tol → (x ≠ 0 ∨ 1 ≤ p) →
      HasDerivAt (fun t => safePowR t p z tol) (safePowerFixed.dself.evalR [x, p, z, tol]) x) := by
  constructor
  · show (if |x| > tol then x ^ p else ((1 : ℚ) : ℝ) * z) = if |x| > tol then x ^ p else z
    rw [Rat.cast_one, one_mul]
  intro hx hp
  show HasDerivAt _ (if |x| > tol then p * x ^ (p - ((1 : ℚ) : ℝ)) else ((0 : ℚ) : ℝ)) x
  rcases lt_or_gt_of_ne hx with h | h
  · rw [if_neg (not_lt.mpr h.le), Rat.cast_zero]
    exact hasDerivAt_of_eq_on_lt continuous_abs continuous_const h (fun y hy => if_neg (not_lt.mpr hy.le)) (hasDerivAt_const x z)
  · rw [if_pos h, Rat.cast_one]
    exact hasDerivAt_of_eq_on_lt continuous_const continuous_abs h (fun y hy => if_pos hy) (Real.hasDerivAt_rpow_const hp)

/-- The rule found at the pinned commit is not a derivative: at x = 2, power = -1 it yields -4, the derivative of
    1/x at 2 is -1/4 (finding C01-safe_power-jacobian). -/
theorem safe_power_as_found_unsound :
    ¬ HasDerivAt (fun t => safePowR t (-1) 0 (1 / 2)) (safePowerAsFound.dself.evalR [2, -1, 0, 1 / 2]) 2 := by
  intro h
  have h2 : |(2 : ℝ)| ≠ 1 / 2 := by norm_num
  have h' := (rule_sound_safe_power 2 (-1) 0 (1 / 2)).2 h2 (Or.inl (by norm_num))
  have e := h.unique h'
  have e2 : ((-1 : ℝ) - 1) = -2 := by norm_num
  simp [safePowerAsFound, safePowerFixed, safePowerVal, SExpr.evalR, UFun.evalR, e2, Real.rpow_neg_one] at e
  norm_num at e

/-! ## the arithmetic rules (forward_mode.py)

The overloads for a python scalar (`_S`) and a numpy array (`_A`) mostly generate the same expressions, and the reflected
operators (`radd`, `rmul`) the expressions of the plain ones: each distinct triple is proved once. -/

theorem rule_sound_add_S : Sound1 Gen.add_S (fun x c => x + c) (fun _ _ => True) where
  val _ _ := rfl
  deriv x c _ := ((hasDerivAt_id x).add_const c).congr_deriv Rat.cast_one.symm
  no_other := rfl

theorem rule_sound_add_A : Sound1 Gen.add_A (fun x c => x + c) (fun _ _ => True) :=
  rule_sound_add_S.of_eq rfl rfl rfl

theorem rule_sound_radd_S : Sound1 Gen.radd_S (fun x c => c + x) (fun _ _ => True) :=
  (rule_sound_add_S.congr_op fun x c => add_comm c x).of_eq rfl rfl rfl

theorem rule_sound_radd_A : Sound1 Gen.radd_A (fun x c => c + x) (fun _ _ => True) :=
  rule_sound_radd_S.of_eq rfl rfl rfl

theorem rule_sound_sub_S : Sound1 Gen.sub_S (fun x c => x - c) (fun _ _ => True) where
  val x c := (sub_eq_add_neg x c).symm
  deriv x c _ := ((hasDerivAt_id x).sub_const c).congr_deriv Rat.cast_one.symm
  no_other := rfl

theorem rule_sound_sub_A : Sound1 Gen.sub_A (fun x c => x - c) (fun _ _ => True) :=
  rule_sound_sub_S.of_eq rfl rfl rfl

theorem rule_sound_rsub_S : Sound1 Gen.rsub_S (fun x c => c - x) (fun _ _ => True) where
  val x c := show -(x + -c) = c - x by ring
  deriv x c _ := ((hasDerivAt_id x).const_sub c).congr_deriv (by simp [Gen.rsub_S, SExpr.evalR])
  no_other := rfl

theorem rule_sound_rsub_A : Sound1 Gen.rsub_A (fun x c => c - x) (fun _ _ => True) :=
  rule_sound_rsub_S.of_eq rfl rfl rfl

theorem rule_sound_mul_S : Sound1 Gen.mul_S (fun x c => x * c) (fun _ _ => True) where
  val _ _ := rfl
  deriv x c _ := ((hasDerivAt_id x).mul_const c).congr_deriv (by simp [Gen.mul_S, SExpr.evalR])
  no_other := rfl

theorem rule_sound_mul_A : Sound1 Gen.mul_A (fun x c => x * c) (fun _ _ => True) where
  val _ _ := rfl
  deriv _ c _ := hasDerivAt_mul_const c
  no_other := rfl

theorem rule_sound_rmul_S : Sound1 Gen.rmul_S (fun x c => c * x) (fun _ _ => True) :=
  (rule_sound_mul_S.congr_op fun x c => mul_comm c x).of_eq rfl rfl rfl

theorem rule_sound_rmul_A : Sound1 Gen.rmul_A (fun x c => c * x) (fun _ _ => True) :=
  (rule_sound_mul_A.congr_op fun x c => mul_comm c x).of_eq rfl rfl rfl

theorem rule_sound_pow_S : Sound1 Gen.pow_S (fun x c => x ^ c) (fun x c => x ≠ 0 ∨ 1 ≤ c) where
  val _ _ := rfl
  deriv _ _ h := (Real.hasDerivAt_rpow_const h).congr_deriv (by simp [Gen.pow_S, SExpr.evalR])
  no_other := rfl

theorem rule_sound_pow_A : Sound1 Gen.pow_A (fun x c => x ^ c) (fun x c => x ≠ 0 ∨ 1 ≤ c) :=
  rule_sound_pow_S.of_eq rfl rfl rfl

theorem rule_sound_rpow_S : Sound1 Gen.rpow_S (fun x c => c ^ x) (fun _ c => 0 < c) where
  val _ _ := rfl
  deriv x _ h := (Real.hasStrictDerivAt_const_rpow h x).hasDerivAt
  no_other := rfl

theorem rule_sound_rpow_A : Sound1 Gen.rpow_A (fun x c => c ^ x) (fun _ c => 0 < c) :=
  rule_sound_rpow_S.of_eq rfl rfl rfl

theorem rule_sound_truediv_S : Sound1 Gen.truediv_S (fun x c => x / c) (fun _ c => c ≠ 0) where
  val _ _ := rfl
  deriv x c _ := ((hasDerivAt_id x).div_const c).congr_deriv (by simp [Gen.truediv_S, SExpr.evalR])
  no_other := rfl

theorem rule_sound_truediv_A : Sound1 Gen.truediv_A (fun x c => x / c) (fun _ c => c ≠ 0) where
  val x c := by simp [Gen.truediv_A, SExpr.evalR, Real.rpow_neg_one, div_eq_mul_inv]
  deriv x c _ := ((hasDerivAt_id x).div_const c).congr_deriv
    (by simp [Gen.truediv_A, SExpr.evalR, Real.rpow_neg_one])
  no_other := rfl

theorem rule_sound_rtruediv_S : Sound1 Gen.rtruediv_S (fun x c => c / x) (fun x _ => x ≠ 0) where
  val x c := by simp [Gen.rtruediv_S, SExpr.evalR, Real.rpow_neg_one, div_eq_mul_inv, mul_comm]
  deriv x c hx := (hasDerivAt_const_div c hx).congr_deriv
    (by simp [Gen.rtruediv_S, SExpr.evalR, rpow_neg_one_sub_one, mul_comm])
  no_other := rfl

theorem rule_sound_rtruediv_A : Sound1 Gen.rtruediv_A (fun x c => c / x) (fun x _ => x ≠ 0) where
  val x c := by simp [Gen.rtruediv_A, SExpr.evalR, Real.rpow_neg_one, div_eq_mul_inv, mul_comm]
  deriv x c hx := (hasDerivAt_const_div c hx).congr_deriv
    (by simp [Gen.rtruediv_A, SExpr.evalR, rpow_neg_one_sub_one])
  no_other := rfl

theorem rule_sound_neg : Sound1 Gen.neg (fun x _ => -x) (fun _ _ => True) where
  val _ _ := rfl
  deriv x _ _ := (hasDerivAt_neg x).congr_deriv (by simp [Gen.neg, SExpr.evalR])
  no_other := rfl

theorem rule_sound_maximum_AdA : Sound1 Gen.maximum_AdA (fun x c => max x c) (fun x c => x ≠ c) where
  val x c := ifgt_max x c
  deriv _ _ h := (hasDerivAt_max_const h).congr_deriv (by simp [Gen.maximum_AdA, SExpr.evalR])
  no_other := rfl

theorem rule_sound_maximum_AdS : Sound1 Gen.maximum_AdS (fun x c => max x c) (fun x c => x ≠ c) where
  val x c := by simp [Gen.maximum_AdS, SExpr.evalR, ifgt_max]
  deriv _ _ h := (hasDerivAt_max_const h).congr_deriv (by simp [Gen.maximum_AdS, SExpr.evalR])
  no_other := rfl

theorem rule_sound_maximum_AAd : Sound1 Gen.maximum_AAd (fun x c => max c x) (fun x c => x ≠ c) where
  val x c := ifgt_max c x
  deriv _ _ h := (hasDerivAt_const_max h).congr_deriv (by simp [Gen.maximum_AAd, SExpr.evalR])
  no_other := rfl

theorem rule_sound_maximum_SAd : Sound1 Gen.maximum_SAd (fun x c => max c x) (fun x c => x ≠ c) where
  val x c := by simp [Gen.maximum_SAd, SExpr.evalR, ifgt_max]
  deriv _ _ h := (hasDerivAt_const_max h).congr_deriv (by simp [Gen.maximum_SAd, SExpr.evalR])
  no_other := rfl

/-! ## rules between two AdArrays

The factor of each operand is the factor of a rule above with the other operand held constant (`x * y`: those of `mul_A` in
`x` and of `rmul_A` in `y`), so only joint differentiability is new (`hasFDerivAt_of_partials`). -/

theorem rule_sound_add_Ad : Sound2 Gen.add_Ad (fun x y => x + y) (fun _ _ => True) where
  val _ _ := rfl
  deriv x y _ := hasFDerivAt_of_partials (by fun_prop)
    (rule_sound_add_S.deriv x y trivial) (rule_sound_radd_S.deriv y x trivial)
  has_other := rfl

theorem rule_sound_radd_Ad : Sound2 Gen.radd_Ad (fun x y => y + x) (fun _ _ => True) where
  val x y := add_comm x y
  deriv x y _ := hasFDerivAt_of_partials (F := fun x y => y + x) (by fun_prop)
    (rule_sound_radd_S.deriv x y trivial) (rule_sound_add_S.deriv y x trivial)
  has_other := rfl

theorem rule_sound_sub_Ad : Sound2 Gen.sub_Ad (fun x y => x - y) (fun _ _ => True) where
  val := rule_sound_sub_S.val
  deriv x y _ := hasFDerivAt_of_partials (by fun_prop)
    (rule_sound_sub_S.deriv x y trivial) (rule_sound_rsub_S.deriv y x trivial)
  has_other := rfl

theorem rule_sound_rsub_Ad : Sound2 Gen.rsub_Ad (fun x y => y - x) (fun _ _ => True) where
  val := rule_sound_rsub_S.val
  deriv x y _ := hasFDerivAt_of_partials (F := fun x y => y - x) (by fun_prop)
    (rule_sound_rsub_S.deriv x y trivial) ((rule_sound_sub_S.deriv y x trivial).congr_deriv (neg_neg _).symm)
  has_other := rfl

theorem rule_sound_mul_Ad : Sound2 Gen.mul_Ad (fun x y => x * y) (fun _ _ => True) where
  val _ _ := rfl
  deriv x y _ := hasFDerivAt_of_partials (by fun_prop)
    (rule_sound_mul_A.deriv x y trivial) (rule_sound_rmul_A.deriv y x trivial)
  has_other := rfl

theorem rule_sound_pow_Ad : Sound2 Gen.pow_Ad (fun x y => x ^ y) (fun x _ => 0 < x) where
  val _ _ := rfl
  deriv x y hx := hasFDerivAt_of_partials (by fun_prop (disch := exact hx.ne'))
    (rule_sound_pow_S.deriv x y (Or.inl hx.ne')) (rule_sound_rpow_S.deriv y x hx)
  has_other := rfl

theorem rule_sound_rpow_Ad : Sound2 Gen.rpow_Ad (fun x y => y ^ x) (fun _ y => 0 < y) where
  val _ _ := rfl
  deriv x y hy := hasFDerivAt_of_partials (F := fun x y => y ^ x) (by fun_prop (disch := exact hy.ne'))
    (rule_sound_rpow_S.deriv x y hy) (rule_sound_pow_S.deriv y x (Or.inl hy.ne'))
  has_other := rfl

theorem rule_sound_truediv_Ad : Sound2 Gen.truediv_Ad (fun x y => x / y) (fun _ y => y ≠ 0) where
  val := rule_sound_truediv_A.val
  deriv x y hy := hasFDerivAt_of_partials (by fun_prop (disch := exact hy))
    (rule_sound_truediv_A.deriv x y hy) (rule_sound_rtruediv_A.deriv y x hy)
  has_other := rfl

theorem rule_sound_rtruediv_Ad : Sound2 Gen.rtruediv_Ad (fun x y => y / x) (fun x _ => x ≠ 0) where
  val x y := (mul_comm _ _).trans (rule_sound_rtruediv_A.val x y)
  deriv x y hx := hasFDerivAt_of_partials (F := fun x y => y / x) (by fun_prop (disch := exact hx))
    (rule_sound_rtruediv_A.deriv x y hx) (rule_sound_truediv_A.deriv y x hx)
  has_other := rfl

theorem rule_sound_maximum_AdAd : Sound2 Gen.maximum_AdAd (fun x y => max x y) (fun x y => x ≠ y) where
  val x y := ifgt_max x y
  deriv x y h := hasFDerivAt_of_partials (differentiableAt_max h)
    (rule_sound_maximum_AdA.deriv x y h) (rule_sound_maximum_AAd.deriv y x h.symm)
  has_other := rfl

end PorepyVerif.C01
