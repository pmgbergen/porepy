/-
C01 — forward mode is exact on expressions and on programs with shared results.

A row of an AdArray `Denotes` a function at a point when it carries the function's value and Fréchet derivative there.  Every
kind of node of `Expr` preserves this (`Denotes.var` … `Denotes.pi`, the row of the result computed as `Expr.ad` does), hence
it holds for every expression (`ad_denotes`) and, through the let-bindings, for every program (`prog_denotes`); `ad_jac` and
`prog_ad_jac` are the derivative half.  The value half needs no smoothness and has its own chain: `ad_val`, `prog_ad_val`.
-/
import PorepyVerif.C01.Lemmas
namespace PorepyVerif.C01
open Real

/-- The row `d` of an AdArray denotes the function `f` at `X`: it carries the value of `f` at `X` and, as its gradient row,
    the Fréchet derivative of `f` there. -/
structure Denotes {n : ℕ} (d : Dual n) (f : Pt n → ℝ) (X : Pt n) : Prop where
  val : d.v = f X
  deriv : HasFDerivAt f (lin d.g) X

section
variable {n : ℕ} {X : Pt n}

theorem Denotes.var (X : Pt n) (k : Fin n) : Denotes ⟨X k, Pi.single k 1⟩ (fun Y => Y k) X :=
  ⟨rfl, lin_single k ▸ hasFDerivAt_apply k X⟩

theorem Denotes.zero (X : Pt n) : Denotes ⟨0, fun _ => 0⟩ (fun _ => 0) X :=
  ⟨rfl, lin_zero (n := n) ▸ hasFDerivAt_const (0 : ℝ) X⟩

theorem Denotes.comp {d : Dual n} {g : Pt n → ℝ} {f : ℝ → ℝ} {f' : ℝ} (h : Denotes d g X)
    (hf : HasDerivAt f f' d.v) : Denotes ⟨f d.v, fun j => f' * d.g j⟩ (fun Y => f (g Y)) X :=
  ⟨congrArg f h.val, lin_smul f' d.g ▸ HasDerivAt.comp_hasFDerivAt X (h.val ▸ hf) h.deriv⟩

theorem Denotes.comp2 {d₁ d₂ : Dual n} {g₁ g₂ : Pt n → ℝ} {F : ℝ → ℝ → ℝ} {a b : ℝ}
    (h₁ : Denotes d₁ g₁ X) (h₂ : Denotes d₂ g₂ X)
    (hF : HasFDerivAt (fun p : ℝ × ℝ => F p.1 p.2)
      (a • ContinuousLinearMap.fst ℝ ℝ ℝ + b • ContinuousLinearMap.snd ℝ ℝ ℝ) (d₁.v, d₂.v)) :
    Denotes ⟨F d₁.v d₂.v, fun j => a * d₁.g j + b * d₂.g j⟩ (fun Y => F (g₁ Y) (g₂ Y)) X := by
  refine ⟨by rw [h₁.val, h₂.val], ?_⟩
  rw [h₁.val, h₂.val] at hF
  rw [lin_add_smul]
  exact hF.comp X (h₁.deriv.prodMk h₂.deriv)

theorem Denotes.sum {ι : Type} (s : Finset ι) (m : ι → ℝ) {d : ι → Dual n} {g : ι → Pt n → ℝ}
    (h : ∀ k, Denotes (d k) (g k) X) :
    Denotes ⟨∑ k ∈ s, m k * (d k).v, fun j => ∑ k ∈ s, m k * (d k).g j⟩ (fun Y => ∑ k ∈ s, m k * g k Y) X := by
  refine ⟨Finset.sum_congr rfl fun k _ => by rw [(h k).val], ?_⟩
  rw [lin_sum]
  exact HasFDerivAt.fun_sum fun k _ => (h k).deriv.const_mul (m k)

theorem Denotes.pi {dim : ℕ} {N : (Fin dim → ℝ) → ℝ} {c : Fin dim → ℝ} {d : Fin dim → Dual n} {g : Fin dim → Pt n → ℝ}
    (h : ∀ k, Denotes (d k) (g k) X)
    (hN : HasFDerivAt N (∑ k, c k • ContinuousLinearMap.proj (R := ℝ) (φ := fun _ : Fin dim => ℝ) k) (fun k => (d k).v)) :
    Denotes ⟨N fun k => (d k).v, fun j => ∑ k, c k * (d k).g j⟩ (fun Y => N fun k => g k Y) X := by
  have hv : (fun k => (d k).v) = fun k => g k X := funext fun k => (h k).val
  refine ⟨congrArg N hv, ?_⟩
  rw [hv] at hN
  rw [lin_sum]
  refine (hN.comp X (hasFDerivAt_pi.2 fun k => (h k).deriv)).congr_fderiv ?_
  simp only [ContinuousLinearMap.finsetSum_comp, ContinuousLinearMap.smul_comp, ContinuousLinearMap.proj_pi]

end

theorem ad_val {n : Nat} (e : Expr n) (hv : e.ValSpec) (σ : ℕ → ℕ → Dual n) (ρ : ℕ → ℕ → ℝ)
    (hσ : ∀ j i, (σ j i).v = ρ j i) (X : Pt n) : ∀ i, (e.ad σ X i).v = e.den ρ X i := by
  induction e with
  | var idx => intro i; rfl
  | ref j => intro i; exact hσ j i
  | map1 r F c e ih =>
    intro i
    simp only [Expr.ad, Expr.den]
    rw [ih hv.1 i, hv.2]
  | map2 r F e₁ e₂ ih₁ ih₂ =>
    intro i
    simp only [Expr.ad, Expr.den]
    rw [ih₁ hv.1 i, ih₂ hv.2.1 i, hv.2.2]
  | matmul M cols e ih =>
    intro i
    simp only [Expr.ad, Expr.den]
    exact Finset.sum_congr rfl (fun k _ => by rw [ih hv k])
  | slice idx e ih => intro i; exact ih hv (idx i)
  | l2norm r dim e ih =>
    intro i
    simp only [Expr.ad, Expr.den, norm2]
    rw [hv.2]
    congr 1
    exact Finset.sum_congr rfl (fun k _ => by rw [ih hv.1 _])

/-- forward mode is exact on every expression: each row it computes denotes the corresponding component of the plain
    evaluation, provided the shared results it refers to do -/
theorem ad_denotes {n : ℕ} (e : Expr n) (hv : e.ValSpec) (σ : ℕ → ℕ → Dual n) (ρ : Pt n → ℕ → ℕ → ℝ) (X : Pt n)
    (hσ : ∀ j i, Denotes (σ j i) (fun Y => ρ Y j i) X) (hs : e.Smooth (ρ X) X) :
    ∀ i, Denotes (e.ad σ X i) (fun Y => e.den (ρ Y) Y i) X := by
  induction e with
  | var idx => intro i; exact Denotes.var X (idx i)
  | ref j => intro i; exact hσ j i
  | map1 r F c e ih =>
    intro i
    have h := ih hv.1 hs.1 i
    simp only [Expr.ad, Expr.den]
    rw [hv.2]
    exact h.comp (f := fun t => F t (c i)) (h.val ▸ hs.2 i)
  | map2 r F e₁ e₂ ih₁ ih₂ =>
    intro i
    have h₁ := ih₁ hv.1 hs.1 i
    have h₂ := ih₂ hv.2.1 hs.2.1 i
    simp only [Expr.ad, Expr.den]
    rw [hv.2.2]
    exact h₁.comp2 h₂ (h₁.val ▸ h₂.val ▸ hs.2.2 i)
  | matmul M cols e ih => intro i; exact Denotes.sum _ _ (ih hv hs)
  | slice idx e ih => intro i; exact ih hv hs (idx i)
  | l2norm r dim e ih =>
    intro i
    have h := fun k : Fin dim => ih hv.1 hs.1 (dim * i + k)
    simp only [Expr.ad, Expr.den]
    rw [hv.2]
    refine Denotes.pi (N := norm2) h ?_
    simp only [fun k : Fin dim => (h k).val]
    exact hs.2 i

theorem ad_jac {n : Nat} (e : Expr n) (hv : e.ValSpec) (σ : ℕ → ℕ → Dual n) (ρ : Pt n → ℕ → ℕ → ℝ) (X : Pt n)
    (hσ : ∀ j i, (σ j i).v = ρ X j i)
    (hρ : ∀ j i, HasFDerivAt (fun Y => ρ Y j i) (lin (σ j i).g) X)
    (hs : e.Smooth (ρ X) X) :
    ∀ i, HasFDerivAt (fun Y => e.den (ρ Y) Y i) (lin (e.ad σ X i).g) X :=
  fun i => (ad_denotes e hv σ ρ X (fun j i => ⟨hσ j i, hρ j i⟩) hs i).deriv

/-- sharing = substitution: evaluating an expression whose `ref j` are bound to the values of closed expressions `L j`
    gives the same as evaluating the expression with the `L j` substituted -/
theorem den_subst {n : Nat} (L : ℕ → Expr n) (ρ₀ : ℕ → ℕ → ℝ) (X : Pt n) (e : Expr n) :
    ∀ i, (e.subst L).den ρ₀ X i = e.den (fun j => (L j).den ρ₀ X) X i := by
  induction e with
  | var | ref => intro i; rfl
  | _ => intro i; simp only [Expr.subst, Expr.den, *]

theorem ad_subst {n : Nat} (L : ℕ → Expr n) (σ₀ : ℕ → ℕ → Dual n) (X : Pt n) (e : Expr n) :
    ∀ i, (e.subst L).ad σ₀ X i = e.ad (fun j => (L j).ad σ₀ X) X i := by
  induction e with
  | var | ref => intro i; rfl
  | _ => intro i; simp only [Expr.subst, Expr.ad, *]

/-- binding one more result keeps the forward-mode values equal to the plain ones -/
theorem update_val {n : Nat} {d : Expr n} (hvd : d.ValSpec) {σ : ℕ → ℕ → Dual n} {ρ : ℕ → ℕ → ℝ}
    (h : ∀ j i, (σ j i).v = ρ j i) (X : Pt n) (k : ℕ) :
    ∀ j i, (Function.update σ k (d.ad σ X) j i).v = Function.update ρ k (d.den ρ X) j i := by
  intro j i
  rcases eq_or_ne j k with rfl | hj
  · simp only [Function.update_self]
    exact ad_val d hvd σ ρ h X i
  · simp only [Function.update_of_ne hj]
    exact h j i

theorem env_val {n : Nat} (X : Pt n) (ds : List (Expr n)) :
    ∀ (k : ℕ) (ρ : ℕ → ℕ → ℝ) (σ : ℕ → ℕ → Dual n),
      (∀ d ∈ ds, d.ValSpec) → (∀ j i, (σ j i).v = ρ j i) →
      ∀ j i, (envAd X ds k σ j i).v = envDen X ds k ρ j i := by
  induction ds with
  | nil => intro k ρ σ _ h; exact h
  | cons d ds ih =>
    intro k ρ σ hv h
    obtain ⟨hvd, hvs⟩ := List.forall_mem_cons.1 hv
    simp only [envDen, envAd]
    exact ih (k + 1) _ _ hvs (update_val hvd h X k)

theorem env_denotes {n : ℕ} (X : Pt n) (ds : List (Expr n)) :
    ∀ (k : ℕ) (ρ : Pt n → ℕ → ℕ → ℝ) (σ : ℕ → ℕ → Dual n),
      (∀ d ∈ ds, d.ValSpec) → (∀ j i, Denotes (σ j i) (fun Y => ρ Y j i) X) → letsSmooth X ds k (ρ X) →
      ∀ j i, Denotes (envAd X ds k σ j i) (fun Y => envDen Y ds k (ρ Y) j i) X := by
  induction ds with
  | nil => intro k ρ σ _ h _; exact h
  | cons d ds ih =>
    intro k ρ σ hv h hs
    obtain ⟨hvd, hvs⟩ := List.forall_mem_cons.1 hv
    simp only [envDen, envAd]
    refine ih (k + 1) (fun Y => Function.update (ρ Y) k (d.den (ρ Y) Y)) (Function.update σ k (d.ad σ X)) hvs
      (fun j i => ?_) hs.2
    rcases eq_or_ne j k with rfl | hj
    · simp only [Function.update_self]
      exact ad_denotes d hvd σ ρ X h hs.1 i
    · simp only [Function.update_of_ne hj]
      exact h j i

/-- programs with shared results: forward-mode values are the plain evaluation … -/
theorem prog_ad_val {n : Nat} (p : Prog n) (hv : p.ValSpec) (X : Pt n) :
    ∀ i, (p.ad X i).v = p.den X i := by
  have h := env_val X p.lets 0 Prog.env0 (Prog.envAd0 n) hv.1 (fun _ _ => rfl)
  exact ad_val p.body hv.2 _ _ h X

theorem prog_denotes {n : ℕ} (p : Prog n) (hv : p.ValSpec) (X : Pt n) (hs : p.Smooth X) (i : ℕ) :
    Denotes (p.ad X i) (fun Y => p.den Y i) X :=
  ad_denotes p.body hv.2 _ (fun Y => envDen Y p.lets 0 Prog.env0) X
    (env_denotes X p.lets 0 (fun _ => Prog.env0) (Prog.envAd0 n) hv.1 (fun _ _ => Denotes.zero X) hs.1) hs.2 i

/-- … and every Jacobian row is the Fréchet derivative of that output component. -/
theorem prog_ad_jac {n : Nat} (p : Prog n) (hv : p.ValSpec) (X : Pt n) (hs : p.Smooth X) :
    ∀ i, HasFDerivAt (fun Y => p.den Y i) (lin (p.ad X i).g) X :=
  fun i => (prog_denotes p hv X hs i).deriv

/-- a generated rule that is sound may be used at a node wherever its domain condition holds … -/
theorem Sound1.smooth_map1 {n : Nat} {r : Rule} {F : ℝ → ℝ → ℝ} {dom : ℝ → ℝ → Prop} (h : Sound1 r F dom)
    {e : Expr n} {ρ : ℕ → ℕ → ℝ} {X : Pt n} {c : ℕ → ℝ} (he : e.Smooth ρ X) (hd : ∀ i, dom (e.den ρ X i) (c i)) :
    (Expr.map1 r F c e).Smooth ρ X :=
  ⟨he, fun i => h.deriv _ _ (hd i)⟩

theorem Sound1.valspec_map1 {n : Nat} {r : Rule} {F : ℝ → ℝ → ℝ} {dom : ℝ → ℝ → Prop} (h : Sound1 r F dom)
    {e : Expr n} {c : ℕ → ℝ} (he : e.ValSpec) : (Expr.map1 r F c e).ValSpec :=
  ⟨he, h.val⟩

theorem Sound2.smooth_map2 {n : Nat} {r : Rule} {F : ℝ → ℝ → ℝ} {dom : ℝ → ℝ → Prop} (h : Sound2 r F dom)
    {e₁ e₂ : Expr n} {ρ : ℕ → ℕ → ℝ} {X : Pt n} (h₁ : e₁.Smooth ρ X) (h₂ : e₂.Smooth ρ X) (hd : ∀ i, dom (e₁.den ρ X i) (e₂.den ρ X i)) :
    (Expr.map2 r F e₁ e₂).Smooth ρ X :=
  ⟨h₁, h₂, fun i => h.deriv _ _ (hd i)⟩

theorem Sound2.valspec_map2 {n : Nat} {r : Rule} {F : ℝ → ℝ → ℝ} {dom : ℝ → ℝ → Prop} (h : Sound2 r F dom)
    {e₁ e₂ : Expr n} (h₁ : e₁.ValSpec) (h₂ : e₂.ValSpec) : (Expr.map2 r F e₁ e₂).ValSpec :=
  ⟨h₁, h₂, h.val⟩

end PorepyVerif.C01
