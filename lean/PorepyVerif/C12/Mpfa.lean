/-
C12 — TPFA vs. the certified 2-D MPFA model of C11 on K-orthogonal grids.

Strategy: under `KorthOK` the flux functional of every half-face only sees `g . d` (`nKg_korth`); at a
corner of a cell two faces meet with independent `d`'s, so Cramer's rule gives a sub-cell gradient with
prescribed `g . d = π_f - p_c` for both faces (`grad_dot`), where `π_f` is the two-point face pressure
(`facePi`).  In its sub-cell this gradient reproduces `π_f` at the face centre and has the flux functional
`t_half (π_f - p_c)` (`subcell_pres`, `subcell_flux`), so these gradients satisfy every row of every
interaction region (`tp_consistent`); the regions are certified nonsingular, so they ARE the MPFA solution
(`C11.cert_solution`).  On the other side the flux of the TPFA model on the converted grid is the flux
`-s t_half (π_f - p_c)` of the first half-face of the face (`tpfa_halfForm`), which is what the MPFA
sub-face fluxes add up to (`tp_subflux`, `mpfa_eq_tpfa`).
-/
import PorepyVerif.C11.Lemmas
import PorepyVerif.C12.Lemmas

namespace PorepyVerif.C12
open PorepyVerif.C11


/-- Cramer's rule for two planar vectors -/
def cramer : Vec → Vec → Rat → Rat → Vec
  | [a, b], [c, d], r1, r2 => [(r1 * d - r2 * b) / (a * d - b * c), (a * r2 - c * r1) / (a * d - b * c)]
  | _, _, _, _ => [0, 0]

theorem cramer_len (x y : Vec) (r1 r2 : Rat) : (cramer x y r1 r2).length = 2 := by
  unfold cramer; split <;> rfl

theorem cramer_dot (x y : Vec) (r1 r2 : Rat) (hx : x.length = 2) (hy : y.length = 2) (hd : det2 x y ≠ 0) :
    dot (cramer x y r1 r2) x = r1 ∧ dot (cramer x y r1 r2) y = r2 := by
  obtain ⟨a, b, rfl⟩ := List.length_eq_two.1 hx
  obtain ⟨c, d, rfl⟩ := List.length_eq_two.1 hy
  simp only [det2] at hd
  simp only [cramer, dot_cons, dot_nil_left]
  constructor <;>
  · rw [div_mul_eq_mul_div, div_mul_eq_mul_div, add_zero, ← add_div, div_eq_iff hd]; ring

theorem korthOK_eta (G : Grid2) (h : KorthOK G = true) : G.eta = 0 := by
  simp only [KorthOK, Bool.and_eq_true, beq_iff_eq] at h; exact h.1.1

theorem korthOK_face (G : Grid2) (h : KorthOK G = true) (f : Nat) (hf : f < G.numFaces) :
    faceKorth G f = true := by
  simp only [KorthOK, Bool.and_eq_true, List.all_eq_true, List.mem_range] at h; exact h.1.2 f hf

theorem korthOK_corner (G : Grid2) (h : KorthOK G = true) (v : Nat) (hv : v < G.numNodes) (c : Nat)
    (hc : c ∈ G.cellsOf v) : cornerOK G v c = true := by
  simp only [KorthOK, Bool.and_eq_true, List.all_eq_true, List.mem_range] at h; exact h.2 v hv c hc

theorem faceKorth_bnd (G : Grid2) (f c : Nat) (s : Rat) (hl : G.fcells f = [(c, s)])
    (h : faceKorth G f = true) :
    (s = 1 ∨ s = -1) ∧ th2 G f c s ≠ 0 ∧
      vecMat 2 (G.fnAt f) (G.permAt c) = smul (s * th2 G f c s) (dvec2 G f c) := by
  unfold faceKorth at h; rw [hl] at h
  simpa [korthAt, and_assoc] using h

theorem faceKorth_int (G : Grid2) (f c1 c2 : Nat) (s1 s2 : Rat) (hl : G.fcells f = [(c1, s1), (c2, s2)])
    (h : faceKorth G f = true) :
    (s1 = 1 ∨ s1 = -1) ∧ s2 = -s1 ∧ th2 G f c1 s1 ≠ 0 ∧ th2 G f c2 s2 ≠ 0 ∧
      th2 G f c1 s1 + th2 G f c2 s2 ≠ 0 ∧
      vecMat 2 (G.fnAt f) (G.permAt c1) = smul (s1 * th2 G f c1 s1) (dvec2 G f c1) ∧
      vecMat 2 (G.fnAt f) (G.permAt c2) = smul (s2 * th2 G f c2 s2) (dvec2 G f c2) := by
  unfold faceKorth at h; rw [hl] at h
  simpa [korthAt, and_assoc] using h

theorem length_dvec2 (G : Grid2) (hwf : G.WF) (f c : Nat) (hf : f < G.numFaces) (hc : c < G.numCells) :
    (dvec2 G f c).length = 2 := by
  unfold dvec2
  rw [length_vsub _ _ (by rw [hwf.length_fcAt f hf, hwf.length_ccAt c hc]), hwf.length_fcAt f hf]

theorem nKg_korth (G : Grid2) (hwf : G.WF) (f c : Nat) (hc : c < G.numCells) (lam a : Rat)
    (hk : vecMat 2 (G.fnAt f) (G.permAt c) = smul lam (dvec2 G f c)) (g : Vec) :
    nKg (smul a (G.fnAt f)) (G.permAt c) g = a * (lam * dot g (dvec2 G f c)) := by
  unfold nKg
  rw [dot_smul_left, ← dot_vecMat 2 _ _ _ (hwf.shape_permAt c hc).2, hk, dot_smul_left, dot_comm]

/-- face pressure of the two-point scheme -/
def facePi (G : Grid2) (p bc : List Rat) (f : Nat) : Rat :=
  match G.fcells f with
  | [(c, s)] => if G.dirAt f then bc.getD f 0 else p.getD c 0 - bc.getD f 0 / th2 G f c s
  | [(c1, s1), (c2, s2)] =>
      (th2 G f c1 s1 * p.getD c1 0 + th2 G f c2 s2 * p.getD c2 0) / (th2 G f c1 s1 + th2 G f c2 s2)
  | _ => 0

def gradAt (G : Grid2) (p bc : List Rat) (v c : Nat) : Vec :=
  match cfaces G v c with
  | [f1, f2] => cramer (dvec2 G f1 c) (dvec2 G f2 c)
      (facePi G p bc f1 - p.getD c 0) (facePi G p bc f2 - p.getD c 0)
  | _ => [0, 0]

def gradFnAt (G : Grid2) (p bc : List Rat) (v : Nat) : Nat → Vec :=
  fun i => gradAt G p bc v ((G.cellsOf v).getD i 0)

theorem gradAt_len (G : Grid2) (p bc : List Rat) (v c : Nat) : (gradAt G p bc v c).length = 2 := by
  unfold gradAt; split
  · exact cramer_len _ _ _ _
  · rfl

theorem grad_dot (G : Grid2) (hwf : G.WF) (hK : KorthOK G = true) (p bc : List Rat) (v : Nat)
    (hv : v < G.numNodes) (f c : Nat) (s : Rat) (hf : f ∈ G.facesOf v) (hcs : (c, s) ∈ G.fcells f)
    (hc : c < G.numCells) :
    dot (gradAt G p bc v c) (dvec2 G f c) = facePi G p bc f - p.getD c 0 := by
  have hcm := G.mem_cellsOf_of v f c s hf hcs hc
  have hco := korthOK_corner G hK v hv c hcm
  have hfm : f ∈ cfaces G v c := by
    unfold cfaces
    rw [List.mem_filter]
    refine ⟨hf, ?_⟩
    rw [List.any_eq_true]
    exact ⟨(c, s), hcs, by simp⟩
  unfold cornerOK at hco
  unfold gradAt
  split at hco
  · rename_i f1 f2 heq
    rw [heq] at hfm ⊢
    have hd : det2 (dvec2 G f1 c) (dvec2 G f2 c) ≠ 0 := by simpa using hco
    have hmem : ∀ x, x ∈ cfaces G v c → x < G.numFaces := by
      intro x hx
      unfold cfaces at hx
      exact ((G.mem_facesOf v x).mp (List.mem_filter.mp hx).1).1
    have h1 := length_dvec2 G hwf f1 c (hmem f1 (by rw [heq]; simp)) hc
    have h2 := length_dvec2 G hwf f2 c (hmem f2 (by rw [heq]; simp)) hc
    have := cramer_dot (dvec2 G f1 c) (dvec2 G f2 c) (facePi G p bc f1 - p.getD c 0)
      (facePi G p bc f2 - p.getD c 0) h1 h2 hd
    have hff : f = f1 ∨ f = f2 := by simpa using hfm
    rcases hff with rfl | rfl
    · exact this.1
    · exact this.2
  · exact absurd hco (by simp)

theorem gradFnAt_loc (G : Grid2) (p bc : List Rat) (v c : Nat) (hc : c ∈ G.cellsOf v) :
    gradFnAt G p bc v (G.loc v c) = gradAt G p bc v c := by
  unfold gradFnAt; rw [G.getD_loc v c hc]

theorem facePi_bnd (G : Grid2) (p bc : List Rat) {f c : Nat} {s : Rat} (hl : G.fcells f = [(c, s)]) :
    facePi G p bc f = if G.dirAt f then bc.getD f 0 else p.getD c 0 - bc.getD f 0 / th2 G f c s := by
  unfold facePi; rw [hl]

theorem facePi_int (G : Grid2) (p bc : List Rat) {f c1 c2 : Nat} {s1 s2 : Rat}
    (hl : G.fcells f = [(c1, s1), (c2, s2)]) :
    facePi G p bc f = (th2 G f c1 s1 * p.getD c1 0 + th2 G f c2 s2 * p.getD c2 0)
      / (th2 G f c1 s1 + th2 G f c2 s2) := by
  unfold facePi; rw [hl]

theorem filter_flatMap_range (F : Nat → List HF) (hF : ∀ k, ∀ h ∈ F k, h.face = k) (n f : Nat) :
    ((List.range n).flatMap F).filter (fun h => h.face == f) = if f < n then F f else [] := by
  induction n with
  | zero => simp
  | succ n ih =>
    rw [List.range_succ, List.flatMap_append, List.filter_append, ih]
    simp only [List.flatMap_cons, List.flatMap_nil, List.append_nil]
    by_cases hfn : f = n
    · subst hfn
      rw [if_neg (lt_irrefl f), if_pos (Nat.lt_succ_self f), List.nil_append,
        List.filter_eq_self.mpr (fun h hh => by simpa using hF f h hh)]
    · rw [List.filter_eq_nil_iff.mpr (fun h hh => by simpa [hF n h hh] using Ne.symm hfn), List.append_nil]
      exact if_congr (by omega) rfl rfl

theorem hfOf_ofGrid2 (G : Grid2) (f : Nat) (hf : f < G.numFaces) :
    hfOf (ofGrid2 G) f = (G.fcells f).map (fun cs => (⟨f, cs.1, cs.2⟩ : HF)) := by
  unfold hfOf ofGrid2
  simp only
  rw [filter_flatMap_range (fun f => (G.fcells f).map (fun cs => (⟨f, cs.1, cs.2⟩ : HF))) (by
    intro k h hh
    simp only [List.mem_map] at hh
    obtain ⟨cs, _, rfl⟩ := hh
    rfl) G.numFaces f, if_pos hf]

theorem tHalf_ofGrid2 (G : Grid2) (hwf : G.WF) (f c : Nat) (s : Rat) (hf : f < G.numFaces)
    (hc : c < G.numCells) : tHalf (ofGrid2 G) ⟨f, c, s⟩ = th2 G f c s := by
  obtain ⟨n1, n2, hn⟩ := List.length_eq_two.1 (hwf.length_fnAt f hf)
  obtain ⟨x1, x2, hx⟩ := List.length_eq_two.1 (hwf.length_fcAt f hf)
  obtain ⟨y1, y2, hy⟩ := List.length_eq_two.1 (hwf.length_ccAt c hc)
  obtain ⟨a, b, c', d, hk⟩ := len2mat _ (hwf.shape_permAt c hc)
  simp only [tHalf, dvec, ofGrid2, th2, dvec2]
  rw [hn, hx, hy, hk]
  simp only [v3, m3, V3.dot, V3.sub, V3.smul, M3.mulVec, dot_cons, dot_nil_left, vsub_cons,
    vsub_nil_left, smul_cons, smul_nil, mulVec_cons, mulVec_nil]
  congr 1 <;> ring

theorem nodup_bndr (G : Grid2) : (ofGrid2 G).bndr.Nodup := List.Nodup.filter _ List.nodup_range

theorem mem_bndr (G : Grid2) (f : Nat) : f ∈ (ofGrid2 G).bndr ↔ f < G.numFaces ∧ G.isBoundary f = true := by
  simp [ofGrid2, List.mem_filter]

/-- **The TPFA model in half-face form** on the converted grid: the flux over `f` is the flux of its first
    half-face `(c, s)` towards the two-point face pressure -/
theorem tpfa_halfForm (G : Grid2) (hwf : G.WF) (hK : KorthOK G = true) (p bc : List Rat) (f : Nat)
    (hf : f < G.numFaces) {c : Nat} {s : Rat} {r : List (Nat × Rat)} (hl : G.fcells f = (c, s) :: r) :
    faceFlux (ofGrid2 G) f (fun c => p.getD c 0) (fun f => bc.getD f 0)
      = -(s * (th2 G f c s * (facePi G p bc f - p.getD c 0))) := by
  have hfk := korthOK_face G hK f hf
  rcases G.fcells_cases hwf f hf with ⟨c', s', hl', hc⟩ | ⟨c1, s1, c2, s2, hl', hc1, hc2, _⟩
  · obtain ⟨rfl, rfl⟩ : c = c' ∧ s = s' := by rw [hl] at hl'; simpa using (List.cons.inj hl').1
    obtain ⟨_, hth, _⟩ := faceKorth_bnd G f c s hl' hfk
    have hhf : hfOf (ofGrid2 G) f = [⟨f, c, s⟩] := by rw [hfOf_ofGrid2 G f hf, hl']; rfl
    have hb : G.isBoundary f = true := by simp [Grid2.isBoundary, hl']
    have hbd := (mem_bndr G f).mpr ⟨hf, hb⟩
    rw [facePi_bnd G p bc hl']
    by_cases hd : G.dirAt f = true
    · rw [if_pos hd, faceFlux_dirichlet hhf (nodup_bndr G) hbd (by simp [neuAll, ofGrid2, hd])
        (by simp [dirEff, ofGrid2, hd, hb]), tHalf_ofGrid2 G hwf f c s hf hc]
      ring
    · rw [if_neg hd, faceFlux_neumann hhf (nodup_bndr G) hbd (by simp [neuAll, ofGrid2, hd, hb])]
      field_simp
      ring
  · obtain ⟨rfl, rfl⟩ : c = c1 ∧ s = s1 := by rw [hl] at hl'; simpa using (List.cons.inj hl').1
    obtain ⟨_, hs2, ht1, ht2, hsum, _⟩ := faceKorth_int G f c c2 s s2 hl' hfk
    have hhf : hfOf (ofGrid2 G) f = [⟨f, c, s⟩, ⟨f, c2, s2⟩] := by rw [hfOf_ofGrid2 G f hf, hl']; rfl
    have hnb : f ∉ (ofGrid2 G).bndr := fun h => by simpa [Grid2.isBoundary, hl'] using ((mem_bndr G f).mp h).2
    have e1 := tHalf_ofGrid2 G hwf f c s hf hc1
    have e2 := tHalf_ofGrid2 G hwf f c2 s2 hf hc2
    rw [faceFlux_eq _ f _ _ (nodup_bndr G), if_neg hnb, ← flux_rowApply, flux_interior hhf hs2,
      trans_interior hhf (by simp [neuAll, ofGrid2, Grid2.isBoundary, hl']) (e1 ▸ ht1) (e2 ▸ ht2), e1, e2,
      facePi_int G p bc hl', mean_sub ht1 ht2 hsum]
    ring

section SubCell
variable (G : Grid2) (hwf : G.WF) (hK : KorthOK G = true) (p bc : List Rat) (v : Nat) (hv : v < G.numNodes)
  (f c : Nat) (s : Rat) (hf : f ∈ G.facesOf v) (hcs : (c, s) ∈ G.fcells f) (hc : c < G.numCells)
include hwf hK hv hf hcs hc

theorem subcell_pres :
    presAt ((G.region p bc v).cellAt (G.loc v c)) (gradFnAt G p bc v (G.loc v c)) (G.fcAt f)
      = facePi G p bc f := by
  have hcm := G.mem_cellsOf_of v f c s hf hcs hc
  rw [G.cellAt_loc p bc v c hcm, gradFnAt_loc G p bc v c hcm]
  show p.getD c 0 + dot (gradAt G p bc v c) (dvec2 G f c) = _
  rw [grad_dot G hwf hK p bc v hv f c s hf hcs hc]; ring

theorem subcell_flux (a : Rat)
    (hk : vecMat 2 (G.fnAt f) (G.permAt c) = smul (s * th2 G f c s) (dvec2 G f c)) :
    nKg (smul a (G.fnAt f)) ((G.region p bc v).cellAt (G.loc v c)).K (gradFnAt G p bc v (G.loc v c))
      = a * (s * (th2 G f c s * (facePi G p bc f - p.getD c 0))) := by
  have hcm := G.mem_cellsOf_of v f c s hf hcs hc
  rw [G.cellAt_loc p bc v c hcm, gradFnAt_loc G p bc v c hcm]
  show nKg (smul a (G.fnAt f)) (G.permAt c) (gradAt G p bc v c) = _
  rw [nKg_korth G hwf f c hc _ _ hk, grad_dot G hwf hK p bc v hv f c s hf hcs hc]; ring

end SubCell

theorem tp_consistent (G : Grid2) (hwf : G.WF) (hK : KorthOK G = true) (p bc : List Rat) (v : Nat)
    (hv : v < G.numNodes) : (G.region p bc v).Consistent (gradFnAt G p bc v) := by
  intro sf hsf
  simp only [Grid2.region, List.mem_map] at hsf
  obtain ⟨f, hf0, rfl⟩ := hsf
  obtain ⟨hflt, hvf⟩ := (G.mem_facesOf v f).mp hf0
  have hfk := korthOK_face G hK f hflt
  rcases G.fcells_cases hwf f hflt with ⟨c, s, hl, hc⟩ | ⟨c1, s1, c2, s2, hl, hc1, hc2, hne⟩
  · have hcs : (c, s) ∈ G.fcells f := by rw [hl]; simp
    obtain ⟨hs, hth, hko⟩ := faceKorth_bnd G f c s hl hfk
    rw [G.mkFace_bnd bc v f c s hl]
    by_cases hd : G.dirAt f = true
    · rw [if_pos hd]
      show presAt _ _ _ = _
      rw [subcell_pres G hwf hK p bc v hv f c s hf0 hcs hc, facePi_bnd G p bc hl, if_pos hd]
    · rw [if_neg hd]
      show s * nKg _ _ _ = _
      rw [subcell_flux G hwf hK p bc v hv f c s hf0 hcs hc _ hko, facePi_bnd G p bc hl, if_neg hd]
      have h1 : th2 G f c s * (bc.getD f 0 / th2 G f c s) = bc.getD f 0 := mul_div_cancel₀ _ hth
      linear_combination (-(s * s) / G.nN f) * h1 - (bc.getD f 0 / G.nN f) * sq_of_pm_one hs
  · have hcs1 : (c1, s1) ∈ G.fcells f := by rw [hl]; simp
    have hcs2 : (c2, s2) ∈ G.fcells f := by rw [hl]; simp
    obtain ⟨hs, hs2, ht1, ht2, hsum, hk1, hk2⟩ := faceKorth_int G f c1 c2 s1 s2 hl hfk
    have hxc : vadd (G.fcAt f) (smul G.eta (vsub (G.nodeAt v) (G.fcAt f))) = G.fcAt f := by
      rw [korthOK_eta G hK]
      apply vadd_smul_zero
      rw [length_vsub _ _ (by rw [hwf.length_nodeAt v hv, hwf.length_fcAt f hflt]), hwf.length_nodeAt v hv,
        hwf.length_fcAt f hflt]
    rw [G.mkFace_int bc v f c1 c2 s1 s2 hl, hxc]
    show nKg _ _ _ = nKg _ _ _ ∧ presAt _ _ _ = presAt _ _ _
    rw [subcell_flux G hwf hK p bc v hv f c1 s1 hf0 hcs1 hc1 _ hk1,
      subcell_flux G hwf hK p bc v hv f c2 s2 hf0 hcs2 hc2 _ hk2,
      subcell_pres G hwf hK p bc v hv f c1 s1 hf0 hcs1 hc1,
      subcell_pres G hwf hK p bc v hv f c2 s2 hf0 hcs2 hc2]
    refine ⟨?_, rfl⟩
    -- both sides are `± 1/N` times the harmonic mean of the half transmissibilities times `p2 - p1`
    rw [facePi_int G p bc hl, mean_sub ht1 ht2 hsum, mean_sub' ht1 ht2 hsum, hs2]
    ring

theorem tp_subflux (G : Grid2) (hwf : G.WF) (hK : KorthOK G = true) (p bc : List Rat) (v : Nat)
    (hv : v < G.numNodes) (f : Nat) (hf0 : f ∈ G.facesOf v) :
    (G.mkFace bc v f).flux (G.region p bc v) (gradFnAt G p bc v) 
      = 1 / G.nN f * faceFlux (ofGrid2 G) f (fun c => p.getD c 0) (fun f => bc.getD f 0) := by
  obtain ⟨hflt, hvf⟩ := (G.mem_facesOf v f).mp hf0
  have hfk := korthOK_face G hK f hflt
  -- the flux is taken from the sub-cell of the first half-face `(c, s)` of `f`
  obtain ⟨c, s, r, hl, hc, hko, hfirst⟩ : ∃ c s r, G.fcells f = (c, s) :: r ∧ c < G.numCells ∧
      vecMat 2 (G.fnAt f) (G.permAt c) = smul (s * th2 G f c s) (dvec2 G f c) ∧
      (G.mkFace bc v f).kind.first = G.loc v c := by
    rcases G.fcells_cases hwf f hflt with ⟨c, s, hl, hc⟩ | ⟨c1, s1, c2, s2, hl, hc1, _, _⟩
    · refine ⟨c, s, [], hl, hc, (faceKorth_bnd G f c s hl hfk).2.2, ?_⟩
      rw [G.mkFace_bnd bc v f c s hl]; split_ifs <;> rfl
    · refine ⟨c1, s1, [(c2, s2)], hl, hc1, (faceKorth_int G f c1 c2 s1 s2 hl hfk).2.2.2.2.2.1, ?_⟩
      rw [G.mkFace_int bc v f c1 c2 s1 s2 hl]; rfl
  unfold SubFace.flux
  rw [G.mkFace_n, hfirst, subcell_flux G hwf hK p bc v hv f c s hf0 (by rw [hl]; simp) hc _ hko,
    tpfa_halfForm G hwf hK p bc f hflt hl]
  ring

/-- **MPFA = TPFA** under K-orthogonality: the certified MPFA solution of every interaction region is the
    two-point one (uniqueness), hence the assembled face flux is the flux of the TPFA model. -/
theorem mpfa_eq_tpfa (G : Grid2) (hwf : G.WF) (hK : KorthOK G = true) (p bc : List Rat) (Ls : List Mat)
    (hcert : G.certs = some Ls) (f : Nat) (hf : f < G.numFaces) :
    G.faceFlux (G.nodeSols Ls p bc) bc f = faceFlux (ofGrid2 G) f (fun c => p.getD c 0) (fun f => bc.getD f 0) := by
  obtain ⟨hne, hnodes⟩ := hwf.fnodes_ok f hf
  change G.fnodes f ≠ [] at hne
  change ∀ v ∈ G.fnodes f, v < G.numNodes at hnodes
  have hN : ((G.fnodes f).length : Rat) ≠ 0 := by
    have : (G.fnodes f).length ≠ 0 := fun h0 => hne (List.length_eq_zero_iff.mp h0)
    exact_mod_cast this
  unfold Grid2.faceFlux
  have hterm : ∀ v ∈ G.fnodes f,
      (G.mkFace bc v f).flux (Grid2.nodeSolAt (G.nodeSols Ls p bc) v).R
          (gradFn (Grid2.nodeSolAt (G.nodeSols Ls p bc) v).Gs) = 1 / G.nN f * faceFlux (ofGrid2 G) f (fun c => p.getD c 0) (fun f => bc.getD f 0) := by
    intro v hv
    have hvn := hnodes v hv
    have hf0 : f ∈ G.facesOf v := (G.mem_facesOf v f).mpr ⟨hf, hv⟩
    rw [G.nodeSolAt_nodeSols Ls p bc v hvn]
    have hRwf := G.region_wf hwf p bc v hvn
    have hsol := cert_solution 2 _ _ hRwf (G.certs_ok Ls hcert p bc v hvn) (gradFnAt G p bc v)
      (fun _ => gradAt_len G p bc v _) (tp_consistent G hwf hK p bc v hvn)
    show (G.mkFace bc v f).flux (G.region p bc v) (gradFn (chunks 2 (G.region p bc v).cells.length
      (mulVec (Ls.getD v []) ((G.region p bc v).rhs 2)))) = _
    rw [hsol, ← tp_subflux G hwf hK p bc v hvn f hf0]
    have hmem : G.mkFace bc v f ∈ (G.region p bc v).faces := by
      simp only [Grid2.region, List.mem_map]
      exact ⟨f, hf0, rfl⟩
    have hi := idxOK_first _ _ (hRwf.2 _ hmem).2.2
    unfold SubFace.flux
    rw [gradFn_tabulate _ _ _ hi]
  generalize faceFlux (ofGrid2 G) f (fun c => p.getD c 0) (fun f => bc.getD f 0) = X at hterm ⊢
  rw [List.map_congr_left hterm, List.map_const', List.sum_replicate, nsmul_eq_mul]
  unfold Grid2.nN
  field_simp

end PorepyVerif.C12
