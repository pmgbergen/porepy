/-
C12 — property theorems (statements only depend on Model.lean; helper lemmas in Lemmas.lean, Mpfa.lean).

Property: for any grid and permeability, the TPFA cell-cell operator (divergence of the flux matrix) is
symmetric, each face flux is single-valued, and a constant pressure with matching Dirichlet data gives zero
flux.  On Cartesian and tensor grids with diagonal permeability it has positive diagonal and non-positive
off-diagonal entries [and its flux and boundary-flux matrices coincide with those of MPFA], and with constant
permeability it reproduces linear pressures exactly.

All statements are about the matrices `fluxT`, `boundFluxT`, `bpCellT`, `bpFaceT` the model of
`Tpfa.discretize` produces, for EVERY grid `g` (topology = any list of half-faces, any geometry, any
tensor, any boundary flags).  "Cartesian / tensor grid with diagonal permeability" enters through what it
is used for: well-formed incidence + positive half transmissibilities (`tpfa_Mmatrix`) and K-orthogonality
`K n = λ d` (`tpfa_exact_*`; on such grids `n` and `d` are parallel to a coordinate axis, an eigenvector of a
diagonal `K`).  The bracketed MPFA clause is `tpfa_eq_mpfa_Korth`, in two dimensions, against the MPFA model
of C11.
-/
import PorepyVerif.C12.Mpfa

namespace PorepyVerif.C12

/-- The cell-cell operator `div * flux = D T Dᵀ` is symmetric: for every topology, geometry, tensor and
    boundary condition. -/
theorem tpfa_symmetric (g : Grid) (c1 c2 : Nat) : cellOp g c1 c2 = cellOp g c2 c1 := by
  unfold cellOp
  apply sumTo_congr
  intro f _
  rw [fluxEntry_eq, fluxEntry_eq]; ring

/-- Single-valued face flux: row `f` of the flux matrix is ONE scalar `t_f` times row `f` of the incidence
    matrix — entrywise, and as an operator on cell pressures. -/
theorem tpfa_single_valued (g : Grid) (f : Nat) :
    (∀ c, entry (fluxT g) f c = trans g f * inc g f c) ∧
    (∀ p, rowApply (fluxT g) f p = trans g f * sgnDot (hfOf g f) p) :=
  ⟨fun c => fluxEntry_eq g f c, fun p => flux_rowApply g f p⟩

/-- … on a face shared by two cells with opposite orientation the flux is `± t_f (p_left - p_right)`;
    `t_f` is the harmonic combination of the two half transmissibilities and does not depend on which cell
    comes first. -/
theorem tpfa_single_valued_interior (g : Grid) (f : Nat) (h1 h2 : HF) (p : Nat → Rat)
    (hhf : hfOf g f = [h1, h2]) (hs : h2.sgn = - h1.sgn) :
    rowApply (fluxT g) f p = h1.sgn * trans g f * (p h1.cell - p h2.cell) ∧
    tFull g f = harmonic [tHalf g h1, tHalf g h2] ∧
    harmonic [tHalf g h1, tHalf g h2] = harmonic [tHalf g h2, tHalf g h1] :=
  ⟨flux_interior hhf hs p, tFull_pair hhf, harmonic_comm _ _⟩

/-- Conservation, as a global balance: if the orientations of the half-faces of every non-boundary face
    cancel, the net outflow summed over all cells equals the flux through the boundary faces, for ANY face
    fluxes `F` (what leaves one cell through an interior face enters its neighbour).  Only the incidence
    `cell_faces` enters; the transmissibilities play no role. -/
theorem tpfa_conservative (g : Grid) (F : Nat → Rat)
    (hr : ∀ h ∈ g.hf, h.cell < g.nc ∧ h.face < g.nf)
    (hint : ∀ f, f ∉ g.bndr → bsgn g f = 0) :
    sumTo g.nc (fun c => divApply g.hf c F)
      = sumTo g.nf (fun f => if f ∈ g.bndr then bsgn g f * F f else 0) := by
  rw [sum_divApply g.hf g.nc F (fun x hx => (hr x hx).1), ← sum_faces g.hf g.nf F (fun x hx => (hr x hx).2)]
  apply sumTo_congr
  intro f _
  by_cases hb : f ∈ g.bndr
  · rw [if_pos hb]; rfl
  · rw [if_neg hb]
    have := hint f hb
    unfold bsgn hfOf at this
    rw [this]; ring

/-- Constant pressure with matching Dirichlet data (and zero Neumann data) gives zero flux on EVERY face.
    Hypotheses: boundary faces are listed once, orientations cancel on non-boundary faces, every boundary
    face is Dirichlet or Neumann. -/
theorem tpfa_const_zero_flux (g : Grid) (c : Rat) (bc : Nat → Rat)
    (hnd : g.bndr.Nodup)
    (hint : ∀ f, f ∉ g.bndr → bsgn g f = 0)
    (hb : ∀ f ∈ g.bndr, neuAll g f = true ∨ dirEff g f = true)
    (hdir : ∀ f, neuAll g f = false → dirEff g f = true → bc f = c)
    (hneu : ∀ f, neuAll g f = true → bc f = 0) :
    ∀ f, faceFlux g f (fun _ => c) bc = 0 := by
  intro f
  rw [faceFlux_eq g f _ bc hnd, sgnDot_const]
  exact flux_balance g f c bc hint hb (hdir f) (hneu f)

/-- M-matrix structure.  On a well-formed grid (every face has one cell, or two distinct cells with
    opposite orientation) whose half transmissibilities are all positive (Cartesian / tensor grids with a
    positive diagonal tensor; more generally K-orthogonal grids), `A = div * flux` has
    non-positive off-diagonal entries, non-negative diagonal entries — positive for every cell that has a
    face which is not Neumann — and is weakly diagonally dominant
    (`Σ_{c' ≠ c} |A c c'| = Σ_{c' ≠ c} -A c c' ≤ A c c`). -/
theorem tpfa_Mmatrix (g : Grid) (hwf : WellFormed g) (hpos : ∀ h ∈ g.hf, 0 < tHalf g h) :
    (∀ c1 c2, c1 ≠ c2 → cellOp g c1 c2 ≤ 0) ∧
    (∀ c, 0 ≤ cellOp g c c) ∧
    (∀ c, (∃ h ∈ g.hf, h.cell = c ∧ neuAll g h.face = false) → 0 < cellOp g c c) ∧
    (∀ c, c < g.nc → sumTo g.nc (fun c2 => if c2 = c then 0 else - cellOp g c c2) ≤ cellOp g c c) := by
  have hhalf : ∀ f, ∀ t ∈ (hfOf g f).map (tHalf g), 0 < t := by
    intro f t ht
    obtain ⟨h, hh, rfl⟩ := List.mem_map.mp ht
    exact hpos h (mem_hfOf.mp hh).1
  have ht : ∀ f, 0 ≤ trans g f := by
    intro f; unfold trans; split_ifs
    · exact le_refl 0
    · exact harmonic_nonneg _ (hhalf f)
  have hterm : ∀ c f, 0 ≤ trans g f * (inc g f c * inc g f c) := fun c f =>
    mul_nonneg (ht f) (mul_self_nonneg _)
  refine ⟨?_, ?_, ?_, ?_⟩
  · intro c1 c2 hne
    rw [cellOp_eq]
    exact sumTo_nonpos _ _ (fun f hf =>
      mul_nonpos_of_nonneg_of_nonpos (ht f) (inc_offdiag g f (hwf.1 f hf) c1 c2 hne))
  · intro c
    rw [cellOp_eq]
    exact sumTo_nonneg _ _ (fun f _ => hterm c f)
  · rintro c ⟨h, hh, hc, hneu⟩
    have hf := hwf.2 h hh
    have hmem : h ∈ hfOf g h.face := mem_hfOf.mpr ⟨hh, rfl⟩
    rw [cellOp_eq]
    apply sumTo_pos _ _ (fun f _ => hterm c f) h.face hf
    rw [← hc, inc_sq_of_mem g h.face (hwf.1 _ hf) h hmem, mul_one, trans_not_neu hneu]
    exact harmonic_pos _ (hhalf _) (List.ne_nil_of_mem (List.mem_map.mpr ⟨h, hmem, rfl⟩))
  · intro c hc
    -- the row sum `Σ_{c2} A c c2 = Σ_f t_f D[f,c] (Σ_{c2} D[f,c2])` is non-negative
    have hrow : 0 ≤ sumTo g.nc (fun c2 => cellOp g c c2) := by
      rw [cellOp_rowsum]
      exact sumTo_nonneg _ _ (fun f hf => mul_nonneg (ht f) (inc_rowsum g f (hwf.1 f hf) c))
    rw [sumTo_split g.nc c _ hc] at hrow
    have h2 : sumTo g.nc (fun c2 => if c2 = c then 0 else - cellOp g c c2)
        = -1 * sumTo g.nc (fun c2 => if c2 = c then 0 else cellOp g c c2) := by
      rw [← sumTo_mul_left]
      exact sumTo_congr _ _ _ (fun c2 _ => by split_ifs <;> ring)
    rw [h2]; linarith

/-- Where the positivity hypothesis of `tpfa_Mmatrix` comes from on Cartesian / tensor grids with diagonal
    permeability: there the outward normal of every half-face is a positive multiple of the vector from the
    cell centre to the face centre, and for a diagonal tensor with positive entries this makes the half
    transmissibility positive. -/
theorem tpfa_thalf_pos_diagK (g : Grid) (h : HF) (k0 k1 k2 al : Rat)
    (hK : g.perm h.cell = ⟨⟨k0, 0, 0⟩, ⟨0, k1, 0⟩, ⟨0, 0, k2⟩⟩)
    (h0 : 0 < k0) (h1 : 0 < k1) (h2 : 0 < k2)
    (hn : V3.smul h.sgn (g.normal h.face) = V3.smul al (dvec g h)) (hal : 0 < al)
    (hd : (dvec g h).dot (dvec g h) ≠ 0) :
    0 < tHalf g h := by
  apply tHalf_pos_of_parallel g h al hn hal hd
  rw [hK]
  have hdd := V3.dot_self_pos _ hd
  generalize dvec g h = d at hdd ⊢
  obtain ⟨x, y, z⟩ := d
  simp only [V3.dot, M3.mulVec, zero_mul, add_zero, zero_add] at hdd ⊢
  have := quad_pos h0 h1 h2 hdd
  linarith

/-- Exactness on K-orthogonal grids, interior face.  Constant symmetric `K`, both half-faces K-orthogonal
    (`K n_i = λ_i d_i` with `n_i` the outward normal and `d_i` the vector from the cell centre to the face
    centre), affine pressure `p(x) = a + G.x` at the two cell centres: the two-point flux across the face
    equals the exact Darcy flux `-n . K G` (`n` the stored face normal, its length the face area). -/
theorem tpfa_exact_Korth (g : Grid) (f : Nat) (h1 h2 : HF) (K : M3) (lam1 lam2 a : Rat) (G : V3)
    (p : Nat → Rat)
    (hhf : hfOf g f = [h1, h2]) (hs1 : h1.sgn * h1.sgn = 1) (hs2 : h2.sgn = - h1.sgn)
    (hnn : neuAll g f = false)
    (hK1 : g.perm h1.cell = K) (hK2 : g.perm h2.cell = K) (hsym : K.Symm)
    (ho1 : K.mulVec (V3.smul h1.sgn (g.normal f)) = V3.smul lam1 (dvec g h1))
    (ho2 : K.mulVec (V3.smul h2.sgn (g.normal f)) = V3.smul lam2 (dvec g h2))
    (hd1 : (dvec g h1).dot (dvec g h1) ≠ 0) (hd2 : (dvec g h2).dot (dvec g h2) ≠ 0)
    (hl1 : lam1 ≠ 0) (hl2 : lam2 ≠ 0) (hl : lam1 + lam2 ≠ 0)
    (hp1 : p h1.cell = a + G.dot (g.cc h1.cell)) (hp2 : p h2.cell = a + G.dot (g.cc h2.cell)) :
    rowApply (fluxT g) f p = - (g.normal f).dot (K.mulVec G) := by
  obtain ⟨ht1, e1⟩ := korth_halfFace g (by rw [hhf]; simp) hK1 hsym ho1 hd1 G
  obtain ⟨ht2, e2⟩ := korth_halfFace g (by rw [hhf]; simp) hK2 hsym ho2 hd2 G
  rw [hs2] at e2
  -- the fluxes of the two half-faces towards the exact face value `a + G.x_f` are the exact outward fluxes;
  -- they balance, so each is the two-point flux
  rw [flux_interior hhf hs2, trans_interior hhf hnn (ht1 ▸ hl1) (ht2 ▸ hl2), ht1, ht2, hp1, hp2, mul_assoc,
    harmonic_flux (π := a + G.dot (g.fc f)) hl1 hl2 hl (by linear_combination e1 + e2)]
  linear_combination h1.sgn * e1 - (g.normal f).dot (K.mulVec G) * hs1

/-- Exactness on K-orthogonal grids, Dirichlet boundary face: with the boundary value of the affine pressure
    at the face centre, `flux * p + bound_flux * bc` is the exact Darcy flux. -/
theorem tpfa_exact_Korth_dirichlet (g : Grid) (f : Nat) (h : HF) (K : M3) (lam a : Rat) (G : V3)
    (p bc : Nat → Rat)
    (hhf : hfOf g f = [h]) (hs : h.sgn * h.sgn = 1)
    (hnd : g.bndr.Nodup) (hb : f ∈ g.bndr)
    (hnn : neuAll g f = false) (hdir : dirEff g f = true)
    (hK : g.perm h.cell = K) (hsym : K.Symm)
    (ho : K.mulVec (V3.smul h.sgn (g.normal f)) = V3.smul lam (dvec g h))
    (hd : (dvec g h).dot (dvec g h) ≠ 0)
    (hp : p h.cell = a + G.dot (g.cc h.cell)) (hbc : bc f = a + G.dot (g.fc f)) :
    faceFlux g f p bc = - (g.normal f).dot (K.mulVec G) := by
  obtain ⟨ht, e⟩ := korth_halfFace g (by rw [hhf]; simp) hK hsym ho hd G
  rw [faceFlux_dirichlet hhf hnd hb hnn hdir, ht, hp, hbc]
  linear_combination h.sgn * e - (g.normal f).dot (K.mulVec G) * hs

/-- Neumann boundary face: the flux over the face is the prescribed outward flux (given with respect to
    the outward normal, hence the orientation factor), whatever the cell pressures. -/
theorem tpfa_exact_neumann (g : Grid) (f : Nat) (h : HF) (E : Rat) (p bc : Nat → Rat)
    (hhf : hfOf g f = [h]) (hs : h.sgn * h.sgn = 1)
    (hnd : g.bndr.Nodup) (hb : f ∈ g.bndr) (hn : neuAll g f = true)
    (hbc : bc f = h.sgn * E) :
    faceFlux g f p bc = E := by
  rw [faceFlux_neumann hhf hnd hb hn, hbc]
  linear_combination E * hs

/-- Boundary pressure reconstruction on a Neumann face of a K-orthogonal grid: with the exact outward flux
    of an affine pressure as Neumann datum, `bound_pressure_cell * p + bound_pressure_face * bc` is the
    affine pressure at the face centre. -/
theorem tpfa_bound_pressure_exact_Korth (g : Grid) (f : Nat) (h : HF) (K : M3) (lam a : Rat) (G : V3)
    (p bc : Nat → Rat)
    (hhf : hfOf g f = [h]) (hf : f < g.nf) (hneu : g.isNeu f = true)
    (hK : g.perm h.cell = K) (hsym : K.Symm)
    (ho : K.mulVec (V3.smul h.sgn (g.normal f)) = V3.smul lam (dvec g h))
    (hd : (dvec g h).dot (dvec g h) ≠ 0) (hl : lam ≠ 0)
    (hp : p h.cell = a + G.dot (g.cc h.cell))
    (hbc : bc f = - (V3.smul h.sgn (g.normal f)).dot (K.mulVec G)) :
    facePressure g f p bc = a + G.dot (g.fc f) := by
  obtain ⟨ht, e⟩ := korth_halfFace g (by rw [hhf]; simp) hK hsym ho hd G
  have hbc' : bc f = - (lam * (G.dot (g.fc f) - G.dot (g.cc h.cell))) := by rw [hbc, V3.dot_smul_left, e]
  rw [facePressure_eq g f p bc hf, hhf, if_pos hneu]
  simp only [vFace, hneu, tFull_single hhf, ht, hbc', hp, List.map_cons, List.map_nil, List.sum_cons,
    List.sum_nil, if_true]
  field_simp
  ring

/-- … and on a Dirichlet face the reconstruction returns the boundary datum. -/
theorem tpfa_bound_pressure_dirichlet (g : Grid) (f : Nat) (p bc : Nat → Rat)
    (hf : f < g.nf) (hdir : g.isDir f = true) (hneu : g.isNeu f = false) :
    facePressure g f p bc = bc f := by
  rw [facePressure_eq g f p bc hf]
  simp [vFace, hneu, hdir]

/-- Hydrostatic consistency of `vector_source`.  Pressure `p(x) = a + G.x` at the cell centres, the constant
    vector source `G` in every cell (as the array `vector_source` is multiplied with, `vsd` entries per cell;
    components of `G` beyond `vsd` must not matter: `d_k G_k = 0` there, e.g. a grid lying in the first `vsd`
    coordinates), Dirichlet data `p(x_f)`, zero Neumann data:
    `flux * p + bound_flux * bc + vector_source * G = 0` on EVERY face, for every grid, tensor and
    boundary assignment (no K-orthogonality needed). -/
theorem tpfa_hydrostatic_zero_flux (g : Grid) (vsd : Nat) (a : Rat) (G : V3) (p bc : Nat → Rat)
    (h1 : 1 ≤ vsd) (h3 : vsd ≤ 3)
    (hz : ∀ h ∈ g.hf, ∀ k, vsd ≤ k → k < 3 → (dvec g h).get k * G.get k = 0)
    (hnd : g.bndr.Nodup)
    (hint : ∀ f, f ∉ g.bndr → bsgn g f = 0)
    (hb : ∀ f ∈ g.bndr, neuAll g f = true ∨ dirEff g f = true)
    (hp : ∀ c, p c = a + G.dot (g.cc c))
    (hdir : ∀ f, neuAll g f = false → dirEff g f = true → bc f = a + G.dot (g.fc f))
    (hneu : ∀ f, neuAll g f = true → bc f = 0) :
    ∀ f, faceFlux g f p bc + rowApply (vecSrcT g vsd) f (vsVec vsd G) = 0 := by
  intro f
  have hvs : rowApply (vecSrcT g vsd) f (vsVec vsd G)
      = ((hfOf g f).map (fun h => trans g f * h.sgn * (dvec g h).dot G)).sum :=
    vecSrc_rowApply vsd _ _ g.hf f _ fun h hh hf =>
      vecSrc_inner vsd (dvec g h) G h.cell (trans g f * h.sgn) _ (fun k => by rw [hf]; ring) h1 h3 (hz h hh)
  have hs : _ = trans g f * ((a + G.dot (g.fc f)) * bsgn g f) :=
    hydro_sum g f a G p hp (trans g f) (hfOf g f) (fun h hh => (mem_hfOf.mp hh).2)
  rw [hvs, faceFlux_eq g f p bc hnd]
  linear_combination hs + flux_balance g f (a + G.dot (g.fc f)) bc hint hb (hdir f) (hneu f)

/-- Hydrostatic consistency of `bound_pressure_vector_source`: on a Neumann face with zero flux datum,
    `bound_pressure_cell * p + bound_pressure_face * bc + bound_pressure_vector_source * G` is the
    hydrostatic pressure `a + G.x_f` at the face centre. -/
theorem tpfa_hydrostatic_bound_pressure (g : Grid) (vsd : Nat) (f : Nat) (h : HF) (a : Rat) (G : V3)
    (p bc : Nat → Rat)
    (h1 : 1 ≤ vsd) (h3 : vsd ≤ 3)
    (hz : ∀ k, vsd ≤ k → k < 3 → (dvec g h).get k * G.get k = 0)
    (hhf : hfOf g f = [h]) (hf : f < g.nf) (hneu : g.isNeu f = true)
    (hp : p h.cell = a + G.dot (g.cc h.cell)) (hbc : bc f = 0) :
    facePressure g f p bc + rowApply (bpVecSrcT g vsd) f (vsVec vsd G) = a + G.dot (g.fc f) := by
  have hf1 : h.face = f := (mem_hfOf.mp (by rw [hhf]; simp : h ∈ hfOf g f)).2
  have hvs : rowApply (bpVecSrcT g vsd) f (vsVec vsd G) = ((hfOf g f).map (fun h => 1 * (dvec g h).dot G)).sum :=
    vecSrc_rowApply vsd _ _ g.hf f _ fun h' hh' hf' => by
      obtain rfl : h' = h := by simpa [hhf] using mem_hfOf.mpr ⟨hh', hf'⟩
      exact vecSrc_inner vsd _ G _ 1 _ (fun k => by rw [hf', hneu, if_pos rfl, one_mul]) h1 h3 hz
  rw [facePressure_eq g f p bc hf, hvs, hhf, if_pos hneu, hbc]
  simp only [hp, dvec_dot g hf1, List.map_cons, List.map_nil, List.sum_cons, List.sum_nil]
  ring

/-- **Linear pressures are reproduced exactly — grid-level statement with decidable hypotheses.**
    Well-formed incidence, consistent boundary bookkeeping (`bndOK`: no Robin), K-orthogonal grid with the
    constant symmetric tensor `K` (`korthGrid`: `K n × d = 0` on every half-face — Cartesian / tensor grids
    with diagonal `K` and their affine images).  Affine pressure `p = a + G.x` at the cell centres,
    Dirichlet data `p(x_f)`, Neumann data = exact outward flux.  Then on EVERY face
    `flux * p + bound_flux * bc = -n_f . K G`. -/
theorem tpfa_linear_exact (g : Grid) (K : M3) (a : Rat) (G : V3) (p bc : Nat → Rat)
    (hwf : WellFormed g) (hb : bndOK g = true) (hk : korthGrid g K = true) (hsym : K.Symm)
    (hp : ∀ c, p c = a + G.dot (g.cc c))
    (hdir : ∀ f ∈ g.bndr, neuAll g f = false → bc f = a + G.dot (g.fc f))
    (hneu : ∀ f ∈ g.bndr, neuAll g f = true → bc f = - (bsgn g f * (g.normal f).dot (K.mulVec G))) :
    ∀ f, f < g.nf → faceFlux g f p bc = - (g.normal f).dot (K.mulVec G) := by
  intro f hf
  obtain ⟨hnd, hbl, hil⟩ := bndOK_spec g hb
  have hkh := korthGrid_halfFace g K hk
  have hki := (korthGrid_spec g K hk).2
  rcases faceOK_cases g f (hwf.1 f hf) with ⟨h, heq, hs, _⟩ | ⟨h1, h2, heq, _, _, _, hs, hs2⟩
  · have hbd : f ∈ g.bndr := by
      by_contra hnb
      have := (hil f hf hnb).1
      rw [heq] at this; simp at this
    obtain ⟨hKc, hpar, hdd, _⟩ := hkh f h (by rw [heq]; simp)
    by_cases hn : neuAll g f = true
    · apply tpfa_exact_neumann g f h _ p bc heq (sq_of_pm_one hs) hnd hbd hn
      rw [hneu f hbd hn]
      simp only [bsgn, heq, sgnSum]; ring
    · have hn' : neuAll g f = false := by simpa using hn
      have hd : dirEff g f = true := (hbl f hbd).2.2.resolve_left hn
      exact tpfa_exact_Korth_dirichlet g f h K (tHalf g h) a G p bc heq (sq_of_pm_one hs) hnd hbd hn' hd hKc hsym
        hpar hdd (hp _) (hdir f hbd hn')
  · have hnb : f ∉ g.bndr := by
      intro hbd
      have := (hbl f hbd).2.1
      rw [heq] at this; simp at this
    have hn' := (hil f hf hnb).2
    obtain ⟨hK1, hpar1, hdd1, ht1⟩ := hkh f h1 (by rw [heq]; simp)
    obtain ⟨hK2, hpar2, hdd2, ht2⟩ := hkh f h2 (by rw [heq]; simp)
    have hflux := tpfa_exact_Korth g f h1 h2 K (tHalf g h1) (tHalf g h2) a G p heq (sq_of_pm_one hs) hs2 hn'
      hK1 hK2 hsym hpar1 hpar2 hdd1 hdd2 ht1 ht2 (hki f hf h1 h2 heq) (hp _) (hp _)
    rw [faceFlux_eq g f p bc hnd, if_neg hnb, ← flux_rowApply, hflux, add_zero]

/-- `tpfa_const_zero_flux` with decidable hypotheses: well-formed incidence and consistent boundary
    bookkeeping (every boundary face Dirichlet or Neumann). -/
theorem tpfa_const_zero_flux_wf (g : Grid) (c : Rat) (bc : Nat → Rat)
    (hwf : WellFormed g) (hb : bndOK g = true)
    (hdir : ∀ f, neuAll g f = false → dirEff g f = true → bc f = c)
    (hneu : ∀ f, neuAll g f = true → bc f = 0) :
    ∀ f, faceFlux g f (fun _ => c) bc = 0 :=
  tpfa_const_zero_flux g c bc (bndOK_spec g hb).1 (bsgn_interior g hwf hb)
    (fun f hf => ((bndOK_spec g hb).2.1 f hf).2.2) hdir hneu

/-- `cartLike` grids have positive half transmissibilities (via `tpfa_thalf_pos_diagK`) -/
theorem cartLike_pos (g : Grid) (hc : cartLike g = true) : ∀ h ∈ g.hf, 0 < tHalf g h := by
  intro h hh
  simp only [cartLike, List.all_eq_true, Bool.and_eq_true, beq_iff_eq, decide_eq_true_eq] at hc
  obtain ⟨⟨⟨⟨⟨⟨⟨⟨⟨⟨h01, h02⟩, h10⟩, h12⟩, h20⟩, h21⟩, p0⟩, p1⟩, p2⟩, hcr⟩, hdot⟩ := hc h hh
  have hdd : (dvec g h).dot (dvec g h) ≠ 0 := by
    intro h0
    rw [V3.dot_self_zero _ h0] at hdot
    simp [V3.dot] at hdot
  have hpar := parallel_eq (outN g h) (dvec g h) hcr hdd
  have hddpos := V3.dot_self_pos _ hdd
  apply tpfa_thalf_pos_diagK g h (g.perm h.cell).r0.x (g.perm h.cell).r1.y (g.perm h.cell).r2.z
    ((dvec g h).dot (outN g h) / (dvec g h).dot (dvec g h)) _ p0 p1 p2 hpar _ hdd
  · generalize g.perm h.cell = K at h01 h02 h10 h12 h20 h21 ⊢
    obtain ⟨⟨a, b, c⟩, ⟨d, e, f⟩, ⟨x, y, z⟩⟩ := K
    simp only at h01 h02 h10 h12 h20 h21
    rw [h01, h02, h10, h12, h20, h21]
  · rw [V3.dot_comm]; exact div_pos hdot hddpos

/-- **M-matrix on Cartesian / tensor grids with positive diagonal permeability**, all hypotheses decidable:
    well-formed incidence and `cartLike` (diagonal positive tensors, outward normals along `d`). -/
theorem tpfa_Mmatrix_cartesian (g : Grid) (hwf : WellFormed g) (hc : cartLike g = true) :
    (∀ c1 c2, c1 ≠ c2 → cellOp g c1 c2 ≤ 0) ∧
    (∀ c, 0 ≤ cellOp g c c) ∧
    (∀ c, (∃ h ∈ g.hf, h.cell = c ∧ neuAll g h.face = false) → 0 < cellOp g c c) ∧
    (∀ c, c < g.nc → sumTo g.nc (fun c2 => if c2 = c then 0 else - cellOp g c c2) ≤ cellOp g c c) :=
  tpfa_Mmatrix g hwf (cartLike_pos g hc)

/-- **TPFA = MPFA on K-orthogonal 2-D grids.**  `G` is a grid of the C11 MPFA model (`C11.Grid2`: any
    topology given by `face_nodes` / `cell_faces`, any planar geometry, cell-wise tensors, per-face
    Dirichlet / Neumann), well-formed, with all interaction regions certified nonsingular
    (`G.certs = some Ls`), and K-orthogonal in the decidable sense `KorthOK`: continuity points at the face
    centres (η = 0, the value the code uses on non-simplex grids), `n_fᵀ K_c = ± t_half dᵀ` for every
    half-face (co-normal parallel to the cell-centre-to-face-centre vector — Cartesian / tensor grids with
    diagonal `K`, their affine images with `K = J K₀ Jᵀ`), non-vanishing half transmissibilities,
    orientations ±1, two faces of a cell meeting at each of its corners with independent `d`'s.
    Then for ALL cell pressures `p` and ALL boundary data `bc` the flux the assembled MPFA scheme puts on
    face `f` (`flux * p + bound_flux * bc` of `pp.Mpfa`) equals the one of the TPFA model on the same grid
    (`ofGrid2 G`): the `flux` and `bound_flux` matrices of the two schemes coincide as linear maps.
    Proof: the two-point sub-cell gradients satisfy every row of every interaction region, and the
    certified regions have a unique solution. -/
theorem tpfa_eq_mpfa_Korth (G : C11.Grid2) (Ls : List C11.Mat) (p bc : List Rat)
    (hwf : G.WF) (hcert : G.certs = some Ls) (hK : KorthOK G = true) :
    ∀ f < G.numFaces,
      faceFlux (ofGrid2 G) f (fun c => p.getD c 0) (fun f => bc.getD f 0)
        = G.faceFlux (G.nodeSols Ls p bc) bc f :=
  fun f hf => (mpfa_eq_tpfa G hwf hK p bc Ls hcert f hf).symm

/-- … entry by entry: column `c` of the MPFA `flux` matrix (the scheme applied to the unit vector of cell
    `c`, zero boundary data) and column `f'` of its `bound_flux` matrix (unit boundary datum on face `f'`)
    are the columns of the TPFA matrices `fluxT` / `boundFluxT`. -/
theorem tpfa_eq_mpfa_Korth_entries (G : C11.Grid2) (Ls : List C11.Mat)
    (hwf : G.WF) (hcert : G.certs = some Ls) (hK : KorthOK G = true) (f : Nat) (hf : f < G.numFaces) :
    (∀ c < G.numCells, entry (fluxT (ofGrid2 G)) f c
        = G.faceFlux (G.nodeSols Ls (C11.Grid2.unit G.numCells c) []) [] f) ∧
    (∀ f' < G.numFaces, entry (boundFluxT (ofGrid2 G)) f f'
        = G.faceFlux (G.nodeSols Ls [] (C11.Grid2.unit G.numFaces f')) (C11.Grid2.unit G.numFaces f') f) := by
  constructor
  · intro c hc
    rw [← tpfa_eq_mpfa_Korth G Ls _ _ hwf hcert hK f hf]
    unfold faceFlux
    have h1 : (fun c' => (C11.Grid2.unit G.numCells c).getD c' 0) = fun j => if j = c then 1 else 0 := by
      funext j; exact C11.Grid2.getD_unit _ _ j hc
    have h2 : (fun f' : Nat => ([] : List Rat).getD f' 0) = fun _ => 0 := by funext j; simp
    rw [h1, h2, rowApply_indicator, rowApply_zero]; ring
  · intro f' hf'
    rw [← tpfa_eq_mpfa_Korth G Ls _ _ hwf hcert hK f hf]
    unfold faceFlux
    have h1 : (fun j => (C11.Grid2.unit G.numFaces f').getD j 0) = fun j => if j = f' then 1 else 0 := by
      funext j; exact C11.Grid2.getD_unit _ _ j hf'
    have h2 : (fun c : Nat => ([] : List Rat).getD c 0) = fun _ => 0 := by funext j; simp
    rw [h1, h2, rowApply_indicator, rowApply_zero]; ring

/-! ### non-vacuity: the hypotheses are satisfiable on concrete grids, and the conclusions are the numbers
the real code produces there -/

/-- 1-D grid, nodes 0, 1, 3; constant `K = diag(2,1,1)`; face 0 Dirichlet, face 2 Neumann. -/
def ex1 : Grid where
  nf := 3
  nc := 2
  hf := [⟨0, 0, -1⟩, ⟨1, 0, 1⟩, ⟨1, 1, -1⟩, ⟨2, 1, 1⟩]
  normal := fun _ => ⟨1, 0, 0⟩
  fc := fun f => match f with
    | 0 => ⟨0, 0, 0⟩
    | 1 => ⟨1, 0, 0⟩
    | _ => ⟨3, 0, 0⟩
  cc := fun c => match c with
    | 0 => ⟨1 / 2, 0, 0⟩
    | _ => ⟨2, 0, 0⟩
  perm := fun _ => ⟨⟨2, 0, 0⟩, ⟨0, 1, 0⟩, ⟨0, 0, 1⟩⟩
  bndr := [0, 2]
  isDir := fun f => f == 0
  isNeu := fun f => f == 2
  isInt := fun _ => false

def exK : M3 := ⟨⟨2, 0, 0⟩, ⟨0, 1, 0⟩, ⟨0, 0, 1⟩⟩
def exG : V3 := ⟨3, 5, 7⟩
/-- affine pressure `1 + G.x` at the cell centres of `ex1` -/
def exP : Nat → Rat := fun c => 1 + exG.dot (ex1.cc c)

theorem exK_symm : exK.Symm := ⟨rfl, rfl, rfl⟩

theorem ex1_hf1 : hfOf ex1 1 = [⟨1, 0, 1⟩, ⟨1, 1, -1⟩] := by decide +kernel

/-- 2 x 1 Cartesian grid in the plane, cell-wise diagonal `K`; faces 0 and 6 Dirichlet, the rest Neumann. -/
def ex2 : Grid where
  nf := 7
  nc := 2
  hf := [⟨0, 0, -1⟩, ⟨1, 0, 1⟩, ⟨3, 0, -1⟩, ⟨5, 0, 1⟩, ⟨1, 1, -1⟩, ⟨2, 1, 1⟩, ⟨4, 1, -1⟩, ⟨6, 1, 1⟩]
  normal := fun f => if f < 3 then ⟨1, 0, 0⟩ else ⟨0, 1, 0⟩
  fc := fun f => match f with
    | 0 => ⟨0, 1 / 2, 0⟩
    | 1 => ⟨1, 1 / 2, 0⟩
    | 2 => ⟨2, 1 / 2, 0⟩
    | 3 => ⟨1 / 2, 0, 0⟩
    | 4 => ⟨3 / 2, 0, 0⟩
    | 5 => ⟨1 / 2, 1, 0⟩
    | _ => ⟨3 / 2, 1, 0⟩
  cc := fun c => match c with
    | 0 => ⟨1 / 2, 1 / 2, 0⟩
    | _ => ⟨3 / 2, 1 / 2, 0⟩
  perm := fun c => match c with
    | 0 => ⟨⟨1, 0, 0⟩, ⟨0, 2, 0⟩, ⟨0, 0, 1⟩⟩
    | _ => ⟨⟨3, 0, 0⟩, ⟨0, 1, 0⟩, ⟨0, 0, 1⟩⟩
  bndr := [0, 2, 3, 4, 5, 6]
  isDir := fun f => f == 0 || f == 6
  isNeu := fun f => f == 2 || f == 3 || f == 4 || f == 5
  isInt := fun _ => false

theorem ex2_wf : WellFormed ex2 := by unfold WellFormed; decide +kernel

theorem ex2_bndOK : bndOK ex2 = true := by decide +kernel

theorem ex2_cart : cartLike ex2 = true := by decide +kernel

theorem ex2_hint : ∀ f, f ∉ ex2.bndr → bsgn ex2 f = 0 :=
  bsgn_interior ex2 ex2_wf ex2_bndOK

/-- the Dirichlet faces of `ex2` are 0 and 6 … -/
theorem ex2_dir (f : Nat) (hd : dirEff ex2 f = true) : (f == 0 || f == 6) = true := by
  simpa only [dirEff, ex2, Bool.not_false, Bool.and_true] using hd

/-- … and they are not Neumann faces -/
theorem ex2_neu (f : Nat) (hn : neuAll ex2 f = true) : ¬ (f == 0 || f == 6) = true := by
  simp only [neuAll, ex2, Bool.or_false, Bool.or_eq_true, beq_iff_eq] at hn ⊢
  omega

-- the matrices of `ex1` (what `pp.Tpfa` stores for this grid): t = 4 on face 0, 4/3 on face 1, 0 on face 2
example : fluxT ex1 = [(0, 0, -4), (1, 0, 4 / 3), (1, 1, -4 / 3), (2, 1, 0)] := by decide +kernel
example : boundFluxT ex1 = [(0, 0, 4), (2, 2, 1)] := by decide +kernel
example : bpFaceT ex1 = [(0, 0, 1), (2, 2, -1 / 2)] := by decide +kernel

example : cellOp ex1 0 1 = -4 / 3 ∧ cellOp ex1 1 0 = -4 / 3 := by decide +kernel

example : rowApply (fluxT ex1) 1 exP = 1 * trans ex1 1 * (exP 0 - exP 1) :=
  (tpfa_single_valued_interior ex1 1 ⟨1, 0, 1⟩ ⟨1, 1, -1⟩ exP ex1_hf1 (by decide +kernel)).1

example : sumTo 2 (fun c => divApply ex2.hf c (fun f => (f : Rat) + 1))
    = sumTo 7 (fun f => if f ∈ ex2.bndr then bsgn ex2 f * ((f : Rat) + 1) else 0) :=
  tpfa_conservative ex2 _ (by decide +kernel) ex2_hint

/-- constant pressure 5 on `ex2` with Dirichlet data 5 and Neumann data 0: zero flux on all 7 faces -/
example : ∀ f, faceFlux ex2 f (fun _ => 5) (fun f => if f == 0 || f == 6 then 5 else 0) = 0 :=
  tpfa_const_zero_flux ex2 5 _ (by decide +kernel) ex2_hint (by decide +kernel)
    (fun f _ hd => if_pos (ex2_dir f hd)) (fun f hn => if_neg (ex2_neu f hn))

example : WellFormed ex2 := ex2_wf
example : ∀ h ∈ ex2.hf, 0 < tHalf ex2 h := cartLike_pos ex2 ex2_cart

/-- the M-matrix conclusions on `ex2`: A = [[7/2, -3/2], [-3/2, 7/2]] -/
example : cellOp ex2 0 1 ≤ 0 ∧ 0 < cellOp ex2 0 0 ∧
    sumTo 2 (fun c2 => if c2 = 0 then 0 else - cellOp ex2 0 c2) ≤ cellOp ex2 0 0 :=
  have h := tpfa_Mmatrix ex2 ex2_wf (cartLike_pos ex2 ex2_cart)
  ⟨h.1 0 1 (by decide), h.2.2.1 0 ⟨⟨0, 0, -1⟩, by decide +kernel, rfl, by decide +kernel⟩, h.2.2.2 0 (by decide)⟩
example : cellOp ex2 0 0 = 7 / 2 ∧ cellOp ex2 0 1 = -3 / 2 ∧ cellOp ex2 1 1 = 7 / 2 := by decide +kernel

/-- hydrostatic pressure `1 + G.x` on `ex2` (a grid in the xy-plane, `vsd = 2`) with vector source `G`:
    zero flux on all 7 faces -/
example : ∀ f, faceFlux ex2 f (fun c => 1 + exG.dot (ex2.cc c))
      (fun f => if f == 0 || f == 6 then 1 + exG.dot (ex2.fc f) else 0)
    + rowApply (vecSrcT ex2 2) f (vsVec 2 exG) = 0 :=
  tpfa_hydrostatic_zero_flux ex2 2 1 exG _ _ (by decide) (by decide) (by decide +kernel) (by decide +kernel)
    ex2_hint (by decide +kernel) (fun _ => rfl)
    (fun f _ hd => if_pos (ex2_dir f hd)) (fun f hn => if_neg (ex2_neu f hn))

/-- … and the reconstructed pressure on the Neumann face 2 of `ex2` is `1 + G.x_f = 1 + 6 + 5/2` -/
example : facePressure ex2 2 (fun c => 1 + exG.dot (ex2.cc c)) (fun _ => 0)
    + rowApply (bpVecSrcT ex2 2) 2 (vsVec 2 exG) = 19 / 2 := by
  have h := tpfa_hydrostatic_bound_pressure ex2 2 2 ⟨2, 1, 1⟩ 1 exG (fun c => 1 + exG.dot (ex2.cc c)) (fun _ => 0)
    (by decide) (by decide) (by decide +kernel) (by decide +kernel) (by decide) (by decide +kernel) rfl rfl
  rw [h]; decide +kernel

/-- a K-orthogonal C11 grid: two rectangles (1 x 1 and 2 x 1) side by side, cell-wise diagonal tensors,
    Dirichlet on the left, bottom-right and top-right faces, Neumann elsewhere -/
def exGrid2 : C11.Grid2 :=
  { nodes := [[0, 0], [1, 0], [3, 0], [0, 1], [1, 1], [3, 1]],
    faceNodes := [[0, 3], [1, 4], [2, 5], [0, 1], [1, 2], [3, 4], [4, 5]],
    faceCells := [[(0, -1)], [(0, 1), (1, -1)], [(1, 1)], [(0, -1)], [(1, -1)], [(0, 1)], [(1, 1)]],
    cellCenters := [[1 / 2, 1 / 2], [2, 1 / 2]],
    faceCenters := [[0, 1 / 2], [1, 1 / 2], [3, 1 / 2], [1 / 2, 0], [2, 0], [1 / 2, 1], [2, 1]],
    faceNormals := [[1, 0], [1, 0], [1, 0], [0, 1], [0, 2], [0, 1], [0, 2]],
    perm := [[[2, 0], [0, 3]], [[5, 0], [0, 1]]],
    isDir := [true, false, false, false, true, false, true],
    eta := 0 }

/-- the hypotheses of `tpfa_eq_mpfa_Korth` are satisfiable: `exGrid2` is well-formed, all six interaction
    regions are certified, and it is K-orthogonal -/
theorem exGrid2_ok : exGrid2.WF ∧ (exGrid2.certs).isSome = true ∧ KorthOK exGrid2 = true := by decide +kernel

example : exGrid2.WF ∧ (exGrid2.certs).isSome = true ∧ KorthOK exGrid2 = true := exGrid2_ok

/-- so on `exGrid2` the fluxes of the MPFA model and of the TPFA model agree, here for some data -/
example :
    (exGrid2.certs).map (fun Ls => (exGrid2.apply Ls [3, -1] [2, 0, 5, 7, 1, 0, 4]).1)
      = some ((List.range 7).map (fun f =>
          faceFlux (ofGrid2 exGrid2) f (fun c => [3, -1].getD c 0) (fun f => [2, 0, 5, 7, 1, 0, 4].getD f 0))) := by
  obtain ⟨hwf, hc, hK⟩ := exGrid2_ok
  obtain ⟨Ls, hLs⟩ := Option.isSome_iff_exists.mp hc
  rw [hLs]
  exact congrArg some (List.map_congr_left fun f hf =>
    (tpfa_eq_mpfa_Korth exGrid2 Ls _ _ hwf hLs hK f (List.mem_range.mp hf)).symm)

/-- grid-level exactness on `ex1`: `bndOK`, `korthGrid` decide to true, and all three faces carry `-6` -/
example : ∀ f, f < 3 → faceFlux ex1 f exP (fun f => if f == 0 then 1 + exG.dot (ex1.fc 0) else -6) = -6 := by
  have h := tpfa_linear_exact ex1 exK 1 exG exP (fun f => if f == 0 then 1 + exG.dot (ex1.fc 0) else -6)
    (by unfold WellFormed; decide +kernel) (by decide +kernel) (by decide +kernel)
    exK_symm (fun _ => rfl) (by decide +kernel) (by decide +kernel)
  intro f hf
  rw [h f hf]
  show -(V3.dot ⟨1, 0, 0⟩ (exK.mulVec exG)) = -6
  decide +kernel

/-- `ex2` is `cartLike` with consistent boundary bookkeeping: M-matrix and zero flux for constants from
    decidable hypotheses only -/
example : cartLike ex2 = true ∧ bndOK ex2 = true := ⟨ex2_cart, ex2_bndOK⟩
example : cellOp ex2 0 1 ≤ 0 :=
  (tpfa_Mmatrix_cartesian ex2 ex2_wf ex2_cart).1 0 1 (by decide)
example : ∀ f, faceFlux ex2 f (fun _ => 5) (fun f => if f == 0 || f == 6 then 5 else 0) = 0 :=
  tpfa_const_zero_flux_wf ex2 5 _ ex2_wf ex2_bndOK
    (fun f _ hd => if_pos (ex2_dir f hd)) (fun f hn => if_neg (ex2_neu f hn))

/-- half-face (face 1, cell 0) of `ex2`: `K = diag(1,2,1)`, outward normal `(1,0,0) = 2 d` -/
example : 0 < tHalf ex2 ⟨1, 0, 1⟩ :=
  tpfa_thalf_pos_diagK ex2 ⟨1, 0, 1⟩ 1 2 1 2 rfl (by decide) (by decide) (by decide) (by decide +kernel)
    (by decide) (by decide +kernel)

/-- exactness on `ex1` (K-orthogonal with `λ = 4, 2`): interior face 1 carries the exact flux `-n.KG = -6` -/
example : rowApply (fluxT ex1) 1 exP = -6 := by
  have h := tpfa_exact_Korth ex1 1 ⟨1, 0, 1⟩ ⟨1, 1, -1⟩ exK 4 2 1 exG exP
    ex1_hf1 (by decide +kernel) (by decide +kernel) (by decide +kernel) rfl rfl
    exK_symm
    (by decide +kernel) (by decide +kernel) (by decide +kernel) (by decide +kernel)
    (by decide +kernel) (by decide +kernel) (by decide +kernel) rfl rfl
  rw [h]; decide +kernel

/-- Dirichlet face 0 of `ex1` with the affine boundary value: exact flux -6 -/
example : faceFlux ex1 0 exP (fun f => 1 + exG.dot (ex1.fc f)) = -6 := by
  have h := tpfa_exact_Korth_dirichlet ex1 0 ⟨0, 0, -1⟩ exK 4 1 exG exP (fun f => 1 + exG.dot (ex1.fc f))
    (by decide +kernel) (by decide +kernel) (by decide +kernel) (by decide +kernel) (by decide +kernel)
    (by decide +kernel) rfl exK_symm (by decide +kernel) (by decide +kernel) rfl rfl
  rw [h]; decide +kernel

/-- Neumann face 2 of `ex1` with outward flux datum `+1 * (-6)` -/
example : faceFlux ex1 2 exP (fun _ => -6) = -6 :=
  tpfa_exact_neumann ex1 2 ⟨2, 1, 1⟩ (-6) exP _ (by decide +kernel) (by decide +kernel) (by decide +kernel)
    (by decide +kernel) (by decide +kernel) (by decide +kernel)

/-- boundary pressure on the Neumann face 2 of `ex1`: `p(x_f) = 1 + 3*3 = 10` -/
example : facePressure ex1 2 exP (fun _ => -6) = 10 := by
  have h := tpfa_bound_pressure_exact_Korth ex1 2 ⟨2, 1, 1⟩ exK 2 1 exG exP (fun _ => -6)
    (by decide +kernel) (by decide) (by decide +kernel) rfl exK_symm
    (by decide +kernel) (by decide +kernel) (by decide +kernel) rfl (by decide +kernel)
  rw [h]; decide +kernel

example : facePressure ex1 0 exP (fun _ => 42) = 42 :=
  tpfa_bound_pressure_dirichlet ex1 0 exP _ (by decide) (by decide +kernel) (by decide +kernel)

end PorepyVerif.C12
