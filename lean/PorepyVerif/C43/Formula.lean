/-
C43 — derived-unit formulas: positive for positive scalings, and a coefficient times a monomial of
the base units.
-/
import PorepyVerif.C43.Model
import PorepyVerif.C43.RatPow

namespace PorepyVerif.C43

theorem eval_pos (u : Units) (hu : u.Pos) (e : UExpr) (he : e.constsPos = true) : 0 < e.eval u := by
  induction e with
  | base b => exact hu b
  | const q => simpa [UExpr.constsPos, UExpr.eval] using he
  | mul a b iha ihb =>
    simp only [UExpr.constsPos, Bool.and_eq_true] at he
    exact Rat.mul_pos (iha he.1) (ihb he.2)
  | div a b iha ihb =>
    simp only [UExpr.constsPos, Bool.and_eq_true] at he
    exact rat_div_pos (iha he.1) (ihb he.2)
  | pow a n iha =>
    simp only [UExpr.constsPos] at he
    exact Rat.zpow_pos (iha he)

theorem Units.Pos.ne {u : Units} (hu : u.Pos) (b : Base) : u.get b ≠ 0 := Rat.ne_of_gt (hu b)

theorem monomial_zero (u : Units) : monomial u (fun _ => 0) = 1 := by
  simp [monomial]

theorem monomial_single (u : Units) (b : Base) :
    monomial u (fun c => if b = c then 1 else 0) = u.get b := by
  cases b <;> simp [monomial, Units.get]

theorem monomial_add (u : Units) (hu : u.Pos) (d e : Base → Int) :
    monomial u (fun b => d b + e b) = monomial u d * monomial u e := by
  simp only [monomial]
  rw [Rat.zpow_add (q := u.m) (hu.ne .m), Rat.zpow_add (q := u.s) (hu.ne .s),
    Rat.zpow_add (q := u.kg) (hu.ne .kg), Rat.zpow_add (q := u.K) (hu.ne .K),
    Rat.zpow_add (q := u.mol) (hu.ne .mol), Rat.zpow_add (q := u.rad) (hu.ne .rad)]
  exact mul_mul_step (mul_mul_step (mul_mul_step (mul_mul_step (mul_mul_step rfl _ _) _ _) _ _) _ _) _ _

theorem monomial_neg (u : Units) (d : Base → Int) :
    monomial u (fun b => - d b) = (monomial u d)⁻¹ := by
  simp only [monomial, Rat.zpow_neg, rat_mul_inv]

theorem monomial_sub (u : Units) (hu : u.Pos) (d e : Base → Int) :
    monomial u (fun b => d b - e b) = monomial u d / monomial u e := by
  have h : (fun b => d b - e b) = (fun b => d b + (fun c => - e c) b) := by
    funext b; exact Int.sub_eq_add_neg
  rw [h, monomial_add u hu, monomial_neg, Rat.div_def]

theorem monomial_zpow (u : Units) (hu : u.Pos) (d : Base → Int) (n : Int) :
    (monomial u d) ^ n = monomial u (fun b => n * d b) := by
  simp only [monomial, rat_mul_zpow, rat_zpow_mul (a := u.m) (hu.ne .m),
    rat_zpow_mul (a := u.s) (hu.ne .s), rat_zpow_mul (a := u.kg) (hu.ne .kg),
    rat_zpow_mul (a := u.K) (hu.ne .K), rat_zpow_mul (a := u.mol) (hu.ne .mol),
    rat_zpow_mul (a := u.rad) (hu.ne .rad), Int.mul_comm n]

theorem get_one (b : Base) : Units.one.get b = 1 := by cases b <;> rfl

/-- `eval e u = coeff e · Π_b u_b ^ dim_b e` -/
theorem eval_eq_coeff_mul_monomial (u : Units) (hu : u.Pos) (e : UExpr) :
    e.eval u = e.coeff * monomial u (fun b => e.dim b) := by
  induction e with
  | base b =>
    simp only [UExpr.eval, UExpr.coeff, UExpr.dim, get_one, Rat.one_mul]
    exact (monomial_single u b).symm
  | const q => simp [UExpr.eval, UExpr.coeff, UExpr.dim, monomial_zero]
  | mul a b iha ihb =>
    simp only [UExpr.eval, UExpr.coeff, UExpr.dim] at *
    rw [monomial_add u hu, iha, ihb]
    exact mul_mul_step rfl _ _
  | div a b iha ihb =>
    simp only [UExpr.eval, UExpr.coeff, UExpr.dim] at *
    rw [monomial_sub u hu, iha, ihb, Rat.div_def, Rat.div_def, Rat.div_def, rat_mul_inv]
    exact mul_mul_step rfl _ _
  | pow a n iha =>
    simp only [UExpr.eval, UExpr.coeff, UExpr.dim] at *
    rw [iha, rat_mul_zpow, monomial_zpow u hu]

/-- `e` has coefficient `c` and exponents `d` -/
def UExpr.hasUnit (e : UExpr) (c : Rat) (d : Base → Int) : Bool :=
  e.coeff == c && Base.all.all fun b => e.dim b == d b

theorem eval_of_hasUnit (u : Units) (hu : u.Pos) (e : UExpr) (c : Rat) (d : Base → Int)
    (h : e.hasUnit c d = true) : e.eval u = c * monomial u d := by
  simp only [UExpr.hasUnit, Bool.and_eq_true, beq_iff_eq, List.all_eq_true] at h
  have hd : (fun b => e.dim b) = d := funext fun b => h.2 b (by cases b <;> decide)
  rw [eval_eq_coeff_mul_monomial u hu, h.1, hd]

/-- formulas with the same coefficient and the same exponents have the same value -/
theorem eval_congr (u : Units) (hu : u.Pos) (a b : UExpr)
    (h : a.hasUnit b.coeff (fun c => b.dim c) = true) : a.eval u = b.eval u :=
  (eval_of_hasUnit u hu a _ _ h).trans (eval_eq_coeff_mul_monomial u hu b).symm

end PorepyVerif.C43
