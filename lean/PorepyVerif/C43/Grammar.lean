/-
C43 — the string functions of the unit grammar: `split`, `replace(" ", "")`, the dimensionless forms,
and the token list of a unit string.
-/
import PorepyVerif.C43.Model

namespace PorepyVerif.C43

/-- The characters of a string literal: `"ab" = String.ofList ['a', 'b']` holds by `rfl` at no cost,
    whereas evaluating `String.toList` (decoding UTF-8 bytes) is slow, in the kernel above all. -/
theorem toList_lit {s : String} {l : Str} (h : s = String.ofList l) : s.toList = l :=
  h ▸ String.toList_ofList

theorem splitOn_ne_nil (c : Char) (s : Str) : splitOn c s ≠ [] := by
  induction s with
  | nil => simp [splitOn]
  | cons x xs ih =>
    simp only [splitOn]
    split
    · simp
    · split <;> simp

theorem splitOn_append (c : Char) (a b : Str) :
    splitOn c (a ++ c :: b) = splitOn c a ++ splitOn c b := by
  induction a with
  | nil => simp [splitOn]
  | cons x xs ih =>
    simp only [List.cons_append, splitOn]
    split
    · simp [ih]
    · rw [ih]
      cases h : splitOn c xs with
      | nil => exact absurd h (splitOn_ne_nil c xs)
      | cons t ts => simp

theorem splitOn_of_not_mem (c : Char) (s : Str) (h : c ∉ s) : splitOn c s = [s] := by
  induction s with
  | nil => rfl
  | cons x xs ih =>
    have hx : x ≠ c := fun e => h (by rw [e]; exact List.mem_cons_self)
    have hxs : c ∉ xs := fun e => h (List.mem_cons_of_mem _ e)
    simp only [splitOn, if_neg hx, ih hxs]

theorem splitOn_two {c : Char} {a b : Str} (ha : c ∉ a) (hb : c ∉ b) : splitOn c (a ++ c :: b) = [a, b] := by
  rw [splitOn_append, splitOn_of_not_mem c a ha, splitOn_of_not_mem c b hb]
  rfl

theorem stripSpaces_append (a b : Str) : stripSpaces (a ++ b) = stripSpaces a ++ stripSpaces b := by
  simp [stripSpaces]

theorem stripSpaces_star (a b : Str) :
    stripSpaces (a ++ '*' :: b) = stripSpaces a ++ '*' :: stripSpaces b := by
  simp [stripSpaces]

theorem not_dimless_of_star (a b : Str) : isDimless (a ++ '*' :: b) = false := by
  cases a with
  | nil => simp [isDimless]
  | cons x xs =>
    cases xs with
    | nil =>
      simp only [isDimless, List.cons_append, List.nil_append]
      simp
    | cons y ys =>
      simp [isDimless]

/-- the factors of a unit string; the dimensionless forms `""`, `"1"`, `"-"` have none -/
def strToks (s : Str) : List Str :=
  if isDimless (stripSpaces s) then [] else splitOn '*' (stripSpaces s)

theorem strToks_star (a b : Str) (ha : isDimless (stripSpaces a) = false)
    (hb : isDimless (stripSpaces b) = false) : strToks (a ++ '*' :: b) = strToks a ++ strToks b := by
  simp only [strToks, stripSpaces_star, not_dimless_of_star, ha, hb, splitOn_append]
  rfl

end PorepyVerif.C43
