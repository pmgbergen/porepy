/-
C43 — property theorems.  "Converting any value to simulation units and back returns it, converting
with a composed unit string equals composing the conversions, derived units agree with their
base-unit expressions, and material constants converted to any unit system convert back to their SI
values.  A flow model run with scaled length and mass units gives the same SI solution as the
unscaled run."

The statements are about the model of `Model.lean` (generic in the table of derived units) and about
`Generated.lean`, which the translator rewrites from the python sources on every run: the theorems
that mention `Gen.*` are re-checked against what `units.py` / `materials.py` say NOW.

Integer exponents only: `convertStr … = .ok _` implies that every exponent string denotes an
integer (non-integer exponents answer `Err.fractional` in the model; they are compared with the
real code numerically in the correspondence check only).  Rounding is outside every theorem.
-/
import PorepyVerif.C43.Lemmas
import PorepyVerif.C43.Generated

namespace PorepyVerif.C43

/-- Converting to simulation units and back (and the other way round) is the identity, for every
    environment of derived units with positive literals, every positive scaling, every unit string
    the grammar accepts and every value. -/
theorem convert_roundtrip (env : Env) (henv : env.constsPos = true) (u : Units) (hu : u.Pos)
    (toSi : Bool) (s : Str) (v w : Rat) (h : convertStr env u toSi s v = .ok w) :
    convertStr env u (!toSi) s w = .ok v := by
  obtain ⟨c, hc, h1, h2⟩ := convertStr_linear env henv u hu toSi s v w h
  rw [h1] at h
  cases h
  rw [h2]
  exact congrArg _ (Rat.mul_div_cancel (Rat.ne_of_gt hc))

/-- … and the conversion never fails in one direction only. -/
theorem convert_succeeds_both_ways (env : Env) (u : Units) (toSi : Bool) (s : Str) (v w x : Rat)
    (h : convertStr env u toSi s v = .ok w) : ∃ y, convertStr env u (!toSi) s x = .ok y :=
  convertStr_ok_indep env u u toSi (!toSi) s v w x h

/-- instance for the units of the current source -/
theorem convert_roundtrip_gen (u : Units) (hu : u.Pos) (toSi : Bool) (s : Str) (v w : Rat)
    (h : convertStr Gen.env u toSi s v = .ok w) : convertStr Gen.env u (!toSi) s w = .ok v :=
  convert_roundtrip Gen.env Gen.env_constsPos u hu toSi s v w h

def uEx : Units := ⟨4, 1, 1 / 8, 2, 1, 3⟩
theorem uEx_pos : uEx.Pos := by intro b; cases b <;> decide +kernel

-- non-vacuity: 7 Pa·m⁻¹ in units m = 4, kg = 1/8 (spaces, derived unit, signed power)
example : isOkEq (convertStr Gen.env uEx false "Pa * m^-1".toList 7) 896 = true := by
  rw [toList_lit (s := "Pa * m^-1") rfl]; decide +kernel
example : isOkEq (convertStr Gen.env uEx true "Pa * m^-1".toList 896) 7 = true := by
  rw [toList_lit (s := "Pa * m^-1") rfl]; decide +kernel

/-- Converting with the composed unit string `a*b` is converting with `a`, then with `b` (errors:
    the first failing factor decides, as in the loop of the real code).  `a`, `b` must not be one of
    the whole-string dimensionless forms `""`, `"1"`, `"-"`: as coded, these are recognised only as
    the complete string, `"1*m"` is an `AttributeError`. -/
theorem convert_compose (env : Env) (u : Units) (toSi : Bool) (a b : Str) (v : Rat)
    (ha : isDimless (stripSpaces a) = false) (hb : isDimless (stripSpaces b) = false) :
    convertStr env u toSi (a ++ '*' :: b) v =
      (convertStr env u toSi a v >>= fun w => convertStr env u toSi b w) := by
  simp only [convertStr_toks, strToks_star a b ha hb]
  exact convertToks_append env u toSi _ _ v

example : convertStr Gen.env uEx false ("Pa".toList ++ '*' :: "m^-1".toList) 7
    = (convertStr Gen.env uEx false "Pa".toList 7 >>= fun w => convertStr Gen.env uEx false "m^-1".toList w) :=
  convert_compose _ _ _ _ _ _ (by decide +kernel) (by decide +kernel)

/-- Exponent addition: the factors `sym^p`, `sym^q` together act as `sym^(p+q)` (integer exponents
    written in any way `float()` accepts, `sym` a base or derived unit of positive value). -/
theorem convert_exponent_add (env : Env) (u : Units) (toSi : Bool) (sym p q r : Str) (x ep eq er : Rat)
    (v : Rat) (hsym : '^' ∉ sym) (hp : '^' ∉ p) (hq : '^' ∉ q) (hr : '^' ∉ r)
    (hx : env.attr u sym = some (.num x)) (hx0 : 0 < x)
    (hep : parseFloat p = some ep) (heq : parseFloat q = some eq) (her : parseFloat r = some er)
    (hpi : ep.den = 1) (hqi : eq.den = 1) (hri : er.den = 1) (hsum : er.num = ep.num + eq.num) :
    convertToks env u toSi [sym ++ '^' :: p, sym ++ '^' :: q] v
      = convertToks env u toSi [sym ++ '^' :: r] v := by
  have key : ∀ (w : Str) (e : Rat), '^' ∉ w → parseFloat w = some e → e.den = 1 →
      factorOf env u (sym ++ '^' :: w) = .ok (x ^ e.num) := fun w e hw he hd =>
    factorOf_pow env u _ sym w x e (by simp) (splitOn_two hsym hw) hx he hd
  simp only [convertToks, key p ep hp hep hpi, key q eq hq heq hqi, key r er hr her hri]
  rw [scale_twice, hsum, Rat.zpow_add (Rat.ne_of_gt hx0)]

example (v : Rat) : convertToks Gen.env uEx false ["m^2".toList, "m^-3.0".toList] v
    = convertToks Gen.env uEx false ["m^-1e0".toList] v := by
  rw [toList_lit (s := "m^2") rfl, toList_lit (s := "m^-3.0") rfl, toList_lit (s := "m^-1e0") rfl]
  exact convert_exponent_add Gen.env uEx false ['m'] ['2'] ['-', '3', '.', '0'] ['-', '1', 'e', '0']
    4 2 (-3) (-1) v (by decide) (by decide) (by decide) (by decide) rfl (by decide +kernel)
    (by decide +kernel) (by decide +kernel) (by decide +kernel) (by decide +kernel) (by decide +kernel)
    (by decide +kernel) (by decide +kernel)

/-- A unit string (a literal, given with its characters, see `toList_lit`) whose formula has the
    coefficient and the exponents of `e` converts as `e` does. -/
theorem convertStr_of_expr (env : Env) (u : Units) (hu : u.Pos) (toSi : Bool) {s : String} {l : Str}
    (hs : s = String.ofList l) (v : Rat) (e : UExpr)
    (h : (match strExpr env l with
      | .ok a => a.hasUnit e.coeff (fun c => e.dim c)
      | .error _ => false) = true) :
    convertStr env u toSi s.toList v = .ok (e.scale u toSi v) := by
  rw [toList_lit hs]
  cases ha : strExpr env l with
  | error _ => rw [ha] at h; cases h
  | ok a =>
    rw [ha] at h
    rw [convertStr_of_strExpr ha]
    unfold UExpr.scale
    rw [eval_congr u hu a e h]

/-- Derived units agree with their base-unit expressions: the formulas that units.py states NOW
    satisfy N = kg·m/s², Pa = N/m², J = N·m, W = J/s, each is the monomial in the base units with the
    SI exponents, and `convert_units` with the derived symbol equals `convert_units` with the
    expanded base-unit string (both directions, every value). -/
theorem derived_consistent (u : Units) (hu : u.Pos) :
    (Gen.N u = u.kg * u.m / u.s ^ 2 ∧ Gen.Pa u = Gen.N u / u.m ^ 2 ∧ Gen.J u = Gen.N u * u.m
      ∧ Gen.W u = Gen.J u / u.s) ∧
    (Gen.Pa u = monomial u (fun b => match b with | .kg => 1 | .m => -1 | .s => -2 | _ => 0) ∧
     Gen.J u = monomial u (fun b => match b with | .kg => 1 | .m => 2 | .s => -2 | _ => 0) ∧
     Gen.N u = monomial u (fun b => match b with | .kg => 1 | .m => 1 | .s => -2 | _ => 0) ∧
     Gen.W u = monomial u (fun b => match b with | .kg => 1 | .m => 2 | .s => -3 | _ => 0)) ∧
    (∀ (toSi : Bool) (v : Rat),
      convertStr Gen.env u toSi "Pa".toList v = convertStr Gen.env u toSi "kg * m^-1 * s^-2".toList v ∧
      convertStr Gen.env u toSi "J".toList v = convertStr Gen.env u toSi "kg * m^2 * s^-2".toList v ∧
      convertStr Gen.env u toSi "N".toList v = convertStr Gen.env u toSi "kg * m * s^-2".toList v ∧
      convertStr Gen.env u toSi "W".toList v = convertStr Gen.env u toSi "kg * m^2 * s^-3".toList v) := by
  refine ⟨⟨rfl, ?_, ?_, ?_⟩, ⟨?_, ?_, ?_, ?_⟩, fun toSi v => ⟨?_, ?_, ?_, ?_⟩⟩
  · exact eval_congr u hu Gen.PaExpr (.div Gen.NExpr (.pow (.base .m) 2)) (by decide +kernel)
  · exact eval_congr u hu Gen.JExpr (.mul Gen.NExpr (.base .m)) (by decide +kernel)
  · exact eval_congr u hu Gen.WExpr (.div Gen.JExpr (.base .s)) (by decide +kernel)
  · exact (eval_of_hasUnit u hu Gen.PaExpr 1 _ (by decide +kernel)).trans (Rat.one_mul _)
  · exact (eval_of_hasUnit u hu Gen.JExpr 1 _ (by decide +kernel)).trans (Rat.one_mul _)
  · exact (eval_of_hasUnit u hu Gen.NExpr 1 _ (by decide +kernel)).trans (Rat.one_mul _)
  · exact (eval_of_hasUnit u hu Gen.WExpr 1 _ (by decide +kernel)).trans (Rat.one_mul _)
  · exact (convertStr_of_expr Gen.env u hu toSi rfl v Gen.PaExpr (by decide +kernel)).trans
      (convertStr_of_expr Gen.env u hu toSi rfl v Gen.PaExpr (by decide +kernel)).symm
  · exact (convertStr_of_expr Gen.env u hu toSi rfl v Gen.JExpr (by decide +kernel)).trans
      (convertStr_of_expr Gen.env u hu toSi rfl v Gen.JExpr (by decide +kernel)).symm
  · exact (convertStr_of_expr Gen.env u hu toSi rfl v Gen.NExpr (by decide +kernel)).trans
      (convertStr_of_expr Gen.env u hu toSi rfl v Gen.NExpr (by decide +kernel)).symm
  · exact (convertStr_of_expr Gen.env u hu toSi rfl v Gen.WExpr (by decide +kernel)).trans
      (convertStr_of_expr Gen.env u hu toSi rfl v Gen.WExpr (by decide +kernel)).symm

example : Gen.Pa uEx = 1 / 32 ∧ Gen.N uEx = 1 / 2 ∧ Gen.J uEx = 2 ∧ Gen.W uEx = 2 := by decide +kernel

/-- Every derived unit the source declares (whatever its name) is a positive coefficient times the
    monomial of the base units given by its exponents, and is positive. -/
theorem derived_monomial (u : Units) (hu : u.Pos) (n : Str) (e : UExpr) (h : (n, e) ∈ Gen.env.derived) :
    e.eval u = e.coeff * monomial u (fun b => e.dim b) ∧ 0 < e.eval u ∧ 0 < e.coeff := by
  have hc : e.constsPos = true := List.all_eq_true.mp Gen.env_constsPos (n, e) h
  exact ⟨eval_eq_coeff_mul_monomial u hu e, eval_pos u hu e hc,
    eval_pos Units.one (fun b => by rw [get_one]; decide) e hc⟩

example : (['d', 'e', 'g', 'r', 'e', 'e'], Gen.degreeExpr) ∈ Gen.env.derived := by simp [Gen.env]

/-- `degree`.  Every attribute of `Units` is the size of the simulation unit expressed in the unit
    the attribute is named after (`m` = length unit in metres, `Pa` = pressure unit in pascal), so
    `degree` = the simulation ANGLE unit expressed in degrees = `rad · 180/π` (1 rad = 180/π degrees),
    and `convert_units(x, "degree")` takes a value given in degrees.  Consistency with the base unit:
    an angle of `x` rad, written in degrees (`x·180/π`), converts to the same simulation value as
    `x` converted with `"rad"` — in particular 180 degrees and π rad agree. -/
theorem degree_agrees_with_rad (u : Units) (hu : u.Pos) (x : Rat) :
    Gen.degree u = u.rad * 180 / Gen.pi64 ∧
    convertStr Gen.env u false "degree".toList (x * 180 / Gen.pi64)
      = convertStr Gen.env u false "rad".toList x ∧
    convertStr Gen.env u true "degree".toList x
      = (convertStr Gen.env u true "rad".toList x).map (fun y => y * 180 / Gen.pi64) := by
  have hk : 180 * Gen.pi64⁻¹ ≠ 0 := by decide +kernel
  have hdeg := fun toSi v =>
    convertStr_of_expr Gen.env u hu toSi (s := "degree") rfl v Gen.degreeExpr (by decide +kernel)
  have hrad := fun toSi v =>
    convertStr_of_expr Gen.env u hu toSi (s := "rad") rfl v (.base .rad) (by decide +kernel)
  refine ⟨rfl, ?_, ?_⟩
  · rw [hdeg, hrad]
    show Except.ok (x * 180 / Gen.pi64 / (u.rad * 180 / Gen.pi64)) = .ok (x / u.rad)
    -- with k = 180/π: (x·k)/(rad·k) = (x/rad)·(k/k)
    rw [Rat.div_def, Rat.div_def, Rat.div_def, Rat.div_def, Rat.mul_assoc x, Rat.mul_assoc u.rad,
      rat_mul_inv, mul_mul_step rfl, Rat.mul_inv_cancel _ hk, Rat.mul_one]
  · rw [hdeg, hrad]
    show Except.ok (x * (u.rad * 180 / Gen.pi64)) = .ok (x * u.rad * 180 / Gen.pi64)
    simp only [Rat.div_def, Rat.mul_assoc]

/-- an object that could be constructed can be converted to any unit system: the loop of
    `__post_init__` succeeds there as well, on the same SI values -/
theorem toUnits_of_new (env : Env) (cls : ConstClass) (u u' : Units) (kw : List (Str × Rat))
    (c : Constants) (hc : Constants.new env cls u kw = .ok c) :
    ∃ vals', convertAll env cls.table u' c.si = .ok vals' ∧
      c.toUnits env u' = .ok ⟨cls, u', c.si, vals'⟩ := by
  unfold Constants.new at hc
  split at hc
  · cases hc
  · unfold Constants.ofSI at hc
    split at hc
    · cases hc
    · next vals hv =>
      cases hc
      obtain ⟨vals', hv'⟩ := convertAll_ok_indep env cls.table u u' _ vals hv
      exact ⟨vals', hv', by simp only [Constants.toUnits, Constants.ofSI, hv']⟩

/-- Material constants constructed in any unit system `u` and converted with `to_units` to any
    positive unit system `u'`: the conversion succeeds, the SI values (`constants_in_SI`) are
    carried unchanged, and every stored value converts back (`to_si=True`, with the unit the class
    declares for it) to its SI value. -/
theorem constants_roundtrip (env : Env) (henv : env.constsPos = true) (cls : ConstClass)
    (u u' : Units) (hu' : u'.Pos) (kw : List (Str × Rat)) (c : Constants)
    (hc : Constants.new env cls u kw = .ok c) :
    ∃ c', c.toUnits env u' = .ok c' ∧ c'.si = c.si ∧ c'.units = u' ∧ c'.cls = cls ∧
      AllPairs (fun (p q : Str × Rat) => q.1 = p.1 ∧ ∃ unit, lookup p.1 cls.table = some unit ∧
        convertStr env u' true unit q.2 = .ok p.2) c.si c'.vals := by
  obtain ⟨vals', hv', ht⟩ := toUnits_of_new env cls u u' kw c hc
  refine ⟨_, ht, rfl, rfl, rfl, (convertAll_spec env cls.table u' _ vals' hv').imp ?_⟩
  intro p q ⟨h1, unit, h2, h3⟩
  exact ⟨h1, unit, h2, convert_roundtrip env henv u' hu' false unit _ _ h3⟩

/-- In a unit system in which every unit string of the class's table converts 1 to 1 (the SI system,
    but also any system that scales only units the class does not use), `to_units` stores exactly
    the SI values. -/
theorem toUnits_vals_eq_si (env : Env) (cls : ConstClass) (u u' : Units)
    (htab : ∀ p ∈ cls.table, isOkEq (convertStr env u' false p.2 1) 1 = true)
    (kw : List (Str × Rat)) (c : Constants) (hc : Constants.new env cls u kw = .ok c) :
    ∃ c', c.toUnits env u' = .ok c' ∧ c'.vals = c.si := by
  obtain ⟨vals', hv', ht⟩ := toUnits_of_new env cls u u' kw c hc
  exact ⟨_, ht, convertAll_identity env cls.table u' htab _ vals' hv'⟩

/-- For the material classes of the current source: constructing with any keywords the class
    accepts in any unit system and converting to the SI system `pp.Units()` succeeds and stores
    exactly the SI values. -/
theorem constants_back_to_si (n : Str) (cls : ConstClass) (hcls : (n, cls) ∈ Gen.classes)
    (u : Units) (kw : List (Str × Rat)) (c : Constants) (hc : Constants.new Gen.env cls u kw = .ok c) :
    ∃ c', c.toUnits Gen.env Units.one = .ok c' ∧ c'.vals = c.si := by
  have htab : (cls.table.all fun p => isOkEq (convertStr Gen.env Units.one false p.2 1) 1) = true := by
    simp only [Gen.classes, List.mem_cons, List.not_mem_nil, or_false, Prod.mk.injEq] at hcls
    rcases hcls with ⟨_, rfl⟩ | ⟨_, rfl⟩ | ⟨_, rfl⟩ | ⟨_, rfl⟩ | ⟨_, rfl⟩
    · exact Gen.FluidComponent_table_ok.2
    · exact Gen.SolidConstants_table_ok.2
    · exact Gen.FractureDamageSolidConstants_table_ok.2
    · exact Gen.NumericalConstants_table_ok.2
    · exact Gen.ReferenceVariableValues_table_ok.2
  exact toUnits_vals_eq_si Gen.env cls u Units.one (List.all_eq_true.mp htab) kw c hc

-- non-vacuity: a solid with two keywords, units m = 4, kg = 1/8
example : (match Constants.new Gen.env Gen.SolidConstants uEx
      [("permeability".toList, 3), ("shear_modulus".toList, 5)] with
    | .ok c => lookup "permeability".toList c.vals == some (3 / 16)
        && lookup "shear_modulus".toList c.vals == some 160 && lookup "porosity".toList c.vals == lookup "porosity".toList c.si
    | .error _ => false) = true := by
  rw [toList_lit (s := "permeability") rfl, toList_lit (s := "shear_modulus") rfl,
    toList_lit (s := "porosity") rfl]
  decide +kernel

/-- If the residual `R'` of the scaled model and the residual `R` of the unscaled model satisfy
    `R'(S x) = T R(x)` for diagonal scalings `S`, `T` with non-zero entries (unknowns and equations
    in other units), then `x` solves `R` iff `S x` solves `R'`; and every root of `R'` is the
    scaling of a root of `R`.  The hypothesis is what the harness samples on the real residuals of
    the flow model; the conclusion is what it checks by running both models. -/
theorem scaled_roots {n m : Nat} (R R' : (Fin n → Rat) → (Fin m → Rat)) (S : Fin n → Rat)
    (T : Fin m → Rat) (hS : ∀ i, S i ≠ 0) (hT : ∀ j, T j ≠ 0)
    (h : ∀ x, R' (fun i => S i * x i) = fun j => T j * R x j) :
    (∀ x, R x = (fun _ => 0) ↔ R' (fun i => S i * x i) = (fun _ => 0)) ∧
    (∀ y, R' y = (fun _ => 0) → ∃ x, y = (fun i => S i * x i) ∧ R x = (fun _ => 0)) := by
  have key : ∀ x, R x = (fun _ => 0) ↔ R' (fun i => S i * x i) = (fun _ => 0) := by
    intro x
    rw [h x]
    constructor
    · intro hx; funext j; rw [hx]; exact Rat.mul_zero _
    · intro hx; funext j
      have := congrFun hx j
      rcases Rat.mul_eq_zero.mp this with h0 | h0
      · exact absurd h0 (hT j)
      · exact h0
  refine ⟨key, fun y hy => ⟨fun i => y i / S i, ?_, ?_⟩⟩
  · funext i; rw [Rat.mul_comm, Rat.div_mul_cancel (hS i)]
  · have hy' : y = fun i => S i * (y i / S i) := by
      funext i; rw [Rat.mul_comm, Rat.div_mul_cancel (hS i)]
    rw [key]; rw [← hy']; exact hy

-- non-vacuity: R x = 2x − 6 (root 3), unknown scaled by 1/4, equation by 8: R' y = 8(2·4y − 6)
example : ∃ (R R' : (Fin 1 → Rat) → (Fin 1 → Rat)) (S T : Fin 1 → Rat), (∀ i, S i ≠ 0) ∧ (∀ j, T j ≠ 0) ∧
    (∀ x, R' (fun i => S i * x i) = fun j => T j * R x j) ∧ R (fun _ => 3) = fun _ => 0 :=
  ⟨fun x _ => 2 * x 0 - 6, fun y _ => 8 * (2 * (4 * y 0) - 6), fun _ => 1 / 4, fun _ => 8,
    fun _ => by show (1 / 4 : Rat) ≠ 0; decide +kernel, fun _ => by show (8 : Rat) ≠ 0; decide +kernel,
    fun x => by funext j; grind,
    by funext j; show (2 : Rat) * 3 - 6 = 0; decide +kernel⟩

end PorepyVerif.C43
