/-
C43 — integer powers of rationals in core Lean (`Rat.zpow_*`): the laws the monomials need.
-/

namespace PorepyVerif.C43

theorem Rat.ne_zero_of_pos' {a : Rat} (h : 0 < a) : a ≠ 0 := Rat.ne_of_gt h

theorem rat_div_pos {a b : Rat} (ha : 0 < a) (hb : 0 < b) : 0 < a / b := by
  rw [Rat.div_def]; exact Rat.mul_pos ha (Rat.inv_pos.mpr hb)

theorem rat_inv_one : (1 : Rat)⁻¹ = 1 := by decide +kernel

theorem rat_mul_inv (a b : Rat) : (a * b)⁻¹ = a⁻¹ * b⁻¹ := by rw [Rat.inv_mul_rev, Rat.mul_comm]

/-- extending a product of two products by one factor on each side -/
theorem mul_mul_step {p a b : Rat} (h : p = a * b) (x y : Rat) : p * (x * y) = a * x * (b * y) := by
  rw [h, Rat.mul_assoc, Rat.mul_assoc, ← Rat.mul_assoc b, ← Rat.mul_assoc x, Rat.mul_comm b]

theorem rat_mul_pow (a b : Rat) (k : Nat) : (a * b) ^ k = a ^ k * b ^ k := by
  induction k with
  | zero => simp
  | succ k ih =>
    rw [Rat.pow_succ, Rat.pow_succ, Rat.pow_succ]
    exact mul_mul_step ih a b

theorem rat_inv_pow (a : Rat) (k : Nat) : (a⁻¹) ^ k = (a ^ k)⁻¹ := by
  induction k with
  | zero => simp [rat_inv_one]
  | succ k ih => rw [Rat.pow_succ, Rat.pow_succ, ih, rat_mul_inv]

/-- a fact about integer exponents: the natural ones, and from `k` to `-k` -/
theorem int_nat_neg {motive : Int → Prop} (nat : ∀ k : Nat, motive k)
    (neg : ∀ k : Nat, motive k → motive (-(k : Int))) (n : Int) : motive n := by
  cases n with
  | ofNat k => exact nat k
  | negSucc k => exact neg (k + 1) (nat (k + 1))

theorem rat_mul_zpow (a b : Rat) (n : Int) : (a * b) ^ n = a ^ n * b ^ n := by
  induction n using int_nat_neg with
  | nat k => rw [Rat.zpow_natCast, Rat.zpow_natCast, Rat.zpow_natCast, rat_mul_pow]
  | neg k h => rw [Rat.zpow_neg, Rat.zpow_neg, Rat.zpow_neg, h, rat_mul_inv]

theorem rat_inv_zpow (a : Rat) (n : Int) : (a⁻¹) ^ n = (a ^ n)⁻¹ := by
  induction n using int_nat_neg with
  | nat k => rw [Rat.zpow_natCast, Rat.zpow_natCast, rat_inv_pow]
  | neg k h => rw [Rat.zpow_neg, Rat.zpow_neg, h]

theorem rat_zpow_mul {a : Rat} (ha : a ≠ 0) (m n : Int) : (a ^ m) ^ n = a ^ (m * n) := by
  induction n using int_nat_neg with
  | nat k =>
    induction k with
    | zero => simp
    | succ k ih =>
      rw [Rat.zpow_natCast] at ih ⊢
      rw [Rat.pow_succ, ih, Int.natCast_succ, Int.mul_add, Int.mul_one, Rat.zpow_add ha]
  | neg k h => rw [Rat.zpow_neg, h, Int.mul_neg, Rat.zpow_neg]

theorem rat_one_zpow (n : Int) : (1 : Rat) ^ n = 1 := by
  have h := rat_zpow_mul (a := 1) (by decide) 0 n
  rwa [Int.zero_mul, Rat.zpow_zero] at h

theorem z3 (x : Rat) : x ^ (3 : Int) = x ^ 3 := Rat.zpow_natCast x 3

theorem zpow_pos' {a : Rat} (h : 0 < a) (n : Int) : 0 < a ^ n := Rat.zpow_pos h

end PorepyVerif.C43
