/-
C43 — property theorems for FRACTIONAL exponents (`"Pa^0.5"`, `"m^-1.5"` …).

The rational model answers `Err.fractional` for a non-integer exponent.  Here the same traversal of
the unit string (`factorParts` of Model.lean: same tokenisation, same attribute lookup, same
`float()` parser, same order of failure) is evaluated over the real numbers with Mathlib's
`Real.rpow` as `x ** float(power)`.  The usual laws (`rpow_add`, `rpow_pos_of_pos`, `rpow_intCast`)
are then theorems of Mathlib, not hypotheses.  `convert_real_extends` ties the two evaluations: where
the rational model succeeds (all exponents integers) the real one returns the same number.

Kept in a separate file so that the Mathlib-free statements of Props.lean are elaborated without
Mathlib's instances in scope.  Rounding (binary64 `pow`) is outside these theorems as well.
-/
import Mathlib.Analysis.SpecialFunctions.Pow.Real
import PorepyVerif.C43.Lemmas

namespace PorepyVerif.C43

noncomputable section

/-- one factor, any rational exponent -/
def factorR (env : Env) (u : Units) (tok : Str) : Except Err ℝ :=
  match factorParts env u tok with
  | .error e => .error e
  | .ok (x, none) => .ok (x : ℝ)
  | .ok (x, some q) => .ok ((x : ℝ) ^ (q : ℝ))

def convertToksR (env : Env) (u : Units) (toSi : Bool) : List Str → ℝ → Except Err ℝ
  | [], v => .ok v
  | t :: ts, v =>
    match factorR env u t with
    | .error e => .error e
    | .ok f => convertToksR env u toSi ts (if toSi then v * f else v / f)

/-- `convert_units` over ℝ with real powers -/
def convertStrR (env : Env) (u : Units) (toSi : Bool) (s : Str) (v : ℝ) : Except Err ℝ :=
  let s' := stripSpaces s
  if isDimless s' then .ok v else convertToksR env u toSi (splitOn '*' s') v

end

theorem convertStrR_toks (env : Env) (u : Units) (toSi : Bool) (s : Str) (v : ℝ) :
    convertStrR env u toSi s v = convertToksR env u toSi (strToks s) v := by
  unfold convertStrR strToks
  dsimp only
  split <;> rfl

theorem factorR_pos (env : Env) (henv : env.constsPos = true) (u : Units) (hu : u.Pos) (t : Str)
    (f : ℝ) (h : factorR env u t = .ok f) : 0 < f := by
  unfold factorR at h
  rw [factorParts_eq] at h
  cases hp : tokParts env t with
  | error e => rw [hp] at h; cases h
  | ok p =>
    obtain ⟨e, oq⟩ := p
    rw [hp] at h
    have hx : (0 : ℝ) < (e.eval u : ℝ) := by
      exact_mod_cast eval_pos u hu e (tokParts_constsPos env henv t e oq hp)
    cases oq with
    | none => cases h; exact hx
    | some q => cases h; exact Real.rpow_pos_of_pos hx _

/-- the loop commutes with scaling the value -/
theorem convertToksR_scale (env : Env) (u : Units) (toSi : Bool) (ts : List Str) (c v : ℝ) :
    convertToksR env u toSi ts (c * v) = (convertToksR env u toSi ts v).map (fun w => c * w) := by
  induction ts generalizing v with
  | nil => rfl
  | cons t ts ih =>
    simp only [convertToksR]
    cases factorR env u t with
    | error e => rfl
    | ok f =>
      cases toSi
      · simp only [Bool.false_eq_true, if_false]; rw [mul_div_assoc]; exact ih _
      · simp only [if_true]; rw [mul_assoc]; exact ih _

theorem convertToksR_append (env : Env) (u : Units) (toSi : Bool) (a b : List Str) (v : ℝ) :
    convertToksR env u toSi (a ++ b) v =
      (convertToksR env u toSi a v >>= fun w => convertToksR env u toSi b w) := by
  induction a generalizing v with
  | nil => rfl
  | cons t ts ih =>
    simp only [List.cons_append, convertToksR]
    cases factorR env u t with
    | error e => rfl
    | ok f => exact ih _

theorem convertToksR_roundtrip (env : Env) (henv : env.constsPos = true) (u : Units) (hu : u.Pos)
    (toSi : Bool) (ts : List Str) (v w : ℝ) (h : convertToksR env u toSi ts v = .ok w) :
    convertToksR env u (!toSi) ts w = .ok v := by
  induction ts generalizing v w with
  | nil => simp only [convertToksR] at h ⊢; cases h; rfl
  | cons t ts ih =>
    simp only [convertToksR] at h ⊢
    cases hf : factorR env u t with
    | error e => rw [hf] at h; cases h
    | ok f =>
      rw [hf] at h
      have hne : f ≠ 0 := ne_of_gt (factorR_pos env henv u hu t f hf)
      cases toSi
      · have hb : convertToksR env u true ts w = .ok (v / f) := ih _ _ h
        show convertToksR env u true ts (w * f) = .ok v
        rw [mul_comm, convertToksR_scale, hb]
        exact congrArg Except.ok (mul_div_cancel₀ v hne)
      · have hb : convertToksR env u false ts w = .ok (v * f) := ih _ _ h
        show convertToksR env u false ts (w / f) = .ok v
        rw [div_eq_inv_mul, convertToksR_scale, hb]
        show Except.ok (f⁻¹ * (v * f)) = .ok v
        rw [mul_comm v, inv_mul_cancel_left₀ hne]

/-- Round trip with arbitrary (also fractional) exponents: for positive scalings, converting to
    simulation units and back with real powers is the identity. -/
theorem convert_roundtrip_real (env : Env) (henv : env.constsPos = true) (u : Units) (hu : u.Pos)
    (toSi : Bool) (s : Str) (v w : ℝ) (h : convertStrR env u toSi s v = .ok w) :
    convertStrR env u (!toSi) s w = .ok v := by
  rw [convertStrR_toks] at h ⊢
  exact convertToksR_roundtrip env henv u hu toSi _ v w h

/-- Composition with arbitrary exponents: `a*b` converts as `a`, then `b`. -/
theorem convert_compose_real (env : Env) (u : Units) (toSi : Bool) (a b : Str) (v : ℝ)
    (ha : isDimless (stripSpaces a) = false) (hb : isDimless (stripSpaces b) = false) :
    convertStrR env u toSi (a ++ '*' :: b) v =
      (convertStrR env u toSi a v >>= fun w => convertStrR env u toSi b w) := by
  simp only [convertStrR_toks, strToks_star a b ha hb]
  exact convertToksR_append env u toSi _ _ v

/-- evaluating one `sym^w` factor over ℝ -/
theorem factorR_pow (env : Env) (u : Units) (sym w : Str) (x q : Rat) (hsym : '^' ∉ sym)
    (hw : '^' ∉ w) (hx : env.attr u sym = some (.num x)) (hq : parseFloat w = some q) :
    factorR env u (sym ++ '^' :: w) = .ok ((x : ℝ) ^ (q : ℝ)) := by
  unfold factorR
  rw [factorParts_pow env u sym w x q hsym hw hx hq]

/-- Exponent addition with rational exponents: `sym^p * sym^q` acts as `sym^r` when r = p + q. -/
theorem convert_exponent_add_real (env : Env) (u : Units) (toSi : Bool) (sym p q r : Str)
    (x ep eq er : Rat) (v : ℝ) (hsym : '^' ∉ sym) (hp : '^' ∉ p) (hq : '^' ∉ q) (hr : '^' ∉ r)
    (hx : env.attr u sym = some (.num x)) (hx0 : 0 < x)
    (hep : parseFloat p = some ep) (heq : parseFloat q = some eq) (her : parseFloat r = some er)
    (hsum : er = ep + eq) :
    convertToksR env u toSi [sym ++ '^' :: p, sym ++ '^' :: q] v
      = convertToksR env u toSi [sym ++ '^' :: r] v := by
  have hadd : (x : ℝ) ^ (er : ℝ) = (x : ℝ) ^ (ep : ℝ) * (x : ℝ) ^ (eq : ℝ) := by
    rw [hsum, Rat.cast_add]
    exact Real.rpow_add (Rat.cast_pos.mpr hx0) _ _
  simp only [convertToksR, factorR_pow env u sym _ x _ hsym hp hx hep,
    factorR_pow env u sym _ x _ hsym hq hx heq, factorR_pow env u sym _ x _ hsym hr hx her, hadd]
  cases toSi
  · exact congrArg Except.ok (div_div _ _ _)
  · exact congrArg Except.ok (mul_assoc _ _ _)

/-- a real power with an integer exponent is the rational integer power -/
theorem rpow_of_den_one (x q : Rat) (hd : q.den = 1) : (x : ℝ) ^ (q : ℝ) = ((x ^ q.num : Rat) : ℝ) := by
  rw [Rat.cast_zpow, ← Real.rpow_intCast, ← Rat.cast_intCast (α := ℝ),
    Rat.coe_int_num_of_den_eq_one hd]

theorem factorR_extends (env : Env) (u : Units) (t : Str) (f : Rat) (h : factorOf env u t = .ok f) :
    factorR env u t = .ok (f : ℝ) := by
  rw [factorOf_eq_parts] at h
  unfold factorR
  cases hp : factorParts env u t with
  | error e => rw [hp] at h; cases h
  | ok p =>
    obtain ⟨x, _ | q⟩ := p <;> simp only [hp, powRat] at h
    · cases h; rfl
    · split at h
      · next hd => cases h; exact congrArg Except.ok (rpow_of_den_one x q hd)
      · cases h

theorem convertToksR_extends (env : Env) (u : Units) (toSi : Bool) (ts : List Str) (v w : Rat)
    (h : convertToks env u toSi ts v = .ok w) : convertToksR env u toSi ts (v : ℝ) = .ok (w : ℝ) := by
  induction ts generalizing v with
  | nil => cases h; rfl
  | cons t ts ih =>
    simp only [convertToks] at h
    cases hf : factorOf env u t with
    | error e => rw [hf] at h; cases h
    | ok f =>
      rw [hf] at h
      simp only [convertToksR, factorR_extends env u t f hf]
      cases toSi
      · rw [← Rat.cast_div]; exact ih _ h
      · rw [← Rat.cast_mul]; exact ih _ h

/-- The real evaluation extends the exact rational model: wherever `convertStr` succeeds (every
    exponent an integer), `convertStrR` returns the same number. -/
theorem convert_real_extends (env : Env) (u : Units) (toSi : Bool) (s : Str) (v w : Rat)
    (h : convertStr env u toSi s v = .ok w) : convertStrR env u toSi s (v : ℝ) = .ok (w : ℝ) := by
  rw [convertStr_toks] at h
  rw [convertStrR_toks]
  exact convertToksR_extends env u toSi _ v w h

-- non-vacuity: a fractional exponent is accepted and evaluated (√m with m = 4; no derived units needed)
def uEx' : Units := ⟨4, 1, 1 / 8, 2, 1, 3⟩
def envBase : Env := ⟨[], []⟩

example : factorR envBase uEx' "m^0.5".toList = .ok ((4 : ℝ) ^ (((1 / 2 : Rat)) : ℝ)) := by
  rw [toList_lit (s := "m^0.5") rfl]
  have h := factorR_pow envBase uEx' ['m'] ['0', '.', '5'] 4 (1 / 2) (by decide) (by decide) rfl
    (by decide +kernel)
  rwa [Rat.cast_ofNat] at h

end PorepyVerif.C43
