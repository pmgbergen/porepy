/-
C14 — property theorems: the glued FV discretisation does not depend on the split.

Property: for MPFA, MPSA and Biot the discretisation matrices are identical whether the grid is
discretised in one piece, split into any number of subproblems, or rediscretised only on specified
cells/faces/nodes (on the rows those updates target).

What is proved here is the BOOKKEEPING (any number of subproblems, any overlaps, any block sizes):
given the locality hypothesis "every subproblem reproduces the whole-grid rows of the row entities it
owns" (a statement about the MPxA stencil and the overlap, which the harness checks on the real code
for every generated case), the assembled matrix equals the one-piece matrix entry by entry.
-/
import PorepyVerif.C14.Lemmas
import PorepyVerif.Common.Sum

namespace PorepyVerif.C14

/-- Entry formula of the glued matrix: the owned rows of all subproblems are summed and divided by
    `bincount(concatenate(faces_in_subgrid_accum))`. -/
theorem glue_entry (ndr ndc : Nat) (hnd : 0 < ndr) (subs : List Sub) (i j : Nat) :
    entry (glue ndr ndc subs) i j
      = sumOver subs (fun s => if i / ndr ∈ s.own then entry (mapAll ndr ndc s) i j else 0)
          / (count subs (i / ndr) : Rat) := by
  unfold glue
  rw [entry_scale, entry_accumulate]
  simp only [entry_toGlobal ndr ndc hnd]

/-- One entry of the glued matrix: if some subproblem owns the entity of row `i`, no `faces_in_subgrid` list
    repeats an id, and all subproblems owning that entity give the value `w` at `(i, j)`, then so does the glued
    matrix. Nothing is asked of the other rows. -/
theorem glue_entry_of_local {ndr ndc : Nat} (hnd : 0 < ndr) {subs : List Sub}
    (hnodup : ∀ s ∈ subs, s.own.Nodup) {i j : Nat} {w : Rat}
    (hown : ∃ s ∈ subs, i / ndr ∈ s.own)
    (hloc : ∀ s ∈ subs, i / ndr ∈ s.own → entry (mapAll ndr ndc s) i j = w) :
    entry (glue ndr ndc subs) i j = w := by
  have hcnt : (count subs (i / ndr) : Rat) ≠ 0 := Nat.cast_ne_zero.mpr (count_pos_of_mem subs _ hown).ne'
  unfold glue
  rw [entry_scale, entry_accumulate_of_local hnd hnodup hloc, mul_div_cancel_left₀ _ hcnt]

/-- HEADLINE. If every face (row entity) `f < nf` is owned by at least one subproblem, no
    `faces_in_subgrid` list repeats an id, and each subproblem's local matrix, written in global
    numbering, agrees with the whole-grid matrix `W` on the rows of the entities it owns (locality),
    then the glued matrix equals `W` on all rows — for any number of subproblems, any overlaps
    (any repetition counts), any block sizes `ndr`, `ndc`. -/
theorem glue_eq_whole (ndr ndc nf : Nat) (hnd : 0 < ndr) (subs : List Sub) (W : COO)
    (hnodup : ∀ s ∈ subs, s.own.Nodup)
    (hcover : ∀ f, f < nf → ∃ s ∈ subs, f ∈ s.own)
    (hloc : ∀ s ∈ subs, ∀ i j, i / ndr ∈ s.own → entry (mapAll ndr ndc s) i j = entry W i j)
    (i j : Nat) (hi : i < nf * ndr) :
    entry (glue ndr ndc subs) i j = entry W i j :=
  glue_entry_of_local hnd hnodup (hcover _ ((Nat.div_lt_iff_lt_mul hnd).mpr hi)) fun s hs => hloc s hs i j

/-- Rows of entities that no subproblem owns are zero in the glued matrix (nothing leaks out of
    the overlap: `remove_nonlocal_contribution`). -/
theorem glue_unowned_zero (ndr ndc : Nat) (hnd : 0 < ndr) (subs : List Sub)
    (i j : Nat) (h : ∀ s ∈ subs, i / ndr ∉ s.own) : entry (glue ndr ndc subs) i j = 0 := by
  rw [glue_entry ndr ndc hnd, sumOver_eq_zero (fun s hs => if_neg (h s hs)), zero_div]

/-- The cell-row terms of Biot (`displacement_divergence`, `bound_displacement_divergence`,
    `consistency`) are glued WITHOUT scaling; this is right because `cells_in_subgrid` is a partition:
    every cell is owned exactly once. -/
theorem glueNoScale_eq_whole (ndr ndc nc : Nat) (hnd : 0 < ndr) (subs : List Sub) (W : COO)
    (hnodup : ∀ s ∈ subs, s.own.Nodup)
    (honce : ∀ c, c < nc → count subs c = 1)
    (hloc : ∀ s ∈ subs, ∀ i j, i / ndr ∈ s.own → entry (mapAll ndr ndc s) i j = entry W i j)
    (i j : Nat) (hi : i < nc * ndr) :
    entry (glueNoScale ndr ndc subs) i j = entry W i j := by
  have hc : i / ndr < nc := (Nat.div_lt_iff_lt_mul hnd).mpr hi
  unfold glueNoScale
  rw [entry_accumulate_of_local hnd hnodup fun s hs => hloc s hs i j, honce _ hc, Nat.cast_one, one_mul]

/-- A fresh partial discretisation (parameters `specified_cells/faces/nodes`): the rows of the active
    faces are the local rows of the active grid in global numbering, every other row is zero. -/
theorem partial_fresh_rows (ndr ndc : Nat) (hnd : 0 < ndr) (s : Sub) (i j : Nat) :
    entry (partialFresh ndr ndc s) i j
      = if i / ndr ∈ s.own then entry (mapAll ndr ndc s) i j else 0 :=
  entry_toGlobal ndr ndc hnd s i j

/-- After a partial update the targeted rows equal the fresh rows and all other rows are untouched. -/
theorem partial_update_rows (ndr : Nat) (active : List Nat) (old fresh : COO) (i j : Nat) :
    (i / ndr ∈ active → entry (updateRows ndr active old fresh) i j = entry fresh i j) ∧
    (i / ndr ∉ active → entry (updateRows ndr active old fresh) i j = entry old i j) := by
  rw [entry_updateRows]
  constructor <;> intro h <;> simp [h]

/-- Partial rediscretisation gives the one-piece matrix of the NEW parameters: if the old matrix agrees
    with the new whole-grid matrix `Wnew` outside the active faces (the change does not reach those
    rows) and the active grid reproduces `Wnew` on the active faces, the updated matrix is `Wnew`. -/
theorem partial_update_eq_whole (ndr ndc : Nat) (hnd : 0 < ndr) (s : Sub) (old Wnew : COO)
    (hold : ∀ i j, i / ndr ∉ s.own → entry old i j = entry Wnew i j)
    (hloc : ∀ i j, i / ndr ∈ s.own → entry (mapAll ndr ndc s) i j = entry Wnew i j)
    (i j : Nat) :
    entry (updateRows ndr s.own old (partialFresh ndr ndc s)) i j = entry Wnew i j := by
  rw [entry_updateRows, partial_fresh_rows ndr ndc hnd]
  by_cases h : i / ndr ∈ s.own
  · rw [if_pos h, if_pos h]; exact hloc i j h
  · rw [if_neg h]; exact hold i j h

/-- The local↔global index maps of a subgrid (`l2g_faces`, `l2g_cells`, expanded to `nd` components
    per entity as in `subgrid_to_grid_mapping(is_vector=True)`) are mutually inverse. -/
theorem l2g_maps_inverse (l2g : List Nat) (nd : Nat) (hnd : 0 < nd) (hinj : l2g.Nodup) :
    (∀ i, i < l2g.length * nd → lidx l2g nd (gidx l2g nd i) = i) ∧
    (∀ I, I / nd ∈ l2g → gidx l2g nd (lidx l2g nd I) = I) :=
  ⟨fun i hi => lidx_gidx l2g hnd hinj i hi, fun I hI => gidx_lidx l2g hnd I hI⟩

/-- … hence mapping a local matrix to the global numbering loses nothing: the global entry at the
    image of `(r, c)` is the local entry `(r, c)` (`face_mapᵀ · (face_map · L · cell_map) · cell_mapᵀ = L`). -/
theorem mapAll_entry_of_inj (ndr ndc : Nat) (hr : 0 < ndr) (hc : 0 < ndc) (s : Sub)
    (hR : s.l2gR.Nodup) (hC : s.l2gC.Nodup) (hin : inRange ndr ndc s)
    (r c : Nat) (hrr : r < s.l2gR.length * ndr) (hcc : c < s.l2gC.length * ndc) :
    entry (mapAll ndr ndc s) (gidx s.l2gR ndr r) (gidx s.l2gC ndc c) = entry s.loc r c := by
  rw [mapAll, mapCOO, entry_eq, entry_eq, List.map_map]
  refine Common.sum_map_congr fun t ht => ?_
  have ht := hin t ht
  -- the image of `t` sits at the image of `(r, c)` exactly when `t` sits at `(r, c)`
  exact if_congr
    (and_congr ⟨gidx_inj _ hr hR ht.1 hrr, congrArg (gidx s.l2gR ndr)⟩
      ⟨gidx_inj _ hc hC ht.2 hcc, congrArg (gidx s.l2gC ndc)⟩) rfl rfl

/-- Vector form (Mpsa / Biot: `nd` rows per face, `expand_indices_nd`): the statement of `glue_eq_whole`
    per face `f` and component `k`, with the locality hypothesis phrased per owned face. -/
theorem glue_eq_whole_vec (nd ndc nf : Nat) (subs : List Sub) (W : COO)
    (hnodup : ∀ s ∈ subs, s.own.Nodup)
    (hcover : ∀ f, f < nf → ∃ s ∈ subs, f ∈ s.own)
    (hloc : ∀ s ∈ subs, ∀ f ∈ s.own, ∀ k, k < nd → ∀ j,
      entry (mapAll nd ndc s) (f * nd + k) j = entry W (f * nd + k) j)
    (f k j : Nat) (hf : f < nf) (hk : k < nd) :
    entry (glue nd ndc subs) (f * nd + k) j = entry W (f * nd + k) j := by
  have hnd : 0 < nd := Nat.zero_lt_of_lt hk
  have hrow : (f * nd + k) / nd = f := by rw [← Nat.mod_eq_of_lt hk, block_div hnd]
  apply glue_entry_of_local hnd hnodup
  · rw [hrow]; exact hcover f hf
  · intro s hs hown
    rw [hrow] at hown
    exact hloc s hs f hown k hk j

/-- The accumulation coded in `Mpfa.discretize` NOW equals the plain sum whenever every subproblem that takes
    the "all faces in this subgrid" shortcut has identity maps (a subgrid containing all faces contains all
    cells and keeps the numbering; the oracle checks this on every real decomposition) — in any position of
    the subproblem list, with any number of other subproblems. -/
theorem glueAsCoded_eq_glue (nf ndr ndc : Nat) (hr : 0 < ndr) (hc : 0 < ndc) (subs : List Sub)
    (h : ∀ s ∈ subs, s.own.length = nf → idMaps ndr ndc s) :
    glueAsCoded nf ndr ndc subs = glue ndr ndc subs := by
  unfold glueAsCoded glue
  rw [accumulateAsCoded_eq nf ndr ndc subs
    (fun s hs hfull => toGlobal_eq_zeroed_of_idMaps ndr ndc hr hc s (h s hs hfull)) true [] (fun _ => rfl),
    List.nil_append]

/-- … hence `glue_eq_whole` holds for the code as it is. -/
theorem glueAsCoded_eq_whole (ndr ndc nf : Nat) (hr : 0 < ndr) (hc : 0 < ndc) (subs : List Sub) (W : COO)
    (hid : ∀ s ∈ subs, s.own.length = nf → idMaps ndr ndc s)
    (hnodup : ∀ s ∈ subs, s.own.Nodup)
    (hcover : ∀ f, f < nf → ∃ s ∈ subs, f ∈ s.own)
    (hloc : ∀ s ∈ subs, ∀ i j, i / ndr ∈ s.own → entry (mapAll ndr ndc s) i j = entry W i j)
    (i j : Nat) (hi : i < nf * ndr) :
    entry (glueAsCoded nf ndr ndc subs) i j = entry W i j := by
  rw [glueAsCoded_eq_glue nf ndr ndc hr hc subs hid]
  exact glue_eq_whole ndr ndc nf hr subs W hnodup hcover hloc i j hi

/-- Split partial discretisation: the repetition scaling acts in the numbering of the ACTIVE grid, before the
    lift; after the lift the rows of the active faces are exactly the lifted rows of the glued active-grid
    matrix and every other row is zero (so `partial_update_eq_whole` applies with `loc :=` the glued matrix). -/
theorem partialFreshSplit_rows (nrowA ndr ndc : Nat) (hnd : 0 < ndr) (subs : List Sub) (outer : Sub) (i j : Nat) :
    entry (partialFreshSplit nrowA ndr ndc false true subs outer) i j
      = if i / ndr ∈ outer.own
        then entry (mapCOO ndr ndc outer (glue ndr ndc subs)) i j else 0 := by
  exact entry_toGlobal ndr ndc hnd { outer with loc := glue ndr ndc subs } i j

/-- … and with the Mpfa accumulation as coded the same matrix results (full-cover subproblems of the active
    grid have identity maps). -/
theorem partialFreshSplit_coded (nrowA ndr ndc : Nat) (hr : 0 < ndr) (hc : 0 < ndc) (subs : List Sub) (outer : Sub)
    (h : ∀ s ∈ subs, s.own.length = nrowA → idMaps ndr ndc s) :
    partialFreshSplit nrowA ndr ndc true true subs outer = partialFreshSplit nrowA ndr ndc false true subs outer := by
  exact congrArg (fun M => toGlobal ndr ndc { outer with loc := M })
    (glueAsCoded_eq_glue nrowA ndr ndc hr hc subs h)

/-- Abstract form: if the cell set of a subproblem contains, for each of its own faces, all cells sharing a
    node with that face (what one layer of node overlap guarantees), then for every node of an own face the
    whole interaction region of that node (all cells around the node) lies inside the subgrid. -/
theorem regions_inside_of_contains_neighbours (cn fn : Conn) (own cells : List Nat)
    (H : ∀ f ∈ own, ∀ c, c < cn.length → (∃ v ∈ fn.getD f [], v ∈ cn.getD c []) → c ∈ cells)
    (f : Nat) (hf : f ∈ own) (v : Nat) (hv : v ∈ fn.getD f [])
    (c : Nat) (hc : c < cn.length) (hvc : v ∈ cn.getD c []) : c ∈ cells :=
  H f hf c hc ⟨v, hv, hvc⟩

/-- `_fvutils.subproblems` as coded: `faces_in_subgrid` are the faces all of whose nodes are nodes of the
    partition, the subgrid consists of all cells sharing a node with the partition; hence every interaction
    region of every own face is inside the subgrid. -/
theorem own_face_regions_inside (cn fn : Conn) (P : List Nat)
    (f : Nat) (hf : f ∈ subOwnFaces cn fn P) (v : Nat) (hv : v ∈ fn.getD f [])
    (c : Nat) (hc : c < cn.length) (hvc : v ∈ cn.getD c []) : c ∈ subCells cn P :=
  mem_subCells.mpr ⟨hc, v, hvc, (allNodesIn_iff _ _).mp ((mem_maskToList _ _ f).mp hf).2 v hv⟩

/-- … and the same for the cell-row terms of Biot: every interaction region of every node of a cell of the
    partition (`cells_in_subgrid`) is inside the subgrid. -/
theorem own_cell_regions_inside (cn : Conn) (P : List Nat)
    (p : Nat) (hp : p ∈ P) (v : Nat) (hv : v ∈ cn.getD p [])
    (c : Nat) (hc : c < cn.length) (hvc : v ∈ cn.getD c []) : c ∈ subCells cn P :=
  mem_subCells.mpr ⟨hc, v, hvc, (nodesOf_iff cn P v).mpr ⟨p, hp, hv⟩⟩

/-- `cell_ind_for_partial_update` as coded, for ANY combination of specified cells / faces / nodes: every
    interaction region of every affected ("active") face lies in the returned cell set. -/
theorem affected_face_regions_inside (cn fn : Conn) (cells faces nodes : Option (List Nat))
    (f : Nat) (hf : f ∈ (cellInd cn fn cells faces nodes).2) (v : Nat) (hv : v ∈ fn.getD f [])
    (c : Nat) (hc : c < cn.length) (hvc : v ∈ cn.getD c []) :
    c ∈ (cellInd cn fn cells faces nodes).1 := by
  unfold cellInd at hf ⊢
  simp only [mem_maskToList] at hf ⊢
  exact ⟨hc, regionsInside_cellIndState cn fn cells faces nodes f v c hf.1 hf.2 hv hc hvc⟩

/-- Partial rediscretisation specified by cells, faces or nodes (any combination): with the affected faces
    and the active grid exactly as `cell_ind_for_partial_update` computes them, (1) the updated matrix is the
    one-piece matrix of the new parameters under the two locality hypotheses, and (2) the index-level part of
    the second hypothesis holds: the active grid contains all interaction regions of all affected faces. -/
theorem partial_update_eq_whole_specified (cn fn : Conn) (cells faces nodes : Option (List Nat))
    (ndr ndc : Nat) (hnd : 0 < ndr) (s : Sub) (old Wnew : COO)
    (hown : s.own = (cellInd cn fn cells faces nodes).2)
    (hold : ∀ i j, i / ndr ∉ s.own → entry old i j = entry Wnew i j)
    (hloc : ∀ i j, i / ndr ∈ s.own → entry (mapAll ndr ndc s) i j = entry Wnew i j) :
    (∀ i j, entry (updateRows ndr s.own old (partialFresh ndr ndc s)) i j = entry Wnew i j) ∧
    (∀ f ∈ s.own, ∀ v ∈ fn.getD f [], ∀ c, c < cn.length → v ∈ cn.getD c [] →
        c ∈ (cellInd cn fn cells faces nodes).1) := by
  refine ⟨fun i j => partial_update_eq_whole ndr ndc hnd s old Wnew hold hloc i j, ?_⟩
  intro f hf v hv c hc hvc
  rw [hown] at hf
  exact affected_face_regions_inside cn fn cells faces nodes f hf v hv c hc hvc

/-- three faces, two cells; face 1 lies on the interface and is owned by both subproblems -/
def exW : COO := [(0, 0, 4), (1, 0, -3), (1, 1, 3), (2, 1, 5)]
def exS1 : Sub := { own := [0, 1], l2gR := [0, 1, 2], l2gC := [0, 1],
                    loc := [(0, 0, 4), (1, 0, -3), (1, 1, 3), (2, 1, 77)] }   -- row 2 is "wrong" (overlap)
def exS2 : Sub := { own := [1, 2], l2gR := [1, 2], l2gC := [1, 0],
                    loc := [(0, 1, -3), (0, 0, 3), (1, 0, 5)] }                -- permuted local cells

example : (List.range 3).map (fun i => (List.range 2).map (fun j => entry (glue 1 1 [exS1, exS2]) i j))
    = (List.range 3).map (fun i => (List.range 2).map (fun j => entry exW i j)) := by decide +kernel

example : count [exS1, exS2] 1 = 2 ∧ count [exS1, exS2] 0 = 1 := by decide +kernel

/-- the hypotheses of `glue_eq_whole` are satisfiable by this data (so the theorem applies to it) -/
example (i j : Nat) (hi : i < 3 * 1) : entry (glue 1 1 [exS1, exS2]) i j = entry exW i j := by
  apply glue_eq_whole 1 1 3 Nat.one_pos [exS1, exS2] exW
  · decide +kernel
  · decide +kernel
  · intro s hs i j hown
    -- locality, checked on the triplets: each owned row holds the same triplets as that row of `exW`
    have rows : ∀ s ∈ [exS1, exS2], ∀ f ∈ s.own,
        (mapAll 1 1 s).filter (fun t => t.1 / 1 == f) = exW.filter (fun t => t.1 / 1 == f) := by
      decide +kernel
    exact entry_congr_rows (rows s hs _ hown) rfl j
  · exact hi

/-- two faces, one cell: `exT1` owns face 0, `exT2` owns both faces and so takes the "all faces" shortcut -/
def exT1 : Sub := { own := [0], l2gR := [0], l2gC := [0], loc := [(0, 0, 1)] }
def exT2 : Sub := { own := [0, 1], l2gR := [0, 1], l2gC := [0], loc := [(0, 0, 1), (1, 0, 2)] }

/-- Finding `mpfa:split:late-full-cover-subproblem` (repaired in /repo, commit a590fa5c2) at model level: BEFORE
    the repair a later subproblem owning all faces overwrote the accumulator while the repetition count still
    included the earlier one, giving half the whole-grid row; the code as it is NOW gives the right value in
    either order. -/
example : entry (glueBeforeFix 2 1 1 [exT1, exT2]) 0 0 = 1 / 2 ∧ entry (glue 1 1 [exT1, exT2]) 0 0 = 1
    ∧ entry (glueAsCoded 2 1 1 [exT1, exT2]) 0 0 = 1 ∧ entry (glueAsCoded 2 1 1 [exT2, exT1]) 0 0 = 1
    ∧ entry (glueAsCoded 2 1 1 [exT2]) 1 0 = 2 := by decide +kernel

def exV (own l2g : List Nat) (loc : COO) : Sub := { own := own, l2gR := l2g, l2gC := [0], loc := loc }
def exVW : COO := [(0, 0, 1), (1, 1, 2), (2, 0, 3), (3, 1, 4)]

/-- vector rows (`nd = 2`, two faces, one cell): face 0 is owned by three subproblems with different local
    numberings; every component row comes out right. -/
example : (List.range 4).map (fun i => (List.range 2).map (fun j => entry (glue 2 2
      [exV [0] [0] [(0, 0, 1), (1, 1, 2)],
       exV [0, 1] [1, 0] [(0, 0, 3), (1, 1, 4), (2, 0, 1), (3, 1, 2)],
       exV [0] [0, 1] [(0, 0, 1), (1, 1, 2), (2, 0, 99)]]) i j))
    = (List.range 4).map (fun i => (List.range 2).map (fun j => entry exVW i j)) := by decide +kernel

/-- index sets on a chain of 6 cells (cell `i` has nodes `i, i+1`; face `i` is node `i`): partition `[2, 3]`
    gives the subgrid `[1, 2, 3, 4]` and owns the faces `[2, 3, 4]`. -/
def chainCN : Conn := [[0, 1], [1, 2], [2, 3], [3, 4], [4, 5], [5, 6]]
def chainFN : Conn := [[0], [1], [2], [3], [4], [5], [6]]

example : subCells chainCN [2, 3] = [1, 2, 3, 4] ∧ subOwnFaces chainCN chainFN [2, 3] = [2, 3, 4] := by
  decide +kernel

example : cellInd chainCN chainFN none (some [3]) none = ([1, 2, 3, 4], [3])
    ∧ cellInd chainCN chainFN none none (some [2, 3]) = ([1, 2, 3], [2, 3])
    ∧ cellInd chainCN chainFN (some [0]) none none = ([0, 1], [0, 1]) := by decide +kernel

/-- OBSERVATION (real code agrees, see the harness): passing an EMPTY face array instead of `None` is not
    neutral. The branch `if faces is not None` re-reads the shared `active_faces` array, so the faces activated
    by the cells branch are treated like specified faces and two more rings of cells are returned
    (cell 2 here). `partial_update_discretization` used to do exactly this and discarded the cell list. -/
example : cellInd chainCN chainFN (some [0]) none none = ([0, 1], [0, 1])
    ∧ cellInd chainCN chainFN (some [0]) (some []) none = ([0, 1, 2], [0, 1]) := by decide +kernel

/-- split partial update on concrete data: active grid = faces [2,3,4] / cells [1,2] of a 5-face grid, split in two
    subproblems sharing active face 1 (= full face 3); the count 2 is applied in ACTIVE numbering (face 1), not to
    full face 1. -/
example : (List.range 5).map (fun i => entry (partialFreshSplit 3 1 1 false true
      [{ own := [0, 1], l2gR := [0, 1], l2gC := [0], loc := [(0, 0, 5), (1, 0, 7)] },
       { own := [1, 2], l2gR := [1, 2], l2gC := [0, 1], loc := [(0, 0, 7), (1, 1, 9)] }]
      { own := [2, 3, 4], l2gR := [2, 3, 4], l2gC := [1, 2], loc := [] }) i 1) = [0, 0, 5, 7, 0] := by
  decide +kernel

/-- partial update on concrete data: row 1 replaced, rows 0 and 2 kept (vector rows: `ndr = 2`) -/
example : (List.range 6).map (fun i => entry (updateRows 2 [1] [(0, 0, 1), (2, 0, 2), (3, 0, 3), (5, 0, 4)]
    [(2, 0, 9), (3, 1, 8)]) i 0) = [1, 0, 9, 0, 0, 4] := by decide +kernel

example : lidx [4, 7, 9] 2 (gidx [4, 7, 9] 2 3) = 3 ∧ gidx [4, 7, 9] 2 3 = 15
    ∧ gidx [4, 7, 9] 2 (lidx [4, 7, 9] 2 19) = 19 := by decide +kernel

end PorepyVerif.C14
