/-
C14 — helper lemmas about COO matrices and the gluing steps, and the invariant `RegionsInside` that every
branch of `cell_ind_for_partial_update` preserves.
-/
import PorepyVerif.C14.Model
import Mathlib.Algebra.Order.Field.Rat
import Mathlib.Data.List.Nodup
import PorepyVerif.Common.Sum

namespace PorepyVerif.C14

@[simp] theorem entry_nil (i j : Nat) : entry [] i j = 0 := rfl

theorem entry_cons (t : Trip) (M : COO) (i j : Nat) :
    entry (t :: M) i j = (if t.1 = i ∧ t.2.1 = j then t.2.2 else 0) + entry M i j := rfl

theorem entry_eq (M : COO) (i j : Nat) :
    entry M i j = (M.map fun t => if t.1 = i ∧ t.2.1 = j then t.2.2 else 0).sum := by
  induction M with
  | nil => rfl
  | cons t M ih => rw [List.map_cons, List.sum_cons, ← ih, entry_cons]

theorem entry_append (A B : COO) (i j : Nat) : entry (A ++ B) i j = entry A i j + entry B i j := by
  simp only [entry_eq, List.map_append, List.sum_append]

theorem entry_filter_row (p : Nat → Bool) (A : COO) (i j : Nat) :
    entry (A.filter (fun t => p t.1)) i j = if p i then entry A i j else 0 := by
  -- a triple outside row `i` adds nothing, kept or not; one in row `i` is kept iff `p i`
  rw [entry_eq, Common.sum_map_filter]
  split
  · next hp =>
    rw [entry_eq]
    refine Common.sum_map_congr fun t _ => ?_
    by_cases h : t.1 = i ∧ t.2.1 = j
    · rw [if_pos h, h.1, if_pos hp]
    · rw [if_neg h, ite_self]
  · next hp =>
    refine Common.sum_map_eq_zero fun t _ => ?_
    by_cases h : t.1 = i ∧ t.2.1 = j
    · rw [if_pos h, h.1, if_neg hp]
    · rw [if_neg h, ite_self]

theorem entry_congr_rows {A B : COO} {ndr f : Nat}
    (h : A.filter (fun t => t.1 / ndr == f) = B.filter (fun t => t.1 / ndr == f))
    {i : Nat} (hi : i / ndr = f) (j : Nat) : entry A i j = entry B i j := by
  -- filtering keeps row `i`, so each side is the entry of its filtered matrix
  have hp : (i / ndr == f) = true := beq_iff_eq.mpr hi
  rw [← if_pos hp (t := entry A i j) (e := 0), ← entry_filter_row (fun r => r / ndr == f), h,
    entry_filter_row (fun r => r / ndr == f), if_pos hp]

theorem entry_scale (ndr : Nat) (cnt : Nat → Nat) (M : COO) (i j : Nat) :
    entry (scale ndr cnt M) i j = entry M i j / (cnt (i / ndr) : Rat) := by
  rw [scale, entry_eq, entry_eq, List.map_map, div_eq_mul_inv, ← Common.sum_map_mul_right]
  refine Common.sum_map_congr fun t _ => ?_
  rw [Function.comp_apply, ite_mul, zero_mul]
  exact ite_congr rfl (fun h => by rw [h.1, div_eq_mul_inv]) fun _ => rfl

theorem entry_updateRows (ndr : Nat) (active : List Nat) (old fresh : COO) (i j : Nat) :
    entry (updateRows ndr active old fresh) i j
      = if i / ndr ∈ active then entry fresh i j else entry old i j := by
  unfold updateRows
  rw [entry_append, entry_filter_row (fun r => !decide (r / ndr ∈ active)),
    entry_filter_row (fun r => decide (r / ndr ∈ active))]
  by_cases h : i / ndr ∈ active <;> simp [h]

/-- both index maps have the form `block * nd + component` with `component < nd` -/
theorem block_div {nd : Nat} (hnd : 0 < nd) (a b : Nat) : (a * nd + b % nd) / nd = a := by
  rw [Nat.add_comm, Nat.add_mul_div_right _ _ hnd, Nat.div_eq_of_lt (Nat.mod_lt _ hnd), Nat.zero_add]

theorem block_mod (nd a b : Nat) : (a * nd + b % nd) % nd = b % nd := by
  rw [Nat.add_comm, Nat.add_mul_mod_self_right, Nat.mod_mod]

theorem gidx_div (l2g : List Nat) {nd : Nat} (hnd : 0 < nd) (r : Nat) :
    gidx l2g nd r / nd = l2g.getD (r / nd) 0 := block_div hnd _ _

theorem gidx_mod (l2g : List Nat) (nd : Nat) (r : Nat) : gidx l2g nd r % nd = r % nd :=
  block_mod nd _ _

theorem gidx_lidx (l2g : List Nat) {nd : Nat} (hnd : 0 < nd) (I : Nat) (hI : I / nd ∈ l2g) :
    gidx l2g nd (lidx l2g nd I) = I := by
  have hlt : l2g.idxOf (I / nd) < l2g.length := List.idxOf_lt_length_iff.mpr hI
  unfold gidx lidx
  rw [block_div hnd, block_mod, ← List.getElem_eq_getD (h := hlt) 0, List.getElem_idxOf hlt]
  exact Nat.div_add_mod' I nd

theorem lidx_gidx (l2g : List Nat) {nd : Nat} (hnd : 0 < nd) (hinj : l2g.Nodup) (i : Nat)
    (hi : i < l2g.length * nd) : lidx l2g nd (gidx l2g nd i) = i := by
  have hlt : i / nd < l2g.length := (Nat.div_lt_iff_lt_mul hnd).mpr hi
  unfold lidx
  rw [gidx_div l2g hnd, gidx_mod, ← List.getElem_eq_getD (h := hlt) 0, hinj.idxOf_getElem _ hlt]
  exact Nat.div_add_mod' i nd

theorem gidx_inj (l2g : List Nat) {nd : Nat} (hnd : 0 < nd) (hinj : l2g.Nodup) {a b : Nat}
    (ha : a < l2g.length * nd) (hb : b < l2g.length * nd)
    (h : gidx l2g nd a = gidx l2g nd b) : a = b := by
  rw [← lidx_gidx l2g hnd hinj a ha, ← lidx_gidx l2g hnd hinj b hb, h]

theorem gidx_range (n nd : Nat) (hnd : 0 < nd) (i : Nat) (hi : i < n * nd) :
    gidx (List.range n) nd i = i := by
  have hlt : i / nd < (List.range n).length := by
    rw [List.length_range]; exact (Nat.div_lt_iff_lt_mul hnd).mpr hi
  unfold gidx
  rw [← List.getElem_eq_getD (h := hlt) 0, List.getElem_range]
  exact Nat.div_add_mod' i nd

/-- steps 1+2 commute: zeroing the local rows of entities not owned, then mapping, is mapping and then
    dropping the global rows of entities not owned. -/
theorem toGlobal_eq_filter (ndr ndc : Nat) (hnd : 0 < ndr) (s : Sub) :
    toGlobal ndr ndc s = (mapAll ndr ndc s).filter (fun t => decide (t.1 / ndr ∈ s.own)) := by
  unfold toGlobal mapAll zeroed mapCOO
  rw [List.filter_map]
  simp only [Function.comp_def, gidx_div s.l2gR hnd]

/-- steps 1+2: a subproblem contributes its (mapped) local rows for owned entities and nothing else -/
theorem entry_toGlobal (ndr ndc : Nat) (hnd : 0 < ndr) (s : Sub) (i j : Nat) :
    entry (toGlobal ndr ndc s) i j = if i / ndr ∈ s.own then entry (mapAll ndr ndc s) i j else 0 := by
  rw [toGlobal_eq_filter ndr ndc hnd, entry_filter_row (fun r => decide (r / ndr ∈ s.own))]
  simp only [decide_eq_true_eq]

/-- sum over the subproblems -/
def sumOver (subs : List Sub) (f : Sub → Rat) : Rat := (subs.map f).sum

@[simp] theorem sumOver_nil (f : Sub → Rat) : sumOver [] f = 0 := rfl
@[simp] theorem sumOver_cons (s : Sub) (subs : List Sub) (f : Sub → Rat) :
    sumOver (s :: subs) f = f s + sumOver subs f := List.sum_cons

theorem sumOver_congr {subs : List Sub} {f g : Sub → Rat} (h : ∀ s ∈ subs, f s = g s) :
    sumOver subs f = sumOver subs g :=
  Common.sum_map_congr h

theorem sumOver_eq_zero {subs : List Sub} {f : Sub → Rat} (h : ∀ s ∈ subs, f s = 0) : sumOver subs f = 0 :=
  Common.sum_map_eq_zero h

theorem entry_accumulate (ndr ndc : Nat) (subs : List Sub) (i j : Nat) :
    entry (accumulate ndr ndc subs) i j = sumOver subs (fun s => entry (toGlobal ndr ndc s) i j) := by
  induction subs with
  | nil => rfl
  | cons s subs ih => rw [accumulate, entry_append, ih, sumOver_cons]

/-- `bincount(concatenate(...))[f]` counts the subproblems owning `f` when no list repeats an id -/
theorem sumOver_ite_count (subs : List Sub) (hnodup : ∀ s ∈ subs, s.own.Nodup) (f : Nat) (x : Rat) :
    sumOver subs (fun s => if f ∈ s.own then x else 0) = (count subs f : Rat) * x := by
  induction subs with
  | nil => exact (zero_mul x).symm
  | cons s subs ih =>
    -- without repetitions `List.count` is the indicator of membership
    rw [sumOver_cons, ih (fun t ht => hnodup t (List.mem_cons_of_mem _ ht)), count,
      (hnodup s List.mem_cons_self).count, Nat.cast_add, add_mul, Nat.cast_ite, ite_mul, Nat.cast_one, one_mul,
      Nat.cast_zero, zero_mul]

/-- `np.bincount(np.concatenate(faces_in_subgrid_accum))[f]`, read literally -/
theorem count_eq_count_flatMap (subs : List Sub) (f : Nat) :
    count subs f = (subs.flatMap fun s => s.own).count f := by
  induction subs with
  | nil => rfl
  | cons s subs ih => rw [count, ih, List.flatMap_cons, List.count_append]

theorem count_pos_iff {subs : List Sub} {f : Nat} : 0 < count subs f ↔ ∃ s ∈ subs, f ∈ s.own := by
  rw [count_eq_count_flatMap, List.count_pos_iff, List.mem_flatMap]

theorem count_pos_of_mem (subs : List Sub) (f : Nat) (h : ∃ s ∈ subs, f ∈ s.own) : 0 < count subs f :=
  count_pos_iff.mpr h

theorem count_eq_zero_of_not_mem (subs : List Sub) (f : Nat) (h : ∀ s ∈ subs, f ∉ s.own) :
    count subs f = 0 :=
  Nat.eq_zero_of_not_pos fun hp => let ⟨s, hs, hf⟩ := count_pos_iff.mp hp; h s hs hf

/-- If all subproblems owning the entity of row `i` agree on the entry `(i, j)`, the accumulated entry, before
    any scaling, is that value once for every owner. Only the rows of that one entity enter; nothing is asked
    of coverage. -/
theorem entry_accumulate_of_local {ndr ndc : Nat} (hnd : 0 < ndr) {subs : List Sub}
    (hnodup : ∀ s ∈ subs, s.own.Nodup) {i j : Nat} {w : Rat}
    (hloc : ∀ s ∈ subs, i / ndr ∈ s.own → entry (mapAll ndr ndc s) i j = w) :
    entry (accumulate ndr ndc subs) i j = (count subs (i / ndr) : Rat) * w := by
  rw [entry_accumulate, ← sumOver_ite_count subs hnodup]
  refine sumOver_congr fun s hs => ?_
  rw [entry_toGlobal ndr ndc hnd]
  exact ite_congr rfl (hloc s hs) fun _ => rfl

theorem toGlobal_eq_zeroed_of_idMaps (ndr ndc : Nat) (hr : 0 < ndr) (hc : 0 < ndc) (s : Sub)
    (hid : idMaps ndr ndc s) : toGlobal ndr ndc s = zeroed ndr s := by
  obtain ⟨⟨nR, hR⟩, ⟨nC, hC⟩, hin⟩ := hid
  unfold toGlobal mapCOO
  refine (List.map_congr_left fun t ht => ?_).trans (List.map_id _)
  have hb := hin t (List.mem_filter.mp ht).1
  rw [hR, hC, List.length_range, List.length_range] at hb
  rw [hR, hC, gidx_range nR ndr hr _ hb.1, gidx_range nC ndc hc _ hb.2]
  rfl

theorem accumulateAsCoded_eq (nf ndr ndc : Nat) (subs : List Sub)
    (h : ∀ s ∈ subs, s.own.length = nf → toGlobal ndr ndc s = zeroed ndr s)
    (first : Bool) (acc : COO) (hfirst : first = true → acc = []) :
    accumulateAsCoded nf ndr ndc first acc subs = acc ++ accumulate ndr ndc subs := by
  induction subs generalizing first acc with
  | nil => exact (List.append_nil acc).symm
  | cons s subs ih =>
    rw [accumulateAsCoded, ih (fun t ht => h t (List.mem_cons_of_mem _ ht)) false _ nofun,
      accumulate, ← List.append_assoc]
    -- whichever branch is taken, the accumulator grows by `toGlobal ndr ndc s`
    by_cases hs : s.own.length = nf
    · rw [if_pos hs, h s List.mem_cons_self hs]
      cases first
      · rfl
      · rw [hfirst rfl]; rfl
    · rw [if_neg hs]

theorem accumulateBeforeFix_no_shortcut (nf ndr ndc : Nat) (subs : List Sub)
    (h : ∀ s ∈ subs, s.own.length ≠ nf) (acc : COO) :
    accumulateBeforeFix nf ndr ndc acc subs = acc ++ accumulate ndr ndc subs := by
  induction subs generalizing acc with
  | nil => exact (List.append_nil acc).symm
  | cons s subs ih =>
    rw [accumulateBeforeFix, if_neg (h s List.mem_cons_self),
      ih (fun t ht => h t (List.mem_cons_of_mem _ ht)), accumulate, List.append_assoc]

theorem hasNodeIn_iff (row : List Nat) (N : Nat → Bool) :
    hasNodeIn row N = true ↔ ∃ v ∈ row, N v = true := List.any_eq_true

theorem allNodesIn_iff (row : List Nat) (N : Nat → Bool) :
    allNodesIn row N = true ↔ ∀ v ∈ row, N v = true := List.all_eq_true

theorem nodesOf_iff (conn : Conn) (ents : List Nat) (v : Nat) :
    nodesOf conn ents v = true ↔ ∃ e ∈ ents, v ∈ conn.getD e [] := by
  unfold nodesOf
  simp only [List.any_eq_true, List.contains_iff_mem]

theorem nodesOfMask_iff (conn : Conn) (mask : Nat → Bool) (v : Nat) :
    nodesOfMask conn mask v = true ↔ ∃ e, e < conn.length ∧ mask e = true ∧ v ∈ conn.getD e [] := by
  unfold nodesOfMask
  simp only [List.any_eq_true, List.mem_range, Bool.and_eq_true, List.contains_iff_mem]

theorem mem_maskToList (n : Nat) (mask : Nat → Bool) (e : Nat) :
    e ∈ maskToList n mask ↔ e < n ∧ mask e = true := by
  unfold maskToList
  rw [List.mem_filter, List.mem_range]

theorem mem_subCells {cn : Conn} {P : List Nat} {c : Nat} :
    c ∈ subCells cn P ↔ c < cn.length ∧ ∃ v ∈ cn.getD c [], nodesOf cn P v = true := by
  rw [subCells, mem_maskToList, hasNodeIn_iff]

/-- invariant of `cell_ind_for_partial_update`: every interaction region of every active face lies in the
    collected cell set -/
def RegionsInside (cn fn : Conn) (st : St) : Prop :=
  ∀ f v c, f < fn.length → st.fp f = true → v ∈ fn.getD f [] → c < cn.length → v ∈ cn.getD c [] →
    st.cp c = true

theorem regionsInside_init (cn fn : Conn) :
    RegionsInside cn fn { cp := fun _ => false, fp := fun _ => false } :=
  fun _ _ _ _ hfp => nomatch hfp

/-- The cells and the faces branch both end by adding every cell that touches a node in a set `V` containing
    all nodes of all faces active by then; that alone gives the invariant, whatever the state before. -/
theorem regionsInside_of_nodes {cn fn : Conn} {cp fp V : Nat → Bool}
    (hV : ∀ v, nodesOfMask fn fp v = true → V v = true) :
    RegionsInside cn fn { cp := fun c => cp c || hasNodeIn (cn.getD c []) V, fp := fp } := by
  intro f v c hf hfp hv _ hvc
  refine Bool.or_eq_true_iff.mpr (Or.inr ((hasNodeIn_iff _ _).mpr ⟨v, hvc, hV v ?_⟩))
  exact (nodesOfMask_iff fn fp v).mpr ⟨f, hf, hfp, hv⟩

theorem regionsInside_stepCells (cn fn : Conn) (C : List Nat) (st : St) (_h : RegionsInside cn fn st) :
    RegionsInside cn fn (stepCells cn fn C st) :=
  regionsInside_of_nodes fun _ hv => Bool.or_eq_true_iff.mpr (Or.inr hv)

theorem regionsInside_stepFaces (cn fn : Conn) (S : List Nat) (st : St) (_h : RegionsInside cn fn st) :
    RegionsInside cn fn (stepFaces cn fn S st) :=
  regionsInside_of_nodes fun _ hv => Bool.or_eq_true_iff.mpr (Or.inl hv)

theorem regionsInside_stepNodes (cn fn : Conn) (Nn : List Nat) (st : St) (h : RegionsInside cn fn st) :
    RegionsInside cn fn (stepNodes cn fn Nn st) := by
  intro f v c hf hfp hv hc hvc
  -- a face was active before, or all its nodes are among the given ones
  rcases Bool.or_eq_true_iff.mp hfp with hold | hnew
  · exact Bool.or_eq_true_iff.mpr (Or.inl (h f v c hf hold hv hc hvc))
  · exact Bool.or_eq_true_iff.mpr
      (Or.inr ((hasNodeIn_iff _ _).mpr ⟨v, hvc, (allNodesIn_iff _ _).mp hnew v hv⟩))

theorem regionsInside_optStep (cn fn : Conn) (g : List Nat → St → St)
    (hg : ∀ l st, RegionsInside cn fn st → RegionsInside cn fn (g l st))
    (o : Option (List Nat)) (st : St) (h : RegionsInside cn fn st) :
    RegionsInside cn fn (optStep g o st) := by
  cases o with
  | none => exact h
  | some l => exact hg l st h

theorem regionsInside_cellIndState (cn fn : Conn) (cells faces nodes : Option (List Nat)) :
    RegionsInside cn fn (cellIndState cn fn cells faces nodes) := by
  unfold cellIndState
  apply regionsInside_optStep cn fn _ (regionsInside_stepNodes cn fn)
  apply regionsInside_optStep cn fn _ (regionsInside_stepFaces cn fn)
  apply regionsInside_optStep cn fn _ (regionsInside_stepCells cn fn)
  exact regionsInside_init cn fn

end PorepyVerif.C14
