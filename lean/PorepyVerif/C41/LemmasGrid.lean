/-
C41 — the standard table.  The value array at the linear index of a grid vertex holds the function value there
(`coords_get`, `row_lookup`); for a point of the closed box the clamped base vertex and the weights are in range
(`clamp_floor`, `axis_facts`, `point_facts`); so the table answers with the cell sums over the cell `bases axes`
(`std_answer_cell`, the only place where `Table.answer` is unfolded).
-/
import PorepyVerif.C41.LemmasCell
import PorepyVerif.Common.Except

namespace PorepyVerif.C41
open PorepyVerif.C46 (Coord Store)
open PorepyVerif

/-- `Σ v_k · stride_k` -/
def dotI : List Int → List Nat → Int
  | v :: vs, s :: ss => v * (s : Int) + dotI vs ss
  | _, _ => 0

theorem linIndex_eq_dot : ∀ (b incr : List Int) (ss : List Nat),
    linIndex b incr ss = dotI (addIncr b incr) ss
  | [], _, _ => by simp [linIndex, addIncr, dotI]
  | _ :: _, [], _ => by simp [linIndex, addIncr, dotI]
  | _ :: _, _ :: _, [] => by simp [linIndex, addIncr, dotI]
  | b :: bs, i :: is, s :: ss => by
    simp only [linIndex, addIncr, List.zipWith_cons_cons, dotI]
    rw [linIndex_eq_dot bs is ss]
    rfl

/-- Fortran-order position of a multi-index -/
def ravel : List Axis → List Int → Int
  | a :: as, i :: is => i + (a.npt : Int) * ravel as is
  | _, _ => 0

theorem dot_strides : ∀ (axes : List Axis) (v : List Int) (s : Nat), axes.length = v.length →
    dotI v (strides s (axes.map (·.npt))) = (s : Int) * ravel axes v
  | [], [], s, _ => by simp [dotI, ravel]
  | a :: as, i :: is, s, h => by
    have hl : as.length = is.length := by simpa using h
    simp only [List.map_cons, strides, dotI, ravel]
    rw [dot_strides as is (s * a.npt) hl]
    push_cast
    ring

theorem flatMap_block {α β : Type} (g : α → List β) (n : Nat) (hg : ∀ a, (g a).length = n) :
    ∀ (l : List α) (i j : Nat), i < n → (l.flatMap g)[i + n * j]? = (l[j]?).bind (fun a => (g a)[i]?)
  | [], i, j, _ => by simp
  | a :: l, i, 0, hi => by
    simp only [List.flatMap_cons, Nat.mul_zero, Nat.add_zero, List.getElem?_cons_zero, Option.bind_some]
    exact List.getElem?_append_left (by rw [hg]; exact hi)
  | a :: l, i, j + 1, hi => by
    simp only [List.flatMap_cons, List.getElem?_cons_succ]
    rw [List.getElem?_append_right (by rw [hg, Nat.mul_succ]; omega), hg,
      show i + n * (j + 1) - n = i + n * j by rw [Nat.mul_succ]; omega]
    exact flatMap_block g n hg l i j hi

theorem flatMap_block_length {α β : Type} (g : α → List β) (n : Nat) (hg : ∀ a, (g a).length = n) :
    ∀ (l : List α), (l.flatMap g).length = n * l.length
  | [] => by simp
  | a :: l => by
    simp only [List.flatMap_cons, List.length_append, hg, List.length_cons,
      flatMap_block_length g n hg l]
    ring

theorem coords_length_cons (a : Axis) (rest : List Axis) :
    (coords (a :: rest)).length = a.npt * (coords rest).length := by
  simp only [coords]
  exact flatMap_block_length _ a.npt (fun ys => by simp) _

theorem length_of_mem_coords : ∀ (axes : List Axis) (p : List Rat), p ∈ coords axes → p.length = axes.length
  | [], p, hp => by rw [List.mem_singleton.mp hp]; rfl
  | a :: as, p, hp => by
    simp only [coords, List.mem_flatMap, List.mem_map] at hp
    obtain ⟨ys, hys, i, _, rfl⟩ := hp
    exact congrArg (· + 1) (length_of_mem_coords as ys hys)

/-- the value stored at the linear index of a multi-index of the grid is the value at that grid
    point: `zip(*self._coord)` enumerates the grid in Fortran order -/
theorem coords_get : ∀ (axes : List Axis) (v : List Int), inGrid axes v →
    0 ≤ ravel axes v ∧ ravel axes v < ((coords axes).length : Int) ∧
      (coords axes)[(ravel axes v).toNat]? = some (gridPt axes v)
  | [], [], _ => ⟨Int.le_refl 0, Int.zero_lt_one, rfl⟩
  | a :: as, i :: is, h => by
    obtain ⟨hi0, hin, hrest⟩ := h
    obtain ⟨hr0, hrl, hget⟩ := coords_get as is hrest
    -- in natural numbers: `i = n < npt`, `ravel as is = m < length`
    obtain ⟨n, rfl⟩ := Int.eq_ofNat_of_zero_le hi0
    obtain ⟨m, hm⟩ := Int.eq_ofNat_of_zero_le hr0
    rw [hm] at hrl hget
    rw [Int.toNat_natCast] at hget
    have hn : n < a.npt := Int.ofNat_lt.mp hin
    have hml : m < (coords as).length := Int.ofNat_lt.mp hrl
    have hrav : ravel (a :: as) ((n : Int) :: is) = ((n + a.npt * m : Nat) : Int) := by
      show (n : Int) + a.npt * ravel as is = _
      rw [hm, Int.natCast_add, Int.natCast_mul]
    have hlt : n + a.npt * m < a.npt * (coords as).length :=
      calc n + a.npt * m < a.npt + a.npt * m := Nat.add_lt_add_right hn _
        _ = a.npt * (m + 1) := by rw [Nat.mul_succ, Nat.add_comm]
        _ ≤ a.npt * (coords as).length := Nat.mul_le_mul_left _ hml
    rw [hrav, coords_length_cons, Int.toNat_natCast]
    refine ⟨Int.natCast_nonneg _, Int.ofNat_lt.mpr hlt, ?_⟩
    show (List.flatMap _ (coords as))[n + a.npt * m]? = _
    rw [flatMap_block _ a.npt (fun ys => by rw [List.length_map, List.length_range]) _ n m hn, hget,
      Option.bind_some, List.getElem?_map, List.getElem?_range hn]
    rfl

theorem h_pos (a : Axis) (hn : 2 ≤ a.npt) (hlh : a.low < a.high) : 0 < a.h := by
  unfold Axis.h
  have : (2 : Rat) ≤ (a.npt : Rat) := by exact_mod_cast hn
  apply div_pos <;> linarith

theorem npt_mul_h (a : Axis) (hn : 2 ≤ a.npt) : ((a.npt : Rat) - 1) * a.h = a.high - a.low := by
  have h2 : (2 : Rat) ≤ (a.npt : Rat) := by exact_mod_cast hn
  have hne : (a.npt : Rat) - 1 ≠ 0 := by linarith
  unfold Axis.h
  field_simp

/-- the right weight is the position in mesh widths, counted from the base vertex -/
theorem rightWeight_eq (a : Axis) (x : Rat) (b : Int) (hh : a.h ≠ 0) :
    a.rightWeight x b = (x - a.low) / a.h - b := by
  unfold Axis.rightWeight Axis.pt
  field_simp
  ring

/-- `min ⌊q⌋ n` for `0 ≤ q ≤ n + 1`: the clamp is active only at the upper end `q = n + 1` -/
theorem clamp_floor (q : Rat) (n : Int) (hn : 0 ≤ n) (h0 : 0 ≤ q) (hq : q ≤ n + 1) :
    0 ≤ min q.floor n ∧ 0 ≤ q - (min q.floor n : Int) ∧ q - (min q.floor n : Int) ≤ 1 ∧
      (min q.floor n = q.floor ∨ (q = n + 1 ∧ q.floor = n + 1 ∧ min q.floor n = n)) := by
  have hfl : (q.floor : Rat) ≤ q := Rat.floor_le q
  rcases le_or_gt q.floor n with h | h
  · rw [min_eq_left h]
    have hlt := Rat.lt_floor_add_one q
    push_cast at hlt
    exact ⟨Rat.le_floor_iff.mpr h0, sub_nonneg.mpr hfl, sub_le_iff_le_add'.mpr hlt.le, Or.inl rfl⟩
  · rw [min_eq_right h.le]
    have hf : q.floor = n + 1 := by
      have : q.floor ≤ n + 1 := by exact_mod_cast hfl.trans hq
      omega
    rw [hf] at hfl
    push_cast at hfl
    have hq' : q = n + 1 := le_antisymm hq hfl
    have e : q - (n : Rat) = 1 := by rw [hq', add_sub_cancel_left]
    exact ⟨hn, e ▸ zero_le_one, e.le, Or.inr ⟨hq', hf, rfl⟩⟩

/-- For `x` in `[low, high]`: base index and right weight are in range, and the base index is the plain
    floor except at `x = high`, where it is one less (and the two weights are 1 and 0). -/
theorem axis_facts (a : Axis) (x : Rat) (hn : 2 ≤ a.npt) (hlh : a.low < a.high)
    (hx : a.low ≤ x) (hx2 : x ≤ a.high) :
    (0 ≤ a.base x ∧ a.base x ≤ (a.npt : Int) - 2 ∧
      0 ≤ a.rightWeight x (a.base x) ∧ a.rightWeight x (a.base x) ≤ 1) ∧
    (a.base x = ((x - a.low) / a.h).floor ∨
      (x = a.high ∧ a.rightWeight x (a.base x) = 1 ∧ a.rightWeight x ((x - a.low) / a.h).floor = 0 ∧
        ((x - a.low) / a.h).floor = a.base x + 1)) := by
  have hh := h_pos a hn hlh
  have hnh := npt_mul_h a hn
  have hn' : (0 : Int) ≤ (a.npt : Int) - 2 := by omega
  have hc : (((a.npt : Int) - 2 : Int) : Rat) + 1 = (a.npt : Rat) - 1 := by push_cast; ring
  have hq : (x - a.low) / a.h ≤ ((a.npt : Int) - 2 : Int) + 1 := by
    rw [hc, div_le_iff₀ hh, hnh]; exact sub_le_sub_right hx2 _
  obtain ⟨c1, c2, c3, c4⟩ := clamp_floor _ _ hn' (div_nonneg (sub_nonneg.mpr hx) hh.le) hq
  have hb : a.base x = min ((x - a.low) / a.h).floor ((a.npt : Int) - 2) := by
    unfold Axis.base; rw [max_eq_left hn']
  rw [rightWeight_eq a x _ hh.ne', rightWeight_eq a x _ hh.ne', hb]
  refine ⟨⟨c1, min_le_right _ _, c2, c3⟩, ?_⟩
  rcases c4 with h | ⟨h1, h2, h3⟩
  · exact Or.inl h
  · refine Or.inr ⟨?_, ?_, ?_, by rw [h3, h2]⟩
    · rw [hc, div_eq_iff hh.ne', hnh] at h1
      exact sub_left_inj.mp h1
    · rw [h3, h1]; ring
    · rw [h2, h1]; push_cast; ring

theorem inGrid_length : ∀ (axes : List Axis) (v : List Int), inGrid axes v → axes.length = v.length
  | [], [], _ => rfl
  | a :: as, i :: is, h => by simp [inGrid_length as is h.2.2]

theorem row_lookup (axes : List Axis) (f : List Rat → Rat) (v : List Int) (hv : inGrid axes v) :
    let k := dotI v (strides 1 (axes.map (·.npt)))
    0 ≤ k ∧ k < (((coords axes).map f).length : Int) ∧ ((coords axes).map f).getD k.toNat 0 = f (gridPt axes v) := by
  intro k
  have hk : k = ravel axes v := by
    show dotI v (strides 1 (axes.map (·.npt))) = _
    rw [dot_strides axes v 1 (inGrid_length axes v hv)]; simp
  obtain ⟨h0, h1, h2⟩ := coords_get axes v hv
  rw [hk, List.length_map]
  refine ⟨h0, h1, ?_⟩
  rw [List.getD_eq_getElem?_getD, List.getElem?_map, h2]
  rfl

theorem interpRow_eq (axes : List Axis) (f : List Rat → Rat) (b : List Int) (rw : List Rat)
    (hl : rw.length = b.length) (hall : ∀ incr ∈ incrs b.length, inGrid axes (addIncr b incr)) :
    interpRow ((coords axes).map f) (strides 1 (axes.map (·.npt))) b rw =
      .ok (wsum (rw.zip b) (fun v => f (gridPt axes v))) := by
  unfold interpRow
  simp only [List.any_map, List.map_map]
  rw [if_neg]
  · congr 1
    rw [← enum_wsum b rw _ hl]
    apply sumQ_map_congr
    intro incr hi
    obtain ⟨_, h1, h2⟩ := row_lookup axes f _ (hall incr hi)
    simp only [Function.comp, linIndex_eq_dot]
    rw [if_pos h1, h2]
  · rw [List.any_eq_true]
    rintro ⟨incr, hi, hbad⟩
    obtain ⟨_, h1, _⟩ := row_lookup axes f _ (hall incr hi)
    simp only [Function.comp, linIndex_eq_dot, Bool.and_eq_true, Bool.not_eq_true', decide_eq_false_iff_not] at hbad
    exact hbad.1 h1

theorem gradRow_eq (axes : List Axis) (f : List Rat → Rat) (b : List Int) (rw : List Rat) (k : Nat) (hk : Rat)
    (hl : rw.length = b.length) (hkl : k < b.length)
    (hall : ∀ incr ∈ incrs b.length, inGrid axes (addIncr b incr)) :
    gradRow ((coords axes).map f) (strides 1 (axes.map (·.npt))) b rw k hk =
      .ok (gsum k rw b (fun v => f (gridPt axes v)) / hk) := by
  unfold gradRow
  simp only [List.any_map, List.map_map]
  rw [if_neg]
  · congr 2
    rw [← enum_gsum k b rw _ hl hkl]
    apply sumQ_map_congr
    intro incr hi
    obtain ⟨_, _, h2⟩ := row_lookup axes f _ (hall incr hi)
    simp only [Function.comp, linIndex_eq_dot]
    rw [h2]
  · rw [List.any_eq_true]
    rintro ⟨incr, hi, hbad⟩
    obtain ⟨h0, h1, _⟩ := row_lookup axes f _ (hall incr hi)
    simp only [Function.comp, linIndex_eq_dot, Bool.not_eq_true', Bool.and_eq_false_iff, decide_eq_false_iff_not] at hbad
    rcases hbad with h | h
    · exact h h0
    · exact h h1

theorem inRange_iff (a : Axis) (x : Rat) : a.inRange x = true ↔ a.low ≤ x ∧ x ≤ a.high := by
  unfold Axis.inRange
  simp only [Bool.not_eq_true', Bool.or_eq_false_iff, decide_eq_false_iff_not, not_lt]

/-- a well-formed grid and a point of its box, one axis split off -/
theorem box_cons {a : Axis} {as : List Axis} {x : Rat} {xs : List Rat} (hwf : WF (a :: as))
    (hbox : inBox (a :: as) (x :: xs) = true) :
    (2 ≤ a.npt ∧ a.low < a.high ∧ a.low ≤ x ∧ x ≤ a.high) ∧ WF as ∧ inBox as xs = true := by
  simp only [inBox, Bool.and_eq_true, inRange_iff] at hbox
  obtain ⟨hn, hlh⟩ := hwf a List.mem_cons_self
  exact ⟨⟨hn, hlh, hbox.1.1, hbox.1.2⟩, fun b hb => hwf b (List.mem_cons_of_mem _ hb), hbox.2⟩

theorem point_facts : ∀ (axes : List Axis) (x : List Rat), WF axes → axes.length = x.length →
    inBox axes x = true →
    (bases axes x).length = x.length ∧ (rightWeights axes x (bases axes x)).length = x.length ∧
    weightsOk (rightWeights axes x (bases axes x)) = true ∧
    (∀ w ∈ rightWeights axes x (bases axes x), 0 ≤ w ∧ w ≤ 1) ∧
    ∀ incr ∈ incrs x.length, inGrid axes (addIncr (bases axes x) incr)
  | [], [], _, _, _ => by
    refine ⟨rfl, rfl, rfl, fun _ hw => absurd hw List.not_mem_nil, ?_⟩
    intro incr hi
    rw [List.mem_singleton.mp hi]
    trivial
  | a :: as, x :: xs, hwf, hl, hbox => by
    obtain ⟨⟨hn, hlh, hx1, hx2⟩, hwf', hbox'⟩ := box_cons hwf hbox
    obtain ⟨hb0, hb1, hw0, hw1⟩ := (axis_facts a x hn hlh hx1 hx2).1
    obtain ⟨i1, i2, i3, i4, i5⟩ := point_facts as xs hwf' (Nat.succ.inj hl) hbox'
    refine ⟨congrArg (· + 1) i1, congrArg (· + 1) i2, (weightsOk_cons _ _).mpr ⟨tol_margin hw0 hw1, i3⟩, ?_,
      forall_incrs_succ.mpr fun is his => ?_⟩
    · intro w hw
      rcases List.mem_cons.mp hw with rfl | hw
      · exact ⟨hw0, hw1⟩
      · exact i4 w hw
    · rw [bases, addIncr_cons, addIncr_cons]
      exact ⟨⟨by omega, by omega, i5 is his⟩, ⟨by omega, by omega, i5 is his⟩⟩

theorem WF.h_ne {axes : List Axis} (hwf : WF axes) : ∀ a ∈ axes, a.h ≠ 0 :=
  fun a ha => (h_pos a (hwf a ha).1 (hwf a ha).2).ne'

/-- the two guards of `interpolate` / `gradient` pass for points of the closed box -/
theorem guards_pass (axes : List Axis) (xs : List (List Rat)) (hwf : WF axes)
    (hx : ∀ x ∈ xs, x.length = axes.length ∧ inBox axes x = true) :
    xs.all (inBox axes) = true ∧
    (xs.map (fun x => (bases axes x, rightWeights axes x (bases axes x)))).all (fun p => weightsOk p.2) = true := by
  constructor
  · exact List.all_eq_true.mpr (fun x hx' => (hx x hx').2)
  · rw [List.all_map, List.all_eq_true]
    intro x hx'
    exact (point_facts axes x hwf (hx x hx').1.symm (hx x hx').2).2.2.1

/-- the standard table interpolates and differentiates in the cell with the clamped base vertex -/
theorem std_answer_cell (axes : List Axis) (fs : List (List Rat → Rat)) (q : Query) (hwf : WF axes)
    (hq : q.inBox axes) : (mkTable axes fs).answer q = idealAnswer axes (bases axes) fs q := by
  obtain ⟨g1, g2⟩ := guards_pass axes q.points hwf hq
  cases q with
  | interp xs =>
    simp only [Query.points] at g1 g2
    unfold Table.answer Table.interpolate mkTable rowsPoints idealAnswer
    simp only [g1, g2, Bool.not_true, Bool.false_eq_true, if_false]
    apply Common.mapM_map_eq_pure
    intro f _
    apply Common.mapM_map_eq_pure
    intro x hx'
    obtain ⟨i1, i2, _, _, i5⟩ := point_facts axes x hwf (hq x hx').1.symm (hq x hx').2
    exact interpRow_eq axes f _ _ (by rw [i1, i2]) (by rw [i1]; exact i5)
  | grad xs k =>
    simp only [Query.points] at g1 g2
    unfold Table.answer Table.gradient mkTable rowsPoints idealAnswer
    simp only [g1, g2, Bool.not_true, Bool.false_eq_true, if_false]
    cases hk : axes[k]? with
    | none => rfl
    | some ax =>
      simp only
      have hkl : k < axes.length := (List.getElem?_eq_some_iff.mp hk).1
      apply Common.mapM_map_eq_pure
      intro f _
      apply Common.mapM_map_eq_pure
      intro x hx'
      obtain ⟨i1, i2, _, _, i5⟩ := point_facts axes x hwf (hq x hx').1.symm (hq x hx').2
      exact gradRow_eq axes f _ _ k ax.h (by rw [i1, i2]) (by rw [i1, (hq x hx').1]; exact hkl)
        (by rw [i1]; exact i5)

theorem wfB_iff (axes : List Axis) : wfB axes = true ↔ WF axes := by
  unfold wfB WF
  simp only [List.all_eq_true, Bool.and_eq_true, decide_eq_true_eq]

theorem inBoxB_iff (axes : List Axis) (q : Query) : q.inBoxB axes = true ↔ q.inBox axes := by
  unfold Query.inBoxB Query.inBox
  simp only [List.all_eq_true, Bool.and_eq_true, decide_eq_true_eq]

theorem axisOkB_iff (d : Nat) (q : Query) : q.axisOkB d = true ↔ q.axisOk d := by
  cases q <;> simp [Query.axisOkB, Query.axisOk]

end PorepyVerif.C41
