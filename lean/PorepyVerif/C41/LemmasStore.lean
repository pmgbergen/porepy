/-
C41 — the adaptive table on the C46 sparse array.  `Inv` (Model.lean) says what is stored; `fillWith_inv` is its
one preservation lemma, for any selection `B` of base vertices (`GoodSel`: what a selection must contain; safeguarded and
plain selections do), with `add_perm` the one fact about `SparseNdArray.add`.  A table that is `Ready` for a batch of
points (invariant, and every vertex of their cells stored) answers with the cell sums over the floored cell
(`interpStored_eq`, `gradStored_eq`).  `assign_eq_fill`: feeding the values from outside builds the same table.
-/
import PorepyVerif.C41.LemmasCell
import PorepyVerif.C46.LemmasOrder
import PorepyVerif.Common.List
import PorepyVerif.Common.Except

namespace PorepyVerif.C41
open PorepyVerif.C46 (Coord Store)
open PorepyVerif

theorem get1_map (F : Coord → Rat) : ∀ (K : List Coord) (c : Coord),
    C46.get1 (K.map (fun i => (i, F i))) c = if c ∈ K then some (F c) else none
  | [], c => by simp [C46.get1]
  | k :: K, c => by
    simp only [List.map_cons, C46.get1, List.mem_cons]
    by_cases h : k = c
    · subst h; simp
    · have : ¬ c = k := fun e => h e.symm
      simp only [h, if_false, this, false_or]
      exact get1_map F K c

theorem combine_map (F : Coord → Rat) (ks : List Coord) (hn : ks.Nodup) (u : Coord) (hu : u ∈ ks) :
    C46.combine false (ks.map (fun k => (k, F k))) u = F u := by
  have hv : C46.vals u (ks.map (fun k => (k, F k))) = [F u] := by
    unfold C46.vals
    rw [List.filter_map, List.map_map]
    show (ks.filter (· = u)).map F = _
    rw [List.filter_eq, hn.count, if_pos hu]
    rfl
  unfold C46.combine
  rw [hv]
  rfl

/-- `SparseNdArray.add` of new, distinct coordinates given in ANY order stores them in sorted order and
    returns, for each stored column, its position in the batch. -/
theorem add_perm (s : Store) (q inds : List Coord) (F : Coord → Rat) (hs : (s.map (·.1)).Nodup)
    (hp : inds.Perm q) (hq : C46.SortedLt q) (hfresh : ∀ k ∈ q, k ∉ s.map (·.1)) :
    C46.add s (inds.map (fun k => (k, F k))) false =
      (s ++ q.map (fun k => (k, F k)), q.map (fun u => inds.idxOf u)) := by
  have hk : (inds.map (fun k => (k, F k))).map (·.1) = inds := by
    rw [List.map_map]
    exact List.map_id inds
  have hf : C46.freshCoords s inds = q :=
    C46.sortedLt_unique _ _ (C46.sortedLt_freshCoords s inds) hq fun c => by
      rw [C46.mem_freshCoords, hp.mem_iff]
      exact and_iff_left_of_imp fun hc => (C46.get1_eq_none_iff s c).mpr (hfresh c hc)
  refine Prod.ext ?_ ?_
  · -- C46: the stored pairs, updated, followed by the fresh coordinates; here no stored pair is touched
    rw [C46.add_storage_eq s _ false hs, hk, hf]
    congr 1
    · refine (List.map_congr_left fun p hp' => ?_).trans (List.map_id s)
      show (p.1, C46.updated false _ p) = p
      have : p.1 ∉ inds := fun h => hfresh p.1 (hp.mem_iff.mp h) (List.mem_map_of_mem hp')
      unfold C46.updated
      rw [hk, if_neg this]
    · exact List.map_congr_left fun u hu =>
        congrArg (u, ·) (combine_map F inds (hp.nodup_iff.mpr hq.nodup) u (hp.mem_iff.mpr hu))
  · show (C46.freshCoords s ((inds.map (fun k => (k, F k))).map (·.1))).map _ = _
    rw [hk, hf]

theorem floorIdx_length : ∀ (bp h x : List Rat), bp.length = h.length → x.length = h.length →
    (floorIdx bp h x).length = h.length
  | [], [], [], _, _ => rfl
  | _ :: bp, _ :: hs, _ :: xs, h1, h2 =>
    congrArg (· + 1) (floorIdx_length bp hs xs (Nat.succ.inj h1) (Nat.succ.inj h2))

theorem danger_length : ∀ (bp h x : List Rat), bp.length = h.length → x.length = h.length →
    (danger bp h x).length = h.length
  | [], [], [], _, _ => rfl
  | _ :: bp, _ :: hs, _ :: xs, h1, h2 =>
    congrArg (· + 1) (danger_length bp hs xs (Nat.succ.inj h1) (Nat.succ.inj h2))

/-- `_find_base_vertex` recovers the index of a grid node from its coordinates -/
theorem floorIdx_coordOf : ∀ (bp h : List Rat) (i : Coord), bp.length = h.length → i.length = h.length →
    (∀ hk ∈ h, hk ≠ 0) → floorIdx bp h (coordOf bp h i) = i
  | [], [], [], _, _, _ => rfl
  | b :: bp, h :: hs, i :: is, h1, h2, hne => by
    have hh : h ≠ 0 := hne h List.mem_cons_self
    have e : (b + h * (i : Rat) - b) / h = (i : Rat) := by rw [add_sub_cancel_left, mul_div_cancel_left₀ _ hh]
    simp only [coordOf, floorIdx, e, Rat.floor_intCast]
    rw [floorIdx_coordOf bp hs is (Nat.succ.inj h1) (Nat.succ.inj h2)
      (fun hk hm => hne hk (List.mem_cons_of_mem _ hm))]

theorem coordOf_inj (bp h : List Rat) (i j : Coord) (h1 : bp.length = h.length) (h2 : i.length = h.length)
    (h3 : j.length = h.length) (hne : ∀ hk ∈ h, hk ≠ 0) (he : coordOf bp h i = coordOf bp h j) : i = j := by
  rw [← floorIdx_coordOf bp h i h1 h2 hne, he, floorIdx_coordOf bp h j h1 h3 hne]

theorem mem_map_cons {a b : Int} {l : List Int} {L : List (List Int)} :
    a :: l ∈ L.map (b :: ·) ↔ a = b ∧ l ∈ L := by
  rw [List.mem_map]
  constructor
  · rintro ⟨w, hw, e⟩
    obtain ⟨rfl, rfl⟩ := List.cons.inj e
    exact ⟨rfl, hw⟩
  · rintro ⟨rfl, h⟩
    exact ⟨l, h, rfl⟩

theorem mem_bumps_iff : ∀ (dg : List Bool) (v : List Int), v ∈ bumps dg ↔ IsBump dg v
  | [], v => by cases v <;> simp [bumps, IsBump]
  | d :: ds, [] => by
    simp only [bumps, IsBump, iff_false]
    split <;> simp
  | d :: ds, i :: is => by
    rw [IsBump, ← mem_bumps_iff ds is, bumps]
    cases d
    · simp only [Bool.false_eq_true, if_false, mem_map_cons, and_false, or_false]
    · simp only [if_true, List.mem_append, mem_map_cons, and_true, or_and_right]

theorem IsBump.length : ∀ {dg : List Bool} {v : List Int}, IsBump dg v → v.length = dg.length
  | [], [], _ => rfl
  | [], _ :: _, h => h.elim
  | _ :: _, [], h => h.elim
  | _ :: _, _ :: _, h => congrArg (· + 1) (IsBump.length h.2)

theorem isBump_zeros : ∀ (dg : List Bool), IsBump dg (List.replicate dg.length 0)
  | [] => trivial
  | _ :: dg => ⟨Or.inl rfl, isBump_zeros dg⟩

theorem mem_safeBases_iff (T : ATable) (xs : List (List Rat)) (b : Coord) :
    b ∈ safeBases T xs ↔
      if safeGuard T xs = true then
        ∃ x ∈ xs, ∃ v, IsBump (danger T.basePt T.h x) v ∧ b = addIncr (floorIdx T.basePt T.h x) v
      else ∃ x ∈ xs, b = floorIdx T.basePt T.h x := by
  unfold safeBases safeGuard
  simp only
  split
  · simp only [List.mem_flatMap, List.mem_map, List.zip_map']
    constructor
    · rintro ⟨p, ⟨x, hx, rfl⟩, v, hv, rfl⟩
      exact ⟨x, hx, v, (mem_bumps_iff _ _).mp hv, rfl⟩
    · rintro ⟨x, hx, v, hv, rfl⟩
      exact ⟨_, ⟨x, hx, rfl⟩, v, (mem_bumps_iff _ _).mpr hv, rfl⟩
  · simp only [List.mem_map]
    constructor
    · rintro ⟨x, hx, rfl⟩; exact ⟨x, hx, rfl⟩
    · rintro ⟨x, hx, rfl⟩; exact ⟨x, hx, rfl⟩

theorem safeBases_length (T : ATable) (hg : Geo T) (xs : List (List Rat))
    (hx : ∀ x ∈ xs, x.length = T.h.length) : ∀ b ∈ safeBases T xs, b.length = T.h.length := by
  intro b hb
  rw [mem_safeBases_iff] at hb
  split at hb
  · obtain ⟨x, hx1, v, hv, rfl⟩ := hb
    have hf := floorIdx_length _ _ _ hg.hb (hx x hx1)
    rw [addIncr_length _ _ (by rw [hf, hv.length, danger_length _ _ _ hg.hb (hx x hx1)]), hf]
  · obtain ⟨x, hx1, rfl⟩ := hb
    exact floorIdx_length _ _ _ hg.hb (hx x hx1)

theorem floor_mem_safeBases (T : ATable) (hg : Geo T) (xs : List (List Rat))
    (hx : ∀ x ∈ xs, x.length = T.h.length) : ∀ x ∈ xs, floorIdx T.basePt T.h x ∈ safeBases T xs := by
  intro x hx1
  rw [mem_safeBases_iff]
  split
  · refine ⟨x, hx1, _, isBump_zeros _, ?_⟩
    rw [danger_length _ _ _ hg.hb (hx x hx1), ← floorIdx_length _ _ _ hg.hb (hx x hx1), addIncr_zeros]
  · exact ⟨x, hx1, rfl⟩

theorem mem_neededOf (d : Nat) (B : List Coord) (i : Coord) :
    i ∈ neededOf d B ↔ ∃ b ∈ B, ∃ incr ∈ incrs d, i = addIncr b incr := by
  unfold neededOf
  rw [C46.mem_uniqueCoords]
  simp only [List.mem_flatMap, hyper, List.mem_map]
  constructor
  · rintro ⟨b, hb, incr, hi, rfl⟩; exact ⟨b, hb, incr, hi, rfl⟩
  · rintro ⟨b, hb, incr, hi, rfl⟩; exact ⟨b, hb, incr, hi, rfl⟩

theorem neededOf_length (d : Nat) (B : List Coord) (hB : ∀ b ∈ B, b.length = d) :
    ∀ i ∈ neededOf d B, i.length = d := by
  intro i hi
  obtain ⟨b, hb, incr, hinc, rfl⟩ := (mem_neededOf d B i).mp hi
  have l1 := hB b hb
  rw [addIncr_length _ _ (by rw [l1, incrs_length _ _ hinc]), l1]

theorem mem_needed (T : ATable) (xs : List (List Rat)) (i : Coord) :
    i ∈ needed T xs ↔ ∃ b ∈ safeBases T xs, ∃ incr ∈ incrs T.h.length, i = addIncr b incr :=
  mem_neededOf _ _ i

theorem rowOf_keys (bp h : List Rat) (K : List Coord) (f : List Rat → Rat) :
    (rowOf bp h K f).map (·.1) = K := by
  unfold rowOf
  rw [List.map_map]
  have : ((fun p : Coord × Rat => p.1) ∘ fun i => (i, f (coordOf bp h i))) = id := rfl
  rw [this, List.map_id]

theorem Inv.keys_ne {fs : List (List Rat → Rat)} {T : ATable} {K : List Coord} (hI : Inv fs T K) (hfs : fs ≠ []) :
    T.keys = K := by
  unfold ATable.keys
  rw [hI.rows]
  cases fs with
  | nil => exact absurd rfl hfs
  | cons f fs => simp only [List.map_cons, List.headD_cons]; exact rowOf_keys _ _ _ _

theorem Inv.keys_sub {fs : List (List Rat → Rat)} {T : ATable} {K : List Coord} (hI : Inv fs T K) :
    ∀ i ∈ T.keys, i ∈ K := by
  cases fs with
  | nil =>
    intro i hi
    unfold ATable.keys at hi
    rw [hI.rows] at hi
    simp at hi
  | cons f fs => intro i hi; rw [hI.keys_ne (by simp)] at hi; exact hi

theorem empty_inv (h bp : List Rat) (fs : List (List Rat → Rat)) :
    Inv fs (ATable.empty h bp fs.length) [] := by
  refine ⟨?_, rfl, List.nodup_nil, by simp⟩
  simp only [ATable.empty]
  induction fs with
  | nil => rfl
  | cons f fs ih => simp only [List.length_cons, List.replicate_succ, List.map_cons, ih]; rfl

theorem quadPointsOf_fresh {fs : List (List Rat → Rat)} {T : ATable} {K : List Coord} (hI : Inv fs T K)
    (B : List Coord) : ∀ i ∈ quadPointsOf T B, i ∉ K := by
  intro i hi hK
  unfold quadPointsOf at hi
  rw [List.mem_filter] at hi
  have : coordOf T.basePt T.h i ∈ T.pt := by
    rw [hI.pt]
    exact List.mem_map.mpr ⟨i, hK, rfl⟩
  simp [this] at hi

theorem quadPoints_fresh {fs : List (List Rat → Rat)} {T : ATable} {K : List Coord} (hI : Inv fs T K)
    (xs : List (List Rat)) : ∀ i ∈ quadPoints T xs, i ∉ K := quadPointsOf_fresh hI _

theorem quadPointsOf_sorted (T : ATable) (B : List Coord) : C46.SortedLt (quadPointsOf T B) :=
  (C46.sortedLt_uniqueCoords _).sublist List.filter_sublist

theorem fillWith_h (T : ATable) (fs : List (List Rat → Rat)) (B : List Coord) : (fillWith T fs B).h = T.h := by
  unfold fillWith; simp only; split <;> rfl

theorem fillWith_basePt (T : ATable) (fs : List (List Rat → Rat)) (B : List Coord) :
    (fillWith T fs B).basePt = T.basePt := by
  unfold fillWith; simp only; split <;> rfl

/-- `_fill_values` (for any choice `B` of base vertices with `d` entries each) keeps the invariant, appends
    exactly the new quadrature points, and afterwards every vertex of the hypercube of every base vertex
    in `B` is stored. -/
theorem fillWith_inv {fs : List (List Rat → Rat)} {T : ATable} {K : List Coord} (hg : Geo T) (hI : Inv fs T K)
    (B : List Coord) (hB : ∀ b ∈ B, b.length = T.h.length) :
    Inv fs (fillWith T fs B) (K ++ quadPointsOf T B) ∧
    ∀ b ∈ B, ∀ incr ∈ incrs T.h.length, addIncr b incr ∈ K ++ quadPointsOf T B := by
  have hfresh := quadPointsOf_fresh hI B
  have htodo : (quadPointsOf T B).filter (fun i => !(T.keys.contains i)) = quadPointsOf T B := by
    rw [List.filter_eq_self]
    intro i hi
    have : ¬ i ∈ T.keys := fun h => hfresh i hi (hI.keys_sub i h)
    simp [this]
  have hsub : ∀ i ∈ quadPointsOf T B, i ∈ neededOf T.h.length B := fun i hi => (List.mem_filter.mp hi).1
  have hnd : (K ++ quadPointsOf T B).Nodup := by
    rw [List.nodup_append]
    refine ⟨hI.nodup, (quadPointsOf_sorted T B).nodup, ?_⟩
    intro a ha b hb e
    subst e
    exact hfresh a hb ha
  have hlen : ∀ i ∈ K ++ quadPointsOf T B, i.length = T.h.length := by
    intro i hi
    rcases List.mem_append.mp hi with h | h
    · exact hI.len i h
    · exact neededOf_length _ B hB i (hsub i h)
  have hmem : ∀ b ∈ B, ∀ incr ∈ incrs T.h.length, addIncr b incr ∈ K ++ quadPointsOf T B := by
    intro b hb incr hinc
    have hn : addIncr b incr ∈ neededOf T.h.length B := (mem_neededOf _ _ _).mpr ⟨b, hb, incr, hinc, rfl⟩
    by_cases hK : addIncr b incr ∈ K
    · exact List.mem_append_left _ hK
    · refine List.mem_append_right _ ?_
      unfold quadPointsOf
      rw [List.mem_filter]
      refine ⟨hn, ?_⟩
      have : ¬ coordOf T.basePt T.h (addIncr b incr) ∈ T.pt := by
        rw [hI.pt]
        intro hm
        obtain ⟨k, hk, he⟩ := List.mem_map.mp hm
        have := coordOf_inj T.basePt T.h _ _ hg.hb (hI.len k hk) (neededOf_length _ B hB _ hn) hg.hne he
        exact hK (this ▸ hk)
      simp [this]
  unfold fillWith
  simp only [htodo]
  by_cases hemp : (quadPointsOf T B).isEmpty = true
  · rw [if_pos hemp]
    have : quadPointsOf T B = [] := List.isEmpty_iff.mp hemp
    rw [this, List.append_nil] at hnd hlen hmem ⊢
    exact ⟨hI, hmem⟩
  · rw [if_neg hemp]
    refine ⟨⟨?_, ?_, hnd, hlen⟩, hmem⟩
    · simp only
      rw [hI.rows, List.zipWith_map_left, List.zipWith_self]
      apply List.map_congr_left
      intro f _
      rw [add_perm _ _ _ (fun i => f (coordOf T.basePt T.h i)) (by rw [rowOf_keys]; exact hI.nodup) (.refl _)
        (quadPointsOf_sorted T B) (by intro k hk; rw [rowOf_keys]; exact hfresh k hk)]
      simp [rowOf]
    · simp only
      rw [hI.pt, List.map_append]

theorem fill_inv {fs : List (List Rat → Rat)} {T : ATable} {K : List Coord} (hg : Geo T) (hI : Inv fs T K)
    (xs : List (List Rat)) (hx : ∀ x ∈ xs, x.length = T.h.length) :
    (fill T fs xs).h = T.h ∧ (fill T fs xs).basePt = T.basePt ∧
    Inv fs (fill T fs xs) (K ++ quadPoints T xs) ∧
    ∀ x ∈ xs, ∀ incr ∈ incrs T.h.length,
      addIncr (floorIdx T.basePt T.h x) incr ∈ K ++ quadPoints T xs := by
  obtain ⟨hI', hmem⟩ := fillWith_inv (fs := fs) hg hI (safeBases T xs) (safeBases_length T hg xs hx)
  exact ⟨fillWith_h .., fillWith_basePt .., hI', fun x hx1 => hmem _ (floor_mem_safeBases T hg xs hx x hx1)⟩

/-- right weights of the adaptive table at a point -/
def aw (T : ATable) (x : List Rat) : List Rat :=
  aRightWeights x (coordOf T.basePt T.h (floorIdx T.basePt T.h x)) T.h

/-- the weight of a point relative to its floored index lies in `[0, 1)` -/
theorem floor_weight (x b h : Rat) (hh : h ≠ 0) :
    0 ≤ (x - (b + h * (((x - b) / h).floor : Rat))) / h ∧
      (x - (b + h * (((x - b) / h).floor : Rat))) / h < 1 := by
  rw [sub_add_eq_sub_sub, sub_div, mul_div_cancel_left₀ _ hh]
  generalize (x - b) / h = q
  have hlt := Rat.lt_floor_add_one q
  push_cast at hlt
  exact ⟨sub_nonneg.mpr (Rat.floor_le q), sub_lt_iff_lt_add'.mpr hlt⟩

theorem aw_facts : ∀ (bp h x : List Rat), bp.length = h.length → x.length = h.length → (∀ hk ∈ h, hk ≠ 0) →
    (aRightWeights x (coordOf bp h (floorIdx bp h x)) h).length = h.length ∧
    weightsOk (aRightWeights x (coordOf bp h (floorIdx bp h x)) h) = true ∧
    ∀ w ∈ aRightWeights x (coordOf bp h (floorIdx bp h x)) h, 0 ≤ w ∧ w < 1
  | [], [], [], _, _, _ => ⟨rfl, rfl, fun _ hw => nomatch hw⟩
  | b :: bp, h :: hs, x :: xs, h1, h2, hne => by
    obtain ⟨i1, i2, i3⟩ := aw_facts bp hs xs (Nat.succ.inj h1) (Nat.succ.inj h2)
      (fun hk hm => hne hk (List.mem_cons_of_mem _ hm))
    obtain ⟨w0, w1⟩ := floor_weight x b h (hne h List.mem_cons_self)
    refine ⟨congrArg (· + 1) i1, (weightsOk_cons _ _).mpr ⟨tol_margin w0 w1.le, i2⟩, ?_⟩
    · intro w hw
      rcases List.mem_cons.mp hw with rfl | hw'
      · exact ⟨w0, w1⟩
      · exact i3 w hw'

theorem aInterpRow_eq (bp h : List Rat) (K : List Coord) (f : List Rat → Rat) (b : Coord) (rw : List Rat)
    (hl : rw.length = b.length) (hmem : ∀ incr ∈ incrs b.length, addIncr b incr ∈ K) :
    aInterpRow b.length (rowOf bp h K f) (b, rw) = .ok (wsum (rw.zip b) (fun v => f (coordOf bp h v))) := by
  unfold aInterpRow rowOf
  simp only [List.any_map, List.map_map]
  rw [if_neg]
  · congr 1
    rw [← enum_wsum b rw _ hl]
    apply sumQ_map_congr
    intro incr hi
    simp only [Function.comp, get1_map, if_pos (hmem incr hi), Option.getD_some]
  · rw [List.any_eq_true]
    rintro ⟨incr, hi, hbad⟩
    simp [Function.comp, get1_map, hmem incr hi] at hbad

theorem aGradRow_eq (bp h : List Rat) (K : List Coord) (f : List Rat → Rat) (b : Coord) (rw : List Rat)
    (k : Nat) (hk : Rat) (hl : rw.length = b.length) (hkl : k < b.length)
    (hmem : ∀ incr ∈ incrs b.length, addIncr b incr ∈ K) :
    aGradRow b.length k hk (rowOf bp h K f) (b, rw) =
      .ok (gsum k rw b (fun v => f (coordOf bp h v)) / hk) := by
  unfold aGradRow rowOf
  simp only [List.any_map, List.map_map]
  rw [if_neg]
  · congr 2
    rw [← enum_gsum k b rw _ hl hkl]
    apply sumQ_map_congr
    intro incr hi
    simp only [Function.comp, get1_map, if_pos (hmem incr hi), Option.getD_some]
  · rw [List.any_eq_true]
    rintro ⟨incr, hi, hbad⟩
    simp [Function.comp, get1_map, hmem incr hi] at hbad

/-- hypotheses under which a stored table answers: invariant, at least one component, all the
    hypercube vertices of the queried points stored -/
structure Ready (fs : List (List Rat → Rat)) (T : ATable) (K : List Coord) (xs : List (List Rat)) : Prop where
  geo : Geo T
  inv : Inv fs T K
  ne : fs ≠ []
  len : ∀ x ∈ xs, x.length = T.h.length
  mem : ∀ x ∈ xs, ∀ incr ∈ incrs T.h.length, addIncr (floorIdx T.basePt T.h x) incr ∈ K

theorem Ready.prep {fs T K xs} (hr : Ready fs T K xs) :
    xs.mapM (aPrep T) = .ok (xs.map (fun x => (floorIdx T.basePt T.h x, aw T x))) := by
  apply Common.mapM_eq_pure
  intro x hx1
  have hbl := floorIdx_length _ _ _ hr.geo.hb (hr.len x hx1)
  have hb : floorIdx T.basePt T.h x ∈ K := by
    have := hr.mem x hx1 _ (zeros_mem_incrs T.h.length)
    rwa [← hbl, addIncr_zeros] at this
  unfold aPrep
  simp only [hr.inv.keys_ne hr.ne, List.contains_iff_mem, hb, if_true]
  rw [hr.inv.pt, Common.getD_map_idxOf _ _ hb]
  rfl

theorem Ready.weights {fs T K xs} (hr : Ready fs T K xs) :
    (xs.map (fun x => (floorIdx T.basePt T.h x, aw T x))).all (fun p => weightsOk p.2) = true := by
  rw [List.all_map, List.all_eq_true]
  intro x hx1
  exact (aw_facts _ _ _ hr.geo.hb (hr.len x hx1) hr.geo.hne).2.1

theorem interpStored_eq {fs T K xs} (hr : Ready fs T K xs) :
    T.interpolateStored xs = .ok (fs.map (fun f => xs.map (fun x =>
      wsum ((aw T x).zip (floorIdx T.basePt T.h x)) (fun v => f (coordOf T.basePt T.h v))))) := by
  unfold ATable.interpolateStored
  rw [hr.prep]
  simp only [hr.weights, Bool.not_true, Bool.false_eq_true, if_false]
  rw [hr.inv.rows]
  apply Common.mapM_map_eq_pure
  intro f _
  apply Common.mapM_map_eq_pure
  intro x hx1
  have hbl := floorIdx_length _ _ _ hr.geo.hb (hr.len x hx1)
  have hwl := (aw_facts _ _ _ hr.geo.hb (hr.len x hx1) hr.geo.hne).1
  rw [← hbl]
  exact aInterpRow_eq _ _ K f _ _ (by unfold aw; rw [hwl, hbl]) (by rw [hbl]; exact hr.mem x hx1)

theorem gradStored_eq {fs T K xs} (hr : Ready fs T K xs) (k : Nat) :
    T.gradientStored xs k = match T.h[k]? with
      | none => .error .indexError
      | some hk => .ok (fs.map (fun f => xs.map (fun x =>
          gsum k (aw T x) (floorIdx T.basePt T.h x) (fun v => f (coordOf T.basePt T.h v)) / hk))) := by
  unfold ATable.gradientStored
  rw [hr.prep]
  simp only [hr.weights, Bool.not_true, Bool.false_eq_true, if_false]
  cases hkh : T.h[k]? with
  | none => rfl
  | some hk =>
    simp only
    rw [hr.inv.rows]
    have hkl : k < T.h.length := (List.getElem?_eq_some_iff.mp hkh).1
    apply Common.mapM_map_eq_pure
    intro f _
    apply Common.mapM_map_eq_pure
    intro x hx1
    have hbl := floorIdx_length _ _ _ hr.geo.hb (hr.len x hx1)
    have hwl := (aw_facts _ _ _ hr.geo.hb (hr.len x hx1) hr.geo.hne).1
    rw [← hbl]
    exact aGradRow_eq _ _ K f _ _ k hk (by unfold aw; rw [hwl, hbl]) (by rw [hbl]; exact hkl)
      (by rw [hbl]; exact hr.mem x hx1)

/-- after `_fill_values` the table is ready for the points whose floored base vertices were selected -/
theorem fillWith_ready {fs : List (List Rat → Rat)} {T : ATable} {K : List Coord} (hg : Geo T) (hI : Inv fs T K)
    (hfs : fs ≠ []) (B : List Coord) (hB : ∀ b ∈ B, b.length = T.h.length) (xs : List (List Rat))
    (hx : ∀ x ∈ xs, x.length = T.h.length) (hfl : ∀ x ∈ xs, floorIdx T.basePt T.h x ∈ B) :
    Ready fs (fillWith T fs B) (K ++ quadPointsOf T B) xs := by
  obtain ⟨hI', hmem⟩ := fillWith_inv (fs := fs) hg hI B hB
  have e1 := fillWith_h T fs B
  have e2 := fillWith_basePt T fs B
  exact ⟨⟨by rw [e1, e2]; exact hg.hb, by rw [e1]; exact hg.hne⟩, hI', hfs, by rw [e1]; exact hx,
    by rw [e1, e2]; exact fun x hx1 => hmem _ (hfl x hx1)⟩

theorem fill_ready {fs : List (List Rat → Rat)} {T : ATable} {K : List Coord} (hg : Geo T) (hI : Inv fs T K)
    (hfs : fs ≠ []) (xs : List (List Rat)) (hx : ∀ x ∈ xs, x.length = T.h.length) :
    Ready fs (fill T fs xs) (K ++ quadPoints T xs) xs :=
  fillWith_ready hg hI hfs _ (safeBases_length T hg xs hx) xs hx (floor_mem_safeBases T hg xs hx)

/-- a selection of base vertices for the filling step that is good enough: `d` entries per vertex, and the
    floored index of every queried point is among them -/
def GoodSel (sel : ATable → List (List Rat) → List Coord) : Prop :=
  ∀ (T : ATable) (xs : List (List Rat)), Geo T → (∀ x ∈ xs, x.length = T.h.length) →
    (∀ b ∈ sel T xs, b.length = T.h.length) ∧ ∀ x ∈ xs, floorIdx T.basePt T.h x ∈ sel T xs

theorem goodSel_safe : GoodSel safeBases :=
  fun T xs hg hx => ⟨safeBases_length T hg xs hx, floor_mem_safeBases T hg xs hx⟩

theorem goodSel_plain : GoodSel plainBases :=
  fun T xs hg hx => ⟨fun b hb => by
      obtain ⟨x, hx1, rfl⟩ := List.mem_map.mp hb
      exact floorIdx_length _ _ _ hg.hb (hx x hx1),
    fun x hx1 => List.mem_map.mpr ⟨x, hx1, rfl⟩⟩

theorem answer_eq_with (T : ATable) (fs : List (List Rat → Rat)) (q : Query) :
    T.answer fs q = T.answerWith safeBases fs q := by
  cases q <;> rfl

theorem run_eq_with (fs : List (List Rat → Rat)) : ∀ (qs : List Query) (T : ATable),
    T.run fs qs = T.runWith safeBases fs qs
  | [], _ => rfl
  | q :: qs, T => by
    simp only [ATable.run, ATable.runWith, answer_eq_with]
    rw [run_eq_with fs qs]

theorem ATable.ext' (T : ATable) (h bp : List Rat) (rows : List Store) (pt : List (List Rat))
    (e1 : T.h = h) (e2 : T.basePt = bp) (e3 : T.rows = rows) (e4 : T.pt = pt) :
    T = { h := h, basePt := bp, rows := rows, pt := pt } := by
  cases T; simp_all

/-- Assigning the values at the missing quadrature points, columns in any order, produces exactly the
    table `_fill_values` would have produced. -/
theorem assign_eq_fill {fs : List (List Rat → Rat)} {T : ATable} {K : List Coord} (hg : Geo T) (hI : Inv fs T K)
    (hfs : fs ≠ []) (xs : List (List Rat)) (hx : ∀ x ∈ xs, x.length = T.h.length) (inds : List Coord)
    (hp : inds.Perm (quadPoints T xs)) :
    assign T (fs.map (fun f => (inds.map (coordOf T.basePt T.h)).map f)) (inds.map (coordOf T.basePt T.h)) inds =
      fill T fs xs := by
  obtain ⟨e1, e2, hI', _⟩ := fill_inv hg hI xs hx
  -- the result of `SparseNdArray.add` for each component row
  have hres : List.zipWith (fun s row => C46.add s (inds.zip row) false) T.rows
      (fs.map (fun f => (inds.map (coordOf T.basePt T.h)).map f)) =
      fs.map (fun f => (rowOf T.basePt T.h (K ++ quadPoints T xs) f,
        (quadPoints T xs).map (fun u => inds.idxOf u))) := by
    rw [hI.rows, List.zipWith_map, List.zipWith_self]
    apply List.map_congr_left
    intro f _
    rw [List.map_map, List.zip_eq_zipWith, List.zipWith_map_right, List.zipWith_self]
    refine (add_perm _ _ inds (fun i => f (coordOf T.basePt T.h i)) (by rw [rowOf_keys]; exact hI.nodup) hp
      (quadPointsOf_sorted T _) ?_).trans ?_
    · intro k hk; rw [rowOf_keys]; exact quadPoints_fresh hI xs k hk
    · rw [rowOf, rowOf, List.map_append]
  rw [ATable.ext' (fill T fs xs) T.h T.basePt _ _ e1 e2 hI'.rows hI'.pt]
  unfold assign
  simp only [hres]
  obtain ⟨f, fs, rfl⟩ := List.exists_cons_of_ne_nil hfs
  simp only [List.map_cons, List.map_map, hI.pt, List.map_append, e1, e2]
  congr 2
  apply List.map_congr_left
  intro u hu
  exact Common.getD_map_idxOf (coordOf T.basePt T.h) [] (hp.mem_iff.mpr hu)

theorem answerAssigned_eq {fs : List (List Rat → Rat)} {T : ATable} {K : List Coord} (hg : Geo T) (hI : Inv fs T K)
    (hfs : fs ≠ []) (q : Query) (hx : ∀ x ∈ q.points, x.length = T.h.length) (inds : List Coord)
    (hp : inds.Perm (quadPoints T q.points)) :
    T.answerAssigned fs q inds = T.answer fs q := by
  unfold ATable.answerAssigned
  simp only [assign_eq_fill hg hI hfs q.points hx inds hp]
  cases q <;> rfl

theorem safeBases_of_guard_false (T : ATable) (xs : List (List Rat)) (h : safeGuard T xs = false) :
    safeBases T xs = plainBases T xs := by
  unfold safeBases plainBases
  unfold safeGuard at h
  simp only [h, Bool.false_eq_true, if_false]

theorem danger_length_le : ∀ (bp h x : List Rat), (danger bp h x).length ≤ h.length
  | [], _, _ => Nat.zero_le _
  | _ :: _, [], _ => Nat.le_refl 0
  | _ :: _, _ :: _, [] => Nat.zero_le _
  | _ :: bp, _ :: hs, _ :: xs => Nat.succ_le_succ (danger_length_le bp hs xs)

theorem safeGuard_one_param (T : ATable) (xs : List (List Rat)) (h1 : T.h.length ≤ 1) :
    safeGuard T xs = false := by
  unfold safeGuard
  rw [Bool.eq_false_iff]
  intro h
  rw [List.any_eq_true] at h
  obtain ⟨d, hd, hany⟩ := h
  obtain ⟨x, _, rfl⟩ := List.mem_map.mp hd
  have := danger_length_le T.basePt T.h x
  have : (danger T.basePt T.h x).drop 1 = [] := List.drop_eq_nil_of_le (by omega)
  simp [this] at hany

end PorepyVerif.C41
