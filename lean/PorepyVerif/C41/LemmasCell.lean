/-
C41 — the sums over the vertices of one cell.  The loops of `interpolate` and `gradient` over
`itertools.product(range(2), repeat=d)` are turned once into the recursive tensor-product sum `wsum` (`enum_wsum`) and into
`gsum`, the difference of two such sums (`enum_gsum`).  For a multilinear function the sum with ANY weights is the value
at the point the weights denote (`wsum_cellPt`, `cellPt`), and the gradient sum is the mesh size times the partial
derivative there (`gsum_cellPt`, through `eval_set_sub`).  `idealAnswer axes cell` is the answer to a query written with
these sums over the cell with base vertex `cell x`; both tables are compared with it.
-/
import Mathlib.Tactic.Linarith
import Mathlib.Tactic.Ring
import Mathlib.Tactic.FieldSimp
import Mathlib.Algebra.Order.Field.Rat
import PorepyVerif.C41.Model
import PorepyVerif.Common.Sum

namespace PorepyVerif.C41
open PorepyVerif.C46 (Coord Store)
open PorepyVerif

theorem sumQ_eq (l : List Rat) : sumQ l = l.sum := by
  induction l with
  | nil => rfl
  | cons a l ih => rw [sumQ, ih, List.sum_cons]

theorem sumQ_append (l₁ l₂ : List Rat) : sumQ (l₁ ++ l₂) = sumQ l₁ + sumQ l₂ := by
  rw [sumQ_eq, sumQ_eq, sumQ_eq, List.sum_append]

theorem sumQ_map_mul_left {α : Type} (c : Rat) (f : α → Rat) (l : List α) :
    sumQ (l.map (fun a => c * f a)) = c * sumQ (l.map f) := by
  rw [sumQ_eq, sumQ_eq, Common.sum_map_mul_left]

theorem sumQ_map_sub {α : Type} (f g : α → Rat) (l : List α) :
    sumQ (l.map (fun a => f a - g a)) = sumQ (l.map f) - sumQ (l.map g) := by
  rw [sumQ_eq, sumQ_eq, sumQ_eq, Common.sum_map_sub]

theorem sumQ_map_congr {α : Type} (f g : α → Rat) (l : List α) (h : ∀ a ∈ l, f a = g a) :
    sumQ (l.map f) = sumQ (l.map g) :=
  congrArg sumQ (List.map_congr_left h)

/-- `Σ_{vertices v of the cell with base b} Π_k (weight of v_k) · g v`, one axis at a time -/
def wsum : List (Rat × Int) → (List Int → Rat) → Rat
  | [], g => g []
  | (w, b) :: rest, g =>
    (1 - w) * wsum rest (fun is => g (b :: is)) + w * wsum rest (fun is => g ((b + 1) :: is))

/-- the gradient sum along axis `k`: the interpolation sum with weight 1 on axis `k` (right face of the cell)
    minus the one with weight 0 (left face) -/
def gsum (k : Nat) (ws : List Rat) (bs : List Int) (g : List Int → Rat) : Rat :=
  wsum ((ws.set k 1).zip bs) g - wsum ((ws.set k 0).zip bs) g

/-- `v` is a vertex of the cell whose base vertex is given by the second components of `wb` -/
inductive InCube : List (Rat × Int) → List Int → Prop
  | nil : InCube [] []
  | cons {p : Rat × Int} {i : Int} {rest : List (Rat × Int)} {v : List Int} :
      (i = p.2 ∨ i = p.2 + 1) → InCube rest v → InCube (p :: rest) (i :: v)

theorem wsum_congr (wb : List (Rat × Int)) (g g' : List Int → Rat)
    (h : ∀ v, InCube wb v → g v = g' v) :
    wsum wb g = wsum wb g' := by
  induction wb generalizing g g' with
  | nil => exact h [] .nil
  | cons p rest ih =>
    obtain ⟨w, b⟩ := p
    simp only [wsum]
    rw [ih (fun is => g (b :: is)) (fun is => g' (b :: is)) (fun v hv => h (b :: v) (.cons (Or.inl rfl) hv)),
        ih (fun is => g ((b + 1) :: is)) (fun is => g' ((b + 1) :: is))
          (fun v hv => h ((b + 1) :: v) (.cons (Or.inr rfl) hv))]

theorem wsum_const (wb : List (Rat × Int)) (c : Rat) : wsum wb (fun _ => c) = c := by
  induction wb with
  | nil => rfl
  | cons p rest ih => obtain ⟨w, b⟩ := p; simp only [wsum, ih]; ring

theorem wsum_lin (wb : List (Rat × Int)) (g₁ g₂ : List Int → Rat) (c : Rat) :
    wsum wb (fun v => g₁ v + c * g₂ v) = wsum wb g₁ + c * wsum wb g₂ := by
  induction wb generalizing g₁ g₂ with
  | nil => rfl
  | cons p rest ih =>
    obtain ⟨w, b⟩ := p
    simp only [wsum]
    rw [ih (fun is => g₁ (b :: is)) (fun is => g₂ (b :: is)),
        ih (fun is => g₁ ((b + 1) :: is)) (fun is => g₂ ((b + 1) :: is))]
    ring

theorem sumQ_incrs_succ (d : Nat) (φ : List Int → Rat) :
    sumQ ((incrs (d + 1)).map φ) =
      sumQ ((incrs d).map (fun is => φ (0 :: is))) + sumQ ((incrs d).map (fun is => φ (1 :: is))) := by
  rw [incrs, List.map_append, sumQ_append, List.map_map, List.map_map]
  rfl

theorem forall_incrs_succ {d : Nat} {P : List Int → Prop} :
    (∀ incr ∈ incrs (d + 1), P incr) ↔ ∀ is ∈ incrs d, P (0 :: is) ∧ P (1 :: is) := by
  simp only [incrs, List.mem_append, List.mem_map]
  constructor
  · exact fun h is his => ⟨h _ (Or.inl ⟨is, his, rfl⟩), h _ (Or.inr ⟨is, his, rfl⟩)⟩
  · rintro h incr (⟨is, his, rfl⟩ | ⟨is, his, rfl⟩)
    · exact (h is his).1
    · exact (h is his).2

theorem incrs_length : ∀ (d : Nat), ∀ incr ∈ incrs d, incr.length = d
  | 0 => fun incr h => by rw [List.mem_singleton.mp h]; rfl
  | d + 1 => forall_incrs_succ.mpr fun is his =>
    ⟨congrArg (· + 1) (incrs_length d is his), congrArg (· + 1) (incrs_length d is his)⟩

theorem addIncr_cons (b i : Int) (bs is : List Int) :
    addIncr (b :: bs) (i :: is) = (b + i) :: addIncr bs is := rfl

theorem vertexWeight_zero (w : Rat) (ws : List Rat) (is : List Int) :
    vertexWeight (w :: ws) (0 :: is) = (1 - w) * vertexWeight ws is := by
  simp only [vertexWeight, Int.cast_zero]; ring

theorem vertexWeight_one (w : Rat) (ws : List Rat) (is : List Int) :
    vertexWeight (w :: ws) (1 :: is) = w * vertexWeight ws is := by
  simp only [vertexWeight, Int.cast_one]; ring

theorem gradWeight_zero_zero (w : Rat) (ws : List Rat) (is : List Int) :
    gradWeight 0 (w :: ws) (0 :: is) = -1 * vertexWeight ws is := by
  simp only [gradWeight, Int.cast_zero]; ring

theorem gradWeight_zero_one (w : Rat) (ws : List Rat) (is : List Int) :
    gradWeight 0 (w :: ws) (1 :: is) = vertexWeight ws is := by
  simp only [gradWeight, Int.cast_one]; ring

theorem gradWeight_succ_zero (k : Nat) (w : Rat) (ws : List Rat) (is : List Int) :
    gradWeight (k + 1) (w :: ws) (0 :: is) = (1 - w) * gradWeight k ws is := by
  simp only [gradWeight, Int.cast_zero]; ring

theorem gradWeight_succ_one (k : Nat) (w : Rat) (ws : List Rat) (is : List Int) :
    gradWeight (k + 1) (w :: ws) (1 :: is) = w * gradWeight k ws is := by
  simp only [gradWeight, Int.cast_one]; ring

/-- the loop over `itertools.product(range(2), repeat=d)` in `interpolate`, one axis at a time -/
theorem enum_wsum : ∀ (bs : List Int) (ws : List Rat) (g : List Int → Rat), ws.length = bs.length →
    sumQ ((incrs bs.length).map (fun incr => vertexWeight ws incr * g (addIncr bs incr))) =
      wsum (ws.zip bs) g
  | [], [], g, _ => by
    simp only [List.length_nil, incrs, List.map_cons, List.map_nil, sumQ, vertexWeight]
    exact (by ring : (1 : Rat) * g [] + 0 = g [])
  | b :: bs, w :: ws, g, h => by
    have hl : ws.length = bs.length := Nat.succ.inj h
    rw [List.length_cons, sumQ_incrs_succ, List.zip_cons_cons, wsum,
      ← enum_wsum bs ws (fun is => g (b :: is)) hl, ← enum_wsum bs ws (fun is => g ((b + 1) :: is)) hl,
      ← sumQ_map_mul_left, ← sumQ_map_mul_left]
    simp only [vertexWeight_zero, vertexWeight_one, addIncr_cons, Int.add_zero, mul_assoc]

theorem gradWeight_eq_sub : ∀ (k : Nat) (ws : List Rat) (is : List Int), k < ws.length → is.length = ws.length →
    gradWeight k ws is = vertexWeight (ws.set k 1) is - vertexWeight (ws.set k 0) is
  | 0, w :: ws, i :: is, _, _ => by
    simp only [gradWeight, List.set_cons_zero, vertexWeight]; ring
  | k + 1, w :: ws, i :: is, hk, hl => by
    simp only [gradWeight, List.set_cons_succ, vertexWeight]
    rw [gradWeight_eq_sub k ws is (Nat.lt_of_succ_lt_succ hk) (Nat.succ.inj hl)]; ring

/-- the loop in `gradient`: two loops of `interpolate`, with weight 1 and with weight 0 on axis `k` -/
theorem enum_gsum (k : Nat) (bs : List Int) (ws : List Rat) (g : List Int → Rat)
    (h : ws.length = bs.length) (hk : k < bs.length) :
    sumQ ((incrs bs.length).map (fun incr => gradWeight k ws incr * g (addIncr bs incr))) = gsum k ws bs g := by
  unfold gsum
  rw [← enum_wsum bs (ws.set k 1) g (by rw [List.length_set, h]),
    ← enum_wsum bs (ws.set k 0) g (by rw [List.length_set, h]), ← sumQ_map_sub]
  apply sumQ_map_congr
  intro incr hi
  rw [gradWeight_eq_sub k ws incr (h ▸ hk) ((incrs_length _ _ hi).trans h.symm)]; ring

/-- the grid point with multi-index `v` -/
def gridPt : List Axis → List Int → List Rat
  | a :: as, i :: is => a.pt i :: gridPt as is
  | _, _ => []

theorem pt_succ (a : Axis) (b : Int) : a.pt (b + 1) = a.pt b + a.h := by
  unfold Axis.pt; push_cast; ring

theorem weight_mul_h (a : Axis) (x : Rat) (b : Int) (hh : a.h ≠ 0) :
    a.rightWeight x b * a.h = x - a.pt b := by
  unfold Axis.rightWeight; field_simp

/-- the point with weights `ws` in the cell with base vertex `bs`: `pt b + w * h` on every axis -/
def cellPt : List Axis → List Rat → List Int → List Rat
  | a :: as, w :: ws, b :: bs => (a.pt b + w * a.h) :: cellPt as ws bs
  | _, _, _ => []

/-- Interpolation with ANY weights in ANY cell of the (infinite) grid evaluates a multilinear function at the
    point these weights denote. -/
theorem wsum_cellPt (t : ML) : ∀ (axes : List Axis) (ws : List Rat) (bs : List Int),
    wsum (ws.zip bs) (fun v => t.eval (gridPt axes v)) = t.eval (cellPt axes ws bs) := by
  induction t with
  | const c => intro axes ws bs; exact wsum_const _ c
  | node a b iha ihb =>
    intro axes ws bs
    match axes, ws, bs with
    | [], _, _ => exact wsum_const _ _
    | _ :: _, [], _ => simp only [List.zip_nil_left, wsum, gridPt, cellPt]
    | _ :: _, _ :: _, [] => simp only [List.zip_nil_right, wsum, gridPt, cellPt]
    | ax :: axes, w :: ws, b0 :: bs =>
      simp only [List.zip_cons_cons, wsum, gridPt, cellPt, ML.eval]
      rw [wsum_lin, wsum_lin, iha, ihb, pt_succ]
      ring

/-- the weights `_right_left_weights` computes from a point denote that point -/
theorem cellPt_rightWeights : ∀ (axes : List Axis) (x : List Rat) (bs : List Int), axes.length = x.length →
    x.length = bs.length → (∀ a ∈ axes, a.h ≠ 0) → cellPt axes (rightWeights axes x bs) bs = x
  | [], [], [], _, _, _ => rfl
  | a :: as, x :: xs, b :: bs, h1, h2, hh => by
    rw [rightWeights, cellPt, weight_mul_h a x b (hh a List.mem_cons_self),
      cellPt_rightWeights as xs bs (Nat.succ.inj h1) (Nat.succ.inj h2) (fun a' ha => hh a' (List.mem_cons_of_mem _ ha))]
    exact congrArg (· :: xs) (add_sub_cancel _ _)

theorem cellPt_set (c : Rat) : ∀ (axes : List Axis) (ws : List Rat) (bs : List Int) (k : Nat) (ax : Axis) (b : Int),
    axes[k]? = some ax → bs[k]? = some b →
    cellPt axes (ws.set k c) bs = (cellPt axes ws bs).set k (ax.pt b + c * ax.h)
  | [], _, _, _, _, _, h1, _ => by simp at h1
  | _ :: _, [], _, _, _, _, _, _ => by simp [cellPt]
  | _ :: _, _ :: _, [], _, _, _, _, h2 => by simp at h2
  | a :: as, w :: ws, b0 :: bs, 0, ax, b, h1, h2 => by
    simp only [List.getElem?_cons_zero, Option.some.injEq] at h1 h2
    subst h1 h2; rfl
  | a :: as, w :: ws, b0 :: bs, k + 1, ax, b, h1, h2 =>
    congrArg (_ :: ·) (cellPt_set c as ws bs k ax b h1 h2)

/-- a multilinear function is affine in each variable, with slope `deriv k` -/
theorem eval_set_sub (t : ML) : ∀ (k : Nat) (x : List Rat) (p q : Rat),
    t.eval (x.set k q) - t.eval (x.set k p) = (q - p) * t.deriv k x := by
  induction t with
  | const c => intro k x p q; simp only [ML.eval, ML.deriv]; ring
  | node a b iha ihb =>
    intro k x p q
    match k, x with
    | _, [] => simp only [List.set_nil, ML.deriv]; ring
    | 0, x :: xs => simp only [List.set_cons_zero, ML.eval, ML.deriv]; ring
    | k + 1, x :: xs =>
      simp only [List.set_cons_succ, ML.eval, ML.deriv]
      calc _ = (a.eval (xs.set k q) - a.eval (xs.set k p)) + x * (b.eval (xs.set k q) - b.eval (xs.set k p)) := by ring
        _ = _ := by rw [iha k xs p q, ihb k xs p q]; ring

/-- The difference quotient along axis `k`, with ANY weights in ANY cell, is the partial derivative of a
    multilinear function times the mesh size: its value on the right face of the cell minus that on the left. -/
theorem gsum_cellPt (t : ML) (k : Nat) (axes : List Axis) (ws : List Rat) (bs : List Int) (ax : Axis) (b : Int)
    (hk : axes[k]? = some ax) (hb : bs[k]? = some b) :
    gsum k ws bs (fun v => t.eval (gridPt axes v)) = ax.h * t.deriv k (cellPt axes ws bs) := by
  rw [gsum, wsum_cellPt, wsum_cellPt, cellPt_set 1 axes ws bs k ax b hk hb, cellPt_set 0 axes ws bs k ax b hk hb,
    eval_set_sub]
  ring

theorem mem_incrs_inCube : ∀ (bs : List Int) (ws : List Rat), ws.length = bs.length →
    ∀ incr ∈ incrs bs.length, InCube (ws.zip bs) (addIncr bs incr)
  | [], [], _ => fun incr hi => by rw [List.mem_singleton.mp hi]; exact .nil
  | b :: bs, w :: ws, h => forall_incrs_succ.mpr fun is his =>
    have ih := mem_incrs_inCube bs ws (Nat.succ.inj h) is his
    ⟨.cons (Or.inl (Int.add_zero b)) ih, .cons (Or.inr rfl) ih⟩

/-- … and these are all the vertices of the cell -/
theorem exists_incr_of_inCube : ∀ (bs : List Int) (ws : List Rat), ws.length = bs.length →
    ∀ v, InCube (ws.zip bs) v → ∃ incr ∈ incrs bs.length, v = addIncr bs incr
  | [], [], _, _, .nil => ⟨[], List.mem_singleton.mpr rfl, rfl⟩
  | b :: bs, w :: ws, h, _, .cons hi hrest => by
    obtain ⟨is, his, rfl⟩ := exists_incr_of_inCube bs ws (Nat.succ.inj h) _ hrest
    simp only [List.length_cons, incrs, List.mem_append, List.mem_map]
    rcases hi with rfl | rfl
    · exact ⟨0 :: is, Or.inl ⟨is, his, rfl⟩, by rw [addIncr_cons, Int.add_zero]⟩
    · exact ⟨1 :: is, Or.inr ⟨is, his, rfl⟩, rfl⟩

theorem weightsOk_cons (w : Rat) (ws : List Rat) :
    weightsOk (w :: ws) = true ↔ (-tol ≤ w ∧ w ≤ 1 + tol) ∧ weightsOk ws = true := by
  simp only [weightsOk, List.all_cons, Bool.and_eq_true, decide_eq_true_eq]

theorem tol_margin {w : Rat} (h0 : 0 ≤ w) (h1 : w ≤ 1) : -tol ≤ w ∧ w ≤ 1 + tol := by
  have : 0 < tol := by unfold tol; norm_num
  constructor <;> linarith

theorem addIncr_length (b incr : Coord) (h : b.length = incr.length) : (addIncr b incr).length = b.length := by
  simp [addIncr, h]

theorem addIncr_zeros : ∀ (b : Coord), addIncr b (List.replicate b.length 0) = b
  | [] => rfl
  | x :: b => by
    simp only [addIncr, List.length_cons, List.replicate_succ, List.zipWith_cons_cons, Int.add_zero]
    exact congrArg (x :: ·) (addIncr_zeros b)

theorem zeros_mem_incrs : ∀ (d : Nat), List.replicate d (0 : Int) ∈ incrs d
  | 0 => by simp [incrs]
  | d + 1 => by
    simp only [incrs, List.replicate_succ, List.mem_append, List.mem_map]
    exact Or.inl ⟨_, zeros_mem_incrs d, rfl⟩

/-- The answer to a query written with the recursive sums over the cell with base vertex `cell x`.
    The standard table answers with `cell = bases axes`, the adaptive table with the unclamped floor
    (`cell = floors axes`, Lemmas.lean). -/
def idealAnswer (axes : List Axis) (cell : List Rat → List Int) (fs : List (List Rat → Rat)) :
    Query → Except Err (List (List Rat))
  | .interp xs => .ok (fs.map (fun f => xs.map (fun x =>
      wsum ((rightWeights axes x (cell x)).zip (cell x)) (fun v => f (gridPt axes v)))))
  | .grad xs k =>
    match axes[k]? with
    | none => .error .indexError
    | some ax => .ok (fs.map (fun f => xs.map (fun x =>
        gsum k (rightWeights axes x (cell x)) (cell x) (fun v => f (gridPt axes v)) / ax.h)))

theorem eval_ofCoefs : ∀ (x : List Rat) (cs : List Rat), (ML.ofCoefs x.length cs).eval x = evalCoefs cs x
  | [], cs => by simp [ML.ofCoefs, ML.eval, evalCoefs]
  | x :: xs, cs => by
    simp only [List.length_cons, ML.ofCoefs, ML.eval, evalCoefs]
    rw [eval_ofCoefs xs, eval_ofCoefs xs]

theorem tensorEval_cons (c : List Bool → Rat) (x : Rat) (xs : List Rat) :
    tensorEval c (x :: xs) =
      tensorEval (fun m => c (false :: m)) xs + x * tensorEval (fun m => c (true :: m)) xs := by
  unfold tensorEval
  simp only [List.length_cons, masks, List.map_append, List.map_map, sumQ_append]
  congr 1
  rw [← sumQ_map_mul_left]
  apply sumQ_map_congr
  intro m _
  simp only [Function.comp, monomial]
  ring

theorem eval_ofTensor : ∀ (x : List Rat) (c : List Bool → Rat), (ML.ofTensor x.length c).eval x = tensorEval c x
  | [], c => by simp [ML.ofTensor, ML.eval, tensorEval, masks, monomial, sumQ]
  | x :: xs, c => by
    rw [tensorEval_cons]
    simp only [List.length_cons, ML.ofTensor, ML.eval]
    rw [eval_ofTensor xs, eval_ofTensor xs]

theorem eval_affine (c0 : Rat) : ∀ (cs x : List Rat), cs.length = x.length →
    (ML.affine c0 cs).eval x = c0 + dotQ cs x
  | [], [], _ => by simp [ML.affine, ML.eval, dotQ]
  | c :: cs, x :: xs, h => by
    simp only [ML.affine, ML.eval, dotQ]
    rw [eval_affine c0 cs xs (by simpa using h)]
    ring

theorem deriv_affine (c0 : Rat) : ∀ (k : Nat) (cs x : List Rat), cs.length = x.length →
    (ML.affine c0 cs).deriv k x = cs.getD k 0
  | k, [], [], _ => by simp [ML.affine, ML.deriv]
  | 0, c :: cs, x :: xs, _ => by simp [ML.affine, ML.deriv, ML.eval]
  | k + 1, c :: cs, x :: xs, h => by
    simp only [ML.affine, ML.deriv, List.getD_cons_succ]
    rw [deriv_affine c0 k cs xs (Nat.succ.inj h), mul_zero, add_zero]

theorem weights_sum_one (rw : List Rat) : sumQ ((incrs rw.length).map (vertexWeight rw)) = 1 := by
  have h := enum_wsum (List.replicate rw.length (0 : Int)) rw (fun _ => 1) (by simp)
  rw [wsum_const, List.length_replicate] at h
  rw [← h]
  apply sumQ_map_congr
  intro incr _
  ring

theorem gradWeights_sum_zero (rw : List Rat) (k : Nat) (hk : k < rw.length) :
    sumQ ((incrs rw.length).map (gradWeight k rw)) = 0 := by
  have h := enum_gsum k (List.replicate rw.length (0 : Int)) rw (fun _ => 1) (by simp) (by simpa using hk)
  rw [gsum, wsum_const, wsum_const, sub_self, List.length_replicate] at h
  rw [← h]
  apply sumQ_map_congr
  intro incr _
  ring

theorem vertexWeight_nonneg : ∀ (d : Nat) (rw : List Rat), (∀ w ∈ rw, 0 ≤ w ∧ w ≤ 1) →
    ∀ incr ∈ incrs d, 0 ≤ vertexWeight rw incr
  | 0, rw, _ => fun incr hi => by
    rw [List.mem_singleton.mp hi]
    cases rw <;> exact zero_le_one
  | d + 1, [], _ => fun incr _ => by cases incr <;> exact zero_le_one
  | d + 1, w :: rw, hw => by
    have h0 := hw w List.mem_cons_self
    have ih := vertexWeight_nonneg d rw (fun w' hw' => hw w' (List.mem_cons_of_mem _ hw'))
    refine forall_incrs_succ.mpr fun is his => ⟨?_, ?_⟩
    · rw [vertexWeight_zero]; exact mul_nonneg (sub_nonneg.mpr h0.2) (ih is his)
    · rw [vertexWeight_one]; exact mul_nonneg h0.1 (ih is his)

end PorepyVerif.C41
