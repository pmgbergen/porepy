/-
C41 — property theorems (statements only use definitions of Model.lean; helper lemmas in the `Lemmas*` modules).

Property: for any box, resolution and multilinear function (in any number of parameters), the interpolation
table reproduces the function exactly everywhere in the box, its gradient is exact for linear functions, and
the adaptive table agrees with the standard table at every queried point.

Conventions: a grid is a list of axes `(low, high, npt)` (its length `d` is the number of parameters), a point
is a list of `d` rationals, a function with several components is a list of functions, a query is a batch of
points.  `WF axes` = every axis has `npt ≥ 2` and `low < high` (otherwise the mesh size `h` is 0 or undefined).
Multilinear functions are the denotations `ML.eval t` of trees `t : ML`; `eval_ofTensor` shows that every
`Σ_{S ⊆ axes} c_S Π_{i∈S} x_i` is of this form (and `eval_ofCoefs` the same for the wire format of the driver).
-/
import PorepyVerif.C41.Lemmas

namespace PorepyVerif.C41

/-- Every coefficient tensor `c : subsets of the axes → ℚ` is represented by a tree:
    `Σ_S c_S Π_{i∈S} x_i = (ML.ofTensor d c).eval x`. -/
theorem multilinear_as_tree (c : List Bool → Rat) (x : List Rat) :
    tensorEval c x = (ML.ofTensor x.length c).eval x := (eval_ofTensor x c).symm

/-- … and so is the coefficient-list form the driver evaluates. -/
theorem coefs_as_tree (cs : List Rat) (x : List Rat) :
    evalCoefs cs x = (ML.ofCoefs x.length cs).eval x := (eval_ofCoefs x cs).symm

/-- `ML.affine c₀ cs` denotes `c₀ + Σ c_k x_k`. -/
theorem affine_as_tree (c0 : Rat) (cs x : List Rat) (h : cs.length = x.length) :
    (ML.affine c0 cs).eval x = c0 + dotQ cs x := eval_affine c0 cs x h

/-- **Exactness of interpolation.** For every number of parameters, every well-formed grid, every list of
    multilinear component functions and every batch of points of the closed box (faces, edges, corners and
    grid nodes included), `InterpolationTable.interpolate` returns the function values. -/
theorem interp_multilinear_exact (axes : List Axis) (ts : List ML) (xs : List (List Rat)) (hwf : WF axes)
    (hx : ∀ x ∈ xs, x.length = axes.length ∧ inBox axes x = true) :
    (mkTable axes (ts.map ML.eval)).interpolate xs = .ok (ts.map (fun t => xs.map t.eval)) :=
  std_answer_multilinear axes ts (.interp xs) hwf hx trivial

/-- The same statement for functions given as coefficient tensors `Σ_S c_S Π_{i∈S} x_i`. -/
theorem interp_tensor_exact (axes : List Axis) (cs : List (List Bool → Rat)) (xs : List (List Rat))
    (hwf : WF axes) (hx : ∀ x ∈ xs, x.length = axes.length ∧ inBox axes x = true) :
    (mkTable axes (cs.map tensorEval)).interpolate xs = .ok (cs.map (fun c => xs.map (tensorEval c))) := by
  have h := interp_multilinear_exact axes (cs.map (ML.ofTensor axes.length)) xs hwf hx
  -- the table only evaluates the functions at points with `d` coordinates
  have e1 : mkTable axes ((cs.map (ML.ofTensor axes.length)).map ML.eval) = mkTable axes (cs.map tensorEval) := by
    simp only [mkTable, List.map_map]
    congr 1
    apply List.map_congr_left
    intro c _
    apply List.map_congr_left
    intro p hp
    rw [← length_of_mem_coords axes p hp]
    exact eval_ofTensor p c
  rw [e1] at h
  rw [h, List.map_map]
  congr 1
  apply List.map_congr_left
  intro c _
  apply List.map_congr_left
  intro x hx'
  rw [← (hx x hx').1]
  exact eval_ofTensor x c

/-- **Exactness of the gradient** for multilinear functions: along every axis `k` the piecewise constant
    gradient is the partial derivative, everywhere in the closed box (upper faces included: finding F7,
    repaired in /repo by clamping the base vertex to `npt - 2`). -/
theorem grad_multilinear_exact (axes : List Axis) (ts : List ML) (xs : List (List Rat)) (k : Nat)
    (hwf : WF axes) (hk : k < axes.length)
    (hx : ∀ x ∈ xs, x.length = axes.length ∧ inBox axes x = true) :
    (mkTable axes (ts.map ML.eval)).gradient xs k = .ok (ts.map (fun t => xs.map (t.deriv k))) :=
  std_answer_multilinear axes ts (.grad xs k) hwf hx hk

/-- **Exactness of the gradient for linear (affine) functions** `c₀ + Σ c_j x_j`: the gradient along axis `k`
    is `c_k` at every point of the closed box. -/
theorem grad_linear_exact (axes : List Axis) (cfs : List (Rat × List Rat)) (xs : List (List Rat)) (k : Nat)
    (hwf : WF axes) (hk : k < axes.length) (hc : ∀ p ∈ cfs, p.2.length = axes.length)
    (hx : ∀ x ∈ xs, x.length = axes.length ∧ inBox axes x = true) :
    (mkTable axes (cfs.map (fun p => (ML.affine p.1 p.2).eval))).gradient xs k =
      .ok (cfs.map (fun p => xs.map (fun _ => p.2.getD k 0))) := by
  have h := grad_multilinear_exact axes (cfs.map (fun p => ML.affine p.1 p.2)) xs k hwf hk hx
  rw [List.map_map] at h
  rw [show (cfs.map (fun p => (ML.affine p.1 p.2).eval)) = cfs.map (ML.eval ∘ fun p => ML.affine p.1 p.2) from rfl,
    h, List.map_map]
  congr 1
  apply List.map_congr_left
  intro p hp
  apply List.map_congr_left
  intro x hx'
  exact deriv_affine p.1 k p.2 x (by rw [hc p hp, (hx x hx').1])

/-- **Partition of unity**: the `2^d` vertex weights of `interpolate` sum to one (for any right weights),
    are non-negative when the right weights are in `[0, 1]`, and the weights of `gradient` sum to zero. -/
theorem weights_partition_unity (rw : List Rat) :
    sumQ ((incrs rw.length).map (vertexWeight rw)) = 1 ∧
    ((∀ w ∈ rw, 0 ≤ w ∧ w ≤ 1) → ∀ incr ∈ incrs rw.length, 0 ≤ vertexWeight rw incr) ∧
    ∀ k, k < rw.length → sumQ ((incrs rw.length).map (gradWeight k rw)) = 0 :=
  ⟨weights_sum_one rw, vertexWeight_nonneg rw.length rw, gradWeights_sum_zero rw⟩

/-- **Base vertex and weight in range**, one axis: for `x` in `[low, high]` the base index is in
    `[0, npt - 2]` (so that `base + 1` is still a grid index) and the right weight is in `[0, 1]`. -/
theorem base_in_range (a : Axis) (x : Rat) (hn : 2 ≤ a.npt) (hlh : a.low < a.high)
    (hx : a.low ≤ x) (hx2 : x ≤ a.high) :
    0 ≤ a.base x ∧ a.base x ≤ (a.npt : Int) - 2 ∧
      0 ≤ a.rightWeight x (a.base x) ∧ a.rightWeight x (a.base x) ≤ 1 :=
  (axis_facts a x hn hlh hx hx2).1

/-- … for a point of the box: the assertion of `_right_left_weights` holds, all weights are in `[0, 1]`, and
    every vertex of the hypercube used is a vertex of the grid (no index leaves the value array). -/
theorem point_in_range (axes : List Axis) (x : List Rat) (hwf : WF axes) (hl : x.length = axes.length)
    (hb : inBox axes x = true) :
    weightsOk (rightWeights axes x (bases axes x)) = true ∧
    (∀ w ∈ rightWeights axes x (bases axes x), 0 ≤ w ∧ w ≤ 1) ∧
    ∀ incr ∈ incrs (bases axes x).length, inGrid axes (addIncr (bases axes x) incr) := by
  obtain ⟨i1, i2, i3, i4, i5⟩ := point_facts axes x hwf hl.symm hb
  exact ⟨i3, i4, by rw [i1]; exact i5⟩

/-- The adaptive table has no box: for multilinear components it is exact at EVERY point of the parameter
    space (any history, any points with `d` coordinates). -/
theorem adaptive_multilinear_exact (axes : List Axis) (ts : List ML) (qs : List Query)
    (hwf : WF axes) (hts : ts ≠ [])
    (hq : ∀ q ∈ qs, (∀ x ∈ q.points, x.length = axes.length) ∧ q.axisOk axes.length) :
    (ATable.empty (hs axes) (lows axes) (ts.map ML.eval).length).run (ts.map ML.eval) qs =
      qs.map (exactAnswer ts) := by
  rw [empty_run_ideal hwf (by simpa using hts) qs (fun q hq' => (hq q hq').1)]
  apply List.map_congr_left
  intro q hq'
  exact ideal_multilinear axes _ ts q hwf (hq q hq').1 (fun x hx => floors_length axes x ((hq q hq').1 x hx))
    (hq q hq').2

/-- **Adaptive = standard, arbitrary functions.** For ANY component functions `fs` (not only multilinear
    ones), any history of queries whose points lie in the closed box — interpolation anywhere in the box,
    gradients at points off the upper faces — an adaptive table with `dx = h`, `base_point = low`, started
    empty and filling its `SparseNdArray` on demand, gives exactly the answers of the standard table.
    (On an upper face the two tables differentiate in different cells, so gradients agree there only for
    functions whose difference quotients do not depend on the cell: see the next theorem.) -/
theorem adaptive_eq_standard (axes : List Axis) (fs : List (List Rat → Rat)) (qs : List Query)
    (hwf : WF axes) (hfs : fs ≠ [])
    (hq : ∀ q ∈ qs, q.inBox axes ∧ q.gradOffUpper axes) :
    (ATable.empty (hs axes) (lows axes) fs.length).run fs qs = qs.map (mkTable axes fs).answer := by
  rw [empty_run_ideal hwf hfs qs (fun q hq' x hx => ((hq q hq').1 x hx).1)]
  apply List.map_congr_left
  intro q hq'
  exact (std_answer_general axes fs q hwf (hq q hq').1 (hq q hq').2).symm

/-- **Adaptive = standard = exact, multilinear functions.** For multilinear components every query in the
    closed box (gradients on the upper faces included) is answered identically by both tables, namely
    with the exact values / partial derivatives. -/
theorem adaptive_eq_standard_multilinear (axes : List Axis) (ts : List ML) (qs : List Query)
    (hwf : WF axes) (hts : ts ≠ [])
    (hq : ∀ q ∈ qs, q.inBox axes ∧ q.axisOk axes.length) :
    (ATable.empty (hs axes) (lows axes) (ts.map ML.eval).length).run (ts.map ML.eval) qs =
        qs.map (mkTable axes (ts.map ML.eval)).answer ∧
    qs.map (mkTable axes (ts.map ML.eval)).answer = qs.map (exactAnswer ts) := by
  have h2 : qs.map (mkTable axes (ts.map ML.eval)).answer = qs.map (exactAnswer ts) :=
    List.map_congr_left (fun q hq' => std_answer_multilinear axes ts q hwf (hq q hq').1 (hq q hq').2)
  refine ⟨?_, h2⟩
  rw [h2]
  exact adaptive_multilinear_exact axes ts qs hwf hts
    (fun q hq' => ⟨fun x hx => ((hq q hq').1 x hx).1, (hq q hq').2⟩)

/-- **On-demand storage** (refinement through the C46 sparse array): one call of `_fill_values` keeps the
    storage invariant (every component row and `_pt` hold the same vertices in the same order, each vertex
    once, with the function value at its coordinate), appends exactly the new quadrature points — each a
    vertex of a hypercube the query needs (or of a safeguarding neighbour) —, and afterwards every vertex
    of the hypercube of every queried point is stored. -/
theorem adaptive_fill_on_demand (fs : List (List Rat → Rat)) (T : ATable) (K : List C46.Coord) (hg : Geo T)
    (hI : Inv fs T K) (xs : List (List Rat)) (hx : ∀ x ∈ xs, x.length = T.h.length) :
    Inv fs (fill T fs xs) (K ++ quadPoints T xs) ∧
    (∀ i ∈ quadPoints T xs, i ∈ needed T xs ∧ i ∉ K) ∧
    ∀ x ∈ xs, ∀ incr ∈ incrs T.h.length,
      addIncr (floorIdx T.basePt T.h x) incr ∈ K ++ quadPoints T xs := by
  obtain ⟨_, _, h3, h4⟩ := fill_inv hg hI xs hx
  exact ⟨h3, fun i hi => ⟨(List.mem_filter.mp hi).1, quadPoints_fresh hI xs i hi⟩, h4⟩

/-- **`assign_values` = `_fill_values`.** If the caller evaluates the function at the points returned by
    `quadrature_points_from_coordinates(x)` and passes values, coordinates and indices to `assign_values`
    with the columns in ANY order (`inds` is any permutation of the returned indices), the table afterwards
    is identical — storage order of the sparse array and of `_pt` included — to the table `_fill_values`
    would have produced. (`SparseNdArray.add` sorts the new columns; `assign_values` permutes the
    coordinates with the index vector `add` returns.) -/
theorem assign_values_eq_fill (fs : List (List Rat → Rat)) (T : ATable) (K : List C46.Coord) (hg : Geo T)
    (hI : Inv fs T K) (hfs : fs ≠ []) (xs : List (List Rat)) (hx : ∀ x ∈ xs, x.length = T.h.length)
    (inds : List C46.Coord) (hp : inds.Perm (quadPoints T xs)) :
    assign T (fs.map (fun f => (inds.map (coordOf T.basePt T.h)).map f)) (inds.map (coordOf T.basePt T.h)) inds =
      fill T fs xs :=
  assign_eq_fill hg hI hfs xs hx inds hp

/-- **Assigned table = standard table**, arbitrary functions: along any history in which, before each query,
    the missing quadrature points of that query are assigned in any column order, `interpolate` (anywhere in
    the closed box) and `gradient` (off the upper faces) of the function-less adaptive table equal the
    standard table's. -/
theorem assigned_eq_standard (axes : List Axis) (fs : List (List Rat → Rat)) (hist : List (Query × List C46.Coord))
    (hwf : WF axes) (hfs : fs ≠ [])
    (hok : AssignedOK fs (ATable.empty (hs axes) (lows axes) fs.length) hist)
    (hq : ∀ p ∈ hist, p.1.inBox axes ∧ p.1.gradOffUpper axes) :
    (ATable.empty (hs axes) (lows axes) fs.length).runAssigned fs hist =
      hist.map (fun p => (mkTable axes fs).answer p.1) := by
  rw [runAssigned_eq_run hwf hfs hist (ATable.empty (hs axes) (lows axes) fs.length) [] ⟨rfl, rfl⟩
    (empty_inv _ _ fs) hok (fun p hp x hx => ((hq p hp).1 x hx).1),
    adaptive_eq_standard axes fs (hist.map (·.1)) hwf hfs
      (fun q hq' => by obtain ⟨p, hp, rfl⟩ := List.mem_map.mp hq'; exact hq p hp),
    List.map_map]
  rfl

/-- … and for multilinear components, on the whole closed box (gradients on the upper faces included), the
    assigned table returns the exact values / partial derivatives, as the standard table does. -/
theorem assigned_eq_standard_multilinear (axes : List Axis) (ts : List ML) (hist : List (Query × List C46.Coord))
    (hwf : WF axes) (hts : ts ≠ [])
    (hok : AssignedOK (ts.map ML.eval) (ATable.empty (hs axes) (lows axes) (ts.map ML.eval).length) hist)
    (hq : ∀ p ∈ hist, p.1.inBox axes ∧ p.1.axisOk axes.length) :
    (ATable.empty (hs axes) (lows axes) (ts.map ML.eval).length).runAssigned (ts.map ML.eval) hist =
        hist.map (fun p => (mkTable axes (ts.map ML.eval)).answer p.1) ∧
    hist.map (fun p => (mkTable axes (ts.map ML.eval)).answer p.1) = hist.map (fun p => exactAnswer ts p.1) := by
  have hqs : ∀ q ∈ hist.map (·.1), q.inBox axes ∧ q.axisOk axes.length := fun q hq' => by
    obtain ⟨p, hp, rfl⟩ := List.mem_map.mp hq'; exact hq p hp
  obtain ⟨h1, h2⟩ := adaptive_eq_standard_multilinear axes ts (hist.map (·.1)) hwf hts hqs
  rw [List.map_map] at h1 h2
  rw [List.map_map] at h2
  refine ⟨?_, h2⟩
  rw [runAssigned_eq_run hwf (by simpa using hts) hist
    (ATable.empty (hs axes) (lows axes) (ts.map ML.eval).length) [] ⟨rfl, rfl⟩
    (empty_inv _ _ _) hok (fun p hp x hx => ((hq p hp).1 x hx).1), h1]
  rfl

/-- **What safeguarding computes.** With `danger x k` = "the fractional part of `(x_k − base_k)/h_k` exceeds
    0.999", and the guard `safeGuard` = "some queried point is endangered on an axis with number ≥ 1":
    if the guard holds, the base vertices are, for every point, its floored index raised by one on every
    subset (the empty one included) of ITS endangered axes; otherwise just the floored indices. -/
theorem safeguarding_spec (T : ATable) (xs : List (List Rat)) (b : C46.Coord) :
    b ∈ safeBases T xs ↔
      if safeGuard T xs = true then
        ∃ x ∈ xs, ∃ v, IsBump (danger T.basePt T.h x) v ∧ b = addIncr (floorIdx T.basePt T.h x) v
      else ∃ x ∈ xs, b = floorIdx T.basePt T.h x :=
  mem_safeBases_iff T xs b

/-- **The axis-0 quirk.** The guard tests the NUMBERS of the endangered axes (`np.any(rows_with_repeats)`), so
    endangerment on axis 0 alone never triggers safeguarding: whenever no point is endangered on an axis
    ≥ 1 the safeguarded base vertices are exactly the plain floored indices — in particular always for
    tables with one parameter. -/
theorem safeguarding_axis0_quirk (T : ATable) (xs : List (List Rat)) :
    (safeGuard T xs = false → safeBases T xs = plainBases T xs) ∧
    (T.h.length ≤ 1 → safeBases T xs = plainBases T xs) :=
  ⟨safeBases_of_guard_false T xs, fun h1 => safeBases_of_guard_false T xs (safeGuard_one_param T xs h1)⟩

/-- **Safeguarding never changes an answer** (exact arithmetic): for ANY component functions and any history of
    queries (any points with `d` coordinates, inside the box or not), the adaptive table as coded (filling
    with the safeguarded base vertices) and the table that fills with the plain floored indices return the
    same answers. Safeguarding only stores additional vertices. -/
theorem safeguarding_irrelevant (axes : List Axis) (fs : List (List Rat → Rat)) (qs : List Query)
    (hwf : WF axes) (hfs : fs ≠ []) (hq : ∀ q ∈ qs, ∀ x ∈ q.points, x.length = axes.length) :
    (ATable.empty (hs axes) (lows axes) fs.length).run fs qs =
      (ATable.empty (hs axes) (lows axes) fs.length).runWith plainBases fs qs := by
  rw [empty_run_ideal hwf hfs qs hq,
    runWith_ideal goodSel_plain hwf hfs qs (ATable.empty (hs axes) (lows axes) fs.length) [] ⟨rfl, rfl⟩
      (empty_inv _ _ fs) hq]

/-- The hypotheses of the theorems above are decidable conditions on the INPUT (grid and queries); the driver
    evaluates `wfB`, `Query.inBoxB`, `Query.axisOkB` on every generated case and the harness compares them
    with its own evaluation. -/
theorem hypotheses_decidable (axes : List Axis) (q : Query) :
    (wfB axes = true ↔ WF axes) ∧ (q.inBoxB axes = true ↔ q.inBox axes) ∧
    (q.axisOkB axes.length = true ↔ q.axisOk axes.length) :=
  ⟨wfB_iff axes, inBoxB_iff axes q, axisOkB_iff axes.length q⟩

/-- The whole property for the standard table with Boolean hypotheses only: on a well-formed grid, every
    in-box query on multilinear components is answered exactly. -/
theorem standard_exact_decidable (axes : List Axis) (ts : List ML) (q : Query)
    (h1 : wfB axes = true) (h2 : q.inBoxB axes = true) (h3 : q.axisOkB axes.length = true) :
    (mkTable axes (ts.map ML.eval)).answer q = exactAnswer ts q :=
  std_answer_multilinear axes ts q ((wfB_iff axes).mp h1) ((inBoxB_iff axes q).mp h2)
    ((axisOkB_iff axes.length q).mp h3)

/-- **Out-of-box queries raise `ValueError`**: if any point of the batch has a coordinate outside
    `[low, high]`, `interpolate` and `gradient` of ANY standard table answer `ValueError` (before any other
    check). -/
theorem outside_raises (T : Table) (q : Query) (x : List Rat) (hx : x ∈ q.points)
    (hout : inBox T.axes x = false) : T.answer q = .error .valueError := by
  have hall : q.points.all (inBox T.axes) = false := by
    rw [Bool.eq_false_iff]
    intro h
    rw [List.all_eq_true] at h
    rw [h x hx] at hout
    cases hout
  cases q with
  | interp xs =>
    simp only [Query.points] at hall
    simp [Table.answer, Table.interpolate, hall]
  | grad xs k =>
    simp only [Query.points] at hall
    simp [Table.answer, Table.gradient, hall]

/-- **`assign_values` without indices** recovers the indices from the coordinates by floor division; for
    coordinates that are grid nodes (as returned by `quadrature_points_from_coordinates`) this is the same
    assignment as with the indices passed, so `assign_values_eq_fill` and `assigned_eq_standard` apply. -/
theorem assign_without_indices (T : ATable) (hg : Geo T) (vals : List (List Rat)) (inds : List C46.Coord)
    (hl : ∀ i ∈ inds, i.length = T.h.length) :
    assignNoIdx T vals (inds.map (coordOf T.basePt T.h)) = assign T vals (inds.map (coordOf T.basePt T.h)) inds := by
  unfold assignNoIdx
  congr 1
  rw [List.map_map]
  conv => rhs; rw [← List.map_id inds]
  apply List.map_congr_left
  intro i hi
  exact floorIdx_coordOf _ _ i hg.hb (hl i hi) hg.hne

/-- 3 × 3 table on `[0,1]²` -/
def ax2 : List Axis := [⟨0, 1, 3⟩, ⟨0, 1, 3⟩]
/-- `2x + 3y` and `1 + 2x + 3y + 5xy` -/
def t23 : ML := .node (.node (.const 0) (.const 3)) (.const 2)
def t235 : ML := .node (.node (.const 1) (.const 3)) (.node (.const 2) (.const 5))

theorem ax2_wf : WF ax2 := by
  intro a ha
  simp only [ax2, List.mem_cons, List.mem_nil_iff, or_false] at ha
  rcases ha with rfl | rfl <;> exact ⟨by decide, by decide⟩

/-- the model computes: F7 queries (upper faces, the corner) and an interior point -/
example : (mkTable ax2 [t23.eval]).gradient [[1, 3/10]] 0 = .ok [[2]] := by decide +kernel
example : (mkTable ax2 [t23.eval]).gradient [[3/10, 1]] 0 = .ok [[2]] := by decide +kernel
example : (mkTable ax2 [t23.eval]).gradient [[3/10, 1], [1, 1]] 1 = .ok [[3, 3]] := by decide +kernel
example : (mkTable ax2 [t23.eval, t235.eval]).interpolate [[1, 1], [1/4, 1/2]] = .ok [[5, 2], [11, 29/8]] := by
  decide +kernel
example : (mkTable ax2 [t23.eval]).interpolate [[3/2, 1/2]] = .error .valueError := by decide +kernel
/-- a function that is NOT multilinear is not reproduced (x² at 1/4 on a grid of mesh 1/2 gives 1/8) -/
example : (mkTable ax2 [fun x => x.headD 0 * x.headD 0]).interpolate [[1/4, 0]] = .ok [[1/8]] := by decide +kernel

/-- the hypotheses of the theorems are satisfiable -/
example : (mkTable ax2 [t23.eval, t235.eval]).interpolate [[1, 3/10], [1, 1]] =
    .ok [[t23.eval [1, 3/10], t23.eval [1, 1]], [t235.eval [1, 3/10], t235.eval [1, 1]]] :=
  interp_multilinear_exact ax2 [t23, t235] [[1, 3/10], [1, 1]] ax2_wf (by decide +kernel)

example : (mkTable ax2 [(ML.affine 7 [2, 3]).eval]).gradient [[1, 3/10], [3/10, 1], [1, 1]] 1 = .ok [[3, 3, 3]] :=
  grad_linear_exact ax2 [(7, [2, 3])] [[1, 3/10], [3/10, 1], [1, 1]] 1 ax2_wf (by decide) (by decide) (by decide +kernel)

/-- adaptive table, history with a repeated point, a corner and an upper-face gradient -/
example : (ATable.empty (hs ax2) (lows ax2) 1).run [t235.eval]
      [.interp [[1/4, 1/2], [1, 1]], .grad [[1, 3/10]] 0, .interp [[1/4, 1/2]]] =
    [.ok [[29/8, 11]], .ok [[7/2]], .ok [[29/8]]] := by decide +kernel

example : Query.inBox ax2 (.grad [[1/2, 3/10]] 0) ∧ Query.gradOffUpper ax2 (.grad [[1/2, 3/10]] 0) := by
  constructor
  · intro x hx
    simp only [Query.points, List.mem_singleton] at hx
    subst hx
    exact ⟨rfl, by decide +kernel⟩
  · intro x hx
    simp only [List.mem_singleton] at hx
    subst hx
    decide +kernel

/-- table fed from outside: the four vertices around (1/4, 1/2) assigned in a scrambled order, then two more
    for the second query; the hypothesis `AssignedOK` holds and the answers are the exact values -/
def histA : List (Query × List C46.Coord) :=
  [(.interp [[1/4, 1/2]], [[1, 2], [0, 1], [1, 1], [0, 2]]), (.grad [[1/4, 1]] 0, [[1, 3], [0, 3]])]

example : AssignedOK [t235.eval] (ATable.empty (hs ax2) (lows ax2) 1) histA := by
  refine ⟨by decide +kernel, by decide +kernel, trivial⟩

example : (ATable.empty (hs ax2) (lows ax2) 1).runAssigned [t235.eval] histA = [.ok [[29/8]], .ok [[7]]] := by
  decide +kernel

/-- safeguarding on a grid of mesh 1: a point a hair below a grid line on axis 0 only is NOT safeguarded (quirk),
    on axis 1 it is; both give the same answers -/
def Tq : ATable := ATable.empty [1, 1] [0, 0] 1
example : safeBases Tq [[2047/1024, 1/2]] = [[1, 0]] := by decide +kernel
example : safeBases Tq [[1/2, 2047/1024]] = [[0, 1], [0, 2]] := by decide +kernel
example : safeBases Tq [[2047/1024, 2047/1024]] = [[1, 1], [1, 2], [2, 1], [2, 2]] := by decide +kernel
example : Tq.run [t235.eval] [.interp [[1/2, 2047/1024]]] = Tq.runWith plainBases [t235.eval] [.interp [[1/2, 2047/1024]]] := by
  have h := safeguarding_irrelevant [⟨0, 1, 2⟩, ⟨0, 1, 2⟩] [t235.eval] [.interp [[1/2, 2047/1024]]]
    ((wfB_iff _).mp (by decide +kernel)) (by simp) (by decide)
  rwa [show hs [⟨0, 1, 2⟩, ⟨0, 1, 2⟩] = [1, 1] by decide +kernel] at h

/-- decidable hypotheses evaluate on concrete data; an outside point gives ValueError; npt = 1 is rejected by `wfB` -/
example : wfB ax2 = true ∧ (Query.grad [[1, 3/10]] 1).inBoxB ax2 = true ∧ (Query.grad [[1, 3/10]] 1).axisOkB 2 = true := by
  decide +kernel
example : wfB [⟨0, 1, 1⟩] = false ∧ wfB [⟨1, 1, 3⟩] = false := by decide +kernel
example : (mkTable ax2 [t235.eval]).answer (.grad [[1, 3/10]] 1) = exactAnswer [t235] (.grad [[1, 3/10]] 1) :=
  standard_exact_decidable ax2 [t235] _ (by decide +kernel) (by decide +kernel) (by decide +kernel)
example : (mkTable ax2 [t235.eval]).answer (.grad [[1/2, 1/2], [1/2, 9/8]] 0) = .error .valueError :=
  outside_raises _ _ [1/2, 9/8] (by simp [Query.points]) (by decide +kernel)
example : assignNoIdx Tq [[5, 7]] ([[1, 2], [0, 3]].map (coordOf Tq.basePt Tq.h)) =
    assign Tq [[5, 7]] ([[1, 2], [0, 3]].map (coordOf Tq.basePt Tq.h)) [[1, 2], [0, 3]] :=
  assign_without_indices Tq ⟨rfl, by decide +kernel⟩ _ _ (by decide +kernel)
example : (assignNoIdx Tq [[5, 7]] [[1, 2], [0, 3]]).pt = [[0, 3], [1, 2]] := by decide +kernel

end PorepyVerif.C41
