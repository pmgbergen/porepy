/-
C44 — lemmas for `clipSimpleRaw`: sorted cut lists; points on the line of the clipped segment and the
crossing parameters of one polygon edge; constancy of the even–odd rule along a candidate piece; merging.
-/
import PorepyVerif.C44.Lemmas

namespace PorepyVerif.C44

theorem sideOf_lerp2 (s : Seg) (A B : Pt) (l : Rat) :
    sideOf s (lerp2 A B l) = sideOf s A + l * (sideOf s B - sideOf s A) :=
  leftOf_lerp2 s.p s.q A B l

theorem onSeg_iff (A B P : Pt) :
    onSeg A B P = true ↔ cross (B.sub A) (P.sub A) = 0 ∧ dot (P.sub A) (P.sub B) ≤ 0 := by
  simp [onSeg]

theorem onBoundaryE_iff (es : List (Pt × Pt)) (P : Pt) :
    onBoundaryE es P = true ↔ ∃ e ∈ es, onSeg e.1 e.2 P = true := by
  simp only [onBoundaryE, List.any_eq_true]

theorem in01_iff (t : Rat) : in01 t = true ↔ 0 ≤ t ∧ t ≤ 1 := by
  simp only [in01, Bool.and_eq_true, decide_eq_true_eq]

/-- an interval with end points `x`, `y` outside `(a, b)` that contains a point of `(a, b)`
    contains `[a, b]` -/
theorem between_of_outside (a b t u x y : Rat) (hat : a < t) (htb : t < b)
    (hx : x ≤ a ∨ b ≤ x) (hy : y ≤ a ∨ b ≤ y) (ht : (t - x) * (t - y) ≤ 0)
    (hau : a ≤ u) (hub : u ≤ b) : (u - x) * (u - y) ≤ 0 := by
  rcases mul_nonpos_iff.mp ht with ⟨h1, h2⟩ | ⟨h1, h2⟩
  · -- `x ≤ t ≤ y`
    have hx' : x ≤ a := hx.resolve_right (not_le.mpr ((sub_nonneg.mp h1).trans_lt htb))
    have hy' : b ≤ y := hy.resolve_left (not_le.mpr (hat.trans_le (sub_nonpos.mp h2)))
    exact mul_nonpos_of_nonneg_of_nonpos (sub_nonneg.mpr (hx'.trans hau)) (sub_nonpos.mpr (hub.trans hy'))
  · -- `y ≤ t ≤ x`
    have hx' : b ≤ x := hx.resolve_left (not_le.mpr (hat.trans_le (sub_nonpos.mp h1)))
    have hy' : y ≤ a := hy.resolve_right (not_le.mpr ((sub_nonneg.mp h2).trans_lt htb))
    exact mul_nonpos_of_nonpos_of_nonneg (sub_nonpos.mpr (hub.trans hx')) (sub_nonneg.mpr (hy'.trans hau))

theorem mem_insertU (x y : Rat) (l : List Rat) : y ∈ insertU x l ↔ y = x ∨ y ∈ l := by
  induction l with
  | nil => simp [insertU]
  | cons z zs ih =>
    simp only [insertU]
    split_ifs with h1 h2
    · exact List.mem_cons
    · rw [h2, List.mem_cons, or_self_left]
    · rw [List.mem_cons, ih, List.mem_cons, or_left_comm]

theorem pairwise_insertU (x : Rat) (l : List Rat) (hl : l.Pairwise (· < ·)) :
    (insertU x l).Pairwise (· < ·) := by
  induction l with
  | nil => simp [insertU]
  | cons z zs ih =>
    simp only [insertU]
    rw [List.pairwise_cons] at hl
    split_ifs with h1 h2
    · rw [List.pairwise_cons]
      refine ⟨?_, List.pairwise_cons.mpr hl⟩
      intro a ha
      rcases List.mem_cons.mp ha with rfl | ha
      · exact h1
      · exact lt_trans h1 (hl.1 a ha)
    · exact List.pairwise_cons.mpr hl
    · rw [List.pairwise_cons]
      refine ⟨?_, ih hl.2⟩
      intro a ha
      rcases (mem_insertU x a zs).mp ha with rfl | ha
      · exact lt_of_le_of_ne (not_lt.mp h1) (fun e => h2 e.symm)
      · exact hl.1 a ha

theorem mem_sortU (y : Rat) (l : List Rat) : y ∈ sortU l ↔ y ∈ l := by
  induction l with
  | nil => simp [sortU]
  | cons x xs ih => simp [sortU, mem_insertU, ih]

theorem pairwise_sortU (l : List Rat) : (sortU l).Pairwise (· < ·) := by
  induction l with
  | nil => simp [sortU]
  | cons x xs ih => exact pairwise_insertU x _ ih

/-- consecutive pairs of a strictly increasing list: increasing, end points are elements, and no
    element lies strictly in between -/
theorem pairs_spec (l : List Rat) (hl : l.Pairwise (· < ·)) (a b : Rat) (hab : (a, b) ∈ pairs l) :
    a < b ∧ a ∈ l ∧ b ∈ l ∧ ∀ c ∈ l, ¬ (a < c ∧ c < b) := by
  induction l with
  | nil => simp [pairs] at hab
  | cons x rest ih =>
    cases rest with
    | nil => simp [pairs] at hab
    | cons y rest =>
      rw [List.pairwise_cons] at hl
      simp only [pairs, List.mem_cons] at hab
      rcases hab with hxy | hin
      · obtain ⟨rfl, rfl⟩ := Prod.mk.inj hxy
        refine ⟨hl.1 b List.mem_cons_self, List.mem_cons_self,
          List.mem_cons_of_mem _ List.mem_cons_self, ?_⟩
        intro c hc ⟨h1, h2⟩
        rcases List.mem_cons.mp hc with rfl | hc
        · exact lt_irrefl _ h1
        · rcases List.mem_cons.mp hc with rfl | hc
          · exact lt_irrefl _ h2
          · exact lt_asymm h2 ((List.pairwise_cons.mp hl.2).1 c hc)
      · obtain ⟨h1, h2, h3, h4⟩ := ih hl.2 hin
        refine ⟨h1, List.mem_cons_of_mem _ h2, List.mem_cons_of_mem _ h3, ?_⟩
        intro c hc ⟨hc1, hc2⟩
        rcases List.mem_cons.mp hc with rfl | hc
        · exact lt_irrefl _ (lt_trans hc1 (hl.1 a h2))
        · exact h4 c hc ⟨hc1, hc2⟩

theorem pairs_cover (l : List Rat) (hl : l.Pairwise (· < ·)) (t : Rat)
    (hlo : ∃ a ∈ l, a ≤ t) (hhi : ∃ b ∈ l, t ≤ b) :
    t ∈ l ∨ ∃ ab ∈ pairs l, ab.1 < t ∧ t < ab.2 := by
  induction l with
  | nil => obtain ⟨a, ha, _⟩ := hlo; cases ha
  | cons x rest ih =>
    rw [List.pairwise_cons] at hl
    by_cases htx : t = x
    · left; simp [htx]
    have hxt : x < t := by
      obtain ⟨a, ha, hat⟩ := hlo
      rcases List.mem_cons.mp ha with rfl | ha
      · exact lt_of_le_of_ne hat (fun e => htx e.symm)
      · exact lt_of_lt_of_le (hl.1 a ha) hat
    obtain ⟨b, hb, htb⟩ := hhi
    have hb' : b ∈ rest :=
      (List.mem_cons.mp hb).resolve_left fun e => absurd (e ▸ htb) (not_le.mpr hxt)
    cases rest with
    | nil => cases hb'
    | cons y rest =>
      by_cases hty : t < y
      · exact Or.inr ⟨(x, y), List.mem_cons_self, hxt, hty⟩
      · rcases ih hl.2 ⟨y, List.mem_cons_self, not_lt.mp hty⟩ ⟨b, hb', htb⟩ with h | ⟨ab, hab, h⟩
        · exact Or.inl (List.mem_cons_of_mem _ h)
        · exact Or.inr ⟨ab, List.mem_cons_of_mem _ hab, h⟩

theorem dot_self_nonneg (E : Pt) : 0 ≤ dot E E := add_nonneg (mul_self_nonneg _) (mul_self_nonneg _)

theorem dot_self_eq_zero (E : Pt) (h : dot E E = 0) : E.x = 0 ∧ E.y = 0 := by
  obtain ⟨hx, hy⟩ := (add_eq_zero_iff_of_nonneg (mul_self_nonneg E.x) (mul_self_nonneg E.y)).mp h
  exact ⟨mul_self_eq_zero.mp hx, mul_self_eq_zero.mp hy⟩

/-- the projection of `w` on a direction `d` parallel to it gives `w` back -/
theorem proj_parallel (dx dy wx wy : Rat) (hdd : dx * dx + dy * dy ≠ 0) (hc : dx * wy - dy * wx = 0) :
    (wx * dx + wy * dy) / (dx * dx + dy * dy) * dx = wx ∧
      (wx * dx + wy * dy) / (dx * dx + dy * dy) * dy = wy := by
  constructor
  · rw [div_mul_eq_mul_div, div_eq_iff hdd]; linear_combination dy * hc
  · rw [div_mul_eq_mul_div, div_eq_iff hdd]; linear_combination (-dx) * hc

theorem at_param (s : Seg) (Q : Pt) (hdd : dot (s.q.sub s.p) (s.q.sub s.p) ≠ 0)
    (hc : cross (s.q.sub s.p) (Q.sub s.p) = 0) : s.at (param s Q) = Q := by
  have hx : param s Q * (s.q.x - s.p.x) = Q.x - s.p.x := (proj_parallel _ _ _ _ hdd hc).1
  have hy : param s Q * (s.q.y - s.p.y) = Q.y - s.p.y := (proj_parallel _ _ _ _ hdd hc).2
  rw [Seg.at, hx, hy, add_sub_cancel, add_sub_cancel]

theorem onSeg_at_iff (s : Seg) (a b t : Rat) :
    onSeg (s.at a) (s.at b) (s.at t) = true ↔
      (t - a) * (t - b) * dot (s.q.sub s.p) (s.q.sub s.p) ≤ 0 := by
  have hc : cross ((s.at b).sub (s.at a)) ((s.at t).sub (s.at a)) = 0 := by
    simp only [cross, Pt.sub, Seg.at]; ring
  have hd : dot ((s.at t).sub (s.at a)) ((s.at t).sub (s.at b))
      = (t - a) * (t - b) * dot (s.q.sub s.p) (s.q.sub s.p) := by
    simp only [dot, Pt.sub, Seg.at]; ring
  rw [onSeg_iff, hd, and_iff_right hc]

/-- three points of the line of the segment: the third lies between the first two iff its
    parameter does -/
theorem onSeg_at (s : Seg) (a b t : Rat) (hdd : dot (s.q.sub s.p) (s.q.sub s.p) ≠ 0) :
    onSeg (s.at a) (s.at b) (s.at t) = true ↔ (t - a) * (t - b) ≤ 0 := by
  have hpos : 0 < dot (s.q.sub s.p) (s.q.sub s.p) := lt_of_le_of_ne (dot_self_nonneg _) hdd.symm
  rw [onSeg_at_iff]
  exact ⟨fun h => nonpos_of_mul_nonpos_left h hpos, fun h => mul_nonpos_of_nonpos_of_nonneg h hpos.le⟩

theorem onSeg_lerp2 (A B : Pt) (l : Rat) (h0 : 0 ≤ l) (h1 : l ≤ 1) : onSeg A B (lerp2 A B l) = true := by
  -- `A`, `B`, `lerp2 A B l` are the points of parameters 0, 1, `l` of the segment `AB`
  have := (onSeg_at_iff ⟨A, B⟩ 0 1 l).mpr (mul_nonpos_of_nonpos_of_nonneg
    (mul_nonpos_of_nonneg_of_nonpos (by rwa [sub_zero]) (sub_nonpos.mpr h1)) (dot_self_nonneg _))
  rwa [show Seg.at ⟨A, B⟩ 0 = A from lerp2_zero A B, show Seg.at ⟨A, B⟩ 1 = B from lerp2_one A B] at this

/-- for an edge on the line of the segment, the points of the segment that lie on the edge are
    those whose parameter is between the parameters of the edge's end points -/
theorem onSeg_collinear_iff (s : Seg) (A B : Pt) (t : Rat)
    (hdd : dot (s.q.sub s.p) (s.q.sub s.p) ≠ 0)
    (hDE : cross (s.q.sub s.p) (B.sub A) = 0)
    (hA : cross (s.q.sub s.p) (A.sub s.p) = 0) :
    onSeg A B (s.at t) = true ↔ (t - param s A) * (t - param s B) ≤ 0 := by
  have hB : cross (s.q.sub s.p) (B.sub s.p) = 0 := by
    simp only [cross, Pt.sub] at *; linear_combination hDE + hA
  rw [← onSeg_at s _ _ t hdd, at_param s A hdd hA, at_param s B hdd hB]

theorem cross_parallel (D E W : Pt) :
    cross D W * dot E E = cross D E * dot E W + dot D E * cross E W := by
  simp only [cross, dot]; ring

/-- if the point `s.at t` lies on the edge `AB` and the edge is parallel to the segment, then `A` is
    on the line of the segment -/
theorem collinear_of_onSeg_parallel (s : Seg) (A B : Pt) (t : Rat)
    (hDE : cross (s.q.sub s.p) (B.sub A) = 0) (hon : onSeg A B (s.at t) = true) :
    cross (s.q.sub s.p) (A.sub s.p) = 0 := by
  obtain ⟨hc, hd⟩ := (onSeg_iff A B (s.at t)).mp hon
  have hW : cross (s.q.sub s.p) (A.sub s.p) = - cross (s.q.sub s.p) ((s.at t).sub A) := by
    simp only [cross, Pt.sub, Seg.at]; ring
  rw [hW, neg_eq_zero]
  by_cases hE : dot (B.sub A) (B.sub A) = 0
  · -- `A = B`, so `s.at t = A`
    obtain ⟨ex, ey⟩ := dot_self_eq_zero _ hE
    simp only [dot, Pt.sub, sub_eq_zero.mp ex, sub_eq_zero.mp ey] at hd
    obtain ⟨wx, wy⟩ := dot_self_eq_zero ((s.at t).sub A) (le_antisymm hd (dot_self_nonneg _))
    rw [cross, wx, wy, mul_zero, mul_zero, sub_self]
  · have key := cross_parallel (s.q.sub s.p) (B.sub A) ((s.at t).sub A)
    rw [hDE, hc, zero_mul, mul_zero, add_zero] at key
    exact (mul_eq_zero.mp key).resolve_right hE

theorem crossingsE_eq_flatMap (s : Seg) (es : List (Pt × Pt)) :
    crossingsE s es = es.flatMap (crossingsEdge s) := by
  induction es with
  | nil => rfl
  | cons e es ih => rw [crossingsE, ih, List.flatMap_cons]

theorem mem_crossingsE (s : Seg) (es : List (Pt × Pt)) (t : Rat) :
    t ∈ crossingsE s es ↔ ∃ e ∈ es, t ∈ crossingsEdge s e := by
  rw [crossingsE_eq_flatMap]; exact List.mem_flatMap

theorem crossingsEdge_in01 (s : Seg) (e : Pt × Pt) (t : Rat) (h : t ∈ crossingsEdge s e) :
    in01 t = true := by
  simp only [crossingsEdge] at h
  split_ifs at h with h1 h2 h3
  · simp only [List.mem_singleton] at h
    subst h
    simp only [Bool.and_eq_true] at h2
    exact h2.1
  · cases h
  · exact (List.mem_filter.mp h).2
  · cases h

/-- every parameter in [0,1] at which the segment meets the edge `AB` is a crossing parameter, or
    lies in a collinear overlap whose end parameters are crossing parameters when in [0,1] -/
theorem edge_crossing_complete (s : Seg) (A B : Pt) (t : Rat)
    (hdd : dot (s.q.sub s.p) (s.q.sub s.p) ≠ 0) (h01 : in01 t = true)
    (hon : onSeg A B (s.at t) = true) :
    t ∈ crossingsEdge s (A, B) ∨
      (cross (s.q.sub s.p) (B.sub A) = 0 ∧ cross (s.q.sub s.p) (A.sub s.p) = 0 ∧
        (t - param s A) * (t - param s B) ≤ 0 ∧
        (in01 (param s A) = true → param s A ∈ crossingsEdge s (A, B)) ∧
        (in01 (param s B) = true → param s B ∈ crossingsEdge s (A, B))) := by
  by_cases hden : cross (s.q.sub s.p) (B.sub A) = 0
  · right
    have hA := collinear_of_onSeg_parallel s A B t hden hon
    have heq : crossingsEdge s (A, B) = [param s A, param s B].filter in01 := by
      simp only [crossingsEdge, hden, ne_eq, not_true_eq_false, if_false, hA, if_true]
    rw [heq]
    exact ⟨hden, hA, (onSeg_collinear_iff s A B t hdd hden hA).mp hon,
      fun h => List.mem_filter.mpr ⟨List.mem_cons_self, h⟩,
      fun h => List.mem_filter.mpr ⟨List.mem_cons_of_mem _ List.mem_cons_self, h⟩⟩
  · left
    have ht : t = cross (A.sub s.p) (B.sub A) / cross (s.q.sub s.p) (B.sub A) := by
      rw [eq_div_iff hden]
      have hc := ((onSeg_iff A B (s.at t)).mp hon).1
      simp only [cross, Pt.sub, Seg.at] at hc ⊢
      linear_combination (-1 : Rat) * hc
    simp only [crossingsEdge, ne_eq, hden, not_false_eq_true, if_true]
    rw [← ht, h01, hon]
    exact List.mem_singleton_self t

theorem spans_iff (s : Seg) (e : Pt × Pt) :
    spans s e = true ↔ (sideOf s e.1 ≤ 0 ∧ 0 < sideOf s e.2) ∨ (0 < sideOf s e.1 ∧ sideOf s e.2 ≤ 0) := by
  rw [spans, bne_iff_ne, ne_eq, decide_eq_decide, not_iff]
  exact iff_iff_and_or_not_and_not.trans (by rw [not_not, not_lt, not_lt])

theorem spans_ratio (s : Seg) (e : Pt × Pt) (hs : spans s e = true) :
    0 ≤ sideOf s e.1 / (sideOf s e.1 - sideOf s e.2) ∧
      sideOf s e.1 / (sideOf s e.1 - sideOf s e.2) ≤ 1 ∧
      sideOf s (lerp2 e.1 e.2 (sideOf s e.1 / (sideOf s e.1 - sideOf s e.2))) = 0 := by
  obtain ⟨h0, h1, hz, _⟩ := ratio_facts _ _ ((spans_iff s e).mp hs)
  exact ⟨h0, h1, (sideOf_lerp2 s _ _ _).trans hz⟩

theorem spans_hit_onSeg (s : Seg) (e : Pt × Pt) (hdd : dot (s.q.sub s.p) (s.q.sub s.p) ≠ 0)
    (hs : spans s e = true) : onSeg e.1 e.2 (s.at (hitParam s e)) = true := by
  obtain ⟨h0, h1, hline⟩ := spans_ratio s e hs
  rw [hitParam, at_param s _ hdd hline]
  exact onSeg_lerp2 e.1 e.2 _ h0 h1

theorem oddAlong_congr (s : Seg) (es : List (Pt × Pt)) (t1 t2 : Rat)
    (h : ∀ e ∈ es, rayHitsAlong s e t1 = rayHitsAlong s e t2) : oddAlong s es t1 = oddAlong s es t2 := by
  induction es with
  | nil => rfl
  | cons e es ih =>
    simp only [oddAlong]
    rw [h e (by simp), ih (fun e' he' => h e' (List.mem_cons_of_mem _ he'))]

/-- the parity of the crossings ahead is constant on an open parameter interval along which the
    segment does not meet the boundary -/
theorem oddAlong_const (s : Seg) (es : List (Pt × Pt)) (hdd : dot (s.q.sub s.p) (s.q.sub s.p) ≠ 0)
    (a b : Rat) (hoff : ∀ u, a < u → u < b → onBoundaryE es (s.at u) = false)
    (t1 t2 : Rat) (h1 : a < t1 ∧ t1 < b) (h2 : a < t2 ∧ t2 < b) :
    oddAlong s es t1 = oddAlong s es t2 := by
  apply oddAlong_congr
  intro e he
  rw [rayHitsAlong, rayHitsAlong]
  by_cases hs : spans s e = true
  · -- the hit point is on the boundary, so its parameter is not in `(a, b)`: it is ahead of every
    -- point of `(a, b)` or of none
    have ahead : ∀ t, a < t → t < b → (t < hitParam s e ↔ b ≤ hitParam s e) := by
      refine fun t hat htb => ⟨fun h => not_lt.mp fun hlt => ?_, fun h => htb.trans_le h⟩
      have := hoff _ (hat.trans h) hlt
      rw [(onBoundaryE_iff _ _).mpr ⟨e, he, spans_hit_onSeg s e hdd hs⟩] at this
      cases this
    rw [decide_eq_decide.mpr ((ahead t1 h1.1 h1.2).trans (ahead t2 h2.1 h2.2).symm)]
  · rw [Bool.not_eq_true] at hs
    rw [hs]
    rfl

theorem dd_ne_zero (s : Seg) (h : s.p ≠ s.q) : dot (s.q.sub s.p) (s.q.sub s.p) ≠ 0 := by
  intro h0
  obtain ⟨hx, hy⟩ := dot_self_eq_zero _ h0
  obtain ⟨⟨px, py⟩, ⟨qx, qy⟩⟩ := s
  exact h (congrArg₂ Pt.mk (sub_eq_zero.mp hx).symm (sub_eq_zero.mp hy).symm)

theorem mem_cutsE (s : Seg) (es : List (Pt × Pt)) (c : Rat) :
    c ∈ cutsE s es ↔ c = 0 ∨ c = 1 ∨ c ∈ crossingsE s es := by
  rw [cutsE, mem_sortU, List.mem_cons, List.mem_cons]

theorem cuts_sorted (s : Seg) (es : List (Pt × Pt)) : (cutsE s es).Pairwise (· < ·) :=
  pairwise_sortU _

theorem cuts_in01 (s : Seg) (es : List (Pt × Pt)) (c : Rat) (hc : c ∈ cutsE s es) : 0 ≤ c ∧ c ≤ 1 := by
  rcases (mem_cutsE s es c).mp hc with rfl | rfl | hc
  · exact ⟨le_rfl, zero_le_one⟩
  · exact ⟨zero_le_one, le_rfl⟩
  · obtain ⟨e, _, he⟩ := (mem_crossingsE s es c).mp hc
    exact (in01_iff c).mp (crossingsEdge_in01 s e c he)

theorem pair_facts (s : Seg) (es : List (Pt × Pt)) (a b : Rat) (h : (a, b) ∈ pairs (cutsE s es)) :
    0 ≤ a ∧ a < b ∧ b ≤ 1 ∧ ∀ c ∈ crossingsE s es, ¬ (a < c ∧ c < b) := by
  obtain ⟨h1, h2, h3, h4⟩ := pairs_spec _ (cuts_sorted s es) a b h
  exact ⟨(cuts_in01 s es a h2).1, h1, (cuts_in01 s es b h3).2,
    fun c hc => h4 c ((mem_cutsE s es c).mpr (Or.inr (Or.inr hc)))⟩

/-- if an interior point of a candidate piece lies on a polygon edge, the whole closed piece lies on that
    edge: the edge is collinear with the segment (a transversal edge would have produced a cut parameter
    inside the piece) and the parameters of its end points, being cuts when in [0,1], are outside the open
    piece -/
theorem pair_edge_dichotomy (s : Seg) (es : List (Pt × Pt)) (a b : Rat)
    (hp : (a, b) ∈ pairs (cutsE s es)) (hdd : dot (s.q.sub s.p) (s.q.sub s.p) ≠ 0)
    (A B : Pt) (he : (A, B) ∈ es) (t : Rat) (hat : a < t) (htb : t < b)
    (hon : onSeg A B (s.at t) = true) :
    ∀ u, a ≤ u → u ≤ b → onSeg A B (s.at u) = true := by
  intro u hau hub
  obtain ⟨h0, hab, h1, hno⟩ := pair_facts s es a b hp
  have ht01 : in01 t = true := (in01_iff t).mpr ⟨h0.trans hat.le, htb.le.trans h1⟩
  rcases edge_crossing_complete s A B t hdd ht01 hon with hin | ⟨hDE, hA, hprod, hcA, hcB⟩
  · exact absurd ⟨hat, htb⟩ (hno t ((mem_crossingsE s _ t).mpr ⟨(A, B), he, hin⟩))
  · have out : ∀ v, (in01 v = true → v ∈ crossingsEdge s (A, B)) → v ≤ a ∨ b ≤ v := by
      intro v hv
      by_contra hcon
      rw [not_or, not_le, not_le] at hcon
      have hv01 : in01 v = true := (in01_iff v).mpr ⟨h0.trans hcon.1.le, hcon.2.le.trans h1⟩
      exact hno v ((mem_crossingsE s _ v).mpr ⟨(A, B), he, hv hv01⟩) hcon
    exact (onSeg_collinear_iff s A B u hdd hDE hA).mpr
      (between_of_outside a b t u _ _ hat htb (out _ hcA) (out _ hcB) hprod hau hub)

/-- a candidate piece with an interior point `m` on the boundary lies in the boundary -/
theorem pair_on_boundary (s : Seg) (es : List (Pt × Pt)) (a b : Rat)
    (hp : (a, b) ∈ pairs (cutsE s es)) (hdd : dot (s.q.sub s.p) (s.q.sub s.p) ≠ 0)
    (m : Rat) (ham : a < m) (hmb : m < b) (hm : onBoundaryE es (s.at m) = true)
    (t : Rat) (hat : a ≤ t) (htb : t ≤ b) : onBoundaryE es (s.at t) = true := by
  obtain ⟨⟨A, B⟩, he, hon⟩ := (onBoundaryE_iff _ _).mp hm
  exact (onBoundaryE_iff _ _).mpr
    ⟨(A, B), he, pair_edge_dichotomy s es a b hp hdd A B he m ham hmb hon t hat htb⟩

theorem pair_off_boundary (s : Seg) (es : List (Pt × Pt)) (a b : Rat)
    (hp : (a, b) ∈ pairs (cutsE s es)) (hdd : dot (s.q.sub s.p) (s.q.sub s.p) ≠ 0)
    (hmid : onBoundaryE es (s.at ((a + b) / 2)) = false) (t : Rat) (hat : a < t) (htb : t < b) :
    onBoundaryE es (s.at t) = false := by
  have hab := (pair_facts s es a b hp).2.1
  by_contra hb
  rw [Bool.not_eq_false] at hb
  have := pair_on_boundary s es a b hp hdd t hat htb hb ((a + b) / 2)
    (left_lt_add_div_two.mpr hab).le (add_div_two_lt_right.mpr hab).le
  rw [hmid] at this
  cases this

/-- the status (inside / not inside, even–odd rule along the segment) of every interior point of a
    candidate piece is that of its midpoint -/
theorem pair_insideAlong_const (s : Seg) (es : List (Pt × Pt)) (a b : Rat)
    (hp : (a, b) ∈ pairs (cutsE s es)) (hdd : dot (s.q.sub s.p) (s.q.sub s.p) ≠ 0)
    (t : Rat) (hat : a < t) (htb : t < b) :
    insideAlong s es t = insideAlong s es ((a + b) / 2) := by
  have hab := (pair_facts s es a b hp).2.1
  have ham := left_lt_add_div_two.mpr hab
  have hmb := add_div_two_lt_right.mpr hab
  rw [insideAlong, insideAlong]
  by_cases hmid : onBoundaryE es (s.at ((a + b) / 2)) = true
  · rw [hmid, pair_on_boundary s es a b hp hdd _ ham hmb hmid t hat.le htb.le]
    rfl
  · rw [Bool.not_eq_true] at hmid
    have hoff := pair_off_boundary s es a b hp hdd hmid
    rw [hmid, hoff t hat htb]
    exact congrArg _ (oddAlong_const s es hdd a b hoff t _ ⟨hat, htb⟩ ⟨ham, hmb⟩)

theorem mem_rawE_iff (es : List (Pt × Pt)) (s : Seg) (ab : Rat × Rat) :
    ab ∈ clipSimpleRawE es s ↔
      s.p ≠ s.q ∧ ab ∈ pairs (cutsE s es) ∧ insideAlong s es ((ab.1 + ab.2) / 2) = true := by
  unfold clipSimpleRawE
  by_cases hpq : s.p = s.q
  · simp [hpq]
  · rw [if_neg hpq, List.mem_filter]
    simp [midIn, hpq]

theorem Icc_union (a b c t : Rat) (hab : a ≤ b) (hbc : b ≤ c) :
    (a ≤ t ∧ t ≤ c) ↔ (a ≤ t ∧ t ≤ b) ∨ (b ≤ t ∧ t ≤ c) := by
  constructor
  · rintro ⟨h1, h2⟩
    rcases le_total t b with h | h
    · exact Or.inl ⟨h1, h⟩
    · exact Or.inr ⟨h, h2⟩
  · rintro (⟨h1, h2⟩ | ⟨h1, h2⟩)
    · exact ⟨h1, h2.trans hbc⟩
    · exact ⟨hab.trans h1, h2⟩

/-- merging pieces that share an end point does not change the union -/
theorem mergeAux_union (cur : Rat × Rat) (rest : List (Rat × Rat)) (hc : cur.1 ≤ cur.2)
    (hr : ∀ ab ∈ rest, ab.1 ≤ ab.2) (t : Rat) :
    (∃ ab ∈ mergeAux cur rest, ab.1 ≤ t ∧ t ≤ ab.2) ↔
      ((cur.1 ≤ t ∧ t ≤ cur.2) ∨ ∃ ab ∈ rest, ab.1 ≤ t ∧ t ≤ ab.2) := by
  induction rest generalizing cur with
  | nil => simp [mergeAux]
  | cons x rest ih =>
    have hx := hr x (by simp)
    have hr' : ∀ ab ∈ rest, ab.1 ≤ ab.2 := fun ab h => hr ab (List.mem_cons_of_mem _ h)
    have hcx : cur.2 = x.1 → cur.2 ≤ x.2 := fun he => he.trans_le hx
    simp only [mergeAux, List.mem_cons, exists_eq_or_imp]
    split_ifs with he
    · rw [ih (cur.1, x.2) (hc.trans (hcx he)) hr', ← or_assoc, ← he]
      exact or_congr_left (Icc_union cur.1 cur.2 x.2 t hc (hcx he))
    · simp only [List.mem_cons, exists_eq_or_imp]
      rw [ih x hx hr']

end PorepyVerif.C44
