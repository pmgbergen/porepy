/-
C44 — lemmas for Sutherland–Hodgman: in 3d and, with the invariant of the walk around a convex polygon
(`Inv`, `inv_step`), in the plane; the 3d pass over a planar polygon is the 2d pass (`shClip1_embed`).
-/
import PorepyVerif.C44.Lemmas

namespace PorepyVerif.C44

theorem leftOf_subseg (A B X : Pt) (r1 r2 : Rat) :
    leftOf (lerp2 A B r1) (lerp2 A B r2) X = (r2 - r1) * leftOf A B X := by
  simp only [leftOf, cross, Pt.sub, lerp2]; ring

theorem eval_lerp3 (h : HS) (P Q : P3) (t : Rat) :
    h.eval (lerp3 P Q t) = h.eval P + t * (h.eval Q - h.eval P) := by
  simp only [HS.eval, lerp3]; ring

theorem lerp_nonneg (a b r : Rat) (ha : 0 ≤ a) (hb : 0 ≤ b) (h0 : 0 ≤ r) (h1 : r ≤ 1) :
    0 ≤ a + r * (b - a) := by
  have : a + r * (b - a) = (1 - r) * a + r * b := by ring
  rw [this]
  exact add_nonneg (mul_nonneg (sub_nonneg.mpr h1) ha) (mul_nonneg h0 hb)

/-- consecutive pairs of `cur :: ns` -/
def zp {α : Type} : α → List α → List (α × α)
  | _, [] => []
  | cur, n :: r => (cur, n) :: zp n r

/-- the edges of the chain `a :: rest ++ [f]` start in `a :: rest` and end in `rest ++ [f]` -/
theorem mem_zp_concat {α : Type} (a : α) (rest : List α) (f : α) (e : α × α) (he : e ∈ zp a (rest ++ [f])) :
    e.1 ∈ a :: rest ∧ e.2 ∈ rest ++ [f] := by
  induction rest generalizing a with
  | nil =>
    rw [List.nil_append, zp, zp, List.mem_singleton] at he
    subst he
    exact ⟨List.mem_singleton_self _, List.mem_singleton_self _⟩
  | cons b r ih =>
    rw [List.cons_append, zp, List.mem_cons] at he
    rcases he with rfl | he
    · exact ⟨List.mem_cons_self, List.mem_cons_self⟩
    · exact ⟨List.mem_cons_of_mem _ (ih b he).1, List.mem_cons_of_mem _ (ih b he).2⟩

/-- the edges of the closed chain through `a :: rest` join vertices of the chain -/
theorem mem_zp_closed {α : Type} (a : α) (rest : List α) (e : α × α) (he : e ∈ zp a (rest ++ [a])) :
    e.1 ∈ a :: rest ∧ e.2 ∈ a :: rest := by
  obtain ⟨h1, h2⟩ := mem_zp_concat a rest a e he
  rw [List.mem_append, List.mem_singleton] at h2
  exact ⟨h1, List.mem_cons.mpr h2.symm⟩

theorem zp_append_singleton (a : Pt) (l : List Pt) (x : Pt) (e : Pt × Pt) :
    e ∈ zp a (l ++ [x]) ↔ e ∈ zp a l ∨ e = (l.getLastD a, x) := by
  induction l generalizing a with
  | nil => simp [zp]
  | cons b r ih =>
    simp only [List.cons_append, zp, List.mem_cons, List.getLastD_cons, ih, or_assoc]

theorem edgesAux_eq_zp (f a : Pt) (rest : List Pt) : edgesAux f (a :: rest) = zp a (rest ++ [f]) := by
  induction rest generalizing a with
  | nil => rfl
  | cons b r ih => simp only [edgesAux, List.cons_append, zp, ih]

theorem edges_eq_zp (a : Pt) (rest : List Pt) : edges (a :: rest) = zp a (rest ++ [a]) :=
  edgesAux_eq_zp a a rest

theorem mem_of_mem_edges (poly : List Pt) (e : Pt × Pt) (he : e ∈ edges poly) :
    e.1 ∈ poly ∧ e.2 ∈ poly := by
  cases poly with
  | nil => cases he
  | cons a rest => exact mem_zp_closed a rest e (edges_eq_zp a rest ▸ he)

/-! Both Sutherland–Hodgman passes concatenate the contributions `shEdge`/`shEdge2` of the edges of
the closed chain through the vertices.  The 3d facts hold for any polygon in space, so they do not come from
the 2d ones: `shClip1_embed` identifies the two passes for planar input only. -/

theorem mem_shEdge (h : HS) (P Q X : P3) :
    X ∈ shEdge h P Q ↔ (h.eval P ≤ 0 ∧ X = P) ∨
      (((h.eval P < 0 ∧ 0 < h.eval Q) ∨ (0 < h.eval P ∧ h.eval Q < 0)) ∧
        X = lerp3 P Q (h.eval P / (h.eval P - h.eval Q))) := by
  simp only [shEdge, List.mem_append, List.mem_ite_nil_right, List.mem_singleton]

theorem mem_shEdge2 (h : HP) (P Q X : Pt) :
    X ∈ shEdge2 h P Q ↔ (h.eval P ≤ 0 ∧ X = P) ∨
      (((h.eval P < 0 ∧ 0 < h.eval Q) ∨ (0 < h.eval P ∧ h.eval Q < 0)) ∧
        X = lerp2 P Q (h.eval P / (h.eval P - h.eval Q))) := by
  simp only [shEdge2, List.mem_append, List.mem_ite_nil_right, List.mem_singleton]

/-- the point where the edge `P → Q` meets the boundary line of `h` -/
def crossPt (h : HP) (P Q : Pt) : Pt := lerp2 P Q (h.eval P / (h.eval P - h.eval Q))

theorem eval_crossPt (h : HP) (P Q : Pt) (hne : h.eval P ≠ h.eval Q) : h.eval (crossPt h P Q) = 0 := by
  rw [crossPt, eval_lerp2, ratio_cancel _ _ (sub_ne_zero.mpr hne)]

/-! what one edge contributes to the output, by the position of its end points (`h.eval P ≤ 0` is "inside":
`HP.eval` is minus the `dist` of the code, which keeps a vertex iff `dist ≥ 0`); the area argument of
`PorepyVerif.C33.LemmasClip` walks over these four cases -/

theorem shEdge2_in (h : HP) (P Q : Pt) (hp : h.eval P ≤ 0) (hq : 0 < h.eval Q → h.eval P = 0) :
    shEdge2 h P Q = [P] := by
  have hx : ¬(h.eval P < 0 ∧ 0 < h.eval Q) := fun ⟨h1, h2⟩ => h1.ne (hq h2)
  simp only [shEdge2, if_pos hp, hx, not_lt_of_ge hp, false_and, or_self, if_false, List.append_nil]

theorem shEdge2_in_cross (h : HP) (P Q : Pt) (hp : h.eval P < 0) (hq : 0 < h.eval Q) :
    shEdge2 h P Q = [P, crossPt h P Q] := by
  simp only [shEdge2, if_pos hp.le, hp, hq, and_self, true_or, if_true, crossPt, List.cons_append,
    List.nil_append]

theorem shEdge2_out_in (h : HP) (P Q : Pt) (hp : 0 < h.eval P) (hq : h.eval Q < 0) :
    shEdge2 h P Q = [crossPt h P Q] := by
  simp only [shEdge2, if_neg (not_le_of_gt hp), hp, hq, and_self, or_true, if_true, crossPt,
    List.nil_append]

theorem shEdge2_out (h : HP) (P Q : Pt) (hp : 0 < h.eval P) (hq : 0 ≤ h.eval Q) :
    shEdge2 h P Q = [] := by
  simp only [shEdge2, if_neg (not_le_of_gt hp), not_lt_of_gt hp, not_lt_of_ge hq, false_and, and_false,
    or_self, if_false, List.append_nil]

theorem shAux_eq_flatMap (h : HS) (f a : P3) (rest : List P3) :
    shAux h f (a :: rest) = (zp a (rest ++ [f])).flatMap fun e => shEdge h e.1 e.2 := by
  induction rest generalizing a with
  | nil => simp [shAux, zp]
  | cons b r ih => simp only [shAux, ih, List.cons_append, zp, List.flatMap_cons]

theorem walk2_eq_flatMap (h : HP) (cur : Pt) (ns : List Pt) :
    walk2 h cur ns = (zp cur ns).flatMap fun e => shEdge2 h e.1 e.2 := by
  induction ns generalizing cur with
  | nil => rfl
  | cons n r ih => simp only [walk2, ih, zp, List.flatMap_cons]

theorem shClip12_eq_flatMap (h : HP) (poly : List Pt) :
    shClip12 h poly = (edges poly).flatMap fun e => shEdge2 h e.1 e.2 := by
  cases poly with
  | nil => rfl
  | cons a rest => rw [shClip12, walk2_eq_flatMap, edges_eq_zp]

theorem mem_shAux (h : HS) (first : P3) (l : List P3) (X : P3) (hX : X ∈ shAux h first l) :
    ∃ P ∈ l, ∃ Q ∈ first :: l, X ∈ shEdge h P Q := by
  cases l with
  | nil => cases hX
  | cons a rest =>
    rw [shAux_eq_flatMap, List.mem_flatMap] at hX
    obtain ⟨e, he, hXe⟩ := hX
    obtain ⟨h1, h2⟩ := mem_zp_concat a rest first e he
    refine ⟨e.1, h1, e.2, ?_, hXe⟩
    rcases List.mem_append.mp h2 with h2 | h2
    · exact List.mem_cons_of_mem _ (List.mem_cons_of_mem _ h2)
    · exact List.mem_singleton.mp h2 ▸ List.mem_cons_self

theorem mem_shClip1 (h : HS) (poly : List P3) (X : P3) (hX : X ∈ shClip1 h poly) :
    ∃ P ∈ poly, ∃ Q ∈ poly, X ∈ shEdge h P Q := by
  cases poly with
  | nil => cases hX
  | cons a rest =>
    obtain ⟨P, hP, Q, hQ, hXe⟩ := mem_shAux h a (a :: rest) X hX
    exact ⟨P, hP, Q, (List.mem_cons.mp hQ).elim (fun e => e ▸ List.mem_cons_self) id, hXe⟩

theorem mem_shClip12 (h : HP) (poly : List Pt) (X : Pt) (hX : X ∈ shClip12 h poly) :
    ∃ P ∈ poly, ∃ Q ∈ poly, X ∈ shEdge2 h P Q := by
  rw [shClip12_eq_flatMap, List.mem_flatMap] at hX
  obtain ⟨e, he, hXe⟩ := hX
  exact ⟨e.1, (mem_of_mem_edges poly e he).1, e.2, (mem_of_mem_edges poly e he).2, hXe⟩

theorem shClip1_sound (h : HS) (poly : List P3) (X : P3) (hX : X ∈ shClip1 h poly) : h.eval X ≤ 0 := by
  obtain ⟨P, _, Q, _, hXe⟩ := mem_shClip1 h poly X hX
  rcases (mem_shEdge h P Q X).mp hXe with ⟨h1, rfl⟩ | ⟨h1, rfl⟩
  · exact h1
  · rw [eval_lerp3, (cross_ratio _ _ h1).2.2.1]

theorem shClip1_preserves (h g : HS) (poly : List P3) (hg : ∀ P ∈ poly, g.eval P ≤ 0) (X : P3)
    (hX : X ∈ shClip1 h poly) : g.eval X ≤ 0 := by
  obtain ⟨P, hP, Q, hQ, hXe⟩ := mem_shClip1 h poly X hX
  rcases (mem_shEdge h P Q X).mp hXe with ⟨_, rfl⟩ | ⟨h1, rfl⟩
  · exact hg _ hP
  · obtain ⟨t0, t1, _, _⟩ := cross_ratio _ _ h1
    rw [eval_lerp3]
    linear_combination lerp_nonneg _ _ _ (neg_nonneg.mpr (hg P hP)) (neg_nonneg.mpr (hg Q hQ)) t0 t1

theorem shClip_preserves (hs : List HS) (g : HS) (poly : List P3) (hg : ∀ P ∈ poly, g.eval P ≤ 0)
    (X : P3) (hX : X ∈ shClip hs poly) : g.eval X ≤ 0 := by
  induction hs generalizing poly with
  | nil => exact hg X hX
  | cons h hs ih => exact ih (shClip1 h poly) (fun P hP => shClip1_preserves h g poly hg P hP) hX

theorem shEdge_inside (h : HS) (P Q : P3) (hP : h.eval P ≤ 0) (hQ : h.eval Q ≤ 0) : shEdge h P Q = [P] := by
  simp only [shEdge, hP, if_true]
  rw [if_neg]
  · simp
  · rintro (⟨_, b⟩ | ⟨a, _⟩) <;> linarith

theorem shAux_inside (h : HS) (first : P3) (l : List P3) (hf : h.eval first ≤ 0)
    (hl : ∀ P ∈ l, h.eval P ≤ 0) : shAux h first l = l := by
  induction l with
  | nil => rfl
  | cons a rest ih =>
    cases rest with
    | nil => simp only [shAux]; exact shEdge_inside h a first (hl a (by simp)) hf
    | cons b rest =>
      simp only [shAux]
      rw [shEdge_inside h a b (hl a (by simp)) (hl b (by simp)), ih (fun P hP => hl P (List.mem_cons_of_mem _ hP))]
      rfl

theorem inPoly_lerp2 (poly : List Pt) (C D : Pt) (r : Rat) (hC : InPoly poly C) (hD : InPoly poly D)
    (h0 : 0 ≤ r) (h1 : r ≤ 1) : InPoly poly (lerp2 C D r) := by
  intro e he
  rw [leftOf_lerp2]
  exact lerp_nonneg _ _ r (hC e he) (hD e he) h0 h1

/-- an affine function weights the three cross products of `X`, `B`, `W` seen from `U` -/
theorem eval_cross_identity (h : HP) (U B W X : Pt) :
    (h.eval W - h.eval U) * leftOf U X B + (h.eval X - h.eval U) * leftOf U B W
      + (h.eval B - h.eval U) * leftOf U W X = 0 := by
  simp only [HP.eval, leftOf, cross, Pt.sub]; ring

section Clip
variable (poly : List Pt) (h : HP)

/-- "to the left of `U → W`" follows from "in the polygon and in the half-plane" -/
def Good (U W : Pt) : Prop := ∀ X, InPoly poly X → h.eval X ≤ 0 → 0 ≤ leftOf U W X

/-- a point of the clipping line on an edge whose end point is strictly outside -/
def ExitPt (U : Pt) : Prop :=
  h.eval U = 0 ∧ ∃ e ∈ edges poly, ∃ r : Rat, 0 ≤ r ∧ r < 1 ∧ U = lerp2 e.1 e.2 r ∧ 0 < h.eval e.2

theorem good_subseg (A B : Pt) (he : (A, B) ∈ edges poly) (U W : Pt) (r1 r2 : Rat)
    (hU : U = lerp2 A B r1) (hW : W = lerp2 A B r2) (h12 : r1 ≤ r2) : Good poly h U W := by
  intro X hX _
  rw [hU, hW, leftOf_subseg]
  exact mul_nonneg (sub_nonneg.mpr h12) (hX (A, B) he)

theorem good_chord (U W : Pt) (hU : ExitPt poly h U) (hW : InPoly poly W) (hW0 : h.eval W = 0) :
    Good poly h U W := by
  obtain ⟨hU0, ⟨A, B⟩, he, r, hr0, hr1, hUe, hB⟩ := hU
  intro X _ hX0
  have id1 := eval_cross_identity h U B W X
  have id2 : leftOf U B W = (1 - r) * leftOf A B W := by
    rw [hUe, ← leftOf_subseg, lerp2_one]
  rw [hW0, hU0, id2, sub_self, zero_mul, zero_add, sub_zero, sub_zero] at id1
  have : 0 ≤ (-h.eval X) * ((1 - r) * leftOf A B W) :=
    mul_nonneg (neg_nonneg.mpr hX0) (mul_nonneg (sub_nonneg.mpr hr1.le) (hW (A, B) he))
  exact (mul_nonneg_iff_of_pos_left hB).mp (by linear_combination this - id1)

def Chain (R : Pt → Pt → Prop) : List Pt → Prop
  | [] => True
  | [_] => True
  | a :: b :: r => R a b ∧ Chain R (b :: r)

theorem chain_snoc (R : Pt → Pt → Prop) (O : List Pt) (y : Pt) (hO : Chain R O)
    (hy : ∀ L, O.getLast? = some L → R L y) : Chain R (O ++ [y]) := by
  induction O with
  | nil => trivial
  | cons a r ih =>
    cases r with
    | nil => exact ⟨hy a rfl, trivial⟩
    | cons b r => exact ⟨hO.1, ih hO.2 fun L hL => hy L (by rw [List.getLast?_cons_cons]; exact hL)⟩

theorem chain_iff_zp (R : Pt → Pt → Prop) (a : Pt) (r : List Pt) :
    Chain R (a :: r) ↔ ∀ e ∈ zp a r, R e.1 e.2 := by
  induction r generalizing a with
  | nil => simp [Chain, zp]
  | cons b r ih =>
    simp only [Chain, zp, List.mem_cons, forall_eq_or_imp, ih]

/-- what closing the output polygon needs of its first vertex `F`: it is the start vertex `a0`, or `a0` is
    strictly outside and `F` is a point of the polygon on the clipping line (where the walk entered) -/
def FirstOK (a0 F : Pt) : Prop :=
  (h.eval a0 ≤ 0 ∧ F = a0) ∨ (0 < h.eval a0 ∧ InPoly poly F ∧ h.eval F = 0)

/-- invariant of the walk: `O` = output so far, `v` = the vertex the walk has reached -/
structure Inv (a0 : Pt) (O : List Pt) (v : Pt) : Prop where
  chain : Chain (Good poly h) O
  mem : ∀ Y ∈ O, InPoly poly Y ∧ h.eval Y ≤ 0
  first : ∀ F, O.head? = some F → FirstOK poly h a0 F
  /-- nothing emitted yet: the walk is at its start, or started strictly outside and has not been
      strictly inside since -/
  empty : O = [] → v = a0 ∨ (0 < h.eval a0 ∧ 0 ≤ h.eval v)
  last : ∀ L, O.getLast? = some L →
    (h.eval v ≤ 0 → Good poly h L v) ∧ (0 < h.eval v → ExitPt poly h L)

theorem inv_emit (a0 : Pt) (O : List Pt) (v y w : Pt) (I : Inv poly h a0 O v)
    (hy : InPoly poly y ∧ h.eval y ≤ 0)
    (hjoin : ∀ L, O.getLast? = some L → Good poly h L y)
    (hfirst : O = [] → FirstOK poly h a0 y)
    (hlast : (h.eval w ≤ 0 → Good poly h y w) ∧ (0 < h.eval w → ExitPt poly h y)) :
    Inv poly h a0 (O ++ [y]) w where
  chain := chain_snoc _ O y I.chain hjoin
  mem := by
    intro Y hY
    rcases List.mem_append.mp hY with hY | hY
    · exact I.mem Y hY
    · rw [List.mem_singleton.mp hY]; exact hy
  first := by
    intro F hF
    cases O with
    | nil => simp only [List.nil_append, List.head?_cons, Option.some.injEq] at hF; rw [← hF]; exact hfirst rfl
    | cons a r => simp only [List.cons_append, List.head?_cons, Option.some.injEq] at hF; exact I.first F (by simp [hF])
  empty := by intro hO; simp at hO
  last := by
    intro L hL
    rw [List.getLast?_concat, Option.some.injEq] at hL
    rw [← hL]; exact hlast

/-- the invariant survives one edge `A → B`; four cases by the sides of `A` and `B` (leaving, entering,
    inside or on the line, outside) -/
theorem inv_step (hc : ConvexCCW poly) (a0 : Pt) (O : List Pt) (A B : Pt)
    (he : (A, B) ∈ edges poly) (I : Inv poly h a0 O A) :
    Inv poly h a0 (O ++ shEdge2 h A B) B := by
  obtain ⟨hAm, hBm⟩ := mem_of_mem_edges poly (A, B) he
  have hA : InPoly poly A := hc A hAm
  have hB : InPoly poly B := hc B hBm
  have emitA : ∀ w, h.eval A ≤ 0 →
      ((h.eval w ≤ 0 → Good poly h A w) ∧ (0 < h.eval w → ExitPt poly h A)) →
      Inv poly h a0 (O ++ [A]) w := by
    intro w hp hlast
    refine inv_emit poly h a0 O A A w I ⟨hA, hp⟩ (fun L hL => (I.last L hL).1 hp) (fun hO => ?_) hlast
    rcases I.empty hO with e | ⟨e1, e2⟩
    · exact Or.inl ⟨e ▸ hp, e⟩
    · exact Or.inr ⟨e1, hA, le_antisymm hp e2⟩
  simp only [shEdge2]
  by_cases hx : (h.eval A < 0 ∧ 0 < h.eval B) ∨ (0 < h.eval A ∧ h.eval B < 0)
  · obtain ⟨t0, t1, tz, tlt⟩ := cross_ratio _ _ hx
    have hc0 : h.eval (lerp2 A B (h.eval A / (h.eval A - h.eval B))) = 0 := by rw [eval_lerp2, tz]
    have hcP := inPoly_lerp2 poly A B _ hA hB t0 t1
    rw [if_pos hx]
    rcases hx with ⟨hp, hq⟩ | ⟨hp, hq⟩
    · -- leaving: `A`, then the crossing point, which is an exit point
      have gAC := good_subseg poly h A B he _ _ 0 _ (lerp2_zero A B).symm rfl t0
      have I1 := emitA _ hp.le ⟨fun _ => gAC, fun hpos => absurd hpos (hc0 ▸ lt_irrefl _)⟩
      rw [if_pos hp.le, ← List.append_assoc]
      refine inv_emit poly h a0 (O ++ [A]) _ _ B I1 ⟨hcP, hc0.le⟩ (fun L hL => ?_)
        (fun hO => absurd hO (by simp))
        ⟨fun hle => absurd hq (not_lt.mpr hle), fun _ => ⟨hc0, (A, B), he, _, t0, tlt hq, rfl, hq⟩⟩
      rw [List.getLast?_concat, Option.some.injEq] at hL
      rw [← hL]; exact gAC
    · -- entering: only the crossing point
      rw [if_neg (not_le.mpr hp), List.nil_append]
      refine inv_emit poly h a0 O A _ B I ⟨hcP, hc0.le⟩
        (fun L hL => good_chord poly h L _ ((I.last L hL).2 hp) hcP hc0)
        (fun hO => Or.inr ⟨(I.empty hO).elim (fun e => e ▸ hp) (fun e => e.1), hcP, hc0⟩)
        ⟨fun _ => good_subseg poly h A B he _ _ _ 1 rfl (lerp2_one A B).symm t1,
         fun hB0 => absurd hB0 (not_lt.mpr hq.le)⟩
  · rw [if_neg hx, List.append_nil]
    by_cases hp : h.eval A ≤ 0
    · -- `A` only; if `B` is strictly outside, `A` is on the line and is an exit point
      rw [if_pos hp]
      refine emitA B hp ⟨fun _ => good_subseg poly h A B he _ _ 0 1 (lerp2_zero A B).symm
        (lerp2_one A B).symm zero_le_one, fun hpos => ?_⟩
      have hA0 : h.eval A = 0 := le_antisymm hp (not_lt.mp fun hlt => hx (Or.inl ⟨hlt, hpos⟩))
      exact ⟨hA0, (A, B), he, 0, le_rfl, zero_lt_one, (lerp2_zero A B).symm, hpos⟩
    · -- nothing is emitted: `B` is not strictly inside
      have hpos := not_le.mp hp
      have hq : 0 ≤ h.eval B := not_lt.mp fun hneg => hx (Or.inr ⟨hpos, hneg⟩)
      rw [if_neg hp, List.append_nil]
      exact {
        chain := I.chain
        mem := I.mem
        first := I.first
        empty := fun hO => Or.inr ⟨(I.empty hO).elim (fun e => e ▸ hpos) (fun e => e.1), hq⟩
        last := fun L hL => ⟨fun hle => good_chord poly h L B ((I.last L hL).2 hpos) hB
          (le_antisymm hle hq), fun _ => (I.last L hL).2 hpos⟩ }

theorem inv_walk (hc : ConvexCCW poly) (a0 : Pt) (ns : List Pt) (cur : Pt) (O : List Pt)
    (hes : ∀ e ∈ zp cur ns, e ∈ edges poly) (I : Inv poly h a0 O cur) :
    Inv poly h a0 (O ++ walk2 h cur ns) (ns.getLastD cur) := by
  induction ns generalizing cur O with
  | nil => simpa [walk2] using I
  | cons n r ih =>
    simp only [walk2, List.getLastD_cons, ← List.append_assoc]
    apply ih n (O ++ shEdge2 h cur n) (fun e he => hes e (by simp [zp, he]))
    exact inv_step poly h hc a0 O cur n (hes (cur, n) (by simp [zp])) I

theorem inv_final (a : Pt) (rest : List Pt) (hc : ConvexCCW (a :: rest)) :
    Inv (a :: rest) h a (shClip12 h (a :: rest)) a := by
  have I0 : Inv (a :: rest) h a [] a :=
    ⟨trivial, fun Y hY => (by cases hY), fun F hF => (by cases hF), fun _ => Or.inl rfl,
      fun L hL => (by cases hL)⟩
  have := inv_walk _ h hc a (rest ++ [a]) a [] (fun e he => edges_eq_zp a rest ▸ he) I0
  rwa [List.getLastD_concat, List.nil_append] at this

/-- every edge of the clipped polygon has the points of (polygon ∩ half-plane) on its left -/
theorem clip_edges_good (hc : ConvexCCW poly) (e : Pt × Pt) (he : e ∈ edges (shClip12 h poly)) :
    Good poly h e.1 e.2 := by
  cases poly with
  | nil => cases he
  | cons a rest =>
    have I := inv_final h a rest hc
    cases hout : shClip12 h (a :: rest) with
    | nil => rw [hout] at he; cases he
    | cons F r =>
      rw [hout] at he I
      rw [edges_eq_zp, zp_append_singleton] at he
      rcases he with he | he
      · exact (chain_iff_zp _ F r).mp I.chain e he
      · -- the closing edge, from the last output vertex to the first
        rw [he]
        have hL : (F :: r).getLast? = some (r.getLastD F) := by
          rw [List.getLast?_cons, List.getLastD_eq_getLast?]
        obtain ⟨l1, l2⟩ := I.last _ hL
        rcases I.first F rfl with ⟨h1, h2⟩ | ⟨h1, h2, h3⟩
        · exact h2 ▸ l1 h1
        · exact good_chord _ h _ F (l2 h1) h2 h3

end Clip

theorem shClip12_sound (h : HP) (poly : List Pt) (X : Pt) (hX : X ∈ shClip12 h poly) : h.eval X ≤ 0 := by
  obtain ⟨P, _, Q, _, hXe⟩ := mem_shClip12 h poly X hX
  rcases (mem_shEdge2 h P Q X).mp hXe with ⟨h1, rfl⟩ | ⟨h1, rfl⟩
  · exact h1
  · rw [eval_lerp2, (cross_ratio _ _ h1).2.2.1]

theorem shClip12_preserves (h : HP) (poly : List Pt) (φ : Pt → Rat)
    (haff : ∀ C D r, φ (lerp2 C D r) = φ C + r * (φ D - φ C)) (hφ : ∀ P ∈ poly, 0 ≤ φ P)
    (X : Pt) (hX : X ∈ shClip12 h poly) : 0 ≤ φ X := by
  obtain ⟨P, hP, Q, hQ, hXe⟩ := mem_shClip12 h poly X hX
  rcases (mem_shEdge2 h P Q X).mp hXe with ⟨_, rfl⟩ | ⟨h1, rfl⟩
  · exact hφ _ hP
  · obtain ⟨t0, t1, _, _⟩ := cross_ratio _ _ h1
    rw [haff]
    exact lerp_nonneg _ _ _ (hφ P hP) (hφ Q hQ) t0 t1

theorem shClip2_preserves (hs : List HP) (poly : List Pt) (φ : Pt → Rat)
    (haff : ∀ C D r, φ (lerp2 C D r) = φ C + r * (φ D - φ C)) (hφ : ∀ P ∈ poly, 0 ≤ φ P)
    (X : Pt) (hX : X ∈ shClip2 hs poly) : 0 ≤ φ X := by
  induction hs generalizing poly with
  | nil => exact hφ X hX
  | cons h hs ih => exact ih (shClip12 h poly) (shClip12_preserves h poly φ haff hφ) hX

theorem shClip2_snoc (hs : List HP) (h : HP) (S : List Pt) :
    shClip2 (hs ++ [h]) S = shClip12 h (shClip2 hs S) := by
  induction hs generalizing S with
  | nil => rfl
  | cons g hs ih => simp only [List.cons_append, shClip2, ih]

theorem eval_embed (O U V : P3) (h : HS) (p : Pt) :
    h.eval (embed O U V p) = (pullHS O U V h).eval p := by
  simp only [HS.eval, HP.eval, embed, pullHS]; ring

theorem lerp3_embed (O U V : P3) (P Q : Pt) (t : Rat) :
    lerp3 (embed O U V P) (embed O U V Q) t = embed O U V (lerp2 P Q t) := by
  simp only [lerp3, embed, lerp2, P3.mk.injEq]
  refine ⟨by ring, by ring, by ring⟩

theorem shEdge_embed (O U V : P3) (h : HS) (P Q : Pt) :
    shEdge h (embed O U V P) (embed O U V Q) = (shEdge2 (pullHS O U V h) P Q).map (embed O U V) := by
  simp only [shEdge, shEdge2, eval_embed, lerp3_embed]
  split_ifs <;> simp

theorem shAux_embed (O U V : P3) (h : HS) (f a : Pt) (rest : List Pt) :
    shAux h (embed O U V f) ((a :: rest).map (embed O U V))
      = (walk2 (pullHS O U V h) a (rest ++ [f])).map (embed O U V) := by
  induction rest generalizing a with
  | nil => simp [shAux, walk2, shEdge_embed]
  | cons b r ih =>
    have := ih b
    simp only [List.map_cons] at this
    simp only [List.map_cons, shAux, List.cons_append, walk2, List.map_append, shEdge_embed, this]

theorem shClip1_embed (O U V : P3) (h : HS) (poly : List Pt) :
    shClip1 h (poly.map (embed O U V)) = (shClip12 (pullHS O U V h) poly).map (embed O U V) := by
  cases poly with
  | nil => rfl
  | cons a rest =>
    have := shAux_embed O U V h a a rest
    simp only [List.map_cons] at this
    simp only [List.map_cons, shClip1, shClip12, this]

end PorepyVerif.C44
