/-
C44 — lemmas used by all parts (interpolation along a segment, the ratio at which an affine function
changes sign) and the Liang–Barsky step of `clipConvex`.  `LemmasSimple` (clipping by any polygon) and
`LemmasSH` (Sutherland–Hodgman) build on this file and not on each other.
-/
import PorepyVerif.C44.Model
-- `PorepyVerif.C33.Lemmas` imports C44 and takes Mathlib lemmas (`List.sum_nonneg`, …) through this list,
-- `Positivity` included, which no proof here calls
import Mathlib.Algebra.Order.Field.Rat
import Mathlib.Tactic.Ring
import Mathlib.Tactic.Linarith
import Mathlib.Tactic.Positivity
import Mathlib.Tactic.FieldSimp
import Mathlib.Tactic.LinearCombination

namespace PorepyVerif.C44

theorem lerp2_zero (A B : Pt) : lerp2 A B 0 = A := by
  obtain ⟨x, y⟩ := A; simp [lerp2]

theorem lerp2_one (A B : Pt) : lerp2 A B 1 = B := by
  obtain ⟨x, y⟩ := A; obtain ⟨x', y'⟩ := B; simp [lerp2]

theorem eval_lerp2 (h : HP) (A B : Pt) (r : Rat) :
    h.eval (lerp2 A B r) = h.eval A + r * (h.eval B - h.eval A) := by
  simp only [HP.eval, lerp2]; ring

theorem leftOf_lerp2 (A B C D : Pt) (r : Rat) :
    leftOf A B (lerp2 C D r) = leftOf A B C + r * (leftOf A B D - leftOf A B C) := by
  simp only [leftOf, cross, Pt.sub, lerp2]; ring

/-- along the segment a half-plane is an affine function of the parameter -/
theorem eval_at (h : HP) (s : Seg) (t : Rat) :
    h.eval (s.at t) = h.eval s.p + t * (h.eval s.q - h.eval s.p) :=
  eval_lerp2 h s.p s.q t

theorem strictlyInside_iff (hs : List HP) (P : Pt) :
    strictlyInside hs P = true ↔ ∀ h ∈ hs, h.eval P < 0 := by
  simp only [strictlyInside, List.all_eq_true, decide_eq_true_eq]

theorem affine_le_iff_pos (n d t : Rat) (hd : 0 < d) : n + t * d ≤ 0 ↔ t ≤ -n / d := by
  rw [le_div_iff₀ hd, le_neg_iff_add_nonpos_left]

theorem affine_le_iff_neg (n d t : Rat) (hd : d < 0) : n + t * d ≤ 0 ↔ -n / d ≤ t := by
  rw [div_le_iff_of_neg hd, le_neg_iff_add_nonpos_left]

theorem affine_neg_between (n d lo hi t : Rat) (hlo : n + lo * d ≤ 0) (hhi : n + hi * d ≤ 0)
    (hmid : n + (lo + hi) / 2 * d < 0) (h1 : lo < t) (h2 : t < hi) : n + t * d < 0 := by
  rcases lt_trichotomy d 0 with hd | rfl | hd
  · exact (add_lt_add_right (mul_lt_mul_of_neg_right h1 hd) n).trans_le hlo
  · rw [mul_zero] at hmid ⊢; exact hmid
  · exact (add_lt_add_right (mul_lt_mul_of_pos_right h2 hd) n).trans_le hhi

theorem affine_zero (n d lo hi : Rat) (hlt : lo < hi) (hlo : n + lo * d ≤ 0) (hhi : n + hi * d ≤ 0)
    (hmid : 0 ≤ n + (lo + hi) / 2 * d) (t : Rat) : n + t * d = 0 := by
  rcases lt_trichotomy d 0 with hd | rfl | hd
  · exact absurd hmid (not_le.mpr ((add_lt_add_right
      (mul_lt_mul_of_neg_right (left_lt_add_div_two.mpr hlt) hd) n).trans_le hlo))
  · simp only [mul_zero, add_zero] at hlo hmid ⊢
    exact le_antisymm hlo hmid
  · exact absurd hmid (not_le.mpr ((add_lt_add_right
      (mul_lt_mul_of_pos_right (add_div_two_lt_right.mpr hlt) hd) n).trans_le hhi))

theorem ratio_cancel (a b : Rat) (h : a - b ≠ 0) : a + a / (a - b) * (b - a) = 0 := by
  field_simp
  ring

/-- the ratio at which an affine function with values `a`, `b` of opposite sign vanishes -/
theorem ratio_facts (a b : Rat) (h : (a ≤ 0 ∧ 0 < b) ∨ (0 < a ∧ b ≤ 0)) :
    0 ≤ a / (a - b) ∧ a / (a - b) ≤ 1 ∧ a + a / (a - b) * (b - a) = 0 ∧ (0 < b → a / (a - b) < 1) := by
  rcases h with ⟨ha, hb⟩ | ⟨ha, hb⟩
  · have hd : a - b < 0 := sub_neg.mpr (ha.trans_lt hb)
    exact ⟨div_nonneg_of_nonpos ha hd.le, (div_le_one_of_neg hd).mpr (sub_le_self a hb.le),
      ratio_cancel a b hd.ne, fun _ => (div_lt_one_of_neg hd).mpr (sub_lt_self a hb)⟩
  · have hd : 0 < a - b := sub_pos.mpr (hb.trans_lt ha)
    exact ⟨div_nonneg ha.le hd.le, (div_le_one hd).mpr (le_sub_self_iff a |>.mpr hb),
      ratio_cancel a b hd.ne', fun hb' => absurd hb' (not_lt.mpr hb)⟩

theorem cross_ratio (fp fq : Rat) (hc : (fp < 0 ∧ 0 < fq) ∨ (0 < fp ∧ fq < 0)) :
    0 ≤ fp / (fp - fq) ∧ fp / (fp - fq) ≤ 1 ∧ fp + fp / (fp - fq) * (fq - fp) = 0 ∧
      (0 < fq → fp / (fp - fq) < 1) :=
  ratio_facts fp fq (hc.imp (And.imp_left le_of_lt) (And.imp_right le_of_lt))

/-- `none`, or a non-empty interval -/
def IvOk : Iv → Prop
  | none => True
  | some (lo, hi) => lo ≤ hi

/-! Whatever `clipStep` returns is `none`, its input, or a pair guarded by `lo ≤ hi`. -/

theorem inIv_guard (lo hi t : Rat) :
    inIv (if lo ≤ hi then some (lo, hi) else none) t ↔ lo ≤ t ∧ t ≤ hi := by
  split_ifs with h
  · rfl
  · exact ⟨False.elim, fun ⟨a, b⟩ => h (a.trans b)⟩

theorem ivOk_guard (lo hi : Rat) : IvOk (if lo ≤ hi then some (lo, hi) else none) := by
  split_ifs with h
  · exact h
  · trivial

theorem le_ite_lt (t r hi : Rat) : t ≤ (if r < hi then r else hi) ↔ t ≤ hi ∧ t ≤ r := by
  split_ifs with h
  · exact ⟨fun a => ⟨a.trans h.le, a⟩, fun a => a.2⟩
  · exact ⟨fun a => ⟨a, a.trans (not_lt.mp h)⟩, fun a => a.1⟩

theorem ite_lt_le (t r lo : Rat) : (if lo < r then r else lo) ≤ t ↔ lo ≤ t ∧ r ≤ t := by
  split_ifs with h
  · exact ⟨fun a => ⟨h.le.trans a, a⟩, fun a => a.2⟩
  · exact ⟨fun a => ⟨a, (not_lt.mp h).trans a⟩, fun a => a.1⟩

theorem clipStep_spec (s : Seg) (h : HP) (iv : Iv) (t : Rat) :
    inIv (clipStep s h iv) t ↔ inIv iv t ∧ h.eval (s.at t) ≤ 0 := by
  rw [eval_at]
  cases iv with
  | none => exact ⟨False.elim, fun a => a.1⟩
  | some p =>
    obtain ⟨lo, hi⟩ := p
    simp only [clipStep]
    generalize h.eval s.q - h.eval s.p = d
    generalize h.eval s.p = n
    rcases lt_trichotomy d 0 with hd | rfl | hd
    · rw [if_neg hd.ne, if_neg (not_lt.mpr hd.le), inIv_guard, ite_lt_le, affine_le_iff_neg n d t hd]
      exact and_right_comm
    · rw [if_pos rfl, mul_zero, add_zero]
      split_ifs with hn
      · exact (and_iff_left hn).symm
      · exact ⟨False.elim, fun a => hn a.2⟩
    · rw [if_neg hd.ne', if_pos hd, inIv_guard, le_ite_lt, affine_le_iff_pos n d t hd]
      exact and_assoc.symm

theorem clipStep_ok (s : Seg) (h : HP) (iv : Iv) (hiv : IvOk iv) : IvOk (clipStep s h iv) := by
  cases iv with
  | none => trivial
  | some p =>
    obtain ⟨lo, hi⟩ := p
    simp only [clipStep]
    rcases lt_trichotomy (h.eval s.q - h.eval s.p) 0 with hd | hd | hd
    · rw [if_neg hd.ne, if_neg (not_lt.mpr hd.le)]; exact ivOk_guard _ _
    · rw [if_pos hd]
      split_ifs
      · exact hiv
      · trivial
    · rw [if_neg hd.ne', if_pos hd]; exact ivOk_guard _ _

theorem clipFrom_spec (s : Seg) (hs : List HP) (iv : Iv) (t : Rat) :
    inIv (clipFrom s hs iv) t ↔ inIv iv t ∧ ∀ h ∈ hs, h.eval (s.at t) ≤ 0 := by
  induction hs generalizing iv with
  | nil => simp [clipFrom]
  | cons h hs ih =>
    simp only [clipFrom, ih, clipStep_spec, List.mem_cons, forall_eq_or_imp]
    exact and_assoc

theorem clipFrom_ok (s : Seg) (hs : List HP) (iv : Iv) (hiv : IvOk iv) : IvOk (clipFrom s hs iv) := by
  induction hs generalizing iv with
  | nil => simpa [clipFrom]
  | cons h hs ih => exact ih _ (clipStep_ok s h iv hiv)

theorem clipConvexOpen_eq_some (hs : List HP) (s : Seg) (lo hi : Rat) :
    clipConvexOpen hs s = some (lo, hi) ↔ clipConvex hs s = some (lo, hi) ∧
      s.p ≠ s.q ∧ lo < hi ∧ strictlyInside hs (s.at ((lo + hi) / 2)) = true := by
  rw [clipConvexOpen]
  cases clipConvex hs s with
  | none => exact ⟨nofun, fun h => nomatch h.1⟩
  | some p =>
    obtain ⟨l, u⟩ := p
    simp only [Option.ite_none_right_eq_some, Option.some.injEq, Prod.mk.injEq]
    constructor
    · rintro ⟨hc, rfl, rfl⟩; exact ⟨⟨rfl, rfl⟩, hc⟩
    · rintro ⟨⟨rfl, rfl⟩, hc⟩; exact ⟨hc, rfl, rfl⟩

end PorepyVerif.C44
