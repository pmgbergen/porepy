/-
C44 — property theorems.

Property: clipping line segments by a polygon (and polygons by a polyhedron) returns pieces that lie
inside the clipping region and whose union equals the intersection of the input with that region.

`lines_by_polygon` calls a library (shapely), so the theorems are about the exact SPECIFICATION in
Model.lean that the wrapper is tested against (correspondence harness/props/c44.py):

convex region (list of closed half-planes, e.g. `halfPlanes poly`):
  `clip_convex_sound`, `clip_convex_complete`, `clip_convex_exact`  — the returned parameter
       interval IS  {t ∈ [0,1] | s(t) in every half-plane}  (= segment ∩ region), for all inputs;
  `clip_convex_open_strict`, `clip_convex_dropped_on_boundary` — the convention of the code
       (zero-length and boundary-only pieces are not returned) removes nothing of the interior.
simple, possibly non-convex polygon (`clipSimpleRaw`, inside = even–odd rule with the ray along the
clipped segment, boundary points not inside):
  `clip_simple_exact_evenodd` — for every parameter t ∈ [0,1] that is not one of the finitely many cut
       parameters:  t lies in a returned piece  ⇔  s(t) is strictly inside (even–odd).  All inputs,
       also non-simple polygons; instance of `clip_rawE_exact_evenodd`, which holds for any list of
       edges (several rings), as do the parts about candidate pieces.  Parts:
       `clip_simple_piece_inside` (EVERY point of a returned piece is inside, not only its midpoint: the parity cannot change because the open piece never meets
       the boundary, `clip_simple_piece_off_boundary`), `clip_simple_dropped_not_inside`,
       `clip_simple_cover`, `clip_simple_sound_partial`, `merge_union`.
polygon clipped by the half-spaces of a convex polyhedron (Sutherland–Hodgman):
  `sh_clip_sound`, `sh_clip_inside_unchanged` (3d, any polygon); `sh2_complete`, `sh2_sound`,
  `sh2_convex1` … (convex counter-clockwise polygons, in the plane), `sh_clip_planar`,
  `sh_clip_complete_planar` (transport to 3d); `sh2_hull_sound` (hull of the output ⊆ polygon ∩
  half-planes); `inRegion_halfPlanes_iff` (the region of `clipConvex` and `InPoly` coincide).

WHAT REMAINS UNPROVED
  * that the even–odd rule decides the topological interior of a SIMPLE polygon (Jordan curve theorem
    for polygons, independence of the ray direction).  With it `clip_simple_exact_evenodd` reads
    "returned pieces = closure (segment ∩ interior)".  For convex polygons the harness compares the
    fully proved half-plane model with the crossing model on every convex case.
  * Minkowski–Weyl for convex polygons (region `InPoly` = convex hull of the vertices), see the
    Sutherland–Hodgman section.
-/
import PorepyVerif.C44.LemmasSimple
import PorepyVerif.C44.LemmasSH

namespace PorepyVerif.C44

/-- the closed convex region cut out by a list of half-planes -/
def InRegion (hs : List HP) (P : Pt) : Prop := ∀ h ∈ hs, h.eval P ≤ 0

/-- the half-planes produced from polygon edges mean "to the left of (or on) the directed edge" -/
theorem halfplane_is_left_of_edge (A B P : Pt) :
    (hpOfEdge A B).eval P = - cross (B.sub A) (P.sub A) := by
  simp only [hpOfEdge, HP.eval, cross, Pt.sub]; ring

/-- HEADLINE: the returned interval is exactly the set of parameters of segment ∩ region. -/
theorem clip_convex_exact (hs : List HP) (s : Seg) (t : Rat) :
    inIv (clipConvex hs s) t ↔ (0 ≤ t ∧ t ≤ 1 ∧ InRegion hs (s.at t)) :=
  (clipFrom_spec s hs (some (0, 1)) t).trans and_assoc

/-- soundness: every point of the returned parameter interval is a point of the segment that
    satisfies all half-plane inequalities -/
theorem clip_convex_sound (hs : List HP) (s : Seg) (lo hi : Rat)
    (h : clipConvex hs s = some (lo, hi)) (t : Rat) (h1 : lo ≤ t) (h2 : t ≤ hi) :
    0 ≤ t ∧ t ≤ 1 ∧ InRegion hs (s.at t) := by
  apply (clip_convex_exact hs s t).mp
  rw [h]; exact ⟨h1, h2⟩

/-- completeness: every point of the segment inside the region lies in the returned interval -/
theorem clip_convex_complete (hs : List HP) (s : Seg) (t : Rat) (h0 : 0 ≤ t) (h1 : t ≤ 1)
    (hin : InRegion hs (s.at t)) :
    ∃ lo hi, clipConvex hs s = some (lo, hi) ∧ lo ≤ t ∧ t ≤ hi := by
  have := (clip_convex_exact hs s t).mpr ⟨h0, h1, hin⟩
  cases hc : clipConvex hs s with
  | none => rw [hc] at this; exact this.elim
  | some p => obtain ⟨lo, hi⟩ := p; rw [hc] at this; exact ⟨lo, hi, rfl, this⟩

/-- `none` is returned only when the segment misses the region; a returned interval is non-empty
    (so its end points are points of segment ∩ region) -/
theorem clip_convex_none_or_nonempty (hs : List HP) (s : Seg) :
    (clipConvex hs s = none → ∀ t, 0 ≤ t → t ≤ 1 → ¬ InRegion hs (s.at t)) ∧
    (∀ lo hi, clipConvex hs s = some (lo, hi) → lo ≤ hi) := by
  constructor
  · intro h t h0 h1 hin
    have := (clip_convex_exact hs s t).mpr ⟨h0, h1, hin⟩
    rw [h] at this; exact this
  · intro lo hi h
    have := clipFrom_ok s hs (some (0, 1)) (by simp [IvOk])
    unfold clipConvex at h
    rw [h] at this; exact this

/-- a piece that survives the convention of the code (positive length, midpoint strictly inside)
    is the closed interval of `clipConvex`, and all its interior points are strictly inside every
    half-plane: nothing but its two end points can be on the boundary -/
theorem clip_convex_open_strict (hs : List HP) (s : Seg) (lo hi : Rat)
    (h : clipConvexOpen hs s = some (lo, hi)) :
    lo < hi ∧ clipConvex hs s = some (lo, hi) ∧
      ∀ t, lo < t → t < hi → ∀ g ∈ hs, g.eval (s.at t) < 0 := by
  obtain ⟨hc, _, hlt, hin⟩ := (clipConvexOpen_eq_some hs s lo hi).mp h
  refine ⟨hlt, hc, fun t ht1 ht2 g hg => ?_⟩
  have hlo := (clip_convex_sound hs s lo hi hc lo le_rfl hlt.le).2.2 g hg
  have hhi := (clip_convex_sound hs s lo hi hc hi hlt.le le_rfl).2.2 g hg
  have hmid := (strictlyInside_iff hs _).mp hin g hg
  rw [eval_at] at hlo hhi hmid ⊢
  exact affine_neg_between _ _ lo hi t hlo hhi hmid ht1 ht2

/-- what the convention drops: a segment of zero length, an interval reduced to a point, or a
    piece along which some half-plane function vanishes identically (the segment runs in the
    boundary line) -/
theorem clip_convex_dropped_on_boundary (hs : List HP) (s : Seg) (lo hi : Rat)
    (hc : clipConvex hs s = some (lo, hi)) (ho : clipConvexOpen hs s = none) :
    s.p = s.q ∨ lo = hi ∨ ∃ g ∈ hs, ∀ t, g.eval (s.at t) = 0 := by
  by_cases hpq : s.p = s.q
  · exact Or.inl hpq
  rcases ((clip_convex_none_or_nonempty hs s).2 lo hi hc).eq_or_lt with heq | hlt
  · exact Or.inr (Or.inl heq)
  -- the piece was not kept, so some half-plane is not strictly satisfied at the midpoint
  have hmid : ¬ ∀ g ∈ hs, g.eval (s.at ((lo + hi) / 2)) < 0 := fun hin => by
    have := (clipConvexOpen_eq_some hs s lo hi).mpr ⟨hc, hpq, hlt, (strictlyInside_iff hs _).mpr hin⟩
    rw [ho] at this
    cases this
  simp only [not_forall, exists_prop, not_lt] at hmid
  obtain ⟨g, hg, hge⟩ := hmid
  have hlo := (clip_convex_sound hs s lo hi hc lo le_rfl hlt.le).2.2 g hg
  have hhi := (clip_convex_sound hs s lo hi hc hi hlt.le le_rfl).2.2 g hg
  rw [eval_at] at hlo hhi hge
  exact Or.inr (Or.inr ⟨g, hg, fun t => by rw [eval_at]; exact affine_zero _ _ lo hi hlt hlo hhi hge t⟩)

/-- soundness (midpoint form): a returned piece is a sub-interval of [0,1] of positive length, its
    midpoint is strictly inside the polygon (even–odd rule), and no boundary crossing parameter lies
    strictly inside it -/
theorem clip_simple_sound_partial (es : List (Pt × Pt)) (s : Seg) (a b : Rat)
    (h : (a, b) ∈ clipSimpleRawE es s) :
    0 ≤ a ∧ a < b ∧ b ≤ 1 ∧ insideAlong s es ((a + b) / 2) = true ∧
      ∀ c ∈ crossingsE s es, ¬ (a < c ∧ c < b) := by
  obtain ⟨_, hp, hm⟩ := (mem_rawE_iff es s (a, b)).mp h
  obtain ⟨h0, h1, h2, h3⟩ := pair_facts s _ a b hp
  exact ⟨h0, h1, h2, hm, h3⟩

/-- the open piece does not meet the polygon boundary at all — not only "no crossing parameter in
    the list": a transversal edge would contribute a crossing parameter, and an edge collinear with
    the segment that met the open piece would contain the whole piece, hence its midpoint -/
theorem clip_simple_piece_off_boundary (poly : List Pt) (s : Seg) (a b : Rat)
    (h : (a, b) ∈ clipSimpleRaw poly s) (t : Rat) (hat : a < t) (htb : t < b) :
    onBoundaryE (edges poly) (s.at t) = false := by
  obtain ⟨hpq, hp, hm⟩ := (mem_rawE_iff _ s (a, b)).mp h
  apply pair_off_boundary s _ a b hp (dd_ne_zero s hpq) _ t hat htb
  simp only [insideAlong, Bool.and_eq_true, Bool.not_eq_true'] at hm
  exact hm.1

/-- soundness (every point): EVERY interior point of a returned piece is strictly inside the polygon
    in the sense of the even–odd rule (off the boundary, odd number of boundary crossings ahead) —
    the parity cannot change along the piece because the piece never meets the boundary -/
theorem clip_simple_piece_inside (es : List (Pt × Pt)) (s : Seg) (a b : Rat)
    (h : (a, b) ∈ clipSimpleRawE es s) (t : Rat) (hat : a < t) (htb : t < b) :
    insideAlong s es t = true := by
  obtain ⟨hpq, hp, hm⟩ := (mem_rawE_iff es s (a, b)).mp h
  rw [pair_insideAlong_const s _ a b hp (dd_ne_zero s hpq) t hat htb]
  exact hm

/-- completeness (every point): no interior point of a candidate piece that is NOT returned is
    strictly inside the polygon (it is on the boundary, or has an even number of crossings ahead) -/
theorem clip_simple_dropped_not_inside (es : List (Pt × Pt)) (s : Seg) (hpq : s.p ≠ s.q) (a b : Rat)
    (hp : (a, b) ∈ pairs (cutsE s es)) (hn : (a, b) ∉ clipSimpleRawE es s)
    (t : Rat) (hat : a < t) (htb : t < b) : insideAlong s es t = false := by
  rw [pair_insideAlong_const s _ a b hp (dd_ne_zero s hpq) t hat htb]
  by_contra hc
  apply hn
  exact (mem_rawE_iff es s (a, b)).mpr ⟨hpq, hp, by simpa using hc⟩

/-- the cut parameters partition [0,1]: a parameter that is not a cut lies strictly inside a
    candidate piece (the pieces are disjoint since the cuts are strictly increasing) -/
theorem clip_simple_cover (es : List (Pt × Pt)) (s : Seg) (t : Rat) (h0 : 0 ≤ t) (h1 : t ≤ 1) :
    t ∈ cutsE s es ∨ ∃ ab ∈ pairs (cutsE s es), ab.1 < t ∧ t < ab.2 :=
  pairs_cover _ (cuts_sorted s es) t ⟨0, (mem_cutsE s _ 0).mpr (Or.inl rfl), h0⟩
    ⟨1, (mem_cutsE s _ 1).mpr (Or.inr (Or.inl rfl)), h1⟩

/-- for any list of edges (a polygon, several rings): up to the finitely many cut parameters, the returned
    pieces are exactly the parameters of the points of the segment that are strictly inside in the sense of
    the even–odd rule -/
theorem clip_rawE_exact_evenodd (es : List (Pt × Pt)) (s : Seg) (hpq : s.p ≠ s.q) (t : Rat)
    (h0 : 0 ≤ t) (h1 : t ≤ 1) (hcut : t ∉ cutsE s es) :
    (∃ ab ∈ clipSimpleRawE es s, ab.1 < t ∧ t < ab.2) ↔ insideAlong s es t = true := by
  constructor
  · rintro ⟨⟨a, b⟩, hab, h2, h3⟩
    exact clip_simple_piece_inside es s a b hab t h2 h3
  · intro hin
    rcases clip_simple_cover es s t h0 h1 with h | ⟨⟨a, b⟩, hab, h2, h3⟩
    · exact absurd h hcut
    · by_cases hr : (a, b) ∈ clipSimpleRawE es s
      · exact ⟨(a, b), hr, h2, h3⟩
      · have := clip_simple_dropped_not_inside es s hpq a b hab hr t h2 h3
        rw [this] at hin; cases hin

/-- HEADLINE for arbitrary (also non-convex, also non-simple) polygons: up to the finitely many cut
    parameters, the returned pieces are EXACTLY the parameters of the points of the segment that are
    strictly inside the polygon in the sense of the even–odd rule -/
theorem clip_simple_exact_evenodd (poly : List Pt) (s : Seg) (hpq : s.p ≠ s.q) (t : Rat)
    (h0 : 0 ≤ t) (h1 : t ≤ 1) (hcut : t ∉ cutsE s (edges poly)) :
    (∃ ab ∈ clipSimpleRaw poly s, ab.1 < t ∧ t < ab.2) ↔ insideAlong s (edges poly) t = true :=
  clip_rawE_exact_evenodd (edges poly) s hpq t h0 h1 hcut

theorem merge_union (l : List (Rat × Rat)) (hl : ∀ ab ∈ l, ab.1 ≤ ab.2) (t : Rat) :
    (∃ ab ∈ merge l, ab.1 ≤ t ∧ t ≤ ab.2) ↔ (∃ ab ∈ l, ab.1 ≤ t ∧ t ≤ ab.2) := by
  cases l with
  | nil => simp [merge]
  | cons x xs =>
    simp only [merge]
    rw [mergeAux_union x xs (hl x (by simp)) (fun ab h => hl ab (List.mem_cons_of_mem _ h))]
    simp only [List.mem_cons, exists_eq_or_imp]

/-- … in particular for the pieces of `clipSimple` (what the harness compares with the code) -/
theorem clip_simple_merge_union (poly : List Pt) (s : Seg) (t : Rat) :
    (∃ ab ∈ clipSimple poly s, ab.1 ≤ t ∧ t ≤ ab.2) ↔
      (∃ ab ∈ clipSimpleRaw poly s, ab.1 ≤ t ∧ t ≤ ab.2) := by
  apply merge_union
  intro ab h
  exact (clip_simple_sound_partial _ s ab.1 ab.2 h).2.1.le

/-- every vertex of the clipped polygon satisfies every half-space of the polyhedron (a new
    vertex lies on the clipping plane and, being a convex combination of two vertices that satisfy
    the half-spaces treated before, still satisfies those) -/
theorem sh_clip_sound (hs : List HS) (poly : List P3) (X : P3) (hX : X ∈ shClip hs poly) :
    ∀ h ∈ hs, h.eval X ≤ 0 := by
  induction hs generalizing poly with
  | nil => intro h hh; cases hh
  | cons h hs ih =>
    intro g hg
    simp only [shClip] at hX
    rcases List.mem_cons.mp hg with rfl | hg
    · exact shClip_preserves hs g (shClip1 g poly) (fun P hP => shClip1_sound g poly P hP) X hX
    · exact ih (shClip1 h poly) hX g hg

/-- a polygon that is already inside is returned unchanged -/
theorem sh_clip_inside_unchanged (hs : List HS) (poly : List P3)
    (hin : ∀ P ∈ poly, ∀ h ∈ hs, h.eval P ≤ 0) : shClip hs poly = poly := by
  induction hs with
  | nil => rfl
  | cons h hs ih =>
    have h1 : shClip1 h poly = poly := by
      cases poly with
      | nil => rfl
      | cons a rest =>
        exact shAux_inside h a (a :: rest) (hin a (by simp) h (by simp)) (fun P hP => hin P hP h (by simp))
    simp only [shClip, h1]
    exact ih (fun P hP g hg => hin P hP g (List.mem_cons_of_mem _ hg))

/-! ### Sutherland–Hodgman COMPLETENESS for convex polygons (in the plane of the polygon)

Region of a convex counter-clockwise polygon = H-representation `InPoly` (to the left of, or on,
every edge); `ConvexCCW` = every vertex is in that region.  Proved: clipping by a half-plane list
loses nothing (`sh2_complete`), adds nothing (`sh2_sound`), and keeps the polygon convex and
counter-clockwise (so the theorems iterate).  `sh_clip_planar` transports this to the 3d algorithm
applied to a planar polygon.

NOT proved (what remains for "= polygon ∩ polyhedron as point sets" in the V-representation):
that for a convex counter-clockwise polygon the region `InPoly` equals the convex hull of the
vertices (Minkowski–Weyl for polygons).  It matters only in the degenerate outputs: for an output
with fewer than three distinct vertices `InPoly` is a half-plane intersection that can be larger
than the hull (e.g. the empty output when nothing of the polygon is inside). -/

/-- completeness, one half-plane: a point of the polygon that satisfies the half-plane is in the
    clipped polygon -/
theorem sh2_complete1 (h : HP) (poly : List Pt) (hc : ConvexCCW poly) (X : Pt)
    (hX : InPoly poly X) (h0 : h.eval X ≤ 0) : InPoly (shClip12 h poly) X :=
  fun e he => clip_edges_good poly h hc e he X hX h0

/-- soundness, one half-plane: every vertex of the clipped polygon is a point of the polygon that
    satisfies the half-plane -/
theorem sh2_sound1 (h : HP) (poly : List Pt) (hc : ConvexCCW poly) (Y : Pt)
    (hY : Y ∈ shClip12 h poly) : InPoly poly Y ∧ h.eval Y ≤ 0 := by
  refine ⟨fun e he => ?_, shClip12_sound h poly Y hY⟩
  exact shClip12_preserves h poly (fun X => leftOf e.1 e.2 X) (fun C D r => leftOf_lerp2 _ _ C D r)
    (fun P hP => hc P hP e he) Y hY

/-- the clipped polygon is again convex and counter-clockwise -/
theorem sh2_convex1 (h : HP) (poly : List Pt) (hc : ConvexCCW poly) : ConvexCCW (shClip12 h poly) := by
  intro V hV
  obtain ⟨h1, h2⟩ := sh2_sound1 h poly hc V hV
  exact sh2_complete1 h poly hc V h1 h2

theorem sh2_convex (hs : List HP) (poly : List Pt) (hc : ConvexCCW poly) :
    ConvexCCW (shClip2 hs poly) := by
  induction hs generalizing poly with
  | nil => exact hc
  | cons h hs ih => exact ih _ (sh2_convex1 h poly hc)

/-- COMPLETENESS for a list of half-planes (the faces of a convex polyhedron seen in the plane of
    the polygon): every point of the polygon that satisfies all of them is in the result (which is
    again convex and counter-clockwise, `sh2_convex`) -/
theorem sh2_complete (hs : List HP) (poly : List Pt) (hc : ConvexCCW poly) (X : Pt)
    (hX : InPoly poly X) (hall : ∀ h ∈ hs, h.eval X ≤ 0) : InPoly (shClip2 hs poly) X := by
  induction hs generalizing poly with
  | nil => exact hX
  | cons h hs ih =>
    exact ih (shClip12 h poly) (sh2_convex1 h poly hc)
      (sh2_complete1 h poly hc X hX (hall h (by simp))) (fun g hg => hall g (List.mem_cons_of_mem _ hg))

/-- SOUNDNESS for a list of half-planes: every vertex of the result satisfies all half-planes and is
    a point of the original polygon -/
theorem sh2_sound (hs : List HP) (poly : List Pt) (Y : Pt) (hY : Y ∈ shClip2 hs poly) :
    (∀ h ∈ hs, h.eval Y ≤ 0) ∧ (ConvexCCW poly → InPoly poly Y) := by
  constructor
  · induction hs generalizing poly with
    | nil => intro h hh; cases hh
    | cons h hs ih =>
      intro g hg
      simp only [shClip2] at hY
      rcases List.mem_cons.mp hg with rfl | hg
      · exact neg_nonneg.mp (shClip2_preserves hs (shClip12 g poly) (fun X => -g.eval X)
          (fun C D r => by rw [eval_lerp2]; ring)
          (fun P hP => neg_nonneg.mpr (shClip12_sound g poly P hP)) Y hY)
      · exact ih (shClip12 h poly) hY g hg
  · intro hc e he
    exact shClip2_preserves hs poly (fun X => leftOf e.1 e.2 X) (fun C D r => leftOf_lerp2 _ _ C D r)
      (fun P hP => hc P hP e he) Y hY

/-- the 3d algorithm applied to a planar polygon `O + u U + v V` is the 2d algorithm applied to the
    `(u, v)` coordinates with the half-spaces pulled back to the plane -/
theorem sh_clip_planar (O U V : P3) (hs : List HS) (poly : List Pt) :
    shClip hs (poly.map (embed O U V))
      = (shClip2 (hs.map (pullHS O U V)) poly).map (embed O U V) := by
  induction hs generalizing poly with
  | nil => rfl
  | cons h hs ih => simp only [shClip, List.map_cons, shClip2, shClip1_embed, ih]

/-- … hence for a planar convex polygon and the half-spaces of a convex polyhedron: the result of the
    3d clipping is the image of a convex counter-clockwise polygon that contains (the coordinates
    of) every point of the input polygon lying in all half-spaces, and all of whose vertices lie in
    the input polygon and in all half-spaces -/
theorem sh_clip_complete_planar (O U V : P3) (hs : List HS) (poly : List Pt) (hc : ConvexCCW poly) :
    ∃ out : List Pt, shClip hs (poly.map (embed O U V)) = out.map (embed O U V) ∧ ConvexCCW out ∧
      (∀ p, InPoly poly p → (∀ h ∈ hs, h.eval (embed O U V p) ≤ 0) → InPoly out p) ∧
      (∀ q ∈ out, InPoly poly q ∧ ∀ h ∈ hs, h.eval (embed O U V q) ≤ 0) := by
  refine ⟨shClip2 (hs.map (pullHS O U V)) poly, sh_clip_planar O U V hs poly, sh2_convex _ poly hc,
    ?_, ?_⟩
  · intro p hp hall
    refine sh2_complete _ poly hc p hp ?_
    intro g hg
    obtain ⟨h, hh, rfl⟩ := List.mem_map.mp hg
    rw [← eval_embed]; exact hall h hh
  · intro q hq
    obtain ⟨h1, h2⟩ := sh2_sound _ poly q hq
    refine ⟨h2 hc, fun h hh => ?_⟩
    rw [eval_embed]; exact h1 _ (List.mem_map.mpr ⟨h, hh, rfl⟩)

/-- the half-planes of the edges of `p` cut out `InPoly p` -/
theorem inRegion_edges_iff (p : List Pt) (X : Pt) :
    InRegion ((edges p).map (fun e => hpOfEdge e.1 e.2)) X ↔ InPoly p X := by
  simp only [InRegion, InPoly, List.mem_map, forall_exists_index, and_imp, forall_apply_eq_imp_iff₂,
    halfplane_is_left_of_edge, leftOf, neg_nonpos]

/-- the half-planes of a counter-clockwise polygon (segment clipping, `clipConvex`) cut out the same
    region as `InPoly` (polygon clipping): one notion of "convex region" serves both halves -/
theorem inRegion_halfPlanes_iff (poly : List Pt) (hccw : ¬ area2 poly < 0) (X : Pt) :
    InRegion (halfPlanes poly) X ↔ InPoly poly X := by
  rw [halfPlanes, if_neg hccw]; exact inRegion_edges_iff poly X

/-- an affine constraint satisfied by the vertices is satisfied by their convex combinations -/
theorem eval_comb (h : HP) (ws : List Rat) (vs : List Pt) (hw : ∀ w ∈ ws, 0 ≤ w)
    (hv : ∀ v ∈ vs, h.eval v ≤ 0) :
    h.a * (comb ws vs).x + h.b * (comb ws vs).y - h.c * wsum ws vs ≤ 0 := by
  induction ws generalizing vs with
  | nil => simp [comb, wsum]
  | cons w ws ih =>
    cases vs with
    | nil => simp [comb, wsum]
    | cons v vs =>
      have h1 := ih vs (fun x hx => hw x (List.mem_cons_of_mem _ hx)) (fun x hx => hv x (List.mem_cons_of_mem _ hx))
      have h2 := mul_nonpos_of_nonneg_of_nonpos (hw w List.mem_cons_self) (hv v List.mem_cons_self)
      rw [HP.eval] at h2
      rw [comb, wsum]
      linear_combination h1 + h2

theorem eval_comb_one (h : HP) (ws : List Rat) (vs : List Pt) (hw : ∀ w ∈ ws, 0 ≤ w)
    (hsum : wsum ws vs = 1) (hv : ∀ v ∈ vs, h.eval v ≤ 0) : h.eval (comb ws vs) ≤ 0 := by
  have := eval_comb h ws vs hw hv
  rw [hsum, mul_one] at this
  exact this

/-- V-representation soundness: the whole convex hull of the output vertices lies in the input
    polygon and in every half-plane:  hull (out) ⊆ polygon ∩ half-planes ⊆ InPoly (out)
    (second inclusion: `sh2_complete`) -/
theorem sh2_hull_sound (hs : List HP) (poly : List Pt) (hc : ConvexCCW poly) (X : Pt)
    (hX : InHull (shClip2 hs poly) X) : InPoly poly X ∧ ∀ h ∈ hs, h.eval X ≤ 0 := by
  obtain ⟨ws, hw, hsum, rfl⟩ := hX
  constructor
  · intro e he
    have := eval_comb_one (hpOfEdge e.1 e.2) ws _ hw hsum (fun v hv => by
      rw [halfplane_is_left_of_edge]
      exact neg_nonpos.mpr ((sh2_sound hs poly v hv).2 hc e he))
    rw [halfplane_is_left_of_edge] at this
    exact neg_nonpos.mp this
  · intro h hh
    exact eval_comb_one h ws _ hw hsum (fun v hv => (sh2_sound hs poly v hv).1 h hh)

/-! ### the hypotheses as decidable input conditions (evaluated by the driver on every case) -/

theorem convexCCWb_iff (poly : List Pt) : convexCCWb poly = true ↔ ConvexCCW poly := by
  simp only [convexCCWb, List.all_eq_true, decide_eq_true_eq]
  rfl

/-- clockwise input: `halfPlanes` reverses the vertex order first -/
theorem inRegion_halfPlanes_cw (poly : List Pt) (hcw : area2 poly < 0) (X : Pt) :
    InRegion (halfPlanes poly) X ↔ InPoly poly.reverse X := by
  rw [halfPlanes, if_pos hcw]; exact inRegion_edges_iff _ X

/-- the property for a convex polygon given by its vertices (counter-clockwise): the returned
    interval is exactly the set of parameters of the points of the segment in the polygon -/
theorem clip_convex_polygon_exact (poly : List Pt) (hccw : ¬ area2 poly < 0) (s : Seg) (t : Rat) :
    inIv (clipConvex (halfPlanes poly) s) t ↔ (0 ≤ t ∧ t ≤ 1 ∧ InPoly poly (s.at t)) := by
  rw [clip_convex_exact, inRegion_halfPlanes_iff poly hccw]

/-- the property for the 3d clipping with the convexity hypothesis in decidable form: if the driver's
    test `convexCCWb` succeeds on the plane coordinates of the polygon, the clipped polygon contains
    every point of the polygon lying in all half-spaces and consists of such points only -/
theorem sh_clip_complete_decidable (O U V : P3) (hs : List HS) (poly : List Pt)
    (hb : convexCCWb poly = true) :
    ∃ out : List Pt, shClip hs (poly.map (embed O U V)) = out.map (embed O U V) ∧ convexCCWb out = true ∧
      (∀ p, InPoly poly p → (∀ h ∈ hs, h.eval (embed O U V p) ≤ 0) → InPoly out p) ∧
      (∀ q ∈ out, InPoly poly q ∧ ∀ h ∈ hs, h.eval (embed O U V q) ≤ 0) := by
  obtain ⟨out, h1, h2, h3, h4⟩ := sh_clip_complete_planar O U V hs poly ((convexCCWb_iff poly).mp hb)
  exact ⟨out, h1, (convexCCWb_iff out).mpr h2, h3, h4⟩

/-! ### non-vacuity: concrete data for the hypotheses of the theorems above (none for `InHull` in
`sh2_hull_sound`, whose hypothesis any vertex of a non-empty output satisfies with weight 1) -/

section Examples

def sq : List Pt := [⟨0, 0⟩, ⟨2, 0⟩, ⟨2, 2⟩, ⟨0, 2⟩]
def sqCW : List Pt := [⟨0, 0⟩, ⟨0, 2⟩, ⟨2, 2⟩, ⟨2, 0⟩]
def lShape : List Pt := [⟨0, 0⟩, ⟨2, 0⟩, ⟨2, 1⟩, ⟨1, 1⟩, ⟨1, 2⟩, ⟨0, 2⟩]
def uShape : List Pt := [⟨0, 0⟩, ⟨3, 0⟩, ⟨3, 3⟩, ⟨2, 3⟩, ⟨2, 1⟩, ⟨1, 1⟩, ⟨1, 3⟩, ⟨0, 3⟩]
/-- the polygon of the repaired GeometryCollection defect (F14) -/
def f14 : List Pt := [⟨0, 0⟩, ⟨2, 0⟩, ⟨2, 9 / 10⟩, ⟨4, 1⟩, ⟨2, 11 / 10⟩, ⟨2, 2⟩, ⟨0, 2⟩]

-- a segment entering the square from the left: the right half is kept (both orientations)
example : clipConvex (halfPlanes sq) ⟨⟨-1, 1⟩, ⟨1, 1⟩⟩ = some (1 / 2, 1) := by decide +kernel
example : clipConvex (halfPlanes sqCW) ⟨⟨-1, 1⟩, ⟨1, 1⟩⟩ = some (1 / 2, 1) := by decide +kernel
example : clipConvexOpen (halfPlanes sq) ⟨⟨-1, 1⟩, ⟨3, 1⟩⟩ = some (1 / 4, 3 / 4) := by decide +kernel
-- along the lower edge: closed intersection non-empty, dropped by the convention
example : clipConvex (halfPlanes sq) ⟨⟨-1, 0⟩, ⟨1, 0⟩⟩ = some (1 / 2, 1) := by decide +kernel
example : clipConvexOpen (halfPlanes sq) ⟨⟨-1, 0⟩, ⟨1, 0⟩⟩ = none := by decide +kernel
-- touching the corner (2,2) from outside: a single point, dropped
example : clipConvex (halfPlanes sq) ⟨⟨1, 3⟩, ⟨3, 1⟩⟩ = some (1 / 2, 1 / 2) := by decide +kernel
example : clipConvexOpen (halfPlanes sq) ⟨⟨1, 3⟩, ⟨3, 1⟩⟩ = none := by decide +kernel
-- a segment of zero length inside the square: a point of the region, dropped by the convention
example : clipConvex (halfPlanes sq) ⟨⟨1, 1⟩, ⟨1, 1⟩⟩ = some (0, 1) := by decide +kernel
example : clipConvexOpen (halfPlanes sq) ⟨⟨1, 1⟩, ⟨1, 1⟩⟩ = none := by decide +kernel
-- missing the square
example : clipConvex (halfPlanes sq) ⟨⟨3, 0⟩, ⟨4, 5⟩⟩ = none := by decide +kernel
-- crossing the notch of the U: two pieces
example : clipSimple uShape ⟨⟨-1, 2⟩, ⟨4, 2⟩⟩ = [(1 / 5, 2 / 5), (3 / 5, 4 / 5)] := by decide +kernel
-- through the reflex vertex of the L: two raw pieces, one after merging
theorem lShape_raw : clipSimpleRaw lShape ⟨⟨0, 2⟩, ⟨2, 0⟩⟩ = [(0, 1 / 2), (1 / 2, 1)] := by decide +kernel
example : clipSimpleRaw lShape ⟨⟨0, 2⟩, ⟨2, 0⟩⟩ = [(0, 1 / 2), (1 / 2, 1)] := lShape_raw
example : clipSimple lShape ⟨⟨0, 2⟩, ⟨2, 0⟩⟩ = [(0, 1)] := by rw [clipSimple, lShape_raw]; decide +kernel
-- along an edge of the L and then into its interior: only the interior part
example : clipSimple lShape ⟨⟨1, 2⟩, ⟨1, 0⟩⟩ = [(1 / 2, 1)] := by decide +kernel
-- F14: the piece over x ∈ [0,2] is kept, the touching point (4,1) is not
example : clipSimple f14 ⟨⟨-1, 9 / 4⟩, ⟨5, 3 / 4⟩⟩ = [(1 / 6, 1 / 2)] := by decide +kernel
-- Sutherland–Hodgman: the triangle (-1,1,2),(1,1,1),(3,1,2) cut by 0 ≤ x ≤ 2, 0 ≤ z ≤ 2
example : shClip [⟨1, 0, 0, 2⟩, ⟨-1, 0, 0, 0⟩, ⟨0, 0, 1, 2⟩, ⟨0, 0, -1, 0⟩] [⟨-1, 1, 2⟩, ⟨1, 1, 1⟩, ⟨3, 1, 2⟩]
    = [⟨0, 1, 3 / 2⟩, ⟨1, 1, 1⟩, ⟨2, 1, 3 / 2⟩, ⟨2, 1, 2⟩, ⟨0, 1, 2⟩] := by decide +kernel

-- Sutherland–Hodgman in the plane: the counter-clockwise square is convex; cutting off x > 1
theorem sq_convex : convexCCWb sq = true := by decide +kernel
example : ConvexCCW sq := (convexCCWb_iff sq).mp sq_convex
example : shClip12 ⟨1, 0, 1⟩ sq = [⟨0, 0⟩, ⟨1, 0⟩, ⟨1, 2⟩, ⟨0, 2⟩] := by decide +kernel
-- a point of the segment through the notch of the U is inside exactly on the returned pieces
example : insideAlong ⟨⟨-1, 2⟩, ⟨4, 2⟩⟩ (edges uShape) (3 / 10) = true := by decide +kernel
example : insideAlong ⟨⟨-1, 2⟩, ⟨4, 2⟩⟩ (edges uShape) (1 / 2) = false := by decide +kernel

example : convexCCWb sq = true := sq_convex
example : convexCCWb sqCW = false ∧ convexCCWb (ccwOrder sqCW) = true := by decide +kernel
example : convexCCWb lShape = false ∧ convexCCWb lShape.reverse = false := by decide +kernel
example : area2 sqCW < 0 := by decide +kernel

end Examples

end PorepyVerif.C44
