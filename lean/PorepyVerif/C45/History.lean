/-
C45 — shifts and the cached key.  A tree is its own shifted copy exactly if no leaf of it reacts to the shift.  With
both resets in place every call on an object whose cached key (if any) is that of its tree does what the same call
does on the plain tree and leaves such an object (`step_refines`); whole histories follow by induction (`run_sim`).
-/
import PorepyVerif.C45.Model

namespace PorepyVerif.C45

theorem shiftLeaf_eq_self_iff (time : Bool) (k : Nat) (l : Leaf) :
    shiftLeaf time k l = some l ↔ l.dependsOn time = false := by
  cases time <;> cases l <;> simp [shiftLeaf, Leaf.dependsOn] <;> omega

mutual
theorem shiftTree_eq_self_iff : ∀ (time : Bool) (k : Nat) (t : Tree),
    shiftTree time k t = some t ↔ t.dependsOn time = false
  | time, k, .leaf l => by
    simp [shiftTree, Tree.dependsOn, shiftLeaf_eq_self_iff]
  | time, k, .bin o a b => by
    simp only [Tree.dependsOn, Bool.or_eq_false_iff, ← shiftTree_eq_self_iff time k a, ← shiftTree_eq_self_iff time k b,
      shiftTree]
    cases shiftTree time k a <;> cases shiftTree time k b <;> simp
  | time, k, .eval f i as => by
    simp [shiftTree, Tree.dependsOn, shiftArgs_eq_self_iff time k as]
theorem shiftArgs_eq_self_iff : ∀ (time : Bool) (k : Nat) (a : Args),
    shiftArgs time k a = some a ↔ a.dependsOn time = false
  | time, k, .nil => by simp [shiftArgs, Args.dependsOn]
  | time, k, .cons t ts => by
    simp only [Args.dependsOn, Bool.or_eq_false_iff, ← shiftTree_eq_self_iff time k t, ← shiftArgs_eq_self_iff time k ts,
      shiftArgs]
    cases shiftTree time k t <;> cases shiftArgs time k ts <;> simp
end

theorem shiftTree_ne : ∀ (time : Bool) (k : Nat) (t t' : Tree), shiftTree time k t = some t' →
    t.dependsOn time = true → t' ≠ t := by
  rintro time k _ t h hd rfl
  rw [(shiftTree_eq_self_iff time k t).mp h] at hd
  cases hd

theorem shiftArgs_ne : ∀ (time : Bool) (k : Nat) (a a' : Args), shiftArgs time k a = some a' →
    a.dependsOn time = true → a' ≠ a := by
  rintro time k _ a h hd rfl
  rw [(shiftArgs_eq_self_iff time k a).mp h] at hd
  cases hd

theorem shiftTree_nodep : ∀ (time : Bool) (k : Nat) (t : Tree), t.dependsOn time = false →
    shiftTree time k t = some t := fun time k t => (shiftTree_eq_self_iff time k t).mpr

theorem shiftArgs_nodep : ∀ (time : Bool) (k : Nat) (a : Args), a.dependsOn time = false →
    shiftArgs time k a = some a := fun time k a => (shiftArgs_eq_self_iff time k a).mpr

/-- a leaf that does not react to the shift is its own shifted copy -/
theorem shiftTree_sameObject (o : Obj) (time : Bool) (k : Nat) (h : o.sameObject time = true) :
    shiftTree time k o.tree = some o.tree := by
  apply shiftTree_nodep
  obtain ⟨t, cache⟩ := o
  cases t with
  | leaf l => simpa [Obj.sameObject, Tree.dependsOn] using h
  | bin o a b => cases h
  | eval f i as => cases h

/-- one call on a plain tree: the tree afterwards and the key observed, if any -/
def specStep (c : Cfg) (t : Tree) : HOp → Option (Tree × Option (List Tok))
  | .key => some (t, some (key c t))
  | .shift time k => (shiftTree time k t).map (fun t' => (t', none))
  | .set r =>
    match t with
    | .leaf (.scalar _) => some (.leaf (.scalar r), none)
    | _ => none

theorem specRun_cons (c : Cfg) (t : Tree) (h : HOp) (hs : List HOp) :
    specRun c t (h :: hs) =
      (specStep c t h).bind fun p => (specRun c p.1 hs).map fun q => (q.1, p.2.toList ++ q.2) := by
  cases h with
  | key => rfl
  | shift time k => simp only [specRun, specStep]; cases shiftTree time k t <;> simp
  | set r =>
    cases t with
    | leaf l =>
      cases l with
      | scalar r0 => simp [specRun, specStep]
      | _ => rfl
    | _ => rfl

theorem run_cons (c : Cfg) (pol : CachePolicy) (o : Obj) (h : HOp) (hs : List HOp) :
    Obj.run c pol o (h :: hs) =
      (o.step c pol h).bind fun p => (Obj.run c pol p.1 hs).map fun q => (q.1, p.2.toList ++ q.2) := by
  simp only [Obj.run]
  cases o.step c pol h with
  | none => rfl
  | some p =>
    obtain ⟨o', out⟩ := p
    dsimp only [Option.bind_some]
    cases Obj.run c pol o' hs <;> cases out <;> rfl

/-- the cached key, if any, is the key of the tree the object represents now -/
def Coherent (c : Cfg) (o : Obj) : Prop := o.cache = none ∨ o.cache = some (key c o.tree)

theorem getKey_spec (c : Cfg) (o : Obj) (h : Coherent c o) :
    (o.getKey c).1 = key c o.tree ∧ (o.getKey c).2.tree = o.tree ∧ Coherent c (o.getKey c).2 := by
  unfold Obj.getKey
  rcases h with h | h
  · simp [h, Coherent]
  · simp [h, Coherent]

/-- with both resets in place, a call on a coherent object does to its tree what the call does to a plain tree,
    shows the key of the tree, and leaves a coherent object -/
theorem step_refines (c : Cfg) (o : Obj) (h : Coherent c o) (hop : HOp) :
    (o.step c ⟨true, true⟩ hop).map (fun p => (p.1.tree, p.2)) = specStep c o.tree hop ∧
      ∀ p, o.step c ⟨true, true⟩ hop = some p → Coherent c p.1 := by
  cases hop with
  | key =>
    obtain ⟨h1, h2, h3⟩ := getKey_spec c o h
    exact ⟨by simp only [Obj.step, specStep, Option.map_some, h1, h2], fun p hp => by cases hp; exact h3⟩
  | shift time k =>
    refine ⟨by simp only [Obj.step, specStep, Option.map_map]; rfl, fun p hp => ?_⟩
    simp only [Obj.step, Option.map_eq_some_iff] at hp
    obtain ⟨t', ht', rfl⟩ := hp
    -- the copy starts without a cached key; the object itself is returned only if the shift leaves its tree alone
    by_cases hso : o.sameObject time = true
    · have ht : t' = o.tree := Option.some.inj (ht'.symm.trans (shiftTree_sameObject o time k hso))
      simpa only [hso, if_true, ht] using h
    · simp only [hso]
      exact Or.inl rfl
  | set r =>
    refine ⟨?_, fun p hp => ?_⟩
    · obtain ⟨t, cache⟩ := o
      cases t with
      | leaf l => cases l <;> rfl
      | _ => rfl
    · simp only [Obj.step, Obj.setValue, Option.map_eq_some_iff] at hp
      obtain ⟨o', ho', rfl⟩ := hp
      split at ho'
      · cases ho'
        exact Or.inl rfl
      · cases ho'

/-- with both resets in place, an object behaves like its tree for every history of calls: the same trees and keys,
    `none` exactly together, and the cached key of the final object is again that of its tree -/
theorem run_sim (c : Cfg) : ∀ (hs : List HOp) (o : Obj), Coherent c o →
    (Obj.run c ⟨true, true⟩ o hs).map (fun p => (p.1.tree, p.2)) = specRun c o.tree hs ∧
      ∀ p, Obj.run c ⟨true, true⟩ o hs = some p → Coherent c p.1
  | [], o, h => ⟨rfl, fun p hp => by cases hp; exact h⟩
  | hop :: hs, o, h => by
    obtain ⟨h1, h2⟩ := step_refines c o h hop
    rw [run_cons, specRun_cons, ← h1]
    cases hst : o.step c ⟨true, true⟩ hop with
    | none => exact ⟨rfl, nofun⟩
    | some p =>
      obtain ⟨ih1, ih2⟩ := run_sim c hs p.1 (h2 p hst)
      simp only [Option.bind_some, Option.map_some, ← ih1, Option.map_map]
      refine ⟨rfl, fun q hq => ?_⟩
      simp only [Option.map_eq_some_iff] at hq
      obtain ⟨q', hq', rfl⟩ := hq
      exact ih2 q' hq'

theorem run_refines (c : Cfg) : ∀ (hs : List HOp) (o : Obj), Coherent c o →
    match Obj.run c ⟨true, true⟩ o hs, specRun c o.tree hs with
    | some (o', outs), some (t', outs') => o'.tree = t' ∧ outs = outs' ∧ Coherent c o'
    | none, none => True
    | _, _ => False := by
  intro hs o h
  obtain ⟨h1, h2⟩ := run_sim c hs o h
  rw [← h1]
  cases hr : Obj.run c ⟨true, true⟩ o hs with
  | none => trivial
  | some p => exact ⟨rfl, rfl, h2 p hr⟩

end PorepyVerif.C45
