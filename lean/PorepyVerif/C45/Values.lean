/-
C45 — the readers of values (`takeNat`, `takeInt`, `takeList`, `takeTuple`, `spanP` up to the next delimiter)
read back what `natChars`, `intChars`, `listChars`, `tupleChars` and a delimiter-free value print, in front of any
continuation that does not prolong the value.
-/
import PorepyVerif.C45.Model

namespace PorepyVerif.C45

/-- `r` is empty or starts with a character not satisfying `p` -/
def headNot (p : Char → Bool) : List Char → Prop
  | [] => True
  | c :: _ => p c = false

theorem spanP_append (p : Char → Bool) (v r : List Char) (hv : ∀ c ∈ v, p c = true) (hr : headNot p r) :
    spanP p (v ++ r) = (v, r) := by
  induction v with
  | nil =>
    cases r with
    | nil => rfl
    | cons c r => simp [spanP, headNot] at hr ⊢; simp [hr]
  | cons a v ih =>
    have ha : p a = true := hv a (List.mem_cons_self)
    have := ih (fun c hc => hv c (List.mem_cons_of_mem _ hc))
    simp [spanP, ha, this]

theorem stripPrefix_append (l r : List Char) : stripPrefix l (l ++ r) = some r := by
  induction l with
  | nil => cases r <;> rfl
  | cons a l ih => simp [stripPrefix, ih]

/-- the two lists differ at a position both have -/
def clash : List Char → List Char → Bool
  | a :: l, b :: p => a != b || clash l p
  | _, _ => false

theorem stripPrefix_clash : ∀ (l p x : List Char), clash l p = true → stripPrefix l (p ++ x) = none
  | [], _, _, h => by simp [clash] at h
  | _ :: _, [], _, h => by simp [clash] at h
  | a :: l, b :: p, x, h => by
    simp only [clash, Bool.or_eq_true, bne_iff_ne, ne_eq] at h
    by_cases hab : a = b
    · subst hab
      simp only [not_true_eq_false, false_or] at h
      simp [stripPrefix, stripPrefix_clash l p x h]
    · simp [stripPrefix, hab]

theorem stripPrefix_nil_none (a : Char) (l : List Char) : stripPrefix (a :: l) [] = none := rfl

theorem digitChar_spec : ∀ d, d < 10 → isDig (digitChar d) = true ∧ digVal (digitChar d) = d := by decide

theorem natCharsAux_spec : ∀ (fuel n : Nat) (acc : List Char), n < fuel →
    ∃ ds, natCharsAux fuel n acc = ds ++ acc ∧ ds ≠ [] ∧ (∀ c ∈ ds, isDig c = true) ∧ valNat ds = n := by
  intro fuel
  induction fuel with
  | zero => intro n acc h; omega
  | succ fuel ih =>
    intro n acc h
    obtain ⟨hdig, hval⟩ := digitChar_spec (n % 10) (Nat.mod_lt _ (by omega))
    -- the digits of `n / 10` (none if that is 0) come in front of the last digit
    obtain ⟨ds, hds, hd, hv⟩ : ∃ ds, natCharsAux (fuel + 1) n acc = ds ++ digitChar (n % 10) :: acc ∧
        (∀ c ∈ ds, isDig c = true) ∧ valNat ds = n / 10 := by
      unfold natCharsAux
      by_cases h0 : n / 10 = 0
      · exact ⟨[], by rw [if_pos h0]; rfl, nofun, h0.symm⟩
      · obtain ⟨ds, hds, _, hd, hv⟩ := ih (n / 10) (digitChar (n % 10) :: acc) (by omega)
        exact ⟨ds, by rw [if_neg h0, hds], hd, hv⟩
    refine ⟨ds ++ [digitChar (n % 10)], by rw [hds, List.append_assoc]; rfl, by simp, ?_, ?_⟩
    · intro c hc
      rcases List.mem_append.mp hc with hc | hc
      · exact hd c hc
      · cases List.mem_singleton.mp hc; exact hdig
    · unfold valNat at hv ⊢
      rw [List.foldl_append, hv, List.foldl_cons, List.foldl_nil, hval]
      exact Nat.div_add_mod n 10

theorem natChars_spec (n : Nat) :
    natChars n ≠ [] ∧ (∀ c ∈ natChars n, isDig c = true) ∧ valNat (natChars n) = n := by
  obtain ⟨ds, hds, hne, hdig, hval⟩ := natCharsAux_spec (n + 1) n [] (by omega)
  simp only [List.append_nil] at hds
  unfold natChars
  rw [hds]
  exact ⟨hne, hdig, hval⟩

theorem takeNat_natChars (n : Nat) (r : List Char) (hr : headNot isDig r) :
    takeNat (natChars n ++ r) = some (n, r) := by
  obtain ⟨hne, hdig, hval⟩ := natChars_spec n
  unfold takeNat
  rw [spanP_append isDig _ _ hdig hr]
  cases h : natChars n with
  | nil => exact absurd h hne
  | cons a l => rw [← h]; simp [hne, hval]

theorem natChars_head (n : Nat) : ∃ d ds, natChars n = d :: ds ∧ isDig d = true := by
  obtain ⟨hne, hdig, _⟩ := natChars_spec n
  cases h : natChars n with
  | nil => exact absurd h hne
  | cons d ds => exact ⟨d, ds, rfl, hdig d (by rw [h]; exact List.mem_cons_self)⟩

theorem takeInt_intChars (i : Int) (r : List Char) (hr : headNot isDig r) :
    takeInt (intChars i ++ r) = some (i, r) := by
  cases i with
  | ofNat n =>
    obtain ⟨d, ds, hd, hdig⟩ := natChars_head n
    have hne : ('-' : Char) ≠ d := by intro h; subst h; simp [isDig] at hdig
    have h1 : stripPrefix ['-'] (natChars n ++ r) = none := by
      rw [hd]; simp [stripPrefix, hne]
    simp only [intChars, takeInt, h1, takeNat_natChars n r hr]
  | negSucc n =>
    have h1 : stripPrefix ['-'] ('-' :: (natChars (n + 1) ++ r)) = some (natChars (n + 1) ++ r) := by
      simp [stripPrefix]
    simp [intChars, takeInt, h1, takeNat_natChars (n + 1) r hr]

theorem takeNatsSep_natsSep : ∀ (l : List Nat), l ≠ [] → ∀ (fuel : Nat) (r : List Char), l.length ≤ fuel →
    headNot isDig r → stripPrefix [',', ' '] r = none →
    takeNatsSep fuel (natsSep l ++ r) = some (l, r)
  | [], h, _, _, _, _, _ => absurd rfl h
  | [a], _, fuel, r, hf, hr, hs => by
    cases fuel with
    | zero => simp at hf
    | succ fuel => simp [takeNatsSep, natsSep, takeNat_natChars a r hr, hs]
  | a :: b :: l, _, fuel, r, hf, hr, hs => by
    cases fuel with
    | zero => simp at hf
    | succ fuel =>
      have ih := takeNatsSep_natsSep (b :: l) (by simp) fuel r (by simpa using hf) hr hs
      have h1 : takeNat (natChars a ++ (',' :: ' ' :: (natsSep (b :: l) ++ r))) =
          some (a, ',' :: ' ' :: (natsSep (b :: l) ++ r)) := takeNat_natChars a _ (by simp [headNot, isDig])
      have h2 : stripPrefix [',', ' '] (',' :: ' ' :: (natsSep (b :: l) ++ r)) = some (natsSep (b :: l) ++ r) := by
        simp [stripPrefix]
      simp only [natsSep, List.append_assoc, List.cons_append, takeNatsSep, h1, h2, ih]

theorem natsSep_length (l : List Nat) : l.length ≤ (natsSep l).length := by
  induction l with
  | nil => simp [natsSep]
  | cons a l ih =>
    cases l with
    | nil =>
      obtain ⟨d, ds, hd, _⟩ := natChars_head a
      simp [natsSep, hd]
    | cons b l =>
      simp only [natsSep, List.length_append, List.length_cons] at ih ⊢
      omega

theorem natsSep_head (l : List Nat) (h : l ≠ []) : ∃ d ds, natsSep l = d :: ds ∧ isDig d = true := by
  cases l with
  | nil => exact absurd rfl h
  | cons a l =>
    obtain ⟨d, ds, hd, hdig⟩ := natChars_head a
    cases l with
    | nil => exact ⟨d, ds, by simp [natsSep, hd], hdig⟩
    | cons b l => exact ⟨d, ds ++ ',' :: ' ' :: natsSep (b :: l), by simp [natsSep, hd], hdig⟩

theorem stripPrefix_natsSep (c : Char) (hc : isDig c = false) (l : List Nat) (hl : l ≠ []) (x : List Char) :
    stripPrefix [c] (natsSep l ++ x) = none := by
  obtain ⟨d, ds, hd, hdig⟩ := natsSep_head l hl
  have hne : c ≠ d := by intro h; subst h; simp [hdig] at hc
  rw [hd]
  simp [stripPrefix, hne]

/-- the length of the string suffices as fuel -/
theorem takeNatsSep_self (l : List Nat) (hl : l ≠ []) (r : List Char) (hr : headNot isDig r)
    (hs : stripPrefix [',', ' '] r = none) : takeNatsSep (natsSep l ++ r).length (natsSep l ++ r) = some (l, r) :=
  takeNatsSep_natsSep l hl _ r (by have := natsSep_length l; rw [List.length_append]; omega) hr hs

theorem takeList_listChars (l : List Nat) (r : List Char) : takeList (listChars l ++ r) = some (l, r) := by
  cases l with
  | nil => simp [listChars, natsSep, takeList, stripPrefix]
  | cons a l =>
    have h0 : stripPrefix ['['] (listChars (a :: l) ++ r) = some (natsSep (a :: l) ++ (']' :: r)) := by
      simp [listChars, stripPrefix]
    have h1 := stripPrefix_natsSep ']' rfl (a :: l) (by simp) (']' :: r)
    have h2 := takeNatsSep_self (a :: l) (by simp) (']' :: r) rfl rfl
    have h3 : stripPrefix [']'] (']' :: r) = some r := by simp [stripPrefix]
    simp only [takeList, h0, h1, h2, h3]

/-- a tuple of one element closes with `,)`, any other with `)` -/
theorem takeTuple_tupleChars (l : List Nat) (r : List Char) : takeTuple (tupleChars l ++ r) = some (l, r) := by
  match l with
  | [] => simp [tupleChars, natsSep, takeTuple, stripPrefix]
  | [a] =>
    have h0 : stripPrefix ['('] (tupleChars [a] ++ r) = some (natsSep [a] ++ (',' :: ')' :: r)) := by
      simp [tupleChars, natsSep, stripPrefix]
    have h1 := stripPrefix_natsSep ')' rfl [a] (by simp) (',' :: ')' :: r)
    have h2 := takeNatsSep_self [a] (by simp) (',' :: ')' :: r) rfl rfl
    have h3 : stripPrefix [',', ')'] (',' :: ')' :: r) = some r := by simp [stripPrefix]
    simp only [takeTuple, h0, h1, h2, List.length_singleton, if_true, h3]
  | a :: b :: l =>
    have h0 : stripPrefix ['('] (tupleChars (a :: b :: l) ++ r) = some (natsSep (a :: b :: l) ++ (')' :: r)) := by
      simp [tupleChars, stripPrefix]
    have h1 := stripPrefix_natsSep ')' rfl (a :: b :: l) (by simp) (')' :: r)
    have h2 := takeNatsSep_self (a :: b :: l) (by simp) (')' :: r) rfl rfl
    have h3 : stripPrefix [')'] (')' :: r) = some r := by simp [stripPrefix]
    have h4 : ¬ ((a :: b :: l).length = 1) := by simp
    simp only [takeTuple, h0, h1, h2, h4, if_false, h3]

/-- `r` is empty or starts with a character that ends values -/
def headTerm : List Char → Prop
  | [] => True
  | c :: _ => isTerm c = true

theorem isTerm_not_isDig (c : Char) (h : isTerm c = true) : isDig c = false := by
  simp only [isTerm, Bool.or_eq_true, beq_iff_eq] at h
  rcases h with ((h | h) | h) | h <;> subst h <;> rfl

theorem headTerm_headNot_isDig (r : List Char) (h : headTerm r) : headNot isDig r := by
  cases r with
  | nil => trivial
  | cons c r => exact isTerm_not_isDig c h

theorem spanVal_append (v rest : List Char) (hv : valOk v = true) (hr : headTerm rest) :
    spanP (fun c => !isTerm c) (v ++ rest) = (v, rest) := by
  apply spanP_append
  · simpa [valOk, List.all_eq_true] using hv
  · cases rest with
    | nil => trivial
    | cons c r => simp [headNot]; exact hr

end PorepyVerif.C45
