/-
C45 — what the property theorems rest on: `Tokens` (the repaired key is a prefix code), `Lexer` (the key string
determines the token list), `History` (shifts and the cached key), and here: the key of a well-formed tree is a
well-formed token list.
-/
import PorepyVerif.C45.Tokens
import PorepyVerif.C45.Lexer
import PorepyVerif.C45.History

namespace PorepyVerif.C45

/-- nothing, or a token that starts with a character ending values, comes next -/
def okNext : List Tok → Bool
  | [] => true
  | y :: _ => termStart y

/-- a token other than the member separator asks of what follows only that it ends the token's value -/
theorem wfList_cons_eq (t : Tok) (x : List Tok) (hc : t ≠ .comma) :
    wfList (t :: x) = (wfTok t && (!openEnd t || okNext x) && wfList x) := by
  have hne : (t != .comma) = true := by simpa using hc
  cases x with
  | nil => simp [wfList, hne, okNext]
  | cons y z => simp [wfList, follows, hne, okNext]

/-- a token without a value of open length (an operation, a blank, an opening or closing bracket) asks nothing -/
theorem wfList_cons_closed (t : Tok) (x : List Tok) (hw : wfTok t = true) (ho : openEnd t = false) (hc : t ≠ .comma) :
    wfList (t :: x) = wfList x := by
  rw [wfList_cons_eq t x hc, hw, ho]
  rfl

theorem wfList_comma (k : Kind) (z : List Tok) :
    wfList (.comma :: .lpar k :: z) = wfList (.lpar k :: z) := by
  simp [wfList, wfTok, follows, openEnd]

@[simp] theorem okNext_cons (y : Tok) (z : List Tok) : okNext (y :: z) = termStart y := rfl
@[simp] theorem okNext_nil : okNext [] = true := rfl
@[simp] theorem termStart_fstr (l : StrLbl) (s : Str) : termStart (.fstr l s) = true := by cases l <;> rfl
@[simp] theorem termStart_fnat (l : NatLbl) (n : Nat) : termStart (.fnat l n) = true := by cases l <;> rfl
@[simp] theorem termStart_fint (l : IntLbl) (i : Int) : termStart (.fint l i) = true := by cases l <;> rfl
@[simp] theorem termStart_fnats (l : ListLbl) (ns : List Nat) : termStart (.fnats l ns) = true := by cases l <;> rfl
@[simp] theorem termStart_dtype (d : DomType) : termStart (.dtype d) = true := by cases d <;> rfl
@[simp] theorem termStart_rangeSize (n : Nat) (tr : Bool) : termStart (.rangeSize n tr) = true := rfl
@[simp] theorem termStart_physics (pk : Str) (i : Option Str) : termStart (.physics pk i) = true := rfl
@[simp] theorem termStart_shape (ns : List Nat) : termStart (.shape ns) = true := rfl
@[simp] theorem termStart_rpar : termStart .rpar = true := rfl
@[simp] theorem termStart_sp : termStart .sp = true := rfl
@[simp] theorem termStart_rbr : termStart .rbr = true := rfl
@[simp] theorem termStart_comma : termStart .comma = true := rfl

theorem memberKey_repaired (p : Proj) : memberKey .repaired p = projKey .repaired p := rfl

theorem wfProjKey (p : Proj) (x : List Tok) (hp : wfProj p = true) (hx : okNext x = true) (hw : wfList x = true) :
    wfList (projKey .repaired p ++ x) = true := by
  obtain ⟨rng, dom, ds, rs, tr⟩ := p
  simp only [wfProj, Bool.and_eq_true] at hp
  simp [projKey, Cfg.repaired, wfList_cons_eq, wfTok, hp.1, hp.2, openEnd, hx, hw]

theorem okNext_membersTail (ps : List Proj) (x : List Tok) : okNext (membersTail .repaired ps ++ x) = true := by
  cases ps <;> simp [membersTail]

theorem wfMembersTail (ps : List Proj) (x : List Tok) (hp : ps.all wfProj = true) (hw : wfList x = true) :
    wfList (membersTail .repaired ps ++ x) = true := by
  induction ps with
  | nil => exact (wfList_cons_closed .rbr x rfl rfl nofun).trans hw
  | cons p ps ih =>
    simp only [List.all_cons, Bool.and_eq_true] at hp
    have h1 := wfProjKey p (membersTail .repaired ps ++ x) hp.1 (okNext_membersTail ps x) (ih hp.2)
    simp only [membersTail, memberKey_repaired, List.cons_append, List.append_assoc]
    exact (wfList_comma .proj ((projKey .repaired p).tail ++ (membersTail .repaired ps ++ x))).trans h1

theorem wfMembersKey (ps : List Proj) (x : List Tok) (hp : ps.all wfProj = true) (hw : wfList x = true) :
    wfList (membersKey .repaired ps ++ x) = true := by
  cases ps with
  | nil => exact (wfList_cons_closed .rbr x rfl rfl nofun).trans hw
  | cons p ps =>
    simp only [List.all_cons, Bool.and_eq_true] at hp
    simp only [membersKey, memberKey_repaired, List.append_assoc]
    exact wfProjKey p _ hp.1 (okNext_membersTail ps x) (wfMembersTail ps x hp.2 hw)

theorem wfLeafKey (l : Leaf) (x : List Tok) (hl : wfLeaf l = true) (hx : okNext x = true) (hw : wfList x = true) :
    wfList (leafKey .repaired l ++ x) = true := by
  cases l with
  | proj p => exact wfProjKey p x hl hx hw
  | plist ps => exact (wfList_cons_closed (.lpar .plist) _ rfl rfl nofun).trans (wfMembersKey ps x hl hw)
  | merged name dt doms mk pk inner =>
    simp only [wfLeaf, Bool.and_eq_true] at hl
    cases inner <;>
    simp [leafKey, opt, Cfg.repaired, wfList_cons_eq, wfTok, openEnd, hl, hx, hw]
  | _ =>
    simp only [wfLeaf, Bool.and_eq_true] at hl
    simp [leafKey, opt, Cfg.repaired, wfList_cons_eq, wfTok, openEnd, hl, hx, hw]

theorem wfFnKey (f : Str) (i : Option Nat) (x : List Tok) (hf : valOk f = true) (hw : wfList x = true) :
    wfList (fnKey f i ++ x) = true := by
  cases i <;> simp [fnKey, wfList_cons_eq, wfTok, openEnd, hf, hw]

mutual
theorem wfKey : ∀ (t : Tree) (x : List Tok), wfTree t = true → okNext x = true → wfList x = true →
    wfList (key .repaired t ++ x) = true
  | .leaf l, x, ht, hx, hw => wfLeafKey l x ht hx hw
  | .bin o a b, x, ht, hx, hw => by
    simp only [wfTree, Bool.and_eq_true] at ht
    have hb : wfList (.sp :: (key .repaired b ++ x)) = true :=
      (wfList_cons_closed .sp _ rfl rfl nofun).trans (wfKey b x ht.2 hx hw)
    simp only [key, List.cons_append, List.append_assoc]
    rw [wfList_cons_closed (.op o) _ rfl rfl nofun, wfList_cons_closed .sp _ rfl rfl nofun]
    exact wfKey a _ ht.1 rfl hb
  | .eval f i as, x, ht, hx, hw => by
    simp only [wfTree, Bool.and_eq_true] at ht
    obtain ⟨h1, h2⟩ := wfArgsKey as x ht.2 hx hw
    rw [key_eval]
    simp only [List.cons_append, List.append_assoc]
    rw [wfList_cons_closed .ev _ rfl rfl nofun, wfList_cons_closed .sp _ rfl rfl nofun]
    refine wfFnKey f i _ ht.1 ?_
    rw [wfList_cons_closed .sp _ rfl rfl nofun, wfList_cons_eq (.nargs _) _ nofun, h1, h2]
    rfl
theorem wfArgsKey : ∀ (as : Args) (x : List Tok), wfArgs as = true → okNext x = true → wfList x = true →
    wfList (argsKey .repaired as ++ x) = true ∧ okNext (argsKey .repaired as ++ x) = true
  | .nil, x, _, hx, hw => ⟨hw, hx⟩
  | .cons t ts, x, ht, hx, hw => by
    simp only [wfArgs, Bool.and_eq_true] at ht
    obtain ⟨h1, h2⟩ := wfArgsKey ts x ht.2 hx hw
    simp only [argsKey, List.cons_append, List.append_assoc]
    exact ⟨(wfList_cons_closed .sp _ rfl rfl nofun).trans (wfKey t _ ht.1 h2 h1), rfl⟩
end

/-- the key of a well-formed tree (names and digests without `,` `)` blank `]`) is a well-formed token list -/
theorem wfList_key (t : Tree) (h : wfTree t = true) : wfList (key .repaired t) = true := by
  simpa using wfKey t [] h rfl rfl

/-- numpy's summary of an array above the threshold: the two edges, the middle is not shown -/
theorem npSummary_long (thr edge : Nat) (pre m suf : List Nat) (hpre : pre.length = edge) (hsuf : suf.length = edge)
    (hbig : thr < edge + m.length + edge) :
    npSummary thr edge (pre ++ m ++ suf) = pre.map some ++ [none] ++ suf.map some := by
  have hlen : (pre ++ m ++ suf).length = edge + m.length + edge := by simp only [List.length_append, hpre, hsuf]
  have hdrop : (pre ++ m ++ suf).drop (edge + m.length + edge - edge) = suf :=
    List.drop_left' (by rw [List.length_append, hpre, Nat.add_sub_cancel])
  have htake : (pre ++ m ++ suf).take edge = pre := by rw [List.append_assoc, List.take_left' hpre]
  simp only [npSummary, hlen, gt_iff_lt, hbig, if_true, hdrop, htake]

end PorepyVerif.C45
