/-
C45 — characters: the key string determines the token list, `lex (renderL ts) = some ts` for every well-formed `ts`.
The literals the lexer tries are pairwise distinguishable (`protos_clash`, a finite table check), the values are
read back by the readers of `Values`.
-/
import PorepyVerif.C45.Values

namespace PorepyVerif.C45

/-- the representative of the shape of a token in `protos` -/
def proto : Tok → Tok
  | .scalar _ => .scalar []
  | .sparse .. => .sparse [] 0 0 []
  | .fstr l _ => .fstr l []
  | .fnat l _ => .fnat l 0
  | .nargs _ => .nargs 0
  | .rangeSize .. => .rangeSize 0 false
  | .fint l _ => .fint l 0
  | .fnats l _ => .fnats l []
  | .shape _ => .shape []
  | .physics .. => .physics [] none
  | .projRepr .. => .projRepr 0 false
  | t => t

theorem proto_lit (t : Tok) : (proto t).lit = t.lit := by cases t <;> rfl

theorem proto_mem (t : Tok) (h : wfTok t = true) : proto t ∈ protos := by
  cases t with
  | op o | lpar o | dtype o | fnat o _ | fint o _ | fnats o _ => cases o <;> (dsimp only [proto]; decide +kernel)
  | fstr l s => cases l <;> first | cases h | (dsimp only [proto]; decide +kernel)
  | projRepr a b => cases h
  | _ => dsimp only [proto]; decide +kernel

/-- what may come after the piece of token `t` in a key string -/
structure RestOk (t : Tok) (rest : List Char) : Prop where
  term : openEnd t = true → headTerm rest
  noTr : stripPrefix cl!", transposed" rest = none
  noInner : stripPrefix cl!", inner_physics_key=" rest = none

theorem parseBody_spec (t : Tok) (rest : List Char) (hw : wfTok t = true) (hr : RestOk t rest) :
    parseBody (proto t) (t.body ++ rest) = some (t, rest) := by
  cases t with
  | scalar r =>
    have := spanVal_append r rest hw (hr.term rfl)
    simp only [parseBody, proto, Tok.body, this]
  | fstr l s =>
    have := spanVal_append s rest (by cases l <;> first | exact hw | cases hw) (hr.term rfl)
    simp only [parseBody, proto, Tok.body, this]
  | fnat l n =>
    have := takeNat_natChars n rest (headTerm_headNot_isDig _ (hr.term rfl))
    simp only [parseBody, proto, Tok.body, this, Option.map_some]
  | nargs n =>
    have := takeNat_natChars n rest (headTerm_headNot_isDig _ (hr.term rfl))
    simp only [parseBody, proto, Tok.body, this, Option.map_some]
  | fint l i =>
    have := takeInt_intChars i rest (headTerm_headNot_isDig _ (hr.term rfl))
    simp only [parseBody, proto, Tok.body, this, Option.map_some]
  | fnats l ns => simp only [parseBody, proto, Tok.body, takeList_listChars, Option.map_some]
  | shape ns => simp only [parseBody, proto, Tok.body, takeTuple_tupleChars, Option.map_some]
  | rangeSize n tr =>
    cases tr with
    | true =>
      have h1 := takeNat_natChars n (cl!", transposed" ++ rest) rfl
      have h2 := stripPrefix_append cl!", transposed" rest
      simp only [parseBody, proto, Tok.body, if_true, List.append_assoc, h1, h2]
    | false =>
      have h1 := takeNat_natChars n rest (headTerm_headNot_isDig _ (hr.term rfl))
      simp only [parseBody, proto, Tok.body, Bool.false_eq_true, if_false, List.append_nil, h1, hr.noTr]
  | physics pk inner =>
    cases inner with
    | some s =>
      have hw' : valOk pk = true ∧ valOk s = true := by simpa [wfTok] using hw
      have h1 := spanVal_append pk (cl!", inner_physics_key=" ++ (s ++ rest)) hw'.1 rfl
      have h2 := stripPrefix_append cl!", inner_physics_key=" (s ++ rest)
      have h3 := spanVal_append s rest hw'.2 (hr.term rfl)
      simp only [parseBody, proto, Tok.body, List.append_assoc, h1, h2, h3]
    | none =>
      have hw' : valOk pk = true := by simpa [wfTok] using hw
      have h1 := spanVal_append pk rest hw' (hr.term rfl)
      simp only [parseBody, proto, Tok.body, List.append_nil, h1, hr.noInner]
  | sparse fmt rows cols hex =>
    have hw' : (valOk fmt = true ∧ (fmt.all fun c => c != '(') = true) ∧ valOk hex = true := by
      simpa [wfTok] using hw
    have h1 : spanP (fun c => c != '(') ((fmt ++ ['_']) ++ ('(' :: (natChars rows ++ (',' :: ' ' :: (natChars cols ++ (')' :: '_' :: (hex ++ rest)))))))
        = (fmt ++ ['_'], '(' :: (natChars rows ++ (',' :: ' ' :: (natChars cols ++ (')' :: '_' :: (hex ++ rest)))))) := by
      apply spanP_append
      · intro c hc
        rcases List.mem_append.mp hc with hc | hc
        · exact (List.all_eq_true.mp hw'.1.2) c hc
        · cases List.mem_singleton.mp hc; rfl
      · rfl
    have h2 := takeNat_natChars rows (',' :: ' ' :: (natChars cols ++ (')' :: '_' :: (hex ++ rest)))) rfl
    have h3 := takeNat_natChars cols (')' :: '_' :: (hex ++ rest)) rfl
    have h4 := spanVal_append hex rest hw'.2 (hr.term rfl)
    have hb : (Tok.sparse fmt rows cols hex).body ++ rest =
        (fmt ++ ['_']) ++ ('(' :: (natChars rows ++ (',' :: ' ' :: (natChars cols ++ (')' :: '_' :: (hex ++ rest)))))) := by
      simp only [Tok.body, List.append_assoc, List.cons_append, List.nil_append]
    rw [hb]
    simp only [parseBody, proto, h1, List.reverse_append, List.reverse_cons, List.reverse_nil, List.nil_append,
      List.singleton_append, stripPrefix, if_true, h2, h3, h4, List.reverse_reverse]
  | projRepr a b => cases hw
  | _ => rfl

/-- what the string certainly continues with when a token of this shape was rendered in a well-formed
    list: its literal; for the member separator also the `(` of the member that follows -/
def litX (q : Tok) : List Char := if q = .comma then cl!", (" else q.lit

/-- the literals tried before the one of `q` -/
def before (q : Tok) : List Tok := protos.takeWhile (fun p => p != q)

/-- every literal tried earlier differs from the text of a later token at a position both have -/
theorem protos_clash : protos.all (fun q => (before q).all (fun p => clash p.lit (litX q))) = true := by
  decide +kernel

theorem protos_noTr : protos.all (fun q => clash cl!", transposed" (litX q)) = true := by decide +kernel

theorem protos_noInner : protos.all (fun q => clash cl!", inner_physics_key=" (litX q)) = true := by
  decide +kernel

theorem lexWith_spec (q : Tok) (cs r : List Char) : ∀ (l : List Tok), q ∈ l →
    (∀ p ∈ l.takeWhile (fun p => p != q), stripPrefix p.lit cs = none) →
    stripPrefix q.lit cs = some r → lexWith l cs = parseBody q r := by
  intro l
  induction l with
  | nil => intro h; simp at h
  | cons p l ih =>
    intro hq hb hs
    by_cases hpq : p = q
    · subst hpq
      simp [lexWith, hs]
    · have hne : (p != q) = true := by simpa using hpq
      have hp : stripPrefix p.lit cs = none := hb p (by simp [List.takeWhile, hne])
      have hq' : q ∈ l := by
        rcases List.mem_cons.mp hq with h | h
        · exact absurd h.symm hpq
        · exact h
      simp only [lexWith, hp]
      exact ih hq' (fun p' hp' => hb p' (by simp [List.takeWhile, hne, hp'])) hs

theorem proto_eq_comma (t : Tok) (h : proto t = .comma) : t = .comma := by
  cases t <;> first | rfl | cases h

theorem lexOne_spec (t : Tok) (rest : List Char) (hw : wfTok t = true) (hr : RestOk t rest)
    (hx : ∃ tail, t.chars ++ rest = litX (proto t) ++ tail) : lexOne (t.chars ++ rest) = some (t, rest) := by
  have hmem := proto_mem t hw
  obtain ⟨tail, htail⟩ := hx
  have hb : ∀ p ∈ before (proto t), stripPrefix p.lit (t.chars ++ rest) = none := fun p hp => by
    rw [htail]
    exact stripPrefix_clash _ _ _ (List.all_eq_true.mp (List.all_eq_true.mp protos_clash _ hmem) p hp)
  have hs : stripPrefix (proto t).lit (t.chars ++ rest) = some (t.body ++ rest) := by
    rw [proto_lit, Tok.chars, List.append_assoc]
    exact stripPrefix_append _ _
  exact (lexWith_spec (proto t) _ _ protos hmem hb hs).trans (parseBody_spec t rest hw hr)

theorem lit_ne_nil (t : Tok) : t.lit ≠ [] := by
  cases t with
  | op o | lpar o | dtype o | fstr o _ | fnat o _ | fint o _ | fnats o _ => cases o <;> exact List.cons_ne_nil _ _
  | _ => exact List.cons_ne_nil _ _

theorem wfList_cons (t : Tok) (r : List Tok) (h : wfList (t :: r) = true) : wfTok t = true ∧ wfList r = true := by
  cases r with
  | nil => simp [wfList] at h ⊢; exact h.1
  | cons t' r' => simp [wfList] at h ⊢; exact ⟨h.1.1, h.2⟩

theorem kind_chars_head (k : Kind) : ∃ tail, k.chars = '(' :: tail := by
  cases k <;> exact ⟨_, rfl⟩

/-- the string of a well-formed list starts with the literal of its first token
    (and with `, (` if that is the member separator) -/
theorem renderL_start (t : Tok) (r : List Tok) (h : wfList (t :: r) = true) :
    ∃ tail, renderL (t :: r) = litX (proto t) ++ tail := by
  by_cases hc : t = .comma
  · subst hc
    cases r with
    | nil => simp [wfList] at h
    | cons t' r' =>
      have hf : follows .comma t' = true := by simp [wfList] at h; exact h.1.2
      cases t' <;> simp [follows] at hf
      rename_i k
      obtain ⟨tail, hk⟩ := kind_chars_head k
      exact ⟨tail ++ renderL r', by simp [renderL, Tok.chars, Tok.lit, Tok.body, litX, proto, hk]⟩
  · have : proto t ≠ .comma := fun h' => hc (proto_eq_comma t h')
    exact ⟨t.body ++ renderL r, by simp [renderL, litX, this, proto_lit, Tok.chars]⟩

theorem restOk_of_wfList (t : Tok) (r : List Tok) (h : wfList (t :: r) = true) : RestOk t (renderL r) := by
  cases r with
  | nil => exact ⟨fun _ => trivial, rfl, rfl⟩
  | cons t' r' =>
    have hf : follows t t' = true := by simp [wfList] at h; exact h.1.2
    have hw' := wfList_cons t (t' :: r') h
    obtain ⟨tail, htail⟩ := renderL_start t' r' hw'.2
    have hmem := proto_mem t' (wfList_cons t' r' hw'.2).1
    refine ⟨?_, ?_, ?_⟩
    · intro ho
      have hts : termStart t' = true := by simp [follows, ho] at hf; exact hf.1
      unfold termStart at hts
      cases hl : t'.lit with
      | nil => simp [hl] at hts
      | cons c l => simp [hl] at hts; simp [renderL, Tok.chars, hl, headTerm, hts]
    · rw [htail]
      exact stripPrefix_clash _ _ _ (List.all_eq_true.mp protos_noTr _ hmem)
    · rw [htail]
      exact stripPrefix_clash _ _ _ (List.all_eq_true.mp protos_noInner _ hmem)

theorem lexAux_step (fuel : Nat) (cs r : List Char) (t : Tok) (h : lexOne cs = some (t, r)) :
    lexAux (fuel + 1) cs = (lexAux fuel r).map (t :: ·) := by
  cases cs with
  | nil => rw [show lexOne [] = none by decide] at h; cases h
  | cons c cs => simp only [lexAux, h]

theorem lexAux_spec : ∀ (ts : List Tok) (fuel : Nat), wfList ts = true → ts.length ≤ fuel →
    lexAux fuel (renderL ts) = some ts
  | [], fuel, _, _ => by cases fuel <;> rfl
  | t :: r, 0, _, hf => by simp at hf
  | t :: r, fuel + 1, hw, hf => by
    have hw' := wfList_cons t r hw
    have h1 : lexOne (renderL (t :: r)) = some (t, renderL r) :=
      lexOne_spec t (renderL r) hw'.1 (restOk_of_wfList t r hw) (renderL_start t r hw)
    rw [lexAux_step _ _ _ _ h1, lexAux_spec r fuel hw'.2 (by simpa using hf)]
    rfl

theorem length_le_renderL (ts : List Tok) : ts.length ≤ (renderL ts).length := by
  induction ts with
  | nil => exact Nat.le_refl 0
  | cons t r ih =>
    have : 0 < t.lit.length := List.length_pos_iff.mpr (lit_ne_nil t)
    simp only [renderL, Tok.chars, List.length_cons, List.length_append]
    omega

/-- the decoder reads back every well-formed token list from its string -/
theorem lex_renderL (ts : List Tok) (h : wfList ts = true) : lex (renderL ts) = some ts :=
  lexAux_spec ts _ h (length_le_renderL ts)

theorem renderL_injective (a b : List Tok) (ha : wfList a = true) (hb : wfList b = true)
    (h : renderL a = renderL b) : a = b := by
  have h1 := lex_renderL a ha
  have h2 := lex_renderL b hb
  rw [h] at h1
  exact Option.some.inj (h1.symm.trans h2)

end PorepyVerif.C45
