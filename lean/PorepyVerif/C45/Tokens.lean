/-
C45 — tokens: the repaired key is a prefix code (unique readability),
`K x₁ ++ r₁ = K x₂ ++ r₂ → x₁ = x₂ ∧ r₁ = r₂` for each of the key builders `K`.  For the leaf classes this comes from a
reader, `unleaf (leafKey .repaired l ++ r) = some (l, r)`; for trees and argument lists by induction on both trees.
-/
import PorepyVerif.C45.Model

namespace PorepyVerif.C45

/-- reads `membersTail .repaired` back -/
def unmembersTail : List Tok → Option (List Proj × List Tok)
  | .rbr :: r => some ([], r)
  | .comma :: .lpar .proj :: .fstr .rangeIdx a :: .rpar :: .fstr .domainIdx b :: .fnat .domainSize n
      :: .rangeSize m tr :: r => (unmembersTail r).map fun q => (⟨a, b, n, m, tr⟩ :: q.1, q.2)
  | _ => none

/-- reads `leafKey .repaired` back: the class from the first token, then one token for every field -/
def unleaf : List Tok → Option (Leaf × List Tok)
  | .lpar .var :: .fstr .name n :: .dtype d :: .fnat .domain k :: .fint .timeStep ts :: .fint .iterate it :: .rpar :: r =>
      some (.var n d k ts it, r)
  | .lpar .mdvar :: .fstr .name n :: .dtype d :: .fnats .domains ks :: .fint .timeStep ts :: .fint .iterate it :: .rpar :: r =>
      some (.mdvar n d ks ts it, r)
  | .lpar .tdda :: .fstr .name n :: .dtype d :: .fnats .domains ks :: .fint .timeStep ts :: .rpar :: r =>
      some (.tdda n d ks ts, r)
  | .scalar s :: .rpar :: r => some (.scalar s, r)
  | .lpar .dense :: .shape sh :: .fstr .hash h :: .rpar :: r => some (.dense sh h, r)
  | .sparse f a b h :: .rpar :: r => some (.sparse f a b h, r)
  | .lpar .proj :: .fstr .rangeIdx a :: .rpar :: .fstr .domainIdx b :: .fnat .domainSize n :: .rangeSize m tr :: r =>
      some (.proj ⟨a, b, n, m, tr⟩, r)
  | .lpar .plist :: .rbr :: r => some (.plist [], r)
  -- a non-empty member list is `membersTail` without its leading separator
  | .lpar .plist :: x => (unmembersTail (.comma :: x)).map fun q => (.plist q.1, q.2)
  | .lpar .div :: .fnat .dim d :: .fnats .subdomains s :: .rpar :: r => some (.div d s, r)
  | .lpar .merged :: .fstr .name n :: .dtype d :: .fnats .domains ks :: .rpar :: .fstr .matrixKey mk :: .physics pk i :: r =>
      some (.merged n d ks mk pk i, r)
  | _ => none

theorem unmembersTail_spec (ps : List Proj) (r : List Tok) :
    unmembersTail (membersTail .repaired ps ++ r) = some (ps, r) := by
  induction ps with
  | nil => rfl
  | cons p ps ih =>
    show unmembersTail (.comma :: (projKey .repaired p ++ membersTail .repaired ps ++ r)) = _
    rw [List.append_assoc]
    exact congrArg (Option.map fun q => (p :: q.1, q.2)) ih

theorem unleaf_spec (l : Leaf) (r : List Tok) : unleaf (leafKey .repaired l ++ r) = some (l, r) := by
  cases l with
  | plist ps =>
    cases ps with
    | nil => rfl
    | cons p ps => exact congrArg (Option.map fun q => (Leaf.plist q.1, q.2)) (unmembersTail_spec (p :: ps) r)
  | _ => rfl

/-- a builder that a reader inverts, whatever follows, is a prefix code -/
theorem leafKey_prefix (l1 l2 : Leaf) (r1 r2 : List Tok)
    (h : leafKey .repaired l1 ++ r1 = leafKey .repaired l2 ++ r2) : l1 = l2 ∧ r1 = r2 :=
  Prod.mk.inj (Option.some.inj ((unleaf_spec l1 r1).symm.trans ((congrArg unleaf h).trans (unleaf_spec l2 r2))))

/-- no leaf key starts with a token that `unleaf` rejects (an operation, `evaluate`) -/
theorem leafKey_ne_cons (l : Leaf) (x y : List Tok) (t : Tok) (ht : unleaf (t :: y) = none) :
    leafKey .repaired l ++ x ≠ t :: y := fun h =>
  nomatch (unleaf_spec l x).symm.trans ((congrArg unleaf h).trans ht)

theorem key_eval (fname : Str) (fid : Option Nat) (args : Args) :
    key .repaired (.eval fname fid args) =
      .ev :: .sp :: (fnKey fname fid ++ .sp :: .nargs args.length :: argsKey .repaired args) := by
  simp [key, Cfg.repaired]

theorem fnKey_prefix (f1 f2 : Str) (i1 i2 : Option Nat) (r1 r2 : List Tok)
    (h : fnKey f1 i1 ++ r1 = fnKey f2 i2 ++ r2) : f1 = f2 ∧ i1 = i2 ∧ r1 = r2 := by
  cases i1 <;> cases i2 <;> simp [fnKey] at h ⊢ <;> simp_all

mutual
/-- Unique readability: the repaired key is a prefix code.  If a key followed by anything equals another
    key followed by anything, the trees and the remainders agree. -/
theorem key_prefix : ∀ (t1 t2 : Tree) (r1 r2 : List Tok),
    key .repaired t1 ++ r1 = key .repaired t2 ++ r2 → t1 = t2 ∧ r1 = r2
  | .leaf l1, .leaf l2, r1, r2, h => by
    simp only [key] at h
    obtain ⟨hl, hr⟩ := leafKey_prefix _ _ _ _ h
    exact ⟨by rw [hl], hr⟩
  | .leaf l1, .bin o a b, r1, r2, h => absurd h (leafKey_ne_cons l1 r1 _ (.op o) rfl)
  | .bin o a b, .leaf l2, r1, r2, h => absurd h.symm (leafKey_ne_cons l2 r2 _ (.op o) rfl)
  | .leaf l1, .eval f i as, r1, r2, h => absurd (key_eval f i as ▸ h) (leafKey_ne_cons l1 r1 _ .ev rfl)
  | .eval f i as, .leaf l2, r1, r2, h => absurd (key_eval f i as ▸ h).symm (leafKey_ne_cons l2 r2 _ .ev rfl)
  | .bin o a b, .eval f i as, r1, r2, h => by
    rw [key_eval] at h
    cases (List.cons.inj h).1
  | .eval f i as, .bin o a b, r1, r2, h => by
    rw [key_eval] at h
    cases (List.cons.inj h).1
  | .bin o a b, .bin o' a' b', r1, r2, h => by
    simp only [key, List.cons_append, List.append_assoc, List.cons.injEq, Tok.op.injEq, true_and] at h
    obtain ⟨ho, h⟩ := h
    obtain ⟨ha, h⟩ := key_prefix a a' _ _ h
    simp only [List.cons.injEq, true_and] at h
    obtain ⟨hb, hr⟩ := key_prefix b b' _ _ h
    exact ⟨by rw [ho, ha, hb], hr⟩
  | .eval f i as, .eval f' i' as', r1, r2, h => by
    rw [key_eval, key_eval] at h
    simp only [List.cons_append, List.append_assoc, List.cons.injEq, true_and] at h
    obtain ⟨hf, hi, h⟩ := fnKey_prefix _ _ _ _ _ _ h
    simp only [List.cons.injEq, Tok.nargs.injEq, true_and] at h
    obtain ⟨hn, h⟩ := h
    obtain ⟨has, hr⟩ := argsKey_prefix as as' r1 r2 hn h
    exact ⟨by rw [hf, hi, has], hr⟩
/-- the same for argument lists of equal length (the length is part of the key) -/
theorem argsKey_prefix : ∀ (a1 a2 : Args) (r1 r2 : List Tok), a1.length = a2.length →
    argsKey .repaired a1 ++ r1 = argsKey .repaired a2 ++ r2 → a1 = a2 ∧ r1 = r2
  | .nil, .nil, r1, r2, _, h => by simpa [argsKey] using h
  | .nil, .cons t ts, r1, r2, hn, _ => by simp [Args.length] at hn
  | .cons t ts, .nil, r1, r2, hn, _ => by simp [Args.length] at hn
  | .cons t ts, .cons t' ts', r1, r2, hn, h => by
    simp only [argsKey, List.cons_append, List.append_assoc, List.cons.injEq, true_and] at h
    obtain ⟨ht, h⟩ := key_prefix t t' _ _ h
    have hn' : ts.length = ts'.length := by simpa [Args.length] using hn
    obtain ⟨hts, hr⟩ := argsKey_prefix ts ts' r1 r2 hn' h
    exact ⟨by rw [ht, hts], hr⟩
end

end PorepyVerif.C45
