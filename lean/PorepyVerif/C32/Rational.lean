/-
C32 — the rational side: polynomial identities of the model's 3-vectors and 3×3 matrices, the Cramer
inverse, the normal form `quad` of the rotation matrices, and sums over point lists.  Only
`rod_scale_coeff` is over any field: the rational and the real form of "the coded matrix is the
Rodrigues matrix" both use it.
-/
import PorepyVerif.C32.Model
import Mathlib.Tactic.Ring
import Mathlib.Tactic.FieldSimp
import Mathlib.Tactic.LinearCombination
import Mathlib.Tactic.Linarith
import Mathlib.Tactic.Positivity

namespace PorepyVerif.C32
open V3 M3

theorem V3.ext' {a b : V3} (hx : a.x = b.x) (hy : a.y = b.y) (hz : a.z = b.z) : a = b := by
  cases a; cases b; simp_all

theorem M2.ext' {A B : M2} (h11 : A.a11 = B.a11) (h12 : A.a12 = B.a12)
    (h21 : A.a21 = B.a21) (h22 : A.a22 = B.a22) : A = B := by
  cases A; cases B; simp_all

theorem mul_assoc3 (A B C : M3) : M3.mul (M3.mul A B) C = M3.mul A (M3.mul B C) := by
  -- every entry is (row of A) · B · (column of C), bracketed either way
  have e : ∀ a1 a2 a3 b11 b12 b13 b21 b22 b23 b31 b32 b33 c1 c2 c3 : Rat,
      (a1 * b11 + a2 * b21 + a3 * b31) * c1 + (a1 * b12 + a2 * b22 + a3 * b32) * c2
        + (a1 * b13 + a2 * b23 + a3 * b33) * c3
      = a1 * (b11 * c1 + b12 * c2 + b13 * c3) + a2 * (b21 * c1 + b22 * c2 + b23 * c3)
        + a3 * (b31 * c1 + b32 * c2 + b33 * c3) := by intros; ring
  simp only [M3.mul, e]

theorem det_mul (A B : M3) : M3.det (M3.mul A B) = M3.det A * M3.det B := by
  simp only [M3.det, M3.mul]; ring

theorem det_transpose (A : M3) : M3.det (M3.transpose A) = M3.det A := by
  simp only [M3.det, M3.transpose]; ring

theorem det_id : M3.det M3.id = 1 := by simp [M3.det, M3.id]

theorem mul_adj (A : M3) : M3.mul A (M3.adj A) = M3.smul (M3.det A) M3.id := by
  simp only [M3.mul, M3.adj, M3.smul, M3.id, M3.det]
  congr 1 <;> ring

theorem mul_id (A : M3) : M3.mul A M3.id = A := by
  simp only [M3.mul, M3.id, mul_one, mul_zero, add_zero, zero_add]

theorem id_mul (A : M3) : M3.mul M3.id A = A := by
  simp only [M3.mul, M3.id, one_mul, zero_mul, add_zero, zero_add]

theorem smul_mul_smul (k l : Rat) (A B : M3) :
    M3.mul (M3.smul k A) (M3.smul l B) = M3.smul (k * l) (M3.mul A B) := by
  have e : ∀ a b c d e f : Rat,
      k * a * (l * b) + k * c * (l * d) + k * e * (l * f) = k * l * (a * b + c * d + e * f) := by
    intros; ring
  simp only [M3.mul, M3.smul, e]

theorem smul_smul (A : M3) (k l : Rat) : M3.smul k (M3.smul l A) = M3.smul (k * l) A := by
  simp only [M3.smul, mul_assoc]

theorem one_smul (A : M3) : M3.smul 1 A = A := by
  simp only [M3.smul, one_mul]

theorem mul_smul (A B : M3) (k : Rat) : M3.mul A (M3.smul k B) = M3.smul k (M3.mul A B) := by
  have h := smul_mul_smul 1 k A B
  rwa [one_smul, one_mul] at h

theorem add_zero_smul (A B : M3) : M3.add A (M3.smul 0 B) = A := by
  simp only [M3.add, M3.smul, zero_mul, add_zero]

theorem skew_smul (k : Rat) (v : V3) : skew (V3.smul k v) = M3.smul k (skew v) := by
  simp only [skew, M3.smul, V3.smul, mul_zero, mul_neg]

theorem ofRows_mul_ofCols (a b c a' b' c' : V3) :
    M3.mul (M3.ofRows a b c) (M3.ofCols a' b' c')
      = ⟨dot a a', dot a b', dot a c', dot b a', dot b b', dot b c', dot c a', dot c b', dot c c'⟩ := rfl

theorem mulVec_ofRows (a b c v : V3) : mulVec (M3.ofRows a b c) v = ⟨dot a v, dot b v, dot c v⟩ := rfl

theorem transpose_ofRows (a b c : V3) : M3.transpose (M3.ofRows a b c) = M3.ofCols a b c := rfl

theorem mul_inv (B : M3) (hB : M3.det B ≠ 0) : M3.mul B (M3.inv B) = M3.id := by
  rw [M3.inv, mul_smul, mul_adj, smul_smul, one_div_mul_cancel hB, one_smul]

theorem det_ne_zero_of_mul_eq_id {B C : M3} (h : M3.mul C B = M3.id) : M3.det B ≠ 0 := by
  intro h0
  have hd : M3.det C * M3.det B = 1 := by rw [← det_mul, h, det_id]
  rw [h0, mul_zero] at hd
  exact zero_ne_one hd

theorem inv_eq_of_mul_eq_id (B C : M3) (h : M3.mul C B = M3.id) : M3.inv B = C := by
  rw [← id_mul (M3.inv B), ← h, mul_assoc3, mul_inv B (det_ne_zero_of_mul_eq_id h), mul_id]

theorem mul_eq_id_comm (B C : M3) (h : M3.mul C B = M3.id) : M3.mul B C = M3.id := by
  rw [← inv_eq_of_mul_eq_id B C h, mul_inv B (det_ne_zero_of_mul_eq_id h)]

theorem inv2_eq_of_mul_eq_id (B C : M2) (h : M2.mul C B = M2.id) : M2.inv B = C := by
  have h11 : C.a11 * B.a11 + C.a12 * B.a21 = 1 := congrArg M2.a11 h
  have h12 : C.a11 * B.a12 + C.a12 * B.a22 = 0 := congrArg M2.a12 h
  have h21 : C.a21 * B.a11 + C.a22 * B.a21 = 0 := congrArg M2.a21 h
  have h22 : C.a21 * B.a12 + C.a22 * B.a22 = 1 := congrArg M2.a22 h
  have hB : B.a11 * B.a22 - B.a12 * B.a21 ≠ 0 := by
    intro h0
    have hd : M2.det (M2.mul C B) = M2.det C * (B.a11 * B.a22 - B.a12 * B.a21) := by
      simp only [M2.det, M2.mul]; ring
    have h1 : M2.det M2.id = 1 := by simp [M2.det, M2.id]
    rw [h, h1, h0, mul_zero] at hd
    exact one_ne_zero hd
  -- each entry `x` of `C` is `y / det B` for the matching entry `y` of the adjugate of `B`
  have key : ∀ {x y : Rat}, x * (B.a11 * B.a22 - B.a12 * B.a21) = y
      → 1 / (B.a11 * B.a22 - B.a12 * B.a21) * y = x :=
    fun e => by rw [← e]; field_simp
  exact M2.ext'
    (key (by linear_combination B.a22 * h11 - B.a21 * h12))
    (key (by linear_combination B.a11 * h12 - B.a12 * h11))
    (key (by linear_combination B.a22 * h21 - B.a21 * h22))
    (key (by linear_combination B.a11 * h22 - B.a12 * h21))

theorem dot_comm (a b : V3) : dot a b = dot b a := by
  simp only [dot, mul_comm]

theorem dot_add_right (m a b : V3) : dot m (V3.add a b) = dot m a + dot m b := by
  simp only [dot, V3.add]; ring

theorem dot_sub_right (m a b : V3) : dot m (V3.sub a b) = dot m a - dot m b := by
  simp only [dot, V3.sub, mul_sub, add_sub_add_comm]

theorem dot_smul_right (m : V3) (k : Rat) (a : V3) : dot m (V3.smul k a) = k * dot m a := by
  simp only [dot, V3.smul]; ring

theorem dot_smul_left (k : Rat) (a b : V3) : dot (V3.smul k a) b = k * dot a b := by
  simp only [dot, V3.smul, mul_assoc, mul_add]

theorem one_smulV (v : V3) : V3.smul 1 v = v := by
  simp only [V3.smul, one_mul]

theorem add_sub_cancel_leftV (a w : V3) : V3.sub (V3.add a w) a = w := by
  simp only [V3.sub, V3.add, add_sub_cancel_left]

theorem normSq_smul (k : Rat) (v : V3) : normSq (V3.smul k v) = k * k * normSq v := by
  simp only [normSq, dot, V3.smul, mul_mul_mul_comm k _ k, mul_add]

theorem cross_smul_self (k : Rat) (v : V3) : cross (V3.smul k v) v = V3.zero := by
  simp only [cross, V3.smul, V3.zero, mul_right_comm, sub_self]

theorem dot_mulVec (A : M3) (x y : V3) :
    dot (mulVec A x) (mulVec A y) = dot x (mulVec (M3.mul (M3.transpose A) A) y) := by
  simp only [dot, mulVec, M3.mul, M3.transpose]; ring

theorem mulVec_id (x : V3) : mulVec M3.id x = x := by
  simp only [mulVec, M3.id, one_mul, zero_mul, add_zero, zero_add]

theorem mulVec_sub (A : M3) (x y : V3) : mulVec A (V3.sub x y) = V3.sub (mulVec A x) (mulVec A y) := by
  simp only [mulVec, V3.sub, mul_sub, add_sub_add_comm]

theorem dot_mulVec_of_orth (A : M3) (h : M3.mul (M3.transpose A) A = M3.id) (x y : V3) :
    dot (mulVec A x) (mulVec A y) = dot x y := by
  rw [dot_mulVec, h, mulVec_id]

theorem orthogonal_preserves_dist (R : M3) (h : M3.mul (M3.transpose R) R = M3.id) (p q : V3) :
    normSq (V3.sub (mulVec R p) (mulVec R q)) = normSq (V3.sub p q) := by
  rw [← mulVec_sub]
  exact dot_mulVec_of_orth R h _ _

theorem normSq_nonneg (v : V3) : 0 ≤ normSq v :=
  add_nonneg (add_nonneg (mul_self_nonneg v.x) (mul_self_nonneg v.y)) (mul_self_nonneg v.z)

theorem normSq_eq_zero {v : V3} (h : normSq v = 0) : v = V3.zero := by
  -- a sum of three squares vanishes only if each does
  obtain ⟨hxy, hz⟩ := (add_eq_zero_iff_of_nonneg
    (add_nonneg (mul_self_nonneg v.x) (mul_self_nonneg v.y)) (mul_self_nonneg v.z)).mp h
  obtain ⟨hx, hy⟩ := (add_eq_zero_iff_of_nonneg (mul_self_nonneg v.x) (mul_self_nonneg v.y)).mp hxy
  exact V3.ext' (mul_self_eq_zero.mp hx) (mul_self_eq_zero.mp hy) (mul_self_eq_zero.mp hz)

theorem isSmall_zero (tol : Rat) (htol : 0 ≤ tol) : isSmall tol V3.zero = true := by
  simp [isSmall, V3.zero, rabs, htol]

theorem lagrange (n r : V3) : normSq (cross n r) = normSq n * normSq r - dot n r * dot n r := by
  simp only [normSq, dot, cross]; ring

theorem dot_cross_left (a b : V3) : dot (cross a b) a = 0 := by
  simp only [dot, cross]; ring

theorem dot_cross_right (a b : V3) : dot (cross a b) b = 0 := by
  simp only [dot, cross]; ring

theorem normSq_cross_of_perp {a b : V3} (h : dot a b = 0) :
    normSq (cross a b) = normSq a * normSq b := by
  rw [lagrange, h, mul_zero, sub_zero]

/-- `r × (n × r) = |r|² n − (n·r) r`: a vector with vanishing cross product with the unit vector `r`
    is a multiple of `r`. -/
theorem eq_smul_of_cross_eq_zero (n r : V3) (hr : normSq r = 1) (h : cross n r = V3.zero) :
    n = V3.smul (dot n r) r := by
  have hx : n.y * r.z - n.z * r.y = 0 := congrArg V3.x h
  have hy : n.z * r.x - n.x * r.z = 0 := congrArg V3.y h
  have hz : n.x * r.y - n.y * r.x = 0 := congrArg V3.z h
  simp only [normSq, dot] at hr
  apply V3.ext' <;> simp only [V3.smul, dot]
  · linear_combination r.y * hz - r.z * hy - n.x * hr
  · linear_combination r.z * hx - r.x * hz - n.y * hr
  · linear_combination r.x * hy - r.y * hx - n.z * hr

theorem parallel_unit (n r : V3) (hn : normSq n = 1) (hr : normSq r = 1)
    (hv : cross n r = V3.zero) : ∃ sg : Rat, (sg = 1 ∨ sg = -1) ∧ n = V3.smul sg r := by
  refine ⟨dot n r, mul_self_eq_one_iff.mp ?_, eq_smul_of_cross_eq_zero n r hr hv⟩
  have hl : normSq V3.zero = 1 * 1 - dot n r * dot n r := by rw [← hv, lagrange, hn, hr]
  have h0 : normSq V3.zero = 0 := by decide +kernel
  linear_combination hl - h0

/-- `a, b ⟂ m`, `w ⟂ m`, `m ≠ 0` ⇒ `(a × b) · w = 0` (all three lie in a 2-D subspace). -/
theorem cross_dot_of_perp (m a b w : V3) (hm : normSq m ≠ 0)
    (ha : dot m a = 0) (hb : dot m b = 0) (hw : dot m w = 0) : dot (cross a b) w = 0 := by
  -- |m|² (a×b)·w = (m·(a×b))(m·w) + ((a×b)×m)·(w×m)  and  (a×b)×m = b (a·m) − a (b·m)
  have key3 : normSq m * dot (cross a b) w - dot m (cross a b) * dot m w
           - dot m a * dot (cross b w) m - dot m b * dot (cross w a) m = 0 := by
    simp only [normSq, dot, cross]; ring
  have : normSq m * dot (cross a b) w = 0 := by
    linear_combination key3 + (dot m (cross a b)) * hw + (dot (cross b w) m) * ha
      + (dot (cross w a) m) * hb
  exact (mul_eq_zero.mp this).resolve_left hm

/-- the quadratic matrix polynomial in `W = skew v` that both `rotationMatrix` and `rodrigues` are -/
def quad (a b : Rat) (v : V3) : M3 :=
  M3.add (M3.add M3.id (M3.smul a (skew v))) (M3.smul b (M3.mul (skew v) (skew v)))

theorem rotationMatrix_eq_quad (s c : Rat) (w : V3) : rotationMatrix s c w = quad s (1 - c) w := rfl

theorem rodrigues_eq_quad (n r : V3) : rodrigues n r = quad 1 (1 / (1 + dot n r)) (cross n r) := by
  rw [quad, one_smul]; rfl

theorem quad_scale (a b k : Rat) (v : V3) :
    quad a b (V3.smul k v) = quad (a * k) (b * k * k) v := by
  rw [quad, skew_smul, smul_smul, smul_mul_smul, smul_smul, ← mul_assoc]; rfl

/-- `RᵀR = I + (2b − a² − b²|v|²) W²` for `R = I + aW + bW²` (uses `W³ = −|v|² W`). -/
theorem quad_orth (a b : Rat) (v : V3) :
    M3.mul (M3.transpose (quad a b v)) (quad a b v)
      = M3.add M3.id (M3.smul (2 * b - a * a - b * b * normSq v) (M3.mul (skew v) (skew v))) := by
  simp only [quad, M3.add, M3.smul, M3.mul, M3.id, M3.transpose, skew, normSq, dot]
  congr 1 <;> ring

theorem quad_det (a b : Rat) (v : V3) :
    M3.det (quad a b v) = (1 - b * normSq v) ^ 2 + a * a * normSq v := by
  simp only [quad, M3.add, M3.smul, M3.mul, M3.id, M3.det, skew, normSq, dot]; ring

theorem quad_mulVec_axis (a b : Rat) (v : V3) : mulVec (quad a b v) v = v := by
  apply V3.ext' <;> simp only [quad, M3.add, M3.smul, M3.mul, M3.id, mulVec, skew] <;> ring

/-- `I + aW + bW²` is a rotation about `v` as soon as the one coefficient `2b − a² − b²|v|²` vanishes:
    it is the coefficient of `W²` in `RᵀR − I`, and `det R − 1` is `−|v|²` times it. -/
theorem quad_rotation {a b : Rat} {v : V3} (h : 2 * b - a * a - b * b * normSq v = 0) :
    M3.mul (M3.transpose (quad a b v)) (quad a b v) = M3.id ∧ M3.det (quad a b v) = 1
      ∧ mulVec (quad a b v) v = v := by
  refine ⟨?_, ?_, quad_mulVec_axis a b v⟩
  · rw [quad_orth, h, add_zero_smul]
  · rw [quad_det]
    linear_combination (-(normSq v)) * h

/-- the coefficients `1`, `1/(1 + n·r)` of the Rodrigues matrix meet the condition of `quad_rotation`
    (Lagrange identity) -/
theorem rod_coeff (n r : V3) (hn : normSq n = 1) (hr : normSq r = 1) (hc : dot n r ≠ -1) :
    2 * (1 / (1 + dot n r)) - 1 * 1 - (1 / (1 + dot n r)) * (1 / (1 + dot n r)) * normSq (cross n r) = 0 := by
  have h1 : 1 + dot n r ≠ 0 := fun h => hc (eq_neg_of_add_eq_zero_right h)
  rw [lagrange, hn, hr]
  field_simp
  ring

/-- image of `n` under `I + W + kW²`, `W = skew (n × r)` (triple-product expansions). -/
theorem quad_mulVec_n (k : Rat) (n r : V3) :
    mulVec (quad 1 k (cross n r)) n
      = V3.add (V3.smul (1 - dot n r + k * (dot n r * dot n r - normSq n * normSq r)) n)
          (V3.smul (normSq n) r) := by
  simp only [quad, M3.add, M3.smul, M3.mul, M3.id, mulVec, skew, cross, normSq, dot, V3.add, V3.smul]
  congr 1 <;> ring

/-- with `s = sin a ≠ 0`, `c = cos a`: `1 + c ≠ 0`, and scaling the axis by `1/s` turns the
    coefficient `1 − c` of `W²` into the `1/(1 + c)` of the Rodrigues matrix -/
theorem rod_scale_coeff {K : Type} [Field K] (s c : K) (hs : s * s = 1 - c * c) (hs0 : s ≠ 0) :
    1 + c ≠ 0 ∧ (1 - c) * (1 / s) * (1 / s) = 1 / (1 + c) := by
  have h1 : 1 + c ≠ 0 := by
    intro h
    apply hs0
    apply mul_self_eq_zero.mp
    rw [hs]
    linear_combination (1 - c) * h
  refine ⟨h1, ?_⟩
  field_simp
  linear_combination (-1 : K) * hs

theorem dot_sumV (m : V3) (pts : List V3) (d : Rat) (h : ∀ p ∈ pts, dot m p = d) :
    dot m (sumV pts) = (pts.length : Rat) * d := by
  induction pts with
  | nil => simp [sumV, V3.zero, dot]
  | cons p ps ih =>
    rw [sumV, dot_add_right, h p (List.mem_cons_self ..), ih fun q hq => h q (List.mem_cons_of_mem _ hq),
      List.length_cons, Nat.cast_add, Nat.cast_one]
    ring

theorem dot_mean (m : V3) (pts : List V3) (d : Rat) (hne : pts ≠ []) (h : ∀ p ∈ pts, dot m p = d) :
    dot m (mean pts) = d := by
  have hl : (pts.length : Rat) ≠ 0 := Nat.cast_ne_zero.mpr fun h0 => hne (List.eq_nil_of_length_eq_zero h0)
  rw [mean, dot_smul_right, dot_sumV m pts d h]
  field_simp

theorem dot_centered (m : V3) (pts : List V3) (d : Rat) (h : ∀ p ∈ pts, dot m p = d) :
    ∀ v ∈ centered pts, dot m v = 0 := by
  intro v hv
  obtain ⟨p, hp, rfl⟩ := List.mem_map.mp hv
  rw [dot_sub_right, h p hp, dot_mean m pts d (List.ne_nil_of_mem hp) h, sub_self]

theorem maxBy_mem_cons {α : Type} (f : α → Rat) (best : α) (l : List α) :
    maxBy f best l ∈ best :: l := by
  induction l generalizing best with
  | nil => exact List.mem_cons_self ..
  | cons a as ih =>
    unfold maxBy
    split
    · exact List.mem_cons_of_mem _ (ih a)
    · exact List.cons_subset_cons best (List.subset_cons_self a as) (ih best)

end PorepyVerif.C32
