/-
C32 — property theorems (helper lemmas about the rational model in Rational.lean; the vectors and
matrices over a field, and the embedding into ℝ, in Lemmas.lean).

Property: for any nonzero normal or tangent vectors and planar point sets, the plane, line and
rotation matrices and the tangential-normal projection blocks are orthogonal with unit
determinant, map the normal to the last local axis, and preserve distances; computed normals of
planar point sets are orthogonal to the set.

Normalisation (a square root) and `arccos / sin / cos` are outside the model: the theorems take the
unit vectors the code has just produced as hypotheses (`normSq n = 1`), and the sine / cosine of
the rotation angle as rational parameters with `s² + c² = 1`.
-/
import PorepyVerif.C32.Lemmas

namespace PorepyVerif.C32
open V3 M3

/-- `rotation_matrix(a, vect)` as coded (`I + sin a · W + (1 − cos a) · W²`, `W = [vect/|vect|]×`)
    is orthogonal with determinant +1 and fixes its axis, for EVERY angle and axis. -/
theorem rotation_matrix_formula_orthogonal (s c : Rat) (w : V3)
    (hsc : s * s + c * c = 1) (hw : normSq w = 1) :
    M3.mul (M3.transpose (rotationMatrix s c w)) (rotationMatrix s c w) = M3.id
      ∧ M3.det (rotationMatrix s c w) = 1
      ∧ mulVec (rotationMatrix s c w) w = w := by
  rw [rotationMatrix_eq_quad]
  exact quad_rotation (by rw [hw]; linear_combination (-1 : Rat) * hsc)

example : M3.det (rotationMatrix (3/5) (4/5) ⟨2/3, 1/3, 2/3⟩) = 1 := by decide +kernel

/-- The matrix of `project_plane_matrix` / `project_line_matrix` (non-degenerate branch) is what
    `rotation_matrix(arccos c, n × r)` computes: with `s = sin (arccos c) = |n × r|` and
    `c = cos (arccos c) = n · r` the coded formula equals the rational Rodrigues matrix. -/
theorem rotationMatrix_eq_rodrigues (n r : V3) (s : Rat)
    (hn : normSq n = 1) (hr : normSq r = 1)
    (hs : s * s = normSq (cross n r)) (hs0 : s ≠ 0) :
    rotationMatrix s (dot n r) (V3.smul (1 / s) (cross n r)) = rodrigues n r := by
  have hlag : s * s = 1 - dot n r * dot n r := by rw [hs, lagrange, hn, hr]; ring
  rw [rotationMatrix_eq_quad, quad_scale, rodrigues_eq_quad, mul_one_div_cancel hs0,
    (rod_scale_coeff s (dot n r) hlag hs0).2]

example : rotationMatrix (3/5) (dot ⟨3/5, 0, 4/5⟩ V3.ez) (V3.smul (1 / (3/5)) (cross ⟨3/5, 0, 4/5⟩ V3.ez))
    = rodrigues ⟨3/5, 0, 4/5⟩ V3.ez := by decide +kernel
example : (3/5 : Rat) * (3/5) = normSq (cross ⟨3/5, 0, 4/5⟩ V3.ez) := by decide +kernel

/-- Rodrigues matrix between unit vectors: `RᵀR = 1` and `det R = 1` (Lagrange identity). -/
theorem rotation_matrix_orthogonal (n r : V3)
    (hn : normSq n = 1) (hr : normSq r = 1) (hc : dot n r ≠ -1) :
    M3.mul (M3.transpose (rodrigues n r)) (rodrigues n r) = M3.id ∧ M3.det (rodrigues n r) = 1 := by
  rw [rodrigues_eq_quad]
  have h := quad_rotation (rod_coeff n r hn hr hc)
  exact ⟨h.1, h.2.1⟩

/-- … and it maps the (unit) normal / tangent `n` onto the reference axis `r`. -/
theorem rotation_maps_n_to_ref (n r : V3)
    (hn : normSq n = 1) (hr : normSq r = 1) (hc : dot n r ≠ -1) :
    mulVec (rodrigues n r) n = r := by
  have h1 : 1 + dot n r ≠ 0 := fun h => hc (eq_neg_of_add_eq_zero_right h)
  rw [rodrigues_eq_quad, quad_mulVec_n, hn, hr]
  have : 1 - dot n r + 1 / (1 + dot n r) * (dot n r * dot n r - 1 * 1) = 0 := by
    field_simp
    ring
  rw [this]
  simp only [V3.add, V3.smul, zero_mul, one_mul, zero_add]

example : mulVec (rodrigues ⟨2/3, 1/3, 2/3⟩ V3.ez) ⟨2/3, 1/3, 2/3⟩ = V3.ez := by decide +kernel
example : normSq (⟨2/3, 1/3, 2/3⟩ : V3) = 1 ∧ dot ⟨2/3, 1/3, 2/3⟩ V3.ez ≠ -1 := by decide +kernel

theorem rotation_preserves_dist (n r : V3)
    (hn : normSq n = 1) (hr : normSq r = 1) (hc : dot n r ≠ -1) (p q : V3) :
    normSq (V3.sub (mulVec (rodrigues n r) p) (mulVec (rodrigues n r) q)) = normSq (V3.sub p q) :=
  orthogonal_preserves_dist _ (rotation_matrix_orthogonal n r hn hr hc).1 p q

theorem rotation_axis_coord (n r : V3)
    (hn : normSq n = 1) (hr : normSq r = 1) (hc : dot n r ≠ -1) (p : V3) :
    dot r (mulVec (rodrigues n r) p) = dot n p := by
  have h := dot_mulVec_of_orth _ (rotation_matrix_orthogonal n r hn hr hc).1 n p
  rwa [rotation_maps_n_to_ref n r hn hr hc] at h

/-- `project_plane_matrix` with the default reference `e_z`: all points of a plane with unit
    normal `n` get the same last coordinate (which is why `map_grid` can drop it). -/
theorem project_plane_third_coord_const (n : V3) (hn : normSq n = 1) (hc : dot n V3.ez ≠ -1)
    (d : Rat) (p q : V3) (hp : dot n p = d) (hq : dot n q = d) :
    (mulVec (rodrigues n V3.ez) p).z = (mulVec (rodrigues n V3.ez) q).z := by
  have hr : normSq V3.ez = 1 := by decide +kernel
  have e : ∀ x : V3, dot V3.ez x = x.z := fun x => by simp [dot, V3.ez]
  rw [← e, ← e, rotation_axis_coord n _ hn hr hc, rotation_axis_coord n _ hn hr hc, hp, hq]

example : (mulVec (rodrigues ⟨2/3, 1/3, 2/3⟩ V3.ez) ⟨1, 0, -1⟩).z
    = (mulVec (rodrigues ⟨2/3, 1/3, 2/3⟩ V3.ez) ⟨0, 2, -1⟩).z := by decide +kernel

/-- The two branches of `projectMatrix` for unit vectors: the Rodrigues matrix is only ever
    evaluated away from its pole `n·r = −1`, since there `n × r = 0` passes the `allclose` test. -/
theorem projectMatrix_cases (tol : Rat) (htol : 0 ≤ tol) (n r : V3)
    (hn : normSq n = 1) (hr : normSq r = 1) :
    (isSmall tol (cross n r) = true ∧ projectMatrix tol n r = M3.id)
      ∨ (dot n r ≠ -1 ∧ projectMatrix tol n r = rodrigues n r) := by
  by_cases hsm : isSmall tol (cross n r) = true
  · exact Or.inl ⟨hsm, if_pos hsm⟩
  · refine Or.inr ⟨fun hc => hsm ?_, if_neg hsm⟩
    have : normSq (cross n r) = 0 := by rw [lagrange, hn, hr, hc]; ring
    rw [normSq_eq_zero this]
    exact isSmall_zero tol htol

/-- Whatever branch is taken (`tol ≥ 0` is the `allclose` threshold), the matrix returned for unit
    `n`, `r` is orthogonal with determinant +1 and preserves distances — also for `n = −r`, where
    the Rodrigues formula would divide by zero and the code returns the identity. -/
theorem project_matrix_orthogonal (tol : Rat) (htol : 0 ≤ tol) (n r : V3)
    (hn : normSq n = 1) (hr : normSq r = 1) :
    M3.mul (M3.transpose (projectMatrix tol n r)) (projectMatrix tol n r) = M3.id
      ∧ M3.det (projectMatrix tol n r) = 1
      ∧ ∀ p q, normSq (V3.sub (mulVec (projectMatrix tol n r) p) (mulVec (projectMatrix tol n r) q))
                = normSq (V3.sub p q) := by
  have horth : M3.mul (M3.transpose (projectMatrix tol n r)) (projectMatrix tol n r) = M3.id
      ∧ M3.det (projectMatrix tol n r) = 1 := by
    rcases projectMatrix_cases tol htol n r hn hr with ⟨-, h⟩ | ⟨hc, h⟩ <;> rw [h]
    · exact ⟨mul_id _, det_id⟩
    · exact rotation_matrix_orthogonal n r hn hr hc
  exact ⟨horth.1, horth.2, orthogonal_preserves_dist _ horth.1⟩

/-- "Maps the normal to the last local axis", read as `R n ∥ r` (DESIGN.md §6 C32): away from
    the knife edge (the degenerate branch is taken only for an exactly vanishing cross product),
    `R n = r`, or `R n = −r` in the anti-parallel case where the code returns the identity; and
    then the coordinate of any mapped point along the axis is `± n·p`: constant on planes ⟂ `n`. -/
theorem project_matrix_maps_normal_to_axis (tol : Rat) (htol : 0 ≤ tol) (n r : V3)
    (hn : normSq n = 1) (hr : normSq r = 1)
    (hknife : isSmall tol (cross n r) = true → cross n r = V3.zero) :
    ∃ sg : Rat, (sg = 1 ∨ sg = -1) ∧ mulVec (projectMatrix tol n r) n = V3.smul sg r
      ∧ ∀ p, dot r (mulVec (projectMatrix tol n r) p) = sg * dot n p := by
  rcases projectMatrix_cases tol htol n r hn hr with ⟨hsm, h⟩ | ⟨hc, h⟩ <;> rw [h]
  · obtain ⟨sg, hsg, rfl⟩ := parallel_unit n r hn hr (hknife hsm)
    refine ⟨sg, hsg, mulVec_id _, fun p => ?_⟩
    rw [mulVec_id, dot_smul_left]
    rcases hsg with rfl | rfl <;> ring
  · refine ⟨1, Or.inl rfl, ?_, fun p => ?_⟩
    · rw [rotation_maps_n_to_ref n r hn hr hc, one_smulV]
    · rw [rotation_axis_coord n r hn hr hc, one_mul]

-- anti-parallel: identity, R n = −r
example : projectMatrix (1/100000000) ⟨0, 0, -1⟩ V3.ez = M3.id
    ∧ (isSmall (1/100000000) (cross ⟨0, 0, -1⟩ V3.ez) = true → cross ⟨0, 0, -1⟩ V3.ez = V3.zero) := by
  decide +kernel
example : mulVec (projectMatrix (1/100000000) ⟨2/3, 1/3, 2/3⟩ V3.ez) ⟨2/3, 1/3, 2/3⟩ = V3.ez := by decide +kernel

/-- What a returned normal is: the cross product of two centred points (whichever the two `argmax`
    picked) that fails the collinearity test. -/
theorem computeNormal_ok {tol : Rat} {pts : List V3} {raw v1 vk : V3}
    (h : computeNormal tol pts = .ok raw v1 vk) :
    v1 ∈ centered pts ∧ vk ∈ centered pts ∧ raw = cross v1 vk
      ∧ ¬ (raw.x * raw.x ≤ tol * tol * (normSq v1 * normSq v1)
          ∧ raw.y * raw.y ≤ tol * tol * (normSq v1 * normSq v1)
          ∧ raw.z * raw.z ≤ tol * tol * (normSq v1 * normSq v1)) := by
  unfold computeNormal at h
  split at h
  · cases h
  · split at h
    · cases h
    · rename_i v0 vs hcent
      simp only at h
      split at h
      · cases h
      · rename_i hnot
        injection h with hraw h1 hk
        subst hraw h1 hk
        rw [hcent]
        exact ⟨maxBy_mem_cons _ _ _, maxBy_mem_cons _ _ _, rfl, hnot⟩

/-- `compute_normal`: for a point set in a plane `m·p = d` (`m ≠ 0`), whenever a normal is
    returned it is a nonzero vector (so that its normalisation is defined) orthogonal to every
    difference of two points of the set — whichever vectors the two `argmax` picked. -/
theorem compute_normal_orthogonal (tol : Rat) (pts : List V3) (m : V3) (d : Rat)
    (hm : normSq m ≠ 0) (hpl : ∀ p ∈ pts, dot m p = d)
    (raw v1 vk : V3) (hres : computeNormal tol pts = .ok raw v1 vk) :
    raw ≠ V3.zero ∧ ∀ p ∈ pts, ∀ q ∈ pts, dot raw (V3.sub p q) = 0 := by
  obtain ⟨hmem1, hmemk, rfl, hnot⟩ := computeNormal_ok hres
  have hc := dot_centered m pts d hpl
  constructor
  · intro h0
    apply hnot
    have hb : 0 ≤ tol * tol * (normSq v1 * normSq v1) :=
      mul_nonneg (mul_self_nonneg tol) (mul_self_nonneg _)
    rw [h0]
    show 0 * 0 ≤ _ ∧ 0 * 0 ≤ _ ∧ 0 * 0 ≤ _
    rw [zero_mul]
    exact ⟨hb, hb, hb⟩
  · intro p hp q hq
    have hw : dot m (V3.sub p q) = 0 := by rw [dot_sub_right, hpl p hp, hpl q hq, sub_self]
    exact cross_dot_of_perp m v1 vk _ hm (hc v1 hmem1) (hc vk hmemk) hw

example : computeNormal (1/100000) [⟨0,0,1⟩, ⟨2,0,1⟩, ⟨0,3,1⟩, ⟨3,3,1⟩]
    = .ok ⟨0, 0, 9/2⟩ ⟨7/4, 3/2, 0⟩ ⟨-5/4, 3/2, 0⟩ := by decide +kernel

/-- `compute_tangent`: for points on the line cut out by two planes `m₁·p = d₁`, `m₂·p = d₂`, the
    returned (un-normalised) tangent is nonzero and orthogonal to both plane normals. -/
theorem compute_tangent_on_line (tol : Rat) (htol : 0 ≤ tol) (pts : List V3) (m1 m2 : V3) (d1 d2 : Rat)
    (h1 : ∀ p ∈ pts, dot m1 p = d1) (h2 : ∀ p ∈ pts, dot m2 p = d2)
    (t : V3) (hres : computeTangent tol pts = some t) :
    t ≠ V3.zero ∧ dot m1 t = 0 ∧ dot m2 t = 0 := by
  unfold computeTangent at hres
  split at hres
  · cases hres
  · rename_i v0 vs hcent
    simp only at hres
    split at hres
    · cases hres
    · rename_i hns
      injection hres with ht
      have hmem : t ∈ centered pts := by rw [hcent, ← ht]; exact maxBy_mem_cons _ _ _
      refine ⟨?_, dot_centered m1 pts d1 h1 t hmem, dot_centered m2 pts d2 h2 t hmem⟩
      intro h0
      rw [ht, h0] at hns
      exact hns (isSmall_zero tol htol)

example : computeTangent (1/100000000) [⟨0,0,1⟩, ⟨2,2,1⟩, ⟨5,5,1⟩] = some ⟨8/3, 8/3, 0⟩ := by
  decide +kernel

/-- `compute_normals_1d` (repaired for tangents along the z-axis): the two normals are orthogonal
    to the tangent and to each other, the first is nonzero and `|n₂|² = |t|²|n₁|²`, so for a unit
    tangent both normalise to an orthonormal pair. -/
theorem normals_1d_orthogonal (t : V3) :
    dot (normals1d t).1 t = 0 ∧ dot (normals1d t).2 t = 0 ∧ dot (normals1d t).1 (normals1d t).2 = 0
      ∧ (normals1d t).1 ≠ V3.zero
      ∧ normSq (normals1d t).2 = normSq t * normSq (normals1d t).1 := by
  have h1 : dot (normals1d t).1 t = 0 ∧ (normals1d t).1 ≠ V3.zero := by
    unfold normals1d
    by_cases hz : t.x = 0 ∧ t.y = 0
    · rw [if_pos hz]
      exact ⟨by simp only [dot, V3.ex, hz.1]; ring, fun h => one_ne_zero (congrArg V3.x h)⟩
    · rw [if_neg hz]
      exact ⟨by simp only [dot]; ring,
        fun h => hz ⟨neg_eq_zero.mp (congrArg V3.y h), congrArg V3.x h⟩⟩
  have h2 : dot t (normals1d t).1 = 0 := by rw [dot_comm, h1.1]
  -- the second normal is `t × n₁`
  exact ⟨h1.1, dot_cross_left t _, by rw [dot_comm]; exact dot_cross_right t _, h1.2,
    normSq_cross_of_perp h2⟩

example : normals1d ⟨0, 0, -1⟩ = (⟨1, 0, 0⟩, ⟨0, -1, 0⟩) ∧ normals1d ⟨3/5, 4/5, 0⟩ = (⟨4/5, -3/5, 0⟩, ⟨0, 0, -1⟩) := by
  decide +kernel

/-- mutually orthogonal unit vectors -/
def Orthonormal3 (t1 t2 n : V3) : Prop :=
  normSq t1 = 1 ∧ normSq t2 = 1 ∧ normSq n = 1 ∧ dot t1 t2 = 0 ∧ dot t1 n = 0 ∧ dot t2 n = 0

/-- 3-D block of `TangentialNormalProjection`: the projection is built as `inv [t1 | t2 | n]`.
    For an orthonormal tangent basis and normal it is the matrix with ROWS `t1, t2, n`; it is
    orthogonal, maps the normal to the last local axis and the tangents to the first two. -/
theorem tn_projection_blocks_orthonormal (t1 t2 n : V3) (h : Orthonormal3 t1 t2 n) :
    tn3Projection t1 t2 n = M3.ofRows t1 t2 n
      ∧ M3.mul (tn3Projection t1 t2 n) (M3.transpose (tn3Projection t1 t2 n)) = M3.id
      ∧ M3.mul (M3.transpose (tn3Projection t1 t2 n)) (tn3Projection t1 t2 n) = M3.id
      ∧ mulVec (tn3Projection t1 t2 n) n = V3.ez
      ∧ mulVec (tn3Projection t1 t2 n) t1 = V3.ex
      ∧ mulVec (tn3Projection t1 t2 n) t2 = V3.ey := by
  obtain ⟨h11, h22, hnn, h12, h1n, h2n⟩ := h
  unfold normSq at h11 h22 hnn
  have h21 : dot t2 t1 = 0 := by rw [dot_comm, h12]
  have hn1 : dot n t1 = 0 := by rw [dot_comm, h1n]
  have hn2 : dot n t2 = 0 := by rw [dot_comm, h2n]
  -- the entries of `[t1; t2; n] · [t1 | t2 | n]` are the nine inner products
  have hleft : M3.mul (M3.ofRows t1 t2 n) (M3.ofCols t1 t2 n) = M3.id := by
    rw [ofRows_mul_ofCols, h11, h22, hnn, h12, h1n, h2n, h21, hn1, hn2]; rfl
  have hP : tn3Projection t1 t2 n = M3.ofRows t1 t2 n := inv_eq_of_mul_eq_id _ _ hleft
  rw [hP, transpose_ofRows, mulVec_ofRows, mulVec_ofRows, mulVec_ofRows,
    h11, h22, hnn, h12, h1n, h2n, h21, hn1, hn2]
  exact ⟨rfl, hleft, mul_eq_id_comm _ _ hleft, rfl, rfl, rfl⟩

/-- With the second tangent built as coded (`t2 = n × t1`) the block has determinant +1. -/
theorem tn_projection_det (t1 n : V3) (h1 : normSq t1 = 1) (hn : normSq n = 1) (h1n : dot t1 n = 0) :
    Orthonormal3 t1 (cross n t1) n ∧ M3.det (tn3Projection t1 (cross n t1) n) = 1 := by
  have hn1 : dot n t1 = 0 := by rw [dot_comm, h1n]
  have ho : Orthonormal3 t1 (cross n t1) n :=
    ⟨h1, by rw [normSq_cross_of_perp hn1, hn, h1, mul_one], hn,
      by rw [dot_comm]; exact dot_cross_right n t1, h1n, dot_cross_left n t1⟩
  refine ⟨ho, ?_⟩
  rw [(tn_projection_blocks_orthonormal _ _ _ ho).1]
  have : M3.det (M3.ofRows t1 (cross n t1) n)
      = normSq n * normSq t1 - dot t1 n * dot t1 n := by
    simp only [M3.det, M3.ofRows, cross, normSq, dot]; ring
  rw [this, hn, h1, h1n]; ring

example : Orthonormal3 ⟨-4/5, 3/5, 0⟩ (cross ⟨3/13, 4/13, 12/13⟩ ⟨-4/5, 3/5, 0⟩) ⟨3/13, 4/13, 12/13⟩ := by
  unfold Orthonormal3; decide +kernel
example : tn3Projection ⟨-4/5, 3/5, 0⟩ (cross ⟨3/13, 4/13, 12/13⟩ ⟨-4/5, 3/5, 0⟩) ⟨3/13, 4/13, 12/13⟩
    = M3.ofRows ⟨-4/5, 3/5, 0⟩ ⟨-36/65, -48/65, 5/13⟩ ⟨3/13, 4/13, 12/13⟩ := by decide +kernel

/-- the aligned-with-axis branch of the first tangent is taken only for an exactly aligned normal -/
def NoKnifeEdge (tol : Rat) (n : V3) : Prop :=
  (n.y * n.y + n.z * n.z < tol * tol → n.y = 0 ∧ n.z = 0)
  ∧ (n.x * n.x + n.z * n.z < tol * tol → n.x = 0 ∧ n.z = 0)
  ∧ (n.x * n.x + n.y * n.y < tol * tol → n.x = 0 ∧ n.y = 0)

/-- In each of the three directions `argmaxAbs` can pick, and in both branches of the alignment test,
    the first tangent is nonzero and orthogonal to the normal: in the aligned branch it has an entry
    1 and the two small components of `n` vanish; otherwise these two components, which are (up to
    sign) the entries of the tangent, do not both vanish. -/
theorem tn3Tangent1_spec (tol : Rat) (htol : 0 < tol) (n : V3) (hk : NoKnifeEdge tol n) :
    tn3Tangent1 tol n ≠ V3.zero ∧ dot (tn3Tangent1 tol n) n = 0 := by
  obtain ⟨k0, k1, k2⟩ := hk
  have hpos : 0 * 0 + 0 * 0 < tol * tol := by simpa using mul_pos htol htol
  unfold tn3Tangent1
  split
  · split
    · rename_i h
      obtain ⟨hy, hz⟩ := k0 h
      exact ⟨fun h0 => one_ne_zero (congrArg V3.y h0), by simp only [dot, hy, hz]; ring⟩
    · rename_i h
      refine ⟨fun h0 => h ?_, by simp only [dot]; ring⟩
      rw [show n.y = 0 from congrArg V3.z h0, show n.z = 0 from neg_eq_zero.mp (congrArg V3.y h0)]
      exact hpos
  · split
    · rename_i h
      obtain ⟨hx, hz⟩ := k1 h
      exact ⟨fun h0 => one_ne_zero (congrArg V3.x h0), by simp only [dot, hx, hz]; ring⟩
    · rename_i h
      refine ⟨fun h0 => h ?_, by simp only [dot]; ring⟩
      rw [show n.x = 0 from congrArg V3.z h0, show n.z = 0 from neg_eq_zero.mp (congrArg V3.x h0)]
      exact hpos
  · split
    · rename_i h
      obtain ⟨hx, hy⟩ := k2 h
      exact ⟨fun h0 => one_ne_zero (congrArg V3.x h0), by simp only [dot, hx, hy]; ring⟩
    · rename_i h
      refine ⟨fun h0 => h ?_, by simp only [dot]; ring⟩
      rw [show n.x = 0 from congrArg V3.y h0, show n.y = 0 from neg_eq_zero.mp (congrArg V3.x h0)]
      exact hpos

/-- The un-normalised tangents the 3-D branch of `_construct_local_basis` builds from a normal:
    the first is nonzero and orthogonal to the normal, the second (`n × t1`) is orthogonal to
    both, and `|t2|² = |n|²|t1|²` — so after normalisation (outside) `t1, t2, n` are orthonormal. -/
theorem tn3_tangents_orthogonal (tol : Rat) (htol : 0 < tol) (n : V3) (hk : NoKnifeEdge tol n) :
    tn3Tangent1 tol n ≠ V3.zero
      ∧ dot (tn3Tangent1 tol n) n = 0
      ∧ dot (tn3Tangent2 n (tn3Tangent1 tol n)) n = 0
      ∧ dot (tn3Tangent2 n (tn3Tangent1 tol n)) (tn3Tangent1 tol n) = 0
      ∧ normSq (tn3Tangent2 n (tn3Tangent1 tol n)) = normSq n * normSq (tn3Tangent1 tol n) := by
  obtain ⟨hne, hperp⟩ := tn3Tangent1_spec tol htol n hk
  exact ⟨hne, hperp, dot_cross_left n _, dot_cross_right n _,
    normSq_cross_of_perp (by rw [dot_comm, hperp])⟩

example : NoKnifeEdge (1/100000000) ⟨3/13, 4/13, 12/13⟩ ∧ NoKnifeEdge (1/100000000) ⟨0, -1, 0⟩ := by
  unfold NoKnifeEdge; decide +kernel
example : tn3Tangent1 (1/100000000) ⟨3/13, 4/13, 12/13⟩ = ⟨-4/13, 3/13, 0⟩
    ∧ tn3Tangent1 (1/100000000) ⟨0, -1, 0⟩ = ⟨1, 0, 0⟩ := by decide +kernel

/-- the 2-D tangent as coded is a unit vector orthogonal to the unit normal, points in the positive
    x-direction, and `det [t | n]` is the sign fixed by that convention -/
theorem tn2Tangent_spec (n : V2) (hn : n.x * n.x + n.y * n.y = 1) :
    (tn2Tangent n).x * (tn2Tangent n).x + (tn2Tangent n).y * (tn2Tangent n).y = 1
      ∧ (tn2Tangent n).x * n.x + (tn2Tangent n).y * n.y = 0
      ∧ 0 ≤ (tn2Tangent n).x
      ∧ (tn2Tangent n).x * n.y - (tn2Tangent n).y * n.x = tn2Sign n
      ∧ (tn2Sign n = 1 ∨ tn2Sign n = -1) := by
  unfold tn2Tangent tn2Sign
  split_ifs with h1 h2
  · exact ⟨by linear_combination hn, by ring, neg_nonneg.mpr h1.le, by linear_combination (-1 : Rat) * hn,
      Or.inr rfl⟩
  · exact ⟨by linear_combination hn, by ring, h2.le, by linear_combination hn, Or.inl rfl⟩
  · have hy : n.y = 0 := le_antisymm (not_lt.mp h2) (not_lt.mp h1)
    have hx : (n.x - 1) * (n.x + 1) = 0 := by rw [hy] at hn; linear_combination hn
    refine ⟨by ring, by rw [hy]; ring, le_refl _, by ring, ?_⟩
    rcases mul_eq_zero.mp hx with h | h
    · right; rw [sub_eq_zero.mp h]
    · left; rw [eq_neg_of_add_eq_zero_left h, neg_neg]

/-- 2-D block: for a unit normal the projection `inv [t | n]` is the matrix with rows `t, n`; it is
    orthogonal, maps the normal to the last local axis and the tangent to the first, and its
    determinant is the sign fixed by the tangent convention (`tn2Sign n = ±1`: −1 when the normal
    points downwards, because the tangent is made to point in the positive x-direction). -/
theorem tn2_projection_orthonormal (n : V2) (hn : n.x * n.x + n.y * n.y = 1) :
    tn2Projection n = ⟨(tn2Tangent n).x, (tn2Tangent n).y, n.x, n.y⟩
      ∧ M2.mul (tn2Projection n) (M2.transpose (tn2Projection n)) = M2.id
      ∧ M2.mulVec (tn2Projection n) n = ⟨0, 1⟩
      ∧ M2.mulVec (tn2Projection n) (tn2Tangent n) = ⟨1, 0⟩
      ∧ M2.det (tn2Projection n) = tn2Sign n
      ∧ (tn2Sign n = 1 ∨ tn2Sign n = -1) := by
  obtain ⟨htt, htn, -, hdet, hsg⟩ := tn2Tangent_spec n hn
  unfold tn2Projection
  generalize tn2Tangent n = t at htt htn hdet ⊢
  have hnt : n.x * t.x + n.y * t.y = 0 := by rw [← htn]; ring
  -- `[t; n] · [t | n]` and `[t; n] · [t; n]ᵀ` are the same matrix of inner products
  have hleft : M2.mul ⟨t.x, t.y, n.x, n.y⟩ (M2.ofCols t n) = M2.id := by
    show (⟨t.x * t.x + t.y * t.y, t.x * n.x + t.y * n.y, n.x * t.x + n.y * t.y, n.x * n.x + n.y * n.y⟩ : M2)
      = M2.id
    rw [htt, htn, hnt, hn]; rfl
  rw [inv2_eq_of_mul_eq_id _ _ hleft]
  refine ⟨rfl, hleft, ?_, ?_, hdet, hsg⟩
  · show (⟨t.x * n.x + t.y * n.y, n.x * n.x + n.y * n.y⟩ : V2) = _
    rw [htn, hn]
  · show (⟨t.x * t.x + t.y * t.y, n.x * t.x + n.y * t.y⟩ : V2) = _
    rw [htt, hnt]

example : tn2Projection ⟨3/5, -4/5⟩ = ⟨4/5, 3/5, 3/5, -4/5⟩ := by decide +kernel

/-- the trigonometric step: `sin (arccos c) = √(1 − c²)` and `cos (arccos c) = c` for `|c| ≤ 1` -/
theorem sin_cos_arccos (c : ℝ) (h1 : -1 ≤ c) (h2 : c ≤ 1) :
    Real.sin (Real.arccos c) = Real.sqrt (1 - c ^ 2) ∧ Real.cos (Real.arccos c) = c :=
  ⟨Real.sin_arccos c, Real.cos_arccos h1 h2⟩

/-- `project_plane_matrix` / `project_line_matrix`, non-degenerate branch, with the REAL functions:
    for rational unit vectors `n`, `r` with `n × r ≠ 0`, `rotation_matrix(arccos (n·r), n × r)` as
    coded (real square root, arccos, sin, cos) IS the rational Rodrigues matrix of the model. -/
theorem rotation_matrix_real_eq_rodrigues (n r : V3) (hn : normSq n = 1) (hr : normSq r = 1)
    (hv : cross n r ≠ V3.zero) :
    rotationMatrixCoded (Real.arccos ((dot n r : ℚ) : ℝ)) (castV (cross n r)) = castM (rodrigues n r) := by
  have hpos : 0 < normSq (cross n r) :=
    lt_of_le_of_ne (normSq_nonneg _) fun h => hv (normSq_eq_zero h.symm)
  have hL : ((normSq (cross n r) : ℚ) : ℝ) = 1 - ((dot n r : ℚ) : ℝ) * ((dot n r : ℚ) : ℝ) := by
    rw [lagrange, hn, hr, one_mul]; push_cast; rfl
  have hLpos : (0 : ℝ) < ((normSq (cross n r) : ℚ) : ℝ) := by exact_mod_cast hpos
  -- both sides as `I + a W + b W²` with `W = skew (castV (n × r))`; what is left is about `c = n·r` in ℝ
  rw [rotationMatrixCoded_eq_quadF, quadF_scale, castV_normSq, rodrigues_eq_quad, castM_quad]
  push_cast
  generalize ((dot n r : ℚ) : ℝ) = c at hL ⊢
  rw [hL] at hLpos ⊢
  have habs : |c| ≤ 1 := abs_le_one_iff_mul_self_le_one.mpr (sub_pos.mp hLpos).le
  obtain ⟨hc1, hc2⟩ := abs_le.mp habs
  obtain ⟨hsin, hcos⟩ := sin_cos_arccos c hc1 hc2
  have hs0 : Real.sqrt (1 - c * c) ≠ 0 := (Real.sqrt_pos.mpr hLpos).ne'
  rw [hsin, hcos, sq, mul_one_div_cancel hs0,
    (rod_scale_coeff _ c (Real.mul_self_sqrt hLpos.le) hs0).2]

section gs
variable {K : Type} [Field K]

/-- Gram–Schmidt as coded in the 3-D branch of `_construct_local_basis`, with the normalisations
    INSIDE (`‖v‖ = sq (‖v‖²)`): for a normal with `‖n‖² ≠ 0` that is not aligned with the chosen
    axis `i` (the other two components of `n/‖n‖` do not both vanish: `‖t₁raw‖² ≠ 0`),
    `n̂ = n/‖n‖`, `t₁ = t₁raw/‖t₁raw‖`, `t₂ = (n̂ × t₁)/‖n̂ × t₁‖` are orthonormal. -/
theorem gram_schmidt_orthonormal (sq : K → K) (n : V3F K) (i : Fin 3)
    (hn0 : V3F.normSq n ≠ 0) (hsn : IsSqrtAt sq (V3F.normSq n))
    (ht0 : V3F.normSq (gsTangent1 i (unitF sq n)) ≠ 0)
    (hst : IsSqrtAt sq (V3F.normSq (gsTangent1 i (unitF sq n))))
    (hs1 : IsSqrtAt sq 1) :
    OrthonormalF (unitF sq (gsTangent1 i (unitF sq n)))
      (unitF sq (V3F.cross (unitF sq n) (unitF sq (gsTangent1 i (unitF sq n)))))
      (unitF sq n) := by
  have hN : V3F.normSq (unitF sq n) = 1 := unitF_normSq sq n hn0 hsn
  generalize unitF sq n = nh at *
  have hT : V3F.normSq (unitF sq (gsTangent1 i nh)) = 1 := unitF_normSq sq _ ht0 hst
  have hTn : V3F.dot (unitF sq (gsTangent1 i nh)) nh = 0 := by
    rw [unitF, dotF_smul_left, gsTangent1_perp, mul_zero]
  generalize unitF sq (gsTangent1 i nh) = t1 at *
  have hC : V3F.normSq (V3F.cross nh t1) = 1 := by
    rw [lagrangeF, hN, hT, dotF_comm, hTn, mul_zero, sub_zero, mul_one]
  have hCn : V3F.dot (V3F.cross nh t1) nh = 0 := by simp only [V3F.dot, V3F.cross]; ring
  have hCt : V3F.dot (V3F.cross nh t1) t1 = 0 := by simp only [V3F.dot, V3F.cross]; ring
  have hT2 : V3F.normSq (unitF sq (V3F.cross nh t1)) = 1 :=
    unitF_normSq sq _ (by rw [hC]; exact one_ne_zero) (by rw [hC]; exact hs1)
  refine ⟨hT, hT2, hN, ?_, hTn, ?_⟩
  · rw [unitF, dotF_comm, dotF_smul_left, hCt, mul_zero]
  · rw [unitF, dotF_smul_left, hCn, mul_zero]

end gs

/-- … in particular over ℝ with the real square root: any normal `n ≠ 0` whose normalisation is not
    aligned with the chosen axis. -/
theorem gram_schmidt_orthonormal_real (n : V3F ℝ) (i : Fin 3)
    (hn0 : V3F.normSq n ≠ 0) (ht0 : V3F.normSq (gsTangent1 i (unitF Real.sqrt n)) ≠ 0) :
    OrthonormalF (unitF Real.sqrt (gsTangent1 i (unitF Real.sqrt n)))
      (unitF Real.sqrt (V3F.cross (unitF Real.sqrt n) (unitF Real.sqrt (gsTangent1 i (unitF Real.sqrt n)))))
      (unitF Real.sqrt n) :=
  gram_schmidt_orthonormal Real.sqrt n i hn0 (Real.mul_self_sqrt (normSqF_nonneg _)) ht0
    (Real.mul_self_sqrt (normSqF_nonneg _)) (Real.mul_self_sqrt zero_le_one)

/-- every output point lies on the line through the first point and the end point; the first point
    (`l = 0`) and the end point (`l = 1`) stay; the squared distance to the first point is
    `l²·|p_end − p₀|²` — i.e. the original one when `l = |p − p₀| / |p_end − p₀|`; the position along
    the line is monotone in `l` (ordering preserved); the output is `p₀ + l (p_end − p₀)`, so a point
    that already sits at parameter `l` on the line is not moved (`force_point_collinearity_real`
    states this with the `l` the code computes). -/
theorem force_point_collinearity_spec (p0 pe : V3) (l : Rat) :
    cross (V3.sub (fpcPoint p0 pe l) p0) (V3.sub pe p0) = V3.zero
      ∧ fpcPoint p0 pe 0 = p0 ∧ fpcPoint p0 pe 1 = pe
      ∧ normSq (V3.sub (fpcPoint p0 pe l) p0) = l * l * normSq (V3.sub pe p0)
      ∧ (∀ d : Rat, l * l * normSq (V3.sub pe p0) = d → normSq (V3.sub (fpcPoint p0 pe l) p0) = d)
      ∧ (∀ l' : Rat, l ≤ l' →
          dot (V3.sub (fpcPoint p0 pe l) p0) (V3.sub pe p0) ≤ dot (V3.sub (fpcPoint p0 pe l') p0) (V3.sub pe p0))
      ∧ fpcPoint p0 pe l = V3.add p0 (V3.smul l (V3.sub pe p0)) := by
  have e : ∀ m : Rat, fpcPoint p0 pe m = V3.add p0 (V3.smul m (V3.sub pe p0)) := fun m => by
    simp only [fpcPoint, V3.add, V3.smul, V3.sub]
    congr 1 <;> ring
  have hsub : ∀ m : Rat, V3.sub (fpcPoint p0 pe m) p0 = V3.smul m (V3.sub pe p0) := fun m => by
    rw [e, add_sub_cancel_leftV]
  have hd : normSq (V3.sub (fpcPoint p0 pe l) p0) = l * l * normSq (V3.sub pe p0) := by
    rw [hsub, normSq_smul]
  refine ⟨by rw [hsub, cross_smul_self], ?_, ?_, hd, fun d h => by rw [hd, h], fun l' hl => ?_, e l⟩
  · rw [e]; simp only [V3.add, V3.smul, zero_mul, add_zero]
  · rw [e]; simp only [V3.add, V3.smul, V3.sub, one_mul, add_sub_cancel]
  · rw [hsub, hsub, dot_smul_left, dot_smul_left]
    exact mul_le_mul_of_nonneg_right hl (normSq_nonneg _)

example : forcePointCollinearity ⟨0, 0, 0⟩ ⟨2, 2, 0⟩ [0, 1/2, 1] = [⟨0, 0, 0⟩, ⟨1, 1, 0⟩, ⟨2, 2, 0⟩] := by
  decide +kernel

/-- `force_point_collinearity` with the REAL square roots: a point `p` is moved to
    `p₀ (1 − l) + p_end l`, `l = √|p − p₀|² / √|p_end − p₀|²`; its distance to the first point is
    kept (so the order of the points by distance from the first point is kept), `l` is monotone in
    that distance, and a point already on the ray from `p₀` through `p_end` is not moved. -/
theorem force_point_collinearity_real (p0 pe p : V3F ℝ) (hD : V3F.normSq (V3F.sub pe p0) ≠ 0) :
    let l := fun q : V3F ℝ => Real.sqrt (V3F.normSq (V3F.sub q p0)) / Real.sqrt (V3F.normSq (V3F.sub pe p0))
    let f := fun q : V3F ℝ => V3F.add (V3F.smul (1 - l q) p0) (V3F.smul (l q) pe)
    V3F.normSq (V3F.sub (f p) p0) = V3F.normSq (V3F.sub p p0)
      ∧ V3F.cross (V3F.sub (f p) p0) (V3F.sub pe p0) = ⟨0, 0, 0⟩
      ∧ (∀ q : V3F ℝ, V3F.normSq (V3F.sub p p0) ≤ V3F.normSq (V3F.sub q p0) → l p ≤ l q)
      ∧ (∀ μ : ℝ, 0 ≤ μ → p = V3F.add p0 (V3F.smul μ (V3F.sub pe p0)) → f p = p) := by
  intro l f
  have hDpos : 0 < V3F.normSq (V3F.sub pe p0) := lt_of_le_of_ne (normSqF_nonneg _) (Ne.symm hD)
  have hsD : Real.sqrt (V3F.normSq (V3F.sub pe p0)) ≠ 0 := (Real.sqrt_pos.mpr hDpos).ne'
  have hll : l p * l p * V3F.normSq (V3F.sub pe p0) = V3F.normSq (V3F.sub p p0) := by
    show Real.sqrt _ / Real.sqrt _ * (Real.sqrt _ / Real.sqrt _) * _ = _
    rw [div_mul_div_comm, Real.mul_self_sqrt (normSqF_nonneg _), Real.mul_self_sqrt hDpos.le,
      div_mul_cancel₀ _ hD]
  -- `f p − p₀ = l p · (p_end − p₀)`
  have hsub : V3F.sub (f p) p0 = V3F.smul (l p) (V3F.sub pe p0) := by
    simp only [f]; rw [lerpF_eq, addF_sub_cancel_left]
  refine ⟨by rw [hsub, normSqF_smul, hll], by rw [hsub, crossF_smul_self], fun q hq => ?_,
    fun μ hμ hp => ?_⟩
  · exact div_le_div_of_nonneg_right (Real.sqrt_le_sqrt hq) (Real.sqrt_nonneg _)
  · have hl : l p = μ := by
      show Real.sqrt _ / Real.sqrt _ = μ
      rw [hp, addF_sub_cancel_left, normSqF_smul, Real.sqrt_mul (mul_self_nonneg μ), Real.sqrt_mul_self hμ,
        mul_div_cancel_right₀ _ hsD]
    simp only [f]
    rw [hl, lerpF_eq, ← hp]

/-- hypotheses of `gram_schmidt_orthonormal` are satisfiable (ℚ with a partial square root) -/
example :
    let sq : ℚ → ℚ := fun x => if x = 169 then 13 else if x = 25 / 169 then 5 / 13 else 1
    let n : V3F ℚ := ⟨3, 4, 12⟩
    V3F.normSq n ≠ 0 ∧ IsSqrtAt sq (V3F.normSq n)
      ∧ V3F.normSq (gsTangent1 2 (unitF sq n)) ≠ 0 ∧ IsSqrtAt sq (V3F.normSq (gsTangent1 2 (unitF sq n)))
      ∧ IsSqrtAt sq 1 := by
  unfold IsSqrtAt
  decide +kernel

end PorepyVerif.C32
