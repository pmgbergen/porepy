/-
C32 — the same vectors and matrices over a field (`V3F`, `M3F`), in which the statements with square
roots and trigonometry are written, and the embedding of the rational model into ℝ.  The model's `V3`,
`M3` are structures of their own, not `V3F Rat`, `M3F Rat`: an identity needed on both sides is stated on
both (the rational one in Rational.lean), and a rational result reaches ℝ only through `castV`, `castM`
and `castM_quad`.
-/
import PorepyVerif.C32.Rational
import Mathlib.Analysis.SpecialFunctions.Trigonometric.Inverse

namespace PorepyVerif.C32
open V3 M3

structure V3F (K : Type) where
  x : K
  y : K
  z : K

structure M3F (K : Type) where
  a11 : K
  a12 : K
  a13 : K
  a21 : K
  a22 : K
  a23 : K
  a31 : K
  a32 : K
  a33 : K

theorem V3F.ext' {K : Type} {a b : V3F K} (hx : a.x = b.x) (hy : a.y = b.y) (hz : a.z = b.z) : a = b := by
  cases a; cases b; simp_all

section field
variable {K : Type} [Field K]

namespace V3F
def smul (k : K) (a : V3F K) : V3F K := ⟨k * a.x, k * a.y, k * a.z⟩
def sub (a b : V3F K) : V3F K := ⟨a.x - b.x, a.y - b.y, a.z - b.z⟩
def add (a b : V3F K) : V3F K := ⟨a.x + b.x, a.y + b.y, a.z + b.z⟩
def dot (a b : V3F K) : K := a.x * b.x + a.y * b.y + a.z * b.z
def cross (a b : V3F K) : V3F K := ⟨a.y * b.z - a.z * b.y, a.z * b.x - a.x * b.z, a.x * b.y - a.y * b.x⟩
def normSq (a : V3F K) : K := dot a a
end V3F

namespace M3F
def id : M3F K := ⟨1, 0, 0, 0, 1, 0, 0, 0, 1⟩
def add (A B : M3F K) : M3F K :=
  ⟨A.a11 + B.a11, A.a12 + B.a12, A.a13 + B.a13,
   A.a21 + B.a21, A.a22 + B.a22, A.a23 + B.a23,
   A.a31 + B.a31, A.a32 + B.a32, A.a33 + B.a33⟩
def smul (k : K) (A : M3F K) : M3F K :=
  ⟨k * A.a11, k * A.a12, k * A.a13, k * A.a21, k * A.a22, k * A.a23, k * A.a31, k * A.a32, k * A.a33⟩
def mul (A B : M3F K) : M3F K :=
  ⟨A.a11 * B.a11 + A.a12 * B.a21 + A.a13 * B.a31,
   A.a11 * B.a12 + A.a12 * B.a22 + A.a13 * B.a32,
   A.a11 * B.a13 + A.a12 * B.a23 + A.a13 * B.a33,
   A.a21 * B.a11 + A.a22 * B.a21 + A.a23 * B.a31,
   A.a21 * B.a12 + A.a22 * B.a22 + A.a23 * B.a32,
   A.a21 * B.a13 + A.a22 * B.a23 + A.a23 * B.a33,
   A.a31 * B.a11 + A.a32 * B.a21 + A.a33 * B.a31,
   A.a31 * B.a12 + A.a32 * B.a22 + A.a33 * B.a32,
   A.a31 * B.a13 + A.a32 * B.a23 + A.a33 * B.a33⟩
def skew (v : V3F K) : M3F K := ⟨0, -v.z, v.y, v.z, 0, -v.x, -v.y, v.x, 0⟩
end M3F

/-- `I + a W + b W²`, `W = skew v`, with the products spelled out as `np.linalg.matrix_power(W, 2)` -/
def quadF (a b : K) (v : V3F K) : M3F K :=
  M3F.add (M3F.add M3F.id (M3F.smul a (M3F.skew v))) (M3F.smul b (M3F.mul (M3F.skew v) (M3F.skew v)))

theorem M3F.skew_smul (k : K) (v : V3F K) : M3F.skew (V3F.smul k v) = M3F.smul k (M3F.skew v) := by
  simp only [M3F.skew, M3F.smul, V3F.smul, mul_zero, mul_neg]

theorem M3F.smul_smul (k l : K) (A : M3F K) : M3F.smul k (M3F.smul l A) = M3F.smul (k * l) A := by
  simp only [M3F.smul, mul_assoc]

theorem M3F.smul_mul_smul (k l : K) (A B : M3F K) :
    M3F.mul (M3F.smul k A) (M3F.smul l B) = M3F.smul (k * l) (M3F.mul A B) := by
  have e : ∀ a b c d e f : K,
      k * a * (l * b) + k * c * (l * d) + k * e * (l * f) = k * l * (a * b + c * d + e * f) := by
    intros; ring
  simp only [M3F.mul, M3F.smul, e]

theorem quadF_scale (a b k : K) (v : V3F K) :
    quadF a b (V3F.smul k v) = quadF (a * k) (b * k * k) v := by
  rw [quadF, M3F.skew_smul, M3F.smul_smul, M3F.smul_mul_smul, M3F.smul_smul, ← mul_assoc]; rfl

theorem normSqF_smul (k : K) (v : V3F K) : V3F.normSq (V3F.smul k v) = k * k * V3F.normSq v := by
  simp only [V3F.normSq, V3F.dot, V3F.smul, mul_mul_mul_comm k _ k, mul_add]

theorem dotF_smul_left (k : K) (a b : V3F K) : V3F.dot (V3F.smul k a) b = k * V3F.dot a b := by
  simp only [V3F.dot, V3F.smul, mul_assoc, mul_add]

theorem dotF_comm (a b : V3F K) : V3F.dot a b = V3F.dot b a := by
  simp only [V3F.dot, mul_comm]

theorem lagrangeF (a b : V3F K) :
    V3F.normSq (V3F.cross a b) = V3F.normSq a * V3F.normSq b - V3F.dot a b * V3F.dot a b := by
  simp only [V3F.normSq, V3F.dot, V3F.cross]; ring

theorem crossF_smul_self (k : K) (v : V3F K) : V3F.cross (V3F.smul k v) v = ⟨0, 0, 0⟩ := by
  simp only [V3F.cross, V3F.smul, mul_right_comm, sub_self]

theorem addF_sub_cancel_left (a w : V3F K) : V3F.sub (V3F.add a w) a = w := by
  simp only [V3F.sub, V3F.add, add_sub_cancel_left]

/-- the point at parameter `l` between `p0` and `pe`, as `force_point_collinearity` writes it -/
theorem lerpF_eq (p0 pe : V3F K) (l : K) :
    V3F.add (V3F.smul (1 - l) p0) (V3F.smul l pe) = V3F.add p0 (V3F.smul l (V3F.sub pe p0)) := by
  apply V3F.ext' <;> simp only [V3F.add, V3F.smul, V3F.sub] <;> ring

end field

/-- the rational model embedded in ℝ -/
def castV (v : V3) : V3F ℝ := ⟨(v.x : ℝ), (v.y : ℝ), (v.z : ℝ)⟩
def castM (A : M3) : M3F ℝ :=
  ⟨(A.a11 : ℝ), (A.a12 : ℝ), (A.a13 : ℝ), (A.a21 : ℝ), (A.a22 : ℝ), (A.a23 : ℝ),
   (A.a31 : ℝ), (A.a32 : ℝ), (A.a33 : ℝ)⟩

/-- `rotation_matrix(a, vect)` AS CODED, over ℝ (after its `allclose` test):
    `vect = vect / np.linalg.norm(vect)`, `W = [vect]×`, `I + sin a · W + (1 − cos a) · W²`. -/
noncomputable def rotationMatrixCoded (a : ℝ) (vect : V3F ℝ) : M3F ℝ :=
  let w := V3F.smul (1 / Real.sqrt (V3F.normSq vect)) vect
  M3F.add (M3F.add M3F.id (M3F.smul (Real.sin a) (M3F.skew w)))
    (M3F.smul (1 - Real.cos a) (M3F.mul (M3F.skew w) (M3F.skew w)))

theorem rotationMatrixCoded_eq_quadF (a : ℝ) (vect : V3F ℝ) :
    rotationMatrixCoded a vect
      = quadF (Real.sin a) (1 - Real.cos a) (V3F.smul (1 / Real.sqrt (V3F.normSq vect)) vect) := rfl

theorem castV_normSq (v : V3) : V3F.normSq (castV v) = ((normSq v : ℚ) : ℝ) := by
  simp only [V3F.normSq, V3F.dot, castV, normSq, dot, Rat.cast_add, Rat.cast_mul]

theorem castM_add (A B : M3) : castM (M3.add A B) = M3F.add (castM A) (castM B) := by
  simp only [castM, M3.add, M3F.add, Rat.cast_add]

theorem castM_smul (k : Rat) (A : M3) : castM (M3.smul k A) = M3F.smul (k : ℝ) (castM A) := by
  simp only [castM, M3.smul, M3F.smul, Rat.cast_mul]

theorem castM_mul (A B : M3) : castM (M3.mul A B) = M3F.mul (castM A) (castM B) := by
  simp only [castM, M3.mul, M3F.mul, Rat.cast_add, Rat.cast_mul]

theorem castM_id : castM M3.id = M3F.id := by
  simp only [castM, M3.id, M3F.id, Rat.cast_one, Rat.cast_zero]

theorem castM_skew (v : V3) : castM (skew v) = M3F.skew (castV v) := by
  simp only [castM, castV, skew, M3F.skew, Rat.cast_neg, Rat.cast_zero]

theorem castM_quad (a b : Rat) (v : V3) : castM (quad a b v) = quadF (a : ℝ) (b : ℝ) (castV v) := by
  rw [quad, castM_add, castM_add, castM_smul, castM_smul, castM_mul, castM_skew, castM_id]; rfl

theorem normSqF_nonneg (v : V3F ℝ) : 0 ≤ V3F.normSq v :=
  add_nonneg (add_nonneg (mul_self_nonneg v.x) (mul_self_nonneg v.y)) (mul_self_nonneg v.z)

section gs
variable {K : Type} [Field K]

/-- `sq` is a square root at `x` -/
def IsSqrtAt (sq : K → K) (x : K) : Prop := sq x * sq x = x

/-- `v / np.linalg.norm(v)` with `‖v‖ = sq (‖v‖²)` -/
def unitF (sq : K → K) (v : V3F K) : V3F K := V3F.smul (1 / sq (V3F.normSq v)) v

/-- first tangent before normalisation when the maximal direction of the normal is `i` and the
    normal is not aligned with that axis: `t[a] = −n[b]`, `t[b] = n[a]` for the other directions -/
def gsTangent1 (i : Fin 3) (n : V3F K) : V3F K :=
  match i with
  | 0 => ⟨0, -n.z, n.y⟩
  | 1 => ⟨-n.z, 0, n.x⟩
  | 2 => ⟨-n.y, n.x, 0⟩

def OrthonormalF (t1 t2 n : V3F K) : Prop :=
  V3F.normSq t1 = 1 ∧ V3F.normSq t2 = 1 ∧ V3F.normSq n = 1
    ∧ V3F.dot t1 t2 = 0 ∧ V3F.dot t1 n = 0 ∧ V3F.dot t2 n = 0

theorem unitF_normSq (sq : K → K) (v : V3F K) (h0 : V3F.normSq v ≠ 0)
    (hs : IsSqrtAt sq (V3F.normSq v)) : V3F.normSq (unitF sq v) = 1 := by
  have hs' : sq (V3F.normSq v) * sq (V3F.normSq v) = V3F.normSq v := hs
  rw [unitF, normSqF_smul]
  generalize sq (V3F.normSq v) = s at hs'
  rw [← hs'] at h0 ⊢
  have hs0 : s ≠ 0 := fun h => h0 (by rw [h, mul_zero])
  field_simp

theorem gsTangent1_perp (i : Fin 3) (n : V3F K) : V3F.dot (gsTangent1 i n) n = 0 := by
  match i with
  | 0 => simp only [gsTangent1, V3F.dot]; ring
  | 1 => simp only [gsTangent1, V3F.dot]; ring
  | 2 => simp only [gsTangent1, V3F.dot]; ring

end gs

end PorepyVerif.C32
