/-
C47 — lemmas every file format uses: `mapE`, decoding what was encoded, rectangular tables.
-/
import PorepyVerif.C47.Model

namespace PorepyVerif.C47

theorem mapE_ok_of_forall {α β : Type} (f : α → Except Err β) (g : α → β) (l : List α)
    (h : ∀ a ∈ l, f a = .ok (g a)) : mapE f l = .ok (l.map g) := by
  induction l with
  | nil => rfl
  | cons a as ih =>
    have ha := h a (List.mem_cons_self)
    have := ih (fun x hx => h x (List.mem_cons_of_mem _ hx))
    simp only [mapE, ha, this, List.map_cons]

theorem mapE_cons_ok {α β : Type} {f : α → Except Err β} {a : α} {as : List α} {r : List β}
    (h : mapE f (a :: as) = .ok r) : ∃ b bs, f a = .ok b ∧ mapE f as = .ok bs ∧ r = b :: bs := by
  rw [mapE] at h
  cases hfa : f a with
  | error e => rw [hfa] at h; cases h
  | ok b =>
    cases hm : mapE f as with
    | error e => rw [hfa, hm] at h; cases h
    | ok bs => rw [hfa, hm] at h; cases h; exact ⟨b, bs, rfl, rfl, rfl⟩

theorem mapE_append {α β : Type} (f : α → Except Err β) (l1 l2 : List α) (a b : List β)
    (h1 : mapE f l1 = .ok a) (h2 : mapE f l2 = .ok b) : mapE f (l1 ++ l2) = .ok (a ++ b) := by
  induction l1 generalizing a with
  | nil => cases h1; exact h2
  | cons x xs ih =>
    obtain ⟨y, ys, hx, hxs, rfl⟩ := mapE_cons_ok h1
    simp only [List.cons_append, mapE, hx, ih ys hxs]

theorem mapE_pointwise_of_forall {α β : Type} (f : α → Except Err β) (R : β → α → Prop) (l : List α)
    (h : ∀ a ∈ l, ∃ b, f a = .ok b ∧ R b a) : ∃ r, mapE f l = .ok r ∧ Pointwise R r l := by
  induction l with
  | nil => exact ⟨[], rfl, .nil⟩
  | cons a as ih =>
    obtain ⟨b, hb, hR⟩ := h a List.mem_cons_self
    obtain ⟨bs, hbs, hP⟩ := ih (fun x hx => h x (List.mem_cons_of_mem _ hx))
    exact ⟨b :: bs, by simp only [mapE, hb, hbs], .cons hR hP⟩

theorem mapE_pointwise {α β : Type} (f : α → Except Err β) (R : β → α → Prop) (l : List α) (r : List β)
    (h : ∀ a ∈ l, ∀ b, f a = .ok b → R b a) (hr : mapE f l = .ok r) : Pointwise R r l := by
  induction l generalizing r with
  | nil => cases hr; exact .nil
  | cons a as ih =>
    obtain ⟨b, bs, hb, hbs, rfl⟩ := mapE_cons_ok hr
    exact .cons (h a List.mem_cons_self b hb) (ih bs (fun x hx => h x (List.mem_cons_of_mem _ hx)) hbs)

theorem decodeRow_map_enc {V T : Type} (c : Codec V T) (n : Num V) (hF : Faithful c n) (e : Err) (l : List V) :
    decodeRow c e (l.map c.enc) = .ok l := by
  induction l with
  | nil => rfl
  | cons v l ih =>
    simp only [decodeRow, decodeWith] at ih
    simp only [decodeRow, decodeWith, List.map_cons, mapE, hF.dec_enc, ih]

theorem getE_of_getElem? {α : Type} (l : List α) (i : Nat) (x : α) (h : l[i]? = some x) :
    getE l i = .ok x := by
  simp only [getE, h]

theorem map_zip_snd {α β γ : Type} (g : β → γ) (l₁ : List α) (l₂ : List β) (h : l₂.length ≤ l₁.length) :
    (l₁.zip l₂).map (fun p => g p.2) = l₂.map g :=
  (List.map_map (f := Prod.snd) (g := g)).symm.trans (congrArg (List.map g) (List.map_snd_zip h))

theorem sameLen_of_forall {α : Type} (rows : List (List α)) (n : Nat) (h : ∀ r ∈ rows, r.length = n) :
    sameLen rows = true := by
  cases rows with
  | nil => rfl
  | cons r rs =>
    simp only [sameLen, List.all_eq_true, beq_iff_eq]
    intro s hs
    rw [h s (List.mem_cons_of_mem _ hs), h r (List.mem_cons_self)]

theorem atleast2d_of_length {V : Type} (rows : List (List V)) (m : Nat) (hm : m ≠ 1)
    (h : ∀ r ∈ rows, r.length = m) : atleast2d rows = rows := by
  match rows, h with
  | [], _ => rfl
  | [_], _ => rfl
  | r :: s :: t, h => simp only [atleast2d, h r List.mem_cons_self, beq_iff_eq, hm, if_false]

theorem Pointwise.append {α β : Type} {R : α → β → Prop} {a c : List α} {b d : List β}
    (h1 : Pointwise R a b) (h2 : Pointwise R c d) : Pointwise R (a ++ c) (b ++ d) := by
  induction h1 with
  | nil => exact h2
  | cons h _ ih => exact .cons h ih

theorem getElem?_append_add {α : Type} (pre l : List α) (k : Nat) : (pre ++ l)[pre.length + k]? = l[k]? := by
  rw [List.getElem?_append_right (Nat.le_add_right _ _), Nat.add_sub_cancel_left]

end PorepyVerif.C47
