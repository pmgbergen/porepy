/-
C47 — property theorems (statements only depend on Model.lean; helper lemmas: one module per file format,
`Csv2d`, `Polyline`, `Csv3d`, `Txt`, over the shared `Lemmas`).

Property: writing a 2-D or 3-D fracture network to csv and reading it back yields the same fractures,
and writing named data arrays to txt and reading them back yields the same arrays.

All theorems are about the RECORD layer and hold for every token codec with `dec (enc v) = some v`
(`Faithful`).  What "the same fractures" means:
* 2-D: the ORDERED list of (start point, end point) pairs, same fracture order, same orientation;
  tags are not part of the file (the reader returns fractures without tags), the domain is not part of
  the file either (the reader takes it as an argument or computes the bounding box), fracture ids come
  back as 0,1,2,…
* 3-D: the ordered list of vertex lists as the PlaneFracture constructor `norm` returns them; equal to
  the original vertex lists when `norm` reproduces them, and related to them by any relation `R`
  (e.g. "same polygon up to rotation/reflection of the vertex cycle") that `norm` guarantees.
* txt: the ordered list of (name, array) pairs; with a lossy format every value comes back as
  `rnd fmt v` where `dec (enc fmt v) = some (rnd fmt v)`.
-/
import PorepyVerif.C47.Polyline
import PorepyVerif.C47.Csv3d
import PorepyVerif.C47.Txt

namespace PorepyVerif.C47

/-- What `to_csv` writes: an optional header comment and, for fracture k, the row
    `[k, start.x, start.y, end.x, end.y]` — provided the network's own point table (built with the
    tolerance relation `close`) merges no two DISTINCT endpoints. -/
theorem csv2d_file {V T : Type} (c : Codec V T) (close : Pt2 V → Pt2 V → Bool) (fs : List (Frac2 V))
    (hdr : Bool)
    (hclose : ∀ p ∈ endpoints fs, ∀ q ∈ endpoints fs, close p q = true → p = q) :
    write2d c close fs hdr
      = .ok (if hdr then Line.comment header2 :: rowsSpec c 0 fs else rowsSpec c 0 fs) :=
  write2d_spec c close fs hdr hclose

/-- Reader's specification of format 1, on the file `csv2d_file` says `to_csv` writes, for any `max_num_fracs`
    other than 0 (`mx`; `none` = no limit): the first `mx` fractures come back, ordered, with ids 0,1,…; the
    domain is the argument or the bounding box of THEIR end points.  Hypotheses: faithful codec; the reader
    skips exactly the header line if there is one (`skip_header = 1`, the default) or nothing
    (`skip_header = 0`, the header being a comment); the reader's `uniquify_point_set` (`near`) identifies no two
    distinct endpoints; no zero-length fracture; no fracture the LineFracture constructor rejects (`degen`). -/
theorem csv2d_read {V T : Type} [DecidableEq V] (c : Codec V T) (n : Num V)
    (near degen : Pt2 V → Pt2 V → Bool) (fs : List (Frac2 V)) (hdr : Bool) (skip : Nat)
    (mx : Option Nat) (dom : Option (Box2 V)) (hF : Faithful c n)
    (hskip : skip = 0 ∨ (hdr = true ∧ skip = 1)) (hmx : mx ≠ some 0)
    (hnear : ∀ p ∈ endpoints fs, ∀ q ∈ endpoints fs, near p q = true → p = q)
    (hlen : ∀ f ∈ fs, f.a ≠ f.b) (hdeg : ∀ f ∈ fs, degen f.a f.b = false) :
    read2d c n near degen (if hdr then Line.comment header2 :: rowsSpec c 0 fs else rowsSpec c 0 fs)
        ⟨skip, none, mx, false, dom⟩
      = .ok ⟨(fs.take (mx.getD fs.length)).map strip,
             domOr n dom (endpoints (fs.take (mx.getD fs.length))),
             (List.range' 0 (fs.take (mx.getD fs.length)).length).map Int.ofNat⟩ := by
  have hdrop : ((if hdr then Line.comment header2 :: rowsSpec c 0 fs else rowsSpec c 0 fs).drop skip).filterMap
      cellsOf = (rowsSpec c 0 fs).filterMap cellsOf := by
    rcases hskip with rfl | ⟨rfl, rfl⟩
    · cases hdr
      · rfl
      · exact List.filterMap_cons_none rfl
    · rfl
  cases fs with
  | nil =>
    simp only [read2d, hdrop]
    rw [List.take_nil]
    cases dom <;> rfl
  | cons f fs' =>
    rw [read2d_of_table c n near degen _ _ _ 5 ((congrArg _ hdrop).trans (decode_rowsSpec c n hF 0 (f :: fs')))
      (valsSpec_length n 0 _) (by decide) rfl]
    cases mx with
    | none =>
      rw [Option.getD_none, List.take_length]
      exact read2dRows_spec c n hF near degen _ (List.cons_ne_nil _ _) skip dom none hnear hlen hdeg
    | some k =>
      cases k with
      | zero => exact absurd rfl hmx
      | succ k =>
        have hsub := endpoints_take_subset (k + 1) (f :: fs')
        exact (congrArg (read2dRows n near degen · _) (valsSpec_take n 0 (k + 1) (f :: fs'))).trans
          (read2dRows_spec c n hF near degen ((f :: fs').take (k + 1)) (List.cons_ne_nil _ _) skip dom _
            (fun p hp q hq => hnear p (hsub p hp) q (hsub q hq))
            (fun g hg => hlen g (List.mem_of_mem_take hg)) (fun g hg => hdeg g (List.mem_of_mem_take hg)))

/-- 2-D round trip: what `to_csv` writes (`csv2d_file`) is read back whole (`csv2d_read` without
    `max_num_fracs`).  Besides the hypotheses of `csv2d_read`: the writer's point table (`close`) identifies no two
    distinct endpoints either — "points pairwise farther apart than tol". -/
theorem csv2d_roundtrip {V T : Type} [DecidableEq V] (c : Codec V T) (n : Num V)
    (close near degen : Pt2 V → Pt2 V → Bool) (fs : List (Frac2 V)) (hdr : Bool) (skip : Nat)
    (dom : Option (Box2 V)) (hF : Faithful c n)
    (hskip : skip = 0 ∨ (hdr = true ∧ skip = 1))
    (hclose : ∀ p ∈ endpoints fs, ∀ q ∈ endpoints fs, close p q = true → p = q)
    (hnear : ∀ p ∈ endpoints fs, ∀ q ∈ endpoints fs, near p q = true → p = q)
    (hlen : ∀ f ∈ fs, f.a ≠ f.b) (hdeg : ∀ f ∈ fs, degen f.a f.b = false) :
    ∃ file, write2d c close fs hdr = .ok file ∧
      read2d c n near degen file ⟨skip, none, none, false, dom⟩
        = .ok ⟨fs.map strip, domOr n dom (endpoints fs), (List.range' 0 fs.length).map Int.ofNat⟩ := by
  have := csv2d_read c n near degen fs hdr skip none dom hF hskip nofun hnear hlen hdeg
  rw [show fs.take ((none : Option Nat).getD fs.length) = fs from List.take_length] at this
  exact ⟨_, write2d_spec c close fs hdr hclose, this⟩

/-- 2-D round trip with the real tolerance tests (values = rationals, which include every binary64):
    the abstract hypotheses of `csv2d_roundtrip` become DECIDABLE conditions on the input network —
    `Separated`: two different end points differ by more than tol in some coordinate (for the network's
    tol and for the reader's tol), `Constructible`: LineFracture accepts every fracture.  The writer's
    table test is `np.allclose(rtol=0, atol=tol)`, the reader's `uniquify_point_set` test is the squared
    distance, the constructor's test is `np.isclose` with numpy's defaults. -/
theorem csv2d_roundtrip_tol {T : Type} (c : Codec Rat T) (n : Num Rat) (tolW tolR : Rat)
    (fs : List (Frac2 Rat)) (hdr : Bool) (skip : Nat) (dom : Option (Box2 Rat)) (hF : Faithful c n)
    (hskip : skip = 0 ∨ (hdr = true ∧ skip = 1)) (h0 : 0 ≤ tolR)
    (hW : Separated tolW fs) (hR : Separated tolR fs) (hC : Constructible fs) :
    ∃ file, write2d c (closeQ tolW) fs hdr = .ok file ∧
      read2d c n (nearQ tolR) degenQ file ⟨skip, none, none, false, dom⟩
        = .ok ⟨fs.map strip, domOr n dom (endpoints fs), (List.range' 0 fs.length).map Int.ofNat⟩ :=
  csv2d_roundtrip c n (closeQ tolW) (nearQ tolR) degenQ fs hdr skip dom hF hskip
    (closeQ_discrete tolW fs hW) (nearQ_discrete tolR h0 fs hR)
    (fun f hf => (hC f hf).1) (fun f hf => (hC f hf).2)

/-- `max_num_fracs = k + 1` on a written file: the first `k + 1` fractures come back (ordered, ids
    0..k), the domain is the argument or the bounding box of THEIR end points. -/
theorem csv2d_roundtrip_max {V T : Type} [DecidableEq V] (c : Codec V T) (n : Num V)
    (close near degen : Pt2 V → Pt2 V → Bool) (fs : List (Frac2 V)) (hdr : Bool) (skip k : Nat)
    (dom : Option (Box2 V)) (hF : Faithful c n)
    (hskip : skip = 0 ∨ (hdr = true ∧ skip = 1))
    (hclose : ∀ p ∈ endpoints fs, ∀ q ∈ endpoints fs, close p q = true → p = q)
    (hnear : ∀ p ∈ endpoints fs, ∀ q ∈ endpoints fs, near p q = true → p = q)
    (hlen : ∀ f ∈ fs, f.a ≠ f.b) (hdeg : ∀ f ∈ fs, degen f.a f.b = false) :
    ∃ file, write2d c close fs hdr = .ok file ∧
      read2d c n near degen file ⟨skip, none, some (k + 1), false, dom⟩
        = .ok ⟨(fs.take (k + 1)).map strip, domOr n dom (endpoints (fs.take (k + 1))),
               (List.range' 0 (fs.take (k + 1)).length).map Int.ofNat⟩ :=
  ⟨_, write2d_spec c close fs hdr hclose,
    csv2d_read c n near degen fs hdr skip (some (k + 1)) dom hF hskip (by simp) hnear hlen hdeg⟩

/-- Polyline files (format 2, `polyline=True`; porepy has no writer for this format, so this is the
    reader's specification on the rows `FID, PT_X, PT_Y`).  For polylines listed one after the other
    with pairwise different, ascending ids and at least two points each, the reader returns, for each
    polyline in turn, its CONSECUTIVE points as fractures (neighbouring fractures share an end point),
    each carrying the id of its polyline.  Hypotheses: faithful codec, no two distinct points within
    tol of each other, consecutive points of a polyline distinct and accepted by LineFracture. -/
theorem polyline_read {V T : Type} [DecidableEq V] (c : Codec V T) (n : Num V)
    (near degen : Pt2 V → Pt2 V → Bool) (polys : List (Poly V)) (hdr : Option String) (skip : Nat)
    (dom : Option (Box2 V)) (hF : Faithful c n)
    (hskip : skip = 0 ∨ (hdr.isSome = true ∧ skip = 1))
    (hlen : ∀ P ∈ polys, 2 ≤ P.pts.length)
    (hids : polys.Pairwise (fun a b => a.id ≠ b.id ∧ n.lt a.id b.id = true))
    (hnear : ∀ p ∈ allPts polys, ∀ q ∈ allPts polys, near p q = true → p = q)
    (hseg : ∀ f ∈ polySegs polys, f.a ≠ f.b ∧ degen f.a f.b = false) :
    read2d c n near degen
        (hdrLines hdr ++ polyRowsSpec c polys) ⟨skip, none, none, true, dom⟩
      = .ok ⟨polySegs polys, domOr n dom (allPts polys), polyIds n polys⟩ := by
  have hdrop : ((hdrLines hdr ++ polyRowsSpec c polys).drop skip).filterMap cellsOf
      = (polyRowsSpec c polys).filterMap (cellsOf (T := T)) := by
    rcases hskip with rfl | ⟨h1, rfl⟩
    · cases hdr with
      | none => rfl
      | some h => exact List.filterMap_cons_none rfl
    · cases hdr with
      | none => cases h1
      | some h => rfl
  cases polys with
  | nil =>
    simp only [read2d, hdrop]
    cases dom <;> rfl
  | cons P Ps =>
    obtain ⟨q, t, hp⟩ := List.exists_cons_of_length_pos
      (Nat.lt_of_lt_of_le Nat.zero_lt_two (hlen P List.mem_cons_self))
    have hne : (polyVals (P :: Ps)).isEmpty = false := by
      rw [polyVals, hp]
      rfl
    rw [read2d_of_table c n near degen _ _ _ 3 ((congrArg _ hdrop).trans (decode_polyRows c n hF (P :: Ps)))
      (polyVals_length _) (by decide) hne]
    exact read2dRows_poly n near degen (P :: Ps) (List.cons_ne_nil _ _) skip dom hlen hids hnear hseg

/-- 3-D: the record layer is transparent.  Reading a written file hands the PlaneFracture
    constructor `norm` exactly the vertex lists of the network, in order, and returns the domain that
    was written (`has_domain` must say whether one was written). -/
theorem csv3d_transparent {V T : Type} (c : Codec V T) (n : Num V) (hF : Faithful c n)
    (norm : List (Pt3 V) → Except Err (List (Pt3 V))) (fracs : List (List (Pt3 V)))
    (dom : Option (Box3 V)) (hne : ∀ f ∈ fracs, f ≠ []) :
    read3d c norm (write3d c fracs dom) dom.isSome =
      match mapE norm fracs with
      | .error e => .error e
      | .ok fs => if dom.isNone && fs.isEmpty then .error .value else .ok ⟨fs, dom⟩ := by
  cases dom with
  | none =>
    simp only [write3d, List.nil_append, read3d, Option.isSome_none, Bool.false_eq_true, if_false,
      readFracs_rows c n hF norm fracs hne, Option.isNone_none, Bool.true_and]
    cases mapE norm fracs with
    | error e => rfl
    | ok fs => cases fs <;> rfl
  | some b =>
    have hd : decodeRow c .value [c.enc b.xmin, c.enc b.ymin, c.enc b.zmin, c.enc b.xmax, c.enc b.ymax,
        c.enc b.zmax] = .ok [b.xmin, b.ymin, b.zmin, b.xmax, b.ymax, b.zmax] :=
      decodeRow_map_enc c n hF .value [b.xmin, b.ymin, b.zmin, b.xmax, b.ymax, b.zmax]
    simp only [write3d, List.cons_append, List.nil_append, read3d, Option.isSome_some, if_true, readDomain,
      hd, readFracs_rows c n hF norm fracs hne, Option.isNone_some, Bool.false_and]
    cases mapE norm fracs <;> rfl

/-- 3-D round trip (exact form): if the constructor reproduces the vertex lists the network holds
    (they were produced by the same constructor), the network read back is the network written. -/
theorem csv3d_roundtrip {V T : Type} (c : Codec V T) (n : Num V) (hF : Faithful c n)
    (norm : List (Pt3 V) → Except Err (List (Pt3 V))) (fracs : List (List (Pt3 V)))
    (dom : Option (Box3 V)) (hne : ∀ f ∈ fracs, f ≠ [])
    (hnorm : ∀ f ∈ fracs, norm f = .ok f) (hsome : dom.isSome = true ∨ fracs ≠ []) :
    read3d c norm (write3d c fracs dom) dom.isSome = .ok ⟨fracs, dom⟩ := by
  rw [csv3d_transparent c n hF norm fracs dom hne,
    mapE_ok_of_forall norm (fun f => f) fracs hnorm, List.map_id']
  cases dom with
  | some b => rfl
  | none =>
    cases fracs with
    | nil => rcases hsome with h | h <;> simp at h
    | cons f fs => rfl

/-- 3-D round trip (general form): if the constructor accepts every vertex list of the network and
    returns one related to it by `R` (e.g. a rotation or reflection of the vertex cycle), the network
    read back has the same number of fractures, in the same order, pairwise `R`-related, and the
    same domain. -/
theorem csv3d_roundtrip_upto {V T : Type} (c : Codec V T) (n : Num V) (hF : Faithful c n)
    (norm : List (Pt3 V) → Except Err (List (Pt3 V))) (R : List (Pt3 V) → List (Pt3 V) → Prop)
    (fracs : List (List (Pt3 V))) (dom : Option (Box3 V)) (hne : ∀ f ∈ fracs, f ≠ [])
    (hnorm : ∀ f ∈ fracs, ∃ g, norm f = .ok g ∧ R g f) (hsome : dom.isSome = true ∨ fracs ≠ []) :
    ∃ fs, read3d c norm (write3d c fracs dom) dom.isSome = .ok ⟨fs, dom⟩ ∧ Pointwise R fs fracs := by
  obtain ⟨fs, hfs, hpw⟩ := mapE_pointwise_of_forall norm R fracs hnorm
  refine ⟨fs, ?_, hpw⟩
  rw [csv3d_transparent c n hF norm fracs dom hne, hfs]
  cases dom with
  | some b => rfl
  | none =>
    cases hpw with
    | nil => rcases hsome with h | h <;> simp at h
    | cons _ _ => rfl

/-- "The same vertex cycle" (equal up to rotation and reflection of the vertex list — the dihedral
    group of the polygon) is an equivalence relation; so any number of write/read passes stays in the
    class of the original polygon. -/
theorem dihedral_equivalence {α : Type} : Equivalence (@Dihedral α) :=
  ⟨dihedral_refl, dihedral_symm, dihedral_trans⟩

/-- The angular sort of PlaneFracture's constructor on a polygon whose vertices are given in cyclic
    order (some rotation of the list or of its reverse is strictly ascending in the angle key `θ`):
    the result is the ascending list, and it is the same vertex cycle as the input. -/
theorem angSort_dihedral {P : Type} (θ : P → Rat) (f : List P) (h : CyclicMono θ f) :
    Dihedral (angSort θ f) f ∧ StrictAsc θ (angSort θ f) := by
  obtain ⟨a, ha, hd⟩ := h
  rw [angSort_eq_of_perm θ f a (dihedral_perm hd) ha]
  exact ⟨dihedral_symm hd, ha⟩

/-- A list already ascending in the key is left alone (the constructor is idempotent when the key
    function does not change). -/
theorem angSort_fixed {P : Type} (θ : P → Rat) (f : List P) (h : StrictAsc θ f) : angSort θ f = f :=
  angSort_eq_of_perm θ f f (List.Perm.refl f) h

/-- 3-D round trip with the vertex normalisation modelled: the reader's constructor re-sorts every
    stored vertex list by the angle key it derives from that list (`θof f`, which in floating point
    need not be the key the list was sorted with when the network was built: the local frame may flip).
    If every stored polygon is seen in cyclic order by its key (convex planar polygon in general
    position), the network read back has the same fractures in the same order, each with the same
    vertex CYCLE up to rotation/reflection, and the same domain. -/
theorem csv3d_roundtrip_dihedral {V T : Type} (c : Codec V T) (n : Num V) (hF : Faithful c n)
    (θof : List (Pt3 V) → Pt3 V → Rat) (fracs : List (List (Pt3 V))) (dom : Option (Box3 V))
    (h3 : ∀ f ∈ fracs, 3 ≤ f.length) (hcyc : ∀ f ∈ fracs, CyclicMono (θof f) f)
    (hsome : dom.isSome = true ∨ fracs ≠ []) :
    ∃ fs, read3d c (normSort θof) (write3d c fracs dom) dom.isSome = .ok ⟨fs, dom⟩ ∧
      Pointwise Dihedral fs fracs :=
  csv3d_roundtrip_upto c n hF (normSort θof) Dihedral fracs dom
    (fun f hf => List.ne_nil_of_length_pos (Nat.zero_lt_of_lt (h3 f hf)))
    (fun f hf => ⟨_, normSort_ok θof f (h3 f hf), (angSort_dihedral (θof f) f (hcyc f hf)).1⟩) hsome

/-- … and exactly the same vertex lists when every stored list is ascending for the key the reader
    derives from it (the generic case: the key function is reproduced). -/
theorem csv3d_roundtrip_sorted {V T : Type} (c : Codec V T) (n : Num V) (hF : Faithful c n)
    (θof : List (Pt3 V) → Pt3 V → Rat) (fracs : List (List (Pt3 V))) (dom : Option (Box3 V))
    (h3 : ∀ f ∈ fracs, 3 ≤ f.length) (hasc : ∀ f ∈ fracs, StrictAsc (θof f) f)
    (hsome : dom.isSome = true ∨ fracs ≠ []) :
    read3d c (normSort θof) (write3d c fracs dom) dom.isSome = .ok ⟨fracs, dom⟩ :=
  csv3d_roundtrip c n hF (normSort θof) fracs dom
    (fun f hf => List.ne_nil_of_length_pos (Nat.zero_lt_of_lt (h3 f hf)))
    (fun f hf => by rw [normSort_ok θof f (h3 f hf), angSort_fixed _ _ (hasc f hf)]) hsome

/-- Elliptic 3-D files (`elliptic_network_3d_from_csv`; reader's specification, porepy has no writer
    for them): a file holding an optional domain line and one row of nine numbers per ellipse hands
    `create_elliptic_fracture` (`mk`) exactly those nine numbers, row by row, and returns the domain. -/
theorem elliptic_transparent {V T : Type} (c : Codec V T) (n : Num V) (hF : Faithful c n)
    (mk : List V → Except Err (List (Pt3 V))) (params : List (List V)) (dom : Option (Box3 V))
    (h9 : ∀ p ∈ params, p.length = 9) :
    readElliptic c mk (ellipticRows c params dom) dom.isSome =
      match mapE mk params with
      | .error e => .error e
      | .ok fs => if dom.isNone && fs.isEmpty then .error .value else .ok ⟨fs, dom⟩ := by
  cases dom with
  | none =>
    simp only [ellipticRows, List.nil_append, readElliptic, Option.isSome_none, Bool.false_eq_true, if_false,
      readFracsE_rows c n hF mk params h9, Option.isNone_none, Bool.true_and]
    cases mapE mk params with
    | error e => rfl
    | ok fs => cases fs <;> rfl
  | some b =>
    have hd : decodeRow c .value [c.enc b.xmin, c.enc b.ymin, c.enc b.zmin, c.enc b.xmax, c.enc b.ymax,
        c.enc b.zmax] = .ok [b.xmin, b.ymin, b.zmin, b.xmax, b.ymax, b.zmax] :=
      decodeRow_map_enc c n hF .value [b.xmin, b.ymin, b.zmin, b.xmax, b.ymax, b.zmax]
    simp only [ellipticRows, List.cons_append, List.nil_append, readElliptic, Option.isSome_some, if_true,
      readDomainE, hd, readFracsE_rows c n hF mk params h9, Option.isNone_some, Bool.false_and]
    cases mapE mk params <;> rfl

/-- txt round trip, general codec: if a token written with format `f` decodes to `rnd f v`, the arrays
    read back are the arrays written with `rnd` applied entry-wise, under the names written, in order.
    Hypotheses: at least one column, equal lengths, names non-empty and free of whitespace, the first
    name does not start with `#`. -/
theorem txt_roundtrip_rounded {V F T : Type} (enc : F → V → T) (dec : T → Option V) (rnd : F → V → V)
    (hcodec : ∀ f v, dec (enc f v) = some (rnd f v))
    (cols : List (TxtCol V F)) (k : Nat) (hcols : cols ≠ []) (hlen : ∀ c ∈ cols, c.arr.length = k)
    (hnames : ∀ w ∈ cols.map (·.name), w ≠ [] ∧ ∀ ch ∈ w, isWs ch = false)
    (hfirst : ∀ w, (cols.map (·.name)).head? = some w → w.head? ≠ some '#') :
    ∃ file, exportTxt enc cols = .ok file ∧
      readTxt dec file = .ok (cols.map (fun c => (c.name, c.arr.map (rnd c.fmt)))) := by
  cases cols with
  | nil => exact absurd rfl hcols
  | cons c0 cs =>
    have hall : (c0 :: cs).all (fun c => c.arr.length == c0.arr.length) = true := by
      simp only [List.all_eq_true, beq_iff_eq]
      intro c hc
      rw [hlen c hc, hlen c0 (List.mem_cons_self)]
    refine ⟨⟨headerLine ((c0 :: cs).map (·.name)),
      rowsOf c0.arr.length ((c0 :: cs).map (fun c => c.arr.map (enc c.fmt)))⟩,
      by simp only [exportTxt, hall, if_true], ?_⟩
    have hk : c0.arr.length = k := hlen c0 (List.mem_cons_self)
    have hvl : ∀ col ∈ mapCols rnd (c0 :: cs), col.length = k := by
      intro col hcol
      obtain ⟨c, hc, rfl⟩ := List.mem_map.mp hcol
      simp only [List.length_map, hlen c hc]
    have hdec := decode_rowsOf enc dec rnd hcodec .value k (c0 :: cs)
    have hsl := sameLen_of_forall _ _ (rowsOf_row_length k _ hvl)
    have hcol := columnsOf_rowsOf k _ hvl
    have hnl : (List.map (·.name) (c0 :: cs)).length = (mapCols rnd (c0 :: cs)).length := by
      simp only [mapCols, List.length_map]
    simp only [mapCols] at hdec hsl hcol hnl
    simp only [readTxt, hk, hdec, hsl, readNames_headerLine _ hnames hfirst, hnl, hcol, List.zip_map']
    rfl

/-- txt round trip with a faithful format (`dec (enc f v) = some v`, e.g. `%.17e` or `%r`): the same
    arrays come back under the same names. -/
theorem txt_roundtrip {V F T : Type} (enc : F → V → T) (dec : T → Option V)
    (hcodec : ∀ f v, dec (enc f v) = some v)
    (cols : List (TxtCol V F)) (k : Nat) (hcols : cols ≠ []) (hlen : ∀ c ∈ cols, c.arr.length = k)
    (hnames : ∀ w ∈ cols.map (·.name), w ≠ [] ∧ ∀ ch ∈ w, isWs ch = false)
    (hfirst : ∀ w, (cols.map (·.name)).head? = some w → w.head? ≠ some '#') :
    ∃ file, exportTxt enc cols = .ok file ∧
      readTxt dec file = .ok (cols.map (fun c => (c.name, c.arr))) := by
  obtain ⟨file, hw, hr⟩ := txt_roundtrip_rounded enc dec (fun _ v => v) hcodec cols k hcols hlen hnames hfirst
  exact ⟨file, hw, by simpa using hr⟩

/-- txt round trip as a DICTIONARY (what `read_data_from_txt` returns): with pairwise different names,
    looking up any written name in `dict(zip(names, columns))` of the file read back gives that array
    (with `rnd` applied entry-wise; `rnd = id` for a faithful format). -/
theorem txt_roundtrip_dict {V F T : Type} (enc : F → V → T) (dec : T → Option V) (rnd : F → V → V)
    (hcodec : ∀ f v, dec (enc f v) = some (rnd f v))
    (cols : List (TxtCol V F)) (k : Nat) (hcols : cols ≠ []) (hlen : ∀ c ∈ cols, c.arr.length = k)
    (hnames : ∀ w ∈ cols.map (·.name), w ≠ [] ∧ ∀ ch ∈ w, isWs ch = false)
    (hfirst : ∀ w, (cols.map (·.name)).head? = some w → w.head? ≠ some '#')
    (hnd : (cols.map (·.name)).Nodup) :
    ∃ file l, exportTxt enc cols = .ok file ∧ readTxt dec file = .ok l ∧
      ∀ c ∈ cols, dictGet l c.name = some (c.arr.map (rnd c.fmt)) := by
  obtain ⟨file, hw, hr⟩ := txt_roundtrip_rounded enc dec rnd hcodec cols k hcols hlen hnames hfirst
  refine ⟨file, _, hw, hr, ?_⟩
  intro c hc
  exact dictGet_of_mem (q := (c.name, c.arr.map (rnd c.fmt))) (List.mem_map_of_mem hc) (by
    rw [List.map_map]
    exact hnd)

/-! ### non-vacuity: concrete instances (integers as values and tokens; rationals for the tolerance tests) -/

section Examples

def cQ' : Codec Rat Rat := ⟨fun v => v, fun t => some t, fun k => (k : Rat)⟩
def nQ' : Num Rat := ⟨fun a b => decide (a < b), fun v => v.num.tdiv v.den, fun k => (k : Rat)⟩
def cI : Codec Int Int := ⟨fun v => v, fun t => some t, fun k => (k : Int)⟩
def nI : Num Int := ⟨fun a b => decide (a < b), fun v => v, fun k => (k : Int)⟩
theorem faithfulI : Faithful cI nI := ⟨fun _ => rfl, fun _ => rfl, fun _ => rfl⟩

/-- tolerance 1: component-wise for the writer's table, Euclidean (squared) for the reader -/
def closeI (p q : Pt2 Int) : Bool := decide ((p.1 - q.1).natAbs ≤ 1 ∧ (p.2 - q.2).natAbs ≤ 1)
def nearI (p q : Pt2 Int) : Bool := decide ((p.1 - q.1) ^ 2 + (p.2 - q.2) ^ 2 < 1)
def degenI (p q : Pt2 Int) : Bool := decide (p = q)

/-- three fractures sharing end points (a triangle-like chain), with tags -/
def fsI : List (Frac2 Int) :=
  [⟨(0, 0), (10, 0), [3]⟩, ⟨(10, 0), (10, 10), []⟩, ⟨(0, 10), (0, 0), [7, 8]⟩]

/-- `fsI` meets the hypotheses of the 2-D round trips: neither tolerance test merges two of its end
    points, and every fracture is accepted -/
theorem fsI_close : ∀ p ∈ endpoints fsI, ∀ q ∈ endpoints fsI, closeI p q = true → p = q := by decide +kernel
theorem fsI_near : ∀ p ∈ endpoints fsI, ∀ q ∈ endpoints fsI, nearI p q = true → p = q := by decide +kernel
theorem fsI_len : ∀ f ∈ fsI, f.a ≠ f.b := by decide +kernel
theorem fsI_degen : ∀ f ∈ fsI, degenI f.a f.b = false := by decide +kernel

example : ∃ file, write2d cI closeI fsI true = .ok file ∧
    read2d cI nI nearI degenI file ⟨1, none, none, false, none⟩
      = .ok ⟨fsI.map strip, domOr nI none (endpoints fsI), [0, 1, 2]⟩ :=
  csv2d_roundtrip cI nI closeI nearI degenI fsI true 1 none faithfulI (Or.inr ⟨rfl, rfl⟩)
    fsI_close fsI_near fsI_len fsI_degen

/-- the file of that network, computed by the model -/
example : (match write2d cI closeI fsI false with
    | .ok ls => ls.filterMap cellsOf
    | .error _ => []) = [[0, 0, 0, 10, 0], [1, 10, 0, 10, 10], [2, 0, 10, 0, 0]] := by decide

/-- The hypothesis on `close` is needed: if the network's table identifies two distinct end points
    ((10,0) and (10,1) are within 1 of each other), the file holds the first one twice and the second
    fracture comes back moved. -/
example : (match write2d cI closeI [⟨(0, 0), (10, 0), []⟩, ⟨(10, 1), (10, 10), []⟩] false with
    | .ok ls => ls.filterMap cellsOf
    | .error _ => []) = [[0, 0, 0, 10, 0], [1, 10, 0, 10, 10]] := by decide

def norm3 (f : List (Pt3 Int)) : Except Err (List (Pt3 Int)) :=
  if f.length < 3 then .error .value else .ok f

def fracs3 : List (List (Pt3 Int)) :=
  [[(0, 0, 0), (1, 0, 0), (1, 1, 0)], [(0, 0, 5), (2, 0, 5), (2, 2, 5), (0, 2, 5)]]

example : read3d cI norm3 (write3d cI fracs3 (some ⟨-1, -1, -1, 3, 3, 6⟩)) true
    = .ok ⟨fracs3, some ⟨-1, -1, -1, 3, 3, 6⟩⟩ :=
  csv3d_roundtrip cI nI faithfulI norm3 fracs3 (some ⟨-1, -1, -1, 3, 3, 6⟩) (by decide)
    (fun f hf => by
      simp only [fracs3, List.mem_cons, List.not_mem_nil, or_false] at hf
      rcases hf with rfl | rfl <;> rfl)
    (Or.inl rfl)

/-- a constructor that reverses the vertex cycle: the network comes back up to that relation -/
example : ∃ fs, read3d cI (fun f => .ok f.reverse) (write3d cI fracs3 none) false = .ok ⟨fs, none⟩ ∧
    Pointwise (fun g f => g = f.reverse) fs fracs3 :=
  csv3d_roundtrip_upto cI nI faithfulI (fun f => .ok f.reverse) (fun g f => g = f.reverse) fracs3 none
    (by decide) (fun f _ => ⟨f.reverse, rfl, rfl⟩) (Or.inr (by decide))

/-- a lossy "format": keep multiples of `f` only -/
def encI (f : Nat) (v : Int) : Int := v / f * f

def colsI : List (TxtCol Int Nat) :=
  [⟨"pressure".toList, [12, 345, -7], 1⟩, ⟨"flux#2".toList, [19, 250, 1234], 10⟩]

/-- `colsI` meets the hypotheses of the txt round trips -/
theorem colsI_len : ∀ c ∈ colsI, c.arr.length = 3 := by decide +kernel
theorem colsI_names : ∀ w ∈ colsI.map (·.name), w ≠ [] ∧ ∀ ch ∈ w, isWs ch = false := by decide +kernel
theorem colsI_first : ∀ w, (colsI.map (·.name)).head? = some w → w.head? ≠ some '#' := by decide +kernel

example : ∃ file, exportTxt encI colsI = .ok file ∧
    readTxt (fun t => some t) file
      = .ok [("pressure".toList, [12, 345, -7]), ("flux#2".toList, [10, 250, 1230])] :=
  txt_roundtrip_rounded encI (fun t => some t) encI (fun _ _ => rfl) colsI 3 (by decide +kernel) colsI_len
    colsI_names colsI_first

/-- one column, and zero rows: every array still comes back as an array -/
example : ∃ file, exportTxt (fun (_ : Unit) (v : Int) => v) [⟨"a".toList, [4, 5], ()⟩] = .ok file ∧
    readTxt (fun t => some t) file = .ok [("a".toList, [4, 5])] :=
  txt_roundtrip _ _ (fun _ _ => rfl) _ 2 (by decide +kernel) (by decide +kernel) (by decide +kernel) (by decide +kernel)

example : ∃ file, exportTxt (fun (_ : Unit) (v : Int) => v) [⟨"a".toList, [], ()⟩, ⟨"b".toList, [], ()⟩]
      = .ok file ∧
    readTxt (fun t => some t) file = .ok [("a".toList, []), ("b".toList, [])] :=
  txt_roundtrip _ _ (fun _ _ => rfl) _ 0 (by decide +kernel) (by decide +kernel) (by decide +kernel) (by decide +kernel)

/-- two polylines (ids 0 and 3), the second starting where the first ends -/
def polysI : List (Poly Int) := [⟨0, [(0, 0), (5, 0), (5, 5)]⟩, ⟨3, [(5, 5), (9, 9)]⟩]

example : read2d cI nI nearI degenI (hdrLines (some "# FID,X,Y") ++ polyRowsSpec cI polysI)
      ⟨1, none, none, true, none⟩
    = .ok ⟨[⟨(0, 0), (5, 0), []⟩, ⟨(5, 0), (5, 5), []⟩, ⟨(5, 5), (9, 9), []⟩],
           domOr nI none (allPts polysI), [0, 0, 3]⟩ :=
  polyline_read cI nI nearI degenI polysI (some "# FID,X,Y") 1 none faithfulI (Or.inr ⟨rfl, rfl⟩)
    (by decide +kernel) (by decide +kernel) (by decide +kernel) (by decide +kernel)

/-- `quadF` is the quadrilateral `quadA` listed from its third vertex on: the angular sort (key = first
    coordinate here) returns the ascending list `quadA`, which is the same vertex cycle -/
def quadA : List (Pt3 Int) := [(0, 0, 0), (1, 2, 0), (2, 3, 0), (3, 1, 0)]
def quadF : List (Pt3 Int) := [(2, 3, 0), (3, 1, 0), (0, 0, 0), (1, 2, 0)]
def keyI (p : Pt3 Int) : Rat := (p.1 : Rat)

theorem quadA_asc : StrictAsc keyI quadA := by
  simp only [StrictAsc, quadA, keyI, List.pairwise_cons, List.mem_cons, List.not_mem_nil, or_false,
    forall_eq_or_imp, forall_eq, List.Pairwise.nil, and_true, false_imp_iff, implies_true]
  decide +kernel

example : Dihedral (angSort keyI quadF) quadF ∧ StrictAsc keyI (angSort keyI quadF) :=
  angSort_dihedral keyI quadF ⟨quadA, quadA_asc, 2, Or.inl (by decide)⟩

example : ∃ fs, read3d cI (normSort (fun _ => keyI)) (write3d cI [quadF] none) false = .ok ⟨fs, none⟩ ∧
    Pointwise Dihedral fs [quadF] :=
  csv3d_roundtrip_dihedral cI nI faithfulI (fun _ => keyI) [quadF] none (by decide)
    (fun f hf => by
      simp only [List.mem_cons, List.not_mem_nil, or_false] at hf
      subst hf
      exact ⟨quadA, quadA_asc, 2, Or.inl (by decide)⟩)
    (Or.inr (by decide))

example : readElliptic cI (fun p => .ok [(p.getD 0 0, p.getD 1 0, p.getD 8 0)])
      (ellipticRows cI [[1, 2, 3, 5, 4, 0, 0, 0, 12]] (some ⟨0, 0, 0, 9, 9, 9⟩)) true
    = .ok ⟨[[(1, 2, 12)]], some ⟨0, 0, 0, 9, 9, 9⟩⟩ := by
  rw [show true = (some (⟨0, 0, 0, 9, 9, 9⟩ : Box3 Int)).isSome from rfl,
    elliptic_transparent cI nI faithfulI _ _ _ (by decide)]
  rfl

/-- the decidable input conditions on a concrete network over Rat (tol = 1/100): two fractures sharing
    an end point, a third one 3/100 away from it -/
def fsQ : List (Frac2 Rat) :=
  [⟨(0, 0), (1, 1 / 2), []⟩, ⟨(1, 1 / 2), (2, 3), []⟩, ⟨(1 + 3 / 100, 1 / 2), (0, 3), []⟩]

example : ∃ file, write2d cQ' (closeQ (1 / 100)) fsQ true = .ok file ∧
    read2d cQ' nQ' (nearQ (1 / 100)) degenQ file ⟨1, none, none, false, none⟩
      = .ok ⟨fsQ.map strip, domOr nQ' none (endpoints fsQ), [0, 1, 2]⟩ :=
  csv2d_roundtrip_tol cQ' nQ' (1 / 100) (1 / 100) fsQ true 1 none
    ⟨fun _ => rfl, fun _ => rfl, fun k => by simp [nQ']⟩
    (Or.inr ⟨rfl, rfl⟩) (by decide +kernel) (by decide +kernel) (by decide +kernel) (by decide +kernel)

example : ∃ file, write2d cI closeI fsI true = .ok file ∧
    read2d cI nI nearI degenI file ⟨1, none, some 2, false, none⟩
      = .ok ⟨(fsI.take 2).map strip, domOr nI none (endpoints (fsI.take 2)), [0, 1]⟩ :=
  csv2d_roundtrip_max cI nI closeI nearI degenI fsI true 1 1 none faithfulI (Or.inr ⟨rfl, rfl⟩)
    fsI_close fsI_near fsI_len fsI_degen

example : ∃ file l, exportTxt encI colsI = .ok file ∧ readTxt (fun t => some t) file = .ok l ∧
    ∀ c ∈ colsI, dictGet l c.name = some (c.arr.map (encI c.fmt)) :=
  txt_roundtrip_dict encI (fun t => some t) encI (fun _ _ => rfl) colsI 3 (by decide +kernel) colsI_len
    colsI_names colsI_first (by decide +kernel)

end Examples

end PorepyVerif.C47
