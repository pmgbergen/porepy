/-
C47 — txt data files: header names (`split` after `join`), rows and columns (`rowsOf`, `transposeRows`), decoding,
the dictionary.
-/
import PorepyVerif.C47.Model

namespace PorepyVerif.C47

theorem splitAux_word (w : List Char) (hw : ∀ ch ∈ w, isWs ch = false) (cur rest : List Char)
    (hne : cur ++ w ≠ []) :
    splitAux (w ++ ' ' :: rest) cur = (cur ++ w) :: splitAux rest [] := by
  induction w generalizing cur with
  | nil =>
    cases cur with
    | nil => exact absurd rfl hne
    | cons x xs =>
      simp only [List.nil_append, splitAux, List.append_nil]
      rfl
  | cons ch w ih =>
    have h1 : isWs ch = false := hw ch (List.mem_cons_self)
    have := ih (fun x hx => hw x (List.mem_cons_of_mem _ hx)) (cur ++ [ch]) (by simp)
    simp only [List.cons_append, splitAux, h1]
    rw [this, List.append_assoc]
    rfl

theorem split_join (names : List Name) (h : ∀ w ∈ names, w ≠ [] ∧ ∀ ch ∈ w, isWs ch = false) :
    splitAux (joinNames names) [] = names := by
  induction names with
  | nil => rfl
  | cons w ws ih =>
    have hw := h w (List.mem_cons_self)
    simp only [joinNames]
    rw [splitAux_word w hw.2 [] _ (by simpa using hw.1)]
    simp only [List.nil_append, ih (fun x hx => h x (List.mem_cons_of_mem _ hx))]

theorem lstrip_header (names : List Name) (h : ∀ w ∈ names, w ≠ [] ∧ ∀ ch ∈ w, isWs ch = false)
    (hfirst : ∀ w, names.head? = some w → w.head? ≠ some '#') :
    lstripHash (headerLine names) = joinNames names := by
  cases names with
  | nil => rfl
  | cons w ws =>
    have hw := h w (List.mem_cons_self)
    have hf := hfirst w rfl
    cases w with
    | nil => exact absurd rfl hw.1
    | cons ch w' =>
      have h1 : isWs ch = false := hw.2 ch (List.mem_cons_self)
      have h2 : ch ≠ '#' := fun hc => hf (congrArg some hc)
      have h3 : ch ≠ ' ' := fun hc => absurd (hc ▸ h1) (by decide)
      have h4 : (ch == '#' || ch == ' ') = false :=
        Bool.or_eq_false_iff.mpr ⟨beq_eq_false_iff_ne.mpr h2, beq_eq_false_iff_ne.mpr h3⟩
      simp only [headerLine, joinNames, lstripHash, List.cons_append, h4]
      rfl

theorem readNames_headerLine (names : List Name) (h : ∀ w ∈ names, w ≠ [] ∧ ∀ ch ∈ w, isWs ch = false)
    (hfirst : ∀ w, names.head? = some w → w.head? ≠ some '#') :
    readNames (headerLine names) = names := by
  simp only [readNames, lstrip_header names h hfirst, split_join names h]

theorem replicate_nil_of_forall {α : Type} (cols : List (List α)) (h : ∀ c ∈ cols, c.length = 0) :
    List.replicate cols.length [] = cols := by
  induction cols with
  | nil => rfl
  | cons c cols ih =>
    have hc : c = [] := List.eq_nil_of_length_eq_zero (h c (List.mem_cons_self))
    subst hc
    simp only [List.length_cons, List.replicate_succ, ih (fun x hx => h x (List.mem_cons_of_mem _ hx))]

theorem zipWith_heads_tails {α : Type} (cols : List (List α)) (k : Nat) (h : ∀ c ∈ cols, c.length = k + 1) :
    List.zipWith (· :: ·) (cols.filterMap List.head?) (cols.map List.tail) = cols := by
  induction cols with
  | nil => rfl
  | cons c cols ih =>
    have hc := h c (List.mem_cons_self)
    cases c with
    | nil => simp at hc
    | cons x xs =>
      simp only [List.filterMap_cons, List.head?_cons, List.map_cons, List.tail_cons, List.zipWith_cons_cons,
        ih (fun y hy => h y (List.mem_cons_of_mem _ hy))]

theorem heads_length {α : Type} (cols : List (List α)) (k : Nat) (h : ∀ c ∈ cols, c.length = k + 1) :
    (cols.filterMap List.head?).length = cols.length := by
  induction cols with
  | nil => rfl
  | cons c cols ih =>
    have hc := h c (List.mem_cons_self)
    cases c with
    | nil => simp at hc
    | cons x xs =>
      simp only [List.filterMap_cons, List.head?_cons, List.length_cons,
        ih (fun y hy => h y (List.mem_cons_of_mem _ hy))]

theorem tails_length {α : Type} (cols : List (List α)) (k : Nat) (h : ∀ c ∈ cols, c.length = k + 1) :
    ∀ c ∈ cols.map List.tail, c.length = k := by
  intro c hc
  obtain ⟨d, hd, rfl⟩ := List.mem_map.mp hc
  have := h d hd
  simp only [List.length_tail, this, Nat.add_sub_cancel]

theorem transpose_rowsOf {α : Type} (k : Nat) (cols : List (List α)) (h : ∀ c ∈ cols, c.length = k) :
    transposeRows cols.length (rowsOf k cols) = cols := by
  induction k generalizing cols with
  | zero => simp only [rowsOf, transposeRows, replicate_nil_of_forall cols h]
  | succ k ih =>
    have := ih (cols.map List.tail) (tails_length cols k h)
    rw [List.length_map] at this
    simp only [rowsOf, transposeRows, this, zipWith_heads_tails cols k h]

theorem rowsOf_row_length {α : Type} (k : Nat) (cols : List (List α)) (h : ∀ c ∈ cols, c.length = k) :
    ∀ r ∈ rowsOf k cols, r.length = cols.length := by
  induction k generalizing cols with
  | zero => intro r hr; cases hr
  | succ k ih =>
    intro r hr
    simp only [rowsOf, List.mem_cons] at hr
    rcases hr with rfl | hr
    · exact heads_length cols k h
    · have := ih (cols.map List.tail) (tails_length cols k h) r hr
      rwa [List.length_map] at this

theorem columnsOf_rowsOf {α : Type} (k : Nat) (cols : List (List α)) (h : ∀ c ∈ cols, c.length = k) :
    columnsOf cols.length (rowsOf k cols) = cols := by
  cases k with
  | zero => simp only [rowsOf, columnsOf, replicate_nil_of_forall cols h]
  | succ k =>
    have hl := heads_length cols k h
    have := transpose_rowsOf (k + 1) cols h
    simp only [rowsOf] at this
    simp only [rowsOf, columnsOf, hl, this]

/-- the arrays of the columns with `g fmt` applied to every entry: the columns as written (`g = enc`)
    and as read back (`g = rnd`) -/
def mapCols {V F T : Type} (g : F → V → T) (cols : List (TxtCol V F)) : List (List T) :=
  cols.map (fun c => c.arr.map (g c.fmt))

def tailCols {V F : Type} (cols : List (TxtCol V F)) : List (TxtCol V F) :=
  cols.map (fun c => { c with arr := c.arr.tail })

theorem mapCols_tail {V F T : Type} (g : F → V → T) (cols : List (TxtCol V F)) :
    (mapCols g cols).map List.tail = mapCols g (tailCols cols) := by
  simp only [mapCols, tailCols, List.map_map]
  apply List.map_congr_left
  intro c _
  simp only [Function.comp, List.map_tail]

theorem decode_heads {V F T : Type} (enc : F → V → T) (dec : T → Option V) (rnd : F → V → V)
    (hcodec : ∀ f v, dec (enc f v) = some (rnd f v)) (e : Err) (cols : List (TxtCol V F)) :
    decodeWith dec e ((mapCols enc cols).filterMap List.head?)
      = .ok ((mapCols rnd cols).filterMap List.head?) := by
  induction cols with
  | nil => rfl
  | cons c cols ih =>
    simp only [decodeWith, mapCols] at ih
    cases hc : c.arr with
    | nil => simp only [decodeWith, mapCols, List.map_cons, hc, List.map_nil, List.filterMap_cons,
        List.head?_nil, ih]
    | cons v vs => simp only [decodeWith, mapCols, List.map_cons, hc, List.filterMap_cons, List.head?_cons,
        mapE, hcodec, ih]

theorem decode_rowsOf {V F T : Type} (enc : F → V → T) (dec : T → Option V) (rnd : F → V → V)
    (hcodec : ∀ f v, dec (enc f v) = some (rnd f v)) (e : Err) (k : Nat) (cols : List (TxtCol V F)) :
    mapE (decodeWith dec e) (rowsOf k (mapCols enc cols)) = .ok (rowsOf k (mapCols rnd cols)) := by
  induction k generalizing cols with
  | zero => rfl
  | succ k ih =>
    simp only [rowsOf, mapE, decode_heads enc dec rnd hcodec e cols, mapCols_tail, ih (tailCols cols)]

theorem foldl_nokey {V : Type} (l : List (Name × List V)) (k : Name) (acc : Option (List V))
    (h : ∀ p ∈ l, p.1 ≠ k) :
    l.foldl (fun acc p => if p.1 = k then some p.2 else acc) acc = acc := by
  induction l generalizing acc with
  | nil => rfl
  | cons d t ih =>
    have hd := h d List.mem_cons_self
    simp only [List.foldl_cons, hd, if_false]
    exact ih acc (fun p hp => h p (List.mem_cons_of_mem _ hp))

theorem foldl_key {V : Type} (l : List (Name × List V)) (q : Name × List V) (acc : Option (List V))
    (hq : q ∈ l) (hnd : (l.map (·.1)).Nodup) :
    l.foldl (fun acc p => if p.1 = q.1 then some p.2 else acc) acc = some q.2 := by
  induction l generalizing acc with
  | nil => cases hq
  | cons d t ih =>
    have hn : d.1 ∉ t.map (·.1) ∧ (t.map (·.1)).Nodup := List.nodup_cons.mp hnd
    rcases List.mem_cons.mp hq with rfl | hq'
    · simp only [List.foldl_cons, if_true]
      exact foldl_nokey t q.1 _ (fun p hp he => hn.1 (he ▸ List.mem_map_of_mem hp))
    · simp only [List.foldl_cons]
      exact ih _ hq' hn.2

/-- with pairwise different keys, the dictionary returns what is stored under a key -/
theorem dictGet_of_mem {V : Type} {l : List (Name × List V)} {q : Name × List V} (hq : q ∈ l)
    (hnd : (l.map (·.1)).Nodup) : dictGet l q.1 = some q.2 :=
  foldl_key l q none hq hnd

end PorepyVerif.C47
