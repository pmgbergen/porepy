/-
C47 — 2-D csv, format 1: the greedy point table (writer and reader), the written rows, the stages of
`read2dRows` on them, the second half of the reader (`finishCore_edges`), the tolerance tests over `Rat`.
-/
import PorepyVerif.C47.Lemmas

namespace PorepyVerif.C47

theorem firstIdx_some {P : Type} (f : P → Bool) (l : List P) (i : Nat) (h : firstIdx f l = some i) :
    ∃ x, l[i]? = some x ∧ f x = true := by
  induction l generalizing i with
  | nil => cases h
  | cons a as ih =>
    rw [firstIdx] at h
    split at h
    · cases h
      exact ⟨a, rfl, ‹_›⟩
    · cases hf : firstIdx f as with
      | none => rw [hf] at h; cases h
      | some j => rw [hf] at h; cases h; exact ih j hf

/-- the table only grows: an entry stays where it is -/
theorem greedy_getElem? {P : Type} (rel : P → P → Bool) (pts reps : List P) (i : Nat) (p : P)
    (h : reps[i]? = some p) : (greedy rel reps pts).1[i]? = some p := by
  induction pts generalizing reps with
  | nil => exact h
  | cons q ps ih =>
    rw [greedy]
    split
    · exact ih reps h
    · exact ih (reps ++ [q]) (by rw [List.getElem?_append_left (List.getElem?_eq_some_iff.mp h).1, h])

/-- If `rel` relates no two DISTINCT points among the table entries and the incoming points, every
    incoming point is mapped to a table slot that holds exactly that point. -/
theorem greedy_lookup {P : Type} (rel : P → P → Bool) (pts reps : List P)
    (hd : ∀ x ∈ reps ++ pts, ∀ p ∈ pts, rel x p = true → x = p) :
    (greedy rel reps pts).2.map (fun i => (greedy rel reps pts).1[i]?) = pts.map some := by
  induction pts generalizing reps with
  | nil => rfl
  | cons p ps ih =>
    rw [greedy]
    split
    · rename_i i hf
      obtain ⟨x, hx, hr⟩ := firstIdx_some _ _ _ hf
      have hxp : x = p := hd x (List.mem_append_left _ (List.mem_of_getElem? hx)) p List.mem_cons_self hr
      rw [List.map_cons, List.map_cons, greedy_getElem? rel ps reps i p (hxp ▸ hx),
        ih reps (fun y hy q hq => hd y (List.mem_append.mpr ((List.mem_append.mp hy).imp_right
          (List.mem_cons_of_mem _))) q (List.mem_cons_of_mem _ hq))]
    · rw [List.map_cons, List.map_cons, greedy_getElem? rel ps (reps ++ [p]) reps.length p
          List.getElem?_concat_length,
        ih (reps ++ [p]) (fun y hy q hq => hd y (by rwa [List.append_assoc] at hy) q (List.mem_cons_of_mem _ hq))]

theorem lookup_of_map {P : Type} {U pts : List P} {m : List Nat}
    (hm : m.map (fun i => U[i]?) = pts.map some) {i : Nat} {p : P} (hp : pts[i]? = some p) :
    ∃ j, m[i]? = some j ∧ U[j]? = some p := by
  have := congrArg (·[i]?) hm
  simp only [List.getElem?_map, hp, Option.map_some] at this
  cases hmi : m[i]? with
  | none => rw [hmi] at this; cases this
  | some j => rw [hmi] at this; exact ⟨j, rfl, Option.some.inj this⟩

theorem rows2_spec {V T : Type} (c : Codec V T) (U : List (Pt2 V)) (fs : List (Frac2 V)) (m : List Nat) (k : Nat)
    (hm : m.map (fun i => U[i]?) = (endpoints fs).map some) :
    rows2 c U k (pairIdx m) = .ok (rowsSpec c k fs) := by
  induction fs generalizing m k with
  | nil =>
    match m, hm with
    | [], _ => rfl
    | _ :: _, hm => cases hm
  | cons f fs ih =>
    match m, hm with
    | i :: j :: m', hm =>
      injection hm with hi hm
      injection hm with hj hm'
      simp only [pairIdx, rows2, getE, hi, hj, ih m' (k + 1) hm', rowsSpec]
    | [], hm => cases hm
    | [_], hm => injection hm with _ hm; cases hm

theorem write2d_spec {V T : Type} (c : Codec V T) (close : Pt2 V → Pt2 V → Bool) (fs : List (Frac2 V))
    (hdr : Bool)
    (hclose : ∀ p ∈ endpoints fs, ∀ q ∈ endpoints fs, close p q = true → p = q) :
    write2d c close fs hdr
      = .ok (if hdr then Line.comment header2 :: rowsSpec c 0 fs else rowsSpec c 0 fs) := by
  have hm := greedy_lookup close (endpoints fs) [] hclose
  simp only [write2d, rows2_spec c _ fs _ 0 hm]

/-- `read2d` once the data rows decode to a non-empty table of `w ≠ 1` columns -/
theorem read2d_of_table {V T : Type} [DecidableEq V] (c : Codec V T) (n : Num V) (near degen : Pt2 V → Pt2 V → Bool)
    (lines : List (Line T)) (o : Opts2 V) (rows : List (List V)) (w : Nat)
    (hdec : mapE (decodeRow c .decode) ((lines.drop o.skipHeader).filterMap cellsOf) = .ok rows)
    (hlen : ∀ r ∈ rows, r.length = w) (hw : w ≠ 1) (hne : rows.isEmpty = false) :
    read2d c n near degen lines o = match o.maxNumFracs with
      | some 0 => .ok ⟨[], none, []⟩
      | some k => read2dRows n near degen (rows.take k) o
      | none => read2dRows n near degen rows o := by
  simp only [read2d, hdec, sameLen_of_forall _ w hlen, hne, Bool.not_true, Bool.false_eq_true, if_false,
    atleast2d_of_length _ w hw hlen]
  rfl

/-- the rows of `rowsSpec c k fs` as decoded values -/
def valsSpec {V : Type} (n : Num V) : Nat → List (Frac2 V) → List (List V)
  | _, [] => []
  | k, f :: fs => [n.ofIdx k, f.a.1, f.a.2, f.b.1, f.b.2] :: valsSpec n (k + 1) fs

theorem decode_rowsSpec {V T : Type} (c : Codec V T) (n : Num V) (hF : Faithful c n) (k : Nat)
    (fs : List (Frac2 V)) :
    mapE (decodeRow c .decode) ((rowsSpec c k fs).filterMap cellsOf) = .ok (valsSpec n k fs) := by
  induction fs generalizing k with
  | nil => rfl
  | cons f fs ih =>
    have h5 : decodeRow c .decode [c.encIdx k, c.enc f.a.1, c.enc f.a.2, c.enc f.b.1, c.enc f.b.2]
        = .ok [n.ofIdx k, f.a.1, f.a.2, f.b.1, f.b.2] := by
      simp only [decodeRow, decodeWith, mapE, hF.dec_enc, hF.dec_encIdx]
    simp only [rowsSpec, List.filterMap_cons, cellsOf, mapE, h5, ih (k + 1), valsSpec]

theorem valsSpec_length {V : Type} (n : Num V) (k : Nat) (fs : List (Frac2 V)) :
    ∀ r ∈ valsSpec n k fs, r.length = 5 := by
  induction fs generalizing k with
  | nil => intro r hr; cases hr
  | cons f fs ih =>
    intro r hr
    simp only [valsSpec, List.mem_cons] at hr
    rcases hr with rfl | hr
    · rfl
    · exact ih (k + 1) r hr

theorem sel_valsSpec {V : Type} (n : Num V) (k : Nat) (fs : List (Frac2 V)) :
    mapE (selRow [1, 2, 3, 4]) (valsSpec n k fs)
      = .ok (fs.map (fun f => [f.a.1, f.a.2, f.b.1, f.b.2])) := by
  induction fs generalizing k with
  | nil => rfl
  | cons f fs ih =>
    have h5 : selRow [1, 2, 3, 4] [n.ofIdx k, f.a.1, f.a.2, f.b.1, f.b.2]
        = .ok [f.a.1, f.a.2, f.b.1, f.b.2] := rfl
    simp only [valsSpec, mapE, h5, ih (k + 1), List.map_cons]

theorem pairUp_sel {V : Type} (fs : List (Frac2 V)) :
    pairUp (fs.map (fun f => [f.a.1, f.a.2, f.b.1, f.b.2])).flatten = .ok (endpoints fs) := by
  induction fs with
  | nil => rfl
  | cons f fs ih =>
    simp only [List.map_cons, List.flatten_cons, List.cons_append, List.nil_append, pairUp, ih,
      endpoints]

theorem heads_valsSpec {V : Type} (n : Num V) (d : V) (k : Nat) (fs : List (Frac2 V)) :
    (valsSpec n k fs).map (fun r => r.headD d) = (List.range' k fs.length).map n.ofIdx := by
  induction fs generalizing k with
  | nil => rfl
  | cons f fs ih =>
    simp only [valsSpec, List.map_cons, List.headD_cons, ih (k + 1), List.length_cons, List.range'_succ]

/-- without tag columns every row has the empty tag list -/
theorem tags_none {V : Type} (n : Num V) (rows : List (List V)) :
    mapE (tagsOfRow n none) rows = .ok (List.replicate rows.length []) :=
  (mapE_ok_of_forall _ (fun _ => []) rows (fun _ _ => rfl)).trans (congrArg _ (List.map_const' ..))

theorem valsSpec_take {V : Type} (n : Num V) (s k : Nat) (fs : List (Frac2 V)) :
    (valsSpec n s fs).take k = valsSpec n s (fs.take k) := by
  induction fs generalizing s k with
  | nil => simp [valsSpec]
  | cons f fs ih =>
    cases k with
    | zero => simp [valsSpec]
    | succ k => simp only [valsSpec, List.take_succ_cons, ih]

theorem endpoints_take_subset {V : Type} (k : Nat) (fs : List (Frac2 V)) :
    ∀ p ∈ endpoints (fs.take k), p ∈ endpoints fs := by
  induction fs generalizing k with
  | nil => intro p hp; simp [endpoints] at hp
  | cons f fs ih =>
    cases k with
    | zero => intro p hp; simp [endpoints] at hp
    | succ k =>
      intro p hp
      simp only [List.take_succ_cons, endpoints, List.mem_cons] at hp ⊢
      rcases hp with h | h | h
      · exact Or.inl h
      · exact Or.inr (Or.inl h)
      · exact Or.inr (Or.inr (ih k p h))

/-- the edge `e` (two indices into `pts`, tags; fracture id) joins the end points of `f` -/
def Joins {V : Type} (pts : List (Pt2 V)) (e : (Nat × Nat × List Int) × V) (f : Frac2 V) : Prop :=
  pts[e.1.1]? = some f.a ∧ pts[e.1.2.1]? = some f.b ∧ e.1.2.2 = f.tags

/-- Second half of both 2-D readers.  If `near` relates no two distinct points and the edge list joins,
    edge by edge, the end points of constructible fractures, those fractures come back with the edges' ids:
    every point is found in the uniquified table (`greedy_lookup`), so an edge is re-indexed to two slots
    holding its end points, which differ because the points do. -/
theorem finishCore_edges {V : Type} (n : Num V) (near degen : Pt2 V → Pt2 V → Bool) (d : Box2 V)
    (pts : List (Pt2 V)) (edges : List ((Nat × Nat × List Int) × V)) (frs : List (Frac2 V))
    (hnear : ∀ p ∈ pts, ∀ q ∈ pts, near p q = true → p = q)
    (hE : Pointwise (Joins pts) edges frs) (hok : ∀ f ∈ frs, f.a ≠ f.b ∧ degen f.a f.b = false) :
    finishCore n near degen d pts edges = .ok ⟨frs, some d, edges.map (fun e => n.toIdx e.2)⟩ := by
  have hm := greedy_lookup near pts [] hnear
  simp only [finishCore]
  generalize (greedy near [] pts).1 = U, (greedy near [] pts).2 = m at hm ⊢
  obtain ⟨es, hes, hlen, hne, hmk⟩ : ∃ es, mapE (lookupEdge m) (edges.map (·.1)) = .ok es ∧
      es.length = edges.length ∧ (∀ e ∈ es, (e.1 != e.2.1) = true) ∧ mapE (mkFrac degen U) es = .ok frs := by
    induction hE with
    | nil => exact ⟨[], rfl, rfl, fun _ h => (by cases h), rfl⟩
    | @cons e f _ _ h _ ih =>
      obtain ⟨es, h1, h2, h3, h4⟩ := ih (fun f hf => hok f (List.mem_cons_of_mem _ hf))
      obtain ⟨i, hi, hUi⟩ := lookup_of_map hm h.1
      obtain ⟨j, hj, hUj⟩ := lookup_of_map hm h.2.1
      have hf := hok f List.mem_cons_self
      refine ⟨(i, j, e.1.2.2) :: es, ?_, ?_, ?_, ?_⟩
      · simp only [List.map_cons, mapE, lookupEdge, getE, hi, hj, h1]
      · rw [List.length_cons, List.length_cons, h2]
      · intro e' he'
        rcases List.mem_cons.mp he' with rfl | he'
        · exact bne_iff_ne.mpr (fun hij => hf.1 (Option.some.inj (by rw [← hUi, ← hUj, show i = j from hij])))
        · exact h3 e' he'
      · simp only [mapE, mkFrac, getE, hUi, hUj, hf.2, h4, h.2.2]
        rfl
  have hz : (es.zip (edges.map (·.2))).filter (fun p => p.1.1 != p.1.2.1) = es.zip (edges.map (·.2)) :=
    List.filter_eq_self.mpr (fun p hp => hne p.1 (List.of_mem_zip hp).1)
  have hl : es.length = (edges.map (·.2)).length := by rw [hlen, List.length_map]
  simp only [hes, hz, List.map_fst_zip (Nat.le_of_eq hl), hmk, map_zip_snd _ _ _ (Nat.le_of_eq hl.symm),
    List.map_map]
  rfl

theorem seqEdges_joins {V : Type} (pre : List (Pt2 V)) (fs : List (Frac2 V)) (ids : List V)
    (h : ids.length = fs.length) :
    Pointwise (Joins (pre ++ endpoints fs))
      ((seqEdges pre.length (List.replicate fs.length [])).zip ids) (fs.map strip) := by
  induction fs generalizing pre ids with
  | nil => cases ids with
    | nil => exact .nil
    | cons _ _ => cases h
  | cons f fs ih =>
    cases ids with
    | nil => cases h
    | cons v ids =>
      have := ih (pre ++ [f.a, f.b]) ids (Nat.succ.inj h)
      rw [List.append_assoc, List.length_append] at this
      exact .cons ⟨getElem?_append_add pre _ 0, getElem?_append_add pre _ 1, rfl⟩ this

theorem seqEdges_length (k : Nat) (ts : List (List Int)) : (seqEdges k ts).length = ts.length := by
  induction ts generalizing k with
  | nil => rfl
  | cons t ts ih => simp only [seqEdges, List.length_cons, ih (k + 2)]

theorem domOr_cons {V : Type} (n : Num V) (dom : Option (Box2 V)) (p : Pt2 V) (ps : List (Pt2 V)) :
    ∃ d, domOr n dom (p :: ps) = some d := by
  cases dom with
  | some d => exact ⟨d, rfl⟩
  | none => exact ⟨_, rfl⟩

theorem read2dRows_spec {V T : Type} [DecidableEq V] (c : Codec V T) (n : Num V) (hF : Faithful c n)
    (near degen : Pt2 V → Pt2 V → Bool) (fs : List (Frac2 V)) (hne : fs ≠ []) (skip : Nat)
    (dom : Option (Box2 V)) (mx : Option Nat)
    (hnear : ∀ p ∈ endpoints fs, ∀ q ∈ endpoints fs, near p q = true → p = q)
    (hlen : ∀ f ∈ fs, f.a ≠ f.b) (hdeg : ∀ f ∈ fs, degen f.a f.b = false) :
    read2dRows n near degen (valsSpec n 0 fs) ⟨skip, none, mx, false, dom⟩
      = .ok ⟨fs.map strip, domOr n dom (endpoints fs), (List.range' 0 fs.length).map Int.ofNat⟩ := by
  cases fs with
  | nil => exact absurd rfl hne
  | cons f fs' =>
    have hcols : ptCols (((valsSpec n 0 (f :: fs')).head?.map List.length).getD 0) none = [1, 2, 3, 4] := by
      simp only [valsSpec, List.head?_cons, Option.map_some, List.length_cons, List.length_nil,
        Option.getD_some]
      decide
    obtain ⟨d, hd⟩ : ∃ d, domOr n dom (endpoints (f :: fs')) = some d := domOr_cons n dom f.a _
    have hl : ((List.range' 0 (f :: fs').length).map n.ofIdx).length = (f :: fs').length := by
      rw [List.length_map, List.length_range']
    have hrl : (valsSpec n 0 (f :: fs')).length = (f :: fs').length := by
      rw [← List.length_map (f := fun r => r.headD (n.ofIdx 0)), heads_valsSpec, hl]
    have hfin := finishCore_edges n near degen d _ _ _ hnear (seqEdges_joins [] (f :: fs') _ hl)
      (fun g hg => by
        obtain ⟨f, hf, rfl⟩ := List.mem_map.mp hg
        exact ⟨hlen f hf, hdeg f hf⟩)
    simp only [List.length_nil] at hfin
    have hz := map_zip_snd n.toIdx (seqEdges 0 (List.replicate (f :: fs').length []))
      ((List.range' 0 (f :: fs').length).map n.ofIdx)
      (Nat.le_of_eq (by rw [hl, seqEdges_length, List.length_replicate]))
    -- `read2dRows` stage by stage: point columns, points, tags, id column, `finish2`
    simp only [read2dRows, hcols, sel_valsSpec, pairUp_sel, tags_none, hrl, heads_valsSpec, finish2, hd,
      hfin, hz, List.map_map, Function.comp_def, hF.toIdx_ofIdx]
    rfl

theorem absQ_mul_self (d : Rat) : absQ d * absQ d = d * d := by
  unfold absQ
  split
  · rw [Rat.neg_mul, Rat.mul_neg, Rat.neg_neg]
  · rfl

theorem absQ_nonneg (d : Rat) : 0 ≤ absQ d := by
  unfold absQ
  split
  · rename_i h; exact Rat.le_of_lt (Rat.lt_neg_iff.mpr h)
  · rename_i h; exact Rat.not_lt.mp h

theorem far_of_coord (tol a b : Rat) (h0 : 0 ≤ tol) (h : tol < absQ a ∨ tol < absQ b) :
    ¬ (a * a + b * b < tol * tol) := by
  have sq : ∀ e : Rat, tol < e → tol * tol ≤ e * e := fun e he =>
    Rat.le_trans (Rat.mul_le_mul_of_nonneg_left (Rat.le_of_lt he) h0)
      (Rat.mul_le_mul_of_nonneg_right (Rat.le_of_lt he) (Rat.le_trans h0 (Rat.le_of_lt he)))
  have na := Rat.mul_nonneg (absQ_nonneg a) (absQ_nonneg a)
  have nb := Rat.mul_nonneg (absQ_nonneg b) (absQ_nonneg b)
  rw [← absQ_mul_self a, ← absQ_mul_self b, Rat.not_lt]
  rcases h with h | h
  · have := Rat.add_le_add_left (c := absQ a * absQ a).mpr nb
    rw [Rat.add_zero] at this
    exact Rat.le_trans (sq _ h) this
  · have := Rat.add_le_add_right (c := absQ b * absQ b).mpr na
    rw [Rat.zero_add] at this
    exact Rat.le_trans (sq _ h) this

theorem closeQ_discrete (tol : Rat) (fs : List (Frac2 Rat)) (hs : Separated tol fs) :
    ∀ p ∈ endpoints fs, ∀ q ∈ endpoints fs, closeQ tol p q = true → p = q := by
  intro p hp q hq hc
  refine Decidable.byContradiction fun hne => ?_
  simp only [closeQ, Bool.and_eq_true, decide_eq_true_eq] at hc
  rcases hs q hq p hp (Ne.symm hne) with h | h
  · exact Rat.not_le.mpr h hc.1
  · exact Rat.not_le.mpr h hc.2

theorem nearQ_discrete (tol : Rat) (h0 : 0 ≤ tol) (fs : List (Frac2 Rat)) (hs : Separated tol fs) :
    ∀ p ∈ endpoints fs, ∀ q ∈ endpoints fs, nearQ tol p q = true → p = q := by
  intro p hp q hq hc
  refine Decidable.byContradiction fun hne => ?_
  exact far_of_coord tol _ _ h0 (hs q hq p hp (Ne.symm hne)) (of_decide_eq_true hc)

end PorepyVerif.C47
