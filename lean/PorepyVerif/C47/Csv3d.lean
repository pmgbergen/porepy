/-
C47 — 3-D csv and elliptic files: the reader loops on written rows, and PlaneFracture's vertex normalisation
(angular sort; `Dihedral` through Mathlib's `List.IsRotated`).
-/
import PorepyVerif.C47.Lemmas
import PorepyVerif.Common.InsSort
import Mathlib.Data.List.Rotate

namespace PorepyVerif.C47

theorem triples_flat3 {V : Type} (f : List (Pt3 V)) : triples (flat3 f) = .ok f := by
  induction f with
  | nil => rfl
  | cons p ps ih => simp only [flat3, triples, ih]

theorem readFracs_rows {V T : Type} (c : Codec V T) (n : Num V) (hF : Faithful c n)
    (norm : List (Pt3 V) → Except Err (List (Pt3 V))) (fracs : List (List (Pt3 V)))
    (hne : ∀ f ∈ fracs, f ≠ []) :
    readFracs c norm (fracs.map (fun f => Line.data ((flat3 f).map c.enc))) = mapE norm fracs := by
  induction fracs with
  | nil => rfl
  | cons f fs ih =>
    have ih' := ih (fun g hg => hne g (List.mem_cons_of_mem _ hg))
    cases f with
    | nil => exact absurd rfl (hne [] (List.mem_cons_self))
    | cons p ps =>
      have hdec := decodeRow_map_enc c n hF .value (flat3 (p :: ps))
      have htr := triples_flat3 (p :: ps)
      simp only [flat3, List.map_cons] at hdec htr
      simp only [List.map_cons, flat3, readFracs, hdec, htr, mapE]
      rw [ih']
      cases norm (p :: ps) with
      | error e => rfl
      | ok b => cases mapE norm fs <;> rfl

theorem readFracsE_rows {V T : Type} (c : Codec V T) (n : Num V) (hF : Faithful c n)
    (mk : List V → Except Err (List (Pt3 V))) (params : List (List V))
    (h9 : ∀ p ∈ params, p.length = 9) :
    readFracsE c mk (params.map (fun p => Line.data (p.map c.enc))) = mapE mk params := by
  induction params with
  | nil => rfl
  | cons p ps ih =>
    have ih' := ih (fun q hq => h9 q (List.mem_cons_of_mem _ hq))
    have hp := h9 p List.mem_cons_self
    have hdec := decodeRow_map_enc c n hF .value p
    match p, hp, hdec with
    | x :: xs, hp, hdec =>
      have hmod : ((x :: xs).length % 9 != 0) = false := by rw [hp]; rfl
      have htake : (x :: xs).take 9 = x :: xs := by rw [← hp]; exact List.take_length
      simp only [List.map_cons] at hdec
      simp only [List.map_cons, readFracsE, hdec, hmod, htake, ih', mapE, Bool.false_eq_true, if_false]
      cases mk (x :: xs) with
      | error e => rfl
      | ok b => cases mapE mk ps <;> rfl

theorem rot_eq_rotate {α : Type} (k : Nat) (l : List α) : rot k l = l.rotate k := by
  rw [rot, List.rotate_eq_drop_append_take_mod]

theorem dihedral_iff {α : Type} (g f : List α) : Dihedral g f ↔ (f ~r g ∨ f ~r g.reverse) := by
  constructor
  · rintro ⟨k, h | h⟩
    · exact Or.inl ⟨k, by rw [h, rot_eq_rotate]⟩
    · exact Or.inr ⟨k, by rw [h, rot_eq_rotate, List.reverse_reverse]⟩
  · rintro (⟨k, h⟩ | ⟨k, h⟩)
    · exact ⟨k, Or.inl (by rw [rot_eq_rotate, h])⟩
    · exact ⟨k, Or.inr (by rw [rot_eq_rotate, h, List.reverse_reverse])⟩

theorem dihedral_refl {α : Type} (f : List α) : Dihedral f f :=
  (dihedral_iff f f).mpr (Or.inl (List.IsRotated.refl f))

theorem dihedral_symm {α : Type} {g f : List α} (h : Dihedral g f) : Dihedral f g := by
  rw [dihedral_iff] at h ⊢
  rcases h with h | h
  · exact Or.inl h.symm
  · refine Or.inr ?_
    have := h.symm.reverse
    rwa [List.reverse_reverse] at this

theorem dihedral_trans {α : Type} {h g f : List α} (h1 : Dihedral h g) (h2 : Dihedral g f) : Dihedral h f := by
  rw [dihedral_iff] at h1 h2 ⊢
  rcases h1 with h1 | h1 <;> rcases h2 with h2 | h2
  · exact Or.inl (h2.trans h1)
  · refine Or.inr ?_
    exact h2.trans h1.reverse
  · exact Or.inr (h2.trans h1)
  · refine Or.inl ?_
    have := h1.reverse
    rw [List.reverse_reverse] at this
    exact h2.trans this

theorem dihedral_perm {α : Type} {g f : List α} (h : Dihedral g f) : g.Perm f := by
  rw [dihedral_iff] at h
  rcases h with h | h
  · exact h.perm.symm
  · exact ((List.reverse_perm g).symm.trans h.perm.symm)

theorem insSort {P : Type} (θ : P → Rat) : Common.InsSort (fun a b => θ a ≤ θ b) (insertBy θ) (angSort θ) where
  trans := Rat.le_trans
  ins_nil _ := rfl
  ins_cons p a l := by
    rw [insertBy]
    split
    · exact .inr ⟨Rat.le_of_lt ‹_›, rfl⟩
    · exact .inl ⟨Rat.not_lt.1 ‹_›, rfl⟩
  srt_nil := rfl
  srt_cons _ _ := rfl

theorem angSort_sorted {P : Type} (θ : P → Rat) (l : List P) (hinj : l.Pairwise (fun x y => θ x ≠ θ y)) :
    StrictAsc θ (angSort θ l) :=
  (((insSort θ).sorted l).and ((((insSort θ).perm l).pairwise_iff Ne.symm).2 hinj)).imp fun ⟨h1, h2⟩ =>
    Rat.lt_of_le_of_ne h1 h2

theorem angSort_eq_of_perm {P : Type} (θ : P → Rat) (f a : List P) (hp : f.Perm a) (ha : StrictAsc θ a) :
    angSort θ f = a :=
  List.Perm.eq_of_pairwise (fun _ _ _ _ h h' => (Rat.lt_irrefl (Std.lt_trans h h')).elim)
    (angSort_sorted θ f ((hp.pairwise_iff Ne.symm).2 (ha.imp Rat.ne_of_lt))) ha (((insSort θ).perm f).trans hp)

theorem normSort_ok {V : Type} (θof : List (Pt3 V) → Pt3 V → Rat) (f : List (Pt3 V)) (h : 3 ≤ f.length) :
    normSort θof f = .ok (angSort (θof f) f) :=
  if_neg (Nat.not_lt.mpr h)

end PorepyVerif.C47
