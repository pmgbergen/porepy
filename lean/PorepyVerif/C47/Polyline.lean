/-
C47 — 2-D csv, format 2 (polylines): the decoded rows, what `polyEdges` computes on an id column made of
runs of ascending ids, and that its edges join consecutive points (`finishCore_edges` does the rest).
-/
import PorepyVerif.C47.Csv2d

namespace PorepyVerif.C47

/-- the rows of `polyRowsSpec c polys` as decoded values: `[id, x, y]` per vertex -/
def polyVals {V : Type} : List (Poly V) → List (List V)
  | [] => []
  | P :: Ps => P.pts.map (fun p => [P.id, p.1, p.2]) ++ polyVals Ps

/-- the first column of `polyVals polys` -/
def idCol {V : Type} : List (Poly V) → List V
  | [] => []
  | P :: Ps => List.replicate P.pts.length P.id ++ idCol Ps

theorem decode_chain {V T : Type} (c : Codec V T) (n : Num V) (hF : Faithful c n) (v : V)
    (pts : List (Pt2 V)) :
    mapE (decodeRow c .decode) ((pts.map (fun p => Line.data [c.enc v, c.enc p.1, c.enc p.2])).filterMap cellsOf)
      = .ok (pts.map (fun p => [v, p.1, p.2])) := by
  induction pts with
  | nil => rfl
  | cons p ps ih =>
    have h3 : decodeRow c .decode [c.enc v, c.enc p.1, c.enc p.2] = .ok [v, p.1, p.2] :=
      decodeRow_map_enc c n hF .decode [v, p.1, p.2]
    simp only [List.map_cons, List.filterMap_cons, cellsOf, mapE, h3, ih]

theorem decode_polyRows {V T : Type} (c : Codec V T) (n : Num V) (hF : Faithful c n) (polys : List (Poly V)) :
    mapE (decodeRow c .decode) ((polyRowsSpec c polys).filterMap cellsOf) = .ok (polyVals polys) := by
  induction polys with
  | nil => rfl
  | cons P Ps ih =>
    simp only [polyRowsSpec, List.filterMap_append, polyVals]
    exact mapE_append _ _ _ _ _ (decode_chain c n hF P.id P.pts) ih

theorem polyVals_length {V : Type} (polys : List (Poly V)) : ∀ r ∈ polyVals polys, r.length = 3 := by
  induction polys with
  | nil => intro r hr; cases hr
  | cons P Ps ih =>
    intro r hr
    simp only [polyVals, List.mem_append, List.mem_map] at hr
    rcases hr with ⟨p, _, rfl⟩ | hr
    · rfl
    · exact ih r hr

theorem sel_polyVals {V : Type} (polys : List (Poly V)) :
    mapE (selRow [1, 2]) (polyVals polys) = .ok ((allPts polys).map (fun p => [p.1, p.2])) := by
  induction polys with
  | nil => rfl
  | cons P Ps ih =>
    simp only [polyVals, allPts, List.map_append]
    refine mapE_append _ _ _ _ _ ?_ ih
    rw [mapE_ok_of_forall (selRow [1, 2]) (fun r => r.drop 1) _ (by
      intro r hr
      obtain ⟨p, _, rfl⟩ := List.mem_map.mp hr
      rfl)]
    simp only [List.map_map]
    rfl

theorem pairUp_pts {V : Type} (pts : List (Pt2 V)) :
    pairUp (pts.map (fun p => [p.1, p.2])).flatten = .ok pts := by
  induction pts with
  | nil => rfl
  | cons p ps ih => simp only [List.map_cons, List.flatten_cons, List.cons_append, List.nil_append, pairUp, ih]

theorem heads_polyVals {V : Type} (d : V) (polys : List (Poly V)) :
    (polyVals polys).map (fun r => r.headD d) = idCol polys := by
  induction polys with
  | nil => rfl
  | cons P Ps ih =>
    simp only [polyVals, List.map_append, List.map_map, idCol, ih, Function.comp_def, List.headD_cons,
      List.map_const']

/-- index pairs (s,s+1),(s+1,s+2),… : `c` of them -/
def chainEdges (s c : Nat) : List (Nat × Nat × List Int) := (List.range' s c).map (fun i => (i, i + 1, []))

/-- what the polyline branch computes for the edges: per polyline a chain, tagged with its id -/
def blocks {V : Type} : Nat → List (Poly V) → List (List ((Nat × Nat × List Int) × V))
  | _, [] => []
  | s, P :: Ps => (chainEdges s (P.pts.length - 1)).map (fun e => (e, P.id)) :: blocks (s + P.pts.length) Ps

def polyEdgesSpec {V : Type} (s : Nat) (polys : List (Poly V)) : List ((Nat × Nat × List Int) × V) :=
  (blocks s polys).flatten

theorem mem_idCol {V : Type} (polys : List (Poly V)) (x : V) (h : x ∈ idCol polys) :
    ∃ P ∈ polys, x = P.id := by
  induction polys with
  | nil => cases h
  | cons P Ps ih =>
    simp only [idCol, List.mem_append, List.mem_replicate] at h
    rcases h with ⟨_, rfl⟩ | h
    · exact ⟨P, List.mem_cons_self, rfl⟩
    · obtain ⟨Q, hQ, rfl⟩ := ih h
      exact ⟨Q, List.mem_cons_of_mem _ hQ, rfl⟩

theorem idCol_length {V : Type} (polys : List (Poly V)) : (idCol polys).length = (allPts polys).length := by
  induction polys with
  | nil => rfl
  | cons P Ps ih => simp only [idCol, allPts, List.length_append, List.length_replicate, ih]

section
variable {V : Type} [DecidableEq V]

theorem positions_append (v : V) (l1 l2 : List V) (k : Nat) :
    positions v (l1 ++ l2) k = positions v l1 k ++ positions v l2 (k + l1.length) := by
  induction l1 generalizing k with
  | nil => rfl
  | cons a l ih =>
    simp only [List.cons_append, positions, ih (k + 1), List.length_cons, Nat.add_right_comm k 1]
    split <;> rfl

theorem positions_replicate (v : V) (L k : Nat) : positions v (List.replicate L v) k = List.range' k L := by
  induction L generalizing k with
  | zero => rfl
  | succ L ih => simp only [List.replicate_succ, positions, if_true, ih (k + 1), List.range'_succ]

theorem positions_notmem (v : V) (l : List V) (k : Nat) (h : v ∉ l) : positions v l k = [] := by
  induction l generalizing k with
  | nil => rfl
  | cons a l ih =>
    have ha : a ≠ v := fun e => h (e ▸ List.mem_cons_self)
    simp only [positions, ha, if_false, ih (k + 1) (fun hm => h (List.mem_cons_of_mem _ hm))]

theorem uniqueSorted_block (n : Num V) (v : V) (L : Nat) (hL : 1 ≤ L) (Ps : List (Poly V))
    (ih : uniqueSorted n (idCol Ps) = Ps.map (·.id))
    (hv : ∀ Q ∈ Ps, v ≠ Q.id ∧ n.lt v Q.id = true) :
    uniqueSorted n (List.replicate L v ++ idCol Ps) = v :: Ps.map (·.id) := by
  induction L with
  | zero => exact absurd hL (Nat.not_succ_le_zero 0)
  | succ L ihL =>
    simp only [List.replicate_succ, List.cons_append, uniqueSorted]
    cases L with
    | zero =>
      simp only [List.replicate_zero, List.nil_append, ih]
      cases Ps with
      | nil => rfl
      | cons Q Qs =>
        have := hv Q (List.mem_cons_self)
        simp only [List.map_cons, insertU, this.1, if_false, this.2, if_true]
    | succ L' =>
      rw [ihL (Nat.succ_le_succ (Nat.zero_le L'))]
      simp only [insertU, if_true]

theorem uniqueSorted_idCol (n : Num V) (polys : List (Poly V)) (hlen : ∀ P ∈ polys, 2 ≤ P.pts.length)
    (hids : polys.Pairwise (fun a b => a.id ≠ b.id ∧ n.lt a.id b.id = true)) :
    uniqueSorted n (idCol polys) = polys.map (·.id) := by
  induction polys with
  | nil => rfl
  | cons P Ps ih =>
    have hp := List.pairwise_cons.mp hids
    simp only [idCol, List.map_cons]
    exact uniqueSorted_block n P.id P.pts.length (Nat.le_of_succ_le (hlen P List.mem_cons_self)) Ps
      (ih (fun Q hQ => hlen Q (List.mem_cons_of_mem _ hQ)) hp.2) hp.1

end

/-- when the first two positions are consecutive the two slices of `polyBlock` have equal lengths,
    whatever the last position is -/
theorem polyBlock_consec {V : Type} (fi : V) (i k : Nat) (rest : List Nat) :
    polyBlock fi (i :: (i + 1) :: k :: rest)
      = .ok ((List.range (((i + 1) :: k :: rest).getLast?.getD (i + 1) - i)).map
          (fun d => ((i + d, i + 1 + d, []), fi))) := by
  simp only [polyBlock, Nat.add_sub_add_right, if_true]

theorem polyBlock_range' {V : Type} (fi : V) (s L : Nat) (hL : 2 ≤ L) :
    polyBlock fi (List.range' s L) = .ok ((chainEdges s (L - 1)).map (fun e => (e, fi))) := by
  obtain ⟨L, rfl⟩ := Nat.exists_eq_add_of_le' hL
  cases L with
  | zero => rfl
  | succ L =>
    have hl : ((s + 1) :: (s + 1 + 1) :: List.range' (s + 1 + 1 + 1) L).getLast?.getD (s + 1) - s = L + 2 := by
      show (List.range' (s + 1) (L + 2)).getLast?.getD (s + 1) - s = L + 2
      rw [List.getLast?_range', if_neg (Nat.succ_ne_zero _), Option.getD_some, Nat.add_right_comm s 1,
        Nat.add_sub_cancel, Nat.add_sub_cancel_left]
    show polyBlock fi (List.range' s (L + 3)) = .ok ((chainEdges s (L + 2)).map _)
    rw [List.range'_succ, List.range'_succ, List.range'_succ, polyBlock_consec, hl, chainEdges,
      List.range'_eq_map_range, List.map_map, List.map_map]
    congr 2
    funext d
    simp only [Function.comp, Nat.add_right_comm s d 1]

theorem polyBlocks {V : Type} [DecidableEq V] (pre : List V) (rest : List (Poly V))
    (hlen : ∀ P ∈ rest, 2 ≤ P.pts.length)
    (hpre : ∀ R ∈ rest, R.id ∉ pre)
    (hrest : rest.Pairwise (fun a b => a.id ≠ b.id)) :
    mapE (fun fi => polyBlock fi (positions fi (pre ++ idCol rest) 0)) (rest.map (·.id))
      = .ok (blocks pre.length rest) := by
  induction rest generalizing pre with
  | nil => rfl
  | cons P Ps ih =>
    have hp := List.pairwise_cons.mp hrest
    have h2 : P.id ∉ idCol Ps := fun hm => by
      obtain ⟨Q, hQ, he⟩ := mem_idCol Ps _ hm
      exact hp.1 Q hQ he
    have hpos : positions P.id (pre ++ (List.replicate P.pts.length P.id ++ idCol Ps)) 0
        = List.range' pre.length P.pts.length := by
      simp only [positions_append, positions_notmem _ _ _ (hpre P List.mem_cons_self),
        positions_notmem _ _ _ h2, positions_replicate, List.nil_append, List.append_nil, Nat.zero_add]
    have ih' := ih (pre ++ List.replicate P.pts.length P.id) (fun Q hQ => hlen Q (List.mem_cons_of_mem _ hQ))
      (fun R hR hm => by
        rcases List.mem_append.mp hm with h | h
        · exact hpre R (List.mem_cons_of_mem _ hR) h
        · exact hp.1 R hR (List.eq_of_mem_replicate h).symm) hp.2
    rw [List.append_assoc, List.length_append, List.length_replicate] at ih'
    show mapE (fun fi => polyBlock fi (positions fi (pre ++ (List.replicate P.pts.length P.id ++ idCol Ps)) 0))
      (P.id :: Ps.map (·.id)) = _
    simp only [mapE, hpos, polyBlock_range' P.id _ _ (hlen P List.mem_cons_self), ih', blocks]

theorem polyEdges_spec {V : Type} [DecidableEq V] (n : Num V) (polys : List (Poly V))
    (hlen : ∀ P ∈ polys, 2 ≤ P.pts.length)
    (hids : polys.Pairwise (fun a b => a.id ≠ b.id ∧ n.lt a.id b.id = true)) :
    polyEdges n (idCol polys) = .ok (polyEdgesSpec 0 polys) := by
  have hb := polyBlocks [] polys hlen (fun _ _ => List.not_mem_nil) (hids.imp (fun h => h.1))
  simp only [List.nil_append, List.length_nil] at hb
  simp only [polyEdges, uniqueSorted_idCol n polys hlen hids, hb, polyEdgesSpec]

theorem chainEdges_joins {V : Type} (v : V) (pre chain post : List (Pt2 V)) :
    Pointwise (Joins (pre ++ (chain ++ post)))
      ((chainEdges pre.length (chain.length - 1)).map (fun e => (e, v))) (segs chain) := by
  induction chain generalizing pre with
  | nil => exact .nil
  | cons p r ih =>
    cases r with
    | nil => exact .nil
    | cons q r =>
      have := ih (pre ++ [p])
      rw [List.append_assoc, List.length_append] at this
      exact .cons ⟨getElem?_append_add pre _ 0, getElem?_append_add pre _ 1, rfl⟩ this

theorem polyEdgesSpec_joins {V : Type} (pre : List (Pt2 V)) (polys : List (Poly V)) :
    Pointwise (Joins (pre ++ allPts polys)) (polyEdgesSpec pre.length polys) (polySegs polys) := by
  induction polys generalizing pre with
  | nil => exact .nil
  | cons P Ps ih =>
    have := ih (pre ++ P.pts)
    rw [List.append_assoc, List.length_append] at this
    exact (chainEdges_joins P.id pre P.pts (allPts Ps)).append this

theorem ids_polyEdgesSpec {V : Type} (n : Num V) (s : Nat) (polys : List (Poly V)) :
    (polyEdgesSpec s polys).map (fun e => n.toIdx e.2) = polyIds n polys := by
  induction polys generalizing s with
  | nil => rfl
  | cons P Ps ih =>
    simp only [polyEdgesSpec, blocks, List.flatten_cons, List.map_append, List.map_map, polyIds,
      Function.comp_def, List.map_const', chainEdges, List.length_range'] at ih ⊢
    rw [ih]

theorem read2dRows_poly {V : Type} [DecidableEq V] (n : Num V) (near degen : Pt2 V → Pt2 V → Bool)
    (polys : List (Poly V)) (hne : polys ≠ []) (skip : Nat) (dom : Option (Box2 V))
    (hlen : ∀ P ∈ polys, 2 ≤ P.pts.length)
    (hids : polys.Pairwise (fun a b => a.id ≠ b.id ∧ n.lt a.id b.id = true))
    (hnear : ∀ p ∈ allPts polys, ∀ q ∈ allPts polys, near p q = true → p = q)
    (hseg : ∀ f ∈ polySegs polys, f.a ≠ f.b ∧ degen f.a f.b = false) :
    read2dRows n near degen (polyVals polys) ⟨skip, none, none, true, dom⟩
      = .ok ⟨polySegs polys, domOr n dom (allPts polys), polyIds n polys⟩ := by
  cases polys with
  | nil => exact absurd rfl hne
  | cons P Ps =>
    obtain ⟨q, t, hp⟩ := List.exists_cons_of_length_pos
      (Nat.lt_of_lt_of_le Nat.zero_lt_two (hlen P List.mem_cons_self))
    have hhead : ((polyVals (P :: Ps)).head?.map List.length).getD 0 = 3 := by
      simp only [polyVals, hp, List.map_cons, List.cons_append, List.head?_cons, Option.map_some,
        Option.getD_some, List.length_cons, List.length_nil]
    have hcols : ptCols 3 none = [1, 2] := by decide
    obtain ⟨d, hd⟩ : ∃ d, domOr n dom (allPts (P :: Ps)) = some d := by
      rw [allPts, hp]
      exact domOr_cons n dom q _
    have hfin := finishCore_edges n near degen d _ _ _ hnear (polyEdgesSpec_joins [] (P :: Ps)) hseg
    simp only [List.length_nil] at hfin
    -- `read2dRows` stage by stage: point columns, points, id column, polyline edges, `finish2`
    simp only [read2dRows, hhead, hcols, sel_polyVals, pairUp_pts, heads_polyVals, if_true,
      polyEdges_spec n (P :: Ps) hlen hids, finish2, hd, hfin, ids_polyEdgesSpec]

end PorepyVerif.C47
