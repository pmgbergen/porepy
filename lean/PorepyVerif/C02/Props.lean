/-
C02 — property theorems (statements depend on Model.lean only; helper lemmas in LemmasNode, LemmasStrip, Lemmas).

Property: for any AD operator expression over variables, scalars, dense arrays, sparse arrays,
projections and wrapped functions, evaluating it through the equation system (`parse`, `evaluate`:
the model of `AdParser`) gives the same value and Jacobian as evaluating the same expression directly
with the forward-mode rules (`direct`, `evaluateDirect`), including when a plain python number or
numpy array is the left operand (`reverse_build`).  Values obtained with and without derivatives
agree (`parse_val_noderiv`, `evaluate_val_noderiv`), and sub-expressions taken at a previous time
step or iterate evaluate to the stored values and contribute no derivative (`prev_*`, `shift*`,
`const_add_keeps_jacobian`).
-/
import PorepyVerif.C02.Lemmas
import PorepyVerif.C02.LemmasStrip

namespace PorepyVerif.C02

variable {P : PowFns}

/-- … and so is what `EquationSystem.evaluate(op, derivative, state)` returns. -/
theorem evaluate_eq_direct (deriv : Bool) (e : Env) (hwf : EnvWF e) (t : OpTree) :
    evaluate deriv e t = evaluateDirect deriv e t := by
  simp only [evaluate, evaluateDirect, parse_eq_direct deriv e hwf t]

/-- The cache is transparent: evaluating a list of operators in one call (all parsed with one
    cache of parsed leaves, then post-processed) is parsing every operator on its own. -/
theorem evaluate_list_cache_transparent (deriv : Bool) (e : Env) (ts : List OpTree) :
    evaluateList deriv e ts = (ts.mapM (parse deriv e) >>= fun vs => vs.mapM (finish e.N deriv)) := by
  simp only [evaluateList]
  rw [parseListC_eq deriv e ts [] (fun p hp => by cases hp)]

/-- `evaluate([op_1, …, op_k])` returns the list `vs` exactly when evaluating the operators one by one
    returns `vs` (whatever sub-expressions and leaves the operators share). -/
theorem evaluate_list_eq_map (deriv : Bool) (e : Env) (ts : List OpTree) (vs : List Value) :
    evaluateList deriv e ts = .ok vs ↔ ts.mapM (evaluate deriv e) = .ok vs := by
  rw [evaluate_list_cache_transparent]
  exact mapM_comp_ok (parse deriv e) (finish e.N deriv) ts vs

/-- Whenever the evaluation with derivatives succeeds, the evaluation without derivatives succeeds
    and returns the same result with the Jacobian forgotten (every tree, every environment). -/
theorem parse_val_noderiv (e : Env) (t : OpTree) :
    ∀ z, parse true e t = .ok z → parse false e t = .ok (strip z) :=
  parse_strip true e t

/-- `EquationSystem.evaluate`: if derivative=True returns the AdArray `a`, derivative=False returns
    a number or vector holding exactly `a.val`. -/
theorem evaluate_val_noderiv (e : Env) (t : OpTree) (a : Ad)
    (h : evaluate true e t = .ok (.ad a)) :
    ∃ w, evaluate false e t = .ok w ∧ valOf w = some (vals a) := by
  simp only [evaluate, Common.bind_eq_ok] at h ⊢
  obtain ⟨v, hv, h⟩ := h
  refine ⟨strip v, ⟨strip v, parse_val_noderiv e t v hv, rfl⟩, ?_⟩
  cases v with
  | scalar c => cases h; rfl
  | vec w => cases h; exact congrArg some (vals_zeroJac e.N w).symm
  | ad a' => cases h; rfl
  | _ => cases h

/-- A variable or md-variable leaf at a previous time step or iterate parses — with or without
    derivatives — to the stored vector at its dofs (never to an AdArray). -/
theorem prev_leaf_is_stored (deriv : Bool) (e : Env) (hwf : EnvWF e) (subs : List (List Nat)) (md : Bool)
    (t i : Int) (hprev : 0 ≤ t ∨ 0 ≤ i) (st : Vec) (hst : stored e t i = .ok st) :
    parse deriv e (.leaf (.var subs md t i)) = .ok (.vec (gather st subs.flatten)) := by
  simp only [parse]
  rw [parseLeaf_eq_directLeaf deriv e hwf]
  simp only [directLeaf, hprev, if_true, hst, bind_ok, pure_eq_ok]
  split
  · rename_i h
    have : subs = [] := by
      cases subs with
      | nil => rfl
      | cons s r => simp at h
    subst this
    rfl
  · rfl

/-- A tree all of whose variable leaves are taken at previous time steps / iterates (constants,
    arrays, matrices, projections, time-dependent arrays and functions allowed, any arithmetic on top)
    evaluates identically with and without derivatives: the requested derivative never enters. -/
theorem prev_is_constant (e : Env) (t : OpTree) (h : t.noCurrent = true) :
    parse true e t = parse false e t := by
  induction t with
  | leaf l => exact parseLeaf_deriv_irrel e l h
  | projList ps => rfl
  | bin op a b iha ihb =>
    simp only [OpTree.noCurrent, Bool.and_eq_true] at h
    simp only [parse, iha h.1, ihb h.2]
  | func1 f a iha =>
    simp only [OpTree.noCurrent] at h
    simp only [parse, iha h]
  | func2 f a b iha ihb =>
    simp only [OpTree.noCurrent, Bool.and_eq_true] at h
    simp only [parse, iha h.1, ihb h.2]

/-- … and the AdArray returned for it by `evaluate(derivative=True)` has an all-zero Jacobian. -/
theorem prev_zero_jacobian (e : Env) (t : OpTree) (h : t.noCurrent = true) (a : Ad)
    (hev : evaluate true e t = .ok (.ad a)) : ∀ u ∈ a, u.g = zeros e.N := by
  simp only [evaluate, prev_is_constant e t h, Common.bind_eq_ok] at hev
  obtain ⟨v, hv, hev⟩ := hev
  cases v with
  | scalar c => cases hev; intro u hu; cases List.mem_singleton.mp hu; rfl
  | vec w => cases hev; intro u hu; obtain ⟨c, _, rfl⟩ := List.mem_map.mp hu; rfl
  | ad a' => cases noAd_parse_false e t _ hv
  | _ => cases hev

/-- `op.previous_timestep(steps)` of a whole expression (private indices `-1` or stored indices):
    when python builds it, no variable of the copy is at the current time step and iterate. -/
theorem shiftTime_no_current (steps : Nat) (t t' : OpTree) (hok : t.indexOk = true)
    (h : shiftTime steps t = .ok t') : t'.noCurrent = true :=
  (shiftTime_spec steps t t' hok h).2

/-- the same for `op.previous_iteration(steps)` -/
theorem shiftIter_no_current (steps : Nat) (t t' : OpTree) (hok : t.indexOk = true)
    (h : shiftIter steps t = .ok t') : t'.noCurrent = true :=
  (shiftIter_spec steps t t' hok h).2

/-- Through arithmetic: adding a sub-expression without current variables (previous time step /
    iterate values, constants) to an expression with Jacobian `J`, on either side, leaves `J` unchanged. -/
theorem const_add_keeps_jacobian (e : Env) (a c : OpTree) (hc : c.noCurrent = true) (x : Ad)
    (ha : parse true e a = .ok (.ad x)) :
    (∀ z, parse true e (.bin .add a c) = .ok z → ∃ x', z = .ad x' ∧ jacRows x' = jacRows x) ∧
    (∀ z, parse true e (.bin .add c a) = .ok z → ∃ x', z = .ad x' ∧ jacRows x' = jacRows x) := by
  have hy : ∀ y, parse true e c = .ok y → y.isAd = false :=
    fun y h => noAd_parse_false e c y (prev_is_constant e c hc ▸ h)
  constructor
  · intro z h
    simp only [parse, ha, bind_ok, Common.bind_eq_ok, parseBin_eq_directBin] at h
    obtain ⟨y, h2, h⟩ := h
    exact add_data_jacRows e.N x y z (hy y h2) (.inl h)
  · intro z h
    simp only [parse, ha, bind_ok, Common.bind_eq_ok, parseBin_eq_directBin] at h
    obtain ⟨y, h2, h⟩ := h
    exact add_data_jacRows e.N x y z (hy y h2) (.inr h)

/-- `EnvWF` is a decidable condition on the input (the driver evaluates it on every case) -/
theorem parse_eq_direct_dec (deriv : Bool) (e : Env) (hwf : envWFb e = true) (t : OpTree) :
    parse deriv e t = direct deriv e t :=
  parse_eq_direct deriv e ((envWFb_iff e).mp hwf) t

/-- Every tree python builds — by the arithmetic overloads (also the reverse ones), unary minus, function
    calls and `previous_timestep` / `previous_iteration` of sub-expressions, in any nesting — from operator
    objects with private indices `-1` or stored ones (fresh variables and arrays have `-1`) has such indices:
    the hypothesis `indexOk` of the shift theorems holds for everything constructible. -/
theorem build_indexOk (p : PyExpr) (t : OpTree) (hp : p.leavesOk = true) (hb : build p = .ok (.tree t)) :
    t.indexOk = true :=
  build_indexOk' p (.tree t) hp hb

/-- Hence `expr.previous_timestep(steps)` / `expr.previous_iteration(steps)` of ANY constructible expression,
    whenever python builds it, contains no variable at the current time step and iterate … -/
theorem built_prev_no_current (p : PyExpr) (steps : Nat) (t : OpTree) (hp : p.leavesOk = true) :
    (build (.prevTime steps p) = .ok (.tree t) → t.noCurrent = true) ∧
    (build (.prevIter steps p) = .ok (.tree t) → t.noCurrent = true) := by
  constructor
  · intro hb
    obtain ⟨t0, hx, hb⟩ := bind_tree_eq_ok (fun _ => rfl) hb
    obtain ⟨s, hs, hb⟩ := Common.bind_eq_ok.mp hb
    cases hb
    exact shiftTime_no_current steps t0 t (build_indexOk p t0 hp hx) hs
  · intro hb
    obtain ⟨t0, hx, hb⟩ := bind_tree_eq_ok (fun _ => rfl) hb
    obtain ⟨s, hs, hb⟩ := Common.bind_eq_ok.mp hb
    cases hb
    exact shiftIter_no_current steps t0 t (build_indexOk p t0 hp hx) hs

/-- … and so evaluates to an AdArray with an all-zero Jacobian (no hypothesis left but constructibility). -/
theorem built_prev_zero_jacobian (e : Env) (p : PyExpr) (steps : Nat) (t : OpTree) (hp : p.leavesOk = true)
    (hb : build (.prevTime steps p) = .ok (.tree t) ∨ build (.prevIter steps p) = .ok (.tree t)) (a : Ad)
    (hev : evaluate true e t = .ok (.ad a)) : ∀ u ∈ a, u.g = zeros e.N := by
  have hn : t.noCurrent = true := by
    rcases hb with hb | hb
    · exact (built_prev_no_current p steps t hp).1 hb
    · exact (built_prev_no_current p steps t hp).2 hb
  exact prev_zero_jacobian e t hn a hev

/-- `state=None` means the values stored at iterate index 0 -/
theorem state_none_is_iterate0 (deriv : Bool) (e : Env) (t : OpTree) (s : Vec) (h : e.iterVals[0]? = some s) :
    evaluateOpt deriv e none t = evaluateOpt deriv e (some s) t := by
  simp only [evaluateOpt, withState, h]

/-- the deprecated `Operator.value_and_jacobian(equation_system, state)` (which wraps once more) returns
    what `EquationSystem.evaluate(op, derivative=True, state)` returns; `Operator.value` is derivative=False -/
theorem value_and_jacobian_eq_evaluate (e : Env) (state : Option Vec) (t : OpTree) :
    valueAndJacobian e state t = evaluateOpt true e state t ∧ valueOnly e state t = evaluateOpt false e state t := by
  refine ⟨?_, rfl⟩
  simp only [valueAndJacobian, evaluateOpt]
  cases hs : withState e state with
  | error er => rfl
  | ok e' =>
    simp only [bind_ok]
    cases hv : evaluate true e' t with
    | error er => rfl
    | ok w =>
      simp only [bind_ok]
      simp only [evaluate] at hv
      cases hp : parse true e' t with
      | error er => simp [hp] at hv
      | ok v =>
        simp only [hp, bind_ok] at hv
        exact finish_idem e'.N v w hv

/-- Value level: for a raw python operand `c` (number, array, matrix) and any data value `y`
    (number, vector, matrix, AdArray), `y + c` — which is what `Operator.__radd__` builds — is `c + y`. -/
theorem directBin_add_comm (N : Nat) (c : Raw) (y : Value) (hy : y.isData = true) :
    directBin P N .add y c.value = directBin P N .add c.value y :=
  directBin_add_symm N y c.value hy (by cases c <;> rfl)

/-- Only `+` needs the operand to be data: `__radd__` swaps the children, the other reverse overloads keep the
    mathematical order. -/
theorem reverse_build' (deriv : Bool) (e : Env) (op : Op) (c : Raw) (t t' : OpTree)
    (hb : build (.bin op (.raw c) (.tree t)) = .ok (.tree t'))
    (hd : op = .add → ∀ y, direct deriv e t = .ok y → y.isData = true) :
    direct deriv e t' = (direct deriv e t >>= fun y => directBin e.P e.N op c.value y) := by
  simp only [build, bind_ok, Common.bind_eq_ok, pure_eq_ok, Except.ok.injEq, Built.tree.injEq] at hb
  obtain ⟨n, hn, rfl⟩ := hb
  rw [mkReverse_ok hn]
  split
  · -- `c + x` is built as `x + c`
    rename_i hop
    subst hop
    simp only [direct, direct_wrap]
    cases h : direct deriv e t with
    | error er => rfl
    | ok y => exact directBin_add_comm e.N c y (hd rfl y h)
  · simp only [direct, direct_wrap, bind_ok]

/-- `c ∘ x` written in python with a plain number, numpy array or scipy matrix `c` on the LEFT of an
    operator expression `x`: whenever python builds an operator tree `t'` for it (through the reverse
    overloads `__radd__ … __rmatmul__` and `_parse_other`), that tree denotes the forward-mode rule
    applied to `(c, ⟦x⟧)` in this order, for every operation. -/
theorem reverse_build (deriv : Bool) (e : Env) (op : Op) (c : Raw) (t t' : OpTree)
    (hb : build (.bin op (.raw c) (.tree t)) = .ok (.tree t'))
    (hd : ∀ y, direct deriv e t = .ok y → y.isData = true) :
    direct deriv e t' = (direct deriv e t >>= fun y => directBin e.P e.N op c.value y) :=
  reverse_build' deriv e op c t t' hb fun _ => hd

/-- … and the parser evaluates that tree to the same thing. -/
theorem reverse_build_parse (deriv : Bool) (e : Env) (hwf : EnvWF e) (op : Op) (c : Raw) (t t' : OpTree)
    (hb : build (.bin op (.raw c) (.tree t)) = .ok (.tree t'))
    (hd : ∀ y, direct deriv e t = .ok y → y.isData = true) :
    parse deriv e t' = (parse deriv e t >>= fun y => directBin e.P e.N op c.value y) := by
  rw [parse_eq_direct deriv e hwf, parse_eq_direct deriv e hwf]
  exact reverse_build deriv e op c t t' hb hd

/-! Non-vacuity: concrete environments and trees (state (1,2,3), time step 0 holds (10,20,30)). -/

def env0 : Env :=
  { state := [1, 2, 3], iterVals := [[1, 2, 3], [4, 5, 6]], timeVals := [[10, 20, 30]], tdIter := [[7, 8]], tdTime := [[[9, 9]]] }

/-- variable with dofs 0 and 2, current -/
def v02 : OpTree := .leaf (.var [[0, 2]] false (-1) (-1))
/-- md-variable with blocks (2) and (0) -/
def md20 : OpTree := .leaf (.var [[2], [0]] true (-1) (-1))

example : EnvWF env0 := by
  constructor <;> intro v hv <;> simp [env0, Env.N] at hv ⊢ <;> rcases hv with rfl | rfl <;> rfl

/-- `v02.previous_timestep()`, then ndarray − AdArray·(that previous variable): flipped and negated by the parser -/
example : (shiftTime 1 v02).toOption = some (.leaf (.var [[0, 2]] false 0 (-1))) := by decide +kernel
example :
    (parse true env0 (.bin .sub (.leaf (.dense [1/2, 1])) (.bin .mul v02 (.leaf (.var [[0, 2]] false 0 (-1)))))).toOption
      = some (.ad [⟨-19/2, [-10, 0, 0]⟩, ⟨-89, [0, 0, -30]⟩]) := by decide +kernel
/-- ndarray / AdArray through `__rtruediv__` -/
example : (parse true env0 (.bin .div (.leaf (.dense [1/2, 1])) v02)).toOption
      = some (.ad [⟨1/2, [-1/2, 0, 0]⟩, ⟨1/3, [0, 0, -1/9]⟩]) := by decide +kernel
/-- the F1 regression `2.0 * v`, `2.0 / v`, `M @ v` with raw left operands -/
example : (build (.bin .mul (.raw (.num 2)) (.tree v02))).toOption.map (fun b => match b with | .tree t => some t | _ => none)
      = some (some (.bin .mul (.leaf (.scalar 2)) v02)) := by decide +kernel
example : (evaluate true env0 (.bin .div (.leaf (.scalar 2)) v02)).toOption
      = some (.ad [⟨2, [-2, 0, 0]⟩, ⟨2/3, [0, 0, -2/9]⟩]) := by decide +kernel
example : (evaluate true env0 (.bin .matmul (.leaf (.sparse ⟨2, [[1, 1], [0, 2]]⟩)) v02)).toOption
      = some (.ad [⟨4, [1, 0, 1]⟩, ⟨6, [0, 0, 2]⟩]) := by decide +kernel
/-- previous md-variable: stored values, zero Jacobian after `evaluate` -/
example : (evaluate true env0 (.leaf (.var [[2], [0]] true 0 (-1)))).toOption
      = some (.ad [⟨30, [0, 0, 0]⟩, ⟨10, [0, 0, 0]⟩]) := by decide +kernel
example : (evaluate false env0 (.bin .add md20 (.leaf (.var [[2], [0]] true (-1) 1)))).toOption
      = some (.vec [9, 5]) := by decide +kernel
/-- an ill-typed tree: size mismatch raises ValueError in both evaluations -/
example : parse true env0 (.bin .add v02 (.leaf (.dense [1, 2, 3]))) = .error .valueError := rfl
/-- hypotheses of `shiftTime_no_current`, `const_add_keeps_jacobian`, `reverse_build`, `evaluate_val_noderiv` are satisfiable -/
example : v02.indexOk = true ∧ md20.indexOk = true := by decide
example : (parse true env0 (.bin .add (.leaf (.var [[0, 2]] false 0 (-1))) v02)).toOption
      = some (.ad [⟨11, [1, 0, 0]⟩, ⟨33, [0, 0, 1]⟩]) := by decide +kernel
example : (build (.bin .add (.raw (.arr [5, 6])) (.tree v02))).toOption.map (fun b => match b with | .tree t => some t | _ => none)
      = some (some (.bin .add v02 (.leaf (.dense [5, 6])))) := by decide +kernel
example : (direct true env0 v02).toOption.map Value.isData = some true := by decide +kernel
example : (evaluate true env0 (.bin .sub (.leaf (.scalar 1)) v02)).toOption = some (.ad [⟨0, [-1, 0, 0]⟩, ⟨-2, [0, 0, -1]⟩])
    ∧ (evaluate false env0 (.bin .sub (.leaf (.scalar 1)) v02)).toOption = some (.vec [0, -2]) := by decide +kernel
/-- a wrapped function `f(x, y) = x*y - 2` of a current and a previous variable -/
example : (evaluate true env0 (.func2 (.poly (.sub (.mul .x .y) (.const 2))) v02 (.leaf (.var [[0, 2]] false 0 (-1))))).toOption
      = some (.ad [⟨8, [10, 0, 0]⟩, ⟨88, [0, 0, 30]⟩]) := by decide +kernel
/-- a list sharing the leaf `dense [5, 6]` and the variable -/
example : (evaluateList true env0 [.bin .add v02 (.leaf (.dense [5, 6])), .bin .mul (.leaf (.dense [5, 6])) v02]).toOption
      = some [.ad [⟨6, [1, 0, 0]⟩, ⟨9, [0, 0, 1]⟩], .ad [⟨5, [5, 0, 0]⟩, ⟨18, [0, 0, 6]⟩]] := by decide +kernel
/-- broadcasting of a length-1 array: `[10] - v`, `v ** [2]` -/
example : (evaluate true env0 (.bin .sub (.leaf (.dense [10])) v02)).toOption
      = some (.ad [⟨9, [-1, 0, 0]⟩, ⟨7, [0, 0, -1]⟩]) := by decide +kernel
example : (evaluate true env0 (.bin .pow v02 (.leaf (.dense [2])))).toOption
      = some (.ad [⟨1, [2, 0, 0]⟩, ⟨9, [0, 0, 6]⟩]) := by decide +kernel
/-- real powers through an interpretation of `pow` / `log` (here an arbitrary rational one): `(1/2) ** (v + 1/2)`; under the
    default `PowFns.none` the same expression is outside the model -/
def P1 : PowFns := ⟨fun x c => x + c, fun x => 2 * x, fun _ _ => true, fun _ => true⟩
example : (evaluate true { env0 with P := P1 } (.bin .pow (.leaf (.scalar (1/2))) (.bin .add v02 (.leaf (.scalar (1/2)))))).toOption
      = some (.ad [⟨2, [2, 0, 0]⟩, ⟨4, [0, 0, 4]⟩]) := by decide +kernel
example : (evaluate true env0 (.bin .pow (.leaf (.scalar (1/2))) (.bin .add v02 (.leaf (.scalar (1/2)))))).toOption = none := by
  decide +kernel
/-- a DiagonalJacobianFunction `g(x, y) = x*y` with multipliers 3 and 1/2: values exact, Jacobian `3 Jx + Jy/2` -/
example : (evaluate true env0 (.func2 (.diag (.mul .x .y) 3 (some (1/2))) v02 (.bin .mul v02 v02))).toOption
      = some (.ad [⟨1, [4, 0, 0]⟩, ⟨27, [0, 0, 6]⟩]) := by decide +kernel
example : (evaluate false env0 (.func2 (.diag (.mul .x .y) 3 (some (1/2))) v02 (.bin .mul v02 v02))).toOption
      = some (.vec [1, 27]) := by decide +kernel
/-- the constructed-input theorems are not vacuous: `(2 - v).previous_timestep(2)` built from fresh objects -/
example : envWFb env0 = true := by decide
example : (PyExpr.bin .sub (.raw (.num 2)) (.tree v02)).leavesOk = true := by decide
example : (build (.prevTime 2 (.bin .sub (.raw (.num 2)) (.tree v02)))).toOption.map (fun b => match b with | .tree t => some t | _ => none)
      = some (some (.bin .sub (.leaf (.scalar 2)) (.leaf (.var [[0, 2]] false 1 (-1))))) := by decide +kernel
example : (valueAndJacobian env0 none (.bin .mul v02 v02)).toOption = some (.ad [⟨1, [2, 0, 0]⟩, ⟨9, [0, 0, 6]⟩])
    ∧ (valueOnly env0 (some [5, 5, 5]) (.bin .mul v02 v02)).toOption = some (.vec [25, 25]) := by decide +kernel
example : v02.noCurrent = false ∧ (OpTree.leaf (.var [[0, 2]] false 0 (-1))).noCurrent = true := by decide

end PorepyVerif.C02
