/-
C02 — the parser's node function is the forward-mode rule, and leaves are the stored values.
Node level: AdArray's method decompositions (`a-b = a+(-b)`, `a/b = a*b**(-1)`, …) are brought to the closed-form
row rules by one identity per decomposition, transported through `bAV` / `zipAV` / `zipAA`; the parser's operand
flips for an ndarray on the left are the mirror symmetry of broadcasting (`bvv_swap`, `vecBin_swap`).
Leaves: a previous md-variable is filled block by block (`Agree`).  Then `parse = direct` by induction on the tree.
-/
import PorepyVerif.C02.Model
import PorepyVerif.Common.Except
namespace PorepyVerif.C02

variable {P : PowFns}

@[simp] theorem bind_ok {α β : Type} (x : α) (f : α → R β) : (Except.ok x >>= f) = f x := rfl
@[simp] theorem bind_err {α β : Type} (e : Err) (f : α → R β) : ((Except.error e : R α) >>= f) = Except.error e := rfl
@[simp] theorem pure_eq_ok {α : Type} (x : α) : (pure x : R α) = Except.ok x := rfl

theorem map_congr' {α β : Type} {f g : α → β} (l : List α) (h : ∀ x, f x = g x) : l.map f = l.map g := by
  have : f = g := funext h
  rw [this]

theorem ok_ad_map_congr {f g : Dual → Dual} (a : Ad) (h : ∀ u, f u = g u) :
    (.ok (.ad (a.map f)) : R Value) = .ok (.ad (a.map g)) := by
  rw [map_congr' a h]

theorem zipWith_congr' {α β γ : Type} {f g : α → β → γ} (a : List α) (b : List β) (h : ∀ x y, f x y = g x y) :
    List.zipWith f a b = List.zipWith g a b := by
  have : f = g := funext fun x => funext (h x)
  rw [this]

theorem ipow_neg_one (c : Rat) : ipow c (-1) = c⁻¹ := by simp [ipow]
theorem ipow_neg_two (c : Rat) : ipow c (-2) = c⁻¹ * c⁻¹ := by
  simp [ipow]; grind

/-! The rational identities behind the decompositions used in forward_mode.py
(`a-b = a+(-b)`, `b-a = -(a-b)`, `a/b = a*b**(-1)`, `c/a = a**(-1)*c`). -/

theorem add_neg_eq_sub (x y : Rat) : x + -y = x - y := (Rat.sub_eq_add_neg x y).symm
theorem neg_add_neg_eq_sub (x c : Rat) : -(x + -c) = c - x := by grind
theorem inv_eq_one_div (c : Rat) : c⁻¹ = 1 / c := by grind
theorem mul_inv_eq_div (x c : Rat) : x * c⁻¹ = x / c := (Rat.div_def x c).symm
theorem inv_mul_eq_div (u c : Rat) : u⁻¹ * c = c / u := by rw [Rat.mul_comm, mul_inv_eq_div]
/-- the derivative of `a / w` in `w`, as the product and power rules produce it -/
theorem mul_neg_inv_sq (a w : Rat) : a * (-1 * (w⁻¹ * w⁻¹)) = -a / (w * w) := by grind

theorem gmap_mul_right (c : Rat) (g : List Rat) : g.map (· * c) = gscale c g :=
  map_congr' g (fun x => Rat.mul_comm x c)
theorem gmap_div (c : Rat) (g : List Rat) : g.map (· / c) = gscale (1 / c) g :=
  map_congr' g (fun x => by rw [Rat.div_def, Rat.mul_comm, inv_eq_one_div])
theorem gadd_gneg (g h : List Rat) : gadd g (gneg h) = gsub g h := by
  unfold gadd gneg gsub
  rw [List.zipWith_map_right]
  exact zipWith_congr' g h add_neg_eq_sub
theorem gscale_gscale (a b : Rat) (g : List Rat) : gscale a (gscale b g) = gscale (a * b) g := by
  unfold gscale; rw [List.map_map]; exact map_congr' g (fun x => (Rat.mul_assoc a b x).symm)

theorem num_neg_one_sub : ((-1 : Rat).num - 1) = -2 := by decide
theorem isInt_neg_one : isInt (-1) = true := by decide
theorem num_neg_one : (-1 : Rat).num = -1 := by decide

theorem any_not_powOk_neg_one (b : Ad) : b.any (fun u => !powOk P u.v (-1)) = hasZero (vals b) := by
  unfold hasZero vals
  rw [List.any_map]
  congr 1
  funext u
  simp [powOk, powEOk, powDOk, isInt_neg_one]

theorem powErr_neg_one : powErr (-1) = .div0 := by simp [powErr, isInt_neg_one]

theorem expand_map (f : Rat → Rat) (n : Nat) (v : Vec) :
    expand n (v.map f) = (expand n v).map (List.map f) := by
  unfold expand
  simp only [List.length_map]
  split
  · rfl
  · cases v with
    | nil => rfl
    | cons c cs =>
      cases cs with
      | nil => simp
      | cons d ds => rfl

theorem powE_neg_one (x : Rat) : powE P x (-1) = x⁻¹ := by
  simp only [powE, isInt_neg_one, if_true, num_neg_one]; exact ipow_neg_one x
theorem powD_neg_one (x : Rat) : powD P x (-1) = x⁻¹ * x⁻¹ := by
  simp only [powD, isInt_neg_one, if_true, num_neg_one_sub]; exact ipow_neg_two x

theorem bAV_congr {f g : Dual → Rat → Dual} (h : ∀ u c, f u c = g u c) (a : Ad) (v : Vec) :
    bAV f a v = bAV g a v := by
  rw [show f = g from funext fun u => funext (h u)]

theorem zipAV_congr {f g : Dual → Rat → Dual} (h : ∀ u c, f u c = g u c) (a : Ad) (v : Vec) :
    zipAV f a v = zipAV g a v := by
  rw [show f = g from funext fun u => funext (h u)]

theorem bAV_map (f : Dual → Rat → Dual) (g : Rat → Rat) (a : Ad) (v : Vec) :
    bAV f a (v.map g) = bAV (fun u c => f u (g c)) a v := by
  unfold bAV
  rw [expand_map]
  cases expand a.length v with
  | none => rfl
  | some w => exact congrArg (fun l => Except.ok (Value.ad l)) List.zipWith_map_right

theorem bAV_bind_pyNeg (f : Dual → Rat → Dual) (a : Ad) (v : Vec) :
    (bAV f a v >>= pyNeg) = bAV (fun u c => dneg (f u c)) a v := by
  unfold bAV
  cases expand a.length v with
  | none => rfl
  | some w => exact congrArg (fun l => Except.ok (Value.ad l)) List.map_zipWith

theorem zipAV_map_left (f : Dual → Rat → Dual) (g : Dual → Dual) (a : Ad) (v : Vec) :
    zipAV f (a.map g) v = zipAV (fun u c => f (g u) c) a v := by
  unfold zipAV
  rw [List.length_map, List.zipWith_map_left]

theorem zipAA_congr {f g : Dual → Dual → Dual} (h : ∀ u w, f u w = g u w) (a b : Ad) :
    zipAA f a b = zipAA g a b := by
  rw [show f = g from funext fun u => funext (h u)]

theorem zipAA_map_right (f : Dual → Dual → Dual) (g : Dual → Dual) (a b : Ad) :
    zipAA f a (b.map g) = zipAA (fun u w => f u (g w)) a b := by
  unfold zipAA
  rw [List.length_map, List.zipWith_map_right]

/-- `self ** (-1.0)`, as `__truediv__` and `__rtruediv__` use it -/
theorem adPow_neg_one_bind (b : Ad) (f : Value → R Value) : (adPow P b (.scalar (-1)) >>= f) =
    if hasZero (vals b) then .error .div0 else f (.ad (b.map (dPowC P · (-1)))) := by
  simp only [adPow, any_not_powOk_neg_one, powErr_neg_one]
  cases hasZero (vals b) <;> rfl

theorem dAdd_dneg (u w : Dual) : dAdd u (dneg w) = dSub u w := by
  simp only [dAdd, dneg, dSub, gadd_gneg, add_neg_eq_sub]

theorem dMul_dPowC_neg_one (u w : Dual) : dMul u (dPowC P w (-1)) = dDiv u w := by
  simp only [dMul, dPowC, dDiv, powE_neg_one, powD_neg_one, gscale_gscale, mul_neg_inv_sq, ← inv_eq_one_div]
  rw [mul_inv_eq_div]

theorem dMulC_dPowC_neg_one (u : Dual) (c : Rat) : dMulC (dPowC P u (-1)) c = dCDiv c u := by
  simp only [dMulC, dPowC, dCDiv, powE_neg_one, powD_neg_one, gscale_gscale, mul_neg_inv_sq]
  rw [inv_mul_eq_div]

/-- AdArray on the left: the methods of forward_mode.py are the closed-form rules -/
theorem pyAd_eq_directAd (a : Ad) (op : Op) (r : Value) : pyAd P a op r = directAd P a op r := by
  cases r with
  | scalar c =>
    cases op
    case sub =>
      exact ok_ad_map_congr a fun u => by rw [dSubC, add_neg_eq_sub]
    case mul =>
      exact ok_ad_map_congr a fun u => by rw [dMulC, gmap_mul_right]
    case div =>
      exact ite_congr rfl (fun _ => rfl) fun _ =>
        ok_ad_map_congr a fun u => by rw [dDivC, gmap_div]
    all_goals rfl
  | vec v =>
    cases op
    case sub =>
      change bAV (fun u c => ⟨u.v + c, u.g⟩) a (v.map (- ·)) = bAV dSubC a v
      rw [bAV_map]
      exact bAV_congr (fun u c => by rw [dSubC, add_neg_eq_sub]) a v
    case div =>
      refine ite_congr rfl (fun _ => rfl) fun hl => ite_congr rfl (fun _ => rfl) fun _ => ?_
      rw [zipAV, if_neg hl]
      exact congrArg (fun l => Except.ok (Value.ad l))
        (zipWith_congr' a v fun u c => by rw [dDivC, ipow_neg_one, mul_inv_eq_div, inv_eq_one_div])
    all_goals rfl
  | ad b =>
    cases op
    case sub =>
      change zipAA dAdd a (b.map dneg) = zipAA dSub a b
      rw [zipAA_map_right]
      exact zipAA_congr dAdd_dneg a b
    case div =>
      refine ite_congr rfl (fun _ => rfl) fun _ => (adPow_neg_one_bind b _).trans ?_
      refine ite_congr rfl (fun _ => rfl) fun _ => ?_
      change zipAA dMul a (b.map (dPowC P · (-1))) = _
      rw [zipAA_map_right]
      exact zipAA_congr dMul_dPowC_neg_one a b
    all_goals rfl
  | _ => cases op <;> rfl

/-- number on the left of an AdArray: the reverse methods are the closed-form rules -/
theorem pyScalar_ad_eq (c : Rat) (a : Ad) (op : Op) : pyScalar P c op (.ad a) = directSA P c a op := by
  cases op
  case add =>
    exact ok_ad_map_congr a fun u => by rw [dCAdd, Rat.add_comm]
  case sub =>
    change Except.ok (Value.ad ((a.map fun u => (⟨u.v + -c, u.g⟩ : Dual)).map dneg)) = _
    rw [List.map_map]
    exact ok_ad_map_congr a fun u => by simp only [Function.comp, dneg, dCSub, neg_add_neg_eq_sub]
  case mul =>
    exact ok_ad_map_congr a fun u => by rw [dCMul, gmap_mul_right, Rat.mul_comm]
  case div =>
    refine (adPow_neg_one_bind a _).trans (ite_congr rfl (fun _ => rfl) fun _ => ?_)
    change Except.ok (Value.ad ((a.map _).map _)) = _
    rw [List.map_map]
    exact ok_ad_map_congr a fun u => by rw [← dMulC_dPowC_neg_one, Function.comp, gmap_mul_right]; rfl
  all_goals rfl

/-- numpy array on the left of an AdArray: what the parser does instead of `ndarray ∘ AdArray`.
    `AdArray.__add__` / `__mul__` with an ndarray are `bAV` / `zipAV` of their row formulas by definition. -/
theorem flip_add (N : Nat) (v : Vec) (a : Ad) : py P N .add (.ad a) (.vec v) = directVA P v a .add :=
  bAV_congr (f := fun u c => ⟨u.v + c, u.g⟩) (fun u c => by rw [dCAdd, Rat.add_comm]) a v

theorem flip_mul (N : Nat) (v : Vec) (a : Ad) : py P N .mul (.ad a) (.vec v) = directVA P v a .mul :=
  zipAV_congr (f := fun u c => ⟨u.v * c, gscale c u.g⟩) (fun u c => by rw [dCMul, Rat.mul_comm]) a v

theorem flip_sub (N : Nat) (v : Vec) (a : Ad) :
    (py P N .sub (.ad a) (.vec v) >>= pyNeg) = directVA P v a .sub := by
  change (bAV (fun u c => ⟨u.v + c, u.g⟩) a (v.map (- ·)) >>= pyNeg) = bAV (fun u c => dCSub c u) a v
  rw [bAV_map, bAV_bind_pyNeg]
  exact bAV_congr (fun u c => by simp only [dneg, dCSub, neg_add_neg_eq_sub]) a v

theorem flip_div (v : Vec) (a : Ad) : adRtruediv P a (.vec v) = directVA P v a .div := by
  refine (adPow_neg_one_bind a _).trans (ite_congr rfl (fun _ => rfl) fun _ => ?_)
  change zipAV dMulC (a.map (dPowC P · (-1))) v = _
  rw [zipAV_map_left]
  exact zipAV_congr (fun u c => dMulC_dPowC_neg_one u c) a v

theorem vec_scalar_add (v : Vec) (c : Rat) : v.map (c + ·) = v.map (· + c) :=
  map_congr' v (fun x => by grind)

theorem vec_scalar_sub (v : Vec) (c : Rat) : (v.map (c - ·)).map (- ·) = v.map (· - c) := by
  rw [List.map_map]; exact map_congr' v (fun x => by simp only [Function.comp]; grind)

theorem bvv_swap (v w : Vec) : bvv w v = (bvv v w).map Prod.swap := by
  rcases v with _ | ⟨c, _ | ⟨c2, cs⟩⟩ <;> rcases w with _ | ⟨d, _ | ⟨d2, ds⟩⟩ <;>
    simp [bvv, expand]
  by_cases h : cs.length = ds.length
  · have h' : ds.length = cs.length := h.symm
    simp [h]
  · have h' : ¬ ds.length = cs.length := fun e => h e.symm
    simp [h, h']

/-- broadcasting is mirror-symmetric: the left/right twins below are each other's images under this -/
theorem vecBin_swap (f : Rat → Rat → Rat) (v w : Vec) : vecBin f w v = vecBin (fun x y => f y x) v w := by
  unfold vecBin
  rw [bvv_swap]
  cases bvv v w with
  | none => rfl
  | some p => exact congrArg (fun l => Except.ok (Value.vec l)) (List.zipWith_comm ..)

theorem vecBin_congr {f g : Rat → Rat → Rat} (h : ∀ x y, f x y = g x y) (v w : Vec) : vecBin f v w = vecBin g v w := by
  rw [show f = g from funext fun x => funext (h x)]

theorem vecBin_bind_pyNeg (f : Rat → Rat → Rat) (v w : Vec) :
    (vecBin f v w >>= pyNeg) = vecBin (fun x y => -(f x y)) v w := by
  unfold vecBin
  cases bvv v w with
  | none => rfl
  | some p => exact congrArg (fun l => Except.ok (Value.vec l)) List.map_zipWith

theorem vecBin_add_comm (v w : Vec) : vecBin (· + ·) w v = vecBin (· + ·) v w :=
  (vecBin_swap _ v w).trans (vecBin_congr (fun x y => Rat.add_comm y x) v w)

theorem vecBin_sub_flip (v w : Vec) : (vecBin (· - ·) w v >>= pyNeg) = vecBin (· - ·) v w := by
  rw [vecBin_swap, vecBin_bind_pyNeg]
  exact vecBin_congr (fun x y => Rat.neg_sub y x) v w

theorem expand_length {n : Nat} {v w : Vec} (h : expand n v = some w) : w.length = n := by
  unfold expand at h
  split at h
  · rename_i hl; cases h; exact hl
  · split at h
    · cases h; simp
    · cases h

theorem expand_self (v : Vec) : expand v.length v = some v := by simp [expand]

theorem bvv_of_len {v w : Vec} (h : v.length = w.length) : bvv v w = some (v, w) := by
  simp [bvv, expand, h]

theorem bvv_of_expand_right {n : Nat} {x v w : Vec} (hx : x.length = n) (h : expand n v = some w) :
    bvv x v = some (x, w) := by
  simp [bvv, hx, h]

theorem bvv_of_expand_left {n : Nat} {y v w : Vec} (hy : y.length = n) (h : expand n v = some w) :
    bvv v y = some (w, y) := by
  rw [bvv_swap, bvv_of_expand_right hy h]
  rfl

theorem vecBin_of_len (f : Rat → Rat → Rat) {v w : Vec} (h : v.length = w.length) :
    vecBin f v w = .ok (.vec (List.zipWith f v w)) := by
  simp only [vecBin, bvv_of_len h]

/-- only an ndarray or a ProjectionList on the left makes `_evaluate_single` deviate from python's dispatch -/
theorem parseBin_ad (N : Nat) (op : Op) (a : Ad) (r : Value) : parseBin P N op (.ad a) r = pyAd P a op r := by
  cases op <;> rfl
theorem parseBin_scalar (N : Nat) (op : Op) (c : Rat) (r : Value) :
    parseBin P N op (.scalar c) r = pyScalar P c op r := by
  cases op <;> rfl
theorem parseBin_mat (N : Nat) (op : Op) (m : Mat) (r : Value) : parseBin P N op (.mat m) r = pyMat P N m op r := by
  cases op <;> rfl

/-- Node level, ALL operations and ALL pairs of operand kinds: what the parser computes from two
    parsed children — with its operand flips for an ndarray on the left, through python's dispatch and
    AdArray's methods as coded — is the closed-form forward-mode rule in mathematical operand order,
    error kinds included. -/
theorem parseBin_eq_directBin (N : Nat) (op : Op) (l r : Value) :
    parseBin P N op l r = directBin P N op l r := by
  cases l with
  | ad a =>
    rw [parseBin_ad, pyAd_eq_directAd]
    rfl
  | scalar c =>
    rw [parseBin_scalar]
    cases r with
    | ad a => exact pyScalar_ad_eq c a op
    | _ => rfl
  | mat m =>
    rw [parseBin_mat]
    cases r with
    | ad a => cases op <;> rfl
    | _ => rfl
  | slicer s | slicers ps => cases op <;> rfl
  | vec v =>
    -- the operand flips of `_evaluate_single`
    cases r with
    | ad a =>
      cases op
      · exact flip_add (P := P) N v a
      · exact flip_sub (P := P) N v a
      · exact flip_mul (P := P) N v a
      · exact flip_div (P := P) v a
      · rfl
      · rfl
    | scalar c =>
      cases op
      case add => exact congrArg (fun w => Except.ok (Value.vec w)) (vec_scalar_add v c)
      case sub => exact congrArg (fun w => Except.ok (Value.vec w)) (vec_scalar_sub v c)
      all_goals rfl
    | vec w =>
      cases op
      case add => exact vecBin_add_comm v w
      case sub => exact vecBin_sub_flip v w
      all_goals rfl
    | _ => cases op <;> rfl

theorem stored_length {e : Env} (h : EnvWF e) {t i : Int} {st : Vec} (hs : stored e t i = .ok st) :
    st.length = e.N := by
  unfold stored at hs
  split at hs
  · split at hs
    · rename_i v hv
      cases hs
      exact h.1 _ (List.mem_of_getElem? hv)
    · cases hs
  · split at hs
    · rename_i v hv
      cases hs
      exact h.2 _ (List.mem_of_getElem? hv)
    · cases hs

/-- `acc` agrees with `st` on the index set `S` (and has its length) -/
def Agree (st : Vec) (S : Nat → Prop) (acc : Vec) : Prop :=
  acc.length = st.length ∧ ∀ d, S d → acc.getD d 0 = st.getD d 0

theorem agree_set (st : Vec) (S : Nat → Prop) (acc : Vec) (d0 : Nat) (h : Agree st S acc) :
    Agree st (fun d => S d ∨ d = d0) (acc.set d0 (st.getD d0 0)) := by
  refine ⟨by simp [h.1], ?_⟩
  intro d hd
  by_cases hdd : d = d0
  · subst hdd
    by_cases hl : d < acc.length
    · simp [List.getD_eq_getElem?_getD, hl]
    · have hl' : ¬ d < st.length := by rw [← h.1]; exact hl
      simp [List.getD_eq_getElem?_getD, hl, hl']
  · have hS : S d := by rcases hd with h1 | h1; exact h1; exact absurd h1 hdd
    have := h.2 d hS
    simp only [List.getD_eq_getElem?_getD] at this ⊢
    rw [List.getElem?_set_ne (fun e => hdd e.symm)]
    exact this

theorem agree_scatter (st : Vec) (sub : List Nat) : ∀ (S : Nat → Prop) (acc : Vec), Agree st S acc →
    Agree st (fun d => S d ∨ d ∈ sub)
      ((List.zip sub (gather st sub)).foldl (fun a p => a.set p.1 p.2) acc) := by
  induction sub with
  | nil => intro S acc h; exact ⟨h.1, fun d hd => h.2 d (by simpa using hd)⟩
  | cons d0 ds ih =>
    intro S acc h
    simp only [gather, List.map_cons, List.zip_cons_cons, List.foldl_cons]
    have h1 := agree_set st S acc d0 h
    have h2 := ih _ _ h1
    refine ⟨h2.1, fun d hd => h2.2 d ?_⟩
    rcases hd with hd | hd
    · exact Or.inl (Or.inl hd)
    · rcases List.mem_cons.mp hd with hd | hd
      · exact Or.inl (Or.inr hd)
      · exact Or.inr hd

theorem mdPrev_agree (e : Env) (t i : Int) (st : Vec) (hs : stored e t i = .ok st) :
    ∀ (subs : List (List Nat)) (S : Nat → Prop) (acc : Vec), Agree st S acc →
    ∃ filled, mdPrev e t i subs acc = .ok filled ∧ Agree st (fun d => S d ∨ d ∈ subs.flatten) filled := by
  intro subs
  induction subs with
  | nil => intro S acc h; exact ⟨acc, rfl, h.1, fun d hd => h.2 d (by simpa using hd)⟩
  | cons sub rest ih =>
    intro S acc h
    simp only [mdPrev, hs, bind_ok]
    obtain ⟨filled, hf, ha⟩ := ih _ _ (agree_scatter st sub S acc h)
    refine ⟨filled, hf, ha.1, fun d hd => ha.2 d ?_⟩
    rcases hd with hd | hd
    · exact Or.inl (Or.inl hd)
    · rw [List.flatten_cons] at hd
      rcases List.mem_append.mp hd with hd | hd
      · exact Or.inl (Or.inr hd)
      · exact Or.inr hd

theorem mdPrev_err (e : Env) (t i : Int) (err : Err) (hs : stored e t i = .error err)
    (sub : List Nat) (rest : List (List Nat)) (acc : Vec) : mdPrev e t i (sub :: rest) acc = .error err := by
  simp only [mdPrev, hs, bind_err]

theorem parseLeaf_eq_directLeaf (deriv : Bool) (e : Env) (hwf : EnvWF e) (l : Leaf) :
    parseLeaf deriv e l = directLeaf deriv e l := by
  cases l with
  | var subs md t i =>
    simp only [parseLeaf, directLeaf]
    split
    · cases md with
      | false => simp
      | true =>
        cases subs with
        | nil => simp [mdPrev, gather]
        | cons sub rest =>
          simp only [if_true, Bool.true_and, List.isEmpty_cons, Bool.false_eq_true, if_false]
          cases hs : stored e t i with
          | error err => simp only [mdPrev_err e t i err hs, bind_err]
          | ok st =>
            have hlen := stored_length hwf hs
            obtain ⟨filled, hf, ha⟩ := mdPrev_agree e t i st hs (sub :: rest) (fun _ => False) (zeros e.N)
              ⟨by simp [zeros, hlen], fun d hd => hd.elim⟩
            simp only [hf, bind_ok, pure_eq_ok]
            congr 2
            unfold gather
            exact List.map_congr_left (fun d hd => ha.2 d (Or.inr hd))
    · rfl
  | _ => rfl

theorem parse_eq_direct (deriv : Bool) (e : Env) (hwf : EnvWF e) (t : OpTree) :
    parse deriv e t = direct deriv e t := by
  induction t with
  | leaf l => exact parseLeaf_eq_directLeaf deriv e hwf l
  | projList ps => rfl
  | bin op a b iha ihb =>
    simp only [parse, direct, iha, ihb]
    congr 1; funext x; congr 1; funext y
    exact parseBin_eq_directBin _ _ _ _
  | func1 f a iha => simp only [parse, direct, iha]
  | func2 f a b iha ihb => simp only [parse, direct, iha, ihb]

end PorepyVerif.C02

