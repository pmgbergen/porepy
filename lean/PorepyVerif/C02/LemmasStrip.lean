/-
C02 — forgetting the Jacobian.  `StripsTo r r'`: whenever `r` succeeds, `r'` succeeds with the stripped result; it
composes along `>>=`.  Every level of the evaluation (slicer products and sums, the node rule `directBin`, function
bodies, wrapped functions, leaves, trees) satisfies it between its arguments and its stripped arguments.  A value is no
AdArray exactly when `strip` fixes it, so "plain operands give no AdArray" is the same statement read at plain operands
(`okNoAd_iff`); only python's dispatch tables themselves (`noAd_py…`) are inspected directly.
-/
import PorepyVerif.C02.LemmasNode
namespace PorepyVerif.C02

variable {P : PowFns}

/-- a result that, when it is a value, is not an AdArray -/
def okNoAd (r : R Value) : Prop := ∀ z, r = .ok z → z.isAd = false

/-- Used as `okNoAd_of rfl`: closes the goal when `r` reduces, by evaluation alone, to an error or to a value other
    than an AdArray.  A test on the data or a monadic step does not reduce: take it apart first with `okNoAd_ite` / `okNoAd_bind`. -/
theorem okNoAd_of {r : R Value} (h : (match r with | .ok (.ad _) => false | _ => true) = true) : okNoAd r := by
  intro z hz
  subst hz
  cases z with
  | ad a => cases h
  | _ => rfl

theorem okNoAd_ite {c : Prop} [Decidable c] {a b : R Value} (ha : okNoAd a) (hb : okNoAd b) :
    okNoAd (if c then a else b) := by split <;> assumption

theorem okNoAd_bind {α : Type} {x : R α} {f : α → R Value} (hf : ∀ v, okNoAd (f v)) : okNoAd (x >>= f) := by
  cases x with
  | error e => exact okNoAd_of rfl
  | ok v => exact hf v

theorem okNoAd_vecBin (f : Rat → Rat → Rat) (v w : Vec) : okNoAd (vecBin f v w) := by
  unfold vecBin
  cases bvv v w <;> exact okNoAd_of rfl

/-! Branch by branch through python's dispatch: the named cases are the guarded and the monadic branches, the others
are plain values or errors. -/

theorem noAd_pyScalar (c : Rat) (op : Op) (r : Value) (hr : r.isAd = false) : okNoAd (pyScalar P c op r) := by
  cases r with
  | ad a => cases hr
  | scalar d | vec v =>
    cases op
    case div => exact okNoAd_ite (okNoAd_of rfl) (okNoAd_of rfl)
    case pow => exact okNoAd_bind fun _ => okNoAd_of rfl
    all_goals exact okNoAd_of rfl
  | mat m =>
    cases op
    case add | sub => exact okNoAd_ite (okNoAd_of rfl) (okNoAd_of rfl)
    all_goals exact okNoAd_of rfl
  | _ => exact okNoAd_of rfl

theorem noAd_pyVec (v : Vec) (op : Op) (r : Value) (hr : r.isAd = false) : okNoAd (pyVec P v op r) := by
  cases r with
  | ad a => cases hr
  | scalar c =>
    cases op
    case div => exact okNoAd_ite (okNoAd_of rfl) (okNoAd_of rfl)
    case pow => exact okNoAd_bind fun _ => okNoAd_of rfl
    all_goals exact okNoAd_of rfl
  | vec w =>
    cases op
    case matmul => exact okNoAd_of rfl
    case div =>
      change okNoAd (match bvv v w with | none => _ | some (v', w') => _)
      cases bvv v w with
      | none => exact okNoAd_of rfl
      | some p => exact okNoAd_ite (okNoAd_of rfl) (okNoAd_of rfl)
    case pow =>
      change okNoAd (match bvv v w with | none => _ | some (v', w') => _)
      cases bvv v w with
      | none => exact okNoAd_of rfl
      | some p => exact okNoAd_bind fun _ => okNoAd_of rfl
    all_goals exact okNoAd_vecBin _ v w
  | mat _ | slicer _ => cases op <;> exact okNoAd_of rfl
  | slicers _ => exact okNoAd_of rfl

theorem noAd_pyMat (N : Nat) (m : Mat) (op : Op) (r : Value) (hr : r.isAd = false) : okNoAd (pyMat P N m op r) := by
  cases r with
  | ad a => cases hr
  | scalar c =>
    cases op
    case add | sub | div => exact okNoAd_ite (okNoAd_of rfl) (okNoAd_of rfl)
    all_goals exact okNoAd_of rfl
  | vec v =>
    cases op
    case matmul => exact okNoAd_ite (okNoAd_of rfl) (okNoAd_of rfl)
    all_goals exact okNoAd_of rfl
  | mat k =>
    cases op
    case add | sub | matmul => exact okNoAd_ite (okNoAd_of rfl) (okNoAd_of rfl)
    all_goals exact okNoAd_of rfl
  | _ => exact okNoAd_of rfl

theorem noAd_slicerMatmul (N : Nat) (s : Slicer) (r : Value) (hr : r.isAd = false) : okNoAd (slicerMatmul N s r) := by
  cases r with
  | ad a => cases hr
  | slicer _ | slicers _ => exact okNoAd_of rfl
  | _ => exact okNoAd_bind fun _ => okNoAd_of rfl

theorem noAd_sumAdd (x y : Value) (hx : x.isAd = false) : okNoAd (sumAdd x y) := by
  unfold sumAdd
  split
  · exact okNoAd_ite (okNoAd_of rfl) (okNoAd_of rfl)
  · exact okNoAd_ite (okNoAd_of rfl) (okNoAd_of rfl)
  · cases hx
  · exact okNoAd_of rfl

theorem eq_ad_of_isAd {v : Value} (h : v.isAd = true) : ∃ a, v = .ad a := by
  cases v with
  | ad a => exact ⟨a, rfl⟩
  | _ => cases h

theorem strip_of_noAd (z : Value) (h : z.isAd = false) : strip z = z := by
  cases z <;> first | rfl | cases h

theorem strip_isAd (x : Value) : (strip x).isAd = false := by cases x <;> rfl
theorem strip_idem_scalar (c : Rat) : strip (.scalar c) = .scalar c := rfl

theorem strip_strip (x : Value) : strip (strip x) = strip x := by cases x <;> rfl

/-- whenever `r` succeeds, `r'` succeeds with the same result, Jacobian forgotten -/
def StripsTo (r r' : R Value) : Prop := ∀ z, r = .ok z → r' = .ok (strip z)

theorem StripsTo.bind {x x' : R Value} {f f' : Value → R Value} (hx : StripsTo x x')
    (hf : ∀ a, StripsTo (f a) (f' (strip a))) : StripsTo (x >>= f) (x' >>= f') := by
  intro z h
  obtain ⟨a, ha, h⟩ := Common.bind_eq_ok.mp h
  exact Common.bind_eq_ok.mpr ⟨_, hx a ha, hf a z h⟩

/-- a value is no AdArray exactly when `strip` fixes it: the facts "plain operands give no AdArray" are the
    homomorphism theorems read at plain operands -/
theorem okNoAd_iff (r : R Value) : okNoAd r ↔ StripsTo r r := by
  constructor
  · intro h z hz
    rw [strip_of_noAd z (h z hz)]
    exact hz
  · intro h z hz
    rw [Except.ok.inj (hz.symm.trans (h z hz))]
    exact strip_isAd z

theorem StripsTo.okNoAd {r r' : R Value} (h : StripsTo r r') (heq : r' = r) : okNoAd r :=
  (okNoAd_iff r).mpr (heq ▸ h)

theorem scatterFrom_map {α β : Type} (f : α → β) (x : List α) :
    ∀ (d r : List Nat) (out : List α),
      scatterFrom (x.map f) d r (out.map f) = (scatterFrom x d r out).map (List.map f) := by
  intro d
  induction d with
  | nil =>
    intro r out
    cases r <;> rfl
  | cons d0 ds ih =>
    intro r out
    cases r with
    | nil => rfl
    | cons r0 rs =>
      simp only [scatterFrom, List.getElem?_map, List.length_map]
      cases hx : x[d0]? with
      | none => rfl
      | some e =>
        simp only [Option.map_some]
        split
        · rw [← ih rs (out.set r0 e), List.map_set]
        · rfl

theorem hom_slicerMatmul (N : Nat) (s : Slicer) (x t : Value) (h : slicerMatmul N s x = .ok t) :
    slicerMatmul N s (strip x) = .ok (strip t) := by
  cases x with
  | ad a =>
    simp only [slicerMatmul, Common.bind_eq_ok, pure_eq_ok, Except.ok.injEq] at h
    obtain ⟨o, ho, rfl⟩ := h
    have := scatterFrom_map (fun u : Dual => u.v) a s.dom s.rng (List.replicate s.rsize ⟨0, zeros N⟩)
    simp only [List.map_replicate, ho] at this
    simp only [strip, slicerMatmul, vals, zeros, this]
    rfl
  | _ =>
    rw [strip_of_noAd t (noAd_slicerMatmul N s _ rfl t h)]
    exact h

theorem hom_sumAdd (p q z : Value) (h : sumAdd p q = .ok z) : sumAdd (strip p) (strip q) = .ok (strip z) := by
  cases p with
  | ad a =>
    cases q with
    | ad b =>
      simp only [sumAdd, adAdd] at h
      split at h
      · cases h
      · rename_i hl
        cases h
        simp [strip, sumAdd, vals, hl, List.map_zipWith, List.zipWith_map_left, List.zipWith_map_right]
    | _ => cases h
  | _ =>
    rw [strip_of_noAd z (noAd_sumAdd _ q rfl z h)]
    cases q with
    | ad b => cases h
    | _ => exact h

theorem hom_foldlM (N : Nat) (x : Value) (rest : List Slicer) : ∀ acc : Value,
    StripsTo (rest.foldlM (fun acc q => do let t ← slicerMatmul N q x; sumAdd acc t) acc)
      (rest.foldlM (fun acc q => do let t ← slicerMatmul N q (strip x); sumAdd acc t) (strip acc)) := by
  induction rest with
  | nil => intro acc z h; cases h; rfl
  | cons q rest ih =>
    intro acc
    exact (StripsTo.bind (hom_slicerMatmul N q x) fun t => hom_sumAdd acc t).bind ih

theorem hom_sumSlicers (N : Nat) (ps : List Slicer) (x : Value) :
    StripsTo (sumSlicers N ps x) (sumSlicers N ps (strip x)) := by
  cases ps with
  | nil => intro z h; cases h; rfl
  | cons p rest => exact StripsTo.bind (hom_slicerMatmul N p x) (hom_foldlM N x rest)

theorem noAd_py (N : Nat) (op : Op) (l r : Value) (hl : l.isAd = false) (hr : r.isAd = false) :
    okNoAd (py P N op l r) := by
  cases l with
  | scalar c => exact noAd_pyScalar c op r hr
  | vec v => exact noAd_pyVec v op r hr
  | mat m => exact noAd_pyMat N m op r hr
  | ad a => cases hl
  | slicer s =>
    cases op
    case matmul => exact noAd_slicerMatmul N s r hr
    all_goals exact okNoAd_of rfl
  | slicers ps => exact okNoAd_of rfl

theorem directBin_scalar (N : Nat) (op : Op) (c : Rat) (r : Value) (hr : r.isAd = false) :
    directBin P N op (.scalar c) r = pyScalar P c op r := by
  cases r with
  | ad a => cases hr
  | _ => rfl

theorem directBin_mat (N : Nat) (op : Op) (m : Mat) (r : Value) (hr : r.isAd = false) :
    directBin P N op (.mat m) r = pyMat P N m op r := by
  cases r with
  | ad a => cases hr
  | _ => rfl

theorem noAd_directBin (N : Nat) (op : Op) (l r : Value) (hl : l.isAd = false) (hr : r.isAd = false) :
    okNoAd (directBin P N op l r) := by
  cases l with
  | ad a => cases hl
  | slicers ps =>
    cases op
    case matmul => exact (hom_sumSlicers N ps r).okNoAd (by rw [strip_of_noAd r hr])
    all_goals exact okNoAd_of rfl
  | vec v =>
    -- except for a slicer on the right, `directBin` on an ndarray is python's dispatch
    have key : ∀ r, r.isAd = false → directBin P N op (.vec v) r = pyVec P v op r →
        okNoAd (directBin P N op (.vec v) r) := fun r hr h => h ▸ noAd_pyVec v op r hr
    cases r with
    | ad a => cases hr
    | slicer s => cases op <;> exact okNoAd_of rfl
    | slicers ps => exact okNoAd_of rfl
    | scalar c | vec w | mat m => exact key _ rfl (by cases op <;> rfl)
  | scalar c =>
    rw [directBin_scalar N op c r hr]
    exact noAd_pyScalar c op r hr
  | mat m =>
    rw [directBin_mat N op m r hr]
    exact noAd_pyMat N m op r hr
  | slicer s => exact noAd_py (P := P) N op (.slicer s) r rfl hr

theorem noAd_parseLeaf_false (e : Env) (l : Leaf) : okNoAd (parseLeaf false e l) := by
  cases l with
  | var subs md t i =>
    exact okNoAd_ite (okNoAd_ite (okNoAd_bind fun _ => okNoAd_of rfl) (okNoAd_bind fun _ => okNoAd_of rfl))
      (okNoAd_of rfl)
  | td id t =>
    simp only [parseLeaf]
    repeat' split
    all_goals exact okNoAd_of rfl
  | _ => exact okNoAd_of rfl

theorem powEntry_ok (x c : Rat) (h : powEOk P x c = true) : powEntry P x c = .ok (powE P x c) := by
  simp only [powEntry, h, if_true]

theorem powEOk_of_powOk {x c : Rat} (h : powOk P x c = true) : powEOk P x c = true := by
  unfold powOk at h
  exact (Bool.and_eq_true_iff.mp h).1

theorem vals_zipWith_left (f : Dual → Rat → Dual) (g : Rat → Rat → Rat) (hf : ∀ u c, (f u c).v = g u.v c)
    (a : Ad) (w : Vec) : vals (List.zipWith f a w) = List.zipWith g (vals a) w := by
  simp only [vals, List.map_zipWith, List.zipWith_map_left, hf]

theorem vals_zipWith_swap (f : Dual → Rat → Dual) (g : Rat → Rat → Rat) (hf : ∀ u c, (f u c).v = g c u.v)
    (a : Ad) (w : Vec) : vals (List.zipWith f a w) = List.zipWith g w (vals a) := by
  simp only [vals, List.map_zipWith, hf]
  rw [List.zipWith_map_right, List.zipWith_comm]

theorem vals_zipWith_both (f : Dual → Dual → Dual) (g : Rat → Rat → Rat) (hf : ∀ u w, (f u w).v = g u.v w.v)
    (a b : Ad) : vals (List.zipWith f a b) = List.zipWith g (vals a) (vals b) := by
  simp only [vals, List.map_zipWith, List.zipWith_map_left, List.zipWith_map_right, hf]

theorem vals_length (a : Ad) : (vals a).length = a.length := List.length_map _

theorem vals_map (f : Dual → Dual) (g : Rat → Rat) (hf : ∀ u, (f u).v = g u.v) (a : Ad) :
    vals (a.map f) = (vals a).map g := by
  simp only [vals, List.map_map]
  exact map_congr' a hf

theorem strip_map (f : Dual → Dual) (g : Rat → Rat) (hf : ∀ u, (f u).v = g u.v) (a : Ad) :
    (Except.ok (.vec ((vals a).map g)) : R Value) = .ok (strip (.ad (a.map f))) := by
  rw [strip, vals_map f g hf]

/-- entrywise powers of two lists of rows / entries none of whose pairs is flagged -/
theorem pow_zip_ok {α β : Type} (bad : α → β → Bool) (fx : α → Rat) (fy : β → Rat)
    (hbad : ∀ x y, bad x y = false → powEOk P (fx x) (fy y) = true) :
    ∀ (xs : List α) (ys : List β), ¬ (List.zipWith bad xs ys).any id = true →
      (List.zipWith (fun p q => (p, q)) (xs.map fx) (ys.map fy)).mapM (fun p => powEntry P p.1 p.2)
        = .ok (List.zipWith (powE P) (xs.map fx) (ys.map fy)) := by
  intro xs
  induction xs with
  | nil => intro ys _; rfl
  | cons x xs ih =>
    intro ys hp
    cases ys with
    | nil => rfl
    | cons y ys =>
      simp only [List.zipWith_cons_cons, List.any_cons, id, Bool.or_eq_true, not_or, Bool.not_eq_true] at hp
      simp only [List.map_cons, List.zipWith_cons_cons, List.mapM_cons, powEntry_ok _ _ (hbad x y hp.1), bind_ok,
        ih ys (by simpa using hp.2)]
      rfl

theorem bAV_of_zipAV {f : Dual → Rat → Dual} {a : Ad} {v : Vec} {z : Value} (h : zipAV f a v = .ok z) :
    bAV f a v = .ok z := by
  obtain ⟨hl, h⟩ := Common.ite_error_eq_ok.mp h
  simp only [bAV, expand, Decidable.of_not_not hl, if_true]
  exact h

theorem hom_bAV (f : Dual → Rat → Dual) (g : Rat → Rat → Rat) (hf : ∀ u c, (f u c).v = g u.v c)
    {a : Ad} {v : Vec} {z : Value} (h : bAV f a v = .ok z) : vecBin g (vals a) v = .ok (strip z) := by
  unfold bAV at h
  cases he : expand a.length v with
  | none => rw [he] at h; cases h
  | some w =>
    rw [he] at h; cases h
    simp only [vecBin, bvv_of_expand_right (vals_length a) he, strip, vals_zipWith_left f g hf]

theorem hom_bAV_swap (f : Dual → Rat → Dual) (g : Rat → Rat → Rat) (hf : ∀ u c, (f u c).v = g c u.v)
    {a : Ad} {v : Vec} {z : Value} (h : bAV f a v = .ok z) : vecBin g v (vals a) = .ok (strip z) := by
  rw [vecBin_swap]
  exact hom_bAV f (fun x y => g y x) hf h

theorem hom_zipAA (f : Dual → Dual → Dual) (g : Rat → Rat → Rat) (hf : ∀ u w, (f u w).v = g u.v w.v)
    {a b : Ad} {z : Value} (h : zipAA f a b = .ok z) : vecBin g (vals a) (vals b) = .ok (strip z) := by
  obtain ⟨hl, h⟩ := Common.ite_error_eq_ok.mp h
  cases h
  rw [vecBin_of_len g (by rw [vals_length, vals_length]; exact Decidable.of_not_not hl)]
  simp only [strip, vals_zipWith_both f g hf]

theorem directBin_div_vec (N : Nat) {v w : Vec} (hz : hasZero w = false) :
    directBin P N .div (.vec v) (.vec w) = vecBin (· / ·) v w := by
  change pyVec P v .div (.vec w) = _
  simp only [pyVec, vecBin, hz]
  cases bvv v w <;> rfl

theorem directBin_pow_vec (N : Nat) {v w v' w' : Vec} (hb : bvv v w = some (v', w'))
    (hm : (List.zipWith (fun p q => (p, q)) v' w').mapM (fun p => powEntry P p.1 p.2)
      = .ok (List.zipWith (powE P) v' w')) :
    directBin P N .pow (.vec v) (.vec w) = .ok (.vec (List.zipWith (powE P) v' w')) := by
  change pyVec P v .pow (.vec w) = _
  simp only [pyVec, hb, hm, bind_ok, pure_eq_ok]

theorem mapM_vals_ok (f : Rat → R Rat) (g : Rat → Rat) (bad : Dual → Bool) (hb : ∀ u, bad u = false → f u.v = .ok (g u.v)) :
    ∀ a : Ad, ¬ a.any bad = true → (vals a).mapM f = .ok ((vals a).map g) := by
  intro a
  induction a with
  | nil => intro _; rfl
  | cons u us ih =>
    intro h
    simp only [List.any_cons, Bool.or_eq_true, not_or, Bool.not_eq_true] at h
    simp only [vals, List.map_cons, List.mapM_cons, hb u h.1, bind_ok] at ih ⊢
    rw [ih (by simpa using h.2)]
    rfl

theorem hom_ad_scalar (N : Nat) (a : Ad) (c : Rat) (op : Op) (z : Value)
    (h : directAd P a op (.scalar c) = .ok z) :
    directBin P N op (.vec (vals a)) (.scalar c) = .ok (strip z) := by
  cases op
  case add => cases h; exact strip_map _ (· + c) (fun _ => rfl) a
  case sub => cases h; exact strip_map _ (· - c) (fun _ => rfl) a
  case mul => cases h; exact strip_map _ (· * c) (fun _ => rfl) a
  case div =>
    obtain ⟨hc, h⟩ := Common.ite_error_eq_ok.mp h
    cases h
    exact (if_neg hc).trans (strip_map _ (· / c) (fun _ => rfl) a)
  case pow =>
    obtain ⟨hok, h⟩ := Common.ite_error_eq_ok.mp h
    cases h
    change (vals a).mapM (fun x => powEntry P x c) >>= _ = _
    rw [mapM_vals_ok (fun x => powEntry P x c) (powE P · c) _ (fun u hu => powEntry_ok _ _ (powEOk_of_powOk (by simpa using hu))) a hok]
    exact strip_map _ (powE P · c) (fun _ => rfl) a
  case matmul => cases h

theorem hom_scalar_ad (N : Nat) (c : Rat) (a : Ad) (op : Op) (z : Value)
    (h : directSA P c a op = .ok z) :
    directBin P N op (.scalar c) (.vec (vals a)) = .ok (strip z) := by
  cases op
  case add => cases h; exact strip_map _ (c + ·) (fun _ => rfl) a
  case sub => cases h; exact strip_map _ (c - ·) (fun _ => rfl) a
  case mul => cases h; exact strip_map _ (c * ·) (fun _ => rfl) a
  case div =>
    obtain ⟨hz, h⟩ := Common.ite_error_eq_ok.mp h
    cases h
    exact (if_neg hz).trans (strip_map _ (c / ·) (fun _ => rfl) a)
  case pow =>
    obtain ⟨hok, h⟩ := Common.ite_error_eq_ok.mp h
    cases h
    change (vals a).mapM (powEntry P c) >>= _ = _
    rw [mapM_vals_ok (powEntry P c) (powE P c) _ (fun u hu => powEntry_ok _ _ (by simp at hu; exact hu.1)) a hok]
    exact strip_map _ (powE P c) (fun _ => rfl) a
  case matmul => cases h

theorem hom_ad_vec (N : Nat) (a : Ad) (w : Vec) (op : Op) (z : Value)
    (h : directAd P a op (.vec w) = .ok z) :
    directBin P N op (.vec (vals a)) (.vec w) = .ok (strip z) := by
  cases op
  case add => exact hom_bAV dAddC (· + ·) (fun _ _ => rfl) h
  case sub => exact hom_bAV dSubC (· - ·) (fun _ _ => rfl) h
  case mul => exact hom_bAV dMulC (· * ·) (fun _ _ => rfl) (bAV_of_zipAV h)
  case div =>
    obtain ⟨_, h⟩ := Common.ite_error_eq_ok.mp h
    obtain ⟨hz, h⟩ := Common.ite_error_eq_ok.mp h
    rw [directBin_div_vec N (by simpa using hz)]
    exact hom_bAV dDivC (· / ·) (fun _ _ => rfl) (bAV_of_zipAV h)
  case pow =>
    change dPowV P a w = _ at h
    unfold dPowV at h
    cases he : expand a.length w with
    | none => rw [he] at h; cases h
    | some w' =>
      rw [he] at h
      obtain ⟨hp, h⟩ := Common.ite_error_eq_ok.mp h
      cases h
      have hm := pow_zip_ok (fun (u : Dual) (c : Rat) => !powOk P u.v c) (·.v) id
        (fun u c h => powEOk_of_powOk (by simpa using h)) a w' hp
      rw [List.map_id] at hm
      rw [directBin_pow_vec N (bvv_of_expand_right (vals_length a) he) hm]
      simp only [strip, vals_zipWith_left (dPowC P) (powE P) (fun _ _ => rfl)]
  case matmul => cases h

theorem hom_ad_ad (N : Nat) (a b : Ad) (op : Op) (z : Value)
    (h : directAd P a op (.ad b) = .ok z) :
    directBin P N op (.vec (vals a)) (.vec (vals b)) = .ok (strip z) := by
  cases op
  case add => exact hom_zipAA dAdd (· + ·) (fun _ _ => rfl) h
  case sub => exact hom_zipAA dSub (· - ·) (fun _ _ => rfl) h
  case mul => exact hom_zipAA dMul (· * ·) (fun _ _ => rfl) h
  case div =>
    obtain ⟨_, h⟩ := Common.ite_error_eq_ok.mp h
    obtain ⟨hz, h⟩ := Common.ite_error_eq_ok.mp h
    rw [directBin_div_vec N (by simpa using hz)]
    exact hom_zipAA dDiv (· / ·) (fun _ _ => rfl) h
  case pow =>
    obtain ⟨hl, h⟩ := Common.ite_error_eq_ok.mp h
    obtain ⟨hp, h⟩ := Common.ite_error_eq_ok.mp h
    cases h
    have hl' : (vals a).length = (vals b).length := by
      rw [vals_length, vals_length]; exact Decidable.of_not_not hl
    have hm := pow_zip_ok (fun (u w : Dual) => !(powOk P u.v w.v && P.logOk u.v)) (·.v) (·.v)
      (fun u w h => powEOk_of_powOk (by simp at h; exact h.1)) a b hp
    rw [directBin_pow_vec N (bvv_of_len hl') hm]
    simp only [strip, vals_zipWith_both (dPow P) (powE P) (fun _ _ => rfl)]
  case matmul => cases h

theorem hom_vec_ad (N : Nat) (v : Vec) (a : Ad) (op : Op) (z : Value)
    (h : directVA P v a op = .ok z) :
    directBin P N op (.vec v) (.vec (vals a)) = .ok (strip z) := by
  cases op
  case add => exact hom_bAV_swap (fun u c => dCAdd c u) (· + ·) (fun _ _ => rfl) h
  case sub => exact hom_bAV_swap (fun u c => dCSub c u) (· - ·) (fun _ _ => rfl) h
  case mul => exact hom_bAV_swap (fun u c => dCMul c u) (· * ·) (fun _ _ => rfl) (bAV_of_zipAV h)
  case div =>
    obtain ⟨hz, h⟩ := Common.ite_error_eq_ok.mp h
    rw [directBin_div_vec N (by simpa using hz)]
    exact hom_bAV_swap (fun u c => dCDiv c u) (· / ·) (fun _ _ => rfl) (bAV_of_zipAV h)
  case pow =>
    change dCPowV P v a = _ at h
    unfold dCPowV at h
    cases he : expand a.length v with
    | none => rw [he] at h; cases h
    | some w' =>
      rw [he] at h
      obtain ⟨hp, h⟩ := Common.ite_error_eq_ok.mp h
      cases h
      rw [List.zipWith_comm] at hp
      have hm := pow_zip_ok (fun (c : Rat) (u : Dual) => !(powEOk P c u.v && P.logOk c)) id (·.v)
        (fun c u h => by simp at h; exact h.1) w' a hp
      rw [List.map_id] at hm
      rw [directBin_pow_vec N (bvv_of_expand_left (vals_length a) he) hm]
      simp only [strip, vals_zipWith_swap (fun u c => dCPow P c u) (powE P) (fun _ _ => rfl)]
  case matmul => cases h

theorem combo_v (N : Nat) (r : List Rat) (a : Ad) : (combo N r a).v = dot r (vals a) := by
  unfold combo dot vals
  suffices ∀ (acc : Dual) (s : Rat), acc.v = s →
      ((List.zipWith (fun (c : Rat) (u : Dual) => (c, u)) r a).foldl
        (fun acc p => (⟨acc.v + p.1 * p.2.v, gadd acc.g (gscale p.1 p.2.g)⟩ : Dual)) acc).v
      = (List.zipWith (· * ·) r (a.map (·.v))).foldl (· + ·) s from this _ _ rfl
  induction r generalizing a with
  | nil => intro acc s h; simpa using h
  | cons c cs ih =>
    intro acc s h
    cases a with
    | nil => simpa using h
    | cons u us =>
      simp only [List.zipWith_cons_cons, List.foldl_cons, List.map_cons]
      exact ih us _ _ (by simp [h])

theorem hom_mat_ad (N : Nat) (m : Mat) (a : Ad) (op : Op) (z : Value)
    (h : directBin P N op (.mat m) (.ad a) = .ok z) :
    directBin P N op (.mat m) (.vec (vals a)) = .ok (strip z) := by
  cases op
  case matmul =>
    obtain ⟨hl, h⟩ := Common.ite_error_eq_ok.mp h
    cases h
    have hl' : ¬ m.nc ≠ (vals a).length := by rw [vals_length]; exact fun e => hl e.symm
    change matVec m (vals a) = _
    simp only [matVec, if_neg hl']
    simp only [strip, vals, List.map_map]
    exact congrArg (fun w => Except.ok (Value.vec w)) (map_congr' _ (fun r => (combo_v N r a).symm))
  all_goals cases h

theorem hom_data_ad (N : Nat) (op : Op) (x : Value) (hx : x.isAd = false) (a : Ad) (z : Value)
    (h : directBin P N op x (.ad a) = .ok z) : directBin P N op x (.vec (vals a)) = .ok (strip z) := by
  cases x with
  | ad b => cases hx
  | scalar c => exact hom_scalar_ad N c a op z h
  | vec v => exact hom_vec_ad N v a op z h
  | mat m => exact hom_mat_ad N m a op z h
  | slicer s =>
    cases op
    case matmul => exact hom_slicerMatmul N s (.ad a) z h
    all_goals cases h
  | slicers ps =>
    cases op
    case matmul => exact hom_sumSlicers N ps _ z h
    all_goals cases h

theorem directBin_strip (N : Nat) (op : Op) (x y z : Value) (h : directBin P N op x y = .ok z) :
    directBin P N op (strip x) (strip y) = .ok (strip z) := by
  cases hx : x.isAd with
  | false =>
    cases hy : y.isAd with
    | false =>
      rw [strip_of_noAd x hx, strip_of_noAd y hy]
      exact (okNoAd_iff _).mp (noAd_directBin N op x y hx hy) z h
    | true =>
      obtain ⟨b, rfl⟩ := eq_ad_of_isAd hy
      rw [strip_of_noAd x hx]
      exact hom_data_ad N op x hx b z h
  | true =>
    obtain ⟨a, rfl⟩ := eq_ad_of_isAd hx
    cases y with
    | scalar c => exact hom_ad_scalar N a c op z h
    | vec w => exact hom_ad_vec N a w op z h
    | ad b => exact hom_ad_ad N a b op z h
    | mat m => cases h
    | _ => cases op <;> cases h

theorem hom_feval (N : Nat) (f : FExpr) (x y : Value) :
    StripsTo (f.eval P N x y) (f.eval P N (strip x) (strip y)) := by
  induction f with
  | x | y | const c => intro z h; cases h; rfl
  | add a b iha ihb | sub a b iha ihb | mul a b iha ihb =>
    exact iha.bind fun p => ihb.bind fun q => directBin_strip N _ p q

theorem vals_adRows (state : Vec) (idx : List Nat) : vals (adRows state idx) = gather state idx := by
  simp [vals, adRows, gather, List.map_map, Function.comp_def]

/-- only a variable at the current time step and iterate looks at `deriv` -/
theorem parseLeaf_deriv_irrel (e : Env) (l : Leaf) (h : (OpTree.leaf l).noCurrent = true) :
    parseLeaf true e l = parseLeaf false e l := by
  cases l with
  | var subs md t i =>
    simp only [OpTree.noCurrent, Bool.or_eq_true, decide_eq_true_eq] at h
    simp only [parseLeaf, if_pos h]
  | _ => rfl

theorem hom_parseLeaf (e : Env) (l : Leaf) (z : Value) (h : parseLeaf true e l = .ok z) :
    parseLeaf false e l = .ok (strip z) := by
  by_cases hc : (OpTree.leaf l).noCurrent = true
  · rw [parseLeaf_deriv_irrel e l hc] at h
    rw [h, strip_of_noAd z (noAd_parseLeaf_false e l z h)]
  · cases l with
    | var subs md t i =>
      simp only [OpTree.noCurrent, Bool.or_eq_true, decide_eq_true_eq] at hc
      simp only [parseLeaf, if_neg hc, if_true] at h ⊢
      cases h
      simp only [Bool.false_eq_true, if_false, strip, vals_adRows]
    | _ => exact absurd rfl hc

theorem parseLeaf_strip (deriv : Bool) (e : Env) (l : Leaf) :
    StripsTo (parseLeaf deriv e l) (parseLeaf false e l) := by
  cases deriv with
  | false => exact (okNoAd_iff _).mp (noAd_parseLeaf_false e l)
  | true => exact hom_parseLeaf e l

theorem wrapErr_ok {r : R Value} {z : Value}
    (h : (match r with | .ok v => (.ok v : R Value) | .error e => .error (funcErr e)) = .ok z) : r = .ok z := by
  cases r with
  | error e => cases h
  | ok v => exact h

theorem vals_zipWith_mk : ∀ (w : Vec) (rows : List (List Rat)), w.length = rows.length →
    vals (List.zipWith (fun c g => (⟨c, g⟩ : Dual)) w rows) = w := by
  intro w
  induction w with
  | nil => intro rows _; rfl
  | cons c cs ih =>
    intro rows hl
    cases rows with
    | nil => simp at hl
    | cons g gs =>
      simp only [vals, List.zipWith_cons_cons, List.map_cons] at ih ⊢
      rw [ih gs (by simpa using hl)]

/-- a DiagonalJacobianFunction returns, up to the Jacobian, its values on the plain arguments -/
theorem applyDiag_spec (N : Nat) (f : FExpr) (m1 : Rat) (m2 : Option Rat) (x y z : Value)
    (h : applyDiag P N f m1 m2 x y = .ok z) : f.eval P N (strip x) (strip y) = .ok (strip z) := by
  obtain ⟨v, hv, h⟩ := Common.bind_eq_ok.mp h
  have hnv := (hom_feval N f (strip x) (strip y)).okNoAd (by rw [strip_strip, strip_strip]) v hv
  rw [hv]
  split at h
  · cases h
    rw [strip_of_noAd _ hnv]
  · obtain ⟨rows, _, h⟩ := Common.bind_eq_ok.mp h
    cases v with
    | vec w =>
      obtain ⟨hl, h⟩ := Common.ite_error_eq_ok.mp h
      cases h
      simp only [strip, vals_zipWith_mk w rows (Decidable.of_not_not hl)]
    | _ => cases h

theorem hom_applyFunc (N : Nat) (F : Func) (x y z : Value) (h : applyFunc P N F x y = .ok z) :
    applyFunc P N F (strip x) (strip y) = .ok (strip z) := by
  unfold applyFunc at h ⊢
  have h' := wrapErr_ok h
  cases F with
  | poly f => simp only [hom_feval N f x y z h']
  | diag f m1 m2 =>
    have hs := applyDiag_spec N f m1 m2 x y z h'
    simp only [applyDiag, strip_strip, hs, bind_ok, strip_isAd, Bool.or_self, Bool.not_false, if_true, pure_eq_ok]

/-- The evaluation without derivatives follows every evaluation, Jacobians forgotten.  At `deriv = true` this is
    `parse_val_noderiv`, at `deriv = false` it says that no AdArray arises without derivatives. -/
theorem parse_strip (deriv : Bool) (e : Env) (t : OpTree) : StripsTo (parse deriv e t) (parse false e t) := by
  induction t with
  | leaf l => exact parseLeaf_strip deriv e l
  | projList ps => intro z h; cases h; rfl
  | bin op a b iha ihb =>
    refine iha.bind fun x => ihb.bind fun y => ?_
    rw [parseBin_eq_directBin, parseBin_eq_directBin]
    exact directBin_strip e.N op x y
  | func1 f a iha => exact iha.bind fun x => hom_applyFunc e.N f x x
  | func2 f a b iha ihb => exact iha.bind fun x => ihb.bind fun y => hom_applyFunc e.N f x y

theorem noAd_parse_false (e : Env) (t : OpTree) : okNoAd (parse false e t) :=
  (okNoAd_iff _).mpr (parse_strip false e t)

end PorepyVerif.C02

