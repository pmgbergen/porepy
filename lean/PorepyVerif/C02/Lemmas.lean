/-
C02 — Jacobian rows under `+`, commutation of `+`, transparency of the leaf cache (a refinement that composes along
`>>=`), and the index invariants of the trees python builds (shifts, overloads).
-/
import PorepyVerif.C02.LemmasNode
namespace PorepyVerif.C02

variable {P : PowFns}

theorem jacRows_zipWith_left (f : Dual → Rat → Dual) (hf : ∀ u c, (f u c).g = u.g) :
    ∀ (a : Ad) (v : Vec), a.length = v.length → jacRows (List.zipWith f a v) = jacRows a := by
  intro a
  induction a with
  | nil => intro v _; rfl
  | cons u us ih =>
    intro v hl
    cases v with
    | nil => simp at hl
    | cons c cs =>
      simp only [jacRows, List.zipWith_cons_cons, List.map_cons, hf] at ih ⊢
      rw [ih cs (by simpa using hl)]

theorem jacRows_map (f : Dual → Dual) (hf : ∀ u, (f u).g = u.g) (a : Ad) : jacRows (a.map f) = jacRows a := by
  simp only [jacRows, List.map_map]
  exact map_congr' a hf

theorem jacRows_bAV (f : Dual → Rat → Dual) (hf : ∀ u c, (f u c).g = u.g) {a : Ad} {v : Vec} {z : Value}
    (h : bAV f a v = .ok z) : ∃ x', z = .ad x' ∧ jacRows x' = jacRows a := by
  unfold bAV at h
  cases he : expand a.length v with
  | none => rw [he] at h; cases h
  | some w =>
    rw [he] at h; cases h
    exact ⟨_, rfl, jacRows_zipWith_left f hf a w (expand_length he).symm⟩

theorem gadd_comm (g h : List Rat) : gadd g h = gadd h g := by
  unfold gadd
  rw [List.zipWith_comm]
  exact zipWith_congr' h g (fun x y => by grind)

theorem matAdd_comm (m k : Mat) : matAddSub false m k = matAddSub false k m := by
  obtain ⟨mn, mr⟩ := m
  obtain ⟨kn, kr⟩ := k
  unfold matAddSub
  simp only
  by_cases h1 : mn = kn
  · subst h1
    by_cases h2 : mr.length = kr.length
    · simp only [ne_eq, not_true_eq_false, false_or, h2, Bool.false_eq_true, if_false]
      rw [List.zipWith_comm]
      congr 3
      exact zipWith_congr' kr mr (fun r s => gadd_comm s r)
    · have h2' : ¬ kr.length = mr.length := fun e => h2 e.symm
      simp [h2, h2']
  · have h1' : ¬ kn = mn := fun e => h1 e.symm
    simp [h1, h1']

theorem dAdd_comm (u w : Dual) : dAdd u w = dAdd w u := by
  rw [dAdd, dAdd, Rat.add_comm, gadd_comm]

theorem zipAA_comm {f : Dual → Dual → Dual} (hf : ∀ u w, f u w = f w u) (a b : Ad) : zipAA f a b = zipAA f b a := by
  unfold zipAA
  by_cases h : a.length = b.length
  · rw [if_neg (not_not_intro h), if_neg (not_not_intro h.symm), List.zipWith_comm]
    exact congrArg (fun l => Except.ok (Value.ad l)) (zipWith_congr' b a fun w u => hf u w)
  · rw [if_pos h, if_pos fun e => h e.symm]

/-- `+` of the forward-mode rules commutes on numbers, vectors, matrices and AdArrays (with a slicer the two orders
    raise different errors) -/
theorem directBin_add_symm (N : Nat) (x y : Value) (hx : x.isData = true) (hy : y.isData = true) :
    directBin P N .add x y = directBin P N .add y x := by
  cases x with
  | scalar d =>
    cases y with
    | scalar k => exact congrArg (fun x => Except.ok (Value.scalar x)) (Rat.add_comm d k)
    | vec w => exact congrArg (fun x => Except.ok (Value.vec x)) (vec_scalar_add w d)
    | ad a => exact ok_ad_map_congr a fun u => by rw [dAddC, dCAdd, Rat.add_comm]
    | mat m => rfl
    | _ => cases hy
  | vec v =>
    cases y with
    | scalar k => exact congrArg (fun x => Except.ok (Value.vec x)) (vec_scalar_add v k).symm
    | vec w => exact vecBin_add_comm w v
    | ad a => exact bAV_congr (fun u k => by rw [dAddC, dCAdd, Rat.add_comm]) a v
    | mat m => rfl
    | _ => cases hy
  | mat m =>
    cases y with
    | mat k => exact matAdd_comm m k
    | slicer _ | slicers _ => cases hy
    | _ => rfl
  | ad a =>
    cases y with
    | scalar k => exact ok_ad_map_congr a fun u => by rw [dAddC, dCAdd, Rat.add_comm]
    | vec w => exact bAV_congr (fun u k => by rw [dAddC, dCAdd, Rat.add_comm]) a w
    | ad b => exact zipAA_comm dAdd_comm a b
    | mat m => rfl
    | _ => cases hy
  | _ => cases hx

theorem add_data_jacRows (N : Nat) (x : Ad) (y z : Value) (hy : y.isAd = false)
    (h : directBin P N .add (.ad x) y = .ok z ∨ directBin P N .add y (.ad x) = .ok z) :
    ∃ x', z = .ad x' ∧ jacRows x' = jacRows x := by
  have h : directBin P N .add (.ad x) y = .ok z := by
    rcases h with h | h
    · exact h
    · cases y with
      | slicer _ | slicers _ => cases h
      | _ => exact (directBin_add_symm N _ _ rfl rfl).trans h
  cases y with
  | ad b => cases hy
  | scalar k => cases h; exact ⟨_, rfl, jacRows_map (dAddC · k) (fun _ => rfl) x⟩
  | vec v => exact jacRows_bAV dAddC (fun _ _ => rfl) h
  | _ => cases h

theorem direct_wrap (deriv : Bool) (e : Env) (c : Raw) : direct deriv e c.wrap = .ok c.value := by
  cases c <;> rfl

theorem cacheGet_mem {c : Cache} {l : Leaf} {v : Value} (h : cacheGet c l = some v) : (l, v) ∈ c := by
  induction c with
  | nil => cases h
  | cons p rest ih =>
    obtain ⟨k, w⟩ := p
    simp only [cacheGet] at h
    split at h
    · rename_i hk; cases h; subst hk; exact List.mem_cons_self
    · exact List.mem_cons_of_mem _ (ih h)

section
variable {deriv : Bool} {e : Env} {α β : Type} {m : Cache → R (α × Cache)} {r : R α}

/-- `m` is the computation `r` with a cache of parsed leaves threaded through -/
def Transp (deriv : Bool) (e : Env) (m : Cache → R (α × Cache)) (r : R α) : Prop :=
  ∀ c, CacheOk deriv e c → ∃ c', CacheOk deriv e c' ∧ m c = r.map (·, c')

theorem Transp.bind {k : α → Cache → R (β × Cache)} {f : α → R β}
    (hm : Transp deriv e m r) (hk : ∀ a, Transp deriv e (k a) (f a)) :
    Transp deriv e (fun c => m c >>= fun p => k p.1 p.2) (r >>= f) := by
  intro c hc
  obtain ⟨c1, hc1, h1⟩ := hm c hc
  cases r with
  | error er => exact ⟨c1, hc1, by show (m c >>= _) = _; rw [h1]; rfl⟩
  | ok a =>
    obtain ⟨c2, hc2, h2⟩ := hk a c1 hc1
    exact ⟨c2, hc2, by show (m c >>= _) = _; rw [h1]; exact h2⟩

/-- a step that does not look at the cache -/
theorem Transp.lift (r : R α) : Transp deriv e (fun c => r >>= fun z => pure (z, c)) r :=
  fun c hc => ⟨c, hc, by cases r <;> rfl⟩

end

theorem parseC_transp (deriv : Bool) (e : Env) (t : OpTree) :
    Transp deriv e (parseC deriv e t) (parse deriv e t) := by
  induction t with
  | leaf l =>
    intro c hc
    simp only [parse, parseC]
    split
    · cases hg : cacheGet c l with
      | some w => exact ⟨c, hc, by rw [hc _ (cacheGet_mem hg)]; rfl⟩
      | none =>
        cases hv : parseLeaf deriv e l with
        | error er => exact ⟨c, hc, rfl⟩
        | ok v =>
          refine ⟨(l, v) :: c, fun p hp => ?_, rfl⟩
          rcases List.mem_cons.mp hp with rfl | hp
          · exact hv
          · exact hc p hp
    · exact Transp.lift _ c hc
  | projList ps => exact fun c hc => ⟨c, hc, rfl⟩
  -- the node cases of `parseC` are, by unfolding, binds of the children followed by a step outside the cache
  | bin op a b iha ihb => exact iha.bind fun x => ihb.bind fun y => Transp.lift _
  | func1 f a iha => exact iha.bind fun x => Transp.lift (applyFunc e.P e.N f x x)
  | func2 f a b iha ihb => exact iha.bind fun x => ihb.bind fun y => Transp.lift _

theorem parseListC_eq (deriv : Bool) (e : Env) (ts : List OpTree) : ∀ c, CacheOk deriv e c →
    parseListC deriv e ts c = ts.mapM (parse deriv e) := by
  induction ts with
  | nil => intro c _; rfl
  | cons t ts ih =>
    intro c hc
    obtain ⟨c1, hc1, h1⟩ := parseC_transp deriv e t c hc
    simp only [parseListC, List.mapM_cons, h1]
    cases parse deriv e t with
    | error er => rfl
    | ok v => simp only [Except.map, bind_ok, ih c1 hc1]

theorem mapM_cons_eq_ok {α β : Type} {f : α → R β} {a : α} {l : List α} {vs : List β} :
    (a :: l).mapM f = .ok vs ↔ ∃ b, f a = .ok b ∧ ∃ bs, l.mapM f = .ok bs ∧ b :: bs = vs := by
  simp only [List.mapM_cons, Common.bind_eq_ok, pure_eq_ok, Except.ok.injEq]

theorem mapM_comp_ok {α β γ : Type} (f : α → R β) (g : β → R γ) (ts : List α) : ∀ vs : List γ,
    ((ts.mapM f >>= fun xs => xs.mapM g) = .ok vs) ↔ (ts.mapM (fun t => f t >>= g) = .ok vs) := by
  induction ts with
  | nil => intro vs; rfl
  | cons t ts ih =>
    intro vs
    simp only [mapM_cons_eq_ok, Common.bind_eq_ok, ← ih]
    constructor
    · rintro ⟨_, ⟨x, hx, xs, hxs, rfl⟩, h⟩
      obtain ⟨y, hy, ys, hys, rfl⟩ := mapM_cons_eq_ok.mp h
      exact ⟨y, ⟨x, hx, hy⟩, ys, ⟨xs, hxs, hys⟩, rfl⟩
    · rintro ⟨y, ⟨x, hx, hy⟩, ys, ⟨xs, hxs, hys⟩, rfl⟩
      exact ⟨x :: xs, ⟨x, hx, xs, hxs, rfl⟩, mapM_cons_eq_ok.mpr ⟨y, hy, ys, hys, rfl⟩⟩

theorem envWFb_iff (e : Env) : envWFb e = true ↔ EnvWF e := by
  simp [envWFb, EnvWF, List.all_eq_true]

/-- `shiftTime steps` and `shiftIter steps` are both of this form -/
theorem shift_spec (sh : OpTree → R OpTree)
    (hleaf : ∀ l t', (OpTree.leaf l).indexOk = true → sh (.leaf l) = .ok t' →
      t'.indexOk = true ∧ t'.noCurrent = true)
    (hproj : ∀ ps, sh (.projList ps) = .ok (.projList ps))
    (hbin : ∀ op a b, sh (.bin op a b) = sh a >>= fun a' => sh b >>= fun b' => pure (.bin op a' b'))
    (hf1 : ∀ f a, sh (.func1 f a) = sh a >>= fun a' => pure (.func1 f a'))
    (hf2 : ∀ f a b, sh (.func2 f a b) = sh a >>= fun a' => sh b >>= fun b' => pure (.func2 f a' b'))
    (t : OpTree) : ∀ t', t.indexOk = true → sh t = .ok t' → t'.indexOk = true ∧ t'.noCurrent = true := by
  induction t with
  | leaf l => exact hleaf l
  | projList ps => intro t' _ h; rw [hproj] at h; cases h; exact ⟨rfl, rfl⟩
  | bin op a b iha ihb =>
    intro t' hok h
    simp only [OpTree.indexOk, Bool.and_eq_true] at hok
    simp only [hbin, Common.bind_eq_ok, pure_eq_ok, Except.ok.injEq] at h
    obtain ⟨a', ha, b', hb, rfl⟩ := h
    simp only [OpTree.indexOk, OpTree.noCurrent, iha a' hok.1 ha, ihb b' hok.2 hb, Bool.and_self, and_self]
  | func1 f a iha =>
    intro t' hok h
    simp only [hf1, Common.bind_eq_ok, pure_eq_ok, Except.ok.injEq] at h
    obtain ⟨a', ha, rfl⟩ := h
    exact iha a' hok ha
  | func2 f a b iha ihb =>
    intro t' hok h
    simp only [OpTree.indexOk, Bool.and_eq_true] at hok
    simp only [hf2, Common.bind_eq_ok, pure_eq_ok, Except.ok.injEq] at h
    obtain ⟨a', ha, b', hb, rfl⟩ := h
    simp only [OpTree.indexOk, OpTree.noCurrent, iha a' hok.1 ha, ihb b' hok.2 hb, Bool.and_self, and_self]

theorem shiftTime_spec (steps : Nat) (t t' : OpTree) (hok : t.indexOk = true) (h : shiftTime steps t = .ok t') :
    t'.indexOk = true ∧ t'.noCurrent = true := by
  refine shift_spec (shiftTime steps) ?_ (fun _ => rfl) (fun _ _ _ => rfl) (fun _ _ => rfl) (fun _ _ _ => rfl) t t' hok h
  intro l t' hok h
  cases l with
  | var subs md ti ii =>
    obtain ⟨hi, h⟩ := Common.ite_error_eq_ok.mp h
    obtain ⟨_, h⟩ := Common.ite_error_eq_ok.mp h
    cases h
    simp only [OpTree.indexOk, OpTree.noCurrent, Bool.and_eq_true, Bool.or_eq_true, decide_eq_true_eq] at hok ⊢
    omega
  | td id tt =>
    obtain ⟨_, h⟩ := Common.ite_error_eq_ok.mp h
    cases h
    exact ⟨rfl, rfl⟩
  | _ => cases h; exact ⟨rfl, rfl⟩

theorem shiftIter_spec (steps : Nat) (t t' : OpTree) (hok : t.indexOk = true) (h : shiftIter steps t = .ok t') :
    t'.indexOk = true ∧ t'.noCurrent = true := by
  refine shift_spec (shiftIter steps) ?_ (fun _ => rfl) (fun _ _ _ => rfl) (fun _ _ => rfl) (fun _ _ _ => rfl) t t' hok h
  intro l t' hok h
  cases l with
  | var subs md ti ii =>
    obtain ⟨ht, h⟩ := Common.ite_error_eq_ok.mp h
    obtain ⟨_, h⟩ := Common.ite_error_eq_ok.mp h
    cases h
    simp only [OpTree.indexOk, OpTree.noCurrent, Bool.and_eq_true, Bool.or_eq_true, decide_eq_true_eq] at hok ⊢
    omega
  | _ => cases h; exact ⟨rfl, rfl⟩

theorem wrap_indexOk (r : Raw) : r.wrap.indexOk = true := by cases r <;> rfl

theorem negTree_indexOk (t : OpTree) (h : t.indexOk = true) : (negTree t).indexOk = true := by
  unfold negTree
  split <;> first | rfl | simp [OpTree.indexOk, h]

theorem mkNode_ok {op : Op} {s t n : OpTree} (h : mkNode op s t = .ok n) : n = .bin op s t := by
  unfold mkNode at h
  split at h <;> cases h
  rfl

/-- `__radd__` swaps the children, the other reverse overloads keep the mathematical order -/
theorem mkReverse_ok {op : Op} {r : Raw} {t n : OpTree} (h : mkReverse op r t = .ok n) :
    n = if op = .add then .bin .add t r.wrap else .bin op r.wrap t := by
  cases op
  case pow => cases r <;> cases h <;> rfl
  all_goals cases h; rfl

/-- unary minus, the shifts and function calls apply to operator objects only -/
theorem bind_tree_eq_ok {x : R Built} {g : Built → R Built} (hraw : ∀ r, g (.raw r) = .error .unsupported)
    {b : Built} (h : (x >>= g) = .ok b) : ∃ t, x = .ok (.tree t) ∧ g (.tree t) = .ok b := by
  obtain ⟨y, hx, hb⟩ := Common.bind_eq_ok.mp h
  cases y with
  | tree t => exact ⟨t, hx, hb⟩
  | raw r => rw [hraw] at hb; cases hb

theorem build_indexOk' (p : PyExpr) : ∀ b, p.leavesOk = true → build p = .ok b → b.indexOk = true := by
  induction p with
  | tree t => intro b h hb; cases hb; exact h
  | raw r => intro b _ hb; cases hb; rfl
  | bin op x y ihx ihy =>
    intro b h hb
    simp only [PyExpr.leavesOk, Bool.and_eq_true] at h
    simp only [build, Common.bind_eq_ok] at hb
    obtain ⟨bx, hx, by', hy, hb⟩ := hb
    have ox := ihx bx h.1 hx
    have oy := ihy by' h.2 hy
    cases bx with
    | tree s =>
      cases by' with
      | tree t =>
        simp only [Common.bind_eq_ok, pure_eq_ok, Except.ok.injEq] at hb
        obtain ⟨n, hn, rfl⟩ := hb
        rw [mkNode_ok hn]
        simp only [Built.indexOk, OpTree.indexOk, Bool.and_eq_true] at ox oy ⊢
        exact ⟨ox, oy⟩
      | raw r =>
        cases hb
        simp only [Built.indexOk, OpTree.indexOk, Bool.and_eq_true] at ox ⊢
        exact ⟨ox, wrap_indexOk r⟩
    | raw r =>
      cases by' with
      | tree t =>
        simp only [Common.bind_eq_ok, pure_eq_ok, Except.ok.injEq] at hb
        obtain ⟨n, hn, rfl⟩ := hb
        rw [mkReverse_ok hn]
        simp only [Built.indexOk] at oy ⊢
        split <;> simp only [OpTree.indexOk, oy, wrap_indexOk, Bool.and_self]
      | raw r2 => cases hb
  | neg x ih =>
    intro b h hb
    obtain ⟨t, hx, hb⟩ := bind_tree_eq_ok (fun _ => rfl) hb
    cases hb
    exact negTree_indexOk t (ih _ h hx)
  | prevTime steps x ih =>
    intro b h hb
    obtain ⟨t, hx, hb⟩ := bind_tree_eq_ok (fun _ => rfl) hb
    obtain ⟨s, hs, hb⟩ := Common.bind_eq_ok.mp hb
    cases hb
    exact (shiftTime_spec steps t s (ih _ h hx) hs).1
  | prevIter steps x ih =>
    intro b h hb
    obtain ⟨t, hx, hb⟩ := bind_tree_eq_ok (fun _ => rfl) hb
    obtain ⟨s, hs, hb⟩ := Common.bind_eq_ok.mp hb
    cases hb
    exact (shiftIter_spec steps t s (ih _ h hx) hs).1
  | call1 f x ih =>
    intro b h hb
    obtain ⟨t, hx, hb⟩ := bind_tree_eq_ok (fun _ => rfl) hb
    cases hb
    exact ih (.tree t) h hx
  | call2 f x y ihx ihy =>
    intro b h hb
    simp only [PyExpr.leavesOk, Bool.and_eq_true] at h
    simp only [build, Common.bind_eq_ok] at hb
    obtain ⟨bx, hx, by', hy, hb⟩ := hb
    have ox := ihx bx h.1 hx
    have oy := ihy by' h.2 hy
    cases bx <;> cases by' <;> cases hb
    simp only [Built.indexOk, OpTree.indexOk, Bool.and_eq_true] at ox oy ⊢
    exact ⟨ox, oy⟩

theorem vals_zeroJac (N : Nat) (w : Vec) : vals (zeroJac N w) = w := by
  simp only [vals, zeroJac, List.map_map]
  exact List.map_id w

theorem finish_idem (N : Nat) (v w : Value) (h : finish N true v = .ok w) : finish N true w = .ok w := by
  cases v <;> simp only [finish, if_true] at h <;> first | (cases h; rfl) | cases h

end PorepyVerif.C02

