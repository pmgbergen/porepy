/-
C09 — restart: restoring clock and step of a running loop into a fresh manager, with the schedule cursor
synchronised, gives a state from which the run goes on with the same guarantees.
-/
import PorepyVerif.C09.Lemmas

namespace PorepyVerif.C09

/-- `nextIdxFrom` counts the leading times that the clock has reached -/
theorem nextIdxFrom_eq (r a t : Rat) : ∀ (l : List Rat) (k n : Nat), n ≤ l.length →
    (∀ i x, i < n → l[i]? = some x → ¬ (t < x ∧ isclose r a t x = false)) →
    (∀ x, l[n]? = some x → t < x ∧ isclose r a t x = false) →
    nextIdxFrom r a t l k = k + n
  | [], k, n, hn, _, _ => by
    obtain rfl : n = 0 := Nat.le_zero.mp hn
    rfl
  | x :: rest, k, 0, _, _, hstop => by
    have := hstop x rfl
    simp [nextIdxFrom, this.1, this.2]
  | x :: rest, k, n + 1, hn, hpre, hstop => by
    have hx : ¬ ((decide (t < x) && !isclose r a t x) = true) := by
      simpa using hpre 0 x (Nat.zero_lt_succ n) rfl
    rw [nextIdxFrom, if_neg hx, nextIdxFrom_eq r a t rest (k + 1) n (Nat.le_of_succ_le_succ hn)
      (fun i y hi hy => hpre (i + 1) y (Nat.succ_lt_succ hi) hy) (fun y hy => hstop y hy)]
    omega

/-- Restoring the clock and the step of an invariant state (as exported by `write_time_information`)
    into a manager gives an invariant state again, provided the clock is not already within tolerance
    of the pending scheduled time (then the repaired cursor search lands exactly on `pending`). -/
theorem restore_inv {p : Params} (F : Facts p) {s s0 : TM} {acc : List Rat} (hm : acc.Pairwise (· > ·))
    (I : Inv p s acc) (hti : s0.timeIndex = s.timeIndex)
    (hnc : ∀ x, p.schedule[pending s]? = some x → isclose p.rtol p.atol s.time x = false) :
    Inv p (restore p s0 s.time s.dt) acc ∧ pending (restore p s0 s.time s.dt) = pending s := by
  obtain ⟨x, hx, hle, _⟩ := I.next
  have hmax := head_is_max hm I.head
  have hpp := I.pend_pos
  have hpl := I.pending_lt
  have hget : ∀ i, (p.schedule.drop 1)[i]? = p.schedule[1 + i]? := fun i => List.getElem?_drop
  -- the cursor search stops at `pending`: the earlier times are hit, hence reached; the pending one is not
  have hpend : pending (restore p s0 s.time s.dt) = pending s := by
    show nextIdxFrom p.rtol p.atol s.time (p.schedule.drop 1) 1 = pending s
    rw [nextIdxFrom_eq _ _ _ _ 1 (pending s - 1) (by rw [List.length_drop]; omega)]
    · omega
    · intro i y hi hy
      rw [hget] at hy
      obtain ⟨y', hy', a, ha, hc⟩ := I.hit (1 + i) (by omega)
      rw [hy] at hy'; cases hy'
      intro ⟨hlt, hncl⟩
      rw [isclose_nearer_from_below (hmax a ha) (Rat.le_of_lt hlt) hc] at hncl; cases hncl
    · intro y hy
      rw [hget, show 1 + (pending s - 1) = pending s by omega, hx] at hy; cases hy
      exact ⟨lt_of_pos_add_le I.dt_pos hle, hnc _ hx⟩
  refine ⟨⟨I.head, I.dt_pos, fun e => (Bool.false_ne_true e).elim, ⟨x, hpend ▸ hx, hle, fun e => (Bool.false_ne_true e).elim⟩, ?_, I.not_final,
    I.dt_max, hpend ▸ I.dt_min, ?_, I.time_nonneg, ?_, hpend ▸ hpp⟩, hpend⟩
  · intro j hj; rw [hpend] at hj; exact I.hit j hj
  · exact Int.le_of_lt F.rmax
  · show s0.timeIndex + 1 = acc.length; rw [hti]; exact I.ti

theorem good_restarted {p : Params} (F : Facts p) {r : Run} (hg : Good p r) (hr : r.status = .running)
    (hnc : ∀ x, p.schedule[pending r.tm]? = some x → isclose p.rtol p.atol r.tm.time x = false) :
    Good p (restarted p r) := by
  have hI := inv_of_running hg hr
  refine ⟨hg.1, hg.2.1, ?_⟩
  rw [show (restarted p r).status = statusOf p r.tm from rfl, statusOf_eq_running.mpr hI.not_final]
  exact (restore_inv F hg.1 hI rfl hnc).1

end PorepyVerif.C09
