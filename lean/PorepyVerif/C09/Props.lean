/-
C09 — property theorems (statements only use Model.lean; the lemmas are in Lemmas.lean and, for the step counts,
the constant-step mode and the restart, in Termination.lean, Constant.lean, Restart.lean).

Property: for any valid schedule and time-stepping parameters whose initial step fits in the first
scheduled interval, and any sequence of converged steps (with arbitrary iteration counts) and failed
steps, the accepted simulation times strictly increase, include every scheduled time, and never exceed
the final time.  Every step size stays within the prescribed minimum and maximum unless it was
shortened to land on a scheduled time, and a failed step returns the clock to the last accepted time
or raises once recomputation is exhausted.

`run p os` is the time loop of `run_time_dependent_model` on the outcome tape `os`
(`Outcome.converged k` / `Outcome.failed`), started from `TimeManager(...)`; `(run p os).accepted`
lists the accepted times, most recent first.  `Admissible p` = accepted by the constructor, adaptive,
`t₀ + dt₀ ≤ schedule[1]`, `rtol ≤ 1 ∨ 0 ≤ atol`, and `0 < dt_min` or positive factors (the constructor
checks neither of the last two; without the last the statements are false: `dt_min = 0` with
`recomp_factor = 0` stalls the clock at `dt = 0`).
"A scheduled time `y` is hit" is `HitBy`: some accepted time `a` has `np.isclose(a, y, rtol, atol)` —
the code's own notion (it ends the loop on `isclose(time, final)`), exact equality when the step was
cut to land on `y`.
-/
import PorepyVerif.C09.Termination
import PorepyVerif.C09.Constant
import PorepyVerif.C09.Restart

namespace PorepyVerif.C09

/-- Accepted times strictly increase (the list is most-recent-first, hence strictly decreasing). -/
theorem accepted_strictly_increasing (p : Params) (A : Admissible p) (os : List Outcome) :
    (run p os).accepted.Pairwise (· > ·) :=
  (good_run (facts_of_admissible A) os).1

/-- No accepted time exceeds the final time — exactly, not only up to tolerance. -/
theorem never_exceeds_final (p : Params) (A : Admissible p) (os : List Outcome) :
    ∀ a ∈ (run p os).accepted, a ≤ p.timeFinal :=
  (good_run (facts_of_admissible A) os).2.1

/-- When the loop has ended regularly, every scheduled time has been hit by an accepted time. -/
theorem hits_every_scheduled (p : Params) (A : Admissible p) (os : List Outcome)
    (h : (run p os).status = .finished) : ∀ y ∈ p.schedule, HitBy p (run p os).accepted y :=
  (good_run (facts_of_admissible A) os).hits h

/-- The invariant everything follows from: while the loop runs, `pending` (= `_scheduled_idx`, minus one
    if the flag `_is_about_to_hit_schedule` is set) points to the next scheduled time `x` that is not
    reached yet: the clock (= the last accepted time) is strictly before `x`, the coming step does not
    pass `x` and lands on it exactly if the flag is set, and all earlier scheduled times have been hit. -/
theorem idx_points_to_next (p : Params) (A : Admissible p) (os : List Outcome)
    (h : (run p os).status = .running) :
    (run p os).accepted.head? = some (run p os).tm.time ∧
    (∃ x, p.schedule[pending (run p os).tm]? = some x ∧ (run p os).tm.time < x ∧
       (run p os).tm.time + (run p os).tm.dt ≤ x ∧
       ((run p os).tm.aboutToHit = true → (run p os).tm.time + (run p os).tm.dt = x)) ∧
    (∀ j, j < pending (run p os).tm → ∃ y, p.schedule[j]? = some y ∧ HitBy p (run p os).accepted y) := by
  have I := inv_of_running (good_run (facts_of_admissible A) os) h
  obtain ⟨x, hx, hle, heq⟩ := I.next
  exact ⟨I.head, ⟨x, hx, lt_of_pos_add_le I.dt_pos hle, hle, heq⟩, I.hit⟩

/-- Every step the loop is about to take is positive, at most `dt_max`, and at least `dt_min` unless it
    was shortened to land exactly on a scheduled time. -/
theorem dt_within_bounds_or_schedule (p : Params) (A : Admissible p) (os : List Outcome)
    (h : (run p os).status = .running) :
    0 < (run p os).tm.dt ∧ (run p os).tm.dt ≤ p.dtMax ∧
    (p.dtMin ≤ (run p os).tm.dt ∨ ((run p os).tm.time + (run p os).tm.dt) ∈ p.schedule) := by
  have I := inv_of_running (good_run (facts_of_admissible A) os) h
  refine ⟨I.dt_pos, I.dt_max, ?_⟩
  rcases I.dt_min with h1 | ⟨x, hx, he⟩
  · exact Or.inl h1
  · right; rw [he]; exact sched_mem hx

/-- A failed step leaves the accepted times alone and either raises — recomputation exhausted, or the
    step already was `dt_min` — or returns the clock to the last accepted time (and counts the attempt). -/
theorem failure_rewinds_or_raises (p : Params) (A : Admissible p) (os : List Outcome)
    (h : (run p os).status = .running) :
    (stepRun p (run p os) .failed).accepted = (run p os).accepted ∧
    (((stepRun p (run p os) .failed).status = .raised .recompExhausted ∧
        p.recompMax ≤ ((run p os).tm.recompNum : Int)) ∨
     ((stepRun p (run p os) .failed).status = .raised .dtMinReached ∧ (run p os).tm.dt = p.dtMin) ∨
     ((stepRun p (run p os) .failed).status = .running ∧
        (stepRun p (run p os) .failed).tm.time = (run p os).tm.time ∧
        (run p os).accepted.head? = some (stepRun p (run p os) .failed).tm.time ∧
        (stepRun p (run p os) .failed).tm.recompNum = (run p os).tm.recompNum + 1)) := by
  have F := facts_of_admissible A
  have I := inv_of_running (good_run F os) h
  generalize run p os = r at h I ⊢
  obtain ⟨tm, acc, st⟩ := r
  cases h
  obtain ⟨s', st, hstep, hcase⟩ := step_failed_cases F I
  rw [hstep]
  refine ⟨rfl, ?_⟩
  rcases hcase with h1 | h1 | ⟨h1, h2, h3, _, _⟩
  · exact Or.inl h1
  · exact Or.inr (Or.inl h1)
  · exact Or.inr (Or.inr ⟨h1, h2, by rw [h2]; exact I.head, h3⟩)

/-- Recomputation is exhausted after `recomp_max` attempts: more than `recomp_max` failed steps in a row
    always end the run (with one of the two errors above, by `only_documented_errors`). -/
theorem recomputation_is_bounded (p : Params) (A : Admissible p) (os : List Outcome) (k : Nat)
    (hk : p.recompMax < (k : Int)) : (run p (os ++ List.replicate k .failed)).status ≠ .running := by
  have F := facts_of_admissible A
  unfold run
  rw [runFrom_append]
  by_cases h : (runFrom p (startRun p) os).status = .running
  · exact failures_exhaust F k _ (good_run F os) h (by omega)
  · rw [runFrom_not_running p _ _ h]; exact h

/-- The loop never ends in an `IndexError` or in an exception from the convergence hook: the only errors
    are the two `ValueError`s of `_adaptation_based_on_recomputation`, raised on a failed step. -/
theorem only_documented_errors (p : Params) (A : Admissible p) (os : List Outcome) :
    (∀ e, (run p os).status = .raised e → e = .dtMinReached ∨ e = .recompExhausted) ∧
    (∀ e, (run p os).status ≠ .crashed e) :=
  ⟨fun _ h => (good_run (facts_of_admissible A) os).raised h, (good_run (facts_of_admissible A) os).not_crashed⟩

/-- Liveness (for a positive `dt_min`): a tape of converged steps ends the run regularly after at most
    `(final − t₀)/dt_min + (len(schedule) − 1)` steps — each accepted step either advances the clock by
    at least `dt_min` or lands on the next scheduled time. -/
theorem all_converged_finishes (p : Params) (A : Admissible p) (hmin : 0 < p.dtMin) (os : List Outcome)
    (hall : AllConverged os)
    (hlen : (p.timeFinal - p.timeInit) + p.dtMin * ((p.schedule.length - 1 : Nat) : Rat)
              ≤ p.dtMin * (os.length : Rat)) :
    (run p os).status = .finished := by
  have F := facts_of_admissible A
  rcases statusOf_cases p (init p) with h0 | h0
  · rcases converged_run_budget F hmin os hall _ (good_start F) h0 with h | ⟨h, hb⟩
    · exact h
    · -- still running: every step has cost `dt_min` of the initial budget, and `dt_min` is still left
      exact (finishes_arith hmin (budget_ge F hmin (inv_of_running (good_run F os) h)) hb hlen).elim
  · rw [run, runFrom_not_running p os _ (by rw [show (startRun p).status = .finished from h0]; simp)]
    exact h0

/-- … and then every scheduled time has been hit. -/
theorem all_converged_hits_every_scheduled (p : Params) (A : Admissible p) (hmin : 0 < p.dtMin)
    (os : List Outcome) (hall : AllConverged os)
    (hlen : (p.timeFinal - p.timeInit) + p.dtMin * ((p.schedule.length - 1 : Nat) : Rat)
              ≤ p.dtMin * (os.length : Rat)) :
    ∀ y ∈ p.schedule, HitBy p (run p os).accepted y :=
  hits_every_scheduled p A os (all_converged_finishes p A hmin os hall hlen)

/-- Termination of EVERY tape, failures included (for a positive `dt_min`): each accepted step may be
    preceded by at most `recomp_max` recomputations, so after `(recomp_max + 1)·((final − t₀)/dt_min +
    len(schedule) − 1)` outcomes the loop has ended — regularly or with one of the two errors. -/
theorem run_terminates (p : Params) (A : Admissible p) (hmin : 0 < p.dtMin) (os : List Outcome)
    (hlen : ((p.recompMax : Rat) + 1) *
              ((p.timeFinal - p.timeInit) + p.dtMin * ((p.schedule.length - 1 : Nat) : Rat))
              ≤ p.dtMin * (os.length : Rat)) :
    (run p os).status ≠ .running := by
  have F := facts_of_admissible A
  intro h
  exact terminates_arith hmin (by exact_mod_cast Int.le_of_lt F.rmax) (by exact_mod_cast steps_le_accepted F os h)
    (accepted_while_running F hmin os h) hlen

/-- The number of accepted times (initial time included) is bounded whatever the outcomes are, for a
    positive `dt_min`: `#accepted ≤ (final − t₀)/dt_min + len(schedule)`; every accepted step advances
    the clock by at least `dt_min` or lands on the next scheduled time. -/
theorem accepted_steps_bounded (p : Params) (A : Admissible p) (hmin : 0 < p.dtMin) (os : List Outcome) :
    p.dtMin * ((run p os).accepted.length : Rat)
      ≤ (p.timeFinal - p.timeInit) + p.dtMin * (p.schedule.length : Rat) := by
  have F := facts_of_admissible A
  rw [← F.len_cast]
  exact bounded_arith (le_pot F hmin (good_run F os)) (pot_runFrom F hmin os _ (good_start F)) (pot_start_le F hmin)

/-- `time_index` counts the accepted steps. -/
theorem time_index_counts_accepted (p : Params) (A : Admissible p) (os : List Outcome)
    (h : (run p os).status = .running) : (run p os).tm.timeIndex + 1 = (run p os).accepted.length :=
  (inv_of_running (good_run (facts_of_admissible A) os) h).ti

/-- With zero tolerances "hit" is exact: when the loop has ended every scheduled time IS an accepted time
    (the mechanism does not rely on the tolerance; steps are cut to land exactly). -/
theorem hits_exactly_with_zero_tolerance (p : Params) (A : Admissible p) (hr : p.rtol = 0) (ha : p.atol = 0)
    (os : List Outcome) (h : (run p os).status = .finished) : ∀ y ∈ p.schedule, y ∈ (run p os).accepted := by
  intro y hy
  obtain ⟨a, hmem, hc⟩ := hits_every_scheduled p A os h y hy
  rw [isclose_iff, hr, ha, absR_le_iff] at hc
  have : a = y := by grind
  rw [← this]; exact hmem

/-- Restart (`load_data_from_vtu/pvd` → `set_time_and_dt_from_exported_steps`, REPAIRED method, see
    `restore` in Model.lean): a fresh manager whose clock and step are restored from the exported state of
    a running loop — with the schedule cursor synchronised — continues as a run with the same guarantees,
    for every continuation tape.  Hypothesis `hnc` (decidable): the restored clock is not already within
    tolerance of the pending scheduled time.  The method before that repair violates this theorem (finding
    `restart-stale-schedule-cursor`: the cursor stays at 1 and the next correction makes dt negative). -/
theorem restart_keeps_property (p : Params) (A : Admissible p) (os : List Outcome)
    (h : (run p os).status = .running)
    (hnc : ∀ x, p.schedule[pending (run p os).tm]? = some x →
      isclose p.rtol p.atol (run p os).tm.time x = false)
    (os' : List Outcome) :
    (runFrom p (restarted p (run p os)) os').accepted.Pairwise (· > ·) ∧
    (∀ a ∈ (runFrom p (restarted p (run p os)) os').accepted, a ≤ p.timeFinal) ∧
    ((runFrom p (restarted p (run p os)) os').status = .finished →
      ∀ y ∈ p.schedule, HitBy p (runFrom p (restarted p (run p os)) os').accepted y) := by
  have F := facts_of_admissible A
  have hg := good_runFrom F os' _ (good_restarted F (good_run F os) h hnc)
  exact ⟨hg.1, hg.2.1, hg.hits⟩

/-! ### constant time step (`constant_dt=True`): outside the property statement -/

/-- With a constant step the step never changes and the accepted times are `t₀ + k·dt_init`
    (`accepted` is most-recent-first). -/
theorem constant_dt_times (p : Params) (hc : p.constantDt = true) (os : List Outcome) (hall : AllConverged os) :
    (run p os).tm.dt = p.dtInit ∧
    ∀ i (h : i < (run p os).accepted.length),
      (run p os).accepted[i] = p.timeInit + (((run p os).accepted.length - 1 - i : Nat) : Rat) * p.dtInit := by
  obtain ⟨⟨n, hacc, _⟩, hdt, _⟩ := cinv_run hc os hall _ (cinv_start p)
  refine ⟨hdt, ?_⟩
  have hacc' : (run p os).accepted = arith p.timeInit p.dtInit n := hacc
  rw [hacc']
  intro i h
  rw [arith_getElem, arith_length]
  congr 3

/-- With a constant step a failed nonlinear solve ends the run with an error; nothing is recomputed. -/
theorem constant_dt_failure_raises (p : Params) (hc : p.constantDt = true) (r : Run) (h : r.status = .running) :
    (stepRun p r .failed).status = .raised .constantDtFailed ∧ (stepRun p r .failed).accepted = r.accepted := by
  obtain ⟨tm, acc, st⟩ := r
  cases h
  simp [stepRun, hc]

/-- Constant step, FULL statement.  If the constructor accepts the parameters and the tolerance is small
    against the step (`SmallTol`: `2·(atol + rtol·|v|) < dt_init` at every simulated time `v` of the
    constructor's check and at the final time — decidable, and true for the default tolerances unless
    `dt_init ≲ 2e-10·final`), then when the loop has ended every scheduled time `y` is matched by an
    accepted time `a` with `np.isclose(y, a)` — the orientation the constructor itself uses.
    The constructor only compares the NUMBER of simulated times close to a neighbouring scheduled time
    with `len(schedule)`; the proof is a pigeonhole argument: under `SmallTol` two different simulated
    times cannot be close to the same scheduled time, so equal counts force a bijection; and the loop
    cannot stop a whole step before a matched simulated time. -/
theorem constant_dt_hits (p : Params) (hv : Valid p) (hc : p.constantDt = true) (hs : SmallTol p)
    (os : List Outcome) (hall : AllConverged os) (hfin : (run p os).status = .finished) :
    ∀ y ∈ p.schedule, HitByC p (run p os).accepted y := by
  obtain ⟨hlen, hnn, hsorted, hdt⟩ := valid_common hv
  obtain ⟨n, hacc, hf⟩ := constant_finished hc hall hfin
  intro y hy
  obtain ⟨i, hiV, hR⟩ := valid_constant_matches hv hc hs y hy
  rcases Nat.lt_or_ge n i with hlt | hge
  · exact (not_stop_before_match (sim_succ_le hdt hlt)
      (le_timeFinal hlen hsorted y hy) (close_lt_half hR (hs.1 _ hiV) hdt)
      (hf.imp id (fun h => close_lt_half h hs.2 hdt))).elim
  · rw [hacc]
    exact ⟨_, mem_arith _ _ n i hge, hR⟩

/-- With a constant step a tape of converged steps long enough to reach the final time ends the loop. -/
theorem constant_dt_finishes (p : Params) (hc : p.constantDt = true) (os : List Outcome) (hall : AllConverged os)
    (hlen : p.timeFinal ≤ p.timeInit + (os.length : Rat) * p.dtInit) : (run p os).status = .finished := by
  obtain ⟨⟨n, hacc, ht⟩, _, hst⟩ := cinv_run hc os hall _ (cinv_start p)
  rw [show (run p os).status = _ from hst, statusOf_eq_finished]
  -- otherwise the loop is running after `len(os)` steps, with the clock at or past the final time
  cases hf : finalTimeReached p (runFrom p (startRun p) os).tm with
  | true => rfl
  | false =>
    exfalso
    have hn : os.length = n := by
      have := accepted_length_of_running p hall (hst.trans (statusOf_eq_running.mpr hf))
      rw [hacc, arith_length] at this
      simp only [startRun, List.length_singleton] at this
      omega
    obtain ⟨h1, h2⟩ := not_final_iff.mp hf
    rw [ht, ← hn] at h1 h2
    rw [Rat.le_antisymm (Rat.not_lt.mp h1) hlen, isclose_self] at h2
    cases h2

/-- … so such a run hits every scheduled time. -/
theorem constant_dt_run_hits_every_scheduled (p : Params) (hv : Valid p) (hc : p.constantDt = true)
    (hs : SmallTol p) (os : List Outcome) (hall : AllConverged os)
    (hlen : p.timeFinal ≤ p.timeInit + (os.length : Rat) * p.dtInit) :
    ∀ y ∈ p.schedule, HitByC p (run p os).accepted y :=
  constant_dt_hits p hv hc hs os hall (constant_dt_finishes p hc os hall hlen)

/-- Variant in the orientation of `HitBy` (`np.isclose(a, y)`, what `final_time_reached` uses), from an
    explicit matching hypothesis instead of the constructor's count: if every scheduled time is within
    tolerance of some `t₀ + k·dt_init`, every scheduled time is hit when the loop has ended — also those
    whose `k` lies beyond the step at which the loop stopped.  No smallness of the tolerance is needed. -/
theorem constant_dt_hits_of_matches (p : Params) (hv : Valid p) (hc : p.constantDt = true)
    (htol : p.rtol ≤ 1 ∨ 0 ≤ p.atol)
    (H : ∀ y ∈ p.schedule, ∃ k : Nat, isclose p.rtol p.atol (p.timeInit + (k : Rat) * p.dtInit) y = true)
    (os : List Outcome) (hall : AllConverged os) (hfin : (run p os).status = .finished) :
    ∀ y ∈ p.schedule, HitBy p (run p os).accepted y := by
  obtain ⟨hlen, hnn, hsorted, hdt⟩ := valid_common hv
  obtain ⟨n, hacc, hf⟩ := constant_finished hc hall hfin
  have ht0 : 0 ≤ p.timeInit := hnn _ (timeInit_mem hlen)
  intro y hy
  obtain ⟨k, hk⟩ := H y hy
  rw [hacc]
  rcases Nat.lt_or_ge n k with hlt | hge
  · -- the loop stopped before step k: the last accepted time is at least as close to y
    refine ⟨p.timeInit + (n : Rat) * p.dtInit, mem_arith _ _ n n (Nat.le_refl n), ?_⟩
    have hnk : p.timeInit + (n : Rat) * p.dtInit ≤ p.timeInit + (k : Rat) * p.dtInit :=
      Rat.le_of_lt (lt_of_pos_add_le hdt (sim_succ_le hdt hlt))
    have hn0 : 0 ≤ p.timeInit + (n : Rat) * p.dtInit :=
      Rat.add_nonneg ht0 (Rat.mul_nonneg (by exact_mod_cast Nat.zero_le n) (Rat.le_of_lt hdt))
    by_cases hyn : y ≤ p.timeInit + (n : Rat) * p.dtInit
    · exact isclose_nearer_from_above hyn hnk hk
    · have hyf : y ≤ p.timeFinal := le_timeFinal hlen hsorted y hy
      rcases hf with h | h
      · exact absurd (Rat.le_trans hyf (Rat.le_of_lt h)) hyn
      · exact isclose_nearer_right htol hn0 (Rat.le_of_lt (Rat.not_le.mp hyn)) hyf h
  · exact ⟨_, mem_arith _ _ n k hge, hk⟩

/-! ### non-vacuity: concrete parameters and histories -/

/-- the regression case of finding F2: schedule [0, 1, 1.2], dt_init = 0.5, dt_min_max = (0.01, 0.5) -/
def pF2 : Params :=
  { schedule := [0, 1, 6/5], dtInit := 1/2, constantDt := false, dtMin := 1/100, dtMax := 1/2,
    iterMax := 15, iterLow := 4, iterUpp := 7, underRelax := 7/10, overRelax := 13/10,
    recompFactor := 1/2, recompMax := 10, rtol := 1/10000000000, atol := 1/10000000000000000 }

example : Admissible pF2 := by decide +kernel

/-- every step converges with 5 iterations: times 0, 1/2, 1, 6/5 (the code before the repair went on to 3/2) -/
example : (run pF2 [.converged 5, .converged 5, .converged 5, .converged 5]).accepted = [6/5, 1, 1/2, 0]
    ∧ (run pF2 [.converged 5, .converged 5, .converged 5, .converged 5]).status = .finished := by
  decide +kernel

/-- failures in between: the step to 1 fails twice, the clock is back at 1/2 with dt = 1/8 -/
example : (run pF2 [.converged 5, .failed, .failed]).accepted = [1/2, 0]
    ∧ (run pF2 [.converged 5, .failed, .failed]).tm.time = 1/2
    ∧ (run pF2 [.converged 5, .failed, .failed]).tm.dt = 1/8
    ∧ (run pF2 [.converged 5, .failed, .failed]).status = .running := by
  decide +kernel

/-- eleven failures in a row exhaust `recomp_max = 10` … -/
example : (run pF2 (List.replicate 11 .failed)).status = .raised .dtMinReached
    ∨ (run pF2 (List.replicate 11 .failed)).status = .raised .recompExhausted := by
  decide +kernel

/-- a step shorter than `dt_min` occurs, landing on a scheduled time: dt_min = 1/4 > 1/5 -/
example : (run { pF2 with dtMin := 1/4 } [.converged 5, .converged 5]).tm.dt = 1/5
    ∧ (run { pF2 with dtMin := 1/4 } [.converged 5, .converged 5]).tm.aboutToHit = true := by
  decide +kernel

/-- negative tolerances are admissible (`rtol ≤ 1`): only exact equality counts as close, and the run
    still ends on the final time with every scheduled time accepted -/
example : Admissible { pF2 with rtol := -1/1000, atol := -1 } ∧
    (run { pF2 with rtol := -1/1000, atol := -1 } (List.replicate 4 (.converged 5))).accepted = [6/5, 1, 1/2, 0] ∧
    (run { pF2 with rtol := -1/1000, atol := -1 } (List.replicate 4 (.converged 5))).status = .finished := by
  decide +kernel

/-- restart after two steps of the F2 history (clock 1, dt 1/5): the synchronised cursor is 2 and the
    continuation ends on 6/5 -/
example : (restarted pF2 (run pF2 [.converged 5, .converged 5])).tm.idx = 2 ∧
    (runFrom pF2 (restarted pF2 (run pF2 [.converged 5, .converged 5])) [.converged 5, .converged 5]).accepted
      = [6/5, 1, 1/2, 0] ∧
    (runFrom pF2 (restarted pF2 (run pF2 [.converged 5, .converged 5])) [.converged 5, .converged 5]).status = .finished := by
  decide +kernel

/-- liveness premise is satisfiable: dt_min = 1/4, seven converged steps suffice for [0, 1, 6/5] -/
example : Admissible { pF2 with dtMin := 1/4 } ∧ AllConverged (List.replicate 7 (Outcome.converged 5)) ∧
    (({ pF2 with dtMin := 1/4 } : Params).timeFinal - ({ pF2 with dtMin := 1/4 } : Params).timeInit)
      + (1/4 : Rat) * ((3 - 1 : Nat) : Rat) ≤ (1/4 : Rat) * ((List.replicate 7 (Outcome.converged 5)).length : Rat) := by
  refine ⟨by decide +kernel, ?_, by decide +kernel⟩
  intro o ho
  exact ⟨5, List.eq_of_mem_replicate ho⟩

/-- constant step 1/4 on the schedule [0, 1/2, 1]: valid, four steps, all scheduled times are accepted times -/
def pConst : Params :=
  { pF2 with schedule := [0, 1/2, 1], dtInit := 1/4, constantDt := true }

example : Valid pConst ∧ (run pConst (List.replicate 6 (.converged 3))).accepted = [1, 3/4, 1/2, 1/4, 0]
    ∧ (run pConst (List.replicate 6 (.converged 3))).status = .finished := by
  decide +kernel

/-- `SmallTol` is needed: schedule [0, 1/4, 9/4], constant step 1, rtol = 1/4, atol = 0.  The constructor
    accepts it — the simulated times 0, 2 and 3 are close to a scheduled time (2 and 3 both to 9/4), which
    makes three matches for three scheduled times — but the loop visits 0, 1, 2 and the scheduled time 1/4
    is close to none of them, in either orientation of `isclose`. -/
def pCex : Params :=
  { pF2 with schedule := [0, 1/4, 9/4], dtInit := 1, constantDt := true, rtol := 1/4, atol := 0 }

example : Valid pCex ∧ ¬ SmallTol pCex
    ∧ (run pCex (List.replicate 5 (.converged 3))).status = .finished
    ∧ (run pCex (List.replicate 5 (.converged 3))).accepted = [2, 1, 0]
    ∧ ∀ a ∈ (run pCex (List.replicate 5 (.converged 3))).accepted,
        isclose pCex.rtol pCex.atol (1/4) a = false ∧ isclose pCex.rtol pCex.atol a (1/4) = false := by
  decide +kernel

/-- `SmallTol` is satisfiable together with `Valid`: the constant-step example above with default tolerances -/
example : Valid pConst ∧ SmallTol pConst := by decide +kernel

end PorepyVerif.C09
