/-
C09 — constant-step mode: the accepted times are `t₀ + k·dt_init`; under `SmallTol` the constructor's count of
matches forces every scheduled time to match a simulated time (pigeonhole), and the loop does not stop before it.
-/
import PorepyVerif.C09.Lemmas
import PorepyVerif.Common.List

namespace PorepyVerif.C09

/-- the times `t₀ + k·dt`, `k = n, …, 0` -/
def arith (t0 dt : Rat) : Nat → List Rat
  | 0 => [t0]
  | n + 1 => (t0 + ((n + 1 : Nat) : Rat) * dt) :: arith t0 dt n

theorem arith_zero (t0 dt : Rat) : t0 + ((0 : Nat) : Rat) * dt = t0 := by
  rw [show ((0 : Nat) : Rat) = 0 from rfl, Rat.zero_mul, Rat.add_zero]

theorem mem_arith (t0 dt : Rat) : ∀ n k, k ≤ n → t0 + (k : Rat) * dt ∈ arith t0 dt n
  | 0, k, h => by
    obtain rfl : k = 0 := by omega
    exact List.mem_singleton.mpr (arith_zero t0 dt)
  | n + 1, k, h => by
    rcases Nat.eq_or_lt_of_le h with rfl | l
    · exact List.mem_cons_self
    · exact List.mem_cons_of_mem _ (mem_arith t0 dt n k (by omega))

theorem arith_length (t0 dt : Rat) : ∀ n, (arith t0 dt n).length = n + 1
  | 0 => rfl
  | n + 1 => by simp [arith, arith_length t0 dt n]

theorem arith_getElem (t0 dt : Rat) : ∀ n i (h : i < (arith t0 dt n).length),
    (arith t0 dt n)[i] = t0 + ((n - i : Nat) : Rat) * dt
  | 0, i, h => by
    obtain rfl : i = 0 := Nat.lt_one_iff.mp h
    exact (arith_zero t0 dt).symm
  | n + 1, 0, _ => rfl
  | n + 1, i + 1, h => by
    have := arith_getElem t0 dt n i (Nat.lt_of_succ_lt_succ h)
    simp only [arith, List.getElem_cons_succ, this]
    congr 3; omega

/-- invariant of the loop in constant-dt mode on a tape of converged steps -/
structure CInv (p : Params) (r : Run) : Prop where
  acc : ∃ n : Nat, r.accepted = arith p.timeInit p.dtInit n ∧ r.tm.time = p.timeInit + (n : Rat) * p.dtInit
  dt : r.tm.dt = p.dtInit
  st : r.status = statusOf p r.tm

theorem cinv_start (p : Params) : CInv p (startRun p) :=
  ⟨⟨0, rfl, (arith_zero p.timeInit p.dtInit).symm⟩, rfl, rfl⟩

theorem cinv_step {p : Params} (hc : p.constantDt = true) (r : Run) (it : Int) (h : CInv p r) :
    CInv p (stepRun p r (.converged it)) := by
  by_cases hr : r.status = .running
  · obtain ⟨tm, acc, st⟩ := r
    obtain ⟨⟨n, hacc, ht⟩, hdt, _⟩ := h
    cases hr
    have hacc : acc = arith p.timeInit p.dtInit n := hacc
    have ht' : tm.time + tm.dt = p.timeInit + ((n + 1 : Nat) : Rat) * p.dtInit := by
      rw [show tm.time = _ from ht, show tm.dt = _ from hdt]; grind
    simp only [stepRun, hc, if_true]
    exact ⟨⟨n + 1, by rw [hacc]; exact congrArg (· :: _) ht', ht'⟩, hdt, rfl⟩
  · rw [stepRun_not_running p r _ hr]; exact h

theorem cinv_run {p : Params} (hc : p.constantDt = true) : ∀ (os : List Outcome), AllConverged os →
    ∀ r, CInv p r → CInv p (runFrom p r os) := by
  intro os hall r h
  refine runFrom_induction os (P := fun _ => CInv p) h (fun _ r' h' o ho => ?_)
  obtain ⟨it, rfl⟩ := hall o ho
  exact cinv_step hc r' it h'

theorem constant_finished {p : Params} (hc : p.constantDt = true) {os : List Outcome} (hall : AllConverged os)
    (hfin : (run p os).status = .finished) :
    ∃ n : Nat, (run p os).accepted = arith p.timeInit p.dtInit n ∧
      (p.timeInit + (n : Rat) * p.dtInit > p.timeFinal ∨
        isclose p.rtol p.atol (p.timeInit + (n : Rat) * p.dtInit) p.timeFinal = true) := by
  obtain ⟨⟨n, hacc, ht⟩, _, hst⟩ := cinv_run hc os hall _ (cinv_start p)
  have hf := statusOf_eq_finished.mp (hst.symm.trans hfin)
  simp only [finalTimeReached, Bool.or_eq_true, decide_eq_true_eq] at hf
  rw [show (runFrom p (startRun p) os).tm.time = _ from ht] at hf
  exact ⟨n, hacc, hf⟩

theorem natCast_sub_ge_one {i j : Nat} (h : i < j) : (1 : Rat) ≤ (j : Rat) - (i : Rat) := by
  have h1 : ((i + 1 : Nat) : Rat) ≤ (j : Rat) := by exact_mod_cast h
  push_cast at h1; grind

theorem sim_succ_le {s0 d : Rat} (hd : 0 < d) {i j : Nat} (h : i < j) :
    s0 + (i : Rat) * d + d ≤ s0 + (j : Rat) * d := by
  have := Rat.mul_le_mul_of_nonneg_right (natCast_sub_ge_one h) (Rat.le_of_lt hd)
  grind

theorem close_lt_half {r a x y d : Rat} (h : isclose r a x y = true) (hs : 2 * (a + r * absR y) < d)
    (hd : 0 < d) : 2 * absR (x - y) < d := by
  rw [isclose_iff] at h
  rcases h with h | rfl
  · grind
  · rw [Rat.sub_self, absR_of_nonneg Rat.le_refl, Rat.mul_zero]; exact hd

/-- the predicate counted by `is_schedule_in_simulated_times` -/
def closeTo (rtol atol : Rat) (schedule : List Rat) (v : Rat) : Bool :=
  let ss := (((schedule.drop 1).dropLast).filter (fun x => decide (x < v))).length
  isclose rtol atol (schedule.getD ss 0) v || isclose rtol atol (schedule.getD (ss + 1) 0) v

theorem scheduleInSimTimes_eq (r a : Rat) (S V : List Rat) :
    scheduleInSimTimes r a S V = (S.length == (V.filter (closeTo r a S)).length) := rfl

theorem closeTo_spec {r a : Rat} {S : List Rat} (hlen : 2 ≤ S.length) {v : Rat} (h : closeTo r a S v = true) :
    ∃ y ∈ S, isclose r a y v = true := by
  unfold closeTo at h
  simp only [Bool.or_eq_true] at h
  have hss : (((S.drop 1).dropLast).filter (fun x => decide (x < v))).length + 1 < S.length := by
    have h1 := List.length_filter_le (fun x => decide (x < v)) ((S.drop 1).dropLast)
    have h2 : ((S.drop 1).dropLast).length = S.length - 1 - 1 := by simp
    omega
  rcases h with h | h
  · exact ⟨_, Common.getD_mem 0 (by omega), h⟩
  · exact ⟨_, Common.getD_mem 0 hss, h⟩

theorem not_lt_step {u v d : Rat} (h : u + d ≤ v) : ¬ absR (u - v) < d ∧ ¬ absR (v - u) < d := by
  rw [absR_lt_iff, absR_lt_iff]; grind

theorem sim_index_eq {s0 d : Rat} (hd : 0 < d) {i j : Nat}
    (h : absR ((s0 + (i : Rat) * d) - (s0 + (j : Rat) * d)) < d) : i = j := by
  rcases Nat.lt_trichotomy i j with hlt | heq | hgt
  · exact absurd h (not_lt_step (sim_succ_le hd hlt)).1
  · exact heq
  · exact absurd h (not_lt_step (sim_succ_le hd hgt)).2

/-- the loop cannot stop (past the final time `f`, or close to it) a whole step before a simulated time `v`
    that matches a scheduled time `y ≤ f`, when closeness means less than half a step -/
theorem not_stop_before_match {u v d f y : Rat} (huv : u + d ≤ v) (hyf : y ≤ f) (hy : 2 * absR (y - v) < d)
    (hstop : u > f ∨ 2 * absR (u - f) < d) : False := by
  have := absR_le_iff.mp (Rat.le_refl : absR (y - v) ≤ _)
  have := absR_le_iff.mp (Rat.le_refl : absR (u - f) ≤ _)
  grind

theorem absR_sub_lt {x y z d : Rat} (h1 : 2 * absR (x - y) < d) (h2 : 2 * absR (x - z) < d) :
    absR (y - z) < d := by
  have := absR_le_iff.mp (Rat.le_refl : absR (x - y) ≤ absR (x - y))
  have := absR_le_iff.mp (Rat.le_refl : absR (x - z) ≤ absR (x - z))
  rw [absR_lt_iff]
  grind

/-- Under `SmallTol`, the constructor's count test implies that every scheduled time is close to one of
    the simulated times `t₀ + i·dt`, `i < ⌈(final + dt − t₀)/dt⌉`. -/
theorem valid_constant_matches {p : Params} (hv : Valid p) (hc : p.constantDt = true) (hs : SmallTol p) :
    ∀ y ∈ p.schedule, ∃ i : Nat, (p.timeInit + (i : Rat) * p.dtInit) ∈ arange p.timeInit (p.timeFinal + p.dtInit) p.dtInit ∧
      isclose p.rtol p.atol y (p.timeInit + (i : Rat) * p.dtInit) = true := by
  obtain ⟨hlen, _, _, hdt⟩ := valid_common hv
  have hcount : scheduleInSimTimes p.rtol p.atol p.schedule (arange p.timeInit (p.timeFinal + p.dtInit) p.dtInit) = true := by
    simp only [Valid, validate, hc, if_true, Bool.and_eq_true] at hv
    exact hv.2
  rw [scheduleInSimTimes_eq] at hcount
  have hcount : p.schedule.length =
      ((arange p.timeInit (p.timeFinal + p.dtInit) p.dtInit).filter (closeTo p.rtol p.atol p.schedule)).length := by
    simpa using hcount
  -- work with the indices of the simulated times
  generalize hn : ((p.timeFinal + p.dtInit - p.timeInit) / p.dtInit).ceil.toNat = n at *
  have hV : arange p.timeInit (p.timeFinal + p.dtInit) p.dtInit
      = (List.range n).map (fun (i : Nat) => p.timeInit + (i : Rat) * p.dtInit) := by
    unfold arange; rw [hn]
  let g := fun (i : Nat) => p.timeInit + (i : Rat) * p.dtInit
  let C := (List.range n).filter (fun i => closeTo p.rtol p.atol p.schedule (g i))
  have hClen : C.length = p.schedule.length := by
    rw [hcount, hV, List.filter_map, List.length_map]; rfl
  have hmemV : ∀ i ∈ C, g i ∈ arange p.timeInit (p.timeFinal + p.dtInit) p.dtInit := by
    intro i hi
    rw [hV]
    exact List.mem_map.mpr ⟨i, (List.mem_filter.mp hi).1, rfl⟩
  have hres := pigeonhole (fun (i : Nat) (y : Rat) => isclose p.rtol p.atol y (g i) = true) C p.schedule
    (List.Nodup.sublist List.filter_sublist List.nodup_range) hClen
    (by
      intro i hi
      exact closeTo_spec hlen (List.mem_filter.mp hi).2)
    (by
      intro i hi j hj y h1 h2
      have hi' := close_lt_half h1 (hs.1 _ (hmemV i hi)) hdt
      have hj' := close_lt_half h2 (hs.1 _ (hmemV j hj)) hdt
      exact sim_index_eq hdt (absR_sub_lt hi' hj'))
  intro y hy
  obtain ⟨i, hi, hR⟩ := hres y hy
  exact ⟨i, hmemV i hi, hR⟩

end PorepyVerif.C09
