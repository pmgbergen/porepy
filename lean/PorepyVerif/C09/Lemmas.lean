/-
C09 — the lemmas behind the safety theorems of Props.lean: closeness, the schedule correction, the invariant `Inv`
of the time loop, what one step of the loop does, the invariant `Good` of whole runs and the induction over tapes.
`Termination.lean` (step counts), `Constant.lean` (constant-step mode) and `Restart.lean` build on it.
-/
import PorepyVerif.C09.Model

namespace PorepyVerif.C09

theorem absR_of_nonneg {x : Rat} (h : 0 ≤ x) : absR x = x :=
  if_neg (Rat.not_lt.mpr h)

theorem absR_of_nonpos {x : Rat} (h : x ≤ 0) : absR x = -x := by
  unfold absR; split
  · rfl
  · rw [Rat.le_antisymm h (Rat.not_lt.mp ‹_›)]; rfl

theorem absR_nonneg (x : Rat) : 0 ≤ absR x := by
  rcases (Rat.le_total : 0 ≤ x ∨ x ≤ 0) with h | h
  · rw [absR_of_nonneg h]; exact h
  · rw [absR_of_nonpos h, ← Rat.neg_zero]; exact Rat.neg_le_neg h

theorem absR_sub_of_le {x y : Rat} (h : x ≤ y) : absR (x - y) = y - x := by
  have h' := Rat.neg_le_neg ((Rat.le_iff_sub_nonneg x y).mp h)
  rw [Rat.neg_sub, Rat.neg_zero] at h'
  rw [absR_of_nonpos h', Rat.neg_sub]

theorem absR_le_iff {x b : Rat} : absR x ≤ b ↔ -b ≤ x ∧ x ≤ b := by
  unfold absR; split <;> grind

theorem absR_lt_iff {x b : Rat} : absR x < b ↔ -b < x ∧ x < b := by
  unfold absR; split <;> grind

theorem isclose_iff (r a x y : Rat) :
    isclose r a x y = true ↔ (absR (x - y) ≤ a + r * absR y ∨ x = y) := by
  simp [isclose]

theorem isclose_self {r a : Rat} (x : Rat) : isclose r a x x = true := by
  rw [isclose_iff]; exact Or.inr rfl

/-- The tolerance `a + r·|y|` shrinks with the second argument, and closeness survives because
    `r ≤ 1 ∨ 0 ≤ a`; this is the one use of that premise of `Admissible`. -/
theorem isclose_nearer_right {r a t x y : Rat} (htol : r ≤ 1 ∨ 0 ≤ a) (ht : 0 ≤ t) (htx : t ≤ x) (hxy : x ≤ y)
    (h : isclose r a t y = true) : isclose r a t x = true := by
  rw [isclose_iff] at h ⊢
  rcases h with h | rfl
  · left
    rw [absR_sub_of_le (Rat.le_trans htx hxy), absR_of_nonneg (Rat.le_trans ht (Rat.le_trans htx hxy))] at h
    rw [absR_sub_of_le htx, absR_of_nonneg (Rat.le_trans ht htx)]
    by_cases h1 : r ≤ 1
    · have := Rat.mul_nonneg ((Rat.le_iff_sub_nonneg r 1).mp h1) ((Rat.le_iff_sub_nonneg x y).mp hxy)
      grind
    · have := Rat.mul_nonneg ((Rat.le_iff_sub_nonneg 1 r).mp (Rat.le_of_lt (Rat.not_le.mp h1))) (Rat.le_trans ht htx)
      grind
  · exact Or.inr (Rat.le_antisymm htx hxy)

/-- The tolerance depends on `y` alone. -/
theorem isclose_nearer_from_below {r a u v y : Rat} (h1 : u ≤ v) (h2 : v ≤ y) (h : isclose r a u y = true) :
    isclose r a v y = true := by
  rw [isclose_iff] at h ⊢
  rcases h with h | rfl
  · rw [absR_sub_of_le (Rat.le_trans h1 h2)] at h
    rw [absR_sub_of_le h2]
    refine Or.inl (Rat.le_trans ?_ h)
    rw [Rat.sub_eq_add_neg, Rat.sub_eq_add_neg]
    exact Rat.add_le_add_left.mpr (Rat.neg_le_neg h1)
  · exact Or.inr (Rat.le_antisymm h2 h1)

theorem isclose_nearer_from_above {r a y u v : Rat} (h1 : y ≤ u) (h2 : u ≤ v) (h : isclose r a v y = true) :
    isclose r a u y = true := by
  rw [isclose_iff] at h ⊢
  rcases h with h | rfl
  · rw [absR_of_nonneg ((Rat.le_iff_sub_nonneg y v).mp (Rat.le_trans h1 h2))] at h
    rw [absR_of_nonneg ((Rat.le_iff_sub_nonneg y u).mp h1)]
    refine Or.inl (Rat.le_trans ?_ h)
    rw [Rat.sub_eq_add_neg, Rat.sub_eq_add_neg]
    exact Rat.add_le_add_right.mpr h2
  · exact Or.inr (Rat.le_antisymm h2 h1)

theorem le_add_of_nonneg {a b : Rat} (h : 0 ≤ b) : a ≤ a + b := by
  grind

theorem lt_of_pos_add_le {t d x : Rat} (hd : 0 < d) (h : t + d ≤ x) : t < x := by
  grind

/-- a step from `t` cut to land on a later `x` that the step `c ≤ m` would have passed -/
theorem cut_step {t x c m : Rat} (htx : t ≤ x) (hne : t ≠ x) (hcut : x < t + c) (hc : c ≤ m) :
    0 < x - t ∧ x - t ≤ m ∧ t + (x - t) = x := by
  grind

theorem sorted_of_strictlyIncreasing : ∀ (l : List Rat), strictlyIncreasing l = true → l.Pairwise (· < ·)
  | [], _ => List.Pairwise.nil
  | [_], _ => by simp
  | a :: b :: l, h => by
    simp only [strictlyIncreasing, Bool.and_eq_true, decide_eq_true_eq] at h
    have ih := sorted_of_strictlyIncreasing (b :: l) h.2
    refine List.Pairwise.cons ?_ ih
    intro c hc
    rcases List.mem_cons.mp hc with rfl | hc
    · exact h.1
    · exact Std.lt_trans h.1 ((List.pairwise_cons.mp ih).1 c hc)

theorem sorted_head_le {x : Rat} {l : List Rat} (h : (x :: l).Pairwise (· < ·)) : ∀ y ∈ x :: l, x ≤ y := by
  intro y hy
  rcases List.mem_cons.mp hy with rfl | hy
  · exact Rat.le_refl
  · exact Rat.le_of_lt ((List.pairwise_cons.mp h).1 y hy)

theorem sorted_le_getLast {l : List Rat} (h : l.Pairwise (· < ·)) {z : Rat} (hz : l.getLast? = some z) :
    ∀ y ∈ l, y ≤ z := by
  obtain ⟨ys, rfl⟩ := List.getLast?_eq_some_iff.mp hz
  intro y hy
  rcases List.mem_append.mp hy with h1 | h1
  · exact Rat.le_of_lt ((List.pairwise_append.mp h).2.2 y h1 z (List.mem_singleton.mpr rfl))
  · rw [List.mem_singleton.mp h1]; exact Rat.le_refl

/-- An injective relation between two lists of equal length is onto; the counting argument behind the
    constructor's check of the constant-step mode (Constant.lean). -/
theorem pigeonhole {α β : Type} [DecidableEq β] (R : α → β → Prop) :
    ∀ (C : List α) (S : List β), C.Nodup → C.length = S.length →
      (∀ c ∈ C, ∃ y ∈ S, R c y) → (∀ c ∈ C, ∀ c' ∈ C, ∀ y, R c y → R c' y → c = c') →
      ∀ y ∈ S, ∃ c ∈ C, R c y
  | [], S, _, hlen, _, _ => by
    intro y hy
    have : S = [] := List.eq_nil_of_length_eq_zero hlen.symm
    rw [this] at hy; cases hy
  | c :: C, S, hnd, hlen, hex, hinj => by
    obtain ⟨y0, hy0, hR0⟩ := hex c List.mem_cons_self
    have hnd' := (List.nodup_cons.mp hnd)
    have ih := pigeonhole R C (S.erase y0) hnd'.2
      (by rw [List.length_erase_of_mem hy0, ← hlen]; rfl)
      (by
        intro c' hc'
        obtain ⟨y1, hy1, hR1⟩ := hex c' (List.mem_cons_of_mem _ hc')
        have hne : y1 ≠ y0 := by
          intro e; subst e
          have := hinj c' (List.mem_cons_of_mem _ hc') c List.mem_cons_self _ hR1 hR0
          subst this; exact hnd'.1 hc'
        exact ⟨y1, (List.mem_erase_of_ne hne).mpr hy1, hR1⟩)
      (fun a ha b hb y h1 h2 => hinj a (List.mem_cons_of_mem _ ha) b (List.mem_cons_of_mem _ hb) y h1 h2)
    intro y hy
    by_cases e : y = y0
    · subst e; exact ⟨c, List.mem_cons_self, hR0⟩
    · obtain ⟨c', hc', hR'⟩ := ih y ((List.mem_erase_of_ne e).mpr hy)
      exact ⟨c', List.mem_cons_of_mem _ hc', hR'⟩

/-- Specification of `_correction_based_on_schedule` on the remaining schedule `l` (sorted, `t` not past
    its head, `t` not yet close to the final time): the times of `l` that are already reached within
    tolerance (`pre`) are skipped, `x` is the first one that is not; either the step fits before `x`
    (`b = false`: index advanced by `|pre|`, dt unchanged) or it is cut to land on `x` exactly
    (`b = true`: index advanced by `|pre|+1`). -/
theorem corrSched_spec (r a t dt : Rat) :
    ∀ (l : List Rat), l ≠ [] → l.Pairwise (· < ·) → (∀ x, l.head? = some x → t ≤ x) →
      (∀ z, l.getLast? = some z → isclose r a t z = false) →
      ∃ pre x post b d, l = pre ++ x :: post ∧ (∀ y ∈ pre, isclose r a t y = true) ∧ t ≤ x ∧
        corrSched r a t dt l = some (pre.length + b.toNat, b, d) ∧ t + d ≤ x ∧
        (b = false → d = dt) ∧ (b = true → d = x - t ∧ x < t + dt ∧ isclose r a t x = false)
  | [], h, _, _, _ => absurd rfl h
  | st :: rest, _, hs, hh, hz => by
    by_cases h1 : t + dt > st
    · by_cases h2 : isclose r a t st = true
      · -- the recursive call; `rest` is not empty because `t` is not close to the last time
        have hrest : rest ≠ [] := by
          rintro rfl
          rw [hz st rfl] at h2; cases h2
        obtain ⟨pre, x, post, b, d, hl, hpre, htx, hc, hrest'⟩ := corrSched_spec r a t dt rest hrest
          (List.pairwise_cons.mp hs).2
          (fun x hx => Rat.le_trans (hh st rfl)
            (Rat.le_of_lt ((List.pairwise_cons.mp hs).1 x (List.mem_of_mem_head? hx))))
          (fun z hzz => hz z (by rw [List.getLast?_cons_of_ne_nil hrest]; exact hzz))
        refine ⟨st :: pre, x, post, b, d, by rw [hl]; rfl, ?_, htx, ?_, hrest'⟩
        · intro y hy
          rcases List.mem_cons.mp hy with rfl | hy
          · exact h2
          · exact hpre y hy
        · simp only [corrSched, h1, if_true, h2, hc, List.length_cons, Nat.add_right_comm]
      · exact ⟨[], st, rest, true, st - t, rfl, by simp, hh st rfl,
          by simp only [corrSched, h1, if_true, h2, Bool.false_eq_true, if_false]; rfl,
          by rw [Rat.add_comm, Rat.sub_add_cancel]; exact Rat.le_refl, by simp,
          fun _ => ⟨rfl, h1, by simpa using h2⟩⟩
    · exact ⟨[], st, rest, false, dt, rfl, by simp, hh st rfl, by simp only [corrSched, h1, if_false]; rfl,
        Rat.not_lt.mp h1,
        fun _ => rfl, by simp⟩

/-- what the constructor checks in both modes -/
theorem valid_common {p : Params} (h : Valid p) :
    2 ≤ p.schedule.length ∧ (∀ t ∈ p.schedule, 0 ≤ t) ∧ p.schedule.Pairwise (· < ·) ∧ 0 < p.dtInit := by
  simp only [Valid, validate, Bool.and_eq_true, decide_eq_true_eq, List.all_eq_true] at h
  obtain ⟨⟨⟨⟨⟨h1, h2⟩, h3⟩, h4⟩, _⟩, _⟩ := h
  exact ⟨h1, h2, sorted_of_strictlyIncreasing _ h3, h4⟩

-- what the premise `Admissible p` gives, unpacked
structure Facts (p : Params) : Prop where
  len : 2 ≤ p.schedule.length
  nonneg : ∀ t ∈ p.schedule, 0 ≤ t
  sorted : p.schedule.Pairwise (· < ·)
  dt0 : 0 < p.dtInit
  min0 : p.dtMin ≤ p.dtInit
  max0 : p.dtInit ≤ p.dtMax
  over : 1 < p.overRelax
  rmax : 0 < p.recompMax
  adaptive : p.constantDt = false
  fits : Fits p
  tol : p.rtol ≤ 1 ∨ 0 ≤ p.atol
  pos : 0 < p.dtMin ∨ (0 < p.underRelax ∧ 0 < p.recompFactor)

theorem facts_of_admissible {p : Params} (h : Admissible p) : Facts p := by
  obtain ⟨hv, hc, hf, ht, hp⟩ := h
  obtain ⟨h1, h2, h3, h4⟩ := valid_common hv
  simp only [Valid, validate, hc, Bool.false_eq_true, if_false, Bool.and_eq_true, decide_eq_true_eq] at hv
  obtain ⟨_, ⟨⟨⟨⟨⟨⟨⟨⟨⟨⟨⟨h6, h7⟩, _⟩, _⟩, _⟩, _⟩, _⟩, h13⟩, _⟩, _⟩, _⟩, h17⟩⟩ := hv
  exact ⟨h1, h2, h3, h4, h6, h7, h13, h17, hc, hf, ht, hp⟩

theorem final_mem_of_len {p : Params} (hlen : 2 ≤ p.schedule.length) : p.schedule.getLast? = some p.timeFinal := by
  unfold Params.timeFinal
  rw [List.getLastD_eq_getLast?]
  cases h : p.schedule.getLast? with
  | none =>
    rw [List.getLast?_eq_none_iff.mp h] at hlen
    simp at hlen
  | some z => rfl

theorem le_timeFinal {p : Params} (hlen : 2 ≤ p.schedule.length) (hs : p.schedule.Pairwise (· < ·)) :
    ∀ y ∈ p.schedule, y ≤ p.timeFinal :=
  sorted_le_getLast hs (final_mem_of_len hlen)

theorem Facts.le_final {p : Params} (F : Facts p) : ∀ y ∈ p.schedule, y ≤ p.timeFinal :=
  le_timeFinal F.len F.sorted

theorem timeInit_mem {p : Params} (hlen : 2 ≤ p.schedule.length) : p.timeInit ∈ p.schedule := by
  unfold Params.timeInit
  cases hs : p.schedule with
  | nil => simp [hs] at hlen
  | cons a l => simp

theorem clamp_spec {p : Params} (F : Facts p) (d : Rat) :
    p.dtMin ≤ clampMax p (clampMin p d) ∧ clampMax p (clampMin p d) ≤ p.dtMax ∧
    (0 < p.dtMin ∨ 0 < d → 0 < clampMax p (clampMin p d)) := by
  have := F.min0; have := F.max0; have := F.dt0
  unfold clampMax clampMin
  split <;> split <;> grind

theorem getElem?_of_drop_eq {l : List Rat} {i : Nat} {pre post : List Rat} {x : Rat}
    (h : l.drop i = pre ++ x :: post) :
    l[i + pre.length]? = some x ∧ ∀ j, i ≤ j → j < i + pre.length → ∃ y, l[j]? = some y ∧ y ∈ pre := by
  constructor
  · have : (l.drop i)[pre.length]? = some x := by rw [h]; simp
    rwa [List.getElem?_drop] at this
  · intro j h1 h2
    have hk : j - i < pre.length := by omega
    have : (l.drop i)[j - i]? = some pre[j - i] := by
      rw [h, List.getElem?_append_left hk]; simp
    rw [List.getElem?_drop, show i + (j - i) = j by omega] at this
    exact ⟨_, this, List.getElem_mem _⟩

/-- Invariant of the time loop at the loop head (status `running`): `acc` are the accepted times
    (most recent first), `pending s` is the index of the next scheduled time not yet reached. -/
structure Inv (p : Params) (s : TM) (acc : List Rat) : Prop where
  head : acc.head? = some s.time
  dt_pos : 0 < s.dt
  idx_pos : s.aboutToHit = true → 1 ≤ s.idx
  next : ∃ x, p.schedule[pending s]? = some x ∧ s.time + s.dt ≤ x ∧ (s.aboutToHit = true → s.time + s.dt = x)
  hit : ∀ j, j < pending s → ∃ y, p.schedule[j]? = some y ∧ HitBy p acc y
  not_final : finalTimeReached p s = false
  dt_max : s.dt ≤ p.dtMax
  dt_min : p.dtMin ≤ s.dt ∨ ∃ x, p.schedule[pending s]? = some x ∧ s.time + s.dt = x
  recomp : (s.recompNum : Int) ≤ p.recompMax
  time_nonneg : 0 ≤ s.time
  ti : s.timeIndex + 1 = acc.length
  pend_pos : 1 ≤ pending s

theorem pending_le_idx (s : TM) : pending s ≤ s.idx := by
  unfold pending; split <;> omega

theorem Inv.pending_lt {p : Params} {s : TM} {acc : List Rat} (I : Inv p s acc) : pending s < p.schedule.length := by
  obtain ⟨x, hx, _, _⟩ := I.next
  exact (List.getElem?_eq_some_iff.mp hx).1

theorem HitBy.mono {p : Params} {acc : List Rat} {y : Rat} (a : Rat) (h : HitBy p acc y) : HitBy p (a :: acc) y := by
  obtain ⟨b, hb, hc⟩ := h
  exact ⟨b, List.mem_cons_of_mem _ hb, hc⟩

theorem not_final_iff {p : Params} {s : TM} :
    finalTimeReached p s = false ↔ ¬ (s.time > p.timeFinal) ∧ isclose p.rtol p.atol s.time p.timeFinal = false := by
  simp [finalTimeReached]

theorem statusOf_eq_finished {p : Params} {s : TM} : statusOf p s = .finished ↔ finalTimeReached p s = true := by
  unfold statusOf; split <;> simp [*]

theorem statusOf_eq_running {p : Params} {s : TM} : statusOf p s = .running ↔ finalTimeReached p s = false := by
  unfold statusOf; split <;> simp [*]

theorem statusOf_cases (p : Params) (s : TM) : statusOf p s = .running ∨ statusOf p s = .finished := by
  unfold statusOf; split <;> simp

theorem correct_keeps (p : Params) (s : TM) :
    (correct p s).1.time = s.time ∧ (correct p s).1.timeIndex = s.timeIndex ∧
      (correct p s).1.recompNum = s.recompNum := by
  unfold correct
  simp only []
  split <;> exact ⟨rfl, rfl, rfl⟩

theorem correct_err (p : Params) (s : TM) (e : Err) (h : (correct p s).2 = .err e) :
    e = .indexError := by
  unfold correct at h
  simp only [] at h
  split at h
  · exact (Res.err.inj h).symm
  · cases h

/-- The corrections (`dt_min`, `dt_max`, schedule) applied to a state `s` whose clock is an accepted time not
    past `schedule[idx]`, all earlier scheduled times being hit: they succeed and establish the loop
    invariant; the cursor does not go back, and moves on if the clock sits on `schedule[idx]`. -/
theorem correct_inv {p : Params} (F : Facts p) {s : TM} {acc : List Rat} {x0 : Rat}
    (hpos : 0 < p.dtMin ∨ 0 < s.dt) (hx0 : p.schedule[s.idx]? = some x0) (hle : s.time ≤ x0)
    (hidx : 1 ≤ s.idx) (hhead : acc.head? = some s.time)
    (hhit : ∀ j, j < s.idx → ∃ y, p.schedule[j]? = some y ∧ HitBy p acc y)
    (hnf : finalTimeReached p s = false) (hrc : (s.recompNum : Int) ≤ p.recompMax) (h0 : 0 ≤ s.time)
    (hti : s.timeIndex + 1 = acc.length) :
    ∃ s' d, correct p s = (s', .ok (some d)) ∧ s'.time = s.time ∧ s'.recompNum = s.recompNum ∧
      Inv p s' acc ∧ s.idx ≤ pending s' ∧ (s.time = x0 → s.idx + 1 ≤ pending s') := by
  have hlt : s.idx < p.schedule.length := (List.getElem?_eq_some_iff.mp hx0).1
  obtain ⟨pre, x, post, b, d, hl, hpre, htx, hc, hfit, hb0, hb1⟩ :=
    corrSched_spec p.rtol p.atol s.time (clampMax p (clampMin p s.dt)) (p.schedule.drop s.idx)
      (fun e => absurd (List.drop_eq_nil_iff.mp e) (Nat.not_le.mpr hlt))
      (List.Pairwise.sublist (List.drop_sublist _ _) F.sorted)
      (by intro x hx; rw [List.head?_drop, hx0] at hx; cases hx; exact hle)
      (by intro z hz
          rw [List.getLast?_drop, if_neg (Nat.not_le.mpr hlt), final_mem_of_len F.len] at hz
          cases hz; exact (not_final_iff.mp hnf).2)
  obtain ⟨hx, hmem⟩ := getElem?_of_drop_eq hl
  obtain ⟨hcmin, hcmax, hcpos⟩ := clamp_spec F s.dt
  -- the corrected step in both cases: kept (`b = false`) or cut to land on `x` (`b = true`)
  have hd : 0 < d ∧ d ≤ p.dtMax ∧ (p.dtMin ≤ d ∨ b = true) ∧ (b = true → s.time + d = x) := by
    cases b with
    | false => rw [hb0 rfl]; exact ⟨hcpos hpos, hcmax, Or.inl hcmin, fun e => nomatch e⟩
    | true =>
      obtain ⟨e, hcut, hnc⟩ := hb1 rfl
      have hne : s.time ≠ x := by intro e; rw [e, isclose_self] at hnc; cases hnc
      obtain ⟨h1, h2, h3⟩ := cut_step htx hne hcut hcmax
      rw [e]; exact ⟨h1, h2, Or.inr rfl, fun _ => h3⟩
  have hpend : pending { s with dt := d, idx := s.idx + (pre.length + b.toNat), aboutToHit := b }
      = s.idx + pre.length := by cases b <;> rfl
  have hmem0 : s.time ∈ acc := List.mem_of_mem_head? hhead
  refine ⟨{ s with dt := d, idx := s.idx + (pre.length + b.toNat), aboutToHit := b }, d,
    by simp only [correct, hc], rfl, rfl, ?_, hpend ▸ Nat.le_add_right _ _, ?_⟩
  · refine ⟨hhead, hd.1, by intro e; subst e; exact Nat.le_add_left _ _, ⟨x, hpend ▸ hx, hfit, hd.2.2.2⟩, ?_, hnf,
      hd.2.1, hd.2.2.1.imp id (fun e => ⟨x, hpend ▸ hx, hd.2.2.2 e⟩), hrc, h0, hti,
      hpend ▸ Nat.le_trans hidx (Nat.le_add_right _ _)⟩
    intro j hj
    rw [hpend] at hj
    rcases Nat.lt_or_ge j s.idx with h | h
    · exact hhit j h
    · obtain ⟨y, hy, hym⟩ := hmem j h hj
      exact ⟨y, hy, s.time, hmem0, hpre y hym⟩
  · -- the clock sits on `schedule[idx]`: that time is skipped, since the corrected step is positive
    intro e
    have hne : pre ≠ [] := by
      rintro rfl
      rw [List.length_nil, Nat.add_zero, hx0] at hx; cases hx
      exact Rat.ne_of_lt (lt_of_pos_add_le hd.1 hfit) e
    rw [hpend]
    exact Nat.add_le_add_left (List.length_pos_iff.mpr hne) _

/-- Invariant of a whole run, in whatever way it has ended: the accepted times decrease and do not exceed the
    final time; a running loop satisfies `Inv`, a finished one has hit every scheduled time, and the only
    errors are the two of `_adaptation_based_on_recomputation`. -/
def Good (p : Params) (r : Run) : Prop :=
  r.accepted.Pairwise (· > ·) ∧ (∀ a ∈ r.accepted, a ≤ p.timeFinal) ∧
  match r.status with
  | .running => Inv p r.tm r.accepted
  | .finished => ∀ y ∈ p.schedule, HitBy p r.accepted y
  | .raised e => e = .dtMinReached ∨ e = .recompExhausted
  | .crashed _ => False

theorem head_is_max {acc : List Rat} {t : Rat} (hm : acc.Pairwise (· > ·)) (hh : acc.head? = some t) :
    ∀ a ∈ acc, a ≤ t := by
  cases acc with
  | nil => simp
  | cons b l =>
    simp at hh; subst hh
    intro a ha
    rcases List.mem_cons.mp ha with rfl | ha
    · exact Rat.le_refl
    · exact Rat.le_of_lt ((List.pairwise_cons.mp hm).1 a ha)

theorem compute_conv_final {p : Params} {s : TM} (it : Int) (h : finalTimeReached p s = true) :
    computeTimeStep p s (some it) false = (s, .ok none) := by
  simp [computeTimeStep, h]

theorem compute_conv {p : Params} (F : Facts p) {s : TM} (it : Int) (h : finalTimeReached p s = false) :
    computeTimeStep p s (some it) false = correct p (adaptIter p s it) := by
  simp [computeTimeStep, h, F.adaptive]

theorem adaptIter_eq (p : Params) (s : TM) (it : Int) :
    ∃ d, (0 < s.dt → 0 < p.overRelax → 0 < p.underRelax → 0 < d) ∧
      adaptIter p s it = { s with recompNum := 0, dt := d } := by
  unfold adaptIter
  split
  · exact ⟨_, fun h ho _ => Rat.mul_pos h ho, rfl⟩
  · split
    · exact ⟨_, fun h _ hu => Rat.mul_pos h hu, rfl⟩
    · exact ⟨_, fun h _ _ => h, rfl⟩

/-- the state `compute_time_step(recompute_solution=True)` hands to the corrections: time and index taken
    back, step shortened -/
def rewound (p : Params) (c : TM) : TM :=
  { c with time := c.time - c.dt, timeIndex := c.timeIndex - 1, dt := c.dt * p.recompFactor,
           recompNum := c.recompNum + 1, idx := if c.aboutToHit then c.idx - 1 else c.idx }

theorem computeTimeStep_recompute (p : Params) (c : TM) (hc : p.constantDt = false) :
    computeTimeStep p c none true =
      if (c.recompNum : Int) < p.recompMax then
        if c.dt = p.dtMin then (c, .err .dtMinReached) else correct p (rewound p c)
      else (c, .err .recompExhausted) := by
  unfold computeTimeStep
  rw [hc]
  rfl

/-- `compute_time_step(recompute_solution=True)` right after `increase_time`: the rewinding of
    `_adaptation_based_on_recomputation` undoes the advance of clock and time index exactly, and takes the
    cursor back to the pending scheduled time -/
theorem compute_fail {p : Params} (F : Facts p) (s : TM) :
    computeTimeStep p (increaseTimeIndex (increaseTime s)) none true =
      if (s.recompNum : Int) < p.recompMax then
        if s.dt = p.dtMin then (increaseTimeIndex (increaseTime s), .err .dtMinReached)
        else correct p { s with dt := s.dt * p.recompFactor, recompNum := s.recompNum + 1, idx := pending s }
      else (increaseTimeIndex (increaseTime s), .err .recompExhausted) := by
  have h1 : s.time + s.dt - s.dt = s.time := Rat.add_sub_cancel
  have h2 : s.timeIndex + 1 - 1 = s.timeIndex := by omega
  simp only [computeTimeStep_recompute p _ F.adaptive, rewound, increaseTimeIndex, increaseTime, h1, h2, pending]

theorem sched_lt {p : Params} (F : Facts p) {i j : Nat} {x y : Rat} (hi : p.schedule[i]? = some x)
    (hj : p.schedule[j]? = some y) (hij : i < j) : x < y := by
  obtain ⟨hi', rfl⟩ := List.getElem?_eq_some_iff.mp hi
  obtain ⟨hj', rfl⟩ := List.getElem?_eq_some_iff.mp hj
  exact List.pairwise_iff_getElem.mp F.sorted i j hi' hj' hij

theorem sched_le {p : Params} (F : Facts p) {i j : Nat} {x y : Rat} (hi : p.schedule[i]? = some x)
    (hj : p.schedule[j]? = some y) (hij : i ≤ j) : x ≤ y := by
  rcases Nat.eq_or_lt_of_le hij with rfl | h
  · rw [hi] at hj; cases hj; exact Rat.le_refl
  · exact Rat.le_of_lt (sched_lt F hi hj h)

theorem sched_mem {p : Params} {i : Nat} {x : Rat} (hi : p.schedule[i]? = some x) : x ∈ p.schedule :=
  List.mem_of_getElem? hi

theorem last_index {p : Params} (F : Facts p) : p.schedule[p.schedule.length - 1]? = some p.timeFinal := by
  rw [← List.getLast?_eq_getElem?]; exact final_mem_of_len F.len

theorem stepRun_not_running (p : Params) (r : Run) (o : Outcome) (h : r.status ≠ .running) : stepRun p r o = r := by
  obtain ⟨tm, acc, st⟩ := r
  cases st <;> simp_all [stepRun]

theorem converged_step_is_accepted (p : Params) (r : Run) (it : Int) (h : r.status = .running) :
    (stepRun p r (.converged it)).accepted = (r.tm.time + r.tm.dt) :: r.accepted := by
  obtain ⟨tm, acc, st⟩ := r
  cases h
  simp only [stepRun]
  split
  · rfl
  · split <;> rfl

theorem stepRun_converged_ok {p : Params} (hc : p.constantDt = false) {s s' : TM} {acc : List Rat} {it : Int}
    {ret : Option Rat}
    (h : computeTimeStep p (increaseTimeIndex (increaseTime s)) (some it) false = (s', .ok ret)) :
    stepRun p ⟨s, acc, .running⟩ (.converged it) = ⟨s', (s.time + s.dt) :: acc, statusOf p s'⟩ := by
  simp only [stepRun, hc, Bool.false_eq_true, if_false, h]; rfl

theorem Inv.step_le_final {p : Params} (F : Facts p) {s : TM} {acc : List Rat} (I : Inv p s acc) :
    s.time + s.dt ≤ p.timeFinal := by
  obtain ⟨x, hx, hle, _⟩ := I.next
  exact Rat.le_trans hle (F.le_final x (sched_mem hx))

/-- a clock that ends the loop without having passed the final time is within tolerance of it, hence of
    every scheduled time it has not passed -/
theorem close_of_reached {p : Params} (F : Facts p) {s : TM} (hf : finalTimeReached p s = true) (h0 : 0 ≤ s.time)
    (hle : s.time ≤ p.timeFinal) {y : Rat} (hy : y ∈ p.schedule) (hty : s.time ≤ y) :
    isclose p.rtol p.atol s.time y = true := by
  simp only [finalTimeReached, Bool.or_eq_true, decide_eq_true_eq] at hf
  exact isclose_nearer_right F.tol h0 hty (F.le_final y hy) (hf.resolve_left (Rat.not_lt.mpr hle))

/-- Where `_scheduled_idx` points while the loop runs, unless the coming step reaches the final time: to a
    scheduled time not before the end of the step — the pending one, or the one after it if the step lands
    on the pending one. -/
theorem Inv.cursor {p : Params} (F : Facts p) {s : TM} {acc : List Rat} (I : Inv p s acc)
    (hnf : isclose p.rtol p.atol (s.time + s.dt) p.timeFinal = false) :
    ∃ x0, p.schedule[s.idx]? = some x0 ∧ s.time + s.dt ≤ x0 ∧
      (pending s = s.idx ∨ (pending s + 1 = s.idx ∧ p.schedule[pending s]? = some (s.time + s.dt))) := by
  obtain ⟨x, hx, hle, heq⟩ := I.next
  cases hab : s.aboutToHit with
  | false =>
    have hp : pending s = s.idx := by simp [pending, hab]
    exact ⟨x, by rw [← hp]; exact hx, hle, Or.inl hp⟩
  | true =>
    have hp : pending s + 1 = s.idx := by have := I.idx_pos hab; simp [pending, hab]; omega
    have hxe := heq hab
    rcases Nat.lt_or_ge s.idx p.schedule.length with hl | hl
    · have hy := List.getElem?_eq_getElem hl
      exact ⟨_, hy, Rat.le_trans hle (sched_le F hx hy (by omega)), Or.inr ⟨hp, by rw [hxe]; exact hx⟩⟩
    · exfalso
      have := I.pending_lt
      rw [show pending s = p.schedule.length - 1 by omega, last_index F] at hx
      cases hx
      rw [hxe, isclose_self] at hnf; cases hnf

/-- A converged step: the new time is accepted; the loop either stops with every scheduled time hit, or
    goes on from an invariant state; the cursor has not gone back, and it has moved on unless the step was
    at least `dt_min`. -/
theorem step_converged_cases {p : Params} (F : Facts p) {s : TM} {acc : List Rat} (I : Inv p s acc) (it : Int) :
    ∃ s', stepRun p ⟨s, acc, .running⟩ (.converged it) = ⟨s', (s.time + s.dt) :: acc, statusOf p s'⟩ ∧
      s'.time = s.time + s.dt ∧
      ((finalTimeReached p s' = true ∧ ∀ y ∈ p.schedule, HitBy p ((s.time + s.dt) :: acc) y) ∨
       (Inv p s' ((s.time + s.dt) :: acc) ∧ pending s ≤ pending s' ∧
          (p.dtMin ≤ s.dt ∨ pending s < pending s'))) := by
  obtain ⟨x, hx, hle, heq⟩ := I.next
  have hnn : 0 ≤ s.time + s.dt := Rat.add_nonneg I.time_nonneg (Rat.le_of_lt I.dt_pos)
  have hself : HitBy p ((s.time + s.dt) :: acc) (s.time + s.dt) :=
    ⟨_, List.mem_cons_self, isclose_self _⟩
  by_cases hf : finalTimeReached p (increaseTimeIndex (increaseTime s)) = true
  · -- the final time is reached: the loop stops; the scheduled times from the pending one on lie
    -- between the clock and the final time, so the clock is close to them too
    refine ⟨_, stepRun_converged_ok F.adaptive (compute_conv_final it hf), rfl, Or.inl ⟨hf, ?_⟩⟩
    intro y hy
    obtain ⟨j, hjy⟩ := List.mem_iff_getElem?.mp hy
    rcases Nat.lt_or_ge j (pending s) with hlt | hge
    · obtain ⟨y', hy1, hy2⟩ := I.hit j hlt
      rw [hjy] at hy1; cases hy1
      exact hy2.mono _
    · exact ⟨_, List.mem_cons_self,
        close_of_reached F hf hnn (I.step_le_final F) hy (Rat.le_trans hle (sched_le F hx hjy hge))⟩
  · have hf' : finalTimeReached p (increaseTimeIndex (increaseTime s)) = false := by simpa using hf
    obtain ⟨x0, hx0, hle0, hcur⟩ := I.cursor F (not_final_iff.mp hf').2
    obtain ⟨d', hd', e⟩ := adaptIter_eq p (increaseTimeIndex (increaseTime s)) it
    have hidx : 1 ≤ s.idx := Nat.le_trans I.pend_pos (pending_le_idx s)
    obtain ⟨s3, d, hc, ht3, _, hI3, (hadv : s.idx ≤ pending s3),
        (hadv1 : s.time + s.dt = x0 → s.idx + 1 ≤ pending s3)⟩ :=
      correct_inv F (s := { increaseTimeIndex (increaseTime s) with recompNum := 0, dt := d' })
        (acc := (s.time + s.dt) :: acc) (x0 := x0)
        (F.pos.imp id (fun h => hd' I.dt_pos (Std.lt_trans (by decide) F.over) h.1))
        hx0 hle0 hidx rfl
        (by
          intro j hj
          have hj : j < s.idx := hj
          rcases Nat.lt_or_ge j (pending s) with hlt | hge
          · obtain ⟨y, hy1, hy2⟩ := I.hit j hlt
            exact ⟨y, hy1, hy2.mono _⟩
          · -- only possible when the step has landed on the pending scheduled time
            rcases hcur with e | ⟨e, hl⟩
            · omega
            · rw [show j = pending s by omega]
              exact ⟨_, hl, hself⟩)
        hf' (Int.le_of_lt F.rmax) hnn
        (by show s.timeIndex + 1 + 1 = ((acc.length + 1 : Nat) : Int); rw [I.ti]; rfl)
    refine ⟨s3, stepRun_converged_ok F.adaptive (by rw [compute_conv F it hf', e]; exact hc), ht3,
      Or.inr ⟨hI3, Nat.le_trans (pending_le_idx s) hadv, ?_⟩⟩
    rcases hcur with e | ⟨e, _⟩
    · rcases I.dt_min with h | ⟨x', hx', he⟩
      · exact Or.inl h
      · right
        rw [e, hx0] at hx'; cases hx'
        have := hadv1 he
        omega
    · right; omega

/-- A failed step leaves the accepted times alone and raises, or rewinds the clock to the last accepted
    time, counts the attempt and goes on from an invariant state without moving the cursor back. -/
theorem step_failed_cases {p : Params} (F : Facts p) {s : TM} {acc : List Rat} (I : Inv p s acc) :
    ∃ s' st, stepRun p ⟨s, acc, .running⟩ .failed = ⟨s', acc, st⟩ ∧
      ((st = .raised .recompExhausted ∧ p.recompMax ≤ (s.recompNum : Int)) ∨
       (st = .raised .dtMinReached ∧ s.dt = p.dtMin) ∨
       (st = .running ∧ s'.time = s.time ∧ s'.recompNum = s.recompNum + 1 ∧ Inv p s' acc ∧
          pending s ≤ pending s')) := by
  by_cases h1 : (s.recompNum : Int) < p.recompMax
  · by_cases h2 : s.dt = p.dtMin
    · refine ⟨increaseTimeIndex (increaseTime s), _, ?_, Or.inr (Or.inl ⟨rfl, h2⟩)⟩
      simp only [stepRun, F.adaptive, Bool.false_eq_true, if_false, compute_fail F, h1, h2, if_true]
    · obtain ⟨x, hx, hle, _⟩ := I.next
      obtain ⟨s3, d, hc, ht3, hrc3, hI3, hadv, _⟩ :=
        correct_inv F (s := { s with dt := s.dt * p.recompFactor, recompNum := s.recompNum + 1, idx := pending s })
          (acc := acc) (x0 := x)
          (F.pos.imp id (fun h => Rat.mul_pos I.dt_pos h.2))
          hx (Rat.le_of_lt (lt_of_pos_add_le I.dt_pos hle)) I.pend_pos I.head I.hit I.not_final
          (by show ((s.recompNum + 1 : Nat) : Int) ≤ p.recompMax; omega) I.time_nonneg I.ti
      refine ⟨s3, _, ?_, Or.inr (Or.inr ⟨rfl, ht3, hrc3, hI3, hadv⟩)⟩
      simp only [stepRun, F.adaptive, Bool.false_eq_true, if_false, compute_fail F, h1, h2, if_true, hc,
        statusOf, hI3.not_final]
  · refine ⟨increaseTimeIndex (increaseTime s), _, ?_, Or.inl ⟨rfl, by omega⟩⟩
    simp only [stepRun, F.adaptive, Bool.false_eq_true, if_false, compute_fail F, h1]

theorem schedule_shape {p : Params} (F : Facts p) : ∃ s0 s1 rest, p.schedule = s0 :: s1 :: rest := by
  have := F.len
  match h : p.schedule with
  | [] => simp [h] at this
  | [_] => simp [h] at this
  | s0 :: s1 :: rest => exact ⟨s0, s1, rest, rfl⟩

theorem good_start {p : Params} (F : Facts p) : Good p (startRun p) := by
  obtain ⟨s0, s1, rest, hs⟩ := schedule_shape F
  have ht0 : p.timeInit = s0 := by rw [Params.timeInit, hs]; rfl
  have hmem0 := timeInit_mem F.len
  have h0 : 0 ≤ p.timeInit := F.nonneg _ hmem0
  have hfin0 : p.timeInit ≤ p.timeFinal := F.le_final _ hmem0
  have hself : HitBy p [p.timeInit] p.timeInit := ⟨_, List.mem_singleton.mpr rfl, isclose_self _⟩
  refine ⟨List.pairwise_singleton _ _, fun a ha => by rw [List.mem_singleton.mp ha]; exact hfin0, ?_⟩
  rw [show (startRun p).status = statusOf p (init p) from rfl]
  by_cases hf : finalTimeReached p (init p) = true
  · -- the initial time is already close to the final one, hence to every scheduled time
    rw [statusOf_eq_finished.mpr hf]
    intro y hy
    have hy0 : p.timeInit ≤ y := by
      have hsrt := F.sorted
      rw [hs] at hy hsrt
      rw [ht0]; exact sorted_head_le hsrt y hy
    exact ⟨_, List.mem_singleton.mpr rfl, close_of_reached F (s := init p) hf h0 hfin0 hy hy0⟩
  · have hf' : finalTimeReached p (init p) = false := by simpa using hf
    rw [statusOf_eq_running.mpr hf']
    have hfit : p.timeInit + p.dtInit ≤ s1 := by have := F.fits; rw [Fits, hs] at this; exact this
    refine ⟨rfl, F.dt0, fun e => (Bool.false_ne_true e).elim, ⟨s1, by rw [hs]; rfl, hfit, fun e => (Bool.false_ne_true e).elim⟩,
      ?_, hf', F.max0, Or.inl F.min0, Int.le_of_lt F.rmax, h0, rfl, Nat.le_refl 1⟩
    intro j hj
    obtain rfl : j = 0 := Nat.lt_one_iff.mp hj
    exact ⟨p.timeInit, by rw [ht0, hs]; rfl, hself⟩

theorem good_step {p : Params} (F : Facts p) (r : Run) (o : Outcome) (h : Good p r) : Good p (stepRun p r o) := by
  obtain ⟨tm, acc, st⟩ := r
  by_cases hst : st = .running
  · subst hst
    obtain ⟨hm, hb, hI⟩ := h
    cases o with
    | converged it =>
      obtain ⟨s', hstep, _, hcase⟩ := step_converged_cases F hI it
      rw [hstep]
      have hI : Inv p tm acc := hI
      have hgt : ∀ a ∈ acc, tm.time + tm.dt > a := fun a ha =>
        Std.lt_of_le_of_lt (head_is_max hm hI.head a ha) (lt_of_pos_add_le hI.dt_pos Rat.le_refl)
      refine ⟨List.pairwise_cons.mpr ⟨hgt, hm⟩, ?_, ?_⟩
      · intro a ha
        rcases List.mem_cons.mp ha with rfl | ha
        · exact hI.step_le_final F
        · exact hb a ha
      rcases hcase with ⟨hf, hh⟩ | ⟨hI', _⟩
      · rw [statusOf_eq_finished.mpr hf]; exact hh
      · rw [statusOf_eq_running.mpr hI'.not_final]; exact hI'
    | failed =>
      obtain ⟨s', st, hstep, hcase⟩ := step_failed_cases F hI
      rw [hstep]
      refine ⟨hm, hb, ?_⟩
      rcases hcase with ⟨rfl, _⟩ | ⟨rfl, _⟩ | ⟨rfl, _, _, hI', _⟩
      · exact Or.inr rfl
      · exact Or.inl rfl
      · exact hI'
  · rw [stepRun_not_running p _ o hst]; exact h

theorem runFrom_cons (p : Params) (r : Run) (o : Outcome) (os : List Outcome) :
    runFrom p r (o :: os) = runFrom p (stepRun p r o) os := rfl

theorem runFrom_induction {p : Params} (os : List Outcome) : ∀ {P : Nat → Run → Prop} {r : Run}, P 0 r →
    (∀ n r', P n r' → ∀ o ∈ os, P (n + 1) (stepRun p r' o)) → P os.length (runFrom p r os) := by
  induction os with
  | nil => intro _ _ h0 _; exact h0
  | cons o os ih =>
    intro P r h0 hstep
    exact ih (P := fun n => P (n + 1)) (hstep 0 r h0 o List.mem_cons_self)
      (fun n r' h o' ho' => hstep (n + 1) r' h o' (List.mem_cons_of_mem _ ho'))

theorem good_runFrom {p : Params} (F : Facts p) (os : List Outcome) : ∀ r, Good p r → Good p (runFrom p r os) :=
  fun _ h => runFrom_induction os (P := fun _ => Good p) h (fun _ r' h' o _ => good_step F r' o h')

theorem good_run {p : Params} (F : Facts p) (os : List Outcome) : Good p (run p os) :=
  good_runFrom F os _ (good_start F)

theorem inv_of_running {p : Params} {r : Run} (hg : Good p r) (h : r.status = .running) : Inv p r.tm r.accepted := by
  have := hg.2.2
  rw [h] at this; exact this

theorem Good.hits {p : Params} {r : Run} (hg : Good p r) (h : r.status = .finished) :
    ∀ y ∈ p.schedule, HitBy p r.accepted y := by
  have := hg.2.2
  rw [h] at this; exact this

theorem Good.raised {p : Params} {r : Run} (hg : Good p r) {e : Err} (h : r.status = .raised e) :
    e = .dtMinReached ∨ e = .recompExhausted := by
  have := hg.2.2
  rw [h] at this; exact this

theorem Good.not_crashed {p : Params} {r : Run} (hg : Good p r) (e : Err) : r.status ≠ .crashed e := by
  intro h
  have := hg.2.2
  rw [h] at this; exact this

theorem runFrom_append (p : Params) (r : Run) (os os' : List Outcome) :
    runFrom p r (os ++ os') = runFrom p (runFrom p r os) os' := by
  simp [runFrom, List.foldl_append]

theorem runFrom_not_running (p : Params) (os : List Outcome) : ∀ r, r.status ≠ .running → runFrom p r os = r := by
  intro r h
  exact runFrom_induction os (P := fun _ r' => r' = r) rfl
    (fun _ r' e o _ => by subst e; exact stepRun_not_running p _ o h)

theorem running_of_step {p : Params} {r : Run} {o : Outcome} (h : (stepRun p r o).status = .running) :
    r.status = .running := by
  by_cases h0 : r.status = .running
  · exact h0
  · rwa [stepRun_not_running p r o h0] at h

theorem accepted_length_of_running (p : Params) {os : List Outcome} (hall : AllConverged os) {r : Run}
    (h : (runFrom p r os).status = .running) : (runFrom p r os).accepted.length = r.accepted.length + os.length := by
  refine runFrom_induction os (P := fun n r' => r'.status = .running → r'.accepted.length = r.accepted.length + n)
    (fun _ => rfl) ?_ h
  intro n r' ih o ho h'
  obtain ⟨it, rfl⟩ := hall o ho
  have hr := running_of_step h'
  rw [converged_step_is_accepted p r' it hr, List.length_cons, ih hr]; rfl

end PorepyVerif.C09
