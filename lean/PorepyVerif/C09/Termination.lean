/-
C09 — how many steps a run can take (for a positive `dt_min`): the remaining `budget` of a running loop, the
potential `pot` that charges every accepted time to it, and the integer ledger `credit` that charges every step
to an accepted time or to the recomputation counter.
-/
import PorepyVerif.C09.Lemmas

namespace PorepyVerif.C09

/-- remaining budget: distance to the final time plus `dt_min` for every scheduled time still ahead -/
def budget (p : Params) (s : TM) : Rat :=
  (p.timeFinal - s.time) + p.dtMin * ((p.schedule.length - pending s : Nat) : Rat)

theorem budget_ge {p : Params} (F : Facts p) (hmin : 0 < p.dtMin) {s : TM} {acc : List Rat} (I : Inv p s acc) :
    p.dtMin ≤ budget p s := by
  obtain ⟨x, hx, hle, _⟩ := I.next
  have h1 : s.time ≤ p.timeFinal :=
    Rat.le_trans (Rat.le_of_lt (lt_of_pos_add_le I.dt_pos hle)) (F.le_final x (sched_mem hx))
  have h3 : (1 : Rat) ≤ ((p.schedule.length - pending s : Nat) : Rat) := by
    have := I.pending_lt
    have : 1 ≤ p.schedule.length - pending s := by omega
    exact_mod_cast this
  have h4 := Rat.mul_le_mul_of_nonneg_left h3 (Rat.le_of_lt hmin)
  rw [Rat.mul_one] at h4
  rw [budget, Rat.add_comm]
  exact Rat.le_trans h4 (le_add_of_nonneg ((Rat.le_iff_sub_nonneg _ _).mp h1))

theorem budget_le {p : Params} (hmin : 0 < p.dtMin) {s s' : TM} {d : Rat} {k : Nat} (ht : s'.time = s.time + d)
    (hp : pending s + k ≤ pending s') (hl : pending s' ≤ p.schedule.length) :
    budget p s' + d + p.dtMin * (k : Rat) ≤ budget p s := by
  have h : ((p.schedule.length - pending s' : Nat) : Rat) + (k : Rat) ≤ ((p.schedule.length - pending s : Nat) : Rat) := by
    have : p.schedule.length - pending s' + k ≤ p.schedule.length - pending s := by omega
    exact_mod_cast this
  have := Rat.mul_le_mul_of_nonneg_left h (Rat.le_of_lt hmin)
  unfold budget
  rw [ht]
  grind

theorem budget_mono {p : Params} (hmin : 0 < p.dtMin) {s s' : TM} (ht : s'.time = s.time) (hp : pending s ≤ pending s')
    (hl : pending s' ≤ p.schedule.length) : budget p s' ≤ budget p s := by
  have h := budget_le hmin (d := 0) (k := 0) (by rw [ht, Rat.add_zero]) hp hl
  rwa [Rat.add_zero, show ((0 : Nat) : Rat) = 0 from rfl, Rat.mul_zero, Rat.add_zero] at h

theorem pot_arith {m n B B' : Rat} (h : B' + m ≤ B) : m * (n + 1) + B' ≤ m * n + B := by
  grind

/-- a converged step that does not end the run costs at least `dt_min` of the budget: it advances the
    clock by `dt_min` or more, or the cursor by one -/
theorem converged_costs {p : Params} (hmin : 0 < p.dtMin) {s s' : TM} (hdt : 0 < s.dt) (ht : s'.time = s.time + s.dt)
    (hl : pending s' < p.schedule.length) (hp : pending s ≤ pending s')
    (hprog : p.dtMin ≤ s.dt ∨ pending s < pending s') : budget p s' + p.dtMin ≤ budget p s := by
  rcases hprog with h | h
  · have hB := budget_le hmin (k := 0) ht hp (Nat.le_of_lt hl)
    rw [show ((0 : Nat) : Rat) = 0 from rfl, Rat.mul_zero, Rat.add_zero] at hB
    exact Rat.le_trans (Rat.add_le_add_left.mpr h) hB
  · have hB := budget_le hmin (k := 1) ht h (Nat.le_of_lt hl)
    rw [show ((1 : Nat) : Rat) = 1 from rfl, Rat.mul_one] at hB
    exact Rat.le_trans (Rat.add_le_add_right.mpr (le_add_of_nonneg (Rat.le_of_lt hdt))) hB

/-- accepted steps so far, weighted with `dt_min`, plus the remaining budget while the loop runs -/
def pot (p : Params) (r : Run) : Rat :=
  p.dtMin * (r.accepted.length : Rat) + (match r.status with | .running => budget p r.tm | _ => 0)

theorem pot_step {p : Params} (F : Facts p) (hmin : 0 < p.dtMin) (r : Run) (o : Outcome) (hg : Good p r) :
    pot p (stepRun p r o) ≤ pot p r := by
  obtain ⟨tm, acc, st⟩ := r
  by_cases hst : st = .running
  · subst hst
    obtain ⟨hm, hb, hI⟩ := hg
    have hI : Inv p tm acc := hI
    have hge := budget_ge F hmin hI
    cases o with
    | converged it =>
      obtain ⟨s', hstep, ht, hcase⟩ := step_converged_cases F hI it
      rw [hstep]
      rcases hcase with ⟨hf, _⟩ | ⟨hI', hp, hprog⟩
      · simp only [pot, statusOf_eq_finished.mpr hf, List.length_cons, Rat.natCast_add]
        exact pot_arith (by rw [Rat.zero_add]; exact hge)
      · simp only [pot, statusOf_eq_running.mpr hI'.not_final, List.length_cons, Rat.natCast_add]
        exact pot_arith (converged_costs hmin hI.dt_pos ht hI'.pending_lt hp hprog)
    | failed =>
      obtain ⟨s', st, hstep, hcase⟩ := step_failed_cases F hI
      rw [hstep]
      rcases hcase with ⟨rfl, _⟩ | ⟨rfl, _⟩ | ⟨rfl, ht, _, hI', hp⟩
      · exact Rat.add_le_add_left.mpr (Rat.le_trans (Rat.le_of_lt hmin) hge)
      · exact Rat.add_le_add_left.mpr (Rat.le_trans (Rat.le_of_lt hmin) hge)
      · exact Rat.add_le_add_left.mpr (budget_mono hmin ht hp (Nat.le_of_lt hI'.pending_lt))
  · rw [stepRun_not_running p _ o hst]; exact Rat.le_refl

theorem pot_runFrom {p : Params} (F : Facts p) (hmin : 0 < p.dtMin) (os : List Outcome) :
    ∀ r, Good p r → pot p (runFrom p r os) ≤ pot p r := by
  intro r hg
  exact (runFrom_induction os (P := fun _ r' => Good p r' ∧ pot p r' ≤ pot p r) ⟨hg, Rat.le_refl⟩
    (fun _ r' ⟨hg', ih⟩ o _ => ⟨good_step F r' o hg', Rat.le_trans (pot_step F hmin r' o hg') ih⟩)).2

theorem le_pot {p : Params} (F : Facts p) (hmin : 0 < p.dtMin) {r : Run} (hg : Good p r) :
    p.dtMin * (r.accepted.length : Rat) ≤ pot p r := by
  obtain ⟨tm, acc, st⟩ := r
  cases st with
  | running => exact le_add_of_nonneg (Rat.le_trans (Rat.le_of_lt hmin) (budget_ge F hmin (inv_of_running hg rfl)))
  | finished => exact le_add_of_nonneg Rat.le_refl
  | raised e => exact le_add_of_nonneg Rat.le_refl
  | crashed e => exact le_add_of_nonneg Rat.le_refl

theorem init_le_final {p : Params} (F : Facts p) : p.timeInit ≤ p.timeFinal :=
  F.le_final _ (timeInit_mem F.len)

theorem Facts.len_cast {p : Params} (F : Facts p) :
    ((p.schedule.length - 1 : Nat) : Rat) + 1 = (p.schedule.length : Rat) := by
  have : p.schedule.length - 1 + 1 = p.schedule.length := by have := F.len; omega
  exact_mod_cast this

theorem pot_start_le {p : Params} (F : Facts p) (hmin : 0 < p.dtMin) :
    pot p (startRun p) ≤ p.dtMin + budget p (init p) := by
  have hpot : pot p (startRun p) = p.dtMin * 1 +
      (match statusOf p (init p) with | .running => budget p (init p) | _ => 0) := rfl
  rw [hpot, Rat.mul_one]
  rcases statusOf_cases p (init p) with h | h <;> rw [h]
  · exact Rat.le_refl
  · exact Rat.add_le_add_left.mpr (Rat.add_nonneg ((Rat.le_iff_sub_nonneg _ _).mp (init_le_final F))
      (Rat.mul_nonneg (Rat.le_of_lt hmin) (by exact_mod_cast Nat.zero_le _)))

theorem converged_run_status {p : Params} (F : Facts p) {os : List Outcome} (hall : AllConverged os) {r : Run}
    (hg : Good p r) (h : r.status = .running ∨ r.status = .finished) :
    (runFrom p r os).status = .running ∨ (runFrom p r os).status = .finished := by
  refine (runFrom_induction os (P := fun _ r' => Good p r' ∧ (r'.status = .running ∨ r'.status = .finished))
    ⟨hg, h⟩ ?_).2
  intro _ r' ⟨hg', h'⟩ o ho
  obtain ⟨it, rfl⟩ := hall o ho
  refine ⟨good_step F r' _ hg', ?_⟩
  rcases h' with h' | h'
  · obtain ⟨tm, acc, st⟩ := r'
    cases h'
    obtain ⟨s', hstep, _⟩ := step_converged_cases F hg'.2.2 it
    rw [hstep]; exact statusOf_cases p s'
  · rw [stepRun_not_running p r' _ (by rw [h']; simp)]; exact Or.inr h'

theorem pot_cancel {m a n B B' : Rat} (h : m * (a + n) + B' ≤ m * a + B) : B' + m * n ≤ B := by
  grind

/-- a tape of converged steps from a running state ends the run or pays `dt_min` of the budget for every step -/
theorem converged_run_budget {p : Params} (F : Facts p) (hmin : 0 < p.dtMin) :
    ∀ (os : List Outcome), AllConverged os → ∀ r, Good p r → r.status = .running →
      ((runFrom p r os).status = .finished) ∨
      ((runFrom p r os).status = .running ∧
        budget p (runFrom p r os).tm + p.dtMin * (os.length : Rat) ≤ budget p r.tm) := by
  intro os hall r hg hr
  rcases converged_run_status F hall hg (Or.inl hr) with h | h
  · refine Or.inr ⟨h, ?_⟩
    have h1 := pot_runFrom F hmin os r hg
    unfold pot at h1
    rw [h, hr, accepted_length_of_running p hall h, Rat.natCast_add] at h1
    exact pot_cancel h1
  · exact Or.inl h

theorem accepted_while_running_arith {m A B P P0 b0 : Rat} (hB : m ≤ B) (h1 : P = m * A + B) (h2 : P ≤ P0)
    (h3 : P0 ≤ m + b0) : m * A ≤ b0 := by
  grind

/-- while the loop runs, the accepted times (the initial one included) have cost `dt_min` each out of the
    initial budget, and `dt_min` is still left -/
theorem accepted_while_running {p : Params} (F : Facts p) (hmin : 0 < p.dtMin) (os : List Outcome)
    (h : (run p os).status = .running) :
    p.dtMin * ((run p os).accepted.length : Rat) ≤ budget p (init p) := by
  have h1 : pot p (run p os) = p.dtMin * ((run p os).accepted.length : Rat) + budget p (run p os).tm := by
    unfold pot; rw [h]
  exact accepted_while_running_arith (budget_ge F hmin (inv_of_running (good_run F os) h)) h1
    (pot_runFrom F hmin os _ (good_start F)) (pot_start_le F hmin)

/-- the most steps the loop can have taken: `recomp_max + 1` for every accepted time (the step that reached
    it and the failed attempts before it), and the failed attempts since the last one -/
def credit (p : Params) (r : Run) : Int := (p.recompMax + 1) * r.accepted.length + r.tm.recompNum

/-- every step that leaves the loop running is covered: an accepted time is worth `recomp_max + 1`, of which
    the attempts counted so far (at most `recomp_max`) are given back; a failed step counts an attempt -/
theorem credit_step {p : Params} (F : Facts p) {r : Run} (hg : Good p r) (o : Outcome)
    (h : (stepRun p r o).status = .running) : credit p r + 1 ≤ credit p (stepRun p r o) := by
  have hr := running_of_step h
  have hI := inv_of_running hg hr
  unfold credit
  cases o with
  | converged it =>
    rw [converged_step_is_accepted p r it hr, List.length_cons, Int.natCast_succ, Int.mul_add, Int.mul_one]
    have := hI.recomp
    omega
  | failed =>
    obtain ⟨tm, acc, st⟩ := r
    cases hr
    obtain ⟨s', st, hstep, hcase⟩ := step_failed_cases F (s := tm) (acc := acc) hI
    rw [hstep] at h ⊢
    rcases hcase with ⟨rfl, _⟩ | ⟨rfl, _⟩ | ⟨_, _, hrc, _, _⟩
    · cases h
    · cases h
    · show (p.recompMax + 1) * (acc.length : Int) + (tm.recompNum : Int) + 1
        ≤ (p.recompMax + 1) * (acc.length : Int) + ((s'.recompNum : Nat) : Int)
      rw [hrc]; omega

theorem credit_runFrom {p : Params} (F : Facts p) (os : List Outcome) : ∀ r, Good p r →
    (runFrom p r os).status = .running → credit p r + os.length ≤ credit p (runFrom p r os) := by
  intro r hg hfin
  refine (runFrom_induction os
    (P := fun n r' => Good p r' ∧ (r'.status = .running → credit p r + n ≤ credit p r'))
    ⟨hg, fun _ => by omega⟩ ?_).2 hfin
  intro n r' ⟨hg', ih⟩ o _
  refine ⟨good_step F r' o hg', fun h' => ?_⟩
  have h1 := credit_step F hg' o h'
  have h2 := ih (running_of_step h')
  omega

/-- from the start: every step taken while the loop runs is covered by an accepted time -/
theorem steps_le_accepted {p : Params} (F : Facts p) (os : List Outcome) (h : (run p os).status = .running) :
    (os.length : Int) + 1 ≤ (p.recompMax + 1) * ((run p os).accepted.length : Int) := by
  have hl : credit p (startRun p) + os.length ≤ credit p (run p os) := credit_runFrom F os _ (good_start F) h
  have hc := (inv_of_running (good_run F os) h).recomp
  have h0 : credit p (startRun p) = p.recompMax + 1 := by
    show (p.recompMax + 1) * ((1 : Nat) : Int) + ((0 : Nat) : Int) = _
    omega
  rw [h0] at hl; unfold credit at hl; omega

theorem failed_step_accepted (p : Params) (r : Run) : (stepRun p r .failed).accepted = r.accepted := by
  obtain ⟨tm, acc, st⟩ := r
  cases st <;> simp only [stepRun]
  split
  · rfl
  · split <;> rfl

/-- failed steps alone add no accepted time, so each of them has to be covered by the attempt counter -/
theorem failures_exhaust {p : Params} (F : Facts p) : ∀ (k : Nat) (r : Run), Good p r → r.status = .running →
    p.recompMax < (r.tm.recompNum : Int) + k → (runFrom p r (List.replicate k .failed)).status ≠ .running := by
  intro k r hg _ hk h
  have hl := credit_runFrom F _ r hg h
  have hacc : (runFrom p r (List.replicate k .failed)).accepted = r.accepted :=
    runFrom_induction _ (P := fun _ r' => r'.accepted = r.accepted) rfl
      (fun _ r' ih o ho => by rw [List.eq_of_mem_replicate ho, failed_step_accepted, ih])
  have := (inv_of_running (good_runFrom F _ r hg) h).recomp
  rw [credit, credit, hacc, List.length_replicate] at hl
  omega

/-- the three bounds of Props.lean, as facts about numbers: `m` is `dt_min`, `b0` the initial budget, `n` the
    length of the tape, `B` the budget at its end, `A` the number of accepted times, `R` is `recomp_max`,
    `P`/`P0` the potential at the end/start -/
theorem finishes_arith {m B b0 n : Rat} (hm : 0 < m) (hB : m ≤ B) (h : B + m * n ≤ b0) (hlen : b0 ≤ m * n) :
    False := by
  grind

theorem terminates_arith {R m A b0 n : Rat} (hm : 0 < m) (hR : 0 ≤ R) (hn : n + 1 ≤ (R + 1) * A)
    (hA : m * A ≤ b0) (hlen : (R + 1) * b0 ≤ m * n) : False := by
  have h1 := Rat.mul_le_mul_of_nonneg_left hn (Rat.le_of_lt hm)
  have h2 := Rat.mul_le_mul_of_nonneg_left hA (Rat.add_nonneg hR (by decide : (0 : Rat) ≤ 1))
  grind

theorem bounded_arith {m A P P0 c L : Rat} (h1 : m * A ≤ P) (h2 : P ≤ P0) (h3 : P0 ≤ m + (c + m * L)) :
    m * A ≤ c + m * (L + 1) := by
  grind

end PorepyVerif.C09
