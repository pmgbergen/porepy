/-
C38 — the grouping of cells by kind: `np.unique` (`uniqueKeys`), the cells of one kind (`cellsOf`), and the one
invariant carried through `addGroup`, `groupGrid` and `groupGrids`: the ids in the dictionary are, up to
order, those already there followed by the cells of the grids added.  Core Lean only.
-/
import PorepyVerif.C38.Arrays
import PorepyVerif.Common.InsSort

namespace PorepyVerif.C38

/-- `np.unique` as an insertion sort that keeps one copy of equal keys: `insUniq.mem` and `insUniq.sorted` say that
    `uniqueKeys l` has the members of `l`, strictly ascending -/
theorem insUniq : Common.InsUniq (· < ·) insertKey uniqueKeys where
  trans := Nat.lt_trans
  ins_nil _ := rfl
  ins_cons x a l := by
    rw [insertKey]
    split
    · exact .inl ⟨‹_›, rfl⟩
    split
    · exact .inr (.inl ⟨‹_›, rfl⟩)
    · exact .inr (.inr ⟨Nat.lt_of_le_of_ne (Nat.not_lt.mp ‹_›) (Ne.symm ‹_›), rfl⟩)
  srt_nil := rfl
  srt_cons _ _ := rfl

theorem nodup_uniqueKeys (l : List Nat) : (uniqueKeys l).Nodup :=
  (insUniq.sorted l).imp Nat.ne_of_lt

theorem mem_cellsOf (k off i : Nat) (kinds : List Nat) :
    i ∈ cellsOf k off kinds ↔ ∃ j, kinds[j]? = some k ∧ i = off + j := by
  induction kinds generalizing off with
  | nil => simp [cellsOf]
  | cons x xs ih =>
    have step : i ∈ cellsOf k off (x :: xs) ↔ (x = k ∧ i = off) ∨ i ∈ cellsOf k (off + 1) xs := by
      rw [cellsOf]
      split
      · rename_i h; simp only [List.mem_cons, h, true_and]
      · rename_i h; simp only [h, false_and, false_or]
    rw [step, ih]
    constructor
    · rintro (⟨rfl, rfl⟩ | ⟨j, hj, rfl⟩)
      · exact ⟨0, rfl, rfl⟩
      · exact ⟨j + 1, hj, Nat.add_right_comm off 1 j⟩
    · rintro ⟨j, hj, rfl⟩
      cases j with
      | zero => exact Or.inl ⟨Option.some.inj hj, rfl⟩
      | succ j => exact Or.inr ⟨j, hj, (Nat.add_right_comm off 1 j).symm⟩

theorem nodup_cellsOf (k off : Nat) (kinds : List Nat) : (cellsOf k off kinds).Nodup := by
  induction kinds generalizing off with
  | nil => simp [cellsOf]
  | cons x xs ih =>
    simp only [cellsOf]
    split
    · refine List.nodup_cons.mpr ⟨?_, ih _⟩
      intro h
      obtain ⟨j, _, hj⟩ := (mem_cellsOf k (off + 1) off xs).mp h
      exact Nat.ne_of_lt (Nat.lt_of_lt_of_le (Nat.lt_succ_self off) (Nat.le_add_right _ j)) hj
    · exact ih _

theorem cellsOf_disjoint {k k' off i : Nat} {kinds : List Nat}
    (h : i ∈ cellsOf k off kinds) (h' : i ∈ cellsOf k' off kinds) : k = k' := by
  obtain ⟨j, hj, rfl⟩ := (mem_cellsOf ..).mp h
  obtain ⟨j', hj', e⟩ := (mem_cellsOf ..).mp h'
  obtain rfl : j = j' := Nat.add_left_cancel e
  exact Option.some.inj (hj.symm.trans hj')

/-- the cells of a grid listed kind by kind, over its distinct kinds, are all its cells -/
theorem perm_flatMap_cellsOf (off : Nat) (kinds : List Nat) :
    ((uniqueKeys kinds).flatMap (fun k => cellsOf k off kinds)).Perm
      (List.range' off kinds.length) := by
  have hnd : ((uniqueKeys kinds).flatMap (fun k => cellsOf k off kinds)).Nodup :=
    List.pairwise_flatMap.mpr ⟨fun k _ => nodup_cellsOf k off kinds,
      (nodup_uniqueKeys kinds).imp fun hne i hi i' hi' e => hne (cellsOf_disjoint hi (e ▸ hi'))⟩
  rw [List.perm_ext_iff_of_nodup hnd List.nodup_range']
  intro i
  rw [List.mem_range'_1, List.mem_flatMap]
  constructor
  · rintro ⟨k, _, hk⟩
    obtain ⟨j, hj, rfl⟩ := (mem_cellsOf ..).mp hk
    exact ⟨Nat.le_add_right .., Nat.add_lt_add_left (List.getElem?_eq_some_iff.mp hj).1 off⟩
  · rintro ⟨h1, h2⟩
    obtain ⟨j, rfl⟩ := Nat.exists_eq_add_of_le h1
    have hj : j < kinds.length := Nat.lt_of_add_lt_add_left h2
    exact ⟨kinds[j], insUniq.mem.mpr (List.getElem_mem hj),
      (mem_cellsOf ..).mpr ⟨j, List.getElem?_eq_getElem hj, rfl⟩⟩

theorem allIds_cons (g : Nat × List Nat) (gs : Groups) : allIds (g :: gs) = g.2 ++ allIds gs :=
  rfl

theorem perm_allIds_addGroup (k : Nat) (ids : List Nat) (gs : Groups) :
    (allIds (addGroup k ids gs)).Perm (allIds gs ++ ids) := by
  induction gs with
  | nil => exact List.perm_append_comm
  | cons g gs ih =>
    rw [addGroup]
    split
    · rw [allIds_cons, allIds_cons, List.append_assoc, List.append_assoc]
      exact List.perm_append_comm.append_left g.2
    · rw [allIds_cons, allIds_cons, List.append_assoc]
      exact ih.append_left g.2

theorem perm_allIds_foldl_addGroup (f : Nat → List Nat) (keys : List Nat) (gs : Groups) :
    (allIds (keys.foldl (fun acc k => addGroup k (f k) acc) gs)).Perm
      (allIds gs ++ keys.flatMap f) := by
  induction keys generalizing gs with
  | nil => simp
  | cons k ks ih =>
    rw [List.foldl_cons, List.flatMap_cons, ← List.append_assoc]
    exact (ih _).trans ((perm_allIds_addGroup k (f k) gs).append_right _)

theorem perm_allIds_groupGrid (off : Nat) (kinds : List Nat) (gs : Groups) :
    (allIds (groupGrid off kinds gs)).Perm (allIds gs ++ List.range' off kinds.length) :=
  (perm_allIds_foldl_addGroup _ _ gs).trans ((perm_flatMap_cellsOf off kinds).append_left _)

theorem perm_allIds_groupGrids (off : Nat) (grids : List (List Nat)) (gs : Groups) :
    (allIds (groupGrids off grids gs)).Perm
      (allIds gs ++ List.range' off (grids.map List.length).sum) := by
  induction grids generalizing off gs with
  | nil => simp [groupGrids]
  | cons g rest ih =>
    rw [groupGrids, List.map_cons, List.sum_cons, ← List.range'_append_1, ← List.append_assoc]
    exact (ih _ _).trans ((perm_allIds_groupGrid off g gs).append_right _)

/-- the same as duplicate-freeness and membership, for a dictionary whose ids lie below the offset -/
theorem groupGrids_spec (off : Nat) (grids : List (List Nat)) (gs : Groups)
    (hgs : (allIds gs).Nodup) (hlt : ∀ i ∈ allIds gs, i < off) :
    (allIds (groupGrids off grids gs)).Nodup ∧
    ∀ i, i ∈ allIds (groupGrids off grids gs) ↔
      i ∈ allIds gs ∨ (off ≤ i ∧ i < off + (grids.map List.length).sum) := by
  have hp := perm_allIds_groupGrids off grids gs
  refine ⟨hp.nodup_iff.mpr (List.nodup_append.mpr ⟨hgs, List.nodup_range', fun i hi j hj e => ?_⟩),
    fun i => hp.mem_iff.trans (List.mem_append.trans (or_congr_right List.mem_range'_1))⟩
  exact Nat.not_le_of_gt (hlt i hi) (e ▸ (List.mem_range'_1.mp hj).1)

theorem isPartition_groupGrids (grids : List (List Nat)) :
    IsPartition ((groupGrids 0 grids []).map (·.2)) (grids.map List.length).sum :=
  isPartition_iff.mpr (IsPerm.of_perm (perm_allIds_groupGrids 0 grids []))

theorem consecutive_eq_range' (off : Nat) (sizes : List Nat) :
    consecutive off sizes = List.range' off sizes.sum := by
  induction sizes generalizing off with
  | nil => simp [consecutive]
  | cons n ns ih =>
    simp only [consecutive, List.sum_cons, ih]
    rw [List.range'_append_1]

theorem isPerm_consecutive (sizes : List Nat) : IsPerm (consecutive 0 sizes) sizes.sum :=
  IsPerm.of_perm (by rw [consecutive_eq_range'])

theorem isPartition_single (sizes : List Nat) : IsPartition [consecutive 0 sizes] sizes.sum := by
  rw [isPartition_iff, List.flatten_singleton]
  exact isPerm_consecutive sizes

end PorepyVerif.C38
