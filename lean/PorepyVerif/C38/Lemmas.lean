/-
C38 — the export of one dimension as a whole: blocks sorted by key (`sortGroups`) and meshio's regrouping, and the
if-ladder that chooses the grouping of a dimension (`groupsDim`, `groupsDimAsCoded`).  What the single operations of the
model do is in the modules imported here: `Arrays` (through `Grouping`), `Grouping`, `Labels`, `Files`.  Core Lean only.
-/
import PorepyVerif.C38.Grouping
import PorepyVerif.C38.Labels
import PorepyVerif.C38.Files

namespace PorepyVerif.C38

theorem insSort : Common.InsSort (fun a b => a.1 ≤ b.1) (insertGroup (α := α)) sortGroups :=
  .of_ite Nat.le_trans Nat.le_of_not_le (fun _ => rfl) (fun _ _ _ => rfl) rfl (fun _ _ => rfl)

theorem perm_sortGroups (l : List (Nat × α)) : (sortGroups l).Perm l := insSort.perm l

theorem pairwise_sortGroups (l : List (Nat × α)) : (sortGroups l).Pairwise (fun a b => a.1 ≤ b.1) :=
  insSort.sorted l

theorem sortGroups_of_sorted (l : List (Nat × α)) (h : l.Pairwise (fun a b => a.1 ≤ b.1)) :
    sortGroups l = l := insSort.eq_self (fun _ _ _ h => if_pos h) h

/-- meshio's regrouping leaves blocks alone that are written in ascending order of their key -/
theorem readBack_groups (poly : Bool) (gs : Groups) (f : List Nat → List α)
    (h : poly = true → gs.Pairwise (fun a b => a.1 ≤ b.1)) :
    readBack poly (gs.map (·.1)) ((gs.map (·.2)).map f) = (gs.map (·.2)).map f := by
  unfold readBack
  split
  · rename_i hp
    rw [List.map_map, List.zip_map', sortGroups_of_sorted, List.map_map]
    · rfl
    · exact List.pairwise_map.mpr (h hp)
  · rfl

theorem map_length_nnodes (gs : List GridInfo) :
    (gs.map (·.nnodes)).map List.length = gs.map (·.ncells) := by
  rw [List.map_map]; rfl

/-- `groupsDim` is `groupsWith sortGroups` and `groupsDimAsCoded` is `groupsWith id`, both by unfolding: the two differ
    in what is done to the polyhedron blocks -/
def groupsWith (post : Groups → Groups) (dim : Nat) (gs : List GridInfo) : Groups :=
  if dim ≤ 1 then [(0, consecutive 0 (gs.map (·.ncells)))]
  else if dim = 2 then groupGrids 0 (gs.map (·.nnodes)) []
  else match mode3 gs with
    | .poly => post (groupGrids 0 (gs.map (·.nnodes)) [])
    | _ => [(0, consecutive 0 (gs.map (·.ncells)))]

/-- whatever is done to the polyhedron blocks, as long as it only reorders them, the blocks of a dimension
    partition its cells -/
theorem isPartition_groupsWith (post : Groups → Groups) (hpost : ∀ g, (post g).Perm g) (dim : Nat)
    (gs : List GridInfo) : IsPartition ((groupsWith post dim gs).map (·.2)) (totalCells gs) := by
  unfold groupsWith totalCells
  rw [← map_length_nnodes]
  by_cases h1 : dim ≤ 1
  · rw [if_pos h1]; exact isPartition_single _
  · rw [if_neg h1]
    by_cases h2 : dim = 2
    · rw [if_pos h2]; exact isPartition_groupGrids _
    · rw [if_neg h2]
      cases mode3 gs
      · exact isPartition_single _
      · exact isPartition_single _
      · exact isPartition_of_perm (hpost _) (isPartition_groupGrids _)

theorem groupsDim_sorted (dim : Nat) (gs : List GridInfo) (h : isPoly dim gs = true) :
    (groupsDim dim gs).Pairwise (fun a b => a.1 ≤ b.1) := by
  unfold isPoly at h
  simp only [Bool.and_eq_true, decide_eq_true_eq, beq_iff_eq] at h
  unfold groupsDim
  have h3 : 2 < dim := h.1
  rw [if_neg (Nat.not_le_of_gt (Nat.lt_trans (by decide) h3)), if_neg (Nat.ne_of_gt h3), h.2]
  exact pairwise_sortGroups _

end PorepyVerif.C38
