/-
C38 — decimal digits and `"%f"` labels (`renderF`, read back by `valueF`), python's `max` (`argmaxFirst`) and the
selection of the latest label in a pvd file.  Core Lean only.
-/
import PorepyVerif.C38.Model

namespace PorepyVerif.C38

theorem digitsAux_lt (f n : Nat) : ∀ d ∈ digitsAux f n, d < 10 := by
  induction f generalizing n with
  | zero => simp [digitsAux]
  | succ f ih =>
    intro d hd
    rw [digitsAux] at hd
    split at hd
    · rename_i hn
      exact List.mem_singleton.mp hd ▸ hn
    · rcases List.mem_cons.mp hd with rfl | h
      · exact Nat.mod_lt _ (by decide)
      · exact ih _ d h

theorem ofLE_digitsAux (f n : Nat) (h : n < f) : ofLE (digitsAux f n) = n := by
  induction f generalizing n with
  | zero => exact absurd h (Nat.not_lt_zero n)
  | succ f ih =>
    rw [digitsAux]
    split
    · exact Nat.add_zero n
    · rename_i hn
      have h0 : 0 < n := Nat.lt_of_lt_of_le (by decide : 0 < 10) (Nat.le_of_not_lt hn)
      rw [ofLE, ih (n / 10)
        (Nat.lt_of_lt_of_le (Nat.div_lt_self h0 (by decide)) (Nat.le_of_lt_succ h))]
      exact Nat.mod_add_div n 10

theorem ofLE_digitsLE (n : Nat) : ofLE (digitsLE n) = n := ofLE_digitsAux (n + 1) n (Nat.lt_succ_self n)

theorem ofBE_concat (l : List Nat) (d : Nat) : ofBE (l ++ [d]) = 10 * ofBE l + d := by
  unfold ofBE
  rw [List.foldl_append]
  rfl

theorem ofBE_reverse (l : List Nat) : ofBE l.reverse = ofLE l := by
  induction l with
  | nil => rfl
  | cons d ds ih => rw [List.reverse_cons, ofBE_concat, ih, ofLE, Nat.add_comm]

/-- one Horner step in base ten -/
theorem div_ten_mul_add (m k k' : Nat) (hk : k' = 10 * k) :
    10 * (m / k') + m / k % 10 = m / k := by
  rw [hk, Nat.mul_comm 10 k, ← Nat.div_div_eq_div_mul]
  exact Nat.div_add_mod (m / k) 10

theorem ofBE_pad6 (m : Nat) (h : m < 1000000) : ofBE (pad6 m) = m := by
  simp only [ofBE, pad6, List.foldl_cons, List.foldl_nil, Nat.mul_zero, Nat.zero_add]
  rw [Nat.mod_eq_of_lt (Nat.div_lt_of_lt_mul (show m < 100000 * 10 from h)),
    div_ten_mul_add m 10000 100000 rfl, div_ten_mul_add m 1000 10000 rfl,
    div_ten_mul_add m 100 1000 rfl, div_ten_mul_add m 10 100 rfl, Nat.div_add_mod]

theorem ofBE_zero_pad (k : Nat) (ds : List Nat) : ofBE (List.replicate k 0 ++ ds) = ofBE ds := by
  unfold ofBE
  rw [List.foldl_append]
  have : (List.replicate k 0).foldl (fun acc d => 10 * acc + d) 0 = 0 := by
    induction k with
    | zero => rfl
    | succ k ih => rw [List.replicate_succ, List.foldl_cons]; exact ih
  rw [this]

theorem map_add_sub (l : List Nat) : (l.map (· + 48)).map (· - 48) = l := by
  induction l with
  | nil => rfl
  | cons a t ih => rw [List.map_cons, List.map_cons, ih, Nat.add_sub_cancel]

/-- reading a `"%f"` label as a number gives back the number it was rendered from -/
theorem valueF_renderF (N : Nat) : valueF (renderF N) = N := by
  have hint : ∀ y ∈ (digitsLE (N / 1000000)).reverse.map (· + 48), (y != 46) = true := by
    intro y hy
    obtain ⟨d, _, rfl⟩ := List.mem_map.mp hy
    exact bne_iff_ne.mpr (Nat.ne_of_gt (Nat.lt_of_lt_of_le (by decide : 46 < 48) (Nat.le_add_left 48 d)))
  unfold valueF renderF
  rw [List.takeWhile_append_of_pos hint, List.dropWhile_append_of_pos hint,
    List.takeWhile_cons_of_neg (by decide), List.dropWhile_cons_of_neg (by decide),
    List.append_nil, List.drop_succ_cons, List.drop_zero, map_add_sub, map_add_sub,
    ofBE_reverse, ofLE_digitsLE, ofBE_pad6 _ (Nat.mod_lt _ (by decide))]
  exact Nat.div_add_mod' N 1000000

theorem renderF_injective (a b : Nat) (h : renderF a = renderF b) : a = b := by
  rw [← valueF_renderF a, h, valueF_renderF]

/-- `"%f"` labels are equal as strings exactly when the times are equal -/
theorem beq_renderF (a b : Nat) : (renderF a == renderF b) = (a == b) :=
  Bool.eq_iff_iff.mpr ⟨fun h => beq_iff_eq.mpr (renderF_injective _ _ (beq_iff_eq.mp h)),
    fun h => beq_iff_eq.mpr (congrArg renderF (beq_iff_eq.mp h))⟩

theorem argmaxFirst_isSome (key : σ → Nat) (l : List σ) (h : l ≠ []) : (argmaxFirst key l).isSome := by
  cases l with
  | nil => exact absurd rfl h
  | cons s ss =>
    rw [argmaxFirst]
    cases argmaxFirst key ss <;> rfl

theorem argmaxFirst_spec (key : σ → Nat) (l : List σ) (m : σ) (h : argmaxFirst key l = some m) :
    m ∈ l ∧ ∀ x ∈ l, key x ≤ key m := by
  induction l generalizing m with
  | nil => cases h
  | cons s ss ih =>
    cases ss with
    | nil =>
      obtain rfl : s = m := Option.some.inj h
      exact ⟨List.mem_singleton.mpr rfl, fun x hx => List.mem_singleton.mp hx ▸ Nat.le_refl _⟩
    | cons t ts =>
      obtain ⟨m', hm'⟩ := Option.isSome_iff_exists.mp (argmaxFirst_isSome key (t :: ts) (List.cons_ne_nil t ts))
      have hm := ih m' hm'
      rw [argmaxFirst, hm'] at h
      obtain rfl := Option.some.inj h
      by_cases hle : key m' ≤ key s
      · rw [if_pos hle]
        exact ⟨List.mem_cons_self, List.forall_mem_cons.mpr
          ⟨Nat.le_refl _, fun x hx => Nat.le_trans (hm.2 x hx) hle⟩⟩
      · rw [if_neg hle]
        exact ⟨List.mem_cons_of_mem _ hm.1, List.forall_mem_cons.mpr ⟨Nat.le_of_not_le hle, hm.2⟩⟩

/-- the largest step index is python's `max` with the identity as key -/
theorem latest_eq_argmaxFirst (l : List Nat) : latest l = argmaxFirst id l := by
  induction l with
  | nil => rfl
  | cons s ss ih =>
    rw [latest, argmaxFirst, ih]
    cases argmaxFirst id ss with
    | none => rfl
    | some m =>
      show some (if m < s then s else m) = some (if m ≤ s then s else m)
      by_cases h : m < s
      · rw [if_pos h, if_pos (Nat.le_of_lt h)]
      · by_cases h' : m ≤ s
        · rw [if_neg h, if_pos h', Nat.le_antisymm h' (Nat.not_lt.mp h)]
        · rw [if_neg h, if_neg h']

theorem filter_rendered (entries : List (Nat × Nat × φ)) (M : Nat) :
    (rendered entries).filter (fun e => e.1 == renderF M) =
      rendered (entries.filter (fun e => e.1 == M)) := by
  rw [rendered, List.filter_map, rendered]
  exact congrArg _ (List.filter_congr fun e _ => beq_renderF e.1 M)

/-- `import_from_pvd` on any labels: a label of maximal numeric value, the files carrying exactly
    that label in listed order, the suffix of the first of them -/
theorem pvdSelectLabels_spec (entries : List (List Nat × Nat × φ)) (idx : Nat) (files : List φ)
    (h : pvdSelectLabels entries = some (idx, files)) :
    ∃ e0 ∈ entries, (∀ lab ∈ entries.map (·.1), valueF lab ≤ valueF e0.1) ∧
      files = (entries.filter (fun e => e.1 == e0.1)).map (·.2.2) ∧
      (entries.filter (fun e => e.1 == e0.1)).head?.map (·.2.1) = some idx := by
  rw [pvdSelectLabels] at h
  split at h
  · cases h
  · rename_i lab ha
    obtain ⟨hmem, hmax⟩ := argmaxFirst_spec valueF _ lab ha
    obtain ⟨e0, he0, rfl⟩ := List.mem_map.mp hmem
    refine ⟨e0, he0, hmax, ?_⟩
    split at h
    · cases h
    · rename_i a t hf
      obtain ⟨rfl, rfl⟩ := Prod.mk.inj (Option.some.inj h)
      rw [hf]
      exact ⟨rfl, rfl⟩

/-- `import_from_pvd` finds something in every non-empty pvd file, whatever the labels -/
theorem pvdSelectLabels_isSome (entries : List (List Nat × Nat × φ)) (h : entries ≠ []) :
    (pvdSelectLabels entries).isSome := by
  obtain ⟨lab, ha⟩ := Option.isSome_iff_exists.mp
    (argmaxFirst_isSome valueF _ (mt List.map_eq_nil_iff.mp h))
  obtain ⟨e, he, hl⟩ := List.mem_map.mp (argmaxFirst_spec valueF _ lab ha).1
  rw [pvdSelectLabels, ha]
  dsimp only
  cases hf : entries.filter (fun e => e.1 == lab) with
  | nil =>
    have : e ∈ entries.filter (fun e => e.1 == lab) := List.mem_filter.mpr ⟨he, beq_iff_eq.mpr hl⟩
    rw [hf] at this; cases this
  | cons a t => rfl

end PorepyVerif.C38
