/-
C38 — the property theorems; their statements depend on Model.lean only.

Property: for any mixed-dimensional grid (any cell shapes, several subdomains per dimension,
interfaces) and any cell data written to vtu/pvd by the exporter, importing the files back
restores, for every subdomain and interface, the values written at the most recent time-step
index, cell by cell; time and time-step information written alongside is restored likewise.
-/
import PorepyVerif.C38.Lemmas

namespace PorepyVerif.C38

/-- for every dimension and every list of grids, the cell-id lists the
    exporter builds (`Meshio_Geom.cell_ids`) are pairwise disjoint, duplicate free and cover
    exactly the cells `0 .. total-1` of the concatenated grids. -/
theorem groups_partition_cells (dim : Nat) (gs : List GridInfo) :
    IsPartition (cellIds dim gs) (totalCells gs) :=
  isPartition_groupsWith sortGroups perm_sortGroups dim gs

/-- the same for the block order of the code before fix a4b1c63a0 (first occurrence) -/
theorem groups_partition_cells_as_coded (dim : Nat) (gs : List GridInfo) :
    IsPartition (cellIdsAsCoded dim gs) (totalCells gs) :=
  isPartition_groupsWith id List.Perm.refl dim gs

/-- cutting the stacked array at the entity offsets returns the entities. -/
theorem chop_concat_id (parts : List (List α)) :
    chop (parts.map List.length) parts.flatten = parts := chop_flatten parts

/-- for EVERY grouping of the cells that is a partition, any number of
    entities and any data, importing the exported blocks returns the data, entity by entity and
    cell by cell (`α` = numbers for scalar data, = one column per cell for vector data). -/
theorem import_export_id (d : α) (ids : List (List Nat)) (parts : List (List α))
    (h : IsPartition ids parts.flatten.length) :
    importField d ids (exportField d ids parts) (parts.map List.length) = parts := by
  unfold importField exportField
  simp only [flatten_map_gather]
  rw [isPartition_iff] at h
  have hl : (gather d parts.flatten ids.flatten).length = parts.flatten.length := by
    rw [length_gather]; exact h.length_eq
  rw [hl, scatter_gather d parts.flatten ids.flatten h]
  exact chop_flatten parts

/-- `values[:, ids].T` of an array given by its rows is the list of the columns `ids`. -/
theorem gatherCols_eq_gather (d : α) (rows : List (List α)) (n : Nat) (ids : List Nat)
    (h : ∀ i ∈ ids, i < n) :
    gatherCols d rows ids = gather (rows.map (fun _ => d)) (columns d rows n) ids := by
  unfold gatherCols gather columns
  apply List.map_congr_left
  intro i hi
  rw [List.getD_eq_getElem?_getD, List.getElem?_map, List.getElem?_range (h i hi)]
  rfl

/-- import_export_id for vector-valued data handed over flat (cell-major, what
    `_to_vector_format` reshapes to `nd × cells` in Fortran order): the importer returns the
    same flat arrays. -/
theorem import_export_id_vector (nd : Nat) (ids : List (List Nat)) (sizes : List Nat)
    (flat : List (List α)) (hlen : sizes.length = flat.length)
    (hflat : ∀ p ∈ sizes.zip flat, p.2.length = nd * p.1)
    (h : IsPartition ids sizes.sum) :
    (importField [] ids
        (exportField [] ids ((sizes.zip flat).map (fun p => toColumns nd p.1 p.2))) sizes).map
      List.flatten = flat := by
  obtain ⟨hsz, hfl⟩ := toColumns_zip nd sizes flat hlen hflat
  have key := import_export_id ([] : List α) ids ((sizes.zip flat).map (fun p => toColumns nd p.1 p.2))
    (by rw [List.length_flatten, hsz]; exact h)
  rw [hsz] at key
  rw [key, hfl]

/-- for every dimension, every list of grids (any cell shapes), subdomains
    (`sides` all 1) or mortar grids (`sides` = number of side grids of each interface) and any
    data with one value per cell, export followed by import (including meshio's regrouping of
    polyhedral cell data by ascending number of nodes) returns the data of every entity. -/
theorem roundtrip_dim (d : α) (dim : Nat) (gs : List GridInfo) (sides : List Nat)
    (parts : List (List α)) (hs : gs.length ≤ sides.sum)
    (hp : parts.map List.length = entitySizes sides (gs.map (·.ncells))) :
    roundTrip d dim gs sides parts = parts := by
  have htot : parts.flatten.length = totalCells gs := by
    rw [List.length_flatten, hp, sum_entitySizes _ _ (by rw [List.length_map]; exact hs)]
    rfl
  unfold roundTrip
  show importField d _ (readBack _ _ (((groupsDim dim gs).map (·.2)).map (gather d parts.flatten)))
    _ = parts
  rw [readBack_groups _ _ _ (groupsDim_sorted dim gs), ← hp]
  exact import_export_id d (cellIds dim gs) parts (htot ▸ groups_partition_cells dim gs)

/-- with a number codec that round-trips (`dec (enc x) = some x`), loading
    the file written by `write_time_information` gives any manager exactly the written history:
    the previous history followed by the current time and time step. -/
theorem time_info_roundtrip (enc : ν → τ) (dec : τ → Option ν) (hc : ∀ x, dec (enc x) = some x)
    (m m' : TM ν) :
    TM.load dec m' (TM.write enc m).2 =
      some { m' with expTimes := m.expTimes ++ [m.time], expDt := m.expDt ++ [m.dt] } :=
  load_fileOf enc dec hc { m with expTimes := m.expTimes ++ [m.time], expDt := m.expDt ++ [m.dt] } m'

/-- the file left on disk by a whole simulation restores the whole sequence of written
    (time, dt) pairs, in order -/
theorem time_history_roundtrip (enc : ν → τ) (dec : τ → Option ν) (hc : ∀ x, dec (enc x) = some x)
    (m m' : TM ν) (ws : List (ν × ν)) :
    TM.load dec m' (TM.fileOf enc (TM.steps enc m ws)) =
      some { m' with expTimes := m.expTimes ++ ws.map (·.1), expDt := m.expDt ++ ws.map (·.2) } := by
  have h := steps_history enc m ws
  rw [load_fileOf enc dec hc, h.1, h.2]

/-- restart at exported step `k`: the manager gets the time and the time step written at step
    `k`, and keeps the history before it -/
theorem restart_time_restored (m : TM ν) (ws : List (ν × ν)) (k : Nat) (hk : k < ws.length) :
    TM.setFromExported { m with expTimes := ws.map (·.1), expDt := ws.map (·.2) } (k : Int) =
      some { time := ws[k].1, dt := ws[k].2,
             expTimes := (ws.take k).map (·.1), expDt := (ws.take k).map (·.2) } := by
  simp only [TM.setFromExported, pyGet_natCast, pyTake_natCast, List.getElem?_map,
    List.getElem?_eq_getElem hk, Option.map_some, List.map_take]

/-- ... and with the default index `-1`: the last written pair -/
theorem restart_time_restored_last (m : TM ν) (ws : List (ν × ν)) (w : ν × ν) :
    TM.setFromExported { m with expTimes := (ws ++ [w]).map (·.1), expDt := (ws ++ [w]).map (·.2) } (-1) =
      some { time := w.1, dt := w.2, expTimes := ws.map (·.1), expDt := ws.map (·.2) } := by
  simp only [TM.setFromExported, List.map_append, List.map_cons, List.map_nil, pyGet_neg_one,
    pyTake_neg_one]

/-- the selection the property asks for (`pvdSelect`, on step indices; the code selects by label,
    `pvdSelectLabels` below): an exported time-step index that is at least every other one, and
    exactly the files listed for it, in the listed order. -/
theorem pvd_selects_latest (entries : List (Nat × φ)) (m : Nat) (files : List φ)
    (h : pvdSelect entries = some (m, files)) :
    m ∈ entries.map (·.1) ∧ (∀ e ∈ entries, e.1 ≤ m) ∧
    files = (entries.filter (fun e => e.1 == m)).map (·.2) := by
  rw [pvdSelect, latest_eq_argmaxFirst] at h
  cases hl : argmaxFirst id (entries.map (·.1)) with
  | none => rw [hl] at h; cases h
  | some m' =>
    rw [hl] at h
    obtain ⟨rfl, rfl⟩ := Prod.mk.inj (Option.some.inj h)
    have := argmaxFirst_spec id _ _ hl
    exact ⟨this.1, fun e he => this.2 e.1 (List.mem_map_of_mem he), rfl⟩

theorem pvd_select_some (entries : List (Nat × φ)) (h : entries ≠ []) :
    (pvdSelect entries).isSome := by
  obtain ⟨m, hm⟩ := Option.isSome_iff_exists.mp
    (argmaxFirst_isSome id (entries.map (·.1)) (mt List.map_eq_nil_iff.mp h))
  rw [pvdSelect, latest_eq_argmaxFirst, hm]
  rfl

/-- stacking the point data of the entities and chopping them again by
    node counts returns every entity its values, node by node. -/
theorem point_data_roundtrip (parts : List (List α)) :
    importPointField (parts.map List.length) (exportPointField parts) = parts := chop_flatten parts

/-- ... for subdomains (`sides` all 1) and mortar grids (points of the side grids, unrolled),
    with one value per point of the file -/
theorem point_data_roundtrip_dim (L : Rat) (gridPts : List (List Pt)) (sides : List Nat)
    (parts : List (List α)) (hs : gridPts.length ≤ sides.sum)
    (hp : parts.map List.length = entitySizes sides (gridPts.map List.length)) :
    importPointField (entitySizes sides (gridPts.map List.length)) (exportPointField parts) = parts ∧
    (exportPointField parts).length = (meshPoints L gridPts).length := by
  constructor
  · rw [← hp]; exact chop_flatten parts
  · rw [meshPoints_length, exportPointField, List.length_flatten, hp,
      sum_entitySizes _ _ (by simpa using hs)]

/-- vector-valued point data handed over flat (node-major) come back flat -/
theorem point_data_roundtrip_vector (nd : Nat) (sizes : List Nat) (flat : List (List α))
    (hlen : sizes.length = flat.length) (hflat : ∀ p ∈ sizes.zip flat, p.2.length = nd * p.1) :
    (importPointField sizes
        (exportPointField ((sizes.zip flat).map (fun p => toColumns nd p.1 p.2)))).map List.flatten
      = flat := by
  obtain ⟨hsz, hfl⟩ := toColumns_zip nd sizes flat hlen hflat
  have key := point_data_roundtrip ((sizes.zip flat).map (fun p => toColumns nd p.1 p.2))
  rw [hsz] at key
  rw [key, hfl]

/-- the exported coordinates are the grid coordinates times the length scale -/
theorem length_scale_points (L : Rat) (grids : List (List Pt)) :
    meshPoints L grids = (grids.flatten).map (scalePt L) := by
  simp [meshPoints, List.map_flatten]

theorem length_scale_one (grids : List (List Pt)) : meshPoints 1 grids = grids.flatten := by
  rw [length_scale_points]
  have : (scalePt 1 : Pt → Pt) = id := by funext p; exact scalePt_one p
  rw [this, List.map_id]

/-- the length scale changes the points of the file and nothing
    else: cell blocks and point values are those of the unscaled export. -/
theorem length_scale_data_untouched (d : α) (L L' : Rat) (gridPts : List (List Pt))
    (ids : List (List Nat)) (cellParts : List (List α)) (pointParts : List (List β)) :
    (exportMesh d L gridPts ids cellParts pointParts).cellBlocks =
      (exportMesh d L' gridPts ids cellParts pointParts).cellBlocks ∧
    (exportMesh d L gridPts ids cellParts pointParts).pointValues =
      (exportMesh d L' gridPts ids cellParts pointParts).pointValues := ⟨rfl, rfl⟩

/-- an exporter with the same length scale accepts the file (the point check of the importer) -/
theorem points_compatible_same_scale (d : α) (L : Rat) (gridPts : List (List Pt))
    (ids : List (List Nat)) (cellParts : List (List α)) (pointParts : List (List β)) :
    pointsCompatible L gridPts (exportMesh d L gridPts ids cellParts pointParts).pts = true := by
  simp [pointsCompatible, exportMesh]

/-- for files named by the exporter with a time step, the automatic detection
    finds the dimension and the kind (subdomain / interface), whatever the stem, provided the
    stem does not contain the word "mortar". -/
theorem parse_makeName (stem : List Piece) (app : Appendix) (dim s : Nat)
    (hstem : ∀ p ∈ stem, p ≠ Piece.word 0) :
    parseName (makeName stem app dim (some s)) = some (dim, !app.isMortar) := by
  rw [parseName, reverse_makeName, ← isSd_aux stem app hstem]
  rfl

/-- ... and without a time step, if moreover the name does not end in a number before the
    dimension (a stem like "run_3" is misread: explicit hypothesis) -/
theorem parse_makeName_nostep (stem : List Piece) (app : Appendix) (dim : Nat)
    (hstem : ∀ p ∈ stem, p ≠ Piece.word 0)
    (hlast : ∀ n, (app.pieces.reverse ++ stem.reverse).head? ≠ some (Piece.num n)) :
    parseName (makeName stem app dim none) = some (dim, !app.isMortar) := by
  rw [parseName, reverse_makeName, ← isSd_aux stem app hstem]
  generalize app.pieces.reverse ++ stem.reverse = before at hlast
  match before, hlast with
  | [], _ => rfl
  | .word _ :: _, _ => rfl
  | .num n :: _, h => exact absurd rfl (h n)

/-- the time index read from the file suffix is the exported time step -/
theorem suffix_index (stem : List Piece) (app : Appendix) (dim s : Nat) :
    suffixIndex (makeName stem app dim (some s)) = some s := by
  rw [suffixIndex, reverse_makeName]
  rfl

/-- zero padding of the suffix does not change the number (`int("000012") = 12`) -/
theorem suffix_zero_padding (k n : Nat) :
    ofBE (List.replicate k 0 ++ (digitsLE n).reverse) = n := by
  rw [ofBE_zero_pad, ofBE_reverse, ofLE_digitsLE]

/-- with `automatic=False` the i-th file gets the i-th dimension and flag,
    whatever its name; on names given by the exporter this agrees with automatic detection. -/
theorem manual_resolution (dims : List Nat) (flags : List Bool) (i d : Nat) (f : Bool)
    (hd : dims[i]? = some d) (hf : flags[i]? = some f) :
    resolveManual (.inl dims) (some (.inl flags)) i = some (d, f) := by
  simp only [resolveManual, hd, hf]

theorem manual_agrees_with_automatic (dims : List Nat) (flags : List Bool) (i : Nat)
    (stem : List Piece) (app : Appendix) (dim s : Nat) (hstem : ∀ p ∈ stem, p ≠ Piece.word 0)
    (hd : dims[i]? = some dim) (hf : flags[i]? = some (!app.isMortar)) :
    resolveManual (.inl dims) (some (.inl flags)) i = parseName (makeName stem app dim (some s)) := by
  rw [parse_makeName stem app dim s hstem]
  exact manual_resolution dims flags i dim _ hd hf

/-- `import_from_pvd` as coded now, on labels produced by "%f" from
    non-negative finite times (N = round(t·10⁶)): the chosen files are exactly those whose time
    is numerically maximal (string order plays no role), in listed order, and the returned time
    index is the file suffix of the first of them. -/
theorem pvd_selects_latest_labels (entries : List (Nat × Nat × φ)) (idx : Nat) (files : List φ)
    (h : pvdSelectLabels (rendered entries) = some (idx, files)) :
    ∃ M, (∃ e ∈ entries, e.1 = M) ∧ (∀ e ∈ entries, e.1 ≤ M) ∧
      files = (entries.filter (fun e => e.1 == M)).map (·.2.2) ∧
      (entries.filter (fun e => e.1 == M)).head?.map (·.2.1) = some idx := by
  obtain ⟨r, hr, hmax, hfiles, hidx⟩ := pvdSelectLabels_spec _ idx files h
  obtain ⟨e0, he0, rfl⟩ := List.mem_map.mp hr
  rw [filter_rendered entries e0.1] at hfiles hidx
  rw [show (rendered entries).map (·.1) = entries.map (fun e => renderF e.1) from List.map_map]
    at hmax
  refine ⟨e0.1, ⟨e0, he0, rfl⟩, fun e he => ?_, ?_, ?_⟩
  · have := hmax (renderF e.1) (List.mem_map_of_mem he)
    simp only [valueF_renderF] at this
    exact this
  · rw [hfiles]; exact List.map_map
  · rw [← hidx, rendered, List.head?_map, Option.map_map]; rfl

/-- the returned index is the step of an entry whose time is maximal -/
theorem pvd_index_entry (entries : List (Nat × Nat × φ)) (idx : Nat) (files : List φ)
    (h : pvdSelectLabels (rendered entries) = some (idx, files)) :
    ∃ a ∈ entries, (∀ e ∈ entries, e.1 ≤ a.1) ∧ a.2.1 = idx := by
  obtain ⟨M, _, hmax, _, hidx⟩ := pvd_selects_latest_labels entries idx files h
  obtain ⟨a, ha, rfl⟩ := Option.map_eq_some_iff.mp hidx
  have ha' := List.mem_filter.mp (List.mem_of_mem_head? ha)
  exact ⟨a, ha'.1, fun e he => (beq_iff_eq.mp ha'.2) ▸ hmax e he, rfl⟩

/-- if the step index never decreases as the time grows (so entries
    with equal times carry equal steps), the returned index is the most recent exported
    time-step index. -/
theorem pvd_index_is_latest_step (entries : List (Nat × Nat × φ)) (idx : Nat) (files : List φ)
    (hmono : ∀ e ∈ entries, ∀ e' ∈ entries, e.1 ≤ e'.1 → e.2.1 ≤ e'.2.1)
    (h : pvdSelectLabels (rendered entries) = some (idx, files)) :
    ∀ e ∈ entries, e.2.1 ≤ idx := by
  obtain ⟨a, ha, hmax, rfl⟩ := pvd_index_entry entries idx files h
  exact fun e he => hmono e he a ha (hmax e he)

theorem pvd_select_labels_some (entries : List (Nat × Nat × φ)) (h : entries ≠ []) :
    (pvdSelectLabels (rendered entries)).isSome :=
  pvdSelectLabels_isSome _ (mt List.map_eq_nil_iff.mp h)

/-- `_to_vector_format` accepts an array iff its size is a multiple of the number of cells / nodes -/
theorem toVectorFormat_ok_iff (size ndofs : Nat) (h : ndofs ≠ 0) :
    toVectorFormat size ndofs = .ok () ↔ size % ndofs = 0 := by
  unfold toVectorFormat
  simp only [h, and_false, if_false]
  split <;> simp [*]

/-- with data on every entity the field is the stacked data, in listing order -/
theorem buildField_all (parts : List (List α)) (h : parts ≠ []) :
    buildField (parts.map some) = .ok (some parts.flatten) := by
  have e : (parts.map some).filterMap id = parts := by
    rw [List.filterMap_map]; exact List.filterMap_some
  have hpos : parts.length ≠ 0 := mt List.length_eq_zero_iff.mp h
  simp only [buildField, e, List.length_map, if_neg hpos, if_true]

/-- data on some but not all entities of a dimension is rejected -/
theorem buildField_partial (vals : List (Option (List α))) (v : List α)
    (hsome : some v ∈ vals) (hnone : none ∈ vals) : buildField vals = .error "ValueError" := by
  have hlt : (vals.filterMap id).length < vals.length :=
    List.length_filterMap_lt_length_iff_exists.mpr ⟨none, hnone, rfl⟩
  have hpos : 0 < (vals.filterMap id).length :=
    List.length_filterMap_pos_iff.mpr ⟨some v, hsome, v, rfl⟩
  unfold buildField
  simp only
  rw [if_neg (Nat.ne_of_gt hpos), if_neg (Nat.ne_of_lt hlt)]

theorem counterSteps_eq (c k : Nat) : counterSteps c k = List.range' c k := by
  induction k generalizing c with
  | zero => rfl
  | succ k ih => simp [counterSteps, ih, List.range'_succ]

/-- the input condition the driver evaluates is the hypothesis of `pvd_index_is_latest_step` -/
theorem monoEntries_spec (entries : List (Nat × Nat × φ)) (h : monoEntries entries = true) :
    ∀ e ∈ entries, ∀ e' ∈ entries, e.1 ≤ e'.1 → e.2.1 ≤ e'.2.1 := by
  intro e he e' he' hle
  unfold monoEntries at h
  have := List.all_eq_true.mp (List.all_eq_true.mp h e he) e' he'
  simp only [Bool.or_eq_true, Bool.not_eq_true', decide_eq_false_iff_not, decide_eq_true_eq] at this
  rcases this with h1 | h1
  · exact absurd hle h1
  · exact h1

theorem wellFormedLabel_spec (s : List Nat) (h : wellFormedLabel s = true) : ∃ N, s = renderF N :=
  ⟨valueF s, by simpa [wellFormedLabel] using (beq_iff_eq.mp h).symm⟩

/-- the returned index is an exported step and no exported step is larger -/
theorem pvd_index_is_max_step (entries : List (Nat × Nat × φ)) (idx : Nat) (files : List φ)
    (hmono : monoEntries entries = true)
    (h : pvdSelectLabels (rendered entries) = some (idx, files)) :
    (∃ e ∈ entries, e.2.1 = idx) ∧ ∀ e ∈ entries, e.2.1 ≤ idx := by
  obtain ⟨a, ha, _, hidx⟩ := pvd_index_entry entries idx files h
  exact ⟨⟨a, ha, hidx⟩, pvd_index_is_latest_step entries idx files (monoEntries_spec entries hmono) h⟩

/-- several time steps exported (any grids of the dimension, any data
    fitting them), listed in a conventional pvd with "%f" labels; what `import_from_pvd` hands to
    the importer and the importer returns is exactly the data written at the numerically latest
    time, cell by cell.  That this time carries the most recent time-step index, and that `idx` is
    that index, is `pvd_index_is_max_step` (for entries with `monoEntries`). -/
theorem restart_restores_latest (d : α) (dim : Nat) (gs : List GridInfo) (sides : List Nat)
    (exports : List (Nat × Nat × List (List α))) (hs : gs.length ≤ sides.sum)
    (hfit : ∀ e ∈ exports, e.2.2.map List.length = entitySizes sides (gs.map (·.ncells)))
    (idx : Nat) (files : List (List (List α)))
    (h : pvdSelectLabels (rendered (exports.map (fun e => (e.1, e.2.1, roundTrip d dim gs sides e.2.2))))
      = some (idx, files)) :
    ∃ M, (∀ e ∈ exports, e.1 ≤ M) ∧ files = (exports.filter (fun e => e.1 == M)).map (·.2.2) := by
  obtain ⟨M, _, hmax, hfiles, _⟩ := pvd_selects_latest_labels _ idx files h
  refine ⟨M, List.forall_mem_map.mp hmax, ?_⟩
  rw [hfiles, List.filter_map, List.map_map]
  exact List.map_congr_left fun e he =>
    roundtrip_dim d dim gs sides e.2.2 hs (hfit e (List.mem_filter.mp he).1)

/-- regression case F5 (corpus/C38/f5.json): quadrilateral, triangle, quadrilateral -/
def gF5 : GridInfo := ⟨false, [4, 3, 4], [4, 3, 4]⟩

example : cellIds 2 [gF5] = [[1], [0, 2]] := by decide +kernel
example : IsPartition (cellIds 2 [gF5]) 3 := groups_partition_cells 2 [gF5]
example : exportField (0 : Int) (cellIds 2 [gF5]) [[10, 20, 30]] = [[20], [10, 30]] := by decide +kernel
example : roundTrip (0 : Int) 2 [gF5] [1] [[10, 20, 30]] = [[10, 20, 30]] := by decide +kernel
/-- the importer before the repair of F5 returned the blocks unpermuted -/
example : importFieldNoInverse (exportField (0 : Int) (cellIds 2 [gF5]) [[10, 20, 30]]) [3]
    = [[20, 10, 30]] := by decide +kernel

/-- two 2-d subdomains (triangle+pentagon, then quad+triangle), type order = first occurrence -/
example : cellIds 2 [⟨false, [3, 5], [3, 5]⟩, ⟨false, [4, 3], [4, 3]⟩] = [[0, 3], [1], [2]] := by
  decide +kernel

/-- an interface with two side grids of two cells each, vector data with 2 components -/
example : roundTripVec 1 [⟨false, [2, 2], [2, 2]⟩, ⟨false, [2, 2], [2, 2]⟩] [2] 2
    [[(1 : Int), 2, 3, 4, 5, 6, 7, 8]] = [[1, 2, 3, 4, 5, 6, 7, 8]] := by decide +kernel

/-- hypotheses of `import_export_id_vector` are satisfiable -/
example : (importField [] [[1], [0, 2]]
    (exportField [] [[1], [0, 2]] (([3].zip [[(1 : Int), 2, 3, 4, 5, 6]]).map (fun p => toColumns 2 p.1 p.2))) [3]).map
      List.flatten = [[1, 2, 3, 4, 5, 6]] := by decide +kernel

def gCart2 : GridInfo := ⟨true, [6, 6], [8, 8]⟩
def gTet2 : GridInfo := ⟨false, [4, 4], [4, 4]⟩

/-- finding "polyhedron block order": a Cartesian 3-d grid listed before a tetrahedral one, two
    cells each.  With the block order of the code before fix a4b1c63a0 (first occurrence:
    polyhedron8, polyhedron4) and meshio's reader (cell data by ascending number of nodes) the two subdomains
    get each other's values; with ascending blocks the data come back. -/
example : roundTripAsCoded (0 : Int) 3 [gCart2, gTet2] [1, 1] [[1, 2], [3, 4]] = [[3, 4], [1, 2]] := by
  decide +kernel
example : roundTrip (0 : Int) 3 [gCart2, gTet2] [1, 1] [[1, 2], [3, 4]] = [[1, 2], [3, 4]] := by
  decide +kernel
example : roundTripAsCoded (0 : Int) 3 [gTet2, gCart2] [1, 1] [[1, 2], [3, 4]] = [[1, 2], [3, 4]] := by
  decide +kernel

/-- finding "pvd string sort": before fix 2f919c383 the code took the last of the labels
    `"%f" % time` sorted as strings; after exporting the steps 0..10 that is step 9, not step 10. -/
example : latestLex (List.range 11) = some 9 := by decide +kernel
example : latest (List.range 11) = some 10 := by decide +kernel
example : pvdSelect [(0, "a_000000.vtu"), (1, "a_000001.vtu"), (10, "a_000010.vtu"), (9, "a_000009.vtu")]
    = some (10, ["a_000010.vtu"]) := by decide +kernel

/-- the labels "%f" of the times 9 and 10: as strings "10.000000" sorts first, as numbers last -/
example : renderF 10000000 = [49, 48, 46, 48, 48, 48, 48, 48, 48] := by decide +kernel
example : lexLt (renderF 10000000) (renderF 9000000) = true := by decide +kernel
example : valueF (renderF 9000000) < valueF (renderF 10000000) := by decide +kernel
/-- steps 9 and 10 with times 9.0 and 10.0: the files of step 10 and index 10 -/
example : pvdSelectLabels (rendered [(9000000, 9, "a_1_000009.vtu"), (10000000, 10, "a_1_000010.vtu")])
    = some (10, ["a_1_000010.vtu"]) := by decide +kernel
/-- times 0, 0.5, 1.0 at steps 0, 1, 2 (two files per step): index 2, not int(1.0) -/
example : pvdSelectLabels (rendered [(0, 0, "a"), (0, 0, "b"), (500000, 1, "c"), (500000, 1, "d"),
    (1000000, 2, "e"), (1000000, 2, "f")]) = some (2, ["e", "f"]) := by decide +kernel
/-- file names: "run_mortar_1_000003" is interface data of dimension 1, time index 3; a stem
    ending in a number without time step is misread (hypothesis of `parse_makeName_nostep`) -/
example : parseName (makeName [.word 7] .mortar 1 (some 3)) = some (1, false) := by decide +kernel
example : suffixIndex (makeName [.word 7] .mortar 1 (some 3)) = some 3 := by decide +kernel
example : parseName (makeName [.word 7, .num 3] .none 2 none) = some (3, true) := by decide +kernel
/-- before the repair, the second file of an `automatic=False` call was resolved by its name -/
example : resolveAsCodedBefore (.inl [2, 1]) (some (.inl [true, false])) 1 [.word 9] = none := by decide +kernel
example : resolveManual (.inl [2, 1]) (some (.inl [true, false])) 1 = some (1, false) := by decide +kernel
/-- point data of two entities and a length scale 1/2 -/
example : importPointField [2, 1] (exportPointField [[(1 : Int), 2], [3]]) = [[1, 2], [3]] := by decide +kernel
example : meshPoints (1 / 2) [[[1, 2, 0]], [[4, 0, 0]]] = [[1 / 2, 1, 0], [2, 0, 0]] := by decide +kernel

/-- input handling: sizes, all-or-none data per dimension, the step counter -/
example : toVectorFormat 6 3 = .ok () ∧ toVectorFormat 7 3 = .error "ValueError" := ⟨rfl, rfl⟩
example : buildField [some [(1 : Int), 2], some [3]] = .ok (some [1, 2, 3]) := rfl
example : buildField [some [(1 : Int), 2], none] = .error "ValueError" := rfl
example : buildField ([none, none] : List (Option (List Int))) = .ok none := rfl
example : counterSteps 0 3 = [0, 1, 2] := by decide +kernel
example : monoEntries [(0, 0, "a"), (500000, 1, "b"), (1000000, 2, "c")] = true := by decide +kernel
example : wellFormedLabel (renderF 10500000) = true ∧ wellFormedLabel [48, 49, 46, 48] = false := by decide +kernel
/-- two exported steps of the F5 grid, labels 9.0 and 10.0: the restart gets the data of step 10 -/
example : pvdSelectLabels (rendered ([(9000000, 9, [[(1 : Int), 2, 3]]), (10000000, 10, [[4, 5, 6]])].map
    (fun e => (e.1, e.2.1, roundTrip 0 2 [gF5] [1] e.2.2)))) = some (10, [[[4, 5, 6]]]) := by decide +kernel
/-- the mixin path over 11 steps with dt = 1: restart at index 10 with time 10 -/
example : (mixinRestart ((List.range 11).map (fun i => (i * 1000000, (i : Int), (1 : Int))))).map
    (fun r => (r.1, r.2.time, r.2.dt, r.2.expTimes.length)) = some (10, 10, 1, 10) := by decide +kernel

/-- time information: two steps written, then the file on disk loaded into a fresh manager -/
example : TM.load (fun (x : Int) => some x) ⟨0, 0, [], []⟩
    (TM.fileOf (fun (x : Int) => x) (TM.steps (fun (x : Int) => x) ⟨0, 1, [], []⟩ [(0, 1), (1, 2)]))
    = some ⟨0, 0, [0, 1], [1, 2]⟩ := by decide +kernel

end PorepyVerif.C38
