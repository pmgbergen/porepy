/-
C38 — python's negative indices, the time file, exported points, and file names read from their end.
Core Lean only.
-/
import PorepyVerif.C38.Model
import PorepyVerif.Common.Except

namespace PorepyVerif.C38

theorem pyGet_natCast (l : List α) (k : Nat) : pyGet l (k : Int) = l[k]? := by
  rw [pyGet, if_pos (Int.natCast_nonneg k), Int.toNat_natCast]

theorem pyTake_natCast (l : List α) (k : Nat) : pyTake l (k : Int) = l.take k := by
  rw [pyTake, if_pos (Int.natCast_nonneg k), Int.toNat_natCast]

theorem length_concat_pred (l : List α) (w : α) : ((l ++ [w]).length : Int) + -1 = l.length := by
  rw [List.length_append, List.length_singleton, Int.natCast_add, Int.natCast_one,
    Int.add_neg_cancel_right]

theorem pyGet_neg_one (l : List α) (w : α) : pyGet (l ++ [w]) (-1) = some w := by
  rw [pyGet, if_neg (by decide), length_concat_pred, if_pos (Int.natCast_nonneg _),
    Int.toNat_natCast, List.getElem?_concat_length]

theorem pyTake_neg_one (l : List α) (w : α) : pyTake (l ++ [w]) (-1) = l := by
  rw [pyTake, if_neg (by decide), length_concat_pred, Int.toNat_natCast, List.take_left']
  rfl

theorem load_fileOf (enc : ν → τ) (dec : τ → Option ν) (hc : ∀ x, dec (enc x) = some x)
    (m m' : TM ν) :
    TM.load dec m' (TM.fileOf enc m) = some { m' with expTimes := m.expTimes, expDt := m.expDt } := by
  have hl (l : List ν) : (l.map enc).mapM dec = some l :=
    (Common.mapM_map_eq_pure enc id fun x _ => hc x).trans (congrArg some (List.map_id l))
  unfold TM.load TM.fileOf
  simp only [hl]

theorem steps_history (enc : ν → τ) (m : TM ν) (ws : List (ν × ν)) :
    (TM.steps enc m ws).expTimes = m.expTimes ++ ws.map (·.1) ∧
    (TM.steps enc m ws).expDt = m.expDt ++ ws.map (·.2) := by
  induction ws generalizing m with
  | nil => exact ⟨(List.append_nil _).symm, (List.append_nil _).symm⟩
  | cons w ws ih =>
    obtain ⟨h1, h2⟩ := ih (TM.write enc { m with time := w.1, dt := w.2 }).1
    rw [TM.steps, h1, h2]
    exact ⟨List.append_assoc .., List.append_assoc ..⟩

theorem meshPoints_length (L : Rat) (grids : List (List Pt)) :
    (meshPoints L grids).length = (grids.map List.length).sum := by
  simp [meshPoints, List.length_flatten, List.map_map, Function.comp_def]

theorem scalePt_one (p : Pt) : scalePt 1 p = p := by
  simp [scalePt, Rat.mul_one]

/-- a name read from its end, as `parseName` and `suffixIndex` do: time step (if any), dimension,
    appendix, stem -/
theorem reverse_makeName (stem : List Piece) (app : Appendix) (dim : Nat) (step : Option Nat) :
    (makeName stem app dim step).reverse =
      (step.toList.map Piece.num) ++ Piece.num dim :: (app.pieces.reverse ++ stem.reverse) := by
  cases step <;>
    simp only [makeName, List.reverse_append, List.reverse_cons, List.reverse_nil, List.nil_append,
      List.append_nil, List.cons_append, Option.toList_none, Option.toList_some, List.map_nil,
      List.map_cons]

theorem isSd_aux (stem : List Piece) (app : Appendix) (hstem : ∀ p ∈ stem, p ≠ Piece.word 0) :
    (!((app.pieces.reverse ++ stem.reverse).head? == some (Piece.word 0) ||
        ((app.pieces.reverse ++ stem.reverse).head? == some (Piece.word 1) &&
          (app.pieces.reverse ++ stem.reverse)[1]? == some (Piece.word 0)))) = !app.isMortar := by
  have hr : ∀ i, (stem.reverse[i]? == some (Piece.word 0)) = false := fun i =>
    beq_eq_false_iff_ne.mpr fun h => hstem _ (List.mem_reverse.mp (List.mem_of_getElem? h)) rfl
  generalize stem.reverse = rest at hr
  have h0 := hr 0
  rw [← List.head?_eq_getElem?] at h0
  -- "mortar" directly before the dimension decides in two cases; in the other two only the
  -- last two pieces of the stem are looked at, and neither is "mortar"
  cases app
  · simp only [Appendix.pieces, Appendix.isMortar, List.reverse_nil, List.nil_append, h0, hr 1,
      Bool.and_false, Bool.or_false, Bool.not_false]
  · rfl
  · simp only [Appendix.pieces, Appendix.isMortar, List.reverse_cons, List.reverse_nil,
      List.nil_append, List.cons_append, List.head?_cons, List.getElem?_cons_succ, hr 0,
      Bool.and_false, Bool.or_false, Bool.not_false]
    rfl
  · rfl

end PorepyVerif.C38
