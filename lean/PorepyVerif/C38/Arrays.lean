/-
C38 — arrays stacked and cut again (`chop`), vector data as columns, `values[ids]` and `out[ids] = values`
(`gather`, `scatter`), and what makes the second undo the first: `ids` is a rearrangement of `0 .. n-1`
(`IsPerm`).  Core Lean only.
-/
import PorepyVerif.C38.Model
import PorepyVerif.Common.List

namespace PorepyVerif.C38

theorem chop_flatten (parts : List (List α)) : chop (parts.map List.length) parts.flatten = parts := by
  induction parts with
  | nil => rfl
  | cons p ps ih =>
    simp only [List.map_cons, List.flatten_cons, chop, List.take_left', List.drop_left', ih]

theorem flatten_chop (sizes : List Nat) (v : List α) (h : v.length ≤ sizes.sum) :
    (chop sizes v).flatten = v := by
  induction sizes generalizing v with
  | nil => rw [List.length_eq_zero_iff.mp (Nat.le_zero.mp h)]; rfl
  | cons n ns ih =>
    rw [chop, List.flatten_cons, ih, List.take_append_drop]
    rw [List.length_drop]
    exact Nat.sub_le_iff_le_add'.mpr h

theorem length_chop (sizes : List Nat) (v : List α) : (chop sizes v).length = sizes.length := by
  induction sizes generalizing v with
  | nil => rfl
  | cons n ns ih => rw [chop, List.length_cons, ih, List.length_cons]

theorem toColumns_length (nd n : Nat) (x : List α) : (toColumns nd n x).length = n := by
  simp [toColumns, length_chop]

theorem toColumns_flatten (nd n : Nat) (x : List α) (h : x.length = nd * n) :
    (toColumns nd n x).flatten = x := by
  apply flatten_chop
  simp [h, Nat.mul_comm]

/-- flat vector data cut into columns entity by entity: one column per cell, and the columns of
    an entity concatenate to its flat data -/
theorem toColumns_zip (nd : Nat) (sizes : List Nat) (flat : List (List α))
    (hlen : sizes.length = flat.length) (hflat : ∀ p ∈ sizes.zip flat, p.2.length = nd * p.1) :
    ((sizes.zip flat).map (fun p => toColumns nd p.1 p.2)).map List.length = sizes ∧
    ((sizes.zip flat).map (fun p => toColumns nd p.1 p.2)).map List.flatten = flat := by
  rw [List.map_map, List.map_map]
  constructor
  · exact (List.map_congr_left fun p _ => toColumns_length nd p.1 p.2).trans
      (List.map_fst_zip (Nat.le_of_eq hlen))
  · exact (List.map_congr_left fun p hp => toColumns_flatten nd p.1 p.2 (hflat p hp)).trans
      (List.map_snd_zip (Nat.le_of_eq hlen.symm))

theorem sum_map_sum (l : List (List Nat)) : (l.map List.sum).sum = l.flatten.sum := by
  induction l with
  | nil => rfl
  | cons a t ih => simp [ih]

theorem sum_entitySizes (sides sizes : List Nat) (h : sizes.length ≤ sides.sum) :
    (entitySizes sides sizes).sum = sizes.sum := by
  unfold entitySizes
  rw [sum_map_sum, flatten_chop sides sizes h]

theorem flatten_map_gather (d : α) (v : List α) (ids : List (List Nat)) :
    (ids.map (gather d v)).flatten = gather d v ids.flatten :=
  List.map_flatten.symm

theorem length_scatter (out : List α) (ids : List Nat) (vals : List α) :
    (scatter out ids vals).length = out.length := by
  induction ids generalizing out vals with
  | nil => cases vals <;> rfl
  | cons i is ih =>
    cases vals with
    | nil => rfl
    | cons x xs => rw [scatter, ih, List.length_set]

theorem scatter_getD_not_mem (d : α) (out : List α) (ids : List Nat) (vals : List α) (j : Nat)
    (hj : j ∉ ids) : (scatter out ids vals).getD j d = out.getD j d := by
  induction ids generalizing out vals with
  | nil => cases vals <;> rfl
  | cons i is ih =>
    cases vals with
    | nil => rfl
    | cons x xs =>
      rw [scatter, ih _ _ (mt (List.mem_cons_of_mem i) hj), List.getD_eq_getElem?_getD,
        List.getD_eq_getElem?_getD, List.getElem?_set_ne (Ne.symm (List.ne_of_not_mem_cons hj))]

/-- with distinct indices, every assignment of `out[ids] = vals` survives -/
theorem scatter_map_getD (d : α) (f : Nat → α) (out : List α) (ids : List Nat) (j : Nat)
    (hj : j ∈ ids) (hnd : ids.Nodup) (hb : ∀ i ∈ ids, i < out.length) :
    (scatter out ids (ids.map f)).getD j d = f j := by
  induction ids generalizing out with
  | nil => cases hj
  | cons i is ih =>
    obtain ⟨hi, hnd'⟩ := List.nodup_cons.mp hnd
    rw [List.map_cons, scatter]
    by_cases hmem : j ∈ is
    · exact ih _ hmem hnd' fun k hk => by
        rw [List.length_set]; exact hb k (List.mem_cons_of_mem _ hk)
    · obtain rfl : j = i := (List.mem_cons.mp hj).resolve_right hmem
      rw [scatter_getD_not_mem d _ _ _ _ hmem, List.getD_eq_getElem?_getD,
        List.getElem?_set_self (hb j List.mem_cons_self)]
      rfl

/-- `ids` lists every index below `n` exactly once -/
def IsPerm (ids : List Nat) (n : Nat) : Prop := ids.Nodup ∧ ∀ i, i ∈ ids ↔ i < n

theorem isPartition_iff {ids : List (List Nat)} {n : Nat} : IsPartition ids n ↔ IsPerm ids.flatten n :=
  Iff.rfl

theorem isPerm_iff_perm {ids : List Nat} {n : Nat} : IsPerm ids n ↔ ids.Perm (List.range n) :=
  ⟨fun h => (List.perm_ext_iff_of_nodup h.1 List.nodup_range).mpr fun i => (h.2 i).trans List.mem_range.symm,
    fun h => ⟨h.nodup_iff.mpr List.nodup_range, fun _ => h.mem_iff.trans List.mem_range⟩⟩

theorem IsPerm.length_eq {ids : List Nat} {n : Nat} (h : IsPerm ids n) : ids.length = n :=
  (isPerm_iff_perm.mp h).length_eq.trans List.length_range

theorem IsPerm.of_perm {ids : List Nat} {n : Nat} (h : ids.Perm (List.range' 0 n)) : IsPerm ids n :=
  isPerm_iff_perm.mpr (List.range_eq_range' ▸ h)

/-- a partition stays one when its blocks are listed in another order -/
theorem isPartition_of_perm {gs gs' : Groups} {n : Nat} (hp : gs'.Perm gs)
    (h : IsPartition (gs.map (·.2)) n) : IsPartition (gs'.map (·.2)) n :=
  isPerm_iff_perm.mpr ((hp.map _).flatten.trans (isPerm_iff_perm.mp h))

/-- scattering gathered values through a permutation of the indices restores the array -/
theorem scatter_gather (d : α) (v : List α) (ids : List Nat) (h : IsPerm ids v.length) :
    scatter (List.replicate v.length d) ids (gather d v ids) = v := by
  apply Common.ext_getD d
  · rw [length_scatter, List.length_replicate]
  · intro j hj
    rw [length_scatter, List.length_replicate] at hj
    exact scatter_map_getD d (fun i => v.getD i d) (List.replicate v.length d) ids j
      ((h.2 j).mpr hj) h.1 (fun i hi => by rw [List.length_replicate]; exact (h.2 i).mp hi)

theorem length_gather (d : α) (v : List α) (ids : List Nat) : (gather d v ids).length = ids.length :=
  List.length_map _

end PorepyVerif.C38
