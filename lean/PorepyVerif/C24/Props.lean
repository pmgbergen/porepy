/-
C24 — property theorems: the mixed-dimensional grid container stays consistent under ANY
well-formed history of add_subdomains / add_interface / remove_subdomain / replace.

`Reachable U s` : `s` is the container state after some history `ops` from the empty container in
which every accepted call is well-formed (`wfHist`, a decidable check defined in Model.lean:
interfaces are added between present subdomains with a mortar grid of dimension ≤ both;
replacement grids are fresh objects of the same dimension).  Rejected calls may be anything.

Structure: `reachable_inv` (one container) and `world_inv` (any number of containers produced by
`copy()`) show by induction over ALL well-formed histories that every container satisfies the
explicit consistency predicate `Inv` (`DInv` with the data dictionaries).  The property theorems
below are stated for every state satisfying `Inv`, hence for every state of every such history.
The predicates of the statements that are not part of the model are defined next to the lemmas about
them: the listing order `keyLe` / `keyLt` in Sorting.lean; `Inv`, `DInv` and `touchesI s g i`
("interface `i` has `g` as one of its two subdomains") in Lemmas.lean.
-/
import PorepyVerif.C24.Data

namespace PorepyVerif.C24
open List

def Reachable (U : Universe) (s : State) : Prop :=
  ∃ ops, wfHist U State.empty ops = true ∧ s = run U State.empty ops

/-- Main induction: every reachable state satisfies the consistency invariant `Inv`
    (no subdomain / interface twice; interfaces join present subdomains and are not of higher
    dimension than them; boundary grids = positive-dimensional subdomains, one each, in the same
    order, with distinct fresh ids). -/
theorem reachable_inv (U : Universe) (ops : List Op) (h : wfHist U State.empty ops = true) :
    Inv U (run U State.empty ops) :=
  inv_run ops (inv_empty U) h

theorem Reachable.inv {U : Universe} {s : State} (h : Reachable U s) : Inv U s := by
  obtain ⟨ops, hw, rfl⟩ := h
  exact reachable_inv U ops hw

/-- a reachable state stays reachable under any further well-formed call -/
theorem Reachable.step {U : Universe} {s : State} (h : Reachable U s) (op : Op)
    (hw : wfOp U s op = true) : Reachable U (step U s op).state := by
  obtain ⟨ops, hws, rfl⟩ := h
  refine ⟨ops ++ [op], ?_, (run_append U ops [op] _).symm⟩
  rw [wfHist_append, hws]
  simp only [wfHist, hw, Bool.and_self]

/-- PROPERTY (listing): `subdomains()`, `interfaces()` and `boundaries()` — with any `dim` /
    `codim` filter — succeed and return each present (matching) object exactly once, strictly
    sorted by decreasing dimension, then increasing creation id.
    (`boundaries()` raises by design when there are subdomains but none of positive dimension.) -/
theorem listing_sorted_nodup (U : Universe) (s : State) (hi : Inv U s) (dim codim : Option Nat) :
    (∃ l, listSubdomains U s dim = .ok l ∧
        l ~ s.sds.filter (fun g => optMatch dim (U.sdDim g)) ∧ l.Nodup ∧
        l.Pairwise (keyLt U.sdDim id)) ∧
    (∃ l, listInterfaces U s dim codim = .ok l ∧
        l ~ s.intfs.filter (fun i => optMatch dim (U.ifDim i) && optMatch codim (U.ifCodim i)) ∧
        l.Nodup ∧ l.Pairwise (keyLt U.ifDim id)) ∧
    ((s.bgs ≠ [] ∨ s.sds = []) →
      ∃ l, listBoundaries U s dim = .ok l ∧
        l ~ s.bgs.filter (fun b => optMatch dim (bgDim U b)) ∧ l.Nodup ∧
        l.Pairwise (keyLt (bgDim U) (·.2))) := by
  refine ⟨?_, ?_, ?_⟩
  · apply sortGrids_spec
    · intro he; rw [he]; rfl
    · intro x hx; exact le_dimMax U (mem_filter.1 hx).1
    · rw [map_id]; exact hi.sdsNodup.sublist filter_sublist
  · apply sortGrids_spec
    · intro he
      have : s.intfs = [] := by unfold State.intfs; rw [pairs_nil_of_sds_nil hi he]; rfl
      rw [this]; rfl
    · intro x hx; exact ifDim_le_dimMax hi (mem_filter.1 hx).1
    · rw [map_id]; exact hi.intfNodup.sublist filter_sublist
  · intro hb
    unfold listBoundaries
    have hc : (!s.sds.isEmpty && s.bgs.isEmpty) = false := by
      rcases hb with hb | hb
      · cases hbg : s.bgs with
        | nil => exact absurd hbg hb
        | cons b l => simp
      · rw [hb]; rfl
    rw [hc]
    simp only [Bool.false_eq_true, if_false]
    apply sortGrids_spec
    · intro he; rw [bgs_nil_of_sds_nil hi he]; rfl
    · intro x hx
      have := bg_parent_mem hi (mem_filter.1 hx).1
      exact Nat.le_trans (Nat.sub_le _ _) (le_dimMax U this.1)
    · exact hi.bgNodup.sublist (filter_sublist.map _)

/-- unfiltered form: exactly the present subdomains / interfaces -/
theorem listing_all (U : Universe) (s : State) (hi : Inv U s) :
    (∃ l, listSubdomains U s none = .ok l ∧ l ~ s.sds ∧ l.Nodup ∧ l.Pairwise (keyLt U.sdDim id)) ∧
    (∃ l, listInterfaces U s none none = .ok l ∧ l ~ s.intfs ∧ l.Nodup ∧
        l.Pairwise (keyLt U.ifDim id)) := by
  obtain ⟨⟨l, hl, hp, hn, hs⟩, ⟨l', hl', hp', hn', hs'⟩, _⟩ := listing_sorted_nodup U s hi none none
  exact ⟨⟨l, hl, hp.trans (Perm.of_eq (filter_eq_self.2 fun _ _ => rfl)), hn, hs⟩,
    ⟨l', hl', hp'.trans (Perm.of_eq (filter_eq_self.2 fun _ _ => rfl)), hn', hs'⟩⟩

/-- PROPERTY (pair map): a stored interface `i ↦ (a, b)` is reported by
    `interface_to_subdomain_pair` as its two subdomains, both present, ordered (higher dimension
    first; equal dimension: smaller id first); `subdomain_pair_to_interface` applied to that pair
    in either order leads back to an interface with the same pair, and to `i` itself whenever no
    other interface joins the same two subdomains. -/
theorem interface_pair_roundtrip (U : Universe) (s : State) (hi : Inv U s) {i a b : Nat}
    (hp : (i, a, b) ∈ s.pairs) :
    pairOf U s i = .ok (sort2 U a b) ∧
    (sort2 U a b = (a, b) ∨ sort2 U a b = (b, a)) ∧
    (sort2 U a b).1 ∈ s.sds ∧ (sort2 U a b).2 ∈ s.sds ∧
    keyLe U.sdDim id (sort2 U a b).1 (sort2 U a b).2 ∧
    (∀ x y, (x, y) = sort2 U a b ∨ (y, x) = sort2 U a b →
      ∃ j, intfOfPair s x y = .ok j ∧ pairOf U s j = .ok (sort2 U a b) ∧
        ((∀ j' a' b', (j', a', b') ∈ s.pairs → sort2 U a' b' = sort2 U a b → j' = i) → j = i)) := by
  have hm := hi.pairMem _ hp
  refine ⟨pairOf_of_mem hi hp, sort2_cases U a b, (sort2_both U hm.1 hm.2).1,
    (sort2_both U hm.1 hm.2).2, sort2_sorted U a b, ?_⟩
  · intro x y hxy
    have hex : ∃ i, (i, x, y) ∈ s.pairs ∨ (i, y, x) ∈ s.pairs := by
      refine ⟨i, ?_⟩
      rcases sort2_cases U a b with e | e <;> rw [e] at hxy <;> rcases hxy with hxy | hxy <;>
        cases hxy
      · exact Or.inl hp
      · exact Or.inr hp
      · exact Or.inr hp
      · exact Or.inl hp
    have hs : sort2 U x y = sort2 U a b := by
      rcases hxy with h | h
      · rw [← sort2_idem U a b, ← h]
      · rw [← sort2_idem U a b, ← h, sort2_comm]
    obtain ⟨j, hj, hjm⟩ := intfOfPair_spec hex
    refine ⟨j, hj, ?_, ?_⟩
    · rcases hjm with hjm | hjm
      · rw [pairOf_of_mem hi hjm, hs]
      · rw [pairOf_of_mem hi hjm, sort2_comm, hs]
    · intro huniq
      rcases hjm with hjm | hjm
      · exact huniq j x y hjm hs
      · exact huniq j y x hjm (by rw [sort2_comm, hs])

/-- PROPERTY (`subdomain_to_interfaces`): for any grid `g` the call succeeds and returns exactly
    the interfaces whose stored pair contains `g`, each once, strictly sorted (dimension
    descending, id ascending); for a grid that is not in the container the list is empty. -/
theorem subdomain_to_interfaces_spec (U : Universe) (s : State) (hi : Inv U s) (g : Nat) :
    ∃ l, intfsOfSd U s g = .ok l ∧ l ~ s.intfs.filter (touchesI s g) ∧ l.Nodup ∧
      l.Pairwise (keyLt U.ifDim id) ∧ (g ∉ s.sds → l = []) := by
  have heq : (s.pairs.filter (touches g)).map (·.1) = s.intfs.filter (touchesI s g) :=
    map_fst_filter_touches hi g id
  obtain ⟨l, hl, hp, hn, hs⟩ := sortGrids_spec U s U.ifDim id ((s.pairs.filter (touches g)).map (·.1))
    (by intro he; rw [pairs_nil_of_sds_nil hi he]; rfl)
    (by
      intro x hx
      rw [heq] at hx
      exact ifDim_le_dimMax hi (mem_filter.1 hx).1)
    (by rw [map_id, heq]; exact hi.intfNodup.sublist filter_sublist)
  refine ⟨l, hl, heq ▸ hp, hn, hs, ?_⟩
  intro hg
  have : s.pairs.filter (touches g) = [] := by
    rw [filter_eq_nil_iff]
    intro p hp ht
    have hm := hi.pairMem p hp
    simp only [touches, Bool.or_eq_true, beq_iff_eq] at ht
    rcases ht with e | e
    · exact hg (e ▸ hm.1)
    · exact hg (e ▸ hm.2)
  rw [this] at hp
  simpa using hp

/-- PROPERTY (`neighboring_subdomains`): asking for only higher and only lower neighbours at once
    is refused; otherwise the call returns, sorted (dimension descending, id ascending), the other
    ends of all interfaces of `g` (one entry per interface; `g` itself for an interface from `g` to
    itself), restricted to strictly higher / strictly lower dimension when asked; every neighbour
    is a present subdomain. -/
theorem neighboring_subdomains_spec (U : Universe) (s : State) (hi : Inv U s) (g : Nat) :
    neighbours U s g true true = .error .valueError ∧
    (∃ l, neighbours U s g false false = .ok l ∧ l ~ s.pairs.filterMap (otherEnd g) ∧
      l.Pairwise (keyLe U.sdDim id) ∧ ∀ x ∈ l, x ∈ s.sds) ∧
    (∃ l, neighbours U s g true false = .ok l ∧
      l ~ (s.pairs.filterMap (otherEnd g)).filter (fun x => decide (U.sdDim g < U.sdDim x)) ∧
      l.Pairwise (keyLe U.sdDim id) ∧ ∀ x ∈ l, x ∈ s.sds ∧ U.sdDim g < U.sdDim x) ∧
    (∃ l, neighbours U s g false true = .ok l ∧
      l ~ (s.pairs.filterMap (otherEnd g)).filter (fun x => decide (U.sdDim x < U.sdDim g)) ∧
      l.Pairwise (keyLe U.sdDim id) ∧ ∀ x ∈ l, x ∈ s.sds ∧ U.sdDim x < U.sdDim g) ∧
    (∀ x, x ∈ s.pairs.filterMap (otherEnd g) ↔
      ∃ p ∈ s.pairs, (p.2.1 = g ∧ p.2.2 = x) ∨ (p.2.1 ≠ g ∧ p.2.2 = g ∧ p.2.1 = x)) := by
  have hmem : ∀ x ∈ s.pairs.filterMap (otherEnd g), x ∈ s.sds := by
    intro x hx
    obtain ⟨p, hp, hc⟩ := mem_filterMap_otherEnd.1 hx
    have hm := hi.pairMem p hp
    rcases hc with ⟨_, e⟩ | ⟨_, _, e⟩
    · exact e ▸ hm.2
    · exact e ▸ hm.1
  -- any selection of neighbours is returned sorted
  have key : ∀ xs : List Nat, (∀ x ∈ xs, x ∈ s.pairs.filterMap (otherEnd g)) →
      ∃ l, sortGrids U s U.sdDim id xs = .ok l ∧ l ~ xs ∧ l.Pairwise (keyLe U.sdDim id) ∧
        ∀ x ∈ l, x ∈ xs ∧ x ∈ s.sds := by
    intro xs hxs
    obtain ⟨l, hl, hp, hs⟩ := sortGrids_spec_le U s U.sdDim id xs
      (by
        intro he
        refine eq_nil_iff_forall_not_mem.2 fun x hx => ?_
        have := hxs x hx
        rw [pairs_nil_of_sds_nil hi he] at this
        cases this)
      (fun x hx => le_dimMax U (hmem x (hxs x hx)))
    exact ⟨l, hl, hp, hs, fun x hx => ⟨hp.mem_iff.1 hx, hmem x (hxs x (hp.mem_iff.1 hx))⟩⟩
  refine ⟨rfl, ?_, ?_, ?_, fun x => mem_filterMap_otherEnd⟩
  · obtain ⟨l, hl, hp, hs, hm⟩ := key _ (fun x hx => hx)
    exact ⟨l, hl, hp, hs, fun x hx => (hm x hx).2⟩
  · obtain ⟨l, hl, hp, hs, hm⟩ := key _ (fun x hx => (mem_filter.1 hx).1)
    exact ⟨l, hl, hp, hs, fun x hx =>
      ⟨(hm x hx).2, of_decide_eq_true (mem_filter.1 (hm x hx).1).2⟩⟩
  · obtain ⟨l, hl, hp, hs, hm⟩ := key _ (fun x hx => (mem_filter.1 hx).1)
    exact ⟨l, hl, hp, hs, fun x hx =>
      ⟨(hm x hx).2, of_decide_eq_true (mem_filter.1 (hm x hx).1).2⟩⟩

/-- PROPERTY (removal): `remove_subdomain(g)` of a present subdomain succeeds and deletes exactly
    `g`, the interfaces that have `g` as one of their subdomains, and `g`'s boundary grid;
    every other subdomain, interface (with its pair) and boundary grid stays, and the subdomain
    and interface listings after the call are those before with exactly these objects deleted. -/
theorem remove_exact (U : Universe) (s : State) (hi : Inv U s) {g : Nat} (hg : g ∈ s.sds) :
    ∃ s', removeSubdomain s g = .ok s' ∧ Inv U s' ∧
      (∀ x, x ∈ s'.sds ↔ x ∈ s.sds ∧ x ≠ g) ∧
      (∀ p, p ∈ s'.pairs ↔ p ∈ s.pairs ∧ p.2.1 ≠ g ∧ p.2.2 ≠ g) ∧
      (∀ b, b ∈ s'.bgs ↔ b ∈ s.bgs ∧ b.1 ≠ g) ∧
      (∀ l, listSubdomains U s none = .ok l →
        listSubdomains U s' none = .ok (l.filter (· != g))) ∧
      (∀ l, listInterfaces U s none none = .ok l →
        listInterfaces U s' none none = .ok (l.filter (fun i => !touchesI s g i))) ∧
      (∀ i ∈ s'.intfs, pairOf U s' i = pairOf U s i) ∧
      bgOfSd s' g = none ∧ (∀ x, x ≠ g → bgOfSd s' x = bgOfSd s x) := by
  have hrm := removeSubdomain_eq hg
  have hr : Inv U (removeState s g) := inv_removeSubdomain hi hrm
  obtain ⟨⟨l0, hl0, hp0, _, hs0⟩, ⟨m0, hm0, hq0, _, ht0⟩⟩ := listing_all U s hi
  obtain ⟨⟨l1, hl1, hp1, _, hs1⟩, ⟨m1, hm1, hq1, _, ht1⟩⟩ := listing_all U _ hr
  refine ⟨_, hrm, hr, ?_, ?_, ?_, ?_, ?_, ?_, ?_, ?_⟩
  · intro x
    show x ∈ s.sds.filter (· != g) ↔ _
    rw [mem_filter, bne_iff_ne]
  · intro p
    show p ∈ s.pairs.filter (fun p => !touches g p) ↔ _
    rw [mem_filter, not_touches_iff]
  · intro b
    show b ∈ s.bgs.filter (fun b => b.1 != g) ↔ _
    rw [mem_filter, bne_iff_ne]
  · intro l hl
    cases hl0.symm.trans hl
    rw [hl1, listing_filter _ hp0 hs0 hp1 hs1 rfl]
  · intro l hl
    cases hm0.symm.trans hl
    rw [hm1, listing_filter _ hq0 ht0 hq1 ht1 (removeState_intfs hi g)]
  · intro i hi'
    simp only [State.intfs] at hi'
    rcases mem_map.1 hi' with ⟨p, hp, rfl⟩
    obtain ⟨i, a, b⟩ := p
    have hp0 : (i, a, b) ∈ s.pairs := (mem_filter.1 hp).1
    rw [pairOf_of_mem hr hp, pairOf_of_mem hi hp0]
  · exact lookup_filter_self g s.bgs
  · intro x hx
    exact lookup_filter_ne s.bgs hx

/-- PROPERTY (boundary grids): every present subdomain of positive dimension has exactly one
    boundary grid (the one `subdomain_to_boundary_grid` returns), a 0-d subdomain has none, there
    are no boundary grids of absent subdomains, and distinct subdomains have distinct ones. -/
theorem one_boundary_grid_per_positive_dim (U : Universe) (s : State) (hi : Inv U s) :
    (∀ g ∈ s.sds, 0 < U.sdDim g →
      ∃ b, bgOfSd s g = some b ∧ s.bgs.filter (fun e => e.1 == g) = [(g, b)]) ∧
    (∀ g ∈ s.sds, U.sdDim g = 0 → bgOfSd s g = none ∧ s.bgs.filter (fun e => e.1 == g) = []) ∧
    (∀ e ∈ s.bgs, e.1 ∈ s.sds ∧ 0 < U.sdDim e.1) ∧
    (s.bgs.map (·.2)).Nodup := by
  have hkn : (s.bgs.map (·.1)).Nodup := by
    rw [hi.bgKeys]; exact hi.sdsNodup.sublist filter_sublist
  refine ⟨?_, ?_, fun e he => bg_parent_mem hi he, hi.bgNodup⟩
  · intro g hg hd
    have : g ∈ s.bgs.map (·.1) := by rw [hi.bgKeys]; simp [hg, hd]
    rcases mem_map.1 this with ⟨⟨g', b⟩, hb, rfl⟩
    exact ⟨b, lookup_eq_some_of_mem hkn hb, filter_key_eq_singleton hkn hb⟩
  · intro g _ hd
    have hnot : g ∉ s.bgs.map (·.1) := by rw [hi.bgKeys]; simp [hd]
    refine ⟨lookup_eq_none_iff.2 hnot, ?_⟩
    rw [filter_eq_nil_iff]
    intro e he hbe
    simp only [beq_iff_eq] at hbe
    exact hnot (hbe ▸ mem_map.2 ⟨e, he, rfl⟩)

/-- PROPERTY (replacement): replacing a present subdomain `old` by a fresh grid `new` of the same
    dimension succeeds; `new` takes the place of `old` among the subdomains; the interfaces are
    the same objects and each reports its former pair with `old` replaced by `new`; `old`'s
    boundary grid is gone, `new` has a freshly created one iff its dimension is positive, and all
    other boundary grids are untouched.  (`hsup`: none of the mortar updates the call makes is
    one of the dimension combinations `MortarGrid` does not implement.) -/
theorem replace_exact (U : Universe) (s : State) (hi : Inv U s) {old new : Nat}
    (ho : old ∈ s.sds) (hn : new ∉ s.sds) (hd : U.sdDim new = U.sdDim old)
    (hsup : (plannedCalls U s old new).any (callFails U) = false) :
    ∃ s' c, replace1 U s old new = .ok (s', c) ∧ Inv U s' ∧
      (∀ x, x ∈ s'.sds ↔ (x ∈ s.sds ∨ x = new) ∧ x ≠ old) ∧
      s'.intfs = s.intfs ∧
      (∀ i a b, (i, a, b) ∈ s.pairs →
        pairOf U s' i = .ok (sort2 U (sub old new a) (sub old new b))) ∧
      bgOfSd s' old = none ∧
      bgOfSd s' new = (if 0 < U.sdDim new then some s.nextBg else none) ∧
      (∀ x, x ≠ old → x ≠ new → bgOfSd s' x = bgOfSd s x) := by
  have hne : new ≠ old := fun e => hn (e ▸ ho)
  have hi' := inv_replaceState hi ho hn hd
  -- the boundary grids are those of `s` with `new` added and `old` removed
  have hbg : ∀ x, bgOfSd (replaceState U s old new) x =
      lookup x ((s.bgs ++ if 0 < U.sdDim new then [(new, s.nextBg)] else []).filter
        (fun b => b.1 != old)) := by
    intro x; rw [replaceState_eq hi ho hn hd, ← addOne_bgs]; rfl
  refine ⟨_, _, replace1_eq_ok ho hsup, hi', fun x => mem_replaceState_sds hn,
    replaceState_intfs U s old new, ?_, ?_, ?_, ?_⟩
  · intro i a b hp
    have hp' : replaceEntry U old new (i, a, b) ∈ (replaceState U s old new).pairs := by
      rw [replaceState_pairs]; exact mem_map.2 ⟨_, hp, rfl⟩
    rcases replaceEntry_eq U old new (i, a, b) with h | h <;> rw [h] at hp' <;>
      rw [pairOf_of_mem hi' hp']
    exact congrArg _ (sort2_comm U _ _)
  · rw [hbg]; exact lookup_filter_self old _
  · rw [hbg, lookup_filter_ne _ hne, lookup_append, bgOfSd_of_not_mem hi hn]
    split
    · exact lookup_singleton_self _ _
    · rfl
  · intro x hxo hxn
    rw [hbg, lookup_filter_ne _ hxo, lookup_append]
    split
    · rw [lookup_singleton_ne _ hxn, Option.or_none]; rfl
    · exact Option.or_none

/-- Fidelity of the replacement loop: in a reachable state the sorted list
    `subdomain_to_interfaces(old)` that the code iterates over contains every interface of `old`
    exactly once — `argsort_grids` drops nothing — and `interface_to_subdomain_pair` succeeds on
    each of them with the `sort2` ordering.  So the model's "rewrite every entry that touches
    `old`" is what the loop does. -/
theorem replace_loop_visits_all (U : Universe) (s : State) (hi : Inv U s) (old : Nat) :
    argsortFrom U.ifDim id (dimMax U s.sds) ((s.pairs.filter (touches old)).map (·.1))
        ~ (s.pairs.filter (touches old)).map (·.1) ∧
    (∀ p ∈ s.pairs, pairOf U s p.1 = .ok (sort2 U p.2.1 p.2.2)) := by
  refine ⟨argsortFrom_perm_self U.ifDim id ?_, fun p hp => pairOf_of_mem hi hp⟩
  intro i hmem
  obtain ⟨p, hpf, rfl⟩ := mem_map.1 hmem
  exact ifDim_le_dimMax hi (mem_map.2 ⟨p, (mem_filter.1 hpf).1, rfl⟩)

/-- PROPERTY (failed replacement is atomic): an `sd_map` item fails only because the old grid is
    absent (KeyError, no mortar grid touched) or because one of its mortar updates is not
    implemented for the dimensions involved (NotImplementedError); in both cases the container is
    exactly as before the item (`replaceMany` stops there, keeping the items before it), and the
    state a whole well-formed `replace…` call ends in, failing or not, is again consistent. -/
theorem replace_failure_atomic (U : Universe) (s : State) :
    (∀ old new e c, replace1 U s old new = .error (e, c) →
      ((old ∉ s.sds ∧ e = .keyError ∧ c = []) ∨
       (old ∈ s.sds ∧ e = .notImplementedError ∧
          (plannedCalls U s old new).any (callFails U) = true)) ∧
      (replaceMany U s [(old, new)]).1 = s) ∧
    (∀ im sm, Inv U s → wfReplace U s sm = true →
      Inv U (step U s (.replace im sm)).state) := by
  refine ⟨?_, ?_⟩
  · intro old new e c h
    refine ⟨replace1_error h, ?_⟩
    simp [replaceMany, h]
  · intro im sm hr hw
    exact inv_step (.replace im sm) hr hw

/-- PROPERTY (rejections): the calls the container must refuse are refused with the documented
    error, and a refused call leaves the container exactly as it was (for an `sd_map` with
    several items: as it was after the items before the failing one). -/
theorem rejections (U : Universe) (s : State) :
    (∀ gs g, g ∈ gs → g ∈ s.sds → addSubdomains U s gs = .error .valueError) ∧
    (∀ gs, ¬ gs.Nodup → addSubdomains U s gs = .error .valueError) ∧
    (∀ i pair, pair.length ≠ 2 → addInterface U s i pair = .error .valueError) ∧
    (∀ i a b, i ∈ s.intfs → addInterface U s i [a, b] = .error .valueError) ∧
    (∀ i a b, U.sdDim a + 3 ≤ U.sdDim b ∨ U.sdDim b + 3 ≤ U.sdDim a →
      addInterface U s i [a, b] = .error .valueError) ∧
    (∀ i a b, s.sds = [] → ∃ e, addInterface U s i [a, b] = .error e) ∧
    (∀ g, g ∉ s.sds → removeSubdomain s g = .error .keyError) ∧
    (∀ old new, old ∉ s.sds → replace1 U s old new = .error (.keyError, [])) ∧
    (∀ op, (step U s op).err ≠ none → (∀ im sm, op = .replace im sm → sm.length ≤ 1) →
      (step U s op).state = s) := by
  refine ⟨?_, ?_, ?_, ?_, ?_, ?_, fun g hg => removeSubdomain_of_not_mem hg,
    fun old new ho => replace1_of_not_mem new ho, ?_⟩
  · intro gs g hg hs
    rw [addSubdomains_eq, if_neg (fun c => c.2 g hg hs)]
  · intro gs hn
    rw [addSubdomains_eq, if_neg (fun c => hn c.1)]
  · intro i pair hl
    unfold addInterface
    split
    · exact absurd rfl hl
    · rfl
  · intro i a b hi
    rw [addInterface_pair, contains_eq_mem, decide_eq_true hi]
    rfl
  · intro i a b hd
    rw [addInterface_pair, if_pos (gap_of_far hd)]
    exact ite_self _
  · intro i a b he
    rw [addInterface_pair, sortPair_empty U s a b he]
    split
    · exact ⟨_, rfl⟩
    · split <;> exact ⟨_, rfl⟩
  · intro op he hop
    revert he
    cases op with
    | addSubdomains gs =>
      simp only [step]
      cases addSubdomains U s gs with
      | error e => exact fun _ => rfl
      | ok s' => exact fun he => absurd rfl he
    | addInterface i pair =>
      simp only [step]
      cases addInterface U s i pair with
      | error e => exact fun _ => rfl
      | ok s' => exact fun he => absurd rfl he
    | removeSubdomain g =>
      simp only [step]
      cases removeSubdomain s g with
      | error e => exact fun _ => rfl
      | ok s' => exact fun he => absurd rfl he
    | replace im sm =>
      match sm, hop im sm rfl with
      | [], _ => exact fun _ => rfl
      | [(old, new)], _ =>
        simp only [step, replaceMany]
        cases replace1 U s old new with
        | error e => exact fun _ => rfl
        | ok r => exact fun he => absurd rfl he

/-- PROPERTY (acceptance): in any state every call that names present / fresh objects as required is
    accepted (so the rejections above are the only ones). -/
theorem valid_calls_accepted (U : Universe) (s : State) :
    (∀ gs, gs.Nodup → (∀ g ∈ gs, g ∉ s.sds) → ∃ s', addSubdomains U s gs = .ok s') ∧
    (∀ i a b, i ∉ s.intfs → a ∈ s.sds → b ∈ s.sds → U.sdDim a < U.sdDim b + 3 →
      U.sdDim b < U.sdDim a + 3 →
      addInterface U s i [a, b] = .ok { s with pairs := s.pairs ++ [(i, (sort2 U a b).1, (sort2 U a b).2)] }) ∧
    (∀ g, g ∈ s.sds → ∃ s', removeSubdomain s g = .ok s') ∧
    (∀ old new, old ∈ s.sds → (plannedCalls U s old new).any (callFails U) = false →
      ∃ r, replace1 U s old new = .ok r) := by
  refine ⟨fun gs hn hd => ⟨_, by rw [addSubdomains_eq, if_pos ⟨hn, hd⟩]⟩, ?_,
    fun g hg => ⟨_, removeSubdomain_eq hg⟩, fun old new ho hs => ⟨_, replace1_eq_ok ho hs⟩⟩
  intro i a b hi ha hb h1 h2
  have hc : ¬ s.intfs.contains i = true := by
    rw [contains_eq_mem, decide_eq_false hi]; exact Bool.false_ne_true
  rw [addInterface_pair, if_neg hc, if_neg (not_gap_of_near h1 h2), sortPair_eq_sort2 U s ha hb]

/-- PROPERTY (data dictionaries): in a consistent container every present subdomain, interface and
    boundary grid has its data dictionary and absent ones have none (the getters raise KeyError);
    no dictionary is shared between two keys of any kind. -/
theorem data_dictionaries_consistent (U : Universe) (d : DState) (hi : DInv U d) :
    (∀ g, (g ∈ d.core.sds → ∃ t, dataOfSd d g = some t) ∧ (g ∉ d.core.sds → dataOfSd d g = none)) ∧
    (∀ i, (i ∈ d.core.intfs → ∃ t, dataOfIf d i = some t) ∧ (i ∉ d.core.intfs → dataOfIf d i = none)) ∧
    (∀ b, (b ∈ d.core.bgs.map (·.2) → ∃ t, dataOfBg d b = some t) ∧
          (b ∉ d.core.bgs.map (·.2) → dataOfBg d b = none)) ∧
    (allToks d).Nodup ∧
    (∀ g g' t, dataOfSd d g = some t → dataOfSd d g' = some t → g = g') := by
  refine ⟨lookup_on_keys hi.sdKeys, lookup_on_keys hi.ifKeys, lookup_on_keys hi.bgKeys,
    hi.tokNodup, ?_⟩
  · intro g g' t h h'
    have hn : (d.sdData.map (·.2)).Nodup := by
      have := hi.tokNodup
      simp only [allToks, append_assoc] at this
      exact (nodup_append.1 this).1
    exact eq_of_lookup_eq_some hn h h'

/-- PROPERTY (data travels with replacement): replacing `old` by a fresh `new` of the same
    dimension hands `old`'s data dictionary over to `new` and the dictionary of `old`'s boundary
    grid over to `new`'s freshly created boundary grid; the dictionaries of all interfaces and of
    all other subdomains and boundary grids stay where they were. -/
theorem replace_data_travels (U : Universe) (d : DState) (hi : DInv U d) {old new : Nat}
    (ho : old ∈ d.core.sds) (hn : new ∉ d.core.sds) (hd : U.sdDim new = U.sdDim old)
    (hsup : (plannedCalls U d.core old new).any (callFails U) = false) :
    ∃ d' c, dReplace1 U d old new = .ok (d', c) ∧ DInv U d' ∧
      dataOfSd d' new = dataOfSd d old ∧ dataOfSd d' old = none ∧
      (∀ x, x ≠ old → x ≠ new → dataOfSd d' x = dataOfSd d x) ∧
      (∀ i, dataOfIf d' i = dataOfIf d i) ∧
      (∀ bOld, bgOfSd d.core old = some bOld →
        bgOfSd d'.core new = some d.core.nextBg ∧
        dataOfBg d' d.core.nextBg = dataOfBg d bOld ∧ dataOfBg d' bOld = none ∧
        ∀ b, b ≠ bOld → b ≠ d.core.nextBg → dataOfBg d' b = dataOfBg d b) ∧
      (bgOfSd d.core old = none → ∀ b, dataOfBg d' b = dataOfBg d b) := by
  have hne : new ≠ old := fun e => hn (e ▸ ho)
  obtain ⟨d', c, hd'⟩ : ∃ d' c, dReplace1 U d old new = .ok (d', c) := by
    unfold dReplace1; rw [replace1_eq_ok ho hsup]; exact ⟨_, _, rfl⟩
  obtain ⟨hr', hsd, hif, hbg, _⟩ := dReplace1_ok hd'
  obtain ⟨t, ht⟩ := (lookup_on_keys hi.sdKeys old).1 ho
  have hnk : new ∉ d.sdData.map (·.1) := by rw [hi.sdKeys]; exact hn
  refine ⟨d', c, hd', dinv_replace1 hi hn hd hd', ?_, ?_, ?_, ?_, ?_, ?_⟩
  · unfold dataOfSd; rw [hsd, moveKey_lookup_new ht hne hnk, ht]
  · unfold dataOfSd; rw [hsd, moveKey_lookup_old ht hne]
  · intro x hxo hxn
    unfold dataOfSd; rw [hsd, moveKey_lookup_other ht hne hxo hxn]
  · intro i; unfold dataOfIf; rw [hif]
  · intro bOld hb
    unfold bgOfSd at hb
    have hmem := mem_of_lookup_eq_some hb
    have hfresh : d.core.nextBg ≠ bOld := Nat.ne_of_gt (hi.core.bgFresh _ hmem)
    obtain ⟨tb, htb⟩ := (lookup_on_keys hi.bgKeys bOld).1 (mem_map.2 ⟨_, hmem, rfl⟩)
    have hfk : d.core.nextBg ∉ d.bgData.map (·.1) := hi.bgKeys ▸ nextBg_not_mem hi.core
    rw [hb] at hbg
    refine ⟨?_, ?_, ?_, ?_⟩
    · unfold bgOfSd
      rw [(replace1_ok hr').2.1, replaceState_bgs_some new hb, lookup_filter_ne _ hne,
        lookup_append, bgOfSd_of_not_mem hi.core hn, lookup_singleton_self]
      rfl
    · unfold dataOfBg; rw [hbg, moveKey_lookup_new htb hfresh hfk, htb]
    · unfold dataOfBg; rw [hbg, moveKey_lookup_old htb hfresh]
    · intro b hb1 hb2
      unfold dataOfBg; rw [hbg, moveKey_lookup_other htb hfresh hb1 hb2]
  · intro hb b
    unfold bgOfSd at hb
    rw [hb] at hbg
    unfold dataOfBg; rw [hbg]

/-- PROPERTY (data frame of the other calls): `add_subdomains` / `add_interface` leave every
    existing dictionary where it is; `remove_subdomain(g)` drops `g`'s dictionary and keeps those of
    all other subdomains and of all surviving interfaces and boundary grids. -/
theorem data_frame (U : Universe) (d : DState) :
    (∀ gs d', dAddSubdomains U d gs = .ok d' →
      (∀ x t, dataOfSd d x = some t → dataOfSd d' x = some t) ∧
      (∀ i, dataOfIf d' i = dataOfIf d i) ∧
      (∀ b t, dataOfBg d b = some t → dataOfBg d' b = some t)) ∧
    (∀ i pair d', dAddInterface U d i pair = .ok d' →
      (∀ x, dataOfSd d' x = dataOfSd d x) ∧ (∀ b, dataOfBg d' b = dataOfBg d b) ∧
      (∀ j t, dataOfIf d j = some t → dataOfIf d' j = some t)) ∧
    (∀ g d', dRemoveSubdomain d g = .ok d' →
      dataOfSd d' g = none ∧ (∀ x, x ≠ g → dataOfSd d' x = dataOfSd d x) ∧
      (∀ i, i ∈ d'.core.intfs → dataOfIf d' i = dataOfIf d i) ∧
      (∀ b, b ∈ d'.core.bgs.map (·.2) → dataOfBg d' b = dataOfBg d b)) := by
  refine ⟨?_, ?_, ?_⟩
  · intro gs d' h
    obtain ⟨s', _, rfl⟩ := dAddSubdomains_ok h
    exact ⟨fun x t hx => lookup_append_of_some hx, fun i => rfl,
      fun b t hb => lookup_append_of_some hb⟩
  · intro i pair d' h
    obtain ⟨s', _, rfl⟩ := dAddInterface_ok h
    exact ⟨fun x => rfl, fun b => rfl, fun j t hj => lookup_append_of_some hj⟩
  · intro g d' h
    obtain ⟨s', _, rfl⟩ := dRemoveSubdomain_ok h
    refine ⟨lookup_filter_self g _, fun x hx => lookup_filter_ne _ hx, ?_, ?_⟩
    · intro i hi'
      exact lookup_filter_key (fun k => s'.intfs.contains k) d.ifData (contains_iff_mem.2 hi')
    · intro b hb
      exact lookup_filter_key (fun k => (s'.bgs.map (·.2)).contains k) d.bgData (contains_iff_mem.2 hb)

def WReachable (U : Universe) (w : World) : Prop :=
  ∃ os, wfWorld U World.init os = true ∧ w = wrun U World.init os

/-- Main induction for several containers: whatever well-formed calls are made, in whatever
    interleaving, on a container and on its (copies of) copies, every container stays consistent
    (`DInv`, which contains `Inv`), so every property theorem of this file holds for each of them. -/
theorem world_inv (U : Universe) (w : World) (h : WReachable U w) :
    ∀ d ∈ w.conts, DInv U d ∧ Inv U d.core := by
  obtain ⟨os, hw, rfl⟩ := h
  intro d hd
  have := winv_run os (winv_init U) hw d hd
  exact ⟨this.1, this.1.core⟩

/-- PROPERTY (`copy()`): the copy is a new container with exactly the content of the original —
    the same grid, mortar-grid and boundary-grid objects and the very same data dictionaries —
    and making it changes no existing container; afterwards a call on one container changes no
    other container, so a copy and its original evolve independently (while sharing objects). -/
theorem copy_shares_and_is_independent (U : Universe) (w : World) :
    (∀ k d, w.conts[k]? = some d →
      (wstep U w (.copy k)).conts = w.conts ++ [d] ∧
      (wstep U w (.copy k)).conts[w.conts.length]? = some d ∧
      ∀ j, j < w.conts.length → (wstep U w (.copy k)).conts[j]? = w.conts[j]?) ∧
    (∀ k op j, j ≠ k → (wstep U w (.on k op)).conts[j]? = w.conts[j]?) ∧
    (∀ k op, (wstep U w (.on k op)).conts.length = w.conts.length) := by
  refine ⟨?_, ?_, ?_⟩
  · intro k d hk
    have hstep : wstep U w (.copy k) = { w with conts := w.conts ++ [d] } := by
      simp only [wstep, hk]
    rw [hstep]
    refine ⟨rfl, getElem?_concat_length, ?_⟩
    intro j hj
    exact getElem?_append_left hj
  · intro k op j hj
    simp only [wstep]
    cases hk : w.conts[k]? with
    | none => rfl
    | some d => simp only []; exact getElem?_set_ne (Ne.symm hj)
  · intro k op
    simp only [wstep]
    cases hk : w.conts[k]? with
    | none => rfl
    | some d => simp

/-- a whole history of calls on other containers (and further copies) leaves container `k` as it is -/
theorem other_containers_histories (U : Universe) (k : Nat) (os : List WOp) (w : World)
    (hk : k < w.conts.length)
    (hos : ∀ o ∈ os, match o with | .on m _ => m ≠ k | .copy _ => True) :
    (wrun U w os).conts[k]? = w.conts[k]? := by
  induction os generalizing w with
  | nil => rfl
  | cons o os ih =>
    simp only [wrun]
    have ho := hos o mem_cons_self
    have hrest : ∀ o' ∈ os, match o' with | .on m _ => m ≠ k | .copy _ => True :=
      fun o' h' => hos o' (mem_cons_of_mem _ h')
    cases o with
    | on m op =>
      simp only [] at ho
      have hlen := (copy_shares_and_is_independent U w).2.2 m op
      rw [ih _ (by rw [hlen]; exact hk) hrest]
      exact (copy_shares_and_is_independent U w).2.1 m op k (Ne.symm ho)
    | copy m =>
      cases hm : w.conts[m]? with
      | none =>
        have : wstep U w (.copy m) = w := by simp only [wstep, hm]
        rw [this]; exact ih w hk hrest
      | some d =>
        obtain ⟨hc, _, hj⟩ := (copy_shares_and_is_independent U w).1 m d hm
        rw [ih _ (by rw [hc]; simp; omega) hrest]
        exact hj k hk

/-! ### non-vacuity: a concrete history (3-d, 2-d, two 1-d, one 0-d grid) -/

/-- grids 0..6 of dimension 3,2,1,1,0,1,2; mortar grids 0..3 of dimension 2,1,1,0 -/
def exU : Universe :=
  ⟨fun k => [3, 2, 1, 1, 0, 1, 2].getD k 0, fun k => [2, 1, 1, 0].getD k 0, fun _ => 1⟩

def exOps : List Op :=
  [.addSubdomains [2, 0], .addSubdomains [1, 4, 3],
   .addInterface 0 [1, 0], .addInterface 1 [2, 1], .addInterface 2 [1, 3], .addInterface 3 [4, 3],
   .addSubdomains [2],                      -- rejected: present
   .addInterface 3 [2, 4],                  -- rejected: existing interface
   .replace [1] [(3, 5)],                   -- refine the second 1-d grid
   .removeSubdomain 2,
   .replace [] [(1, 6)],
   .removeSubdomain 9]                      -- rejected: absent

theorem exOps_wf : wfHist exU State.empty exOps = true := by decide +kernel

-- the history is run once; the queries below are evaluated on the state it ends in
theorem exOps_run : run exU State.empty exOps =
    ⟨[0, 4, 5, 6], [(0, 0, 6), (2, 6, 5), (3, 5, 4)], [(0, 1), (5, 4), (6, 5)], 6⟩ := by decide +kernel

example : wfHist exU State.empty exOps = true := exOps_wf
example : Reachable exU (run exU State.empty exOps) := ⟨exOps, exOps_wf, rfl⟩
example : run exU State.empty exOps =
    ⟨[0, 4, 5, 6], [(0, 0, 6), (2, 6, 5), (3, 5, 4)], [(0, 1), (5, 4), (6, 5)], 6⟩ := exOps_run
example : (listSubdomains exU (run exU State.empty exOps) none).toOption = some [0, 6, 5, 4] := by
  rw [exOps_run]; decide +kernel
example : (listInterfaces exU (run exU State.empty exOps) none none).toOption = some [0, 2, 3] := by
  rw [exOps_run]; decide +kernel
example : (listBoundaries exU (run exU State.empty exOps) none).toOption = some [(0, 1), (6, 5), (5, 4)] := by
  rw [exOps_run]; decide +kernel
example : (pairOf exU (run exU State.empty exOps) 2).toOption = some (6, 5) := by
  rw [exOps_run]; decide +kernel
example : (intfOfPair (run exU State.empty exOps) 5 6).toOption = some 2 := by
  rw [exOps_run]; decide +kernel
example : (step exU (run exU State.empty exOps) (.addInterface 1 [0, 4])).err = some .valueError := by
  rw [exOps_run]; decide +kernel
example : (step exU (run exU State.empty exOps) (.removeSubdomain 6)).state =
    ⟨[0, 4, 5], [(3, 5, 4)], [(0, 1), (5, 4)], 6⟩ := by
  rw [exOps_run]; decide +kernel


/-- replacing the 3-d grid 0 while it is the primary side of the 2-d mortar grid 0 is not
    implemented: the call fails and changes nothing -/
example : (step exU ⟨[0, 1], [(0, 0, 1)], [(0, 0), (1, 1)], 2⟩ (.replace [] [(0, 6)])).err
    = some .notImplementedError := by decide +kernel
example : (step exU ⟨[0, 1], [(0, 0, 1)], [(0, 0), (1, 1)], 2⟩ (.replace [] [(0, 6)])).state
    = ⟨[0, 1], [(0, 0, 1)], [(0, 0), (1, 1)], 2⟩ := by decide +kernel

/-- two containers: fill, copy, then replace grid 2 by 5 in the copy and remove grid 1 in the original -/
def exW : List WOp :=
  [.on 0 (.addSubdomains [2, 0]), .on 0 (.addSubdomains [1, 4, 3]), .on 0 (.addInterface 1 [2, 1]),
   .copy 0, .on 1 (.replace [] [(2, 5)]), .on 0 (.removeSubdomain 1), .on 1 (.addSubdomains [6])]

theorem exW_wf : wfWorld exU World.init exW = true := by decide +kernel

example : wfWorld exU World.init exW = true := exW_wf
example : WReachable exU (wrun exU World.init exW) := ⟨exW, exW_wf, rfl⟩
example : (wrun exU World.init exW).conts.map (fun d => (d.core.sds, d.core.pairs)) =
    [([2, 0, 4, 3], []), ([0, 1, 4, 3, 5, 6], [(1, 1, 5)])] := by decide +kernel
/-- grid 5 of the copy holds the dictionary grid 2 has in the original; so do their boundary grids -/
example : dataOfSd ((wrun exU World.init exW).conts.getD 1 DState.empty) 5
    = dataOfSd ((wrun exU World.init exW).conts.getD 0 DState.empty) 2 := by decide +kernel
example : dataOfBg ((wrun exU World.init exW).conts.getD 1 DState.empty) 4
    = dataOfBg ((wrun exU World.init exW).conts.getD 0 DState.empty) 0 := by decide +kernel

end PorepyVerif.C24
