/-
C24 — the data dictionaries: `DInv` is preserved by every well-formed call; no call lowers a
creation counter; `WInv` for containers that share objects through `copy()`.
-/
import PorepyVerif.C24.Lemmas

namespace PorepyVerif.C24
open List

theorem dinv_empty (U : Universe) : DInv U DState.empty := by
  refine ⟨inv_empty U, rfl, rfl, rfl, ?_, ?_⟩ <;> simp [allToks, DState.empty]

theorem freshFor_fst (ks : List Nat) (t : Nat) : (freshFor ks t).map (·.1) = ks := by
  induction ks generalizing t with
  | nil => rfl
  | cons k ks ih => simp [freshFor, ih]

theorem freshFor_snd (ks : List Nat) (t : Nat) :
    (freshFor ks t).map (·.2) = List.range' t ks.length := by
  induction ks generalizing t with
  | nil => rfl
  | cons k ks ih => simp [freshFor, ih, List.range'_succ]

/-- a container with consistent keys whose tokens are the former ones and `n` new ones taken from
    the counter is consistent -/
theorem DInv.of_toks {U : Universe} {d d' : DState} (hi : DInv U d) (n : Nat) (hc : Inv U d'.core)
    (h1 : d'.sdData.map (·.1) = d'.core.sds) (h2 : d'.ifData.map (·.1) = d'.core.intfs)
    (h3 : d'.bgData.map (·.1) = d'.core.bgs.map (·.2))
    (hp : allToks d' ~ allToks d ++ List.range' d.nextTok n) (hn : d'.nextTok = d.nextTok + n) :
    DInv U d' := by
  refine ⟨hc, h1, h2, h3,
    hp.nodup_iff.2 (nodup_append.2 ⟨hi.tokNodup, List.nodup_range', ?_⟩), ?_⟩
  · intro a ha b hb
    have := hi.tokFresh a ha
    rw [List.mem_range'_1] at hb
    omega
  · intro x hx
    rw [hn]
    rcases mem_append.1 (hp.mem_iff.1 hx) with hx | hx
    · exact Nat.lt_of_lt_of_le (hi.tokFresh x hx) (Nat.le_add_right _ _)
    · exact (List.mem_range'_1.1 hx).2

theorem dinv_addSubdomains {U : Universe} {d d' : DState} {gs : List Nat} (hi : DInv U d)
    (h : dAddSubdomains U d gs = .ok d') : DInv U d' := by
  obtain ⟨s', ha, rfl⟩ := dAddSubdomains_ok h
  obtain ⟨_, _, hs'⟩ := addSubdomains_ok ha
  obtain ⟨extra, hex⟩ := foldl_addOne U gs d.core
  rw [← hs'] at hex
  have hbgs : s'.bgs = d.core.bgs ++ extra := by rw [hex]
  have hdrop : s'.bgs.drop d.core.bgs.length = extra := by rw [hbgs]; exact drop_left
  refine hi.of_toks (gs.length + (extra.map (·.2)).length) (inv_addSubdomains hi.core ha)
    ?_ ?_ ?_ ?_ ?_
  · simp only [map_append, freshFor_fst, hi.sdKeys]
    rw [hex]
  · simp only [hi.ifKeys, State.intfs]
    rw [hex]
  · simp only [map_append, freshFor_fst, hi.bgKeys, hdrop]
    rw [hbgs, map_append]
  · simp only [allToks, map_append, freshFor_snd, hdrop, ← List.range'_append_1, append_assoc]
    exact ((perm_append_comm_assoc _ _ _).trans
      ((perm_append_comm_assoc _ _ _).append_left _)).append_left _
  · simp only [hdrop]
    exact Nat.add_assoc _ _ _

theorem dinv_addInterface {U : Universe} {d d' : DState} {i a b : Nat} (hi : DInv U d)
    (ha : a ∈ d.core.sds) (hb : b ∈ d.core.sds) (hda : U.ifDim i ≤ U.sdDim a)
    (hdb : U.ifDim i ≤ U.sdDim b) (h : dAddInterface U d i [a, b] = .ok d') : DInv U d' := by
  obtain ⟨s', hadd, rfl⟩ := dAddInterface_ok h
  obtain ⟨_, _, x, y, _, _, _, hs'⟩ := addInterface_ok hadd
  refine hi.of_toks 1 (inv_addInterface hi.core ha hb hda hdb hadd) ?_ ?_ ?_ ?_ rfl
  · rw [hs']; exact hi.sdKeys
  · rw [hs']
    simp only [State.intfs, map_append, hi.ifKeys]
    rfl
  · rw [hs']; exact hi.bgKeys
  · simp only [allToks, map_append, append_assoc]
    exact (perm_append_comm.append_left _).append_left _

theorem dinv_removeSubdomain {U : Universe} {d d' : DState} {g : Nat} (hi : DInv U d)
    (h : dRemoveSubdomain d g = .ok d') : DInv U d' := by
  obtain ⟨s', hr, rfl⟩ := dRemoveSubdomain_ok h
  obtain ⟨hg, hs'⟩ := removeSubdomain_ok hr
  have hsub {l : List (Nat × Nat)} {p : Nat × Nat → Bool} : (l.filter p).map (·.2) <+ l.map (·.2) :=
    filter_sublist.map _
  refine ⟨inv_removeSubdomain hi.core hr, ?_, ?_, ?_, ?_, ?_⟩
  · show (d.sdData.filter (fun e => e.1 != g)).map (·.1) = s'.sds
    rw [map_fst_filter (· != g), hi.sdKeys, hs']
    rfl
  · apply filter_keys_sublist
    · rw [hi.ifKeys, hs']; exact filter_sublist.map _
    · rw [hi.ifKeys]; exact hi.core.intfNodup
  · apply filter_keys_sublist
    · rw [hi.bgKeys, hs']; exact filter_sublist.map _
    · rw [hi.bgKeys]; exact hi.core.bgNodup
  · exact hi.tokNodup.sublist ((hsub.append hsub).append hsub)
  · exact fun t ht => hi.tokFresh t (((hsub.append hsub).append hsub).subset ht)

theorem dinv_replace1 {U : Universe} {d d' : DState} {old new : Nat} {c : List Call}
    (hi : DInv U d) (hn : new ∉ d.core.sds) (hd : U.sdDim new = U.sdDim old)
    (h : dReplace1 U d old new = .ok (d', c)) : DInv U d' := by
  obtain ⟨hr, hsd, hif, hbg, htk⟩ := dReplace1_ok h
  obtain ⟨ho, hs', _, _⟩ := replace1_ok hr
  have hne : new ≠ old := fun e => hn (e ▸ ho)
  obtain ⟨t, ht⟩ := (lookup_on_keys hi.sdKeys old).1 ho
  have hsdn : (d.sdData.map (·.1)).Nodup := by rw [hi.sdKeys]; exact hi.core.sdsNodup
  have hbgn : (d.bgData.map (·.1)).Nodup := by rw [hi.bgKeys]; exact hi.core.bgNodup
  -- the dictionaries of the boundary grids: same keys as the new map, same tokens as before
  have hbgpart : d'.bgData.map (·.1) = d'.core.bgs.map (·.2) ∧
      d'.bgData.map (·.2) ~ d.bgData.map (·.2) := by
    rw [hbg, hs']
    cases hl : lookup old d.core.bgs with
    | none =>
      rw [replaceState_bgs_none new hl]
      exact ⟨hi.bgKeys, Perm.refl _⟩
    | some bOld =>
      rw [replaceState_bgs_some new hl]
      have hmem := mem_of_lookup_eq_some hl
      obtain ⟨tb, htb⟩ := (lookup_on_keys hi.bgKeys bOld).1 (mem_map.2 ⟨_, hmem, rfl⟩)
      have hfresh : d.core.nextBg ≠ bOld := Nat.ne_of_gt (hi.core.bgFresh _ hmem)
      refine ⟨?_, moveKey_snd_perm hbgn htb hfresh⟩
      -- the map with the new entry still has distinct keys and distinct values
      have hk : ((d.core.bgs ++ [(new, d.core.nextBg)]).map (·.1)).Nodup := by
        rw [map_append]
        refine nodup_snoc.2 ⟨?_, ?_⟩ <;> rw [hi.core.bgKeys]
        · exact fun hm => hn (mem_filter.1 hm).1
        · exact hi.core.sdsNodup.sublist filter_sublist
      show (moveKey bOld d.core.nextBg d.bgData).map (·.1) = _
      rw [moveKey_fst htb hfresh, hi.bgKeys,
        filter_key_eq_filter_val hk (bgs_snoc hi.core new).2 (mem_append_left _ hmem),
        map_snd_filter (· != bOld), map_append]
      rfl
  have hperm : allToks d' ~ allToks d := by
    simp only [allToks, hif]
    exact ((hsd ▸ moveKey_snd_perm hsdn ht hne).append_right _).append hbgpart.2
  refine hi.of_toks 0 (hs' ▸ inv_replaceState hi.core ho hn hd) ?_ ?_ hbgpart.1
    (hperm.trans (Perm.of_eq (append_nil _).symm)) htk
  · rw [hsd, moveKey_fst ht hne, hi.sdKeys, hs', replaceState_sds_fresh hn]
  · rw [hif, hi.ifKeys, hs', replaceState_intfs]

theorem dReplaceMany_core (U : Universe) (sm : List (Nat × Nat)) (d : DState) :
    (dReplaceMany U d sm).1.core = (replaceMany U d.core sm).1 ∧
    (dReplaceMany U d sm).2 = (replaceMany U d.core sm).2 := by
  induction sm generalizing d with
  | nil => exact ⟨rfl, rfl⟩
  | cons p sm ih =>
    obtain ⟨old, new⟩ := p
    simp only [dReplaceMany, replaceMany, dReplace1]
    cases replace1 U d.core old new with
    | error e => exact ⟨rfl, rfl⟩
    | ok r =>
      obtain ⟨s', c⟩ := r
      simp only []
      exact ⟨(ih _).1, by rw [(ih _).2]⟩

theorem dstep_core (U : Universe) (d : DState) (op : Op) :
    (dstep U d op).state.core = (step U d.core op).state ∧
    (dstep U d op).err = (step U d.core op).err ∧ (dstep U d op).calls = (step U d.core op).calls := by
  cases op with
  | addSubdomains gs =>
    simp only [dstep, step, dAddSubdomains]
    cases addSubdomains U d.core gs <;> exact ⟨rfl, rfl, rfl⟩
  | addInterface i pair =>
    simp only [dstep, step, dAddInterface]
    cases addInterface U d.core i pair <;> exact ⟨rfl, rfl, rfl⟩
  | removeSubdomain g =>
    simp only [dstep, step, dRemoveSubdomain]
    cases removeSubdomain d.core g <;> exact ⟨rfl, rfl, rfl⟩
  | replace im sm =>
    simp only [dstep, step]
    obtain ⟨h1, h2⟩ := dReplaceMany_core U sm d
    refine ⟨h1, ?_, ?_⟩
    · rw [h2]
    · rw [h2]

theorem dinv_replaceMany {U : Universe} (sm : List (Nat × Nat)) {d : DState} (hi : DInv U d)
    (hw : wfReplace U d.core sm = true) : DInv U (dReplaceMany U d sm).1 := by
  induction sm generalizing d with
  | nil => exact hi
  | cons p sm ih =>
    obtain ⟨old, new⟩ := p
    simp only [dReplaceMany]
    cases hd : dReplace1 U d old new with
    | error e => exact hi
    | ok r =>
      obtain ⟨d', c⟩ := r
      have h1 := (dReplace1_ok hd).1
      simp only [wfReplace, h1, Bool.and_eq_true, Bool.not_eq_true', beq_iff_eq] at hw
      simp only []
      exact ih (dinv_replace1 hi (by simpa using hw.1.1) hw.1.2 hd) hw.2

theorem dinv_step {U : Universe} {d : DState} (op : Op) (hi : DInv U d)
    (hw : wfOp U d.core op = true) : DInv U (dstep U d op).state := by
  cases op with
  | addSubdomains gs =>
    simp only [dstep]
    cases h : dAddSubdomains U d gs with
    | error e => exact hi
    | ok d' => exact dinv_addSubdomains hi h
  | addInterface i pair =>
    simp only [dstep]
    cases h : dAddInterface U d i pair with
    | error e => exact hi
    | ok d' =>
      obtain ⟨s', hc, _⟩ := dAddInterface_ok h
      obtain ⟨a, b, _, _, rfl, _⟩ := addInterface_ok hc
      obtain ⟨ha, hb, hda, hdb⟩ := wfOp_addInterface hc hw
      exact dinv_addInterface hi ha hb hda hdb h
  | removeSubdomain g =>
    simp only [dstep]
    cases h : dRemoveSubdomain d g with
    | error e => exact hi
    | ok d' => exact dinv_removeSubdomain hi h
  | replace im sm =>
    simp only [dstep]
    exact dinv_replaceMany sm hi hw

/-- the two creation counters as one container sees them -/
def DState.CountersLe (d d' : DState) : Prop :=
  d.core.nextBg ≤ d'.core.nextBg ∧ d.nextTok ≤ d'.nextTok

theorem dReplaceMany_countersLe (U : Universe) (sm : List (Nat × Nat)) (d : DState) :
    d.CountersLe (dReplaceMany U d sm).1 := by
  induction sm generalizing d with
  | nil => exact ⟨Nat.le_refl _, Nat.le_refl _⟩
  | cons p sm ih =>
    obtain ⟨old, new⟩ := p
    simp only [dReplaceMany]
    cases hd : dReplace1 U d old new with
    | error e => exact ⟨Nat.le_refl _, Nat.le_refl _⟩
    | ok r =>
      obtain ⟨d', c⟩ := r
      obtain ⟨hr, _, _, _, ht⟩ := dReplace1_ok hd
      refine ⟨Nat.le_trans ?_ (ih d').1, ht ▸ (ih d').2⟩
      rw [(replace1_ok hr).2.1, replaceState_nextBg]
      split
      · exact Nat.le_succ _
      · exact Nat.le_refl _

/-- no call on a container lowers a creation counter -/
theorem dstep_countersLe (U : Universe) (d : DState) (op : Op) :
    d.CountersLe (dstep U d op).state := by
  cases op with
  | addSubdomains gs =>
    simp only [dstep]
    cases h : dAddSubdomains U d gs with
    | error e => exact ⟨Nat.le_refl _, Nat.le_refl _⟩
    | ok d' =>
      obtain ⟨s', ha, rfl⟩ := dAddSubdomains_ok h
      obtain ⟨e, he⟩ := foldl_addOne U gs d.core
      refine ⟨?_, Nat.le_trans (Nat.le_add_right _ _) (Nat.le_add_right _ _)⟩
      show _ ≤ s'.nextBg
      rw [(addSubdomains_ok ha).2.2, he]
      exact Nat.le_add_right _ _
  | addInterface i pair =>
    simp only [dstep]
    cases h : dAddInterface U d i pair with
    | error e => exact ⟨Nat.le_refl _, Nat.le_refl _⟩
    | ok d' =>
      obtain ⟨s', ha, rfl⟩ := dAddInterface_ok h
      obtain ⟨_, _, _, _, _, _, _, rfl⟩ := addInterface_ok ha
      exact ⟨Nat.le_refl _, Nat.le_succ _⟩
  | removeSubdomain g =>
    simp only [dstep]
    cases h : dRemoveSubdomain d g with
    | error e => exact ⟨Nat.le_refl _, Nat.le_refl _⟩
    | ok d' =>
      obtain ⟨s', hr, rfl⟩ := dRemoveSubdomain_ok h
      rw [(removeSubdomain_ok hr).2]
      exact ⟨Nat.le_refl _, Nat.le_refl _⟩
  | replace im sm => exact dReplaceMany_countersLe U sm d

theorem dinv_withCounters {U : Universe} {d : DState} (hi : DInv U d) {nb nt : Nat}
    (hb : d.core.nextBg ≤ nb) (ht : d.nextTok ≤ nt) : DInv U (d.withCounters nb nt) := by
  refine ⟨⟨hi.core.sdsNodup, hi.core.intfNodup, hi.core.pairMem, hi.core.pairDim, hi.core.bgKeys,
    ?_, hi.core.bgNodup⟩, hi.sdKeys, hi.ifKeys, hi.bgKeys, hi.tokNodup, ?_⟩
  · intro b hb'
    exact Nat.lt_of_lt_of_le (hi.core.bgFresh b hb') hb
  · intro t ht'
    exact Nat.lt_of_lt_of_le (hi.tokFresh t ht') ht

/-- invariant of a family of containers produced by `copy()` -/
def WInv (U : Universe) (w : World) : Prop :=
  ∀ d ∈ w.conts, DInv U d ∧ d.core.nextBg ≤ w.nextBg ∧ d.nextTok ≤ w.nextTok

theorem winv_init (U : Universe) : WInv U World.init := by
  intro d hd
  simp only [World.init, mem_singleton] at hd
  subst hd
  exact ⟨dinv_empty U, Nat.le_refl _, Nat.le_refl _⟩

theorem winv_step {U : Universe} {w : World} (o : WOp) (hi : WInv U w)
    (hw : wfWorld U w [o] = true) : WInv U (wstep U w o) := by
  cases o with
  | copy k =>
    simp only [wstep]
    cases hk : w.conts[k]? with
    | none => exact hi
    | some d =>
      intro d' hd'
      simp only [mem_append, mem_singleton] at hd'
      rcases hd' with hd' | rfl
      · exact hi d' hd'
      · exact hi _ (mem_of_getElem? hk)
  | on k op =>
    simp only [wstep]
    cases hk : w.conts[k]? with
    | none => exact hi
    | some d =>
      simp only [wfWorld, hk, Bool.and_true] at hw
      have hd := hi d (mem_of_getElem? hk)
      have hnew := dinv_step op (dinv_withCounters hd.1 hd.2.1 hd.2.2) hw
      have hle := dstep_countersLe U (d.withCounters w.nextBg w.nextTok) op
      intro d' hd'
      simp only [] at hd' ⊢
      rcases mem_or_eq_of_mem_set hd' with hd' | rfl
      · have := hi d' hd'
        exact ⟨this.1, Nat.le_trans this.2.1 hle.1, Nat.le_trans this.2.2 hle.2⟩
      · exact ⟨hnew, Nat.le_refl _, Nat.le_refl _⟩

theorem winv_run {U : Universe} (os : List WOp) {w : World} (hi : WInv U w)
    (hw : wfWorld U w os = true) : WInv U (wrun U w os) := by
  induction os generalizing w with
  | nil => exact hi
  | cons o os ih =>
    simp only [wrun]
    have h1 : wfWorld U w [o] = true ∧ wfWorld U (wstep U w o) os = true := by
      cases o with
      | copy k => simpa [wfWorld] using hw
      | on k op =>
        simp only [wfWorld, Bool.and_eq_true] at hw ⊢
        exact ⟨⟨hw.1, trivial⟩, hw.2⟩
    exact ih (winv_step o hi h1.1) h1.2

end PorepyVerif.C24
