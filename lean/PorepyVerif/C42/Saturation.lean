/-
The coded saturation system over `Fin n → ℚ`, apart from the model.  `Solves y rho s` is the system as the code assembles
it; its solutions are the members `s_j = c (y_j/ρ_j + (1 - y_j) e)` of one family (`Family`).  The closed form `satF`
(`e = 0`, fractions summing to one) and the explicit solution `solF` (`e = (1 - Σy)/P`) are two members, and what the
property says about either is proved for the family.
-/
import Mathlib.Algebra.BigOperators.Fin
import Mathlib.Algebra.BigOperators.Field
import Mathlib.Algebra.Order.BigOperators.Group.Finset
import Mathlib.Algebra.Order.Field.Rat
import Mathlib.Tactic.Ring
import Mathlib.Tactic.Linarith
import Mathlib.Tactic.LinearCombination

namespace PorepyVerif.C42
open Finset

/-- the closed form `s_j = (y_j/ρ_j) / Σ_k y_k/ρ_k` -/
def satF {n} (y rho : Fin n → ℚ) (j : Fin n) : ℚ := y j / rho j / ∑ k, y k / rho k

/-- denominator of the explicit solution: `Σ y/ρ + (n - 1 - Σy) d / P`, with `d = 1 - Σy` and `P = Σ ρ (1 - y)` -/
def solD {n} (y rho : Fin n → ℚ) : ℚ :=
  (∑ k, y k / rho k) + ((n : ℚ) - 1 - ∑ k, y k) * (1 - ∑ k, y k) / ∑ k, rho k * (1 - y k)

/-- the explicit solution of the coded system, also for fractions summing to less than one -/
def solF {n} (y rho : Fin n → ℚ) (j : Fin n) : ℚ :=
  1 / solD y rho * (y j / rho j + (1 - y j) * (1 - ∑ k, y k) / ∑ k, rho k * (1 - y k))

section fin
variable {n : ℕ} (y rho : Fin n → ℚ)

theorem le_one_of_sum_le (hy : ∀ i, 0 ≤ y i) (hs : ∑ i, y i ≤ 1) (i : Fin n) : y i ≤ 1 :=
  (Finset.single_le_sum (fun k _ => hy k) (mem_univ i)).trans hs

theorem sum_one_sub : ∑ j, (1 - y j) = (n : ℚ) - ∑ j, y j := by
  rw [sum_sub_distrib, sum_const, card_univ, Fintype.card_fin, nsmul_eq_mul, mul_one]

/-- on the simplex the other fractions share what `y j0` leaves -/
theorem le_one_sub_of_ne (hy : ∀ i, 0 ≤ y i) (hs : ∑ i, y i = 1) {j0 k : Fin n} (hk : k ≠ j0) : y k ≤ 1 - y j0 := by
  have hsplit := Finset.add_sum_erase univ y (mem_univ j0)
  have : y k ≤ ∑ i ∈ univ.erase j0, y i :=
    Finset.single_le_sum (fun i _ => hy i) (mem_erase.mpr ⟨hk, mem_univ k⟩)
  linarith

theorem eq_zero_of_eq_one (hy : ∀ i, 0 ≤ y i) (hs : ∑ i, y i = 1) {j0 k : Fin n} (h1 : y j0 = 1) (hk : k ≠ j0) :
    y k = 0 :=
  le_antisymm ((le_one_sub_of_ne y hy hs hk).trans_eq (by rw [h1, sub_self])) (hy k)

theorem wsum_pos (hy : ∀ i, 0 ≤ y i) (h0 : 0 < ∑ i, y i) (hr : ∀ i, 0 < rho i) : 0 < ∑ i, y i / rho i := by
  obtain ⟨i, -, hi⟩ : ∃ i ∈ univ, (fun _ => (0 : ℚ)) i < y i := exists_lt_of_sum_lt (by rwa [sum_const_zero])
  exact sum_pos' (fun k _ => div_nonneg (hy k) (hr k).le) ⟨i, mem_univ i, div_pos hi (hr i)⟩

theorem pSum_pos (hn : 2 ≤ n) (hy : ∀ i, 0 ≤ y i) (hs : ∑ i, y i ≤ 1) (hr : ∀ i, 0 < rho i) :
    0 < ∑ j, rho j * (1 - y j) := by
  have hn1 : (1 : ℚ) < n := by exact_mod_cast hn
  obtain ⟨i, -, hi⟩ : ∃ i ∈ univ, (fun _ => (0 : ℚ)) i < 1 - y i :=
    exists_lt_of_sum_lt (by rw [sum_const_zero, sum_one_sub]; exact sub_pos.mpr (hs.trans_lt hn1))
  exact sum_pos' (fun k _ => mul_nonneg (hr k).le (sub_nonneg.mpr (le_one_of_sum_le y hy hs k)))
    ⟨i, mem_univ i, mul_pos (hr i) hi⟩

theorem solD_pos (hn : 2 ≤ n) (hy : ∀ i, 0 ≤ y i) (hs : ∑ i, y i ≤ 1) (h0 : 0 < ∑ i, y i) (hr : ∀ i, 0 < rho i) :
    0 < solD y rho := by
  have hn1 : (1 : ℚ) ≤ n - 1 := le_sub_iff_add_le.mpr (by exact_mod_cast hn)
  exact add_pos_of_pos_of_nonneg (wsum_pos y rho hy h0 hr)
    (div_nonneg (mul_nonneg (sub_nonneg.mpr (hs.trans hn1)) (sub_nonneg.mpr hs)) (pSum_pos y rho hn hy hs hr).le)

theorem pSum_ge (lo : ℚ) (hlo : ∀ i, lo ≤ rho i) (hl0 : 0 ≤ lo) (hy : ∀ i, 0 ≤ y i) (hs : ∑ i, y i ≤ 1) :
    lo * ((n : ℚ) - 1) ≤ ∑ j, rho j * (1 - y j) :=
  calc lo * ((n : ℚ) - 1) ≤ lo * ((n : ℚ) - ∑ k, y k) := mul_le_mul_of_nonneg_left (sub_le_sub_left hs _) hl0
    _ = ∑ j, lo * (1 - y j) := by rw [← mul_sum, sum_one_sub]
    _ ≤ ∑ j, rho j * (1 - y j) :=
      sum_le_sum fun j _ => mul_le_mul_of_nonneg_right (hlo j) (sub_nonneg.mpr (le_one_of_sum_le y hy hs j))

/-- `s` solves the coded system: row `j` of the coded matrix (diagonal zeroed) applied to `s` is `rhs_j` -/
def Solves (s : Fin n → ℚ) : Prop :=
  ∀ j, ∑ k, (if k = j then 0 else rho j * (y j - 1) - rho k * y j) * s k = rho j * (y j - 1)

/-- the coded system in terms of `Σ s` and `Σ ρ s` -/
theorem solves_iff (s : Fin n → ℚ) :
    Solves y rho s ↔ ∀ j, rho j * s j = y j * (∑ k, rho k * s k) + rho j * (1 - y j) * (∑ k, s k - 1) := by
  refine forall_congr' fun j => ?_
  have h : ∀ k, (if k = j then 0 else rho j * (y j - 1) - rho k * y j) * s k
      = (rho j * (y j - 1) * s k - y j * (rho k * s k)) + (if k = j then rho j * s j else 0) := by
    intro k; split
    · subst_vars; ring
    · ring
  simp only [h, sum_add_distrib, sum_sub_distrib, ← mul_sum, sum_ite_eq', mem_univ, if_true]
  exact eq_iff_eq_of_sub_eq_sub (by ring)

variable {y rho} {s : Fin n → ℚ} {c e : ℚ}

theorem rho_mul_member {r : ℚ} (hr : r ≠ 0) (v s c e : ℚ) :
    s = c * (v / r + (1 - v) * e) ↔ r * s = c * (v + r * (1 - v) * e) := by
  rw [← mul_right_inj' hr, mul_left_comm, mul_add, mul_div_cancel₀ _ hr, ← mul_assoc]

theorem sum_member (h : ∀ j, s j = c * (y j / rho j + (1 - y j) * e)) :
    ∑ j, s j = c * (∑ k, y k / rho k + ((n : ℚ) - ∑ k, y k) * e) := by
  simp only [h, ← mul_sum, sum_add_distrib, ← sum_mul, sum_one_sub]

theorem rho_sum_member (h : ∀ j, s j = c * (y j / rho j + (1 - y j) * e)) (hr : ∀ j, rho j ≠ 0)
    (he : (∑ k, rho k * (1 - y k)) * e = 1 - ∑ k, y k) : ∑ j, rho j * s j = c := by
  simp only [fun j => (rho_mul_member (hr j) ..).mp (h j), ← mul_sum, sum_add_distrib, ← sum_mul, he]
  ring

/-- `s` is the member `s_j = c (y_j/ρ_j + (1 - y_j) e)` of the family in which the coded system is solved: `e` and `c`
    are fixed by `P e = 1 - Σy` and `c (Σ y/ρ + (n - 1 - Σy) e) = 1` -/
structure Family (y rho s : Fin n → ℚ) (c e : ℚ) : Prop where
  eq : ∀ j, s j = c * (y j / rho j + (1 - y j) * e)
  rho_ne : ∀ j, rho j ≠ 0
  he : (∑ k, rho k * (1 - y k)) * e = 1 - ∑ k, y k
  hc : c * (∑ k, y k / rho k + ((n : ℚ) - 1 - ∑ k, y k) * e) = 1

namespace Family
variable (F : Family y rho s c e)
include F

theorem rho_mul (j : Fin n) : rho j * s j = c * (y j + rho j * (1 - y j) * e) :=
  (rho_mul_member (F.rho_ne j) ..).mp (F.eq j)

theorem rho_sum : ∑ j, rho j * s j = c := rho_sum_member F.eq F.rho_ne F.he

theorem sum : ∑ j, s j = 1 + c * e := by
  rw [sum_member F.eq]; linear_combination F.hc

theorem solves : Solves y rho s :=
  (solves_iff y rho s).mpr fun j => by rw [F.sum, F.rho_sum]; linear_combination F.rho_mul j

/-- the fractions recovered from `s`, with the exact error term -/
theorem repro (j : Fin n) : rho j * s j / ∑ k, rho k * s k = y j + rho j * (1 - y j) * e := by
  rw [F.rho_sum, F.rho_mul, mul_div_cancel_left₀ _ (left_ne_zero_of_mul_eq_one F.hc)]

theorem sum_err : ∑ j, s j - 1 = (∑ k, rho k * s k) * e := by
  rw [F.sum, F.rho_sum]; ring

/-- the family has one member for each `e` -/
theorem ext {s' : Fin n → ℚ} {c' : ℚ} (F' : Family y rho s' c' e) : s = s' := by
  have hc : c = c' := mul_right_cancel₀ (right_ne_zero_of_mul_eq_one F.hc) (F.hc.trans F'.hc.symm)
  funext j
  rw [F.eq, F'.eq, hc]

end Family

variable (y rho)

/-- every solution of the coded system lies in the family, with `c = Σ ρ s` -/
theorem family_of_solves (hr : ∀ j, rho j ≠ 0) (hP : ∑ k, rho k * (1 - y k) ≠ 0)
    (he : (∑ k, rho k * (1 - y k)) * e = 1 - ∑ k, y k) (s : Fin n → ℚ) (hsol : Solves y rho s) :
    Family y rho s (∑ k, rho k * s k) e := by
  have hE := (solves_iff y rho s).mp hsol
  -- summing the equations over `j` gives `P (Σs - 1) = (1 - Σy) Σρs`
  have hσ : ∑ k, s k - 1 = (∑ k, rho k * s k) * e := by
    have h0 := Finset.sum_congr rfl (fun j (_ : j ∈ univ) => hE j)
    rw [sum_add_distrib, ← sum_mul, ← sum_mul] at h0
    apply mul_left_cancel₀ hP
    linear_combination (-1 : ℚ) * h0 - (∑ k, rho k * s k) * he
  have heq : ∀ j, s j = (∑ k, rho k * s k) * (y j / rho j + (1 - y j) * e) := by
    intro j
    rw [rho_mul_member (hr j), hE j, hσ]
    ring
  refine ⟨heq, hr, he, ?_⟩
  linear_combination (sum_member heq).symm + hσ

/-- the coded system has at most one solution (`P > 0` for at least two phases on the simplex) -/
theorem solves_unique (hr : ∀ j, rho j ≠ 0) (hP : ∑ k, rho k * (1 - y k) ≠ 0) {s s' : Fin n → ℚ}
    (h : Solves y rho s) (h' : Solves y rho s') : s = s' :=
  (family_of_solves y rho hr hP (mul_div_cancel₀ _ hP) s h).ext (family_of_solves y rho hr hP (mul_div_cancel₀ _ hP) s' h')

theorem satF_family (hy : ∀ i, 0 ≤ y i) (hs : ∑ i, y i = 1) (hr : ∀ i, 0 < rho i) :
    Family y rho (satF y rho) (∑ k, y k / rho k)⁻¹ 0 where
  eq j := by rw [satF, mul_zero, add_zero, div_eq_inv_mul]
  rho_ne j := (hr j).ne'
  he := by rw [mul_zero, hs, sub_self]
  hc := by rw [mul_zero, add_zero, inv_mul_cancel₀ (wsum_pos y rho hy (hs ▸ one_pos) hr).ne']

theorem satF_solves (hy : ∀ i, 0 ≤ y i) (hs : ∑ i, y i = 1) (hr : ∀ i, 0 < rho i) : Solves y rho (satF y rho) :=
  (satF_family y rho hy hs hr).solves

theorem rho_satF_sum (hs : ∑ i, y i = 1) (hr : ∀ i, rho i ≠ 0) : ∑ j, rho j * satF y rho j = 1 / ∑ k, y k / rho k :=
  rho_sum_member (e := 0) (fun j => by rw [satF, mul_zero, add_zero, div_eq_inv_mul, one_div]) hr
    (by rw [mul_zero, hs, sub_self])

/-- for at least two phases the closed form is the only solution of the coded system -/
theorem coded_unique (hn : 2 ≤ n) (hy : ∀ i, 0 ≤ y i) (hs : ∑ i, y i = 1) (hr : ∀ i, 0 < rho i) (s : Fin n → ℚ)
    (hsol : Solves y rho s) (j : Fin n) : s j = satF y rho j :=
  congrFun (solves_unique y rho (fun j => (hr j).ne') (pSum_pos y rho hn hy hs.le hr).ne' hsol (satF_solves y rho hy hs hr)) j

section
variable (hn : 2 ≤ n) (hy : ∀ i, 0 ≤ y i) (hs : ∑ i, y i ≤ 1) (h0 : 0 < ∑ i, y i) (hr : ∀ i, 0 < rho i)
include hn hy hs h0 hr

theorem solF_family : Family y rho (solF y rho) (1 / solD y rho) ((1 - ∑ k, y k) / ∑ k, rho k * (1 - y k)) where
  eq j := by rw [solF, mul_div_assoc]
  rho_ne j := (hr j).ne'
  he := mul_div_cancel₀ _ (pSum_pos y rho hn hy hs hr).ne'
  hc := by rw [← mul_div_assoc]; exact one_div_mul_cancel (solD_pos y rho hn hy hs h0 hr).ne'

theorem solF_solves : Solves y rho (solF y rho) := (solF_family y rho hn hy hs h0 hr).solves

theorem solF_repro (j : Fin n) :
    rho j * solF y rho j / ∑ k, rho k * solF y rho k
      = y j + rho j * (1 - y j) * (1 - ∑ k, y k) / ∑ k, rho k * (1 - y k) := by
  rw [(solF_family y rho hn hy hs h0 hr).repro j, mul_div_assoc]

theorem solF_sum_err :
    ∑ j, solF y rho j - 1 = (∑ k, rho k * solF y rho k) * (1 - ∑ k, y k) / ∑ k, rho k * (1 - y k) :=
  (solF_family y rho hn hy hs h0 hr).sum_err.trans (mul_div_assoc ..).symm

end

end fin

/-- saturated phase over `Fin n`: if `y j0 = 1` on the simplex then the closed form is `y` itself (0/1 valued) -/
theorem satF_saturated {n} (y rho : Fin n → ℚ) (hy : ∀ i, 0 ≤ y i) (hs : ∑ i, y i = 1) (hr : ∀ i, 0 < rho i)
    (j0 : Fin n) (h1 : y j0 = 1) (j : Fin n) : satF y rho j = if j = j0 then 1 else 0 := by
  have hz : ∀ k, k ≠ j0 → satF y rho k = 0 := fun k hk => by
    rw [satF, eq_zero_of_eq_one y hy hs h1 hk, zero_div, zero_div]
  split
  · -- the other entries vanish and all of them sum to one
    subst_vars
    rw [← sum_eq_single j (fun k _ hk => hz k hk) (fun h => absurd (mem_univ j) h),
      (satF_family y rho hy hs hr).sum, mul_zero, add_zero]
  · exact hz j ‹_›

theorem indicator_err_le {n} (y : Fin n → ℚ) (eps : ℚ) (hy : ∀ i, 0 ≤ y i) (hs : ∑ i, y i = 1)
    (j0 : Fin n) (hj0 : 1 - eps ≤ y j0) (k : Fin n) :
    |(if 1 - eps ≤ y k then (1 : ℚ) else 0) - y k| ≤ eps := by
  split
  · rename_i h
    rw [abs_of_nonneg (sub_nonneg.mpr (le_one_of_sum_le y hy hs.le k))]
    linarith
  · rename_i h
    have hk : k ≠ j0 := fun e => h (e ▸ hj0)
    rw [zero_sub, abs_neg, abs_of_nonneg (hy k)]
    linarith [le_one_sub_of_ne y hy hs hk]

end PorepyVerif.C42
