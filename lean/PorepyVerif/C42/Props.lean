/-
C42 — property theorems (statements depend on Model.lean only; the definitions of Saturation.lean, ChainRule.lean and
Lemmas.lean serve the proofs).

Property: for any phase fractions on the simplex and positive densities, computed saturations are non-negative, sum to
one, and reproduce the phase fractions as density-weighted saturation ratios.  The chain rule for normalised fractions
equals the derivative of the composed function, and row normalisation yields rows summing to one.

Hypotheses (Model.lean): `Admissible y rho` = fractions ≥ 0 with sum 1, densities > 0, equally many of both;
`Margins y eps` = the input keeps clear of the code's `eps` thresholds (a phase is absent or present by more than `eps`,
saturated or below `1 - eps`; 0 < eps < 1/2).  All statements are for every number of phases and every input.
-/
import PorepyVerif.C42.Lemmas

namespace PorepyVerif.C42
open Finset

theorem sat_nonneg {y rho : List ℚ} (h : Admissible y rho) : ∀ s ∈ sat y rho, 0 ≤ s := (sat_nonneg_sum h).1

theorem sat_sum_one {y rho : List ℚ} (h : Admissible y rho) : (sat y rho).sum = 1 := (sat_nonneg_sum h).2

/-- saturations reproduce the phase fractions: `y_j = ρ_j s_j / Σ_k ρ_k s_k` -/
theorem sat_reproduces_fractions {y rho : List ℚ} (h : Admissible y rho) : fracOfSat (sat y rho) rho = y := by
  obtain ⟨n, fy, fr, rfl, rfl, hy, hs, hr⟩ := h.ofFn
  rw [sat_ofFn, fracOfSat_ofFn, List.ofFn_inj]
  funext j
  rw [(satF_family fy fr hy hs hr).repro j, mul_zero, add_zero]

/-- the closed form solves the linear system `mat · s = rhs` with `mat`, `rhs` exactly as `_compute_saturations`
    assembles them (rows `rho_j (y_j - 1) - rho_k y_j`, zero diagonal; right-hand side `rho_j (y_j - 1)`), any number of phases -/
theorem sat_solves_coded_system {y rho : List ℚ} (h : Admissible y rho) :
    matVec (codedMat y rho) (sat y rho) = codedRhs y rho := by
  obtain ⟨n, fy, fr, rfl, rfl, hy, hs, hr⟩ := h.ofFn
  rw [sat_ofFn, coded_system_ofFn]
  exact satF_solves fy fr hy hs hr

/-- … and for at least two phases that system has no other solution, so `np.linalg.solve` can only return the closed form -/
theorem coded_system_unique {y rho : List ℚ} (h : Admissible y rho) (h2 : 2 ≤ y.length)
    (s : List ℚ) (hlen : s.length = y.length) (hsol : matVec (codedMat y rho) s = codedRhs y rho) :
    s = sat y rho := by
  obtain ⟨n, fy, fr, rfl, rfl, hy, hs, hr⟩ := h.ofFn
  obtain ⟨fs, rfl⟩ := exists_ofFn s (hlen.trans (List.length_ofFn))
  rw [coded_system_ofFn] at hsol
  rw [sat_ofFn, List.ofFn_inj]
  exact funext (coded_unique fy fr (by simpa using h2) hy hs hr fs hsol)

/-- the 2-phase formula as coded, `s_0 = 1 / (1 + y_1/(1 - y_1) · ρ_0/ρ_1)`, `s_1 = 1 - s_0`, is the closed form -/
theorem two_phase_as_coded (y0 y1 r0 r1 : ℚ) (h : Admissible [y0, y1] [r0, r1]) (hy1 : y1 ≠ 1) :
    twoPhase y1 r0 r1 = sat [y0, y1] [r0, r1] := by
  obtain ⟨_, hy, hs, hr⟩ := h
  rw [List.sum_cons, List.sum_cons, List.sum_nil, add_zero] at hs
  -- `y0 = 0` would make `y1 = 1`
  exact twoPhase_eq y0 y1 r0 r1 ((hy y0 List.mem_cons_self).lt_of_ne' fun h0 => hy1 (by rwa [h0, zero_add] at hs))
    (hy y1 (List.mem_cons_of_mem _ List.mem_cons_self)) hs (hr r0 List.mem_cons_self)
    (hr r1 (List.mem_cons_of_mem _ List.mem_cons_self))

/-- saturated branch: if some `y_j = 1` (hence all others vanish) then `s[saturated] = 1`, zeros elsewhere, is the closed form -/
theorem saturated_branch {y rho : List ℚ} (h : Admissible y rho) (h1 : (1 : ℚ) ∈ y) (eps : ℚ)
    (he0 : 0 ≤ eps) (he1 : eps < 1) : indicator y eps = sat y rho := by
  obtain ⟨n, fy, fr, rfl, rfl, hy, hs, hr⟩ := h.ofFn
  obtain ⟨j0, hj0⟩ := (List.mem_ofFn' _ _).mp h1
  rw [sat_ofFn, indicator_ofFn, List.ofFn_inj]
  funext j
  rw [satF_saturated fy fr hy hs hr j0 hj0 j]
  by_cases hj : j = j0
  · rw [hj, hj0, if_pos (sub_le_self 1 he0), if_pos rfl]
  · rw [eq_zero_of_eq_one fy hy hs hj0 hj, if_neg (not_le.mpr (sub_pos.mpr he1)), if_neg hj]

/-- vanished branch: dropping the phases with `y_j = 0`, computing the rest and scattering back (zeros for the dropped
    phases) is the closed form of the full problem -/
theorem vanished_branch (y rho : List ℚ) (eps : ℚ) (hl : y.length = rho.length) (he : 0 ≤ eps)
    (hv : ∀ v ∈ y, v = 0 ∨ eps < v) :
    scatter (notVanished y eps) (sat (select (notVanished y eps) y) (select (notVanished y eps) rho)) = sat y rho := by
  unfold sat
  rw [wsum_select he y rho hv]
  exact scatter_select he _ y rho hl hv

/-- the explicit solution is the closed form whenever the fractions sum to one -/
theorem codedSolution_eq_sat (y rho : List ℚ) (h : y.sum = 1) : codedSolution y rho = sat y rho := by
  simp only [codedSolution, sat, quot, h, sub_self, mul_zero, zero_div, add_zero]
  apply List.map_congr_left
  intro x _
  ring

/-- `_compute_saturations` (all branches: 1 phase, saturated, 2-phase formula, ≥ 3 phases with masking) raises nothing and
    returns the closed form for every admissible input that respects the `eps` margins -/
theorem satCell_eq_closed {y rho : List ℚ} {eps : ℚ} (h : Admissible y rho) (hm : Margins y eps) :
    satCell y rho eps = .ok (sat y rho) := by
  have hle := nSat_le_one y eps hm.eps_small h.nonneg h.sum_one
  unfold satCell
  rw [if_neg (not_not.mpr h.len)]
  split
  · -- one phase: the only saturation is the sum of all of them
    rename_i h1
    obtain ⟨v, rfl⟩ := List.length_eq_one_iff.mp h1
    obtain ⟨r, rfl⟩ := List.length_eq_one_iff.mp (h.len ▸ h1)
    have hsum : v / r / wsum [v] [r] + 0 = 1 := sat_sum_one h
    rw [add_zero] at hsum
    exact congrArg (fun s => Except.ok [s]) hsum.symm
  · rw [if_neg (not_lt.mpr hle)]
    split
    · -- a saturated phase: by the margin, `1 - eps ≤ v` forces `v = 1`
      rename_i hpos
      obtain ⟨v, hv, hv1⟩ := List.countP_pos_iff.mp hpos
      have : v = 1 := (hm.saturated v hv).resolve_right (not_lt.mpr (of_decide_eq_true hv1))
      rw [saturated_branch h (this ▸ hv) eps hm.eps_pos.le (hm.eps_small.trans (by norm_num))]
    · rename_i h1 hpos
      split
      · -- two phases, formula as coded
        rename_i y0 y1 r0 r1
        have : y1 ≠ 1 := by
          rintro rfl
          exact hpos (List.countP_pos_iff.mpr ⟨1, by simp, decide_eq_true (sub_le_self 1 hm.eps_pos.le)⟩)
        rw [two_phase_as_coded y0 y1 r0 r1 h this]
      · -- more phases: vanished phases dropped, system solved, scattered back
        have hsum := (sum_select hm.eps_pos.le y hm.vanished).trans h.sum_one
        simp only [codedSolution_eq_sat _ _ hsum, vanished_branch y rho eps h.len hm.eps_pos.le hm.vanished]

/-- the parallel loop over cells -/
theorem satCells_eq_closed {ys rhos : List (List ℚ)} {eps : ℚ}
    (h : List.Forall₂ (fun y rho => Admissible y rho ∧ Margins y eps) ys rhos) :
    satCells ys rhos eps = .ok (List.zipWith sat ys rhos) := by
  induction h with
  | nil => rfl
  | cons hd _ ih => simp only [satCells, satCell_eq_closed hd.1 hd.2, ih, List.zipWith_cons_cons]

/-- the whole public function on vectorised input: no error is raised and every cell gets the closed form -/
theorem computeSaturations_eq_closed {ys rhos : List (List ℚ)} {eps : ℚ}
    (h : List.Forall₂ (fun y rho => Admissible y rho ∧ Margins y eps) ys rhos) :
    computeSaturations ys rhos eps = .ok (List.zipWith sat ys rhos) := by
  unfold computeSaturations
  rw [if_neg (not_not.mpr (shapes_agree h)), input_check_passes h, satCells_eq_closed h]
  simp [output_check_passes h]

/-- Headline: what `compute_saturations` returns for admissible input is thermodynamically consistent in every cell:
    non-negative, summing to one, and reproducing the phase fractions `y_j = ρ_j s_j / Σ_k ρ_k s_k`. -/
theorem computeSaturations_consistent {ys rhos : List (List ℚ)} {eps : ℚ}
    (h : List.Forall₂ (fun y rho => Admissible y rho ∧ Margins y eps) ys rhos) :
    ∃ ss, computeSaturations ys rhos eps = .ok ss ∧
      List.Forall₂ (fun (p : List ℚ × List ℚ) s => (∀ v ∈ s, 0 ≤ v) ∧ s.sum = 1 ∧ fracOfSat s p.2 = p.1)
        (List.zip ys rhos) ss := by
  refine ⟨_, computeSaturations_eq_closed h, ?_⟩
  induction h with
  | nil => exact .nil
  | cons hd _ ih =>
    exact .cons ⟨sat_nonneg hd.1, sat_sum_one hd.1, sat_reproduces_fractions hd.1⟩ ih

/-! ### the eps-snapping regime (inputs within `eps` of a vanished / saturated state): quantitative statements

`Margins` is not needed here.  Phases with `y_j ≤ eps` are dropped by the code; the fractions `y` handed to the solve then sum
to `1 - d` with the defect `0 ≤ d ≤ (#dropped)·eps`.  `codedSolution` is the exact solution of the system the code assembles. -/

/-- `codedSolution` solves the system exactly as assembled by the code, also for fractions summing to less than one -/
theorem codedSolution_solves {n : ℕ} (y rho : Fin n → ℚ) (hn : 2 ≤ n) (hy : ∀ i, 0 ≤ y i) (hs : ∑ i, y i ≤ 1)
    (h0 : 0 < ∑ i, y i) (hr : ∀ i, 0 < rho i) :
    matVec (codedMat (List.ofFn y) (List.ofFn rho)) (codedSolution (List.ofFn y) (List.ofFn rho))
      = codedRhs (List.ofFn y) (List.ofFn rho) := by
  rw [codedSolution_ofFn, coded_system_ofFn]
  exact solF_solves y rho hn hy hs h0 hr

/-- reproduced fractions of the present phases, exactly: `ρ_j s_j / Σ ρ s = y_j + ρ_j (1 - y_j) d / P`,
    `d = 1 - Σy` the dropped mass, `P = Σ_k ρ_k (1 - y_k)` -/
theorem snap_reproduction {n : ℕ} (y rho : Fin n → ℚ) (hn : 2 ≤ n) (hy : ∀ i, 0 ≤ y i) (hs : ∑ i, y i ≤ 1)
    (h0 : 0 < ∑ i, y i) (hr : ∀ i, 0 < rho i) :
    fracOfSat (codedSolution (List.ofFn y) (List.ofFn rho)) (List.ofFn rho)
      = List.ofFn fun j => y j + rho j * (1 - y j) * (1 - ∑ k, y k) / ∑ k, rho k * (1 - y k) := by
  rw [codedSolution_ofFn, fracOfSat_ofFn, List.ofFn_inj]
  exact funext (solF_repro y rho hn hy hs h0 hr)

/-- … and that error term is between `0` and `(ρ_max/ρ_min) · d / (n - 1)`: the explicit constant `C` of the
    eps-snapping regime is the density ratio (with `d ≤ (#dropped) · eps`, see `snap_defect_le`) -/
theorem snap_reproduction_error_le {n : ℕ} (y rho : Fin n → ℚ) (lo hi : ℚ) (hlo : ∀ i, lo ≤ rho i)
    (hhi : ∀ i, rho i ≤ hi) (hl0 : 0 < lo) (hn : 2 ≤ n) (hy : ∀ i, 0 ≤ y i) (hs : ∑ i, y i ≤ 1) (j : Fin n) :
    0 ≤ rho j * (1 - y j) * (1 - ∑ k, y k) / ∑ k, rho k * (1 - y k) ∧
    rho j * (1 - y j) * (1 - ∑ k, y k) / ∑ k, rho k * (1 - y k) ≤ hi / lo * ((1 - ∑ k, y k) / ((n : ℚ) - 1)) := by
  have hr : ∀ i, 0 < rho i := fun i => hl0.trans_le (hlo i)
  have hd : 0 ≤ 1 - ∑ k, y k := sub_nonneg.mpr hs
  have hnum0 : 0 ≤ rho j * (1 - y j) := mul_nonneg (hr j).le (sub_nonneg.mpr (le_one_of_sum_le y hy hs j))
  refine ⟨div_nonneg (mul_nonneg hnum0 hd) (pSum_pos y rho hn hy hs hr).le, ?_⟩
  -- the numerator is at most `hi · d`, and `P ≥ lo (n - 1)`
  have hnum : rho j * (1 - y j) ≤ hi := (mul_le_of_le_one_right (hr j).le (sub_le_self 1 (hy j))).trans (hhi j)
  have hn1 : (0 : ℚ) < (n : ℚ) - 1 := sub_pos.mpr (by exact_mod_cast hn)
  rw [div_mul_div_comm]
  exact div_le_div₀ (mul_nonneg ((hr j).le.trans (hhi j)) hd) (mul_le_mul_of_nonneg_right hnum hd) (mul_pos hl0 hn1)
    (pSum_ge y rho lo hlo hl0.le hy hs)

/-- the saturations returned by the solve then do NOT sum to one exactly: `Σ s - 1 = (Σ ρ s) · d / P` (zero iff `d = 0`) -/
theorem snap_sum_error {n : ℕ} (y rho : Fin n → ℚ) (hn : 2 ≤ n) (hy : ∀ i, 0 ≤ y i) (hs : ∑ i, y i ≤ 1)
    (h0 : 0 < ∑ i, y i) (hr : ∀ i, 0 < rho i) :
    (codedSolution (List.ofFn y) (List.ofFn rho)).sum - 1
      = dot (List.ofFn rho) (codedSolution (List.ofFn y) (List.ofFn rho)) * (1 - ∑ k, y k) / ∑ k, rho k * (1 - y k) := by
  rw [codedSolution_ofFn, dot_ofFn, List.sum_ofFn]
  exact solF_sum_err y rho hn hy hs h0 hr

/-- the dropped mass is at most `eps` per dropped phase -/
theorem snap_defect_le (y : List ℚ) (eps : ℚ) :
    y.sum - (select (notVanished y eps) y).sum ≤ (y.countP (fun v => decide (¬ eps < v)) : ℚ) * eps := by
  induction y with
  | nil => simp [notVanished, select]
  | cons v y ih =>
    rw [notVanished_cons, List.countP_cons, List.sum_cons]
    by_cases h : eps < v
    · simp only [h, decide_true, select, List.sum_cons, not_true_eq_false, decide_false, Bool.false_eq_true, if_false,
        add_zero, add_sub_add_left_eq_sub]
      exact ih
    · simp only [h, decide_false, select, not_false_eq_true, decide_true, if_true, Nat.cast_add, Nat.cast_one]
      linarith [not_lt.mp h]

/-- snapping to a saturated phase (`y_j ≥ 1 - eps` ⇒ `s = e_j`, which sums to one and reproduces itself) changes every
    fraction by at most `eps`, independently of the densities -/
theorem snap_saturated_error_le {n : ℕ} (y : Fin n → ℚ) (eps : ℚ) (hy : ∀ i, 0 ≤ y i) (hs : ∑ i, y i = 1)
    (j0 : Fin n) (hj0 : 1 - eps ≤ y j0) :
    ∀ p ∈ List.zip (indicator (List.ofFn y) eps) (List.ofFn y), |p.1 - p.2| ≤ eps := by
  rw [indicator_ofFn, List.zip, zipWith_ofFn, List.forall_mem_ofFn_iff]
  intro k
  exact indicator_err_le y eps hy hs j0 hj0 k

/-- the coded chain rule in closed form: leading derivatives pass unchanged, the last `n` entries become
    `g_j / S − (Σ_i g_i x_i) / S²` with `S = Σ x` -/
theorem chainrule_closed_form {n : ℕ} (pre : List ℚ) (x g : Fin n → ℚ) :
    chainrule (pre ++ List.ofFn g) (List.ofFn x) =
      .ok (pre ++ List.ofFn fun j => g j / (∑ k, x k) - (∑ i, g i * x i) / ((∑ k, x k) * (∑ k, x k))) := by
  unfold chainrule
  rw [if_neg (by simp), chainrule1_ofFn]
  rw [show chainTail x g = _ from funext (chainTail_closed x g)]

/-- the Jacobian `dxn` exactly as assembled by the code is the Jacobian of `x ↦ x / Σx`: entry `[i][j]` is the derivative
    of the `i`-th normalised fraction along the `j`-th coordinate direction (real extension of the rational map) -/
theorem dxn_is_jacobian {n : ℕ} (x : Fin n → ℚ) (hS : ∑ k, x k ≠ 0) (i j : Fin n) :
    HasDerivAt (fun t : ℝ => ((x i : ℝ) + if i = j then t else 0) / ((∑ k, (x k : ℝ)) + t))
      ((((dxn (List.ofFn x)).getD i []).getD j 0 : ℚ) : ℝ) 0 := by
  rw [dxn_getD]
  exact hasDerivAt_pi.mp (normLine_hasDerivAt x hS j) i

/-- exact rational difference quotient of the normalised fractions = coded Jacobian entry × `S / (S + h)`
    (so a finite difference with step `h` has relative error exactly `|h / (S + h)|`) -/
theorem dxn_difference_quotient {n : ℕ} (x : Fin n → ℚ) (i j : Fin n) (h : ℚ) (hS : ∑ k, x k ≠ 0)
    (hSh : ∑ k, x k + h ≠ 0) :
    (x i + if i = j then h else 0) / (∑ k, x k + h) - x i / ∑ k, x k
      = h * (((dxn (List.ofFn x)).getD i []).getD j 0 * ((∑ k, x k) / (∑ k, x k + h))) := by
  rw [dxn_getD]
  exact dxnF_difference_quotient x i j h hS hSh

/-- **Chain rule equals the derivative of the composed function.**  For ANY real function `f` of the normalised
    fractions, differentiable at `x / Σx` with partial derivatives `g` there, the derivative of `x ↦ f (x / Σx)` with
    respect to `x_j` is entry `j` of the block that `chainrule_fractional_derivatives` returns. -/
theorem chainrule_is_derivative {n : ℕ} (pre : List ℚ) (x g : Fin n → ℚ) (j : Fin n) (hS : ∑ k, x k ≠ 0)
    (f : (Fin n → ℝ) → ℝ) (f' : (Fin n → ℝ) →L[ℝ] ℝ)
    (hf : HasFDerivAt f f' (fun i => (x i : ℝ) / ∑ k, (x k : ℝ)))
    (hg : ∀ i, f' (Pi.single i 1) = (g i : ℝ)) :
    HasDerivAt (fun t : ℝ => f (fun i => ((x i : ℝ) + if i = j then t else 0) / ((∑ k, (x k : ℝ)) + t)))
      (((chainrule1 (pre ++ List.ofFn g) (List.ofFn x)).getD (pre.length + j) 0 : ℚ) : ℝ) 0 := by
  rw [chainrule1_ofFn, List.getD_append_right _ _ _ _ (Nat.le_add_right _ _), Nat.add_sub_cancel_left, getD_ofFn]
  exact chainTail_is_derivative x g j hS f f' hf hg

/-- `normalize_rows`: every row with non-zero sum is mapped to a row summing to one -/
theorem normalize_rows_sum_one (X : List (List ℚ)) (h : ∀ r ∈ X, r.sum ≠ 0) :
    ∀ r ∈ normalizeRows X, r.sum = 1 := by
  intro r hr
  obtain ⟨r0, hr0, rfl⟩ := List.mem_map.mp hr
  rw [sum_map_div, div_self (h r0 hr0)]

/-- `safe_sum` is the sum (and `0` on the empty sequence) -/
theorem safeSum_eq_sum (l : List ℚ) : safeSum l = l.sum := by
  cases l with
  | nil => rfl
  | cons a l => simp [safeSum, foldl_add_eq]

/-! ### non-vacuity: the hypotheses are satisfiable, the statements are about non-trivial data -/

/-- the hypotheses are decidable, field by field; on concrete data the kernel evaluates them -/
instance Admissible.decidable (y rho : List ℚ) : Decidable (Admissible y rho) :=
  decidable_of_iff (y.length = rho.length ∧ (∀ v ∈ y, 0 ≤ v) ∧ y.sum = 1 ∧ ∀ r ∈ rho, 0 < r)
    ⟨fun ⟨a, b, c, d⟩ => ⟨a, b, c, d⟩, fun ⟨a, b, c, d⟩ => ⟨a, b, c, d⟩⟩

instance Margins.decidable (y : List ℚ) (eps : ℚ) : Decidable (Margins y eps) :=
  decidable_of_iff (0 < eps ∧ eps < 1 / 2 ∧ (∀ v ∈ y, v = 0 ∨ eps < v) ∧ ∀ v ∈ y, v = 1 ∨ v < 1 - eps)
    ⟨fun ⟨a, b, c, d⟩ => ⟨a, b, c, d⟩, fun ⟨a, b, c, d⟩ => ⟨a, b, c, d⟩⟩

example : Admissible [1/2, 3/10, 1/5] [1, 2, 10] := by decide +kernel
example : Margins [1/2, 3/10, 1/5] (1 / 10 ^ 10) := by decide +kernel
example : Admissible [0, 1/2, 1/2] [4, 5, 40] ∧ Margins [0, 1/2, 1/2] (1 / 100) := by decide +kernel
example : Admissible [1, 0, 0] [3, 4, 30] ∧ Margins [1, 0, 0] (1 / 100) := by decide +kernel
example : Admissible [1/5, 4/5] [2, 3] ∧ (4 / 5 : ℚ) ≠ 1 := by decide +kernel
-- all branches on concrete data (3 phases / vanished phase / saturated phase / 2 phases)
example : computeSaturations [[1/2, 3/10, 1/5], [0, 1/2, 1/2], [1, 0, 0]] [[1, 2, 10], [4, 5, 40], [3, 4, 30]] (1 / 100)
    = .ok [[50/67, 15/67, 2/67], [0, 8/9, 1/9], [1, 0, 0]] := by decide +kernel
example : computeSaturations [[1/5, 4/5]] [[2, 3]] (1 / 100) = .ok [[3/11, 8/11]] := by decide +kernel
example : matVec (codedMat [1/2, 3/10, 1/5] [1, 2, 10]) [50/67, 15/67, 2/67] = codedRhs [1/2, 3/10, 1/5] [1, 2, 10] := by
  decide +kernel
example : (2 : ℕ) ≤ [1/2, 3/10, 1/5].length := by decide
example : chainrule [1, 2, 3, 4] [1/5, 3/10, 3/5] = .ok [1, -150/121, -40/121, 70/121] := by decide +kernel
example : ∑ k : Fin 3, (![1/5, 3/10, 3/5] : Fin 3 → ℚ) k ≠ 0 := by decide +kernel
example : normalizeRows [[1, 2, 3], [1, -1, 5]] = [[1/6, 1/3, 1/2], [1/5, -1/5, 1]] := by decide +kernel
example : ∀ r ∈ [[(1 : ℚ), 2, 3], [1, -1, 5]], r.sum ≠ 0 := by decide +kernel

end PorepyVerif.C42
