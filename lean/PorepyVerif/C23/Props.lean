/-
C23 — property theorems.

Property: refining 1D or triangle grids, remeshing 1D grids, and extruding 0D/1D/2D grids produce
grids whose total measure equals the original (times the extrusion height), whose children lie
inside their parent cell, and whose returned cell maps assign each new cell to exactly one parent.
Structured refinement maps every fine cell to the unique coarse cell that contains it.
-/
import PorepyVerif.C23.Refine1d
import PorepyVerif.C23.Triangle
import PorepyVerif.C23.Sweep
import PorepyVerif.C23.Lemmas

namespace PorepyVerif.C23

/-- REFINEMENT: the loop of `refine_grid_1d` (node counter, old→new node map, first-occurrence
    test) produces, for every old cell `(start, end)`, a chain of `r+1` new node indices whose
    stored coordinates are exactly `start*(1-j/r) + end*(j/r)`, `j = 0..r` — for every node array,
    every cell list (any order, shared or split nodes) and every ratio `r ≥ 1`. -/
theorem refine1d_refines_spec (nodes : List V3) (cells : List (Nat × Nat)) (r : Nat) (hr : 1 ≤ r) :
    List.Forall₂ (ChainOK nodes r (refine1d nodes cells r).1) cells (refine1d nodes cells r).2 :=
  (refineAll_spec nodes r hr cells ⟨[], []⟩ (by intro k i h; simp [lookup] at h)).2

example : refine1d [⟨0, 0, 0⟩, ⟨1, 2, 0⟩, ⟨3, 2, 4⟩] [(1, 2), (0, 1)] 2
    = ([⟨1, 2, 0⟩, ⟨2, 2, 2⟩, ⟨3, 2, 4⟩, ⟨0, 0, 0⟩, ⟨1 / 2, 1, 0⟩], [[0, 1, 2], [3, 4, 0]]) := by
  decide +kernel

/-- Each child of a refined 1-d cell is the parent's edge vector scaled by `1/r`
    (so children are parallel to the parent and have `1/r` of its length). -/
theorem refine1d_child_vector (a b : V3) (r k : Nat) :
    V3.sub (lerp a b (((k + 1 : Nat) : Rat) / (r : Rat))) (lerp a b ((k : Rat) / (r : Rat)))
      = V3.smul (1 / (r : Rat)) (V3.sub b a) := by
  rw [lerp_sub, ← sub_div, Nat.cast_succ, add_sub_cancel_left]

/-- MEASURE (one cell): the Euclidean lengths of the `r` children add up to the length of the parent. -/
theorem refine1d_measure (a b : V3) (r : Nat) (hr : 1 ≤ r) :
    ((List.range r).map (fun (k : Nat) =>
      len (V3.sub (lerp a b (((k + 1 : Nat) : Rat) / (r : Rat))) (lerp a b ((k : Rat) / (r : Rat)))))).sum
      = len (V3.sub b a) := by
  have hr' : (r : ℝ) ≠ 0 := Nat.cast_ne_zero.mpr (by omega)
  have hc : ∀ k : Nat,
      len (V3.sub (lerp a b (((k + 1 : Nat) : Rat) / (r : Rat))) (lerp a b ((k : Rat) / (r : Rat))))
        = ((1 / (r : Rat) : Rat) : ℝ) * len (V3.sub b a) := fun k => by
    rw [refine1d_child_vector a b r k]
    exact len_smul _ (by positivity) _
  simp only [hc]
  rw [List.map_const', List.sum_replicate, List.length_range, nsmul_eq_mul, Rat.cast_div, Rat.cast_one,
    Rat.cast_natCast, ← mul_assoc, mul_one_div_cancel hr', one_mul]

/-- MEASURE (whole grid): total length of all children = total length of all parents. -/
theorem refine1d_total_measure (ends : List (V3 × V3)) (r : Nat) (hr : 1 ≤ r) :
    (ends.map (fun ab => ((List.range r).map (fun (k : Nat) =>
      len (V3.sub (lerp ab.1 ab.2 (((k + 1 : Nat) : Rat) / (r : Rat)))
        (lerp ab.1 ab.2 ((k : Rat) / (r : Rat)))))).sum)).sum
      = (ends.map (fun ab => len (V3.sub ab.2 ab.1))).sum := by
  congr 1
  apply List.map_congr_left
  intro ab _
  exact refine1d_measure ab.1 ab.2 r hr

example : ((List.range 3).map (fun (k : Nat) =>
    len (V3.sub (lerp ⟨0, 0, 0⟩ ⟨3, 4, 0⟩ (((k + 1 : Nat) : Rat) / ((3 : Nat) : Rat)))
      (lerp ⟨0, 0, 0⟩ ⟨3, 4, 0⟩ ((k : Rat) / ((3 : Nat) : Rat)))))).sum
    = len (V3.sub ⟨3, 4, 0⟩ ⟨0, 0, 0⟩) := refine1d_measure _ _ 3 (by decide)

/-- every chain of the refined grid gives `r` fine cells -/
theorem refine1d_chainCells_length (nodes : List V3) (cells : List (Nat × Nat)) (r : Nat) (hr : 1 ≤ r) :
    ∀ ch ∈ (refine1d nodes cells r).2, (chainCells ch).length = r := by
  intro ch hch
  obtain ⟨_, _, hok⟩ := forall2_right_mem (refine1d_refines_spec nodes cells r hr) ch hch
  rw [chainCells_length, (chainOK_get hok).1, Nat.add_sub_cancel]

/-- NESTING / PARENT MAP: in the grid produced by the modelled loop, fine cell number `c*r + k`
    (`k < r`) is the segment from `a*(1-k/r)+b*(k/r)` to `a*(1-(k+1)/r)+b*((k+1)/r)` of old cell
    `c = (a, b)`: both parameters lie in `[0, 1]`, i.e. the child lies inside its parent
    `parent1d r i = i / r`, and exactly the `r` cells `c*r … c*r+r-1` have parent `c`. -/
theorem refine1d_parent_unique (nodes : List V3) (cells : List (Nat × Nat)) (r : Nat) (hr : 1 ≤ r)
    (c k : Nat) (cell : Nat × Nat) (hc : cells[c]? = some cell) (hk : k < r) :
    ∃ p q, (fineCells (refine1d nodes cells r).2)[c * r + k]? = some (p, q) ∧
      (refine1d nodes cells r).1[p]?
        = some (lerp (nodeAt nodes cell.1) (nodeAt nodes cell.2) ((k : Rat) / (r : Rat))) ∧
      (refine1d nodes cells r).1[q]?
        = some (lerp (nodeAt nodes cell.1) (nodeAt nodes cell.2) (((k + 1 : Nat) : Rat) / (r : Rat))) ∧
      parent1d r (c * r + k) = c ∧
      (0 : Rat) ≤ (k : Rat) / (r : Rat) ∧ ((k + 1 : Nat) : Rat) / (r : Rat) ≤ 1 := by
  have hF := refine1d_refines_spec nodes cells r hr
  obtain ⟨chain, hchain, hok⟩ := forall2_get hF c cell hc
  obtain ⟨hlen, hget⟩ := chainOK_get hok
  obtain ⟨p, hp, hxp⟩ := hget k (by omega)
  obtain ⟨q, hq, hxq⟩ := hget (k + 1) (by omega)
  refine ⟨p, q, ?_, hxp, hxq, ?_, ?_, ?_⟩
  · rw [fineCells, flatten_get_blocks _ (refine1d_chainCells_length nodes cells r hr) c k hk, hchain,
      Option.bind_some]
    exact chainCells_get chain k p q hp hq
  · rw [parent1d, Nat.add_comm]
    exact (add_mul_div_mod c hk).1
  · exact div_nonneg (Nat.cast_nonneg k) (Nat.cast_nonneg r)
  · exact (div_le_one (Nat.cast_pos.mpr hr)).mpr (Nat.cast_le.mpr hk)

/-- the parent map `i ↦ i / r` has fibres of exactly `r` consecutive cells -/
theorem refine1d_parent_fibre (r i c : Nat) (hr : 1 ≤ r) :
    parent1d r i = c ↔ c * r ≤ i ∧ i < (c + 1) * r :=
  div_eq_iff_block r i c hr

/-- number of fine cells = `r` × number of coarse cells -/
theorem refine1d_num_cells (nodes : List V3) (cells : List (Nat × Nat)) (r : Nat) (hr : 1 ≤ r) :
    (fineCells (refine1d nodes cells r).2).length = cells.length * r := by
  rw [fineCells, flatten_length_blocks _ (refine1d_chainCells_length nodes cells r hr),
    (refine1d_refines_spec nodes cells r hr).length_eq]

/-- `remesh_1d` nodes: node `k` is `end*(1-k/(n-1)) + start*(k/(n-1))`; the first node is the old
    end point, the last the old start point, and the `n-1` equal cells add up to the old segment. -/
theorem remesh1d_measure (s e : V3) (n : Nat) (hn : 2 ≤ n) :
    (remeshNodes s e n).length = n ∧
    (remeshNodes s e n)[0]? = some e ∧
    (remeshNodes s e n)[n - 1]? = some s ∧
    (∀ k, k < n → (remeshNodes s e n)[k]? = some (lerp e s ((k : Rat) / ((n - 1 : Nat) : Rat)))) ∧
    ((List.range (n - 1)).map (fun (k : Nat) =>
      len (V3.sub (lerp e s (((k + 1 : Nat) : Rat) / ((n - 1 : Nat) : Rat)))
        (lerp e s ((k : Rat) / ((n - 1 : Nat) : Rat)))))).sum = len (V3.sub s e) := by
  have hget : ∀ k, k < n →
      (remeshNodes s e n)[k]? = some (lerp e s ((k : Rat) / ((n - 1 : Nat) : Rat))) :=
    fun k hk => map_range_get _ hk
  have hne : ((n - 1 : Nat) : Rat) ≠ 0 := Nat.cast_ne_zero.mpr (by omega)
  refine ⟨(List.length_map _).trans List.length_range, ?_, ?_, hget,
    refine1d_measure e s (n - 1) (by omega)⟩
  · rw [hget 0 (by omega), Nat.cast_zero, zero_div, lerp_zero]
  · rw [hget (n - 1) (by omega), div_self hne, lerp_one]

example : remeshNodes ⟨0, 0, 0⟩ ⟨3, 0, 0⟩ 4 = [⟨3, 0, 0⟩, ⟨2, 0, 0⟩, ⟨1, 0, 0⟩, ⟨0, 0, 0⟩] := by
  decide +kernel

/-- INDEX CONSTRUCTION: for a cell whose stored faces `(f0, f1, f2)` are the three edges
    `{p,q}, {q,s}, {s,p}` of a triangle (faces stored in either node order — every triangle's face
    list has this form for a suitable naming of its corners), the four index triples built by
    `refine_triangle_grid` point at: each corner with the midpoints of its two edges, and the three
    midpoints. -/
theorem tri_children_coords (nodes : List P2) (fn : List (Nat × Nat)) (f0 f1 f2 p q s : Nat)
    (h0 : f0 < fn.length) (h1 : f1 < fn.length) (h2 : f2 < fn.length)
    (e0 : IsEdge (faceAt fn f0) p q) (e1 : IsEdge (faceAt fn f1) q s) (e2 : IsEdge (faceAt fn f2) s p)
    (hpq : p ≠ q) (hqs : q ≠ s) (hsp : s ≠ p)
    (hp : p < nodes.length) (hq : q < nodes.length) (hs : s < nodes.length) :
    (triChildren fn nodes.length (f0, f1, f2)).map (triCoords (triNewNodes nodes fn))
      = geomChildren (p2At nodes p) (p2At nodes q) (p2At nodes s) := by
  have s10 : sharedNode (faceAt fn f1) (faceAt fn f0) = q :=
    sharedNode_spec _ _ p q s e1 e0 hsp (Ne.symm hqs)
  have s21 : sharedNode (faceAt fn f2) (faceAt fn f1) = s :=
    sharedNode_spec _ _ q s p e2 e1 hpq (Ne.symm hsp)
  have s02 : sharedNode (faceAt fn f0) (faceAt fn f2) = p :=
    sharedNode_spec _ _ s p q e0 e2 hqs (Ne.symm hpq)
  have m0 := (triNew_mid nodes fn f0 h0).trans (mid_of_edge nodes _ p q e0)
  have m1 := (triNew_mid nodes fn f1 h1).trans (mid_of_edge nodes _ q s e1)
  have m2 := (triNew_mid nodes fn f2 h2).trans (mid_of_edge nodes _ s p e2)
  simp only [triChildren, geomChildren, List.map_cons, List.map_nil, triCoords, s10, s21, s02,
    m0, m1, m2, triNew_old nodes fn _ hp, triNew_old nodes fn _ hq, triNew_old nodes fn _ hs]

theorem geomChildren_area (P Q S : P2) :
    ∀ ch ∈ geomChildren P Q S, area2 ch.1 ch.2.1 ch.2.2 = area2 P Q S / 4 := by
  intro ch hch
  simp only [geomChildren, List.mem_cons, List.not_mem_nil, or_false] at hch
  rcases hch with rfl | rfl | rfl | rfl <;> simp only [area2, P2.mid] <;> ring

/-- AREA / NESTING: every child has exactly one quarter of the parent's signed area (same
    orientation), the four areas add up to the parent's, and every child vertex is a convex
    combination of the parent's corners with the explicit weights `0, 1/2, 1` — so each child lies
    inside its parent. -/
theorem tri_children_area (P Q S : P2) :
    (∀ ch ∈ geomChildren P Q S, area2 ch.1 ch.2.1 ch.2.2 = area2 P Q S / 4) ∧
    ((geomChildren P Q S).map (fun ch => area2 ch.1 ch.2.1 ch.2.2)).sum = area2 P Q S ∧
    (∀ ch ∈ geomChildren P Q S, ∀ v, (v = ch.1 ∨ v = ch.2.1 ∨ v = ch.2.2) →
      ∃ α β γ : Rat, 0 ≤ α ∧ 0 ≤ β ∧ 0 ≤ γ ∧ α + β + γ = 1 ∧
        v.x = α * P.x + β * Q.x + γ * S.x ∧ v.y = α * P.y + β * Q.y + γ * S.y) := by
  refine ⟨geomChildren_area P Q S, ?_, ?_⟩
  · rw [List.map_congr_left (geomChildren_area P Q S), List.map_const', List.sum_replicate]
    exact (nsmul_eq_mul _ _).trans (mul_div_cancel₀ _ four_ne_zero)
  · -- every child vertex is a corner or the midpoint of two corners
    intro ch hch v hv
    have hP : ConvexComb P Q S P := ⟨1, 0, 0, zero_le_one, le_rfl, le_rfl, by norm_num, by ring, by ring⟩
    have hQ : ConvexComb P Q S Q := ⟨0, 1, 0, le_rfl, zero_le_one, le_rfl, by norm_num, by ring, by ring⟩
    have hS : ConvexComb P Q S S := ⟨0, 0, 1, le_rfl, le_rfl, zero_le_one, by norm_num, by ring, by ring⟩
    have hPQ := hP.mid hQ
    have hQS := hQ.mid hS
    have hSP := hS.mid hP
    simp only [geomChildren, List.mem_cons, List.not_mem_nil, or_false] at hch
    rcases hch with rfl | rfl | rfl | rfl <;> rcases hv with rfl | rfl | rfl <;> assumption

example : (geomChildren ⟨0, 0⟩ ⟨4, 0⟩ ⟨0, 2⟩).map (fun ch => area2 ch.1 ch.2.1 ch.2.2) = [2, 2, 2, 2] := by
  decide +kernel

/-- NESTING (centres): the centre of every child lies strictly inside the parent triangle — so the
    containment test of `structured_refinement` (`inside2d`) finds the parent of every child, for any
    non-degenerate parent triangle of either orientation. -/
theorem tri_child_centroid_inside (P Q S : P2) (hA : area2 P Q S ≠ 0) :
    ∀ ch ∈ geomChildren P Q S, inside2d (P, Q, S) (centroid ch) = true := by
  intro ch hch
  simp only [geomChildren, List.mem_cons, List.not_mem_nil, or_false] at hch
  rcases hch with rfl | rfl | rfl | rfl
  · exact inside2d_of_bary P Q S _ (1 / 6) (2 / 3) (1 / 6) (by norm_num)
      (by simp only [centroid, P2.mid]; ring) (by simp only [centroid, P2.mid]; ring)
      (by norm_num) (by norm_num) (by norm_num) hA
  · exact inside2d_of_bary P Q S _ (1 / 6) (1 / 6) (2 / 3) (by norm_num)
      (by simp only [centroid, P2.mid]; ring) (by simp only [centroid, P2.mid]; ring)
      (by norm_num) (by norm_num) (by norm_num) hA
  · exact inside2d_of_bary P Q S _ (2 / 3) (1 / 6) (1 / 6) (by norm_num)
      (by simp only [centroid, P2.mid]; ring) (by simp only [centroid, P2.mid]; ring)
      (by norm_num) (by norm_num) (by norm_num) hA
  · exact inside2d_of_bary P Q S _ (1 / 3) (1 / 3) (1 / 3) (by norm_num)
      (by simp only [centroid, P2.mid]; ring) (by simp only [centroid, P2.mid]; ring)
      (by norm_num) (by norm_num) (by norm_num) hA

example : inside2d (⟨0, 0⟩, ⟨4, 0⟩, ⟨0, 2⟩) (centroid (⟨4, 0⟩, ⟨2, 1⟩, ⟨2, 0⟩)) = true := by decide +kernel

/-- PARENT MAP: the refined grid has `4·nc` cells; column `4c + t` (`t < 4`) is child `t` of cell
    `c`, its parent `triParent (4c+t)` is `c`, and a new cell has parent `c` iff its number lies in
    `4c … 4c+3` — every new cell has exactly one parent and every parent exactly four children. -/
theorem tri_parent_map_total (nn : Nat) (fn : List (Nat × Nat)) (cf : List (Nat × Nat × Nat)) :
    (triRefine nn fn cf).length = 4 * cf.length ∧
    (triParents cf.length).length = 4 * cf.length ∧
    (∀ c t, t < 4 → (triRefine nn fn cf)[c * 4 + t]? = (cf[c]?).bind (fun cell => (triChildren fn nn cell)[t]?)) ∧
    (∀ c t, t < 4 → triParent (c * 4 + t) = c) ∧
    (∀ j c, triParent j = c ↔ c * 4 ≤ j ∧ j < (c + 1) * 4) ∧
    (∀ j, j < 4 * cf.length → (triParents cf.length)[j]? = some (j / 4) ∧ j / 4 < cf.length) := by
  have hall : ∀ cell ∈ cf, (triChildren fn nn cell).length = 4 := fun _ _ => rfl
  refine ⟨?_, (List.length_map _).trans List.length_range, ?_, ?_, ?_, ?_⟩
  · rw [triRefine, flatten_length_blocks cf hall, Nat.mul_comm]
  · intro c t ht
    rw [triRefine, flatten_get_blocks cf hall c t ht]
  · intro c t ht
    rw [triParent, Nat.add_comm]
    exact (add_mul_div_mod c ht).1
  · exact fun j c => div_eq_iff_block 4 j c (by decide)
  · intro j hj
    exact ⟨map_range_get _ hj, Nat.div_lt_of_lt_mul hj⟩

example : triRefine 4 [(0, 1), (0, 2), (1, 2), (1, 3), (2, 3)] [(0, 2, 1), (3, 4, 2)]
    = [(1, 6, 4), (2, 5, 6), (0, 4, 5), (4, 6, 5), (3, 8, 7), (2, 6, 8), (1, 7, 6), (7, 8, 6)] := by
  decide +kernel

/-- The sweep of `structured_refinement` over the coarse cells (each coarse cell takes the not yet
    assigned fine cell centres inside it), for ANY containment test `inside`:
    (1) a fine cell listed in column `c` has its centre inside coarse cell `c` (and in no earlier
        one), and
    (2) if the centre of fine cell `i` lies in coarse cell `c` and in no other coarse cell, then `i`
        is listed in column `c` and in no other column — every fine cell is mapped to the unique
        coarse cell that contains it. -/
theorem structured_refinement_contains {α β : Type} (inside : α → β → Bool) (cells : List α)
    (pts : List β) :
    (∀ (c : Nat) (col : List Nat) (i : Nat), (assign inside cells (enum pts))[c]? = some col → i ∈ col →
      ∃ p cell, pts[i]? = some p ∧ cells[c]? = some cell ∧ inside cell p = true) ∧
    (∀ (i : Nat) (p : β) (c : Nat) (cell : α), pts[i]? = some p → cells[c]? = some cell →
      inside cell p = true →
      (∀ (c' : Nat) (cell' : α), c' ≠ c → cells[c']? = some cell' → inside cell' p = false) →
      (∃ col, (assign inside cells (enum pts))[c]? = some col ∧ i ∈ col) ∧
      (∀ (c' : Nat) (col' : List Nat), c' ≠ c → (assign inside cells (enum pts))[c']? = some col' → i ∉ col')) := by
  constructor
  · intro c col i hcol hi
    obtain ⟨p, cell, hm, hc, hin, _⟩ := assign_sound inside cells (enum pts) c col hcol i hi
    exact ⟨p, cell, (mem_enum pts i p).mp hm, hc, hin⟩
  · intro i p c cell hp hc hin huniq
    constructor
    · exact assign_complete inside cells (enum pts) c cell i p ((mem_enum pts i p).mpr hp) hc hin
        (fun c' cell' hlt hg => huniq c' cell' (by omega) hg)
    · intro c' col' hne hcol' hi
      obtain ⟨p', cell', hm, hc', hin', _⟩ := assign_sound inside cells (enum pts) c' col' hcol' i hi
      have hp' := (mem_enum pts i p').mp hm
      rw [hp] at hp'
      cases hp'
      rw [huniq c' cell' hne hc'] at hin'
      cases hin'

/-- the 1-D test of the code (`searchsorted(sort(line), p, 'left') == 1`) is `lo < p ≤ hi` -/
theorem inside1d_iff (a b p : Rat) : inside1d (a, b) p = true ↔ min a b < p ∧ p ≤ max a b := by
  simp only [inside1d, Bool.and_eq_true, decide_eq_true_eq]
  by_cases h : a ≤ b
  · rw [if_pos h, if_pos h, min_eq_left h, max_eq_right h]
  · rw [if_neg h, if_neg h, min_eq_right (le_of_not_ge h), max_eq_left (le_of_not_ge h)]

example : assign inside1d [((0 : Rat), (1 : Rat)), (3, 1)] (enum [(1 / 4 : Rat), 2, 3 / 4, 5 / 2])
    = [[0, 2], [1, 3]] := by decide +kernel

/-- MEASURE: with cell measures `m_c · (z_{k+1} − z_k)` (prism over base cell `c` in layer `k`) the
    total measure of the extruded grid is the base measure times `z_last − z_first`, for ANY layer
    sequence; and for a strictly increasing sequence every layer height is positive. -/
theorem extrude_measure (base : List Rat) (z0 : Rat) (zs : List Rat) :
    rsum (extrudedMeasures base (z0 :: zs)) = rsum base * (zs.getLastD z0 - z0) ∧
    (extrudedMeasures base (z0 :: zs)).length = zs.length * base.length ∧
    (Increasing (z0 :: zs) → ∀ h ∈ heights (z0 :: zs), 0 < h) := by
  refine ⟨?_, ?_, heights_pos _⟩
  · rw [extrudedMeasures, rsum_extruded, rsum_heights]
  · rw [extrudedMeasures, flatten_length_blocks _ fun _ _ => List.length_map _, heights_length]
    rfl

/-- PRISM GEOMETRY: (1) an extruded 1-d cell is the parallelogram spanned by the horizontal edge
    vector `u` and the vertical vector `(0,0,h)`; its squared area `|u × v|²` is `|u|²·h²`, i.e.
    area = base length × layer height.  (2) an extruded triangle `(A, B, C)` between `z0` and
    `z0 + h`, split into the three tetrahedra (A,B,C,A'), (B,C,A',B'), (C,A',B',C'), has six times
    signed volume `3·area2(A,B,C)·h`, i.e. volume = base area × layer height. -/
theorem extrude_prism_measure :
    (∀ (ux uy h : Rat), V3.nsq (V3.cross ⟨ux, uy, 0⟩ ⟨0, 0, h⟩) = V3.nsq ⟨ux, uy, 0⟩ * (h * h)) ∧
    (∀ (A B C : P2) (z0 h : Rat),
      tet6 ⟨A.x, A.y, z0⟩ ⟨B.x, B.y, z0⟩ ⟨C.x, C.y, z0⟩ ⟨A.x, A.y, z0 + h⟩
      + tet6 ⟨B.x, B.y, z0⟩ ⟨C.x, C.y, z0⟩ ⟨A.x, A.y, z0 + h⟩ ⟨B.x, B.y, z0 + h⟩
      + tet6 ⟨C.x, C.y, z0⟩ ⟨A.x, A.y, z0 + h⟩ ⟨B.x, B.y, z0 + h⟩ ⟨C.x, C.y, z0 + h⟩
      = 3 * (area2 A B C * h)) := by
  constructor
  · intro ux uy h
    simp only [V3.nsq, V3.dot, V3.cross]
    ring
  · intro A B C z0 h
    simp only [tet6, V3.dot, V3.cross, V3.sub, area2]
    ring

example : rsum (extrudedMeasures [1 / 2, 3] [0, 1, 5 / 2]) = (1 / 2 + 3) * (5 / 2) := by decide +kernel

/-- CELL MAP: the returned cell map row of base cell `c` is `[c, c+C, c+2C, …]` (one entry per
    layer); entry `k` is cell `c + k·C`, which lies in the index range `[k·C, (k+1)·C)` of layer `k`;
    conversely every new cell `j < C·L` is entry `j / C` of row `j % C` and of no other row/entry:
    per layer the map base cell ↦ new cell is a bijection, and every new cell has exactly one parent. -/
theorem extrude_cell_map_bijective_per_layer (nc layers : Nat) (hnc : 0 < nc) :
    (∀ c k, c < nc → k < layers →
      (cellMapRow nc layers c)[k]? = some (c + k * nc) ∧
      k * nc ≤ c + k * nc ∧ c + k * nc < (k + 1) * nc ∧ c + k * nc < nc * layers) ∧
    (∀ j, j < nc * layers →
      j % nc < nc ∧ j / nc < layers ∧ (cellMapRow nc layers (j % nc))[j / nc]? = some j) ∧
    (∀ c k c' k', c < nc → c' < nc → c + k * nc = c' + k' * nc → c = c' ∧ k = k') := by
  refine ⟨?_, ?_, ?_⟩
  · intro c k hc hk
    exact ⟨arange_get c nc layers k hk, Nat.le_add_left _ _, add_mul_lt hc k.lt_succ_self,
      Nat.mul_comm nc layers ▸ add_mul_lt hc hk⟩
  · intro j hj
    have h2 : j / nc < layers := Nat.div_lt_of_lt_mul hj
    refine ⟨Nat.mod_lt j hnc, h2, ?_⟩
    rw [cellMapRow, arange_get _ _ _ _ h2, Nat.mul_comm, Nat.mod_add_div]
  · exact fun c k c' k' => layer_decomp nc c k c' k'

/-- NESTING of extruded cells: for a base grid of dimension 1 or 2, the new cell `c + k·C` (the
    entry for layer `k` in the cell-map row of base cell `c`) has the horizontal faces
    `Fv + k·C + c` (sign −1) and `Fv + (k+1)·C + c` (sign +1); their nodes are the nodes of base cell
    `c` shifted by `k·N` resp. `(k+1)·N`, and node `n + j·N` carries `(x_n, y_n, z_j)`.  So the new
    cell is the prism over its parent between `z_k` and `z_{k+1}`. -/
theorem extrude_cell_over_parent (b : Base) (z : List Rat) (c k : Nat) (ns : List Nat)
    (hdim : b.dim ≠ 0) (hcn : b.cn.length = b.cf.length) (hc : b.cn[c]? = some ns)
    (hk : k < z.length - 1) :
    (extrude b z).cellMap[c]? = some (cellMapRow b.cf.length (z.length - 1) c) ∧
    (cellMapRow b.cf.length (z.length - 1) c)[k]? = some (c + k * b.cf.length) ∧
    (∃ faces, (extrude b z).cf[k * b.cf.length + c]? = some faces ∧
      (b.fn.length * (z.length - 1) + k * b.cf.length + c, (-1 : Int)) ∈ faces ∧
      (b.fn.length * (z.length - 1) + (k + 1) * b.cf.length + c, (1 : Int)) ∈ faces) ∧
    (extrude b z).fn[b.fn.length * (z.length - 1) + k * b.cf.length + c]?
      = some (ns.map (· + k * b.nodes.length)) ∧
    (extrude b z).fn[b.fn.length * (z.length - 1) + (k + 1) * b.cf.length + c]?
      = some (ns.map (· + (k + 1) * b.nodes.length)) ∧
    (∀ n j p zj, b.nodes[n]? = some p → z[j]? = some zj →
      (extrude b z).nodes[n + j * b.nodes.length]? = some ⟨p.x, p.y, zj⟩) := by
  have hclt : c < b.cf.length := hcn ▸ (List.getElem?_eq_some_iff.mp hc).1
  refine ⟨?_, arange_get c _ _ k hk, ?_, ?_, ?_, ?_⟩
  · rw [extrude_of_dim_ne_zero b z hdim]
    exact map_range_get _ hclt
  · obtain ⟨vert, hv⟩ := extrudeCells_get b (z.length - 1) k c hk hclt
    rw [extrude_of_dim_ne_zero b z hdim]
    exact ⟨_, hv, List.mem_append_right _ (List.mem_cons_self ..),
      List.mem_append_right _ (List.mem_cons_of_mem _ (List.mem_cons_self ..))⟩
  · rw [← hcn]
    exact extrude_fn_horizontal b z hdim k c ns (by omega) hc
  · rw [← hcn]
    exact extrude_fn_horizontal b z hdim (k + 1) c ns (by omega) hc
  · intro n j p zj hn hz
    rw [extrude_of_dim_ne_zero b z hdim]
    exact extrudeNodes_get b.nodes z j n zj p hz hn

/-- the relative position `(2i+1)/(2r)` of the centre of fine cell `i` lies in `(c, c+1]` exactly if
    `c = i / r` -/
theorem centre_between (r c i : Nat) (hr : 1 ≤ r) :
    ((c : Rat) < ((2 * i + 1 : Nat) : Rat) / ((2 * r : Nat) : Rat) ∧
      ((2 * i + 1 : Nat) : Rat) / ((2 * r : Nat) : Rat) ≤ ((c + 1 : Nat) : Rat)) ↔ i / r = c := by
  have hr2 : (0 : Rat) < ((2 * r : Nat) : Rat) := Nat.cast_pos.mpr (Nat.mul_pos two_pos hr)
  -- clear the denominator; `2·lo < 2·i + 1 ≤ 2·hi` is `lo ≤ i < hi`
  rw [lt_div_iff₀ hr2, div_le_iff₀ hr2, ← Nat.cast_mul, ← Nat.cast_mul, Nat.cast_lt, Nat.cast_le,
    Nat.mul_left_comm c 2 r, Nat.mul_left_comm (c + 1) 2 r, Nat.lt_succ_iff, Nat.succ_le_iff,
    Nat.mul_le_mul_left_iff two_pos, Nat.mul_lt_mul_left two_pos]
  exact (div_eq_iff_block r i c hr).symm

/-- INDEX FORMULA (one axis): on a uniform grid with cell size `h > 0` whose cells are split into
    `r` equal parts, the 1-d test of the sweep accepts the centre of fine cell `i` for coarse cell
    `c` exactly if `c = i / r`. -/
theorem cart_inside1d_iff (x0 h : Rat) (r c i : Nat) (hh : 0 < h) (hr : 1 ≤ r) :
    inside1d (cartCell1d x0 h c) (cartCentre1d x0 h r i) = true ↔ i / r = c := by
  have hle : x0 + (c : Rat) * h ≤ x0 + ((c + 1 : Nat) : Rat) * h :=
    (add_le_add_iff_left x0).mpr (mul_le_mul_of_nonneg_right (Nat.cast_le.mpr (Nat.le_succ c)) hh.le)
  rw [cartCell1d, cartCentre1d, inside1d_iff, min_eq_left hle, max_eq_right hle, add_lt_add_iff_left,
    add_le_add_iff_left, mul_lt_mul_iff_of_pos_right hh, mul_le_mul_iff_of_pos_right hh]
  exact centre_between r c i hr

/-- INDEX FORMULA (boxes): the box test accepts the centre of fine cell `(i,j,k)` for coarse cell `c`
    exactly if `c = (i / rx, j / ry, k / rz)`. -/
theorem cart_insideBox_iff (o h : R3) (r c i : Idx3) (hx : 0 < h.1) (hy : 0 < h.2.1) (hz : 0 < h.2.2)
    (rx : 1 ≤ r.1) (ry : 1 ≤ r.2.1) (rz : 1 ≤ r.2.2) :
    insideBox (cartBox o h c) (cartCentre o h r i) = true ↔ coarseOf r i = c := by
  obtain ⟨c1, c2, c3⟩ := c
  rw [insideBox, cartBox, cartCentre, coarseOf, Bool.and_eq_true, Bool.and_eq_true,
    cart_inside1d_iff _ _ _ _ _ hx rx, cart_inside1d_iff _ _ _ _ _ hy ry,
    cart_inside1d_iff _ _ _ _ _ hz rz, Prod.mk.injEq, Prod.mk.injEq, and_assoc]

/-- EXTRUDED INTERFACES: the new (low-dim cell, high-dim face) pairs built by `extrude_mdg` are exactly
    the layer-wise copies `(c + k·C_low, f + k·F_high)`, `k < L`, of the old pairs `(c, f)`; every new
    pair couples a cell and a face of the SAME layer whose base items were coupled; there are
    `L` new pairs per old pair; if every old face was coupled to one cell, so is every new face; and
    the faces put on the second mortar side are exactly the layer copies of the old faces above the
    median (the side of a face is inherited by all its copies). -/
theorem extrude_mdg_coupling (ncLow nfHigh L : Nat) (pairs : List (Nat × Nat))
    (hb : ∀ cf ∈ pairs, cf.1 < ncLow ∧ cf.2 < nfHigh) :
    (∀ c' f', (c', f') ∈ coupleLayers ncLow nfHigh L pairs ↔
      ∃ c f k, (c, f) ∈ pairs ∧ k < L ∧ c' = c + k * ncLow ∧ f' = f + k * nfHigh) ∧
    (∀ c' f', (c', f') ∈ coupleLayers ncLow nfHigh L pairs →
      c' / ncLow = f' / nfHigh ∧ c' / ncLow < L ∧ (c' % ncLow, f' % nfHigh) ∈ pairs) ∧
    (coupleLayers ncLow nfHigh L pairs).length = pairs.length * L ∧
    ((∀ c1 c2 f, (c1, f) ∈ pairs → (c2, f) ∈ pairs → c1 = c2) →
      ∀ c1 c2 f', (c1, f') ∈ coupleLayers ncLow nfHigh L pairs →
        (c2, f') ∈ coupleLayers ncLow nfHigh L pairs → c1 = c2) ∧
    (∀ f', f' ∈ otherSide nfHigh L pairs ↔
      ∃ c f k, (c, f) ∈ pairs ∧ aboveMedian pairs f = true ∧ k < L ∧ f' = f + k * nfHigh) := by
  refine ⟨mem_coupleLayers ncLow nfHigh L pairs, ?_, ?_, ?_, mem_otherSide nfHigh L pairs⟩
  · intro c' f' hm
    obtain ⟨c, f, k, hp, hk, rfl, rfl⟩ := (mem_coupleLayers _ _ _ _ _ _).mp hm
    obtain ⟨hc, hf⟩ := hb (c, f) hp
    obtain ⟨e1, e3⟩ := add_mul_div_mod k hc
    obtain ⟨e2, e4⟩ := add_mul_div_mod k hf
    rw [e1, e2, e3, e4]
    exact ⟨rfl, hk, hp⟩
  · rw [coupleLayers, flatten_length_blocks _ fun _ _ => (List.length_map _).trans List.length_range]
  · intro hfun c1 c2 f' h1 h2
    obtain ⟨a1, f1, k1, hp1, _, rfl, rfl⟩ := (mem_coupleLayers _ _ _ _ _ _).mp h1
    obtain ⟨a2, f2, k2, hp2, _, rfl, hf⟩ := (mem_coupleLayers _ _ _ _ _ _).mp h2
    obtain ⟨hf12, hk12⟩ := layer_decomp nfHigh f1 k1 f2 k2 (hb _ hp1).2 (hb _ hp2).2 hf
    subst hf12; subst hk12
    rw [hfun a1 a2 f1 hp1 hp2]

/-- PER-GRID MAPS of `extrude_mdg` (those of `extrude_grid`): cell map row `c` is `[c + k·C]`, face
    map row `f` is `[f + k·F]` (vertical faces only), and there are `N·|z|` nodes (that node `(n, k)`
    is number `n + k·N` is the last part of `extrude_cell_over_parent`) — each numbering a bijection
    per layer by `extrude_cell_map_bijective_per_layer` (`cellMapRow` is `arange`, and that theorem
    holds for any stride, so it applies to `C`, `F` and `N` alike). -/
theorem extrude_mdg_maps (b : Base) (z : List Rat) (hdim : b.dim ≠ 0) :
    (∀ c, c < b.cf.length →
      (extrude b z).cellMap[c]? = some (arange c b.cf.length (z.length - 1))) ∧
    (∀ f, f < b.fn.length →
      (extrude b z).faceMap[f]? = some (arange f b.fn.length (z.length - 1))) ∧
    (extrude b z).nodes.length = z.length * b.nodes.length := by
  rw [extrude_of_dim_ne_zero b z hdim]
  exact ⟨fun c hc => map_range_get _ hc, fun f hf => map_range_get _ hf, extrudeNodes_length _ _⟩

/-- SWEEP = INDEX FORMULA on nested Cartesian grids (any enumeration of the coarse and fine cells, 1-d,
    2-d or 3-d — unused axes have one cell and ratio 1): the geometric containment sweep lists fine
    cell `(i,j,k)` in the column of coarse cell `(i/rx, j/ry, k/rz)` and in no other column, and
    every fine cell listed in a column has that coarse cell as its index quotient. -/
theorem structured_refinement_cartesian (o h : R3) (r : Idx3) (coarse fine : List Idx3)
    (hx : 0 < h.1) (hy : 0 < h.2.1) (hz : 0 < h.2.2)
    (rx : 1 ≤ r.1) (ry : 1 ≤ r.2.1) (rz : 1 ≤ r.2.2) (hnd : coarse.Nodup) :
    (∀ (n : Nat) (i : Idx3) (c : Nat), fine[n]? = some i → coarse[c]? = some (coarseOf r i) →
      (∃ col, (assign insideBox (coarse.map (cartBox o h))
          (enum (fine.map (cartCentre o h r))))[c]? = some col ∧ n ∈ col) ∧
      (∀ (c' : Nat) (col' : List Nat), c' ≠ c →
        (assign insideBox (coarse.map (cartBox o h))
          (enum (fine.map (cartCentre o h r))))[c']? = some col' → n ∉ col')) ∧
    (∀ (c : Nat) (col : List Nat) (n : Nat),
      (assign insideBox (coarse.map (cartBox o h)) (enum (fine.map (cartCentre o h r))))[c]? = some col →
      n ∈ col → ∃ i, fine[n]? = some i ∧ coarse[c]? = some (coarseOf r i)) := by
  have hS := structured_refinement_contains insideBox (coarse.map (cartBox o h))
    (fine.map (cartCentre o h r))
  have hbox : ∀ t i, insideBox (cartBox o h t) (cartCentre o h r i) = true ↔ coarseOf r i = t :=
    fun t i => cart_insideBox_iff o h r t i hx hy hz rx ry rz
  constructor
  · intro n i c hn hc
    apply hS.2 n (cartCentre o h r i) c (cartBox o h (coarseOf r i))
    · rw [List.getElem?_map, hn]; rfl
    · rw [List.getElem?_map, hc]; rfl
    · exact (hbox _ i).mpr rfl
    · intro c' cell' hne hc'
      rw [List.getElem?_map, Option.map_eq_some_iff] at hc'
      obtain ⟨t, ht, rfl⟩ := hc'
      -- a box that accepts the centre is the box of `coarseOf r i`, which stands at `c` only
      refine Bool.eq_false_iff.mpr fun hin => hne ?_
      rw [← (hbox t i).mp hin] at ht
      exact nodup_getElem?_inj coarse hnd c' c _ ht hc
  · intro c col n hcol hn
    obtain ⟨p, cell, hp, hcell, hin⟩ := hS.1 c col n hcol hn
    rw [List.getElem?_map, Option.map_eq_some_iff] at hp hcell
    obtain ⟨i, hi, rfl⟩ := hp
    obtain ⟨t, ht, rfl⟩ := hcell
    exact ⟨i, hi, (hbox t i).mp hin ▸ ht⟩

/-- ORIENTATION of the vertical faces of the extruded 3-d grid: with the cyclic node order chosen by
    `_extrude_2d` (flip decided from the sign `sgn` of the face in its first cell, the side of that
    cell's interior point `pc`, and the direction of extrusion), `sgn · normal` is the cycle-directed
    normal `(B-A) × (0,0,|h|)` if `pc` is to the left of `A → B` and `(A-B) × (0,0,|h|)` otherwise —
    in both cases it points out of the first cell (positive scalar product with `A - pc`), i.e. the
    normal points out of the cell with sign +1, for upward and downward extrusion. -/
theorem vertical_face_signed_normal (A B pc : P2) (z0 z1 : Rat) (sgn : Int) (neg : Bool)
    (hs : sgn = 1 ∨ sgn = -1) (hz : if neg then z1 < z0 else z0 < z1) (hne : area2 A B pc ≠ 0) :
    V3.smul (sgn : Rat)
        (faceNormal (vertFaceCoords A B z0 z1 (flipOf sgn (ccwPolyline A B pc) neg)))
      = (if 0 < area2 A B pc
          then V3.cross ⟨B.x - A.x, B.y - A.y, 0⟩ ⟨0, 0, if neg then z0 - z1 else z1 - z0⟩
          else V3.cross ⟨A.x - B.x, A.y - B.y, 0⟩ ⟨0, 0, if neg then z0 - z1 else z1 - z0⟩) ∧
    0 < (sgn : Rat) *
      ((faceNormal (vertFaceCoords A B z0 z1 (flipOf sgn (ccwPolyline A B pc) neg))).x * (A.x - pc.x)
       + (faceNormal (vertFaceCoords A B z0 z1 (flipOf sgn (ccwPolyline A B pc) neg))).y * (A.y - pc.y)) ∧
    (faceNormal (vertFaceCoords A B z0 z1 (flipOf sgn (ccwPolyline A B pc) neg))).z = 0 := by
  refine signed_normal_core A B pc _ _ _ (z1 - z0) (if neg then z0 - z1 else z1 - z0)
    (vertFace_normal A B z0 z1 _) ?hp hne ?key
  case hp => cases neg <;> exact sub_pos.mpr hz
  case key =>
    rw [flipOf_sign sgn _ neg hs, ccwPolyline]
    by_cases ha : 0 < area2 A B pc <;> cases neg <;> simp [ha]

/-- CLOSEDNESS of a triangular prism: the cycle-directed vertical normals of the three edges add up
    to zero for any vertical vector, and the horizontal faces (normal `(0,0,area2)` for the node
    order (P,Q,S) at any height) cancel with the signs −1 (bottom) and +1 (top).  Together with
    `vertical_face_signed_normal` (each `sgn · normal` of the model IS the cycle-directed normal of
    the cell, whichever way the base face is stored) the signed face normals of every extruded
    triangle cell sum to zero. -/
theorem extrude_prism_closed_tri (P Q S : P2) (hv z0 z1 : Rat) :
    V3.add (V3.add (V3.cross ⟨Q.x - P.x, Q.y - P.y, 0⟩ ⟨0, 0, hv⟩)
      (V3.cross ⟨S.x - Q.x, S.y - Q.y, 0⟩ ⟨0, 0, hv⟩)) (V3.cross ⟨P.x - S.x, P.y - S.y, 0⟩ ⟨0, 0, hv⟩)
      = V3.zero ∧
    faceNormal [⟨P.x, P.y, z0⟩, ⟨Q.x, Q.y, z0⟩, ⟨S.x, S.y, z0⟩] = ⟨0, 0, area2 P Q S⟩ ∧
    V3.add (V3.smul (-1) (faceNormal [⟨P.x, P.y, z0⟩, ⟨Q.x, Q.y, z0⟩, ⟨S.x, S.y, z0⟩]))
      (V3.smul 1 (faceNormal [⟨P.x, P.y, z1⟩, ⟨Q.x, Q.y, z1⟩, ⟨S.x, S.y, z1⟩])) = V3.zero := by
  have hN : ∀ z, faceNormal [⟨P.x, P.y, z⟩, ⟨Q.x, Q.y, z⟩, ⟨S.x, S.y, z⟩] = ⟨0, 0, area2 P Q S⟩ :=
    fun z => by apply V3.ext' <;> simp only [faceNormal, V3.cross, V3.sub, area2] <;> ring
  refine ⟨?_, hN z0, ?_⟩
  · apply V3.ext' <;> simp only [V3.add, V3.cross, V3.zero] <;> ring
  · -- the normal does not depend on the height, so bottom (−1) and top (+1) cancel
    rw [hN, hN]
    apply V3.ext' <;> simp only [V3.add, V3.smul, V3.zero] <;> ring

/-- of a signed area `s` and its opposite, the one picked by "counter-clockwise differs from downward"
    has the sign of the direction of extrusion -/
theorem oriented_sign (s : Rat) (neg : Bool) (hs : s ≠ 0) :
    0 < (if neg then (-1 : Rat) else 1) * (if xor (decide (0 < s)) neg then s else -s) := by
  rcases lt_or_gt_of_ne hs with h | h <;> cases neg <;> simp [h, not_lt.mpr h.le]

/-- ORIENTATION of the horizontal faces over any polygonal cell (`cellCycles` passes every cell's node
    cycle through `orientCycle`): the cycle is kept, or reversed about its start node, such that its
    signed area has the sign of the direction of extrusion. -/
theorem orientCycle_sign (nodes : List V3) (neg : Bool) (cyc : List Nat)
    (hA : shoelace (cyc.map (fun n => v3xy (nodeAt nodes n))) ≠ 0) :
    (orientCycle nodes neg cyc = cyc ∨ orientCycle nodes neg cyc = reverseCycle cyc) ∧
    0 < (if neg then (-1 : Rat) else 1) *
      shoelace ((orientCycle nodes neg cyc).map (fun n => v3xy (nodeAt nodes n))) := by
  have hrev : shoelace ((reverseCycle cyc).map (fun n => v3xy (nodeAt nodes n)))
      = - shoelace (cyc.map (fun n => v3xy (nodeAt nodes n))) := by
    cases cyc with
    | nil => simp [reverseCycle, shoelace]
    | cons m rest => rw [reverseCycle, List.map_cons, List.map_reverse, shoelace_reverse, List.map_cons]
  refine ⟨ite_eq_or_eq _ _ _, ?_⟩
  rw [orientCycle, apply_ite (List.map _), apply_ite shoelace, hrev]
  exact oriented_sign _ neg hA

/-- ORIENTATION of the horizontal faces over a triangle: the model keeps the cell's node cycle
    `[a, b, c]` or reverses it to `[a, c, b]` such that the cycle is counter-clockwise for upward and
    clockwise for downward extrusion — the face normal `(0, 0, shoelace)` points towards the next
    layer, i.e. out of the lower-layer cell (sign +1) and into the upper-layer cell (sign −1). -/
theorem horizontal_face_orientation_tri (nodes : List V3) (neg : Bool) (a b c : Nat)
    (hA : area2 (v3xy (nodeAt nodes a)) (v3xy (nodeAt nodes b)) (v3xy (nodeAt nodes c)) ≠ 0) :
    (orientCycle nodes neg [a, b, c] = [a, b, c] ∨ orientCycle nodes neg [a, b, c] = [a, c, b]) ∧
    0 < (if neg then (-1 : Rat) else 1) *
      shoelace ((orientCycle nodes neg [a, b, c]).map (fun n => v3xy (nodeAt nodes n))) := by
  -- `reverseCycle [a, b, c]` computes to `[a, c, b]`; the shoelace sum of three points is `area2`
  refine orientCycle_sign nodes neg [a, b, c] fun h => hA ?_
  rw [← h]
  simp only [List.map_cons, List.map_nil, shoelace, shoelaceAux, area2]
  ring

/-- FACE NUMBERING WITH ORDER: in the ordered face list of the extruded 3-d grid, face `k·F + f`
    (`k < L`) is the vertical face over base face `f` in layer `k` with the node order of
    `verticalFaceOrdered`, and face `F·L + j·C + c` is the oriented node cycle of base cell `c`
    shifted to node layer `j`; the four node indices of a vertical face carry the coordinates
    `vertFaceCoords` (so `vertical_face_signed_normal` speaks about the faces of the model). -/
theorem faces_ordered_numbering (b : Base) (z : List Rat) :
    (∀ k f, k < z.length - 1 → f < b.fn.length →
      (facesOrdered b z)[k * b.fn.length + f]? =
        ((faceFlips b (z.all (fun v => decide (v ≤ 0))))[f]?).map (fun abf =>
          verticalFaceOrdered b.nodes.length abf.1 abf.2.1 abf.2.2 k)) ∧
    (∀ j c, j < z.length - 1 + 1 → c < b.cf.length →
      (facesOrdered b z)[(z.length - 1) * b.fn.length + (j * b.cf.length + c)]? =
        ((cellCycles b (z.all (fun v => decide (v ≤ 0))))[c]?).map
          (fun cyc => cyc.map (· + j * b.nodes.length))) ∧
    (∀ (a bb k : Nat) (pa pb : V3) (z0 z1 : Rat) (flip : Bool),
      b.nodes[a]? = some pa → b.nodes[bb]? = some pb → z[k]? = some z0 → z[k + 1]? = some z1 →
      (verticalFaceOrdered b.nodes.length a bb flip k).map (fun i => (extrudeNodes b.nodes z)[i]?)
        = (vertFaceCoords (v3xy pa) (v3xy pb) z0 z1 flip).map some) := by
  refine ⟨?_, ?_, ?_⟩
  · intro k f hk hf
    rw [facesOrdered, List.getElem?_append_left
      (by rw [verticalOrdered_length, Nat.add_comm]; exact add_mul_lt hf hk)]
    exact verticalOrdered_get b _ _ k f hk hf
  · intro j c hj hc
    rw [facesOrdered, ← verticalOrdered_length b (z.all fun v => decide (v ≤ 0)),
      List.getElem?_append_right (Nat.le_add_right _ _), Nat.add_sub_cancel_left]
    exact horizontalOrdered_get b _ _ j c hj hc
  · intro a bb k pa pb z0 z1 flip ha hb hz0 hz1
    have g1 := extrudeNodes_get b.nodes z k a z0 pa hz0 ha
    have g2 := extrudeNodes_get b.nodes z k bb z0 pb hz0 hb
    have g3 := extrudeNodes_get b.nodes z (k + 1) a z1 pa hz1 ha
    have g4 := extrudeNodes_get b.nodes z (k + 1) bb z1 pb hz1 hb
    cases flip <;>
      simp only [verticalFaceOrdered, vertFaceCoords, v3xy, List.map_cons, List.map_nil, g1, g2, g3, g4,
        if_true, if_false, Bool.false_eq_true]

/-- `tri_children_coords` with its hypothesis replaced by the DECIDABLE input condition `triCellOk`
    (evaluated by the driver for every cell of every generated grid): if the stored faces of a cell
    are the three edges of a triangle, the four index triples point at the geometric children of
    its corners `triCorners`. -/
theorem tri_children_coords_of_ok (nodes : List P2) (fn : List (Nat × Nat)) (c : Nat × Nat × Nat)
    (h : triCellOk nodes.length fn c = true) :
    (triChildren fn nodes.length c).map (triCoords (triNewNodes nodes fn))
      = geomChildren (p2At nodes (triCorners fn c).1) (p2At nodes (triCorners fn c).2.1)
          (p2At nodes (triCorners fn c).2.2) := by
  obtain ⟨f0, f1, f2⟩ := c
  simp only [triCellOk, Bool.and_eq_true, decide_eq_true_eq] at h
  obtain ⟨⟨⟨⟨⟨⟨⟨⟨⟨⟨⟨h0, h1⟩, h2⟩, e0⟩, e1⟩, e2⟩, hpq⟩, hqs⟩, hsp⟩, hp⟩, hq⟩, hs⟩ := h
  exact tri_children_coords nodes fn f0 f1 f2 _ _ _ h0 h1 h2 (isEdgeB_sound _ _ _ e0)
    (isEdgeB_sound _ _ _ e1) (isEdgeB_sound _ _ _ e2) hpq hqs hsp hp hq hs

example : triCellOk 3 [(0, 1), (0, 2), (1, 2)] (0, 2, 1) = true := by decide

/-- `structured_refinement_contains` with the uniqueness hypothesis replaced by the DECIDABLE input
    condition `uniqueB` (every fine centre lies in exactly one coarse cell — evaluated by the driver
    on every case): then every fine cell is listed in exactly one column, the column of a cell that
    contains its centre; in particular the final assertion of the code (all fine cells assigned)
    holds. -/
theorem sweep_total_of_unique {α β : Type} (inside : α → β → Bool) (cells : List α) (pts : List β)
    (h : uniqueB inside cells pts = true) (i : Nat) (p : β) (hp : pts[i]? = some p) :
    ∃ c cell, cells[c]? = some cell ∧ inside cell p = true ∧
      (∃ col, (assign inside cells (enum pts))[c]? = some col ∧ i ∈ col) ∧
      (∀ (c' : Nat) (col' : List Nat), c' ≠ c →
        (assign inside cells (enum pts))[c']? = some col' → i ∉ col') := by
  have hmem : p ∈ pts := List.mem_of_getElem? hp
  simp only [uniqueB, List.all_eq_true, beq_iff_eq] at h
  obtain ⟨c, cell, hc, hin, huniq⟩ := filter_length_one (fun c => inside c p) cells (h p hmem)
  obtain ⟨h1, h2⟩ := (structured_refinement_contains inside cells pts).2 i p c cell hp hc hin huniq
  exact ⟨c, cell, hc, hin, h1, h2⟩

example : uniqueB inside1d [((0 : Rat), (1 : Rat)), (3, 1)] [(1 / 4 : Rat), 2, 3 / 4, 5 / 2] = true := by
  decide +kernel

/-- the DECIDABLE precondition `zOk` on the layer coordinates (evaluated by the driver) gives layer
    heights of one strict sign, so no extruded cell is degenerate and `|z_last − z_first|` is the sum
    of the `|heights|` -/
theorem extrude_heights_sign (z : List Rat) (h : zOk z = true) :
    (∀ d ∈ heights z, 0 < d) ∨ (∀ d ∈ heights z, d < 0) := by
  simp only [zOk, Bool.or_eq_true, Bool.and_eq_true] at h
  rcases h with h | h
  · exact Or.inl (heights_pos_B z h.1)
  · exact Or.inr (heights_neg_B z h.1)

example : zOk [0, -1, -5 / 2] = true := by decide +kernel

/-- ENTRY GUARDS of `structured_refinement`: a point grid gives the 1×1 identity; the sweep runs
    exactly if the coarse grid has dimension ≥ 1, fewer cells than the fine grid and the same
    dimension; everything else is an AssertionError. -/
theorem sref_entry_spec (dimC dimF ncC ncF : Nat) :
    (srefEntry dimC dimF ncC ncF = .point ↔ dimC = 0) ∧
    (srefEntry dimC dimF ncC ncF = .sweep ↔ dimC ≠ 0 ∧ ncC < ncF ∧ dimC = dimF) ∧
    (srefEntry dimC dimF ncC ncF = .assertion ↔ dimC ≠ 0 ∧ (ncF ≤ ncC ∨ dimC ≠ dimF)) := by
  unfold srefEntry
  by_cases h0 : dimC = 0
  · simp [h0]
  · by_cases h1 : ncC < ncF
    · by_cases h2 : dimC = dimF
      · subst h2
        have h1' : ¬ ncF ≤ ncC := Nat.not_le.mpr h1
        simp [h0, h1, h1']
      · simp [h0, h1, h2]
    · have h1' : ncF ≤ ncC := Nat.le_of_not_lt h1
      simp [h0, h1, h1']

/-- REPEATED REFINEMENT: a point of a child segment is the parent's point at the composed
    parameter, which stays in `[s, t] ⊆ [0, 1]`; and the parent of the parent of fine cell `i` after
    refining by `r1` and then `r2` is `i / (r2·r1)`. -/
theorem refine1d_twice_nested (a b : V3) (s t u : Rat) (r1 r2 i : Nat) :
    lerp (lerp a b s) (lerp a b t) u = lerp a b (s + u * (t - s)) ∧
    (0 ≤ u → u ≤ 1 → s ≤ t → s ≤ s + u * (t - s) ∧ s + u * (t - s) ≤ t) ∧
    parent1d r1 (parent1d r2 i) = i / (r2 * r1) := by
  refine ⟨?_, ?_, ?_⟩
  · apply V3.ext' <;> simp only [lerp, V3.add, V3.smul] <;> ring
  · intro h0 h1 hst
    refine ⟨le_add_of_nonneg_right (mul_nonneg h0 (sub_nonneg.mpr hst)), ?_⟩
    -- the gap to `t` is `(1 - u)·(t - s)`
    linarith [mul_nonneg (sub_nonneg.mpr h1) (sub_nonneg.mpr hst)]
  · unfold parent1d
    exact Nat.div_div_eq_div_mul i r2 r1

/-- the second refinement again refines the geometric spec, now of the cells of the first refined
    grid (any ratios ≥ 1) -/
theorem refine1d_twice_refines_spec (nodes : List V3) (cells : List (Nat × Nat)) (r1 r2 : Nat)
    (h2 : 1 ≤ r2) :
    List.Forall₂ (ChainOK (refine1d nodes cells r1).1 r2 (refine1dTwice nodes cells r1 r2).1)
      (asCells (fineCells (refine1d nodes cells r1).2)) (refine1dTwice nodes cells r1 r2).2 :=
  refine1d_refines_spec _ _ r2 h2

example : (refine1dTwice [⟨0, 0, 0⟩, ⟨4, 0, 0⟩] [(0, 1)] 2 2).1
    = [⟨0, 0, 0⟩, ⟨1, 0, 0⟩, ⟨2, 0, 0⟩, ⟨3, 0, 0⟩, ⟨4, 0, 0⟩] := by decide +kernel

example : coupleLayers 2 10 2 [(0, 5), (1, 1), (0, 8), (1, 7)]
    = [(0, 5), (2, 15), (1, 1), (3, 11), (0, 8), (2, 18), (1, 7), (3, 17)] := by decide +kernel

example : otherSide 10 2 [(0, 5), (1, 1), (0, 8), (1, 7)] = [8, 18, 7, 17] := by decide +kernel

example : (cartCells (2, 2, 1)).Nodup := by decide +kernel

example : cartSweep (0, 0, 0) (1, 1 / 2, 1) (2, 1, 1) (2, 2, 1)
    = [[0, 1, 4, 5], [2, 3, 6, 7]] := by decide +kernel

/-- two triangles of the unit square, extruded upwards: ordered faces -/
example : facesOrdered ⟨2, [⟨0, 0, 0⟩, ⟨1, 0, 0⟩, ⟨0, 1, 0⟩, ⟨1, 1, 0⟩],
      [[0, 1], [0, 2], [1, 2], [1, 3], [2, 3]], [[0, 1, 2], [1, 2, 3]],
      [[(0, 1), (2, 1), (1, -1)], [(3, 1), (4, -1), (2, -1)]]⟩ [0, 1]
    = [[0, 1, 5, 4], [0, 2, 6, 4], [1, 2, 6, 5], [1, 3, 7, 5], [2, 3, 7, 6],
       [0, 1, 2], [1, 3, 2], [4, 5, 6], [5, 7, 6]] := by decide +kernel

example := vertical_face_signed_normal ⟨0, 0⟩ ⟨1, 0⟩ ⟨1 / 3, 1 / 3⟩ 0 (-2) (-1) true (Or.inr rfl)
  (by decide +kernel) (by decide +kernel)

/-- non-vacuity: the hypotheses of `refine1d_parent_unique` hold for a concrete permuted grid -/
example := refine1d_parent_unique [⟨0, 0, 0⟩, ⟨1, 2, 0⟩, ⟨3, 2, 4⟩] [(1, 2), (0, 1)] 2 (by decide) 1 1 (0, 1)
  rfl (by decide)

/-- non-vacuity of `tri_children_coords`: cell with faces (0, 2, 1) of the triangle (0,0),(4,0),(0,2) -/
example : (triChildren [(0, 1), (0, 2), (1, 2)] 3 (0, 2, 1)).map
      (triCoords (triNewNodes [⟨0, 0⟩, ⟨4, 0⟩, ⟨0, 2⟩] [(0, 1), (0, 2), (1, 2)]))
    = geomChildren ⟨0, 0⟩ ⟨4, 0⟩ ⟨0, 2⟩ :=
  tri_children_coords [⟨0, 0⟩, ⟨4, 0⟩, ⟨0, 2⟩] [(0, 1), (0, 2), (1, 2)] 0 2 1 0 1 2
    (by decide) (by decide) (by decide) (Or.inl ⟨rfl, rfl⟩) (Or.inl ⟨rfl, rfl⟩) (Or.inr ⟨rfl, rfl⟩)
    (by decide) (by decide) (by decide) (by decide) (by decide) (by decide)

/-- non-vacuity of the uniqueness hypothesis of `structured_refinement_contains` -/
example : (∃ col, (assign inside1d [((0 : Rat), (1 : Rat)), (3, 1)] (enum [(1 / 4 : Rat), 2, 3 / 4, 5 / 2]))[1]?
      = some col ∧ 1 ∈ col) :=
  ((structured_refinement_contains inside1d [((0 : Rat), (1 : Rat)), (3, 1)] [(1 / 4 : Rat), 2, 3 / 4, 5 / 2]).2
    1 2 1 (3, 1) rfl rfl (by decide)
    (by
      intro c' cell' hne hc'
      match c', hne, hc' with
      | 0, _, hc' =>
        simp only [List.getElem?_cons_zero, Option.some.injEq] at hc'
        subst hc'
        decide
      | 1, hne, _ => exact absurd rfl hne
      | n + 2, _, hc' => simp at hc')).1

example := extrude_cell_map_bijective_per_layer 3 2 (by decide)

/-- non-vacuity of `extrude_cell_over_parent`: line grid 0-1-3 extruded to z = 0, 1, 3 -/
example := extrude_cell_over_parent
  ⟨1, [⟨0, 0, 0⟩, ⟨1, 0, 0⟩, ⟨3, 0, 0⟩], [[0], [1], [2]], [[0, 1], [1, 2]],
    [[(0, -1), (1, 1)], [(1, -1), (2, 1)]]⟩ [0, 1, 3] 1 1 [1, 2] (by decide) rfl rfl (by decide)

example : extrude ⟨1, [⟨0, 0, 0⟩, ⟨1, 0, 0⟩], [[0], [1]], [[0, 1]], [[(0, -1), (1, 1)]]⟩ [0, 2]
    = { nodes := [⟨0, 0, 0⟩, ⟨1, 0, 0⟩, ⟨0, 0, 2⟩, ⟨1, 0, 2⟩],
        fn := [[0, 2], [1, 3], [0, 1], [2, 3]],
        cf := [[(0, -1), (1, 1), (2, -1), (3, 1)]],
        cellMap := [[0]], faceMap := [[0], [1]] } := by decide +kernel

end PorepyVerif.C23
