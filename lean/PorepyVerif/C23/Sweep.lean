/-
C23 — the sequential sweep of `structured_refinement`: which points a column of `assign` holds, for
any containment test.
-/
import PorepyVerif.C23.Model

namespace PorepyVerif.C23

theorem filter_length_one {α : Type} (P : α → Bool) : ∀ (cells : List α),
    (cells.filter P).length = 1 →
      ∃ c cell, cells[c]? = some cell ∧ P cell = true ∧
        ∀ (c' : Nat) (cell' : α), c' ≠ c → cells[c']? = some cell' → P cell' = false
  | [], h => by simp at h
  | x :: xs, h => by
    cases hx : P x with
    | true =>
      -- `x` is the one; the rest of the list has no further element with `P`
      rw [List.filter_cons_of_pos hx, List.length_cons, Nat.succ_inj, List.length_eq_zero_iff,
        List.filter_eq_nil_iff] at h
      refine ⟨0, x, rfl, hx, fun c' cell' hne hget => ?_⟩
      cases c' with
      | zero => exact absurd rfl hne
      | succ n => exact Bool.eq_false_iff.mpr (h cell' (List.mem_of_getElem? hget))
    | false =>
      rw [List.filter_cons_of_neg (by simp [hx])] at h
      obtain ⟨c, cell, hc, hP, huniq⟩ := filter_length_one P xs h
      refine ⟨c + 1, cell, hc, hP, fun c' cell' hne hget => ?_⟩
      cases c' with
      | zero => exact Option.some.inj hget ▸ hx
      | succ n => exact huniq n cell' (by omega) hget

theorem assign_length {α β : Type} (inside : α → β → Bool) :
    ∀ (cells : List α) (u : List (Nat × β)), (assign inside cells u).length = cells.length := by
  intro cells
  induction cells with
  | nil => intro u; rfl
  | cons c cs ih => intro u; simp [assign, ih]

theorem mem_assign {α β : Type} (inside : α → β → Bool) :
    ∀ (cells : List α) (u : List (Nat × β)) (c : Nat) (cell : α), cells[c]? = some cell →
      ∃ col, (assign inside cells u)[c]? = some col ∧ ∀ i, i ∈ col ↔
        ∃ p, (i, p) ∈ u ∧ inside cell p = true ∧
          ∀ c' cell', c' < c → cells[c']? = some cell' → inside cell' p = false
  | [], _, c, _, h => by simp at h
  | cell0 :: cs, u, 0, cell, h => by
    obtain rfl : cell0 = cell := Option.some.inj h
    refine ⟨_, rfl, fun i => ?_⟩
    simp only [assignStep, List.mem_map, List.mem_filter]
    constructor
    · rintro ⟨⟨i', p⟩, ⟨hm, hin⟩, rfl⟩
      exact ⟨p, hm, hin, fun _ _ h => absurd h (Nat.not_lt_zero _)⟩
    · rintro ⟨p, hm, hin, _⟩
      exact ⟨(i, p), ⟨hm, hin⟩, rfl⟩
  | cell0 :: cs, u, c + 1, cell, h => by
    -- the later cells sweep the points that `cell0` has left
    obtain ⟨col, hcol, hmem⟩ := mem_assign inside cs (assignStep inside cell0 u).2 c cell h
    refine ⟨col, hcol, fun i => (hmem i).trans ?_⟩
    constructor
    · rintro ⟨p, hm, hin, hfirst⟩
      obtain ⟨hm, h0⟩ := List.mem_filter.mp hm
      refine ⟨p, hm, hin, fun c' cell' hc' hget => ?_⟩
      cases c' with
      | zero =>
        obtain rfl : cell0 = cell' := Option.some.inj hget
        exact (Bool.not_eq_true' _).mp h0
      | succ c' => exact hfirst c' cell' (by omega) hget
    · rintro ⟨p, hm, hin, hfirst⟩
      exact ⟨p, List.mem_filter.mpr ⟨hm, (Bool.not_eq_true' _).mpr (hfirst 0 cell0 (Nat.succ_pos c) rfl)⟩,
        hin,
        fun c' cell' hc' hget => hfirst (c' + 1) cell' (by omega) hget⟩

theorem assign_sound {α β : Type} (inside : α → β → Bool) (cells : List α) (u : List (Nat × β))
    (c : Nat) (col : List Nat) (h : (assign inside cells u)[c]? = some col) (i : Nat) (hi : i ∈ col) :
    ∃ p cell, (i, p) ∈ u ∧ cells[c]? = some cell ∧ inside cell p = true ∧
      ∀ c' cell', c' < c → cells[c']? = some cell' → inside cell' p = false := by
  have hc : c < cells.length := assign_length inside cells u ▸ (List.getElem?_eq_some_iff.mp h).1
  obtain ⟨col', hcol', hmem⟩ := mem_assign inside cells u c cells[c] (List.getElem?_eq_getElem hc)
  obtain rfl : col' = col := Option.some.inj (hcol'.symm.trans h)
  obtain ⟨p, hm, hin, hfirst⟩ := (hmem i).mp hi
  exact ⟨p, _, hm, List.getElem?_eq_getElem hc, hin, hfirst⟩

theorem assign_complete {α β : Type} (inside : α → β → Bool) (cells : List α) (u : List (Nat × β))
    (c : Nat) (cell : α) (i : Nat) (p : β) (hm : (i, p) ∈ u) (hget : cells[c]? = some cell)
    (hin : inside cell p = true)
    (hfirst : ∀ c' cell', c' < c → cells[c']? = some cell' → inside cell' p = false) :
    ∃ col, (assign inside cells u)[c]? = some col ∧ i ∈ col := by
  obtain ⟨col, hcol, hmem⟩ := mem_assign inside cells u c cell hget
  exact ⟨col, hcol, (hmem i).mpr ⟨p, hm, hin, hfirst⟩⟩

theorem mem_enum {β : Type} (l : List β) (i : Nat) (p : β) : (i, p) ∈ enum l ↔ l[i]? = some p := by
  unfold enum
  constructor
  · intro h
    obtain ⟨k, hk⟩ := List.getElem?_of_mem h
    rw [List.getElem?_zip_eq_some] at hk
    obtain ⟨h1, h2⟩ := hk
    rw [List.getElem?_range (List.getElem?_eq_some_iff.mp h2).1, Option.some.injEq] at h1
    subst h1
    exact h2
  · intro h
    apply List.mem_of_getElem? (i := i)
    rw [List.getElem?_zip_eq_some]
    exact ⟨List.getElem?_range (List.getElem?_eq_some_iff.mp h).1, h⟩

end PorepyVerif.C23
