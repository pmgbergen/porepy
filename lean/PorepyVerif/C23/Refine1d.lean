/-
C23 — `refine_grid_1d`: the geometric specification of a refined cell (`specChain`, `ChainOK`), the
invariant of the loop and what one end node, one cell and the whole loop do to it; Euclidean length.
-/
import PorepyVerif.C23.Basics
import Mathlib.Tactic.Ring
import Mathlib.Tactic.Positivity
import Mathlib.Data.Rat.Defs
import Mathlib.Algebra.Order.Field.Rat
import Mathlib.Analysis.SpecialFunctions.Sqrt

namespace PorepyVerif.C23

theorem forall2_get {α β : Type} {R : α → β → Prop} {l1 : List α} {l2 : List β}
    (h : List.Forall₂ R l1 l2) : ∀ (c : Nat) (a : α), l1[c]? = some a →
      ∃ b, l2[c]? = some b ∧ R a b := by
  induction h with
  | nil => intro c a ha; simp at ha
  | cons hab _ ih =>
    intro c a ha
    cases c with
    | zero => exact ⟨_, rfl, Option.some.inj ha ▸ hab⟩
    | succ c => exact ih c a ha

theorem forall2_right_mem {α β : Type} {R : α → β → Prop} {l1 : List α} {l2 : List β}
    (h : List.Forall₂ R l1 l2) : ∀ b ∈ l2, ∃ a, a ∈ l1 ∧ R a b := by
  induction h with
  | nil => intro b hb; simp at hb
  | cons hab _ ih =>
    intro b hb
    rcases List.mem_cons.mp hb with rfl | hb
    · exact ⟨_, by simp, hab⟩
    · obtain ⟨a, ha, hr⟩ := ih b hb
      exact ⟨a, by simp [ha], hr⟩

theorem lerp_zero (a b : V3) : lerp a b 0 = a := by
  apply V3.ext' <;> simp [lerp, V3.add, V3.smul]

theorem lerp_one (a b : V3) : lerp a b 1 = b := by
  apply V3.ext' <;> simp [lerp, V3.add, V3.smul]

theorem lerp_sub (a b : V3) (s t : Rat) :
    V3.sub (lerp a b t) (lerp a b s) = V3.smul (t - s) (V3.sub b a) := by
  apply V3.ext' <;> simp only [lerp, V3.add, V3.smul, V3.sub] <;> ring

theorem nsq_smul (t : Rat) (v : V3) : V3.nsq (V3.smul t v) = t * t * V3.nsq v := by
  simp only [V3.nsq, V3.dot, V3.smul]; ring

/-- Euclidean length of a rational vector (a real number) -/
noncomputable def len (v : V3) : ℝ := Real.sqrt ((V3.nsq v : Rat) : ℝ)

theorem len_smul (t : Rat) (ht : 0 ≤ t) (v : V3) : len (V3.smul t v) = (t : ℝ) * len v := by
  unfold len
  rw [nsq_smul]
  push_cast
  have ht' : (0 : ℝ) ≤ (t : ℝ) := by exact_mod_cast ht
  rw [Real.sqrt_mul (mul_self_nonneg _), Real.sqrt_mul_self ht']

/-- the `r+1` points `a*(1-j/r) + b*(j/r)`, `j = 0..r`, of the refined cell `(a, b)` -/
def specChain (a b : V3) (r : Nat) : List V3 :=
  (List.range (r + 1)).map (fun (j : Nat) => lerp a b ((j : Rat) / (r : Rat)))

theorem range_succ_succ (m : Nat) :
    List.range (m + 2) = 0 :: ((List.range m).map (· + 1) ++ [m + 1]) := by
  rw [List.range_succ_eq_map, List.range_succ]
  simp

theorem chain_eq_spec (a b : V3) (r : Nat) (hr : 1 ≤ r) :
    a :: (interior a b r ++ [b]) = specChain a b r := by
  obtain ⟨m, rfl⟩ : ∃ m, r = m + 1 := ⟨r - 1, by omega⟩
  have hne : ((m + 1 : Nat) : Rat) ≠ 0 := Nat.cast_ne_zero.mpr (Nat.succ_ne_zero m)
  unfold specChain interior
  rw [range_succ_succ]
  simp only [List.map_cons, List.map_append, List.map_map, List.map_nil, Nat.add_sub_cancel]
  congr 1
  · simp [lerp_zero]
  · congr 1
    simp only [List.cons.injEq, and_true]
    rw [div_self hne, lerp_one]

theorem specChain_length (a b : V3) (r : Nat) : (specChain a b r).length = r + 1 := by
  simp [specChain]

theorem specChain_get (a b : V3) (r j : Nat) (hj : j ≤ r) :
    (specChain a b r)[j]? = some (lerp a b ((j : Rat) / (r : Rat))) :=
  map_range_get _ (Nat.lt_succ_of_le hj)

/-- every registered old node `k ↦ i` has its coordinates stored at new position `i` -/
def Inv (nodes : List V3) (st : RSt) : Prop :=
  ∀ k i, lookup k st.map = some i → st.xs[i]? = some (nodeAt nodes k)

theorem inv_append {nodes : List V3} {st : RSt} (t : List V3) (h : Inv nodes st) :
    Inv nodes ⟨st.xs ++ t, st.map⟩ := by
  intro k i hk
  exact get_append_of_some t (h k i hk)

theorem addOld_spec (nodes : List V3) (st : RSt) (k : Nat) (h : Inv nodes st) :
    Inv nodes (addOld nodes st k).1 ∧ st.xs <+: (addOld nodes st k).1.xs ∧
    (addOld nodes st k).1.xs[(addOld nodes st k).2]? = some (nodeAt nodes k) := by
  unfold addOld
  cases hl : lookup k st.map with
  | some i => exact ⟨h, List.prefix_rfl, h k i hl⟩
  | none =>
    refine ⟨fun k' i' hk' => ?_, List.prefix_append _ _, List.getElem?_concat_length⟩
    rw [lookup] at hk'
    split at hk'
    · cases hk'; subst_vars; exact List.getElem?_concat_length
    · exact get_append_of_some _ (h k' i' hk')

/-- the chain of new node indices of old cell `cell` carries the coordinates of the spec chain -/
def ChainOK (nodes : List V3) (r : Nat) (xs : List V3) (cell : Nat × Nat) (chain : List Nat) : Prop :=
  chain.map (fun i => xs[i]?) = (specChain (nodeAt nodes cell.1) (nodeAt nodes cell.2) r).map some

theorem ChainOK.mono {nodes : List V3} {r : Nat} {xs ys : List V3} {cell : Nat × Nat}
    {chain : List Nat} (h : ChainOK nodes r xs cell chain) (hp : xs <+: ys) :
    ChainOK nodes r ys cell chain := by
  obtain ⟨t, rfl⟩ := hp
  unfold ChainOK at h ⊢
  rw [← h]
  apply List.map_congr_left
  intro i hi
  -- `xs[i]?` is an entry of `h`'s right-hand side, so it is `some v`
  obtain ⟨v, _, hv⟩ := List.mem_map.mp (h ▸ List.mem_map_of_mem hi : xs[i]? ∈ _)
  rw [← hv]
  exact get_append_of_some t hv.symm

theorem range'_map_get (xs ys t : List V3) :
    (List.range' xs.length ys.length).map (fun i => ((xs ++ ys) ++ t)[i]?) = ys.map some := by
  apply List.ext_getElem?
  intro i
  rw [List.getElem?_map, List.getElem?_map]
  by_cases hi : i < ys.length
  · rw [List.getElem?_range' hi, Option.map_some, Nat.one_mul,
      List.getElem?_append_left (by rw [List.length_append]; omega),
      List.getElem?_append_right (Nat.le_add_right _ _), Nat.add_sub_cancel_left,
      List.getElem?_eq_getElem hi]
    rfl
  · rw [List.getElem?_eq_none (by rw [List.length_range']; omega),
      List.getElem?_eq_none (Nat.le_of_not_lt hi)]
    rfl

theorem interior_length (a b : V3) (r : Nat) : (interior a b r).length = r - 1 := by
  simp [interior]

theorem refineCell_spec (nodes : List V3) (r : Nat) (hr : 1 ≤ r) (st : RSt) (se : Nat × Nat)
    (h : Inv nodes st) :
    Inv nodes (refineCell nodes r st se).1 ∧ st.xs <+: (refineCell nodes r st se).1.xs ∧
    ChainOK nodes r (refineCell nodes r st se).1.xs se (refineCell nodes r st se).2 := by
  obtain ⟨h1, p1, g1⟩ := addOld_spec nodes st se.1 h
  obtain ⟨h3, p3, g3⟩ := addOld_spec nodes _ se.2
    (inv_append (interior (nodeAt nodes se.1) (nodeAt nodes se.2) r) h1)
  rw [refineCell]
  generalize addOld nodes st se.1 = r1 at *
  generalize addOld nodes _ se.2 = r3 at *
  refine ⟨h3, p1.trans ((List.prefix_append _ _).trans p3), ?_⟩
  -- the final array is `r1.1.xs ++ interior ++ t3`: the chain reads the start node in the first part,
  -- the interior nodes in the second, and the end node where the second `addOld` says
  obtain ⟨t3, e3⟩ := p3
  rw [← e3] at g3
  rw [ChainOK, ← chain_eq_spec _ _ r hr, ← e3, List.map_cons, List.map_cons, List.map_append,
    List.map_append, List.map_singleton, List.map_singleton, g3, List.append_assoc,
    get_append_of_some _ g1, ← List.append_assoc,
    ← interior_length (nodeAt nodes se.1) (nodeAt nodes se.2) r, range'_map_get]

theorem refineAll_spec (nodes : List V3) (r : Nat) (hr : 1 ≤ r) :
    ∀ (cells : List (Nat × Nat)) (st : RSt), Inv nodes st →
      st.xs <+: (refineAll nodes r cells st).1.xs ∧
      List.Forall₂ (ChainOK nodes r (refineAll nodes r cells st).1.xs) cells
        (refineAll nodes r cells st).2
  | [], _, _ => ⟨List.prefix_rfl, List.Forall₂.nil⟩
  | c :: cs, st, h => by
    obtain ⟨hc1, pc, hc3⟩ := refineCell_spec nodes r hr st c h
    obtain ⟨pr, hf⟩ := refineAll_spec nodes r hr cs _ hc1
    rw [refineAll]
    exact ⟨pc.trans pr, List.Forall₂.cons (hc3.mono pr) hf⟩

theorem chainOK_get {nodes : List V3} {r : Nat} {xs : List V3} {cell : Nat × Nat}
    {chain : List Nat} (h : ChainOK nodes r xs cell chain) :
    chain.length = r + 1 ∧ ∀ j, j ≤ r → ∃ p, chain[j]? = some p ∧
      xs[p]? = some (lerp (nodeAt nodes cell.1) (nodeAt nodes cell.2) ((j : Rat) / (r : Rat))) := by
  unfold ChainOK at h
  constructor
  · simpa [specChain_length] using congrArg List.length h
  · intro j hj
    have hg := congrArg (fun l => l[j]?) h
    simp only [List.getElem?_map, specChain_get _ _ r j hj, Option.map_some,
      Option.map_eq_some_iff] at hg
    exact hg

theorem chainCells_eq_zip : ∀ chain : List Nat, chainCells chain = chain.zip chain.tail
  | [] => rfl
  | [_] => rfl
  | a :: b :: rest => by rw [chainCells, chainCells_eq_zip (b :: rest)]; rfl

theorem chainCells_length (chain : List Nat) : (chainCells chain).length = chain.length - 1 := by
  rw [chainCells_eq_zip, List.length_zip, List.length_tail]; omega

theorem chainCells_get (chain : List Nat) (k p q : Nat) (hp : chain[k]? = some p)
    (hq : chain[k + 1]? = some q) : (chainCells chain)[k]? = some (p, q) := by
  rw [chainCells_eq_zip, List.getElem?_zip_eq_some, List.getElem?_tail]; exact ⟨hp, hq⟩

end PorepyVerif.C23
