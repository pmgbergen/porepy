/-
C23 — `refine_triangle_grid`: from the stored faces of a cell to its corners and edge midpoints, the
four geometric children, convex combinations and the strict triangle test.
-/
import PorepyVerif.C23.Model
import PorepyVerif.Common.List
import Mathlib.Tactic.Ring
import Mathlib.Tactic.Linarith
import Mathlib.Tactic.LinearCombination
import Mathlib.Algebra.Order.Field.Rat

namespace PorepyVerif.C23

/-- the stored face `f` joins the nodes `p` and `q` (in either order) -/
def IsEdge (f : Nat × Nat) (p q : Nat) : Prop := (f.1 = p ∧ f.2 = q) ∨ (f.1 = q ∧ f.2 = p)

theorem isEdgeB_sound (f : Nat × Nat) (p q : Nat) (h : isEdgeB f p q = true) : IsEdge f p q := by
  simp only [isEdgeB, Bool.or_eq_true, Bool.and_eq_true, decide_eq_true_eq] at h
  exact h

theorem sharedNode_spec (f g : Nat × Nat) (p q s : Nat) (hf : IsEdge f q s) (hg : IsEdge g p q)
    (hsp : s ≠ p) (hsq : s ≠ q) : sharedNode f g = q := by
  obtain ⟨f1, f2⟩ := f
  obtain ⟨g1, g2⟩ := g
  unfold IsEdge at hf hg
  unfold sharedNode
  simp only at hf hg ⊢
  rcases hf with ⟨rfl, rfl⟩ | ⟨rfl, rfl⟩ <;> rcases hg with ⟨rfl, rfl⟩ | ⟨rfl, rfl⟩ <;> simp_all

theorem mid_comm (a b : P2) : P2.mid a b = P2.mid b a := by
  rw [P2.mid, P2.mid, add_comm a.x, add_comm a.y]

theorem triNew_old (nodes : List P2) (fn : List (Nat × Nat)) (k : Nat) (hk : k < nodes.length) :
    p2At (triNewNodes nodes fn) k = p2At nodes k :=
  Common.getD_append_left _ _ hk

theorem triNew_mid (nodes : List P2) (fn : List (Nat × Nat)) (f : Nat) (hf : f < fn.length) :
    p2At (triNewNodes nodes fn) (nodes.length + f)
      = P2.mid (p2At nodes (faceAt fn f).1) (p2At nodes (faceAt fn f).2) := by
  rw [p2At, triNewNodes, Common.getD_append_right _ _ (Nat.le_add_right _ _), Nat.add_sub_cancel_left,
    Common.getD_map_of_lt _ hf _ (0, 0)]
  rfl

theorem mid_of_edge (nodes : List P2) (f : Nat × Nat) (p q : Nat) (h : IsEdge f p q) :
    P2.mid (p2At nodes f.1) (p2At nodes f.2) = P2.mid (p2At nodes p) (p2At nodes q) := by
  rcases h with ⟨h1, h2⟩ | ⟨h1, h2⟩
  · rw [h1, h2]
  · rw [h1, h2, mid_comm]

def triCoords (N : List P2) (t : Tri) : P2 × P2 × P2 := (p2At N t.1, p2At N t.2.1, p2At N t.2.2)

/-- the four geometric children of the triangle (P, Q, S) -/
def geomChildren (P Q S : P2) : List (P2 × P2 × P2) :=
  [ (Q, P2.mid Q S, P2.mid P Q), (S, P2.mid S P, P2.mid Q S), (P, P2.mid P Q, P2.mid S P),
    (P2.mid P Q, P2.mid Q S, P2.mid S P) ]

def centroid (t : P2 × P2 × P2) : P2 :=
  ⟨(t.1.x + t.2.1.x + t.2.2.x) / 3, (t.1.y + t.2.1.y + t.2.2.y) / 3⟩

/-- `v` is a convex combination of `P`, `Q`, `S` -/
def ConvexComb (P Q S v : P2) : Prop :=
  ∃ α β γ : Rat, 0 ≤ α ∧ 0 ≤ β ∧ 0 ≤ γ ∧ α + β + γ = 1 ∧
    v.x = α * P.x + β * Q.x + γ * S.x ∧ v.y = α * P.y + β * Q.y + γ * S.y

theorem ConvexComb.mid {P Q S a b : P2} :
    ConvexComb P Q S a → ConvexComb P Q S b → ConvexComb P Q S (P2.mid a b) := by
  rintro ⟨α, β, γ, h1, h2, h3, h4, h5, h6⟩ ⟨α', β', γ', h1', h2', h3', h4', h5', h6'⟩
  refine ⟨(α + α') / 2, (β + β') / 2, (γ + γ') / 2, div_nonneg (add_nonneg h1 h1') zero_le_two,
    div_nonneg (add_nonneg h2 h2') zero_le_two, div_nonneg (add_nonneg h3 h3') zero_le_two,
    by linear_combination (h4 + h4') / 2, ?_, ?_⟩
  · simp only [P2.mid, h5, h5']; ring
  · simp only [P2.mid, h6, h6']; ring

theorem inside2d_iff (a b c p : P2) :
    inside2d (a, b, c) p = true ↔
      (0 < area2 a b p ∧ 0 < area2 b c p ∧ 0 < area2 c a p) ∨
      (area2 a b p < 0 ∧ area2 b c p < 0 ∧ area2 c a p < 0) := by
  simp only [inside2d, Bool.or_eq_true, Bool.and_eq_true, decide_eq_true_eq, and_assoc]

/-- the point's three sub-triangle areas are its weights times the whole area, for either orientation -/
theorem inside2d_of_bary (P Q S c : P2) (wP wQ wS : Rat) (hsum : wP + wQ + wS = 1)
    (hx : c.x = wP * P.x + wQ * Q.x + wS * S.x) (hy : c.y = wP * P.y + wQ * Q.y + wS * S.y)
    (hP : 0 < wP) (hQ : 0 < wQ) (hS : 0 < wS) (hA : area2 P Q S ≠ 0) :
    inside2d (P, Q, S) c = true := by
  have e : wP = 1 - wQ - wS := by linarith
  have h1 : area2 P Q c = wS * area2 P Q S := by
    simp only [area2]; rw [hx, hy, e]; ring
  have h2 : area2 Q S c = wP * area2 P Q S := by
    simp only [area2]; rw [hx, hy, e]; ring
  have h3 : area2 S P c = wQ * area2 P Q S := by
    simp only [area2]; rw [hx, hy, e]; ring
  rw [inside2d_iff, h1, h2, h3]
  rcases lt_or_gt_of_ne hA with h | h
  · exact Or.inr ⟨mul_neg_of_pos_of_neg hS h, mul_neg_of_pos_of_neg hP h, mul_neg_of_pos_of_neg hQ h⟩
  · exact Or.inl ⟨mul_pos hS h, mul_pos hP h, mul_pos hQ h⟩

end PorepyVerif.C23
