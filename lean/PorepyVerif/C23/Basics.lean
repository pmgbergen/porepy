/-
C23 — what the topic modules share: lists made of equal-sized blocks and the numbering
`(c, k) ↦ c + k·n` of item `c` in block `k` (`r` children per refined cell, one copy of the base grid
per extrusion layer), and a few facts about `getElem?`.
-/
import PorepyVerif.C23.Model

namespace PorepyVerif.C23

theorem get_append_of_some {α : Type} {xs : List α} {i : Nat} {v : α} (t : List α)
    (h : xs[i]? = some v) : (xs ++ t)[i]? = some v := by
  rw [List.getElem?_append_left (List.getElem?_eq_some_iff.mp h).1, h]

theorem map_range_get {β : Type} (f : Nat → β) {n i : Nat} (h : i < n) :
    ((List.range n).map f)[i]? = some (f i) := by
  rw [List.getElem?_map, List.getElem?_range h, Option.map_some]

theorem flatten_get_blocks {α β : Type} {f : α → List β} {r : Nat} :
    ∀ (l : List α), (∀ a ∈ l, (f a).length = r) → ∀ (c k : Nat), k < r →
      (l.map f).flatten[c * r + k]? = (l[c]?).bind (fun a => (f a)[k]?)
  | [], _, c, k, _ => by simp
  | a :: l, hall, 0, k, hk => by
    have ha : (f a).length = r := hall a List.mem_cons_self
    rw [List.map_cons, List.flatten_cons, Nat.zero_mul, Nat.zero_add,
      List.getElem?_append_left (ha ▸ hk)]
    rfl
  | a :: l, hall, c + 1, k, hk => by
    have ha : (f a).length = r := hall a List.mem_cons_self
    rw [List.map_cons, List.flatten_cons, Nat.succ_mul, Nat.add_right_comm,
      List.getElem?_append_right (ha ▸ Nat.le_add_left _ _), ha, Nat.add_sub_cancel]
    exact flatten_get_blocks l (fun a' h => hall a' (List.mem_cons_of_mem a h)) c k hk

theorem flatten_length_blocks {α β : Type} {f : α → List β} {r : Nat} :
    ∀ (l : List α), (∀ a ∈ l, (f a).length = r) → (l.map f).flatten.length = l.length * r
  | [], _ => by simp
  | a :: l, hall => by
    rw [List.map_cons, List.flatten_cons, List.length_append, hall a List.mem_cons_self,
      flatten_length_blocks l (fun a' h => hall a' (List.mem_cons_of_mem a h)), List.length_cons,
      Nat.succ_mul, Nat.add_comm]

theorem mem_layers {α β : Type} (l : List α) (L : Nat) (g : α → Nat → β) (x : β) :
    x ∈ (l.map (fun a => (List.range L).map (g a))).flatten ↔ ∃ a ∈ l, ∃ k < L, x = g a k := by
  simp only [← List.flatMap_def, List.mem_flatMap, List.mem_map, List.mem_range, eq_comm]

theorem div_eq_iff_block (r i c : Nat) (hr : 0 < r) : i / r = c ↔ c * r ≤ i ∧ i < (c + 1) * r := by
  rw [Nat.eq_iff_le_and_ge, Nat.le_div_iff_mul_le hr, ← Nat.lt_succ_iff, Nat.div_lt_iff_lt_mul hr, and_comm]

/-- item `c` of layer `k` has number `c + k·n` -/
theorem add_mul_div_mod {n c : Nat} (k : Nat) (hc : c < n) :
    (c + k * n) / n = k ∧ (c + k * n) % n = c := by
  rw [Nat.div_mod_unique (by omega), Nat.mul_comm]
  exact ⟨rfl, hc⟩

theorem add_mul_lt {n c k L : Nat} (hc : c < n) (hk : k < L) : c + k * n < L * n :=
  calc c + k * n < (k + 1) * n := by rw [Nat.succ_mul, Nat.add_comm]; exact Nat.add_lt_add_left hc _
    _ ≤ L * n := Nat.mul_le_mul_right n hk

theorem layer_decomp (nc : Nat) (c k c' k' : Nat) (hc : c < nc) (hc' : c' < nc)
    (h : c + k * nc = c' + k' * nc) : c = c' ∧ k = k' := by
  have e := add_mul_div_mod k hc
  rw [h, (add_mul_div_mod k' hc').1, (add_mul_div_mod k' hc').2] at e
  exact ⟨e.2.symm, e.1.symm⟩

theorem nodup_getElem?_inj {α : Type} : ∀ (l : List α), l.Nodup → ∀ (a b : Nat) (x : α),
    l[a]? = some x → l[b]? = some x → a = b :=
  fun _ hnd _ _ _ ha hb =>
    (List.getElem?_inj (List.getElem?_eq_some_iff.mp ha).1 hnd).mp (ha.trans hb.symm)

theorem V3.ext' {a b : V3} (hx : a.x = b.x) (hy : a.y = b.y) (hz : a.z = b.z) : a = b := by
  cases a; cases b; simp_all

end PorepyVerif.C23
