/-
C36 — slicing dense data: scatter / gather, the explicit projection matrix, and why slicing a 1-d or 2-d array is the
product with it (both sides are stated through `r ↦ assoc r ran dom`, the domain index selected for a range index).
-/
import PorepyVerif.C36.Model
import PorepyVerif.Common.List
import PorepyVerif.Common.Sum

namespace PorepyVerif.C36

attribute [local simp] Rat.zero_add Rat.add_zero Rat.mul_zero Rat.zero_mul Rat.one_mul Rat.mul_one

theorem getD_map' {α β} (f : α → β) (x : List α) (j : Nat) (z : α) :
    (x.map f).getD j (f z) = f (x.getD j z) :=
  Common.getD_map f x j z

theorem getD_of_lt {α} (x : List α) (j : Nat) (z : α) (h : j < x.length) : x.getD j z = x[j] :=
  Common.getD_of_lt z h

theorem getD_of_ge {α} (x : List α) (j : Nat) (z : α) (h : x.length ≤ j) : x.getD j z = z := by
  simp [List.getD_eq_getElem?_getD, List.getElem?_eq_none h]

/-- If `g` takes the outcome of `x` to that of `y` and, on every success of `x`, the outcome of the continuation
    `f` to that of `f'`, it takes `x >>= f` to `y >>= f'`. -/
theorem map_bind_congr {α β α' β'} (g : α → α') (g' : β → β') {x : Except Err α} {y : Except Err α'}
    {f : α → Except Err β} {f' : α' → Except Err β'}
    (hx : x.map g = y) (hf : ∀ a, x = .ok a → (f a).map g' = f' (g a)) : (x >>= f).map g' = y >>= f' := by
  subst hx
  cases x with
  | error e => rfl
  | ok a => exact hf a rfl

theorem gather_length {α} (dom : List Nat) (x : List α) (z : α) : (gather dom x z).length = dom.length :=
  List.length_map _

theorem gather_map {α β} (f : α → β) (dom : List Nat) (x : List α) (z : α) :
    (gather dom x z).map f = gather dom (x.map f) (f z) := by
  simp only [gather, List.map_map]
  exact List.map_congr_left fun j _ => (getD_map' f x j z).symm

theorem scatter_length {α} (rs : List Nat) (vs acc : List α) : (scatter rs vs acc).length = acc.length := by
  fun_induction scatter rs vs acc with
  | case1 r rs v vs acc ih => rw [ih, List.length_set]
  | case2 => rfl

theorem scatter_map {α β} (f : α → β) (rs : List Nat) (vs acc : List α) :
    (scatter rs vs acc).map f = scatter rs (vs.map f) (acc.map f) := by
  induction rs generalizing vs acc with
  | nil => rfl
  | cons r rs ih =>
    cases vs with
    | nil => rfl
    | cons v vs => rw [scatter, ih, List.map_set]; rfl

theorem scatter_succ {α} (rs : List Nat) (vs : List α) (a : α) (acc : List α) :
    scatter (rs.map (· + 1)) vs (a :: acc) = a :: scatter rs vs acc := by
  induction rs generalizing vs acc with
  | nil => rfl
  | cons r rs ih =>
    cases vs with
    | nil => rfl
    | cons v vs => rw [List.map_cons, scatter, List.set_cons_succ, ih]; rfl

/-- first value stored under key `r` -/
def assoc {α} (r : Nat) : List Nat → List α → Option α
  | a :: rs, v :: vs => if a = r then some v else assoc r rs vs
  | _, _ => none

theorem assoc_none_of_not_mem {α} (r : Nat) (rs : List Nat) (vs : List α) (h : r ∉ rs) : assoc r rs vs = none := by
  induction rs generalizing vs with
  | nil => rfl
  | cons a rs ih =>
    cases vs with
    | nil => rfl
    | cons v vs =>
      rw [assoc, if_neg fun (e : a = r) => h (e ▸ List.mem_cons_self)]
      exact ih vs fun e => h (List.mem_cons_of_mem _ e)

/-- Entry `r` after `acc[rs] = vs` for pairwise distinct, in-range indices. -/
theorem scatter_getD {α} (rs : List Nat) (vs acc : List α) (r : Nat) (d : α)
    (hnd : rs.Nodup) (hb : ∀ a ∈ rs, a < acc.length) :
    (scatter rs vs acc).getD r d = (assoc r rs vs).getD (acc.getD r d) := by
  induction rs generalizing vs acc with
  | nil => rfl
  | cons a rs ih =>
    cases vs with
    | nil => rfl
    | cons v vs =>
      obtain ⟨hna, hnd'⟩ := List.nodup_cons.mp hnd
      rw [scatter, ih vs _ hnd' fun b hb' => by rw [List.length_set]; exact hb b (List.mem_cons_of_mem _ hb'), assoc]
      by_cases e : a = r
      · subst e
        rw [assoc_none_of_not_mem _ _ _ hna, if_pos rfl, Option.getD_none, List.getD_eq_getElem?_getD,
          List.getElem?_set_self (hb a List.mem_cons_self)]
        rfl
      · rw [if_neg e, List.getD_eq_getElem?_getD, List.getElem?_set_ne e, ← List.getD_eq_getElem?_getD]

theorem assoc_map {α β} (f : α → β) (r : Nat) (rs : List Nat) (vs : List α) :
    assoc r rs (vs.map f) = (assoc r rs vs).map f := by
  induction rs generalizing vs with
  | nil => rfl
  | cons a rs ih =>
    cases vs with
    | nil => rfl
    | cons v vs =>
      simp only [List.map_cons, assoc]
      split
      · rfl
      · exact ih vs

/-- `zeros(n)[rs] = x[ds]`, entry by entry: what is selected for `r`, if anything, else the filling. -/
theorem scatter_gather {α} (rs ds : List Nat) (n : Nat) (hnd : rs.Nodup) (hb : ∀ r ∈ rs, r < n) (x : List α) (z : α) :
    scatter rs (gather ds x z) (List.replicate n z)
      = (List.range n).map fun r => ((assoc r rs ds).map (x.getD · z)).getD z := by
  apply Common.ext_getD z
  · rw [scatter_length, List.length_replicate, List.length_map, List.length_range]
  · intro r hr
    rw [scatter_length, List.length_replicate] at hr
    rw [scatter_getD _ _ _ _ _ hnd (by rwa [List.length_replicate]), Common.getD_replicate, gather, assoc_map,
      getD_of_lt _ _ _ (by rwa [List.length_map, List.length_range]), List.getElem_map, List.getElem_range]

theorem scatter_range'_append {α} (vs pre suf : List α) (h : suf.length = vs.length) :
    scatter (List.range' pre.length vs.length) vs (pre ++ suf) = pre ++ vs := by
  induction vs generalizing pre suf with
  | nil => rw [List.eq_nil_of_length_eq_zero h]; rfl
  | cons v vs ih =>
    cases suf with
    | nil => cases h
    | cons a suf =>
      have hs : (pre ++ a :: suf).set pre.length v = (pre ++ [v]) ++ suf := by simp
      have := ih (pre ++ [v]) suf (Nat.succ.inj h)
      rw [List.length_cons, List.range'_succ, scatter, hs]
      simpa using this

theorem scatter_range_id {α} (vs : List α) (z : α) :
    scatter (List.range vs.length) vs (List.replicate vs.length z) = vs := by
  simpa [List.range_eq_range'] using scatter_range'_append vs [] (List.replicate vs.length z) (by simp)

theorem inBounds_iff (idx : List Nat) (n : Nat) : inBounds idx n = true ↔ ∀ j ∈ idx, j < n := by
  simp [inBounds]

/-- Under well-formedness both paths of `_slice_vector` are "allocate zeros, assign `vec[ran] = x[dom]`". -/
theorem sliceRows_eq_scatter {α} (c : Core) (hwf : c.WF) (x : List α) (z : α) :
    sliceRows c x z =
      if inBounds c.dom x.length then .ok (scatter c.ran (gather c.dom x z) (List.replicate c.ranSize z))
      else .error .indexError := by
  obtain ⟨hlen, _, hb, honto⟩ := hwf
  unfold sliceRows
  by_cases hd : inBounds c.dom x.length = true
  · simp only [hd, Bool.not_true, Bool.false_eq_true, if_false, if_true]
    by_cases ho : c.isOnto = true
    · obtain ⟨h1, h2⟩ := honto ho
      rw [if_pos ho, h1, h2, ← gather_length c.dom x z, scatter_range_id]
    · rw [if_neg ho, (inBounds_iff _ _).mpr hb]
      rfl
  · simp [hd]

theorem dot_map_range (f : Nat → Rat) (x : Vec) :
    dot ((List.range x.length).map f) x = ((List.range x.length).map fun j => f j * x.getD j 0).sum := by
  induction x generalizing f with
  | nil => rfl
  | cons a x ih =>
    rw [List.length_cons, List.range_succ_eq_map, List.map_cons, List.map_map, dot, ih, List.map_cons, List.sum_cons,
      List.map_map]
    rfl

theorem dot_map_zero (x : Vec) : dot ((List.range x.length).map fun _ => 0) x = 0 := by
  rw [dot_map_range]
  exact Common.sum_map_eq_zero fun j _ => Rat.zero_mul _

/-- the product with a unit vector picks an entry -/
theorem dot_indicator (b : Nat) (x : Vec) :
    dot ((List.range x.length).map fun j => if b = j then 1 else 0) x = x.getD b 0 := by
  rw [dot_map_range]
  by_cases h : b < x.length
  · rw [Common.sum_map_single List.nodup_range (List.mem_range.2 h) fun j _ hj => by rw [if_neg (Ne.symm hj), Rat.zero_mul],
      if_pos rfl, Rat.one_mul]
  · rw [Common.sum_map_eq_zero fun j hj => by
        rw [if_neg fun (e : b = j) => h (e ▸ List.mem_range.1 hj), Rat.zero_mul],
      getD_of_ge _ _ _ (Nat.le_of_not_lt h)]

/-- For pairwise distinct range indices the projection matrix is the 0/1 matrix of the partial function
    `r ↦ assoc r ran dom` (in general an entry counts the pairs). -/
theorem countPair_eq_assoc (r j : Nat) (rs ds : List Nat) (hnd : rs.Nodup) :
    countPair r j rs ds = if assoc r rs ds = some j then 1 else 0 := by
  induction rs generalizing ds with
  | nil => rfl
  | cons a rs ih =>
    cases ds with
    | nil => rfl
    | cons b ds =>
      obtain ⟨hna, hnd'⟩ := List.nodup_cons.mp hnd
      rw [countPair, assoc, ih ds hnd']
      by_cases e : a = r
      · subst e
        simp [assoc_none_of_not_mem _ _ _ hna]
      · simp [e]

/-- Row `r` of the projection matrix times `x` is the entry of `x` selected for `r`, if any. -/
theorem projRow_dot (r : Nat) (rs ds : List Nat) (hnd : rs.Nodup) (x : Vec) :
    dot ((List.range x.length).map fun j => countPair r j rs ds) x = ((assoc r rs ds).map (x.getD · 0)).getD 0 := by
  simp only [countPair_eq_assoc r _ rs ds hnd]
  cases assoc r rs ds with
  | none => exact dot_map_zero x
  | some b => simp only [Option.some.injEq]; exact dot_indicator b x

theorem matVec_getD (M : Mat) (v : Vec) (r : Nat) (h : r < M.length) : (matVec M v).getD r 0 = dot M[r] v := by
  simp [matVec, h]

theorem projMatrix_length (c : Core) (n : Nat) : (projMatrix c n).length = c.ranSize := by simp [projMatrix]

/-- `P · x`, entry by entry: the entry of `x` selected for `r`, if any (distinct range indices only). -/
theorem projMatrix_matVec (c : Core) (hnd : c.ran.Nodup) (x : Vec) :
    matVec (projMatrix c x.length) x
      = (List.range c.ranSize).map fun r => ((assoc r c.ran c.dom).map (x.getD · 0)).getD 0 := by
  rw [matVec, projMatrix, List.map_map]
  exact List.map_congr_left fun r _ => projRow_dot r _ _ hnd x

/-- Slicing a vector = multiplying by the explicit projection matrix. -/
theorem sliceVec_eq (c : Core) (hwf : c.WF) (x : Vec) : sliceRows c x 0 = projVec c x := by
  rw [sliceRows_eq_scatter c hwf, projVec, scatter_gather _ _ _ hwf.2.1 hwf.2.2.1, projMatrix_matVec c hwf.2.1]

theorem col_length (t : Nat) (X : Mat) : (col t X).length = X.length := List.length_map _

/-- rows tabulated over `range m` have `m` entries (products, dense rows, projection matrices) -/
theorem rows_tabulated {α β} (l : List α) (m : Nat) (f : α → Nat → β) :
    ∀ row ∈ l.map (fun a => (List.range m).map (f a)), row.length = m := by
  intro row h
  obtain ⟨_, _, rfl⟩ := List.mem_map.mp h
  rw [List.length_map, List.length_range]

theorem matMul_row_length (M X : Mat) (m : Nat) : ∀ row ∈ matMul M X m, row.length = m :=
  rows_tabulated M m _

/-- the `j`-th entries of the columns of a rectangular matrix form its row `j` (the zero row beyond the last) -/
theorem row_of_cols (X : Mat) (m : Nat) (hX : ∀ row ∈ X, row.length = m) (j : Nat) :
    (List.range m).map (fun t => (col t X).getD j 0) = X.getD j (List.replicate m 0) := by
  by_cases h : j < X.length
  · rw [getD_of_lt _ _ _ h, ← hX _ (List.getElem_mem h)]
    conv => rhs; rw [← Common.map_range_getD X[j] 0]
    exact List.map_congr_left fun t _ => by rw [col, getD_of_lt _ _ _ (by simpa using h), List.getElem_map]
  · have h := Nat.le_of_not_lt h
    have hc : ∀ t, (col t X).getD j 0 = 0 := fun t => getD_of_ge _ _ _ (by rw [col_length]; exact h)
    simp only [hc, getD_of_ge _ _ _ h, List.map_const', List.length_range]

/-- `P · X`, row by row: the row of `X` selected for `r`, or the zero row. -/
theorem projMatrix_matMul (c : Core) (hnd : c.ran.Nodup) (X : Mat) (m : Nat) (hX : ∀ row ∈ X, row.length = m) :
    matMul (projMatrix c X.length) X m
      = (List.range c.ranSize).map fun r =>
          ((assoc r c.ran c.dom).map (X.getD · (List.replicate m 0))).getD (List.replicate m 0) := by
  rw [matMul, projMatrix, List.map_map]
  refine List.map_congr_left fun r _ => ?_
  -- a column of `X` has `X.length` entries, so `projRow_dot` applies to it
  have hdot : ∀ t, dot ((List.range X.length).map fun j => countPair r j c.ran c.dom) (col t X)
      = ((assoc r c.ran c.dom).map ((col t X).getD · 0)).getD 0 := fun t => by
    have := projRow_dot r c.ran c.dom hnd (col t X)
    rwa [col_length] at this
  simp only [Function.comp, hdot]
  cases assoc r c.ran c.dom with
  | none => simp only [Option.map_none, Option.getD_none, List.map_const', List.length_range]
  | some j => exact row_of_cols X m hX j

/-- Slicing a 2-d array = multiplying by the explicit projection matrix. -/
theorem sliceArr_eq (c : Core) (hwf : c.WF) (X : Mat) (m : Nat) (hX : ∀ row ∈ X, row.length = m) :
    sliceRows c X (List.replicate m 0) = projMat c X m := by
  rw [sliceRows_eq_scatter c hwf, projMat, scatter_gather _ _ _ hwf.2.1 hwf.2.2.1, projMatrix_matMul c hwf.2.1 X m hX]

theorem sliceRows_map {α β} (f : α → β) (c : Core) (x : List α) (z : α) :
    (sliceRows c x z).map (List.map f) = sliceRows c (x.map f) (f z) := by
  unfold sliceRows
  rw [List.length_map, ← gather_map f c.dom x z, ← List.map_replicate, ← scatter_map]
  simp only [apply_ite (Except.map (List.map f))]
  rfl

end PorepyVerif.C36
