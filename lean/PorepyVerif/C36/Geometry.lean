/-
C36 — geometries: the sizes the constructor computes, good implies well-formed, transposed geometries and matrices,
slicers without operand operations as chains of geometries.
-/
import PorepyVerif.C36.Lemmas
import PorepyVerif.Common.List

namespace PorepyVerif.C36

theorem Core.Good.transpose {c : Core} (h : c.Good) : c.transpose.Good := by
  obtain ⟨⟨hlen, hnd, hb, _⟩, hdn, hdb⟩ := h
  refine ⟨⟨hlen.symm, hdn, hdb, ?_⟩, hnd, hb⟩
  intro ho; cases ho

theorem maxL_spec (l : List Nat) (m : Nat) (h : maxL l = some m) : m ∈ l ∧ ∀ a ∈ l, a ≤ m := by
  induction l generalizing m with
  | nil => cases h
  | cons a l ih =>
    simp only [maxL] at h
    cases hl : maxL l with
    | none =>
      rw [hl] at h
      cases l with
      | nil => cases h; simp
      | cons b l =>
        simp only [maxL] at hl
        cases h' : maxL l <;> rw [h'] at hl <;> cases hl
    | some m' =>
      rw [hl] at h
      obtain ⟨hm, hle⟩ := ih m' hl
      simp only [Option.some.injEq] at h
      by_cases hlt : a < m'
      · rw [if_pos hlt] at h; subst h
        refine ⟨List.mem_cons_of_mem _ hm, ?_⟩
        intro b hb
        rcases List.mem_cons.mp hb with rfl | hb
        · omega
        · exact hle b hb
      · rw [if_neg hlt] at h; subst h
        refine ⟨List.mem_cons_self, ?_⟩
        intro b hb
        rcases List.mem_cons.mp hb with rfl | hb
        · omega
        · have := hle b hb; omega

/-- A size left out is one more than the largest index. -/
theorem sizeOr_none {idx : List Nat} {n : Nat} (h : sizeOr none idx = .ok n) :
    ∃ m ∈ idx, n = m + 1 ∧ ∀ a ∈ idx, a ≤ m := by
  simp only [sizeOr] at h
  cases hm : maxL idx with
  | none => rw [hm] at h; cases h
  | some m => rw [hm] at h; cases h; exact ⟨m, (maxL_spec idx m hm).1, rfl, (maxL_spec idx m hm).2⟩

theorem sizeOr_bound (size? : Option Nat) (idx : List Nat) (n : Nat) (h : sizeOr size? idx = .ok n)
    (hs : ∀ k, size? = some k → ∀ a ∈ idx, a < k) : ∀ a ∈ idx, a < n := by
  cases size? with
  | some k => cases h; exact hs _ rfl
  | none =>
    obtain ⟨m, _, rfl, hle⟩ := sizeOr_none h
    exact fun a ha => Nat.lt_succ_of_le (hle a ha)

theorem sizeOr_range (k n : Nat) (h : sizeOr none (List.range k) = .ok n) : n = k := by
  obtain ⟨m, hm, rfl, hle⟩ := sizeOr_none h
  have hlt : m < k := List.mem_range.mp hm
  cases k with
  | zero => cases hlt
  | succ k => exact congrArg (· + 1) (Nat.le_antisymm (Nat.le_of_lt_succ hlt) (hle k (List.mem_range.mpr (Nat.lt_succ_self k))))

theorem Step.Good.wf {s : Step} (h : s.Good) : s.WF := by
  cases s with
  | proj c => exact h.1
  | left a op => trivial

theorem Slicer.Good.wf {S : Slicer} (h : S.Good) : S.WF := ⟨h.1.1, fun s hs => (h.2 s hs).wf⟩

theorem countPair_symm (r j : Nat) (rs ds : List Nat) : countPair r j rs ds = countPair j r ds rs := by
  induction rs generalizing ds with
  | nil => cases ds <;> rfl
  | cons a rs ih =>
    cases ds with
    | nil => rfl
    | cons b ds =>
      simp only [countPair, ih ds, and_comm]

theorem stepCores_eq (ss : List Step) (cs : List Core) (h : stepCores ss = some cs) : ss = cs.map .proj := by
  fun_induction stepCores ss generalizing cs with
  | case1 => cases h; rfl
  | case2 c ss ih =>
    obtain ⟨cs', h', rfl⟩ := Option.map_eq_some_iff.mp h
    rw [List.map_cons, ← ih cs' h']
  | case3 => cases h

theorem stepCores_map (cs : List Core) : stepCores (cs.map .proj) = some cs := by
  induction cs with
  | nil => rfl
  | cons c cs ih => simp [stepCores, ih]

theorem stepCores_append (a b : List Step) :
    stepCores (a ++ b) = (stepCores a).bind fun ca => (stepCores b).map (ca ++ ·) := by
  induction a with
  | nil => cases h : stepCores b <;> simp [stepCores, h]
  | cons s a ih =>
    cases s with
    | left x op => rfl
    | proj c =>
      simp only [List.cons_append, stepCores, ih]
      cases stepCores a <;> cases stepCores b <;> rfl

/-- a non-empty chain of geometries is a slicer -/
theorem ofCores_reverse_cons (c : Core) (cs : List Core) (f : Core → Core) :
    ∃ T, ofCores ((c :: cs).reverse.map f) = some T := by
  generalize h : (c :: cs).reverse.map f = A
  cases A with
  | nil => simp at h
  | cons a A => exact ⟨_, rfl⟩

theorem ofCores_append {a b : List Core} {T₀ T₁ : Slicer} (h₀ : ofCores a = some T₀) (h₁ : ofCores b = some T₁) :
    ofCores (a ++ b) = some (chain T₁ T₀) := by
  cases a with
  | nil => cases h₀
  | cons a as =>
    cases b with
    | nil => cases h₁
    | cons b bs =>
      cases h₀; cases h₁
      simp only [List.cons_append, ofCores, chain, List.map_append, List.map_cons]

theorem transposeMat_length (M : Mat) (n : Nat) : (transposeMat M n).length = n := by
  rw [transposeMat, List.length_map, List.length_range]

theorem transposeMat_transposeMat (M : Mat) (n : Nat) (hM : ∀ row ∈ M, row.length = n) :
    transposeMat (transposeMat M n) M.length = M := by
  conv => rhs; rw [← Common.map_range_getD M (List.replicate n 0)]
  simp only [transposeMat]
  refine List.map_congr_left fun i _ => ?_
  -- row `i` of the double transpose consists of the `i`-th entries of the columns
  rw [← row_of_cols M n hM i, col, List.map_map]
  rfl

theorem projMatrix_row_length (c : Core) (n : Nat) : ∀ row ∈ projMatrix c n, row.length = n :=
  rows_tabulated _ n _

end PorepyVerif.C36
