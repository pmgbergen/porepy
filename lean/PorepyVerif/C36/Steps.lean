/-
C36 — the steps of a slicer observed densely: the slicing itself (`applyCore_obs`), an operand operation and a sequence
of pending steps equal their specification; operand operations keep 2-d data rectangular.
-/
import PorepyVerif.C36.Csr
import PorepyVerif.Common.Except

namespace PorepyVerif.C36

theorem mapE_length {α β} (f : α → Except Err β) (l : List α) (l' : List β) (h : mapE f l = .ok l') :
    l'.length = l.length := by
  fun_induction mapE f l generalizing l' with
  | case1 => cases h; rfl
  | case2 a l e hfa => cases h
  | case3 a l b hfa e hl => cases h
  | case4 a l b hfa bs hl ih => cases h; rw [List.length_cons, List.length_cons, ih bs hl]

theorem mapE_mem {α β} (f : α → Except Err β) (l : List α) (l' : List β) (h : mapE f l = .ok l') (b : β) (hb : b ∈ l') :
    ∃ a ∈ l, f a = .ok b := by
  fun_induction mapE f l generalizing l' with
  | case1 => cases h; cases hb
  | case2 a l e hfa => cases h
  | case3 a l b hfa e hl => cases h
  | case4 a l b₀ hfa bs hl ih =>
    cases h
    rcases List.mem_cons.mp hb with rfl | hb
    · exact ⟨a, List.mem_cons_self, hfa⟩
    · obtain ⟨a', ha', hf⟩ := ih bs hl hb
      exact ⟨a', List.mem_cons_of_mem _ ha', hf⟩

theorem projMat_shaped (c : Core) (X Y : Mat) (m : Nat) (h : projMat c X m = .ok Y) : ∀ row ∈ Y, row.length = m := by
  unfold projMat at h
  split at h
  · cases h; exact matMul_row_length _ _ _
  · cases h

theorem obs_ofD (d : DVal) : obs (ofD d) = d := by cases d <;> rfl

/-- Slicing a sparse matrix, seen through any function `k` of the column count and the dense content. -/
theorem sliceSp_eq {β} (c : Core) (hwf : c.WF) (M : SpMat) (hM : ∀ row ∈ M.toDense, row.length = M.ncols)
    (k : Nat → Mat → β) :
    (sliceSp c M).map (fun B => k B.ncols B.toDense) = (projMat c M.toDense M.ncols).map (k M.ncols) := by
  cases M with
  | raw A =>
    show (SpMat.raw <$> sliceCsr c A).map _ = (projMat c A.toDense A.ncols).map _
    rw [← sliceCsr_toDense c hwf A]
    cases h : sliceCsr c A with
    | error e => rfl
    | ok B => exact congrArg (fun n => Except.ok (k n B.toDense)) (sliceCsr_ncols c A B h)
  | dense m X =>
    show (SpMat.dense m <$> sliceRows c X (List.replicate m 0)).map _ = (projMat c X m).map _
    rw [← sliceArr_eq c hwf X m hM]
    cases sliceRows c X (List.replicate m 0) <;> rfl

theorem spMat_shaped_raw (A : Csr) : ∀ row ∈ (SpMat.raw A).toDense, row.length = (SpMat.raw A).ncols :=
  toDense_row_length A

/-- One slicing step, observed densely, is the product with the explicit projection matrix — for every
    operand type. -/
theorem applyCore_obs (c : Core) (hwf : c.WF) (y : Val) (hy : y.Shaped) :
    (applyCore c y).map obs = specCore c (obs y) := by
  cases y with
  | scal a | vec v =>
    simp only [applyCore, specCore, obs, ← sliceVec_eq c hwf]
    generalize sliceRows c _ (0 : Rat) = r
    cases r <;> rfl
  | arr m X =>
    simp only [applyCore, specCore, obs, ← sliceArr_eq c hwf X m hy]
    cases sliceRows c X (List.replicate m 0) <;> rfl
  | sp M =>
    calc (applyCore c (.sp M)).map obs
        = (sliceSp c M).map (fun B => DVal.sp B.ncols B.toDense) := by
          simp only [applyCore]; cases sliceSp c M <;> rfl
      _ = (projMat c M.toDense M.ncols).map (DVal.sp M.ncols) := sliceSp_eq c hwf M hy DVal.sp
  | ad v J =>
    simp only [applyCore, specCore, obs, ← sliceVec_eq c hwf]
    cases sliceRows c v 0 with
    | error e => rfl
    | ok v' =>
      calc ((sliceSp c J >>= fun J' => pure (Val.ad v' J')) : Except Err Val).map obs
          = (sliceSp c J).map (fun B => DVal.ad v' B.ncols B.toDense) := by cases sliceSp c J <;> rfl
        _ = (projMat c J.toDense J.ncols).map (DVal.ad v' J.ncols) := sliceSp_eq c hwf J hy (DVal.ad v')
        _ = _ := by cases projMat c J.toDense J.ncols <;> rfl

theorem specCore_shaped (c : Core) (d d' : DVal) (h : specCore c d = .ok d') : d'.Shaped := by
  cases d with
  | scal a | vec v => obtain ⟨_, _, rfl⟩ := Common.map_eq_ok.1 h; trivial
  | arr m X | sp m X => obtain ⟨Y, hY, rfl⟩ := Common.map_eq_ok.1 h; exact projMat_shaped c X Y m hY
  | ad v m J =>
    obtain ⟨v', _, h⟩ := Common.bind_eq_ok.1 h
    obtain ⟨Y, hY, h⟩ := Common.bind_eq_ok.1 h
    cases h
    exact projMat_shaped c J Y m hY

theorem rows_map_map {α} (f : α → α) (J : List (List α)) (m : Nat) (hJ : ∀ row ∈ J, row.length = m) :
    ∀ row ∈ J.map (List.map f), row.length = m := by
  intro row h
  obtain ⟨row0, h0, rfl⟩ := List.mem_map.mp h
  rw [List.length_map]
  exact hJ row0 h0

theorem scaleRows_shaped (cs : Vec) (J : Mat) (m : Nat) (hJ : ∀ row ∈ J, row.length = m) :
    ∀ row ∈ scaleRows cs J, row.length = m := by
  intro row h
  obtain ⟨i, hi, rfl⟩ := List.getElem_of_mem h
  simp only [scaleRows, List.getElem_zipWith, List.length_map]
  exact hJ _ (List.getElem_mem _)

theorem divAd_shaped (s : Rat) (v : Vec) (m : Nat) (J : Mat) (d' : DVal) (hJ : ∀ row ∈ J, row.length = m)
    (h : divAd s v m J = .ok d') : d'.Shaped := by
  unfold divAd at h
  split at h
  · cases h
  · cases h; exact scaleRows_shaped _ J m hJ

theorem powAd_shaped (s L : Rat) (v : Vec) (m : Nat) (J : Mat) (d' : DVal) (hJ : ∀ row ∈ J, row.length = m)
    (h : powAd s L v m J = .ok d') : d'.Shaped := by
  unfold powAd at h
  split at h
  · cases h
  · cases h; exact scaleRows_shaped _ J m hJ

/-- Operand operations keep 2-d data rectangular: a result is a number, a 1-d array, a product `M · X`, or comes from
    the rows of the operand by an entrywise map. -/
theorem specLeft₀_shaped (op : BinOp) (a : Const) (d d' : DVal) (hd : d.Shaped) (h : specLeft₀ op a d = .ok d') :
    d'.Shaped := by
  revert h
  fun_cases specLeft₀ op a d
  all_goals intro h
  -- alternatives that fail are done, those with an explicit result have it put in for `d'`
  any_goals cases h
  -- number ∘ number, 1-d array, 2-d array
  · obtain ⟨_, _, rfl⟩ := Common.map_eq_ok.1 h; trivial
  · obtain ⟨_, _, rfl⟩ := Common.map_eq_ok.1 h; trivial
  · obtain ⟨X', hX', rfl⟩ := Common.map_eq_ok.1 h
    intro row hrow
    obtain ⟨row0, hrow0, hf⟩ := mapE_mem _ _ _ hX' row hrow
    rw [mapE_length _ _ _ hf]
    exact hd row0 hrow0
  -- number `*` sparse matrix; number `+ - * /` AdArray
  · exact rows_map_map _ _ _ hd
  · exact hd
  · exact rows_map_map _ _ _ hd
  · exact rows_map_map _ _ _ hd
  · exact divAd_shaped _ _ _ _ _ hd h
  -- 1-d array ∘ …
  · trivial
  · trivial
  · obtain ⟨_, _, rfl⟩ := Common.map_eq_ok.1 h; trivial
  -- matrix @ …
  · trivial
  · exact matMul_row_length _ _ _
  · exact matMul_row_length _ _ _
  · exact matMul_row_length _ _ _

theorem specLeft_shaped (op : BinOp) (a : Const) (d d' : DVal) (hd : d.Shaped) (h : specLeft op a d = .ok d') :
    d'.Shaped := by
  unfold specLeft at h
  split at h
  · exact powAd_shaped _ _ _ _ _ _ hd h
  · exact specLeft₀_shaped _ _ _ _ hd h
  · exact specLeft₀_shaped _ _ _ _ hd h

theorem applySteps_append (s₁ s₂ : List Step) (z : Val) :
    applySteps (s₁ ++ s₂) z = applySteps s₁ z >>= applySteps s₂ := by
  induction s₁ generalizing z with
  | nil => rfl
  | cons s ss ih => simp only [List.cons_append, applySteps, ih, bind_assoc]

theorem specSteps_append (s₁ s₂ : List Step) (z : DVal) :
    specSteps (s₁ ++ s₂) z = specSteps s₁ z >>= specSteps s₂ := by
  induction s₁ generalizing z with
  | nil => rfl
  | cons s ss ih => simp only [List.cons_append, specSteps, ih, bind_assoc]

theorem applyLeft_obs (op : BinOp) (a : Const) (z : Val) : (applyLeft op a z).map obs = specLeft op a (obs z) := by
  unfold applyLeft
  cases specLeft op a (obs z) with
  | error e => rfl
  | ok d => exact congrArg Except.ok (obs_ofD d)

theorem applyStep_obs (s : Step) (hs : s.WF) (z : Val) (hz : z.Shaped) :
    (applyStep s z).map obs = specStep s (obs z) := by
  cases s with
  | proj c => exact applyCore_obs c hs z hz
  | left a op => exact applyLeft_obs op a z

theorem specStep_shaped (s : Step) (d d' : DVal) (hd : d.Shaped) (h : specStep s d = .ok d') : d'.Shaped := by
  cases s with
  | proj c => exact specCore_shaped c d d' h
  | left a op => exact specLeft_shaped op a d d' hd h

theorem applySteps_obs (ss : List Step) (hs : ∀ s ∈ ss, s.WF) (z : Val) (hz : z.Shaped) :
    (applySteps ss z).map obs = specSteps ss (obs z) := by
  induction ss generalizing z with
  | nil => rfl
  | cons s ss ih =>
    have h1 := applyStep_obs s (hs s List.mem_cons_self) z hz
    refine map_bind_congr obs obs h1 fun z' hz' => ?_
    rw [hz'] at h1
    exact ih (fun s' h' => hs s' (List.mem_cons_of_mem _ h')) z' (specStep_shaped s (obs z) (obs z') hz h1.symm)

/-- Steps appended to the pending list are applied to the result of the slicer as it was. -/
theorem apply_append (c : Core) (ss ss' : List Step) (y : Val) :
    Slicer.apply ⟨c, ss ++ ss'⟩ y = Slicer.apply ⟨c, ss⟩ y >>= applySteps ss' := by
  simp only [Slicer.apply, applySteps_append, bind_assoc]

theorem apply_plain_vec (c : Core) (h : c.WF) (x : Vec) :
    Slicer.apply { core := c, pending := [] } (.vec x) = (do let u ← projVec c x; pure (Val.vec u)) := by
  simp only [Slicer.apply, applyCore, sliceVec_eq c h]
  cases projVec c x <;> rfl

end PorepyVerif.C36
