/-
C36 — `_slice_matrix` on raw CSR storage: the arrays it produces list, row by row, the stored entries of the selected
rows (`sliceCsr_rows`), hence their dense content is the product with the projection matrix (`sliceCsr_toDense`).
-/
import PorepyVerif.C36.Lemmas
import PorepyVerif.Common.InsSort
import PorepyVerif.Common.List

namespace PorepyVerif.C36

theorem cumsum_length (l : List Nat) (acc : Nat) : (cumsum l acc).length = l.length := by
  induction l generalizing acc with
  | nil => rfl
  | cons a l ih => simp [cumsum, ih]

theorem Csr.rows_length (A : Csr) : A.rows.length = A.nrows := by simp [Csr.rows]

theorem seg_length (A : Csr) (i : Nat) : (A.seg i).length = A.rowCount i := List.length_range'

/-- Row `i` of a CSR matrix (also beyond the last row, where it is empty). -/
theorem Csr.rows_getD (A : Csr) (i : Nat) : A.rows.getD i [] = (A.seg i).map A.entry := by
  by_cases h : i < A.nrows
  · rw [getD_of_lt _ _ _ (by simpa [Csr.rows] using h)]
    simp [Csr.rows]
  · rw [getD_of_ge _ _ _ (by simpa [Csr.rows] using Nat.le_of_not_lt h)]
    have h1 : A.indptr.length ≤ i + 1 := by unfold Csr.nrows at h; omega
    have h2 : A.rowCount i = 0 := by
      unfold Csr.rowCount
      rw [getD_of_ge _ _ _ h1]; omega
    simp [Csr.seg, h2]

theorem map_range'_getD_append {β} (d : β) (pre l rest : List β) :
    (List.range' pre.length l.length).map (fun p => (pre ++ l ++ rest).getD p d) = l := by
  induction l generalizing pre with
  | nil => rfl
  | cons a l ih =>
    have := ih (pre ++ [a])
    rw [List.length_append, List.length_singleton, List.append_assoc pre [a] l, List.singleton_append] at this
    rw [List.length_cons, List.range'_succ, List.map_cons, this]
    congr 1
    simp

/-- Cutting `pre ++ L.flatten` at the running sums of the lengths of `L` gives back `L`. -/
theorem segs_of_cumsum {β} (d : β) (L : List (List β)) (pre : List β) (ptr : List Nat)
    (hptr : ptr = pre.length :: cumsum (L.map List.length) pre.length) :
    (List.range L.length).map (fun i =>
        (List.range' (ptr.getD i 0) (ptr.getD (i + 1) 0 - ptr.getD i 0)).map (fun p => (pre ++ L.flatten).getD p d))
      = L := by
  subst hptr
  induction L generalizing pre with
  | nil => rfl
  | cons l L ih =>
    rw [List.length_cons, List.range_succ_eq_map, List.map_cons, List.map_map]
    congr 1
    · simp only [List.map_cons, cumsum, List.getD_cons_zero, List.getD_cons_succ, List.flatten_cons]
      rw [Nat.add_sub_cancel_left, ← List.append_assoc]
      exact map_range'_getD_append d pre l L.flatten
    · have := ih (pre ++ l)
      simp only [List.length_append] at this
      conv => rhs; rw [← this]
      apply List.map_congr_left
      intro i _
      simp only [Function.comp, Nat.succ_eq_add_one, List.map_cons, cumsum, List.getD_cons_succ, List.flatten_cons,
        List.append_assoc]

theorem pack_entry (A : Csr) (pos : List Nat) (indptr : List Nat) (p : Nat) :
    Csr.entry { ncols := A.ncols, indptr := indptr, indices := pos.map (fun p => A.indices.getD p 0),
                data := pos.map (fun p => A.data.getD p 0) } p = (pos.map A.entry).getD p (0, 0) := by
  simp only [Csr.entry, List.getD_eq_getElem?_getD, List.getElem?_map]
  cases pos[p]? <;> rfl

/-- The rows of `pack` when the row pointer is the running sum of the segment lengths. -/
theorem pack_rows (A : Csr) (L : List (List Nat)) (rows : List Nat) (hflat : rows.flatMap A.seg = L.flatten) :
    (A.pack rows (0 :: cumsum (L.map List.length) 0)).rows = L.map (fun l => l.map A.entry) := by
  have hseg := segs_of_cumsum ((0 : Nat), (0 : Rat)) (L.map (fun l => l.map A.entry)) [] _ rfl
  simp only [List.length_nil, List.length_map, List.map_map, List.nil_append] at hseg
  have hlen : (List.length ∘ fun (l : List Nat) => List.map A.entry l) = List.length := by
    funext l; simp
  rw [hlen] at hseg
  conv => rhs; rw [← hseg]
  simp only [Csr.rows, Csr.pack, Csr.nrows, List.length_cons, cumsum_length, List.length_map, Nat.add_sub_cancel]
  apply List.map_congr_left
  intro i _
  simp only [Csr.seg, Csr.rowStart, Csr.rowCount]
  apply List.map_congr_left
  intro p _
  rw [pack_entry, hflat, List.map_flatten]

theorem map_seg_length (A : Csr) (dom : List Nat) : (dom.map A.seg).map List.length = dom.map A.rowCount := by
  rw [List.map_map]
  exact List.map_congr_left fun j _ => seg_length A j

theorem gather_rows (A : Csr) (dom : List Nat) :
    gather dom A.rows [] = (dom.map A.seg).map (fun l => l.map A.entry) := by
  simp only [gather, List.map_map]
  exact List.map_congr_left fun j _ => Csr.rows_getD A j

theorem sliceCsrOnto_rows (A : Csr) (dom : List Nat) : (sliceCsrOnto dom A).rows = gather dom A.rows [] := by
  rw [gather_rows, sliceCsrOnto, ← map_seg_length]
  exact pack_rows A (dom.map A.seg) dom List.flatMap_def

theorem insSort (key : Nat → Nat) :
    Common.InsSort (fun a b => key a ≤ key b) (insertByKey key) (fun l => l.foldr (insertByKey key) []) :=
  .of_ite Nat.le_trans Nat.le_of_not_le (fun _ => rfl) (fun _ _ _ => rfl) rfl (fun _ _ => rfl)

theorem argsort_perm (xs : List Nat) : (argsort xs).Perm (List.range xs.length) := (insSort _).perm _

theorem argsort_sorted (xs : List Nat) : (argsort xs).Pairwise (fun a b => xs.getD a 0 ≤ xs.getD b 0) :=
  (insSort _).sorted _

/-- the keys in argsort order are strictly increasing when they are pairwise distinct -/
theorem argsort_strict (xs : List Nat) (hnd : xs.Nodup) :
    ((argsort xs).map (fun k => xs.getD k 0)).Pairwise (· < ·) := by
  have hs : ((argsort xs).map (fun k => xs.getD k 0)).Pairwise (· ≤ ·) := List.pairwise_map.mpr (argsort_sorted xs)
  have hp : ((argsort xs).map (fun k => xs.getD k 0)).Perm xs := by
    have := (argsort_perm xs).map (fun k => xs.getD k 0)
    rwa [Common.map_range_getD] at this
  exact Common.strict_of_sorted_nodup hs (hp.nodup_iff.mpr hnd)

/-- Assignments to pairwise distinct indices can be made in any order. -/
theorem scatter_perm {α} (key : Nat → Nat) (g : Nat → α) (l₁ l₂ : List Nat) (hp : l₁.Perm l₂)
    (hnd : (l₁.map key).Nodup) (acc : List α) :
    scatter (l₁.map key) (l₁.map g) acc = scatter (l₂.map key) (l₂.map g) acc := by
  induction hp generalizing acc with
  | nil => rfl
  | cons x _ ih => exact ih (List.nodup_cons.mp hnd).2 _
  | swap x y l =>
    have hne : key y ≠ key x := fun e => (List.nodup_cons.mp hnd).1 (e ▸ List.mem_cons_self)
    simp only [List.map_cons, scatter]
    rw [List.set_comm _ _ hne]
  | trans h1 _ ih1 ih2 =>
    rw [ih1 hnd acc]
    exact ih2 ((h1.map key).nodup_iff.mp hnd) acc

/-- Assigning in argsort order is assigning in the given order, for pairwise distinct indices. -/
theorem scatter_argsort {α} (xs : List Nat) (hnd : xs.Nodup) (vs : List α) (d : α) (hl : vs.length = xs.length)
    (acc : List α) :
    scatter ((argsort xs).map fun k => xs.getD k 0) ((argsort xs).map fun k => vs.getD k d) acc
      = scatter xs vs acc := by
  have hkey := Common.map_range_getD xs 0
  have hperm := argsort_perm xs
  rw [scatter_perm _ _ _ _ hperm (by rw [(hperm.map _).nodup_iff, hkey]; exact hnd), hkey, ← hl, Common.map_range_getD]

theorem flatten_set_of_tail_nil {β} (acc : List (List β)) (a : Nat) (v : List β) (ha : a < acc.length)
    (hnil : ∀ l ∈ acc.drop a, l = []) : (acc.set a v).flatten = acc.flatten ++ v := by
  induction acc generalizing a with
  | nil => cases ha
  | cons x acc ih =>
    cases a with
    | zero =>
      obtain ⟨rfl, h'⟩ := List.forall_mem_cons.mp hnil
      rw [List.set_cons_zero, List.flatten_cons, List.flatten_cons, List.flatten_eq_nil_iff.mpr h']
      simp
    | succ a =>
      rw [List.set_cons_succ, List.flatten_cons, List.flatten_cons, ih a (Nat.lt_of_succ_lt_succ ha) hnil,
        List.append_assoc]

/-- Filling empty rows in increasing order of their indices concatenates the segments in that order. -/
theorem flatten_scatter_sorted {β} (rs : List Nat) (vs acc : List (List β)) (lo : Nat)
    (hs : rs.Pairwise (· < ·)) (hlo : ∀ a ∈ rs, lo ≤ a) (hb : ∀ a ∈ rs, a < acc.length)
    (hlen : rs.length = vs.length) (hnil : ∀ l ∈ acc.drop lo, l = []) :
    (scatter rs vs acc).flatten = acc.flatten ++ vs.flatten := by
  induction rs generalizing vs acc lo with
  | nil => rw [List.eq_nil_of_length_eq_zero hlen.symm]; exact (List.append_nil _).symm
  | cons a rs ih =>
    cases vs with
    | nil => cases hlen
    | cons v vs =>
      have hs' := List.pairwise_cons.mp hs
      have hla := hlo a List.mem_cons_self
      -- the rows from `a` on are among those from `lo` on
      have hfrom : ∀ k, ∀ l ∈ acc.drop (a + k), l = [] := fun k l hl => hnil l (by
        rw [show a + k = lo + (a + k - lo) by omega, ← List.drop_drop] at hl
        exact List.mem_of_mem_drop hl)
      rw [scatter, ih vs (acc.set a v) (a + 1) hs'.2 hs'.1
        (fun b hb' => by rw [List.length_set]; exact hb b (List.mem_cons_of_mem _ hb')) (Nat.succ.inj hlen)
        (by rw [List.drop_set_of_lt (Nat.lt_succ_self a)]; exact hfrom 1),
        flatten_set_of_tail_nil acc a v (hb a List.mem_cons_self) (hfrom 0),
        List.flatten_cons, List.append_assoc]

theorem sliceCsrScatter_rows (c : Core) (A : Csr) (hlen : c.dom.length = c.ran.length) (hnd : c.ran.Nodup)
    (hb : ∀ r ∈ c.ran, r < c.ranSize) :
    (sliceCsrScatter c A).rows = scatter c.ran (gather c.dom A.rows []) (List.replicate c.ranSize []) := by
  -- the rows of the result, as lists of storage positions
  let L : List (List Nat) := scatter c.ran (c.dom.map A.seg) (List.replicate c.ranSize [])
  have hLlen : L.map List.length = scatter c.ran (c.dom.map A.rowCount) (List.replicate c.ranSize 0) := by
    rw [scatter_map, map_seg_length, List.map_replicate]; rfl
  -- (1) the per-row counts, written at `ran + 1` in argsort order, are `0 :: lengths of the rows`
  have hnum : scatter ((argsort c.ran).map (fun k => c.ran.getD k 0 + 1))
        ((argsort c.ran).map (fun k => (c.dom.map A.rowCount).getD k 0)) (List.replicate (c.ranSize + 1) 0)
      = 0 :: L.map List.length := by
    rw [hLlen, ← scatter_argsort c.ran hnd _ 0 (by rw [List.length_map, hlen]), ← scatter_succ, List.map_map]
    rfl
  -- (2) the gathered positions, in argsort order, are the concatenation of the rows
  have hpos : ((argsort c.ran).map (fun k => c.dom.getD k 0)).flatMap A.seg = L.flatten := by
    have hL : L = scatter ((argsort c.ran).map fun k => c.ran.getD k 0)
        (((argsort c.ran).map fun k => c.dom.getD k 0).map A.seg) (List.replicate c.ranSize []) := by
      show scatter c.ran (c.dom.map A.seg) _ = _
      rw [← scatter_argsort c.ran hnd (c.dom.map A.seg) (A.seg 0) (by rw [List.length_map, hlen]), List.map_map]
      congr 2
      funext k
      exact getD_map' A.seg c.dom k 0
    rw [hL, flatten_scatter_sorted _ _ _ 0 (argsort_strict c.ran hnd) (fun _ _ => Nat.zero_le _)
      (by
        intro a ha
        obtain ⟨k, hk, rfl⟩ := List.mem_map.mp ha
        have hk' : k < c.ran.length := List.mem_range.mp ((argsort_perm c.ran).mem_iff.mp hk)
        rw [List.length_replicate, getD_of_lt _ _ _ hk']
        exact hb _ (List.getElem_mem hk'))
      (by simp only [List.length_map]) (fun l hl => List.eq_of_mem_replicate hl),
      List.flatten_eq_nil_iff.mpr fun l hl => List.eq_of_mem_replicate hl, List.nil_append, List.flatMap_def]
  have hrows := pack_rows A L _ hpos
  unfold sliceCsrScatter
  simp only []
  rw [hnum, show cumsum (0 :: L.map List.length) 0 = 0 :: cumsum (L.map List.length) 0 from rfl, hrows]
  show List.map (fun l => List.map A.entry l) (scatter _ _ _) = _
  rw [scatter_map, List.map_replicate, gather_rows]
  rfl

theorem denseRow_nil (n : Nat) : denseRow n [] = List.replicate n 0 := by
  simp only [denseRow, entrySum, List.map_const', List.length_range]

theorem toDense_row_length (A : Csr) : ∀ row ∈ A.toDense, row.length = A.ncols :=
  rows_tabulated A.rows A.ncols fun es j => entrySum j es

theorem toDense_length (A : Csr) : A.toDense.length = A.nrows := by simp [Csr.toDense, Csr.rows]

/-- Storage-level statement: the rows of the sliced CSR arrays are the selected rows, entry by entry
    (same stored entries in the same order), or empty rows. -/
theorem sliceCsr_rows (c : Core) (hwf : c.WF) (A : Csr) :
    (sliceCsr c A).map Csr.rows = sliceRows c A.rows [] := by
  obtain ⟨hlen, hnd, hb, _⟩ := hwf
  -- `_slice_matrix` and `_slice_vector` branch alike
  unfold sliceCsr sliceRows
  rw [Csr.rows_length, ← sliceCsrScatter_rows c A hlen hnd hb, ← sliceCsrOnto_rows]
  simp only [apply_ite (Except.map Csr.rows)]
  rfl

theorem sliceCsr_ncols (c : Core) (A B : Csr) (h : sliceCsr c A = .ok B) : B.ncols = A.ncols := by
  -- both `sliceCsrOnto` and `sliceCsrScatter` copy the column count
  have : (sliceCsr c A).map Csr.ncols = (sliceCsr c A).map fun _ => A.ncols := by
    unfold sliceCsr
    simp only [apply_ite (Except.map _)]
    rfl
  rw [h] at this
  exact Except.ok.inj this

/-- Dense-level statement: `toarray()` of the sliced matrix is `P · toarray()` of the matrix. -/
theorem sliceCsr_toDense (c : Core) (hwf : c.WF) (A : Csr) :
    (sliceCsr c A).map Csr.toDense = projMat c A.toDense A.ncols := by
  rw [← sliceArr_eq c hwf A.toDense A.ncols (toDense_row_length A), ← denseRow_nil]
  show _ = sliceRows c (A.rows.map (denseRow A.ncols)) _
  rw [← sliceRows_map, ← sliceCsr_rows c hwf A]
  cases h : sliceCsr c A with
  | error e => rfl
  | ok B =>
    simp only [Except.map, Csr.toDense]
    rw [sliceCsr_ncols c A B h]

end PorepyVerif.C36
