/-
C36 — programs of slicer statements: a slicer whose steps are all well-formed equals its specification, every statement
builds such slicers from such slicers, hence model and specification agree on every such program.
-/
import PorepyVerif.C36.Steps
import PorepyVerif.C36.Geometry
import PorepyVerif.Common.Except

namespace PorepyVerif.C36

/-- A slicer with any pending operations (chains, operand operations, transposed geometries), applied to any
    rectangular operand, equals its specification: explicit projection matrices and the operand operations. -/
theorem slicer_eq_spec_wf (S : Slicer) (hS : S.WF) (y : Val) (hy : y.Shaped) :
    (S.apply y).map obs = S.spec (obs y) := by
  have h1 := applyCore_obs S.core hS.1 y hy
  refine map_bind_congr obs obs h1 fun z hz => ?_
  rw [hz] at h1
  exact applySteps_obs S.pending hS.2 z (specCore_shaped S.core (obs y) (obs z) h1.symm)

theorem slicer_eq_spec (S : Slicer) (hS : S.Good) (y : Val) (hy : y.Shaped) :
    (S.apply y).map obs = S.spec (obs y) :=
  slicer_eq_spec_wf S hS.wf y hy

/-- every step of `S`, the slicing itself included, satisfies `Q` -/
def Slicer.All (Q : Step → Prop) (S : Slicer) : Prop := Q (.proj S.core) ∧ ∀ s ∈ S.pending, Q s

theorem Slicer.good_iff_all (S : Slicer) : S.Good ↔ S.All Step.Good := Iff.rfl

theorem Slicer.wf_iff_all (S : Slicer) : S.WF ↔ S.All Step.WF := Iff.rfl

theorem lookup_inv {Inv : Slicer → Prop} {env : Env} (henv : ∀ p ∈ env, Inv p.2) {i : Nat} {S : Slicer}
    (h : lookup env i = .ok S) : Inv S := by
  unfold lookup at h
  split at h
  · rename_i p hf
    cases h
    exact henv p (List.mem_of_find?_eq_some hf)
  · cases h

theorem ofCores_all {Q : Step → Prop} {cs : List Core} {T : Slicer} (h : ofCores cs = some T)
    (hcs : ∀ c ∈ cs, Q (.proj c)) : T.All Q := by
  cases cs with
  | nil => cases h
  | cons c cs =>
    cases h
    refine ⟨hcs c List.mem_cons_self, fun s hs => ?_⟩
    obtain ⟨c', hc', rfl⟩ := List.mem_map.mp hs
    exact hcs c' (List.mem_cons_of_mem _ hc')

theorem transpose_all {Q : Step → Prop} (hQ : ∀ c, Q (.proj c) → Q (.proj c.transpose)) {S T : Slicer}
    (hS : S.All Q) (h : S.transpose = .ok T) : T.All Q := by
  unfold Slicer.transpose at h
  split at h
  · cases h
  · rename_i cs hcs
    split at h
    · rename_i T' hT'
      cases h
      refine ofCores_all hT' fun c hc => ?_
      obtain ⟨c₀, hc₀, rfl⟩ := List.mem_map.mp hc
      apply hQ
      rcases List.mem_cons.mp (List.mem_reverse.mp hc₀) with rfl | hmem
      · exact hS.1
      · exact hS.2 _ (stepCores_eq _ _ hcs ▸ List.mem_map_of_mem hmem)
    · cases h

theorem transposeProj_all {Q : Step → Prop} (hQ : ∀ c, Q (.proj c) → Q (.proj c.transpose))
    (hclear : ∀ s, Q s → Q s.clearFlag) {S T : Slicer} (hS : S.All Q) (h : S.transposeProj = .ok T) : T.All Q := by
  unfold Slicer.transposeProj at h
  split at h
  · rename_i T' hT'
    cases h
    have hg := transpose_all hQ hS hT'
    refine ⟨hclear _ hg.1, fun s hs => ?_⟩
    obtain ⟨s₀, hs₀, rfl⟩ := List.mem_map.mp hs
    exact hclear _ (hg.2 s₀ hs₀)
  · cases h

/-- Whatever a statement constructs from slicers whose steps all satisfy `Q` has that property again, if `Q`
    holds of constant operands and new geometries, and survives the transpositions the statement performs. -/
theorem build_all {Q : Step → Prop} (hleft : ∀ a op, Q (.left a op)) (hclear : ∀ s, Q s → Q s.clearFlag)
    {env : Env} (henv : ∀ p ∈ env, p.2.All Q) {s : Stmt}
    (hnew : ∀ i d r rs ds c, s = .new i d r rs ds → mkCore d r rs ds = .ok c → Q (.proj c))
    (htr : ∀ i j, s = .transp i j ∨ s = .transpP i j → ∀ c, Q (.proj c) → Q (.proj c.transpose))
    {i : Nat} {S : Slicer} (h : build env s = some (i, .ok S)) : S.All Q := by
  cases s with
  | apply j y => cases h
  | new i' d r rs ds =>
    obtain ⟨c, hc, h⟩ := Common.bind_eq_ok.1 (Prod.mk.inj (Option.some.inj h)).2
    cases h
    exact ⟨hnew _ _ _ _ _ c rfl hc, fun s hs => nomatch hs⟩
  | copy i' j => exact lookup_inv henv (Prod.mk.inj (Option.some.inj h)).2
  | transp i' j =>
    obtain ⟨S', hl, h⟩ := Common.bind_eq_ok.1 (Prod.mk.inj (Option.some.inj h)).2
    exact transpose_all (htr _ _ (.inl rfl)) (lookup_inv henv hl) h
  | transpP i' j =>
    obtain ⟨S', hl, h⟩ := Common.bind_eq_ok.1 (Prod.mk.inj (Option.some.inj h)).2
    exact transposeProj_all (htr _ _ (.inr rfl)) hclear (lookup_inv henv hl) h
  | rop i' j a op =>
    obtain ⟨S', hl, rfl⟩ := Common.map_eq_ok.1 (Prod.mk.inj (Option.some.inj h)).2
    have hg : S'.All Q := lookup_inv henv hl
    exact ⟨hg.1, List.forall_mem_append.mpr ⟨hg.2, List.forall_mem_singleton.mpr (hleft a op)⟩⟩
  | chain i' j k =>
    obtain ⟨S₀, h₀, h⟩ := Common.bind_eq_ok.1 (Prod.mk.inj (Option.some.inj h)).2
    obtain ⟨S₁, h₁, h⟩ := Common.bind_eq_ok.1 h
    cases h
    have g₀ : S₀.All Q := lookup_inv henv h₀
    have g₁ : S₁.All Q := lookup_inv henv h₁
    exact ⟨g₁.1, List.forall_mem_append.mpr ⟨g₁.2, List.forall_mem_cons.mpr g₀⟩⟩

theorem stepWith_inv {Inv : Slicer → Prop} (app : Slicer → Val → Except Err DVal) {env : Env}
    (henv : ∀ p ∈ env, Inv p.2) {s : Stmt} (hb : ∀ i S, build env s = some (i, .ok S) → Inv S) :
    ∀ p ∈ (stepWith app env s).1, Inv p.2 := by
  unfold stepWith
  split
  · exact henv
  · split
    · rename_i i S h
      exact List.forall_mem_cons.mpr ⟨hb i S h, henv⟩
    · exact henv

/-- only `apply` statements depend on how slicers are applied -/
theorem stepWith_congr (app app' : Slicer → Val → Except Err DVal) (env : Env) (s : Stmt)
    (h : ∀ j y, s = .apply j y → (lookup env j >>= fun S => app S y) = (lookup env j >>= fun S => app' S y)) :
    stepWith app env s = stepWith app' env s := by
  cases s with
  | apply j y => exact congrArg (fun o => (env, some o)) (h j y rfl)
  | _ => rfl

/-- Generic program lemma: if an invariant of slicers implies the specification and is preserved by every
    construction the program performs, model and specification produce the same outputs. -/
theorem run_eq_of_inv (Inv : Slicer → Prop) (OK : List Stmt → Prop)
    (htail : ∀ s ss, OK (s :: ss) → OK ss)
    (happly : ∀ j y ss, OK (.apply j y :: ss) → y.Shaped)
    (hspec : ∀ S, Inv S → ∀ y : Val, y.Shaped → (S.apply y).map obs = S.spec (obs y))
    (hbuild : ∀ env : Env, (∀ p ∈ env, Inv p.2) → ∀ s ss, OK (s :: ss) → ∀ i S, build env s = some (i, .ok S) → Inv S)
    (prog : List Stmt) (env : Env) (henv : ∀ p ∈ env, Inv p.2) (hp : OK prog) :
    run env prog = specRun env prog := by
  induction prog generalizing env with
  | nil => rfl
  | cons s ss ih =>
    have hs : stepWith (fun S y => obs <$> S.apply y) env s = stepWith (fun S y => S.spec (obs y)) env s := by
      refine stepWith_congr _ _ env s fun j y e => ?_
      subst e
      cases hl : lookup env j with
      | error e => rfl
      | ok S => exact hspec S (lookup_inv henv hl) y (happly j y ss hp)
    unfold run specRun
    rw [runWith, runWith, hs]
    exact congrArg _ (ih _ (stepWith_inv _ henv (hbuild env henv s ss hp)) (htail s ss hp))

/-- … for invariants of the form `Slicer.All Q`: it is enough that `Q` implies well-formedness, holds of constant
    operands and of the geometries the program constructs, and survives the transpositions the program performs. -/
theorem run_eq_of_all (Q : Step → Prop) (OK : List Stmt → Prop)
    (hwf : ∀ s, Q s → s.WF) (hleft : ∀ a op, Q (.left a op)) (hclear : ∀ s, Q s → Q s.clearFlag)
    (htail : ∀ s ss, OK (s :: ss) → OK ss)
    (happly : ∀ j y ss, OK (.apply j y :: ss) → y.Shaped)
    (hnew : ∀ i d r rs ds ss c, OK (.new i d r rs ds :: ss) → mkCore d r rs ds = .ok c → Q (.proj c))
    (htr : ∀ i j ss, OK (.transp i j :: ss) ∨ OK (.transpP i j :: ss) → ∀ c, Q (.proj c) → Q (.proj c.transpose))
    (prog : List Stmt) (env : Env) (henv : ∀ p ∈ env, p.2.All Q) (hp : OK prog) :
    run env prog = specRun env prog :=
  run_eq_of_inv (Slicer.All Q) OK htail happly
    (fun S hS => slicer_eq_spec_wf S (S.wf_iff_all.mpr ⟨hwf _ hS.1, fun s hs => hwf s (hS.2 s hs)⟩))
    (fun _ henv _ ss hp _ _ h => build_all hleft hclear henv
      (fun i d r rs ds c e => hnew i d r rs ds ss c (e ▸ hp))
      (fun i j e => htr i j ss (e.elim (fun e => .inl (e ▸ hp)) (fun e => .inr (e ▸ hp)))) h)
    prog env henv hp

theorem ProgGood_tail (s : Stmt) (ss : List Stmt) (h : ProgGood (s :: ss)) : ProgGood ss := by
  cases s <;> simp only [ProgGood] at h <;> first | exact h.2 | exact h

theorem Step.clearFlag_good {s : Step} (h : s.Good) : s.clearFlag.Good := by cases s <;> exact h

theorem Step.clearFlag_wf {s : Step} (h : s.WF) : s.clearFlag.WF := by cases s <;> exact h

end PorepyVerif.C36
