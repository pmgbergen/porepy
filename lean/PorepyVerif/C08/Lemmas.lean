/-
C08 — lemmas about the storage model of Model.lean: association lists, the store and its shift loop, the
window, the usage patterns, the un-shift. The data dictionary and the wrappers are in LemmasData.lean, the model
with references in LemmasHeap.lean, the property theorems in Props.lean.
-/
import PorepyVerif.C08.Model

namespace PorepyVerif.C08

theorem nodup_map_cons {α β : Type} {f : α → β} {a : α} {l : List α} (h : ((a :: l).map f).Nodup) :
    f a ∉ l.map f ∧ (l.map f).Nodup := List.nodup_cons.mp h

section assoc
variable {κ : Type} {α : Type} [DecidableEq κ]

theorem alookup_ainsert (s : List (κ × α)) (k j : κ) (v : α) :
    alookup (ainsert s k v) j = if j = k then some v else alookup s j := by
  induction s with
  | nil =>
    by_cases h : j = k
    · subst h; simp [ainsert, alookup]
    · have h' : ¬ k = j := fun e => h e.symm
      simp [ainsert, alookup, h, h']
  | cons p s ih =>
    unfold ainsert
    by_cases hp : p.1 = k
    · rw [if_pos hp]
      by_cases h : j = k
      · subst h; simp [alookup]
      · have h' : ¬ k = j := fun e => h e.symm
        have h'' : ¬ p.1 = j := fun e => h (e.symm.trans hp)
        simp [alookup, h, h', h'']
    · rw [if_neg hp]
      by_cases hj : p.1 = j
      · have h : ¬ j = k := fun e => hp (hj.trans e)
        simp [alookup, hj, h]
      · simp only [alookup, if_neg hj, ih]

theorem mem_keys_iff (s : List (κ × α)) (k : κ) :
    k ∈ s.map (·.1) ↔ (alookup s k).isSome = true := by
  induction s with
  | nil => exact ⟨fun h => (nomatch h), fun h => (nomatch h)⟩
  | cons p s ih =>
    rw [List.map_cons, List.mem_cons, alookup]
    by_cases hp : p.1 = k
    · rw [if_pos hp]; exact ⟨fun _ => rfl, fun _ => Or.inl hp.symm⟩
    · rw [if_neg hp, ← ih]; exact ⟨fun h => h.resolve_left (fun e => hp e.symm), Or.inr⟩

theorem keys_ainsert (s : List (κ × α)) (k : κ) (v : α) :
    (ainsert s k v).map (·.1) = if (alookup s k).isSome then s.map (·.1) else s.map (·.1) ++ [k] := by
  induction s with
  | nil => rfl
  | cons p s ih =>
    unfold ainsert alookup
    by_cases hp : p.1 = k
    · rw [if_pos hp, if_pos hp, List.map_cons, List.map_cons, hp]; rfl
    · rw [if_neg hp, if_neg hp, List.map_cons, ih]
      split <;> rfl

theorem nodup_keys_ainsert (s : List (κ × α)) (k : κ) (v : α) (h : (s.map (·.1)).Nodup) :
    ((ainsert s k v).map (·.1)).Nodup := by
  rw [keys_ainsert]
  split
  · exact h
  · next hk =>
    rw [List.nodup_append]
    exact ⟨h, List.nodup_cons.mpr ⟨List.not_mem_nil, List.nodup_nil⟩, fun a ha b hb e =>
      hk ((mem_keys_iff s k).mp (List.mem_singleton.mp hb ▸ e ▸ ha))⟩

theorem length_ainsert (s : List (κ × α)) (k : κ) (v : α) :
    (ainsert s k v).length = if (alookup s k).isSome then s.length else s.length + 1 := by
  rw [← List.length_map (·.1), keys_ainsert]
  split
  · rw [List.length_map]
  · rw [List.length_append, List.length_map]; rfl

end assoc

/-- histories grow at the end -/
theorem list_reverse_induction {α : Type} {motive : List α → Prop} (nil : motive [])
    (snoc : ∀ l a, motive l → motive (l ++ [a])) : ∀ l, motive l := by
  intro l
  have h : ∀ r : List α, motive r.reverse := by
    intro r
    induction r with
    | nil => exact nil
    | cons a r ih => simpa using snoc _ a ih
  simpa using h l.reverse

theorem lookup_insert (s : Store) (i j : Nat) (v : Val) :
    lookup (insert s i v) j = if j = i then some v else lookup s j :=
  alookup_ainsert s i j v

theorem lookup_insert_self (s : Store) (i : Nat) (v : Val) : lookup (insert s i v) i = some v := by
  rw [lookup_insert, if_pos rfl]

theorem lookup_insert_ne (s : Store) (i j : Nat) (v : Val) (h : j ≠ i) :
    lookup (insert s i v) j = lookup s j := by
  rw [lookup_insert, if_neg h]

theorem nodup_insert (s : Store) (i : Nat) (v : Val) (h : (s.map (·.1)).Nodup) :
    ((insert s i v).map (·.1)).Nodup := nodup_keys_ainsert s i v h

/-- pigeonhole; distinctness of the keys is not needed -/
theorem lookup_none_of_prefix (s : Store) (hall : ∀ j, j < s.length → (lookup s j).isSome = true)
    (i : Nat) (hi : s.length ≤ i) : lookup s i = none := by
  cases hli : lookup s i with
  | none => rfl
  | some v =>
    exfalso
    have hsub : (i :: List.range s.length) ⊆ s.map (·.1) := by
      intro x hx
      rcases List.mem_cons.mp hx with rfl | hx
      · exact (mem_keys_iff s x).mpr (by unfold lookup at hli; rw [hli]; rfl)
      · exact (mem_keys_iff s x).mpr (hall x (List.mem_range.mp hx))
    have hnd : (i :: List.range s.length).Nodup :=
      List.nodup_cons.mpr ⟨fun h => Nat.not_lt.mpr hi (List.mem_range.mp h), List.nodup_range⟩
    have := hnd.length_le_of_subset hsub
    simp only [List.length_cons, List.length_range, List.length_map] at this
    exact Nat.not_succ_le_self _ this

/-- pigeonhole: the distinct keys of a store that holds a window are exactly `0 .. length-1` -/
theorem repr_length {s : Store} {w : Window} (h : Repr s w) : s.length = w.length := by
  have hperm : (s.map (·.1)).Perm (List.range w.length) := by
    rw [List.perm_ext_iff_of_nodup h.1 List.nodup_range]
    intro i
    rw [mem_keys_iff, List.mem_range]
    show (lookup s i).isSome = true ↔ _
    rw [h.2 i, isSome_getElem?]
  simpa using hperm.length_eq

theorem repr_nil : Repr [] [] := by
  refine ⟨by simp, fun i => ?_⟩
  simp [lookup, alookup]

theorem getElem?_wset (w : Window) (i j : Nat) (v : Val) (hi : i ≤ w.length) :
    (wset w i v)[j]? = if j = i then some v else w[j]? := by
  induction w generalizing i j with
  | nil =>
    have : i = 0 := Nat.le_zero.mp hi
    subst this
    cases j <;> rfl
  | cons a w ih =>
    cases i with
    | zero => cases j <;> rfl
    | succ i =>
      cases j with
      | zero => rfl
      | succ j =>
        rw [wset, List.getElem?_cons_succ, List.getElem?_cons_succ, ih i j (Nat.le_of_succ_le_succ hi)]
        simp only [Nat.succ_inj]

theorem length_wset (w : Window) (i : Nat) (v : Val) (hi : i ≤ w.length) :
    (wset w i v).length = if i < w.length then w.length else w.length + 1 := by
  induction w generalizing i with
  | nil => rfl
  | cons a w ih =>
    cases i with
    | zero => rfl
    | succ i =>
      rw [wset, List.length_cons, List.length_cons, ih i (Nat.le_of_succ_le_succ hi)]
      simp only [Nat.succ_lt_succ_iff]
      split <;> rfl

theorem wadd_eq (w : Window) (i : Nat) (v : Val) :
    wadd w i v = (w[i]?).map (fun a => wset w i (vadd a v)) := by
  induction w generalizing i with
  | nil => simp [wadd]
  | cons a w ih =>
    cases i with
    | zero => simp [wadd, wset]
    | succ i =>
      simp only [wadd, ih, List.getElem?_cons_succ, Option.map_map]
      cases w[i]? <;> simp [wset]

/-- a bounded shift is the unbounded one with slot `m` dropped -/
theorem wshift_some (w : Window) (m : Nat) : wshift w (some m) = (wshift w none).eraseIdx m := by
  cases w with
  | nil => rfl
  | cons a t =>
    cases m with
    | zero => rfl
    | succ k => simp only [wshift, List.take_succ_cons, List.cons_append, List.drop_succ_cons,
        List.eraseIdx_eq_take_drop_succ]

theorem getElem?_wshift_none (w : Window) (j : Nat) :
    (wshift w none)[j]? = if j = 0 then w[0]? else w[j - 1]? := by
  cases w with
  | nil => cases j <;> rfl
  | cons a t => cases j <;> rfl

theorem length_wshift_none (w : Window) : (wshift w none).length ≤ w.length + 1 := by
  cases w with
  | nil => exact Nat.zero_le _
  | cons a t => exact Nat.le_refl _

theorem getElem?_wshift_some (a : Val) (w : Window) (m j : Nat) :
    (wshift (a :: w) (some m))[j]? =
      if j = 0 then some a else if j < m then (a :: w)[j - 1]? else (a :: w)[j]? := by
  cases j with
  | zero => cases m <;> rfl
  | succ j =>
    rw [wshift_some, List.getElem?_eraseIdx]
    exact (if_neg (Nat.succ_ne_zero j)).symm

theorem shiftLoop_none {s : Store} {i : Nat} (h : lookup s i = none) :
    shiftLoop (i + 1) s = (s, false) := by
  unfold shiftLoop; rw [h]

theorem shiftLoop_some {s : Store} {i : Nat} {v : Val} (h : lookup s i = some v) :
    shiftLoop (i + 1) s = shiftLoop i (insert s (i + 1) v) := by
  conv => lhs; unfold shiftLoop
  rw [h]

theorem shiftLoop_nodup (top : Nat) (s : Store) (h : (s.map (·.1)).Nodup) :
    (((shiftLoop top s).1).map (·.1)).Nodup := by
  induction top generalizing s with
  | zero => exact h
  | succ i ih =>
    cases hl : lookup s i with
    | none => rw [shiftLoop_none hl]; exact h
    | some v => rw [shiftLoop_some hl]; exact ih _ (nodup_insert s (i + 1) v h)

theorem shiftLoop_ok_iff (top : Nat) (s : Store) :
    (shiftLoop top s).2 = true ↔ ∀ j, j < top → (lookup s j).isSome = true := by
  induction top generalizing s with
  | zero => exact ⟨fun _ _ hj => absurd hj (Nat.not_lt_zero _), fun _ => rfl⟩
  | succ i ih =>
    cases hl : lookup s i with
    | none =>
      rw [shiftLoop_none hl]
      refine ⟨fun h => (nomatch h), fun hall => ?_⟩
      have := hall i (Nat.lt_succ_self i)
      rw [hl] at this
      cases this
    | some v =>
      -- the pass writes slot `i + 1`, which the remaining passes do not read
      rw [shiftLoop_some hl, ih]
      have hne : ∀ j, j < i → lookup (insert s (i + 1) v) j = lookup s j :=
        fun j hj => lookup_insert_ne _ _ _ _ (Nat.ne_of_lt (Nat.lt_succ_of_lt hj))
      constructor
      · intro hall j hj
        rcases Nat.lt_succ_iff_lt_or_eq.mp hj with hji | hji
        · rw [← hne j hji]; exact hall j hji
        · rw [hji, hl]; rfl
      · intro hall j hj
        rw [hne j hj]
        exact hall j (Nat.lt_succ_of_lt hj)

theorem shiftLoop_lookup (top : Nat) (s : Store) (hok : (shiftLoop top s).2 = true) (j : Nat) :
    lookup (shiftLoop top s).1 (j + 1) = if j < top then lookup s j else lookup s (j + 1) := by
  induction top generalizing s with
  | zero => rfl
  | succ i ih =>
    cases hl : lookup s i with
    | none => rw [shiftLoop_none hl] at hok; cases hok
    | some v =>
      rw [shiftLoop_some hl] at hok ⊢
      rw [ih _ hok]
      rcases Nat.lt_trichotomy j i with h | h | h
      · rw [if_pos h, if_pos (Nat.lt_succ_of_lt h),
          lookup_insert_ne _ _ _ _ (Nat.ne_of_lt (Nat.lt_succ_of_lt h))]
      · subst h
        rw [if_neg (Nat.lt_irrefl _), if_pos (Nat.lt_succ_self _), lookup_insert_self, hl]
      · rw [if_neg (Nat.lt_asymm h), if_neg (Nat.not_lt.mpr h),
          lookup_insert_ne _ _ _ _ (Nat.ne_of_gt (Nat.succ_lt_succ h))]

theorem shiftLoop_zero (top : Nat) (s : Store) : lookup (shiftLoop top s).1 0 = lookup s 0 := by
  induction top generalizing s with
  | zero => rfl
  | succ i ih =>
    cases hl : lookup s i with
    | none => rw [shiftLoop_none hl]
    | some v => rw [shiftLoop_some hl, ih, lookup_insert_ne _ _ _ _ (Nat.succ_ne_zero i).symm]

theorem shiftStart_none (n : Nat) : shiftStart n none = some n := rfl

theorem shiftStart_some (n : Nat) (m : Int) : shiftStart n (some m) =
    if m < 0 then none else if m > (n : Int) then some n else some (m - 1).toNat := rfl

theorem shiftStart_neg (n : Nat) (m : Int) (h : m < 0) : shiftStart n (some m) = none := by
  rw [shiftStart_some, if_pos h]

theorem shiftStart_nat (n m : Nat) :
    shiftStart n (some (m : Int)) = some (if n < m then n else m - 1) := by
  rw [shiftStart_some, if_neg (Int.not_lt.mpr (Int.natCast_nonneg m))]
  by_cases h : n < m
  · rw [if_pos (Int.ofNat_lt.mpr h), if_pos h]
  · rw [if_neg (fun h' => h (Int.ofNat_lt.mp h')), if_neg h]
    exact congrArg some (Int.toNat_sub m 1)

theorem shift_of_start {s : Store} {m : Option Int} {top : Nat}
    (h : shiftStart s.length m = some top) :
    shift s m = ((shiftLoop top s).1, if (shiftLoop top s).2 then none else some .keyError) := by
  unfold shift; rw [h]

/-- the loop from `top` on a hole-free store: the head is duplicated, slot `top + 1` of the result dropped -/
theorem repr_shiftLoop {s : Store} {w : Window} (h : Repr s w) (top : Nat) (ht : top ≤ w.length) :
    (shiftLoop top s).2 = true ∧ Repr (shiftLoop top s).1 ((wshift w none).eraseIdx (top + 1)) := by
  have hok : (shiftLoop top s).2 = true := (shiftLoop_ok_iff top s).mpr fun j hj => by
    rw [h.2 j, List.getElem?_eq_getElem (Nat.lt_of_lt_of_le hj ht)]; rfl
  refine ⟨hok, shiftLoop_nodup top s h.1, fun j => ?_⟩
  rw [List.getElem?_eraseIdx]
  cases j with
  | zero => rw [shiftLoop_zero, h.2, if_pos (Nat.succ_pos _), getElem?_wshift_none, if_pos rfl]
  | succ j =>
    rw [shiftLoop_lookup top s hok j, h.2, h.2, getElem?_wshift_none, getElem?_wshift_none]
    simp only [Nat.succ_lt_succ_iff, Nat.succ_ne_zero, if_false, Nat.add_sub_cancel]

theorem wexec_append (w : Window) (a b : List Op) : wexec w (a ++ b) = wexec (wexec w a) b := by
  induction a generalizing w with
  | nil => rfl
  | cons op a ih => simp only [List.cons_append, wexec, ih]

theorem regular_of_set_zero (ops : List Op) (h : ∀ i v, Op.set i v ∈ ops → i = 0) (w : Window) :
    regular w ops = true := by
  induction ops generalizing w with
  | nil => rfl
  | cons op ops ih =>
    simp only [regular, Bool.and_eq_true]
    refine ⟨?_, ih (fun i v hm => h i v (List.mem_cons_of_mem _ hm)) _⟩
    cases op with
    | set i v => rw [h i v List.mem_cons_self]; rfl
    | _ => rfl

theorem alternation_append (h : List (Nat × Val)) (p : Nat × Val) :
    alternation (h ++ [p]) = alternation h ++ [.shift (some (p.1 : Int)), .set 0 p.2] := by
  simp [alternation, List.flatMap_append]

theorem wstep_shift_nat (w : Window) (m : Nat) :
    wstep w (.shift (some (m : Int))) = (wshift w (some m), .ok) := by
  simp only [wstep, if_neg (Int.not_lt.mpr (Int.natCast_nonneg m)), Int.toNat_natCast]

/-- one round of the usage pattern -/
theorem wexec_round (w : Window) (m : Nat) (v : Val) :
    wexec w [.shift (some (m : Int)), .set 0 v] = v :: w.eraseIdx (m - 1) := by
  simp only [wexec, wstep_shift_nat, wshift_some]
  cases w with
  | nil => rfl
  | cons a t => cases m <;> rfl

theorem wexec_round_add (a : Val) (w : Window) (m : Nat) (d : Val) :
    wexec (a :: w) [.shift (some (m : Int)), .add 0 d] = vadd a d :: (a :: w).eraseIdx (m - 1) := by
  simp only [wexec, wstep_shift_nat, wshift_some]
  cases m <;> rfl

theorem regular_alternation (hist : List (Nat × Val)) : regular [] (alternation hist) = true := by
  refine regular_of_set_zero _ (fun i v h => ?_) []
  obtain ⟨p, _, hp⟩ := List.mem_flatMap.mp h
  rcases List.mem_cons.mp hp with e | hp
  · cases e
  · cases List.mem_singleton.mp hp
    rfl

theorem window_alternation (hist : List (Nat × Val)) (i : Nat) (hi : i < hist.length)
    (ht : Travels hist.reverse i) :
    (wexec [] (alternation hist))[i]? = (hist.reverse[i]?).map (·.2) := by
  induction hist using list_reverse_induction generalizing i with
  | nil => simp at hi
  | snoc h p ih =>
    rw [alternation_append, wexec_append, wexec_round]
    simp only [List.reverse_append, List.reverse_cons, List.reverse_nil, List.nil_append,
      List.singleton_append] at ht ⊢
    cases i with
    | zero => rfl
    | succ i =>
      -- the last shift was deep enough for slot `i` to move on to `i + 1`
      have hdepth : i + 1 < p.1 := by
        obtain ⟨q, hq, hlt⟩ := ht 0 (Nat.succ_pos i)
        cases hq
        exact hlt
      have ht' : Travels h.reverse i := by
        intro j hj
        obtain ⟨q, hq, hlt⟩ := ht (j + 1) (Nat.succ_lt_succ hj)
        exact ⟨q, hq, by rwa [Nat.succ_sub_succ] at hlt⟩
      rw [List.getElem?_cons_succ, List.getElem?_cons_succ, List.getElem?_eraseIdx,
        if_pos (Nat.lt_sub_of_add_lt hdepth)]
      exact ih i (by simpa using hi) ht'

theorem alternationAdd_append (m : Nat) (ds : List Val) (d : Val) :
    alternationAdd m (ds ++ [d]) = alternationAdd m ds ++ [.shift (some (m : Int)), .add 0 d] := by
  simp [alternationAdd, List.flatMap_append]

theorem exec_append (s : Store) (a b : List Op) : exec s (a ++ b) = exec (exec s a) b := by
  induction a generalizing s with
  | nil => rfl
  | cons op a ih => simp only [List.cons_append, exec, ih]

theorem regular_alternationAdd (w : Window) (m : Nat) (ds : List Val) :
    regular w (alternationAdd m ds) = true := by
  refine regular_of_set_zero _ (fun i v h => ?_) w
  obtain ⟨d, _, hd⟩ := List.mem_flatMap.mp h
  rcases List.mem_cons.mp hd with e | hd
  · cases e
  · cases List.mem_singleton.mp hd

theorem window_additive_aux (m : Nat) (hm : 0 < m) (v0 : Val) (ds : List Val) (i : Nat) (him : i < m)
    (hik : i ≤ ds.length) :
    (wexec [v0] (alternationAdd m ds))[i]? = some ((ds.take (ds.length - i)).foldl vadd v0) := by
  induction ds using list_reverse_induction generalizing i with
  | nil =>
    have : i = 0 := by simpa using hik
    subst this
    rfl
  | snoc ds d ih =>
    rw [alternationAdd_append, wexec_append]
    -- the head of the window before this round is the sum of all earlier increments
    have h0 := ih 0 hm (Nat.zero_le _)
    rw [Nat.sub_zero, List.take_length] at h0
    cases hW : wexec [v0] (alternationAdd m ds) with
    | nil => rw [hW] at h0; cases h0
    | cons a W =>
      rw [hW] at h0
      cases h0
      rw [wexec_round_add, ← hW]
      cases i with
      | zero =>
        rw [Nat.sub_zero, List.take_length, List.foldl_append]
        rfl
      | succ i =>
        have hik' : i ≤ ds.length := by simpa using hik
        rw [List.getElem?_cons_succ, List.getElem?_eraseIdx, if_pos (Nat.lt_sub_of_add_lt him),
          ih i (Nat.lt_of_succ_lt him) hik', List.length_append, List.length_singleton,
          Nat.succ_sub_succ, List.take_append_of_le_length (Nat.sub_le _ _)]

/-- frame for a write to `data[loc][name]` -/
theorem dget_dput (d : Data) (k k' : Key) (s : Store) :
    dget (dput d k s) k' = if k' = k then some s else dget d k' :=
  alookup_ainsert d k k' s

theorem take_take_succ (k : Nat) (a : Val) (t : Window) :
    (a :: t.take k).take k = (a :: t).take k := by
  cases k with
  | zero => rfl
  | succ j => simp [List.take_take]

theorem wstep_take (m : Nat) (hm : 0 < m) (op : Op) (hop : fixedOp m op = true) (h : Window) :
    (wstep (h.take m) op).1 = (ghostStep h op).take m := by
  obtain ⟨k, rfl⟩ := Nat.exists_eq_succ_of_ne_zero (Nat.pos_iff_ne_zero.mp hm)
  cases op with
  | set i v =>
    have hi : i = 0 := eq_of_beq hop
    subst hi
    cases h with
    | nil => simp [wstep, ghostStep, wset]
    | cons a t => rfl
  | add i v =>
    have hi : i = 0 := eq_of_beq hop
    subst hi
    cases h with
    | nil => simp [wstep, ghostStep, wadd]
    | cons a t => rfl
  | get i =>
    simp only [wstep, ghostStep]
    cases (List.take (k + 1) h)[i]? <;> rfl
  | shift mm =>
    cases mm with
    | none => cases hop
    | some q =>
      have hq : q = ((k + 1 : Nat) : Int) := eq_of_beq hop
      subst hq
      simp only [wstep_shift_nat, ghostStep]
      cases h with
      | nil => rfl
      | cons a t =>
        -- the bounded window is full at most up to slot `k`, which the shift pushes out
        rw [wshift_some, List.take_succ_cons]
        show (a :: a :: t.take k).eraseIdx (k + 1) = a :: (a :: t).take k
        rw [List.eraseIdx_cons_succ, List.eraseIdx_eq_take_drop_succ, take_take_succ,
          List.drop_eq_nil_of_le (by rw [List.length_cons, List.length_take]; exact Nat.succ_le_succ (Nat.min_le_left _ _)),
          List.append_nil]

theorem regular_fixed (m : Nat) (ops : List Op) (hfix : ops.all (fixedOp m) = true) (w : Window) :
    regular w ops = true :=
  regular_of_set_zero ops (fun i v h => eq_of_beq (List.all_eq_true.mp hfix (.set i v) h)) w

theorem wexec_fixed (m : Nat) (hm : 0 < m) (ops : List Op) (hfix : ops.all (fixedOp m) = true) (h : Window) :
    wexec (h.take m) ops = (ghost h ops).take m := by
  induction ops generalizing h with
  | nil => rfl
  | cons op ops ih =>
    simp only [List.all_cons, Bool.and_eq_true] at hfix
    simp only [wexec, ghost]
    rw [wstep_take m hm op hfix.1 h, ih hfix.2]

theorem lookup_unshift (s : Store) (j : Nat) : lookup (unshift s) j = lookup s (j + 1) := by
  induction s with
  | nil => rfl
  | cons p s ih =>
    obtain ⟨a, v⟩ := p
    cases a with
    | zero => exact ih
    | succ k =>
      show (if k = j then some v else lookup (unshift s) j)
        = if k + 1 = j + 1 then some v else lookup s (j + 1)
      rw [ih]
      simp only [Nat.succ_inj]

theorem mem_keys_unshift (s : Store) (j : Nat) (h : j ∈ (unshift s).map (·.1)) : j + 1 ∈ s.map (·.1) := by
  rw [mem_keys_iff] at h ⊢
  have := lookup_unshift s j
  unfold lookup at this
  rw [← this]; exact h

theorem nodup_keys_unshift (s : Store) (hnd : (s.map (·.1)).Nodup) : ((unshift s).map (·.1)).Nodup := by
  induction s with
  | nil => exact hnd
  | cons p s ih =>
    have hn := nodup_map_cons hnd
    obtain ⟨a, v⟩ := p
    cases a with
    | zero => exact ih hn.2
    | succ k => exact List.nodup_cons.mpr ⟨fun e => hn.1 (mem_keys_unshift s k e), ih hn.2⟩

end PorepyVerif.C08
