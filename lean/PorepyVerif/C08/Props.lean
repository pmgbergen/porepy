/-
C08 — property theorems (statements depend on Model.lean only; helper lemmas in Lemmas.lean, LemmasData.lean,
LemmasHeap.lean).

Property: over any sequence of value writes (overwrite or additive) and shifts with a maximum
depth, the value stored at index i is the i-th most recent value written at index 0, for every
index below the depth; additive writes to an empty slot are rejected.  The clause "reads return
copies that later writes do not alter" is about run-time aliasing: values of the first model are
immutable, so it is proved on the model with references (`sep_reachable`, `held_stable`,
`get_returns_stable_copy` at the end of the file) and tested on the running code by the harness oracle.
-/
import PorepyVerif.C08.LemmasData
import PorepyVerif.C08.LemmasHeap

namespace PorepyVerif.C08

/-- overwrite at an index inside the window or directly behind it -/
theorem set_refines {s : Store} {w : Window} (h : Repr s w) (i : Nat) (v : Val) (hi : i ≤ w.length) :
    Repr (insert s i v) (wset w i v) := by
  refine ⟨nodup_insert s i v h.1, fun j => ?_⟩
  rw [lookup_insert, getElem?_wset w i j v hi, h.2 j]

/-- additive write: rejected on both sides, or accepted on both sides with related results -/
theorem add_refines {s : Store} {w : Window} (h : Repr s w) (i : Nat) (v : Val) :
    (addAt s i v = none ∧ wadd w i v = none) ∨
      (∃ s' w', addAt s i v = some s' ∧ wadd w i v = some w' ∧ Repr s' w') := by
  unfold addAt
  rw [wadd_eq, h.2 i]
  cases hw : w[i]? with
  | none => left; exact ⟨rfl, rfl⟩
  | some a =>
    right
    have hi : i < w.length := by
      rcases List.getElem?_eq_some_iff.mp hw with ⟨hlt, _⟩
      exact hlt
    exact ⟨_, _, rfl, rfl, set_refines h i _ (Nat.le_of_lt hi)⟩

/-- `shift_solution_values` on a hole-free store never raises and is the window shift:
    `w ↦ take m (w₀ :: w) ++ drop m w` (`w₀ :: w` without a depth). -/
theorem shift_refines {s : Store} {w : Window} (h : Repr s w) (m : Option Nat) :
    (shift s (m.map Int.ofNat)).2 = none ∧ Repr (shift s (m.map Int.ofNat)).1 (wshift w m) := by
  have hlen := repr_length h
  -- dropping a slot beyond the end drops nothing
  have hfull : ∀ k, w.length < k → (wshift w none).eraseIdx k = wshift w none := fun k hk =>
    List.eraseIdx_of_length_le (Nat.le_trans (length_wshift_none w) hk)
  -- in all three branches the range starts at some `top ≤ length`, and `wshift` duplicates the head
  -- and drops slot `top + 1`, which is what the loop does
  obtain ⟨top, htop, hle, hw⟩ : ∃ top, shiftStart s.length (m.map Int.ofNat) = some top ∧
      top ≤ w.length ∧ wshift w m = (wshift w none).eraseIdx (top + 1) := by
    cases m with
    | none => exact ⟨s.length, rfl, Nat.le_of_eq hlen, by rw [hlen, hfull _ (Nat.lt_succ_self _)]⟩
    | some m =>
      rw [wshift_some]
      by_cases hm : s.length < m
      · -- deeper than what is stored: the loop runs over everything and nothing is pushed out
        exact ⟨s.length, (shiftStart_nat s.length m).trans (congrArg some (if_pos hm)),
          Nat.le_of_eq hlen, by rw [hlen, hfull _ (Nat.lt_succ_self _), hfull _ (hlen ▸ hm)]⟩
      · refine ⟨m - 1, (shiftStart_nat s.length m).trans (congrArg some (if_neg hm)),
          Nat.le_trans (Nat.sub_le _ _) (hlen ▸ Nat.le_of_not_lt hm), ?_⟩
        -- depth 0 starts the range at 0 like depth 1: the two leading slots are equal
        cases m with
        | zero => cases w <;> rfl
        | succ k => rfl
  have hl := repr_shiftLoop h top hle
  rw [shift_of_start htop, hw, hl.1]
  exact ⟨rfl, hl.2⟩

/-- the deque reading of `shift_refines`: as long as no more than `m` values are stored, a shift with
    depth `m` is `appendleft(current)` on a deque of maximal length `m`. -/
theorem shift_refines_deque {s : Store} {w : Window} (h : Repr s w) (m : Nat) (hm : w.length ≤ m)
    (a : Val) (w' : Window) (hw : w = a :: w') :
    Repr (shift s (some (m : Int))).1 ((a :: w).take m) := by
  have := (shift_refines h (some m)).2
  have hd : w.drop m = [] := List.drop_eq_nil_of_le hm
  subst hw
  simpa [wshift, hd] using this

/-- one call: same observable output, related states -/
theorem step_refines {s : Store} {w : Window} (h : Repr s w) (op : Op)
    (hreg : ∀ i v, op = .set i v → i ≤ w.length) :
    (step s op).2 = (wstep w op).2 ∧ Repr (step s op).1 (wstep w op).1 := by
  cases op with
  | set i v => exact ⟨rfl, set_refines h i v (hreg i v rfl)⟩
  | add i v =>
    rcases add_refines h i v with ⟨h1, h2⟩ | ⟨s', w', h1, h2, h3⟩
    · simp only [step, wstep, h1, h2]; exact ⟨trivial, h⟩
    · simp only [step, wstep, h1, h2]; exact ⟨trivial, h3⟩
  | get i =>
    simp only [step, wstep, h.2 i]
    cases w[i]? <;> exact ⟨rfl, h⟩
  | shift m =>
    cases m with
    | none =>
      have := shift_refines h none
      simp only [Option.map_none] at this
      simp only [step, wstep, this.1]
      exact ⟨trivial, this.2⟩
    | some m =>
      by_cases hm : m < 0
      · simp only [step, wstep, shift, shiftStart_neg s.length m hm, if_pos hm]
        exact ⟨trivial, h⟩
      · obtain ⟨n, rfl⟩ := Int.eq_ofNat_of_zero_le (Int.not_lt.mp hm)
        have := shift_refines h (some n)
        simp only [Option.map_some, Int.ofNat_eq_natCast] at this
        simp only [step, wstep_shift_nat, this.1]
        exact ⟨trivial, this.2⟩

/-- **Refinement theorem.** For EVERY history of set / additive set / get / shift calls (any indices,
    any depths incl. none, negative ones raising `ValueError`) that never writes beyond the end of
    what is stored (`regular`, i.e. creates no holes), started from a hole-free store: all outputs
    (values read, error kinds) are those of the plain list window, and the final store is again the
    window. -/
theorem store_refines_window (ops : List Op) {s : Store} {w : Window} (h : Repr s w)
    (hreg : regular w ops = true) :
    run s ops = wrun w ops ∧ Repr (exec s ops) (wexec w ops) := by
  induction ops generalizing s w with
  | nil => exact ⟨rfl, h⟩
  | cons op ops ih =>
    simp only [regular, Bool.and_eq_true] at hreg
    have hop : ∀ i v, op = .set i v → i ≤ w.length := fun i v e => by
      subst e
      exact of_decide_eq_true hreg.1
    have hs := step_refines h op hop
    have := ih hs.2 hreg.2
    simp only [run, wrun, exec, wexec, hs.1, this.1]
    exact ⟨trivial, this.2⟩

/-- … in particular from the empty storage: slot `i` of the dict is entry `i` of the window. -/
theorem store_refines_window_from_empty (ops : List Op) (hreg : regular [] ops = true) :
    run [] ops = wrun [] ops ∧ ∀ i, lookup (exec [] ops) i = (wexec [] ops)[i]? := by
  have := store_refines_window ops repr_nil hreg
  exact ⟨this.1, this.2.2⟩

/-- **Sliding window, varying depths.** After the rounds `(shift(max_index = mₖ); set index 0 := vₖ)`
    for `k = 0..K` on an empty storage, index `i` holds `v_{K-i}` whenever `i ≤ K` and the depth of
    the `j`-th most recent shift exceeded `i - j` for all `j < i`. -/
theorem window_ith_varying (hist : List (Nat × Val)) (i : Nat) (hi : i < hist.length)
    (ht : Travels hist.reverse i) :
    lookup (exec [] (alternation hist)) i = (hist.reverse[i]?).map (·.2) := by
  rw [(store_refines_window_from_empty _ (regular_alternation hist)).2 i]
  exact window_alternation hist i hi ht

/-- **Sliding window (the property).** After any alternation `(shift(max_index = m); set index 0 := vₖ)`,
    `k = 0..K`, the value stored at index `i` is `v_{K-i}`, the `i`-th most recent value written at
    index 0, for every `i < min(m, K+1)`. -/
theorem window_ith (m : Nat) (vs : List Val) (i : Nat) (him : i < m) (hik : i < vs.length) :
    lookup (exec [] (alternation (vs.map (fun v => (m, v))))) i = vs.reverse[i]? := by
  have hlen : i < (vs.map (fun v => (m, v))).length := by rw [List.length_map]; exact hik
  have ht : Travels (vs.map (fun v => (m, v))).reverse i := by
    intro j hj
    rw [← List.map_reverse, List.getElem?_map,
      List.getElem?_eq_getElem (by rw [List.length_reverse]; exact Nat.lt_trans hj hik)]
    exact ⟨_, rfl, Nat.lt_of_le_of_lt (Nat.sub_le _ _) him⟩
  rw [window_ith_varying _ i hlen ht, ← List.map_reverse, List.getElem?_map, Option.map_map]
  cases vs.reverse[i]? <;> rfl

/-- Over any sequence of writes at index 0, reads, and shifts with a maximum depth `m ≥ 1`, started on
    an empty storage, the store is the unbounded history of index 0 (`ghost`) cut off at `m`. -/
theorem repr_exec_fixed (m : Nat) (hm : 0 < m) (ops : List Op) (hfix : ops.all (fixedOp m) = true) :
    Repr (exec [] ops) ((ghost [] ops).take m) := by
  have h := wexec_fixed m hm ops hfix []
  rw [List.take_nil] at h
  rw [← h]
  exact (store_refines_window ops repr_nil (regular_fixed m ops hfix [])).2

/-- **The property, for any sequence.** Over ANY sequence of writes at index 0 (overwrite or additive,
    any number between two shifts, rejected ones included), reads, and shifts with a maximum depth
    `m ≥ 1`, started on an empty storage: for every index `i < m` the slot `i` holds entry `i` of the
    unbounded history of index 0 (`ghost`: the value index 0 had when the `i`-th most recent shift
    happened; entry 0 = the latest write) — and is empty exactly if that history is shorter. -/
theorem window_any_sequence (m : Nat) (hm : 0 < m) (ops : List Op) (hfix : ops.all (fixedOp m) = true)
    (i : Nat) (hi : i < m) : lookup (exec [] ops) i = (ghost [] ops)[i]? := by
  rw [(repr_exec_fixed m hm ops hfix).2 i, List.getElem?_take_of_lt hi]

/-- … and nothing is ever stored at or beyond the depth. -/
theorem window_any_sequence_depth (m : Nat) (hm : 0 < m) (ops : List Op) (hfix : ops.all (fixedOp m) = true)
    (i : Nat) (hi : m ≤ i) : lookup (exec [] ops) i = none := by
  rw [(repr_exec_fixed m hm ops hfix).2 i, List.getElem?_eq_none_iff, List.length_take]
  exact Nat.le_trans (Nat.min_le_left _ _) hi

/-- several writes per epoch, a rejected additive write first, two shifts in a row: depth 2 -/
example :
    let ops : List Op := [.add 0 [1], .set 0 [1], .set 0 [2], .shift (some 2), .add 0 [10], .add 0 [10], .shift (some 2),
                          .shift (some 2), .set 0 [5]]
    ops.all (fixedOp 2) = true ∧ ghost [] ops = [[5], [22], [22], [2]] ∧
      exec [] ops = [(0, [5]), (1, [22])] := by decide +kernel

/-- **Sliding window, additive writes** (the pattern of `after_nonlinear_iteration`): after
    `set index 0 := v₀` and the rounds `(shift(max_index = m); index 0 += dₖ)`, `k = 1..K`, index `i`
    holds `v₀ + d₁ + … + d_{K-i}`, the iterate `i` rounds back, for every `i < min(m, K+1)`. -/
theorem window_additive (m : Nat) (v0 : Val) (ds : List Val) (i : Nat) (him : i < m)
    (hik : i ≤ ds.length) :
    lookup (exec [] (.set 0 v0 :: alternationAdd m ds)) i
      = some ((ds.take (ds.length - i)).foldl vadd v0) := by
  -- the first write turns the empty window into `[v0]`; the rounds start from there
  rw [(store_refines_window_from_empty (.set 0 v0 :: alternationAdd m ds)
    (regular_alternationAdd [v0] m ds)).2 i]
  exact window_additive_aux m (Nat.zero_lt_of_lt him) v0 ds i him hik

/-- Additive writes to an empty slot are rejected (`ValueError`) and leave the store as it is —
    for every store, with or without holes. -/
theorem add_empty_rejected (s : Store) (i : Nat) (v : Val) (h : lookup s i = none) :
    step s (.add i v) = (s, .err .valueError) := by
  simp [step, addAt, h]

/-- … and an additive write to a filled slot is accepted and adds to exactly that slot. -/
theorem add_present (s : Store) (i : Nat) (v old : Val) (h : lookup s i = some old) (j : Nat) :
    (step s (.add i v)).2 = .ok ∧
      lookup (step s (.add i v)).1 j = if j = i then some (vadd old v) else lookup s j := by
  simp only [step, addAt, h]
  exact ⟨trivial, lookup_insert s i j _⟩

/-- Reading never modifies the store (values are immutable in this model; that the arrays handed out
    are copies is `get_returns_stable_copy`). -/
theorem get_does_not_modify (s : Store) (i : Nat) : (step s (.get i)).1 = s := by
  simp only [step]
  cases lookup s i <;> rfl

/-- What was read earlier is not altered by later calls: the outputs of a history are a prefix of the
    outputs of every extension (a triviality for immutable values; the run-time counterpart — the
    arrays handed out are copies — is `held_stable` and `get_returns_stable_copy`). -/
theorem get_set_independent (s : Store) (a b : List Op) :
    run s (a ++ b) = run s a ++ run (exec s a) b := by
  induction a generalizing s with
  | nil => rfl
  | cons op a ih => simp only [List.cons_append, run, exec, ih]

/-- reading an empty slot is a `KeyError` -/
theorem get_empty_errors (s : Store) (i : Nat) (h : lookup s i = none) :
    (step s (.get i)).2 = .err .keyError := by
  simp [step, h]

/-- **Stores with holes.** For any store whatsoever, a shift whose range starts at `top` raises
    `KeyError` exactly if one of the slots `0 .. top-1` of the store is empty … -/
theorem shift_keyError_iff (s : Store) (m : Option Int) (top : Nat)
    (htop : shiftStart s.length m = some top) :
    (shift s m).2 = some .keyError ↔ ∃ j, j < top ∧ lookup s j = none := by
  rw [shift_of_start htop]
  have hiff := shiftLoop_ok_iff top s
  cases hb : (shiftLoop top s).2 with
  | true =>
    refine ⟨fun h => (nomatch h), fun ⟨j, hj, hl⟩ => ?_⟩
    have := hiff.mp hb j hj
    rw [hl] at this
    cases this
  | false =>
    refine ⟨fun _ => Classical.byContradiction fun hne => ?_, fun _ => rfl⟩
    have : (shiftLoop top s).2 = true := hiff.mpr fun j hj => by
      cases hl : lookup s j with
      | none => exact absurd ⟨j, hj, hl⟩ hne
      | some v => rfl
    rw [hb] at this
    cases this

/-- … index 0 is never written by a shift, failing or not … -/
theorem shift_keeps_index_zero (s : Store) (m : Option Int) : lookup (shift s m).1 0 = lookup s 0 := by
  unfold shift
  cases shiftStart s.length m with
  | none => rfl
  | some top => exact shiftLoop_zero top s

/-- … and in particular: a dict that has a hole (some key is ≥ the number of keys) makes every
    shift without `max_index` raise `KeyError`. -/
theorem noncontiguous_shift_errors (s : Store) (i : Nat)
    (hi : (lookup s i).isSome = true) (hbig : s.length ≤ i) :
    (shift s none).2 = some .keyError := by
  rw [shift_of_start (shiftStart_none _)]
  cases hb : (shiftLoop s.length s).2 with
  | false => rfl
  | true =>
    -- the loop found all of `0 .. length-1`, so there is no room for the key `i`
    rw [lookup_none_of_prefix s ((shiftLoop_ok_iff _ _).mp hb) i hbig] at hi
    cases hi

/-- `set_solution_values` with one non-negative index is `set` / `add` on that history -/
theorem data_set_is_store_step (d : Data) (name : String) (v : Val) (i : Nat) (loc : Loc) (additive : Bool) :
    setSolutionValues d name v (if loc = .timeStep then some (i : Int) else none)
        (if loc = .iterate then some (i : Int) else none) additive
      = (dput d (loc, name) (step ((dget d (loc, name)).getD []) (if additive then .add i v else .set i v)).1,
         (step ((dget d (loc, name)).getD []) (if additive then .add i v else .set i v)).2) := by
  show setSolutionValues d name v (tsArg loc i) (itArg loc i) additive = _
  rw [setSolutionValues_one, setLoop_cons]
  generalize step _ _ = r
  show (if r.2 = .ok then (dput d (loc, name) r.1, Out.ok) else (dput d (loc, name) r.1, r.2)) = _
  by_cases h : r.2 = .ok
  · rw [if_pos h, h]
  · rw [if_neg h]

/-- `get_solution_values` with one non-negative index is `get` on that history (absent name = empty) -/
theorem data_get_is_store_step (d : Data) (name : String) (i : Nat) (loc : Loc) :
    getSolutionValues d name (if loc = .timeStep then some (i : Int) else none)
        (if loc = .iterate then some (i : Int) else none)
      = (step ((dget d (loc, name)).getD []) (.get i)).2 := by
  show getSolutionValues d name (tsArg loc i) (itArg loc i) = _
  rw [getSolutionValues_slot, slotOf, step]
  cases dget d (loc, name) with
  | none => rfl
  | some s => simp only [Option.bind_some, Option.getD_some]; cases lookup s i <;> rfl

/-- `shift_solution_values` on a registered name is `shift` on that history; an unregistered name
    is left alone (even for a negative `max_index`) -/
theorem data_shift_is_store_step (d : Data) (name : String) (loc : Loc) (m : Option Int) :
    shiftSolutionValues d name (some loc) m =
      match dget d (loc, name) with
      | none => (d, .ok)
      | some s => (dput d (loc, name) (step s (.shift m)).1, (step s (.shift m)).2) := by
  simp only [shiftSolutionValues, step]
  cases dget d (loc, name) <;> rfl

/-- **set then get.** `set_variable_values(v, variables, index)` followed by
    `get_variable_values(variables, index)` at the same location and index returns `v`, for any
    layout with distinct storage names, any selection and any previous contents, provided `v` has the
    size of the selected blocks (otherwise see `es_set_wrong_size`). -/
theorem es_set_get_roundtrip (lay : Layout) (hnd : (lay.map (·.1)).Nodup) (d : Data) (values : Val)
    (sel : List String) (loc : Loc) (i : Nat) (hlen : values.length = selSize sel lay) :
    (esSet lay d values sel (tsArg loc i) (itArg loc i) false).2 = .ok ∧
      esGet lay (esSet lay d values sel (tsArg loc i) (itArg loc i) false).1 sel (tsArg loc i) (itArg loc i)
        = .val values := by
  rw [esSet_eq, if_pos hlen.symm]
  refine ⟨rfl, ?_⟩
  rw [esGet, esGetLoop_esSetLoop sel loc i values lay hnd d 0, ← hlen, List.drop_zero, List.take_length]

/-- **block by block.** After `set_variable_values`, the slot of every selected variable holds its
    own slice `v[off : off + n]` of the vector (`off` = sum of the sizes of the selected blocks
    before it in global order), whatever the order of the argument list. -/
theorem es_set_blocks (lay : Layout) (hnd : (lay.map (·.1)).Nodup) (d : Data) (values : Val)
    (sel : List String) (loc : Loc) (i : Nat) (name : String) (n off : Nat)
    (hb : (name, n) ∈ lay) (hoff : blockOffset sel name lay = some off) :
    slotOf (esSet lay d values sel (tsArg loc i) (itArg loc i) false).1 loc name i
      = some ((values.drop off).take n) := by
  rw [esSet_eq, ← Nat.zero_add off]
  exact esSetLoop_block sel loc i values lay hnd d 0 name n off hb hoff

/-- a vector of the wrong size trips the final assertion (after the writes were made) -/
theorem es_set_wrong_size (lay : Layout) (d : Data) (values : Val) (sel : List String) (loc : Loc)
    (i : Nat) (hlen : values.length ≠ selSize sel lay) :
    (esSet lay d values sel (tsArg loc i) (itArg loc i) false).2 = .err .assertionError := by
  rw [esSet_eq, if_neg fun e => hlen e.symm]

/-- **shift on every variable simultaneously.** `shift_time_step_values` / `shift_iterate_values` on
    distinct variables whose individual shifts do not raise: every selected variable's history at that
    location is replaced by its store-level shift, everything else is untouched. -/
theorem es_shift_simultaneous (sel : List String) (hnd : sel.Nodup) (loc : Loc) (m : Option Int) (d : Data)
    (hok : ∀ n ∈ sel, ∀ s, dget d (loc, n) = some s → (shift s m).2 = none) :
    (esShift d loc m sel).2 = .ok ∧
      ∀ k : Key, dget (esShift d loc m sel).1 k
        = if k.1 = loc ∧ k.2 ∈ sel then (dget d k).map (fun s => (shift s m).1) else dget d k := by
  induction sel generalizing d with
  | nil => exact ⟨rfl, fun k => by simp [esShift]⟩
  | cons n rest ih =>
    have hn := List.nodup_cons.mp hnd
    have h1 := shiftSolutionValues_ok d n loc m (hok n List.mem_cons_self)
    have hd := dget_shiftSolutionValues d n loc m
    -- the remaining names differ from `n`, so the call left their histories as they were in `d`
    have hok' : ∀ n' ∈ rest, ∀ s', dget (shiftSolutionValues d n (some loc) m).1 (loc, n') = some s' →
        (shift s' m).2 = none := by
      intro n' hn' s' hs'
      have hne : (loc, n') ≠ (loc, n) := fun e => hn.1 ((Prod.mk.inj e).2 ▸ hn')
      rw [hd, if_neg hne] at hs'
      exact hok n' (List.mem_cons_of_mem _ hn') s' hs'
    have := ih hn.2 _ hok'
    unfold esShift
    simp only [h1]
    refine ⟨this.1, fun k => ?_⟩
    rw [this.2 k, hd]
    by_cases hk : k = (loc, n)
    · subst hk
      simp [hn.1]
    · rw [if_neg hk]
      by_cases hr : k.1 = loc ∧ k.2 ∈ rest
      · rw [if_pos hr, if_pos ⟨hr.1, List.mem_cons_of_mem _ hr.2⟩]
      · rw [if_neg hr, if_neg fun e => (List.mem_cons.mp e.2).elim (fun e2 => hk (Prod.ext e.1 e2))
          fun e2 => hr ⟨e.1, e2⟩]

/-- … in window terms: if every selected variable's history is a (hole-free) window, the wrapper
    shifts all these windows by one, never raising. -/
theorem es_shift_windows (sel : List String) (hnd : sel.Nodup) (loc : Loc) (m : Option Nat) (d : Data)
    (w : String → Window) (hrep : ∀ n ∈ sel, ∃ s, dget d (loc, n) = some s ∧ Repr s (w n)) :
    (esShift d loc (m.map Int.ofNat) sel).2 = .ok ∧
      ∀ n ∈ sel, ∃ s', dget (esShift d loc (m.map Int.ofNat) sel).1 (loc, n) = some s' ∧
        Repr s' (wshift (w n) m) := by
  have hok : ∀ n ∈ sel, ∀ s, dget d (loc, n) = some s → (shift s (m.map Int.ofNat)).2 = none := by
    intro n hn s hs
    obtain ⟨s0, hs0, hr⟩ := hrep n hn
    rw [hs] at hs0
    cases hs0
    exact (shift_refines hr m).1
  have := es_shift_simultaneous sel hnd loc (m.map Int.ofNat) d hok
  refine ⟨this.1, fun n hn => ?_⟩
  obtain ⟨s0, hs0, hr⟩ := hrep n hn
  refine ⟨(shift s0 (m.map Int.ofNat)).1, ?_, (shift_refines hr m).2⟩
  rw [this.2 (loc, n)]
  simp [hn, hs0]

/-- the same for a layout read off a state of the C05 model of `EquationSystem` -/
theorem es_set_get_roundtrip_c05 (s : C05.State) (hnd : ((layoutOf s).map (·.1)).Nodup) (d : Data)
    (values : Val) (sel : List String) (loc : Loc) (i : Nat)
    (hlen : values.length = selSize sel (layoutOf s)) :
    esGet (layoutOf s) (esSet (layoutOf s) d values sel (tsArg loc i) (itArg loc i) false).1 sel
        (tsArg loc i) (itArg loc i) = .val values :=
  (es_set_get_roundtrip (layoutOf s) hnd d values sel loc i hlen).2

/-- **Un-shift on ANY store, holes included**: afterwards index `j` holds what index `j + 1` held, for
    every `j` (what index 0 held is dropped), nothing raises, and distinct keys stay distinct. -/
theorem unshift_spec (s : Store) (hnd : (s.map (·.1)).Nodup) :
    ((unshift s).map (·.1)).Nodup ∧ ∀ j, lookup (unshift s) j = lookup s (j + 1) :=
  ⟨nodup_keys_unshift s hnd, lookup_unshift s⟩

/-- in window terms: the head of the window is dropped -/
theorem unshift_refines {s : Store} {w : Window} (h : Repr s w) : Repr (unshift s) w.tail := by
  refine ⟨nodup_keys_unshift s h.1, fun j => ?_⟩
  rw [lookup_unshift, h.2, List.getElem?_tail]

/-- un-shift is the inverse of a shift that did not push a value out of the window … -/
theorem unshift_after_shift {s : Store} {w : Window} (h : Repr s w) (hw : w ≠ []) :
    Repr (unshift (shift s none).1) w := by
  have hs := (shift_refines h none).2
  simp only [Option.map_none] at hs
  obtain ⟨a, t, rfl⟩ : ∃ a t, w = a :: t := by
    cases w with
    | nil => exact absurd rfl hw
    | cons a t => exact ⟨a, t, rfl⟩
  have := unshift_refines hs
  simpa [wshift] using this

/-- … on the index set of ANY store: after a successful shift without depth, the un-shift gives back
    every slot the store had (holes stay holes). -/
theorem unshift_after_shift_any (s : Store) (hok : (shift s none).2 = none) (j : Nat) :
    lookup (unshift (shift s none).1) j = lookup s j := by
  rw [shift_of_start (shiftStart_none _)] at hok ⊢
  have hb : (shiftLoop s.length s).2 = true := by
    cases hb : (shiftLoop s.length s).2 with
    | true => rfl
    | false => rw [hb] at hok; cases hok
  rw [lookup_unshift, shiftLoop_lookup _ _ hb]
  by_cases hj : j < s.length
  · rw [if_pos hj]
  · -- all of `0 .. length-1` are present, so slots `j` and `j + 1` beyond them are both empty
    have hnone := lookup_none_of_prefix s ((shiftLoop_ok_iff _ _).mp hb)
    have hle := Nat.le_of_not_lt hj
    rw [if_neg hj, hnone (j + 1) (Nat.le_succ_of_le hle), hnone j hle]

/-- holes are no obstacle: keys {0, 1, 3} become {0, 2} -/
example : unshift [(0, [1]), (1, [2]), (3, [4])] = [(0, [2]), (2, [4])] := by decide +kernel
example : unshift [(0, [1]), (1, [2]), (2, [3])] = [(0, [2]), (1, [3])] := by decide +kernel

/-- boundary values: update at depth 2 twice, revert, update again reproduces the accepted history -/
example :
    let d1 := (bcUpdate [] "u" [1] 2).1
    let d2 := (bcUpdate d1 "u" [2] 2).1
    let d3 := (bcUpdate d2 "u" [3] 2).1
    let d4 := (bcUpdate (bcRevert d3).1 "u" [4] 2).1
    (dget d3 (.timeStep, "u") = some [(0, [2]), (1, [1])]) ∧ (bcRevert d3).2 = .ok ∧
      dget (bcRevert d3).1 (.timeStep, "u") = some [(0, [1])] ∧
      getSolutionValues (bcRevert d3).1 "u" none (some 0) = .val [2] ∧
      dget d4 (.timeStep, "u") = some [(0, [2]), (1, [1])] ∧ getSolutionValues d4 "u" none (some 0) = .val [4] := by
  decide +kernel

/-- **No sharing, ever.** After any history of caller actions (creating arrays, overwriting them in
    place) and storage calls (set / additive set / get / shift, any indices and depths), no two slots
    share a reference and no slot shares a reference with an array the caller holds. -/
theorem sep_reachable (ops : List HOp) : Sep (hexec codePolicy HState.empty ops) := by
  suffices ∀ st, Sep st → Sep (hexec codePolicy st ops) from
    this _ (by decide)
  induction ops with
  | nil => exact fun _ h => h
  | cons op ops ih => exact fun st h => ih _ (sep_step st op h)

/-- **The value-level model is a faithful abstraction of the code with sharing.** For every history
    on the heap model — including the caller overwriting, at any time, any array it passed in or got
    back — the outputs are those of the immutable model replayed with the array contents at call
    time.  (So the refinement and sliding-window theorems above apply to the model with sharing.) -/
theorem heap_run_refines (ops : List HOp) (st : HState) (h : Sep st) :
    hrun codePolicy st ops = vrun st (view st) ops := by
  induction ops generalizing st with
  | nil => rfl
  | cons op ops ih =>
    have hs := heap_step_refines st op h
    rw [hrun, vrun_cons, ← hs.1, ← hs.2, ih _ (sep_step st op h)]

/-- **Later writes do not alter what the caller holds**: over any history of storage calls and array
    creations (the caller not overwriting its arrays itself), the contents of every array the caller
    holds — passed in or returned by a read — stay what they were. -/
theorem held_stable (ops : List HOp) (st : HState) (h : Sep st) (hm : ops.all (fun op => !isMutate op) = true)
    (r : Nat) (hr : r ∈ st.held) : deref (hexec codePolicy st ops) r = deref st r := by
  induction ops generalizing st with
  | nil => rfl
  | cons op ops ih =>
    rw [List.all_cons, Bool.and_eq_true, Bool.not_eq_true'] at hm
    have hs := held_stable_step st op h hm.1
    rw [hexec, ih _ (sep_step st op h) hm.2 (hs r hr).2, (hs r hr).1]

/-- **Reads return copies.** `get_solution_values` hands out a fresh reference with the stored
    contents, and no later storage call changes what it contains. -/
theorem get_returns_stable_copy (st : HState) (h : Sep st) (i q : Nat) (hq : alookup st.store i = some q)
    (ops : List HOp) (hm : ops.all (fun op => !isMutate op) = true) :
    (hstep codePolicy st (.get i)).2 = .val (deref st q) ∧
      st.next ∈ (hstep codePolicy st (.get i)).1.held ∧
      st.next ∉ (hstep codePolicy st (.get i)).1.store.map (·.2) ∧
      deref (hexec codePolicy (hstep codePolicy st (.get i)).1 ops) st.next = deref st q := by
  have hsep := sep_step st (.get i) h
  have hmem : st.next ∈ (hstep codePolicy st (.get i)).1.held := by
    simp [hstep, hq, copyIf, codePolicy, alloc]
  refine ⟨by simp [hstep, hq], hmem, fun e => hsep.2.1 _ e hmem, ?_⟩
  rw [held_stable ops _ hsep hm st.next hmem]
  simp only [hstep, hq, copyIf, codePolicy, if_true]
  exact deref_alloc_new st (deref st q)

/-- the abstraction relation does not depend on the storage order of the dict -/
example : Repr [(1, [2, 2]), (0, [1, 1])] [[1, 1], [2, 2]] :=
  ⟨by decide, fun i => by
    match i with
    | 0 => rfl
    | 1 => rfl
    | n + 2 => rfl⟩

/-- depth 2, three rounds: [v₂, v₁]; index 2 is empty -/
example : run [] (alternation [(2, [1, 10]), (2, [2, 20]), (2, [3, 30])] ++ [.get 0, .get 1, .get 2])
    = [.ok, .ok, .ok, .ok, .ok, .ok, .val [3, 30], .val [2, 20], .err .keyError] := by decide +kernel

example : regular [] (alternation [(2, [1, 10]), (2, [2, 20]), (2, [3, 30])] ++ [.get 0, .get 1, .get 2]) = true := by
  decide +kernel

/-- `window_ith` instance: m = 3, four values, i = 2 -/
example : lookup (exec [] (alternation ([[1, 1], [2, 2], [3, 3], [4, 4]].map (fun v => (3, v))))) 2 = some [2, 2] :=
  window_ith 3 _ 2 (by decide) (by decide)

/-- depth reduced to 1 and raised again: the stale value [1] resurfaces at index 2 (not claimed by
    `window_ith_varying`: `Travels` fails for i = 2) -/
example : exec [] (alternation [(3, [1]), (3, [2]), (1, [3]), (3, [4])]) = [(0, [4]), (1, [3]), (2, [1])] := by
  decide +kernel

example : Travels [(3, [4]), (1, [3]), (3, [2]), (3, [1])] 1 := by
  intro j hj
  have : j = 0 := by omega
  subst this
  exact ⟨_, rfl, by decide⟩

/-- Newton pattern: depth 2, v₀ = [1, 1], increments [1/2, 0], [1/4, 1] -/
example : run [] (.set 0 [1, 1] :: alternationAdd 2 [[1/2, 0], [1/4, 1]] ++ [.get 0, .get 1, .add 2 [0, 0]])
    = [.ok, .ok, .ok, .ok, .ok, .val [7/4, 2], .val [3/2, 1], .err .valueError] := by decide +kernel

/-- a store with a hole: shift without depth raises `KeyError` after having copied slot 1 to 2 -/
example : step [(1, [5]), (2, [6])] (.shift none) = ([(1, [5]), (2, [5])], .err .keyError) := by
  decide +kernel

example : (shift [(0, [5]), (2, [6])] none).2 = some .keyError :=
  noncontiguous_shift_errors _ 2 (by decide) (by decide)

/-- … but a bounded shift may repair the hole without an error -/
example : step [(0, [5]), (2, [6])] (.shift (some 2)) = ([(0, [5]), (2, [6]), (1, [5])], .ok) := by
  decide +kernel

/-- data dictionary: both locations written by one call, additive write to the empty time-step slot
    of a second name is rejected, negative depth on an unregistered name passes -/
example :
    (cmdSeq [] [.set "p" [1, 2] (some 0) (some 0) false, .shift "p" (some .timeStep) (some 2),
                .set "p" [1, 1] (some 0) none true, .get "p" (some 1) none, .get "p" (some 0) none,
                .shift "q" (some .iterate) (some (-1)), .set "q" [1] (some 0) none true]).2
      = [.ok, .ok, .ok, .val [1, 2], .val [2, 3], .ok, .err .valueError] := by decide +kernel

/-- equation-system wrappers: argument order and duplicates do not matter for set/get; the blocks are
    cut in global order; shifting a variable twice in one call shifts it twice -/
example :
    let lay : Layout := [("a", 2), ("b", 3)]
    let d := touch (touch [] "a") "b"
    let r := esSet lay d [1, 2, 3, 4, 5] ["b", "a", "b"] (some 0) none false
    r.2 = .ok ∧ esGet lay r.1 ["a"] (some 0) none = .val [1, 2] ∧ esGet lay r.1 ["b"] (some 0) none = .val [3, 4, 5] ∧
      esGet lay (esShift r.1 .timeStep none ["a", "a"]).1 ["a", "b"] (some 2) none = .err .keyError ∧
      esGet lay (esShift r.1 .timeStep none ["a", "a"]).1 ["a"] (some 2) none = .val [1, 2] ∧
      (esSet lay d [1, 2, 3, 4] ["a", "b"] (some 0) none false).2 = .err .assertionError := by decide +kernel

/-- a layout read off a C05 state: two variables on one grid with two cells -/
example :
    let e : C05.Env := ⟨[0], [], fun _ => 2, fun _ => 7, fun _ => 6⟩
    let s := C05.run e C05.init [.create 0 [(0, 1)] (some [0]) none, .create 1 [(0, 2)] (some [0]) none]
    layoutOf s = [("0:0", 2), ("0:1", 4)] ∧ ((layoutOf s).map (·.1)).Nodup := by decide +kernel

/-- the code as it is: overwrite passed-in and returned arrays, additive write after a growing shift
    on a single stored value — nothing leaks -/
example : hrun codePolicy .empty
    [.new [1, 1], .set 0 0, .mutate 0 [9, 9], .shift (some 2), .new [1/2, 0], .add 0 1, .get 1, .get 0,
     .mutate 2 [7, 7], .mutate 3 [7, 7], .get 1, .get 0]
    = [.ok, .ok, .ok, .ok, .ok, .ok, .val [1, 1], .val [3/2, 1], .ok, .ok, .val [1, 1], .val [3/2, 1]] := by
  decide +kernel

/-- `set` without copy: the slot shares its array with the caller -/
example : ¬ Sep (hexec ⟨false, true, true, true⟩ .empty [.new [1, 1], .set 0 0]) := by decide +kernel
example : hrun ⟨false, true, true, true⟩ .empty [.new [1, 1], .set 0 0, .mutate 0 [9, 9], .get 0]
    = [.ok, .ok, .ok, .val [9, 9]] := by decide +kernel

/-- `get` without copy: the caller can overwrite the store through the array it got back -/
example : ¬ Sep (hexec ⟨true, false, true, true⟩ .empty [.new [1, 1], .set 0 0, .get 0]) := by decide +kernel
example : hrun ⟨true, false, true, true⟩ .empty [.new [1, 1], .set 0 0, .get 0, .mutate 1 [9, 9], .get 0]
    = [.ok, .ok, .val [1, 1], .ok, .val [9, 9]] := by decide +kernel

/-- `shift` without copy: an additive write to index 0 also changes index 1 -/
example : hrun ⟨true, true, false, false⟩ .empty
    [.new [1, 1], .set 0 0, .shift none, .new [1/2, 0], .add 0 1, .get 1]
    = [.ok, .ok, .ok, .ok, .ok, .val [3/2, 1]] := by decide +kernel

/-- the seeded variant (only the oldest array of a growing history is moved by reference): slots 0
    and 1 alias exactly when one value is stored … -/
example : ¬ Sep (hexec ⟨true, true, true, false⟩ .empty [.new [1, 1], .set 0 0, .shift (some 2)]) := by
  decide +kernel
example : hrun ⟨true, true, true, false⟩ .empty
    [.new [1, 1], .set 0 0, .shift (some 2), .new [1/2, 0], .add 0 1, .get 1]
    = [.ok, .ok, .ok, .ok, .ok, .val [3/2, 1]] := by decide +kernel

/-- … with two values stored the next pass of the loop overwrites the shared slot with a copy -/
example : Sep (hexec ⟨true, true, true, false⟩ .empty [.new [1, 1], .set 0 0, .set 1 0, .shift (some 3)]) := by
  decide +kernel

end PorepyVerif.C08
