/-
C08 — the model with references: what allocation and in-place writes do to the denoted store (`view`)
and to the separation invariant, the shift loop, and one call of the code as it is (`hstep_spec`).
-/
import PorepyVerif.C08.Lemmas

namespace PorepyVerif.C08

section assocValues
variable {κ : Type} [DecidableEq κ] {α β : Type}

theorem alookup_map_snd (g : α → β) (s : List (κ × α)) (i : κ) :
    alookup (s.map (fun p => (p.1, g p.2))) i = (alookup s i).map g := by
  induction s with
  | nil => rfl
  | cons p s ih =>
    simp only [List.map_cons, alookup]
    split <;> simp [ih]

theorem map_ainsert_snd (g : α → β) (s : List (κ × α)) (k : κ) (a : α) :
    (ainsert s k a).map (fun p => (p.1, g p.2)) = ainsert (s.map (fun p => (p.1, g p.2))) k (g a) := by
  induction s with
  | nil => rfl
  | cons p s ih =>
    simp only [List.map_cons, ainsert]
    split
    · rfl
    · simp [ih]

theorem mem_vals_ainsert (s : List (κ × α)) (k : κ) (a r : α) (h : r ∈ (ainsert s k a).map (·.2)) :
    r = a ∨ r ∈ s.map (·.2) := by
  induction s with
  | nil => exact Or.inl (List.mem_singleton.mp h)
  | cons p s ih =>
    unfold ainsert at h
    split at h
    · rcases List.mem_cons.mp h with h | h
      · exact Or.inl h
      · exact Or.inr (List.mem_cons_of_mem _ h)
    · rcases List.mem_cons.mp h with h | h
      · exact Or.inr (h ▸ List.mem_cons_self)
      · exact (ih h).imp_right (List.mem_cons_of_mem _)

theorem nodup_vals_ainsert (s : List (κ × α)) (k : κ) (a : α) (hnd : (s.map (·.2)).Nodup)
    (ha : a ∉ s.map (·.2)) : ((ainsert s k a).map (·.2)).Nodup := by
  induction s with
  | nil => exact List.nodup_cons.mpr ⟨fun h => (nomatch h), List.nodup_nil⟩
  | cons p s ih =>
    have hn := nodup_map_cons hnd
    have ha' : a ∉ s.map (·.2) := fun e => ha (List.mem_cons_of_mem _ e)
    have hap : a ≠ p.2 := fun e => ha (e ▸ List.mem_cons_self)
    unfold ainsert
    split
    · exact List.nodup_cons.mpr ⟨ha', hn.2⟩
    · refine List.nodup_cons.mpr ⟨fun hmem => ?_, ih hn.2 ha'⟩
      rcases mem_vals_ainsert s k a p.2 hmem with h | h
      · exact hap h.symm
      · exact hn.1 h

theorem alookup_mem_vals (s : List (κ × α)) (i : κ) (q : α) (h : alookup s i = some q) :
    q ∈ s.map (·.2) := by
  induction s with
  | nil => cases h
  | cons p s ih =>
    unfold alookup at h
    split at h
    · exact Option.some.inj h ▸ List.mem_cons_self
    · exact List.mem_cons_of_mem _ (ih h)

theorem map_update_eq_ainsert [DecidableEq α] (g : α → β) (x : β) (s : List (κ × α)) (i : κ) (q : α)
    (hnd : (s.map (·.2)).Nodup) (hq : alookup s i = some q) :
    s.map (fun p => (p.1, if p.2 = q then x else g p.2))
      = ainsert (s.map (fun p => (p.1, g p.2))) i x := by
  induction s with
  | nil => cases hq
  | cons p s ih =>
    have hn := nodup_map_cons hnd
    unfold alookup at hq
    by_cases hp : p.1 = i
    · rw [if_pos hp] at hq
      have hpq : p.2 = q := Option.some.inj hq
      simp only [List.map_cons, ainsert, hp, if_true, hpq]
      congr 1
      apply List.map_congr_left
      intro c hc
      have : c.2 ≠ q := fun e => hn.1 (hpq ▸ e ▸ List.mem_map.mpr ⟨c, hc, rfl⟩)
      simp only [if_neg this]
    · rw [if_neg hp] at hq
      have hqs := alookup_mem_vals s i q hq
      have hpq : p.2 ≠ q := fun e => hn.1 (e ▸ hqs)
      simp only [List.map_cons, ainsert, if_neg hp, if_neg hpq]
      rw [ih hn.2 hq]

end assocValues

theorem deref_cells (st : HState) (q : Nat) (v : Val) (r : Nat) :
    deref { st with cells := ainsert st.cells q v } r = if r = q then v else deref st r := by
  simp only [deref, alookup_ainsert]
  split <;> rfl

theorem deref_alloc_lt (st : HState) (v : Val) (r : Nat) (h : r < st.next) :
    deref (alloc st v).1 r = deref st r :=
  (deref_cells st st.next v r).trans (if_neg (Nat.ne_of_lt h))

theorem deref_alloc_new (st : HState) (v : Val) : deref (alloc st v).1 st.next = v :=
  (deref_cells st st.next v st.next).trans (if_pos rfl)

theorem view_congr (st st' : HState) (hs : st'.store = st.store)
    (hd : ∀ r ∈ st.store.map (·.2), deref st' r = deref st r) : view st' = view st := by
  unfold view
  rw [hs]
  apply List.map_congr_left
  intro p hp
  rw [hd p.2 (List.mem_map.mpr ⟨p, hp, rfl⟩)]

theorem lookup_view (st : HState) (i : Nat) : lookup (view st) i = (alookup st.store i).map (deref st) :=
  alookup_map_snd (deref st) st.store i

theorem length_view (st : HState) : (view st).length = st.store.length := by simp [view]

theorem view_cells_store (st : HState) (i q : Nat) (v : Val) (hnd : (st.store.map (·.2)).Nodup)
    (hq : alookup st.store i = some q) :
    view { st with cells := ainsert st.cells q v } = insert (view st) i v := by
  unfold view insert
  rw [← map_update_eq_ainsert (deref st) v st.store i q hnd hq]
  apply List.map_congr_left
  intro p _
  rw [deref_cells]

theorem sep_alloc_store (st : HState) (v : Val) (i : Nat) (h : Sep st) :
    Sep { (alloc st v).1 with store := ainsert st.store i st.next } ∧
      view { (alloc st v).1 with store := ainsert st.store i st.next } = insert (view st) i v := by
  obtain ⟨h1, h2, h3, h4⟩ := h
  have hfresh : st.next ∉ st.store.map (·.2) := fun e => Nat.lt_irrefl _ (h3 _ e)
  refine ⟨⟨nodup_vals_ainsert _ _ _ h1 hfresh, ?_, ?_, fun r hr => Nat.lt_succ_of_lt (h4 r hr)⟩, ?_⟩
  · intro r hr
    rcases mem_vals_ainsert _ _ _ _ hr with e | e
    · subst e; exact fun hh => Nat.lt_irrefl _ (h4 _ hh)
    · exact h2 r e
  · intro r hr
    rcases mem_vals_ainsert _ _ _ _ hr with e | e
    · subst e; exact Nat.lt_succ_self _
    · exact Nat.lt_succ_of_lt (h3 r e)
  · unfold view insert
    simp only
    rw [map_ainsert_snd]
    have hnew : deref { (alloc st v).1 with store := ainsert st.store i st.next } st.next = v :=
      deref_alloc_new st v
    rw [hnew]
    congr 1
    apply List.map_congr_left
    intro p hp
    exact congrArg (Prod.mk p.1) (deref_alloc_lt st v p.2 (h3 p.2 (List.mem_map.mpr ⟨p, hp, rfl⟩)))

/-- allocate a copy and hand it to the caller -/
theorem sep_alloc_held (st : HState) (v : Val) (h : Sep st) :
    Sep { (alloc st v).1 with held := st.held ++ [st.next] } ∧
      view { (alloc st v).1 with held := st.held ++ [st.next] } = view st := by
  obtain ⟨h1, h2, h3, h4⟩ := h
  refine ⟨⟨h1, ?_, fun r hr => Nat.lt_succ_of_lt (h3 r hr), ?_⟩,
    view_congr st _ rfl (fun r hr => deref_alloc_lt st v r (h3 r hr))⟩
  · intro r hr hh
    rcases List.mem_append.mp hh with e | e
    · exact h2 r hr e
    · exact Nat.lt_irrefl _ (List.mem_singleton.mp e ▸ h3 r hr)
  · intro r hr
    rcases List.mem_append.mp hr with e | e
    · exact Nat.lt_succ_of_lt (h4 r e)
    · have : r = st.next := List.mem_singleton.mp e
      subst this; exact Nat.lt_succ_self _

theorem hshiftLoop_none {st : HState} {i : Nat} (c : Bool) (h : alookup st.store i = none) :
    hshiftLoop codePolicy c (i + 1) st = (st, false) := by
  unfold hshiftLoop; rw [h]

theorem hshiftLoop_some {st : HState} {i q : Nat} (h : alookup st.store i = some q) :
    hshiftLoop codePolicy true (i + 1) st
      = hshiftLoop codePolicy true i
          { (alloc st (deref st q)).1 with store := ainsert st.store (i + 1) st.next } := by
  conv => lhs; unfold hshiftLoop
  rw [h]
  rfl

/-- the shift loop of the code as it is (every pass copies) -/
theorem hshiftLoop_spec (top : Nat) (st : HState) (h : Sep st) :
    Sep (hshiftLoop codePolicy true top st).1 ∧
      view (hshiftLoop codePolicy true top st).1 = (shiftLoop top (view st)).1 ∧
      (hshiftLoop codePolicy true top st).2 = (shiftLoop top (view st)).2 ∧
      (hshiftLoop codePolicy true top st).1.held = st.held ∧
      st.next ≤ (hshiftLoop codePolicy true top st).1.next ∧
      (∀ r, r < st.next → deref (hshiftLoop codePolicy true top st).1 r = deref st r) := by
  induction top generalizing st with
  | zero => exact ⟨h, rfl, rfl, rfl, Nat.le_refl _, fun _ _ => rfl⟩
  | succ i ih =>
    cases hq : alookup st.store i with
    | none =>
      have hv : lookup (view st) i = none := by rw [lookup_view, hq]; rfl
      rw [hshiftLoop_none true hq, shiftLoop_none hv]
      exact ⟨h, rfl, rfl, rfl, Nat.le_refl _, fun _ _ => rfl⟩
    | some q =>
      have hv : lookup (view st) i = some (deref st q) := by rw [lookup_view, hq]; rfl
      have hs := sep_alloc_store st (deref st q) (i + 1) h
      obtain ⟨hsep, hview, hout, hheld, hnext, hcells⟩ := ih _ hs.1
      rw [hs.2] at hview hout
      rw [hshiftLoop_some hq, shiftLoop_some hv]
      refine ⟨hsep, hview, hout, hheld, Nat.le_of_succ_le hnext, fun r hr => ?_⟩
      rw [hcells r (Nat.lt_succ_of_lt hr)]
      exact deref_alloc_lt st _ r hr

/-- the value-level call a heap-level call amounts to, applied to a store; the caller's own business
    leaves the store alone -/
def vstep (s : Store) : Option Op → Store × Out
  | none => (s, .ok)
  | some vop => step s vop

theorem vrun_cons (st : HState) (s : Store) (op : HOp) (ops : List HOp) :
    vrun st s (op :: ops) = (vstep s (valueOp st op)).2 ::
      vrun (hstep codePolicy st op).1 (vstep s (valueOp st op)).1 ops := by
  rw [vrun]
  cases valueOp st op <;> rfl

/-- One call of the code as it is on a separated state, case by case: separation is kept; the denoted
    store moves as the value-level call says (array arguments read at call time; what the caller does
    with its own arrays is invisible to the store); and unless the caller overwrites an array itself,
    every array it holds keeps its contents and stays held. -/
theorem hstep_spec (st : HState) (op : HOp) (h : Sep st) :
    Sep (hstep codePolicy st op).1 ∧
      (view (hstep codePolicy st op).1 = (vstep (view st) (valueOp st op)).1 ∧
        (hstep codePolicy st op).2 = (vstep (view st) (valueOp st op)).2) ∧
      (isMutate op = false → ∀ r ∈ st.held,
        deref (hstep codePolicy st op).1 r = deref st r ∧ r ∈ (hstep codePolicy st op).1.held) := by
  have same : ∀ r ∈ st.held, deref st r = deref st r ∧ r ∈ st.held := fun _ hr => ⟨rfl, hr⟩
  -- a fresh copy does not disturb the arrays the caller holds
  have hcopy : ∀ v, ∀ r ∈ st.held, deref (alloc st v).1 r = deref st r :=
    fun v r hr => deref_alloc_lt st v r (h.2.2.2 r hr)
  cases op with
  | new v =>
    have ha := sep_alloc_held st v h
    exact ⟨ha.1, ⟨ha.2, rfl⟩, fun _ r hr => ⟨hcopy v r hr, List.mem_append_left _ hr⟩⟩
  | mutate k v =>
    simp only [valueOp, vstep, hstep]
    cases hk : st.held[k]? with
    | none => exact ⟨h, ⟨rfl, rfl⟩, fun hm => Bool.noConfusion hm⟩
    | some r =>
      -- the array is the caller's own: no slot refers to it
      refine ⟨h, ⟨view_congr st _ rfl (fun q hq => ?_), rfl⟩, fun hm => Bool.noConfusion hm⟩
      have hne : q ≠ r := fun e => h.2.1 q hq (e ▸ List.mem_of_getElem? hk)
      rw [deref_cells, if_neg hne]
  | set i k =>
    simp only [valueOp, vstep, hstep]
    cases st.held[k]? with
    | none => exact ⟨h, ⟨rfl, rfl⟩, fun _ => same⟩
    | some r =>
      have ha := sep_alloc_store st (deref st r) i h
      exact ⟨ha.1, ⟨ha.2, rfl⟩, fun _ r' hr' => ⟨hcopy _ r' hr', hr'⟩⟩
  | add i k =>
    simp only [valueOp, vstep, hstep]
    cases st.held[k]? with
    | none => exact ⟨h, ⟨rfl, rfl⟩, fun _ => same⟩
    | some r =>
      simp only [Option.map_some, step, addAt, lookup_view]
      cases hq : alookup st.store i with
      | none => exact ⟨h, ⟨rfl, rfl⟩, fun _ => same⟩
      | some q =>
        -- `+=` in place on the array of slot `i`, which no other slot and no held array shares
        refine ⟨h, ⟨view_cells_store st i q _ h.1 hq, rfl⟩, fun _ r' hr' => ⟨?_, hr'⟩⟩
        have hne : r' ≠ q := fun e => h.2.1 q (alookup_mem_vals st.store i q hq) (e ▸ hr')
        rw [deref_cells, if_neg hne]
  | get i =>
    simp only [valueOp, vstep, hstep, step, lookup_view]
    cases hq : alookup st.store i with
    | none => exact ⟨h, ⟨rfl, rfl⟩, fun _ => same⟩
    | some q =>
      have ha := sep_alloc_held st (deref st q) h
      exact ⟨ha.1, ⟨ha.2, rfl⟩, fun _ r hr => ⟨hcopy _ r hr, List.mem_append_left _ hr⟩⟩
  | shift m =>
    simp only [valueOp, vstep, hstep, step, shift, length_view]
    cases shiftStart st.store.length m with
    | none => exact ⟨h, ⟨rfl, rfl⟩, fun _ => same⟩
    | some top =>
      have hc : (if top = st.store.length then codePolicy.copyShiftOldest else codePolicy.copyShift) = true := by
        split <;> rfl
      simp only [hc]
      obtain ⟨hsep, hview, hout, hheld, _, hcells⟩ := hshiftLoop_spec top st h
      refine ⟨hsep, ⟨hview, ?_⟩, fun _ r hr => ⟨hcells r (h.2.2.2 r hr), hheld ▸ hr⟩⟩
      rw [hout]
      cases (shiftLoop top (view st)).2 <;> rfl

/-- every call of the code as it is keeps the slots separated from each other and from the caller -/
theorem sep_step (st : HState) (op : HOp) (h : Sep st) : Sep (hstep codePolicy st op).1 :=
  (hstep_spec st op h).1

/-- one call on the heap model is the value-level call on the denoted store (array arguments read at
    call time); what the caller does with its own arrays is invisible to the store -/
theorem heap_step_refines (st : HState) (op : HOp) (h : Sep st) :
    view (hstep codePolicy st op).1 = (vstep (view st) (valueOp st op)).1 ∧
      (hstep codePolicy st op).2 = (vstep (view st) (valueOp st op)).2 :=
  (hstep_spec st op h).2.1

/-- no storage call alters an array the caller holds, and the caller keeps what it holds -/
theorem held_stable_step (st : HState) (op : HOp) (h : Sep st) (hm : isMutate op = false) :
    ∀ r ∈ st.held, deref (hstep codePolicy st op).1 r = deref st r ∧ r ∈ (hstep codePolicy st op).1.held :=
  (hstep_spec st op h).2.2 hm

end PorepyVerif.C08
