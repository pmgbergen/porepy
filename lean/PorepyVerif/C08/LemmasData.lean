/-
C08 — the data dictionary (`set/get/shift_solution_values`: one call is one store call at the key
`(location, name)`) and the loops of the equation-system wrappers over the blocks of a layout.
-/
import PorepyVerif.C08.Lemmas

namespace PorepyVerif.C08

/-- one call of `shift_solution_values`: an unregistered name stays unregistered -/
theorem dget_shiftSolutionValues (d : Data) (n : String) (loc : Loc) (m : Option Int) (k : Key) :
    dget (shiftSolutionValues d n (some loc) m).1 k
      = if k = (loc, n) then (dget d k).map (fun s => (shift s m).1) else dget d k := by
  simp only [shiftSolutionValues]
  by_cases hk : k = (loc, n)
  · subst hk
    rw [if_pos rfl]
    cases hs : dget d (loc, n) with
    | none => exact hs
    | some s => exact (dget_dput _ _ _ _).trans (if_pos rfl)
  · rw [if_neg hk]
    cases dget d (loc, n) with
    | none => rfl
    | some s => exact (dget_dput _ _ _ _).trans (if_neg hk)

theorem shiftSolutionValues_ok (d : Data) (n : String) (loc : Loc) (m : Option Int)
    (hok : ∀ s, dget d (loc, n) = some s → (shift s m).2 = none) :
    (shiftSolutionValues d n (some loc) m).2 = .ok := by
  simp only [shiftSolutionValues]
  cases hs : dget d (loc, n) with
  | none => rfl
  | some s => simp only [hok s hs]

theorem validateIndices_one (loc : Loc) (i : Nat) :
    validateIndices (tsArg loc i) (itArg loc i) = some [(loc, i)] := by
  cases loc <;> simp [validateIndices, idxPart, tsArg, itArg]

theorem setSolutionValues_one (d : Data) (name : String) (v : Val) (loc : Loc) (i : Nat)
    (additive : Bool) :
    setSolutionValues d name v (tsArg loc i) (itArg loc i) additive
      = setLoop name v additive d [(loc, i)] := by
  simp only [setSolutionValues, validateIndices_one]

/-- every pass of the loop of `set_solution_values` is `set` / `add` on the history it addresses (so a call with
    both indices is two such calls, the iterate one first) -/
theorem setLoop_cons (name : String) (v : Val) (additive : Bool) (d : Data) (loc : Loc) (i : Nat)
    (rest : List (Loc × Nat)) :
    setLoop name v additive d ((loc, i) :: rest)
      = let r := step ((dget d (loc, name)).getD []) (if additive then .add i v else .set i v)
        if r.2 = .ok then setLoop name v additive (dput d (loc, name) r.1) rest
        else (dput d (loc, name) r.1, r.2) := by
  cases additive
  · rfl
  · simp only [setLoop, step, addAt, if_true]
    cases lookup ((dget d (loc, name)).getD []) i <;> rfl

/-- reading one index: an unregistered name and an empty slot both give `KeyError` -/
theorem getSolutionValues_slot (d : Data) (name : String) (loc : Loc) (i : Nat) :
    getSolutionValues d name (tsArg loc i) (itArg loc i)
      = match slotOf d loc name i with
        | none => .err .keyError
        | some v => .val v := by
  simp only [getSolutionValues, validateIndices_one, slotOf]
  cases dget d (loc, name) with
  | none => rfl
  | some s => cases lookup s i <;> rfl

theorem setSolutionValues_slot (d : Data) (name : String) (v : Val) (loc : Loc) (i : Nat) :
    (setSolutionValues d name v (tsArg loc i) (itArg loc i) false).2 = .ok ∧
      ∀ loc' name' j, slotOf (setSolutionValues d name v (tsArg loc i) (itArg loc i) false).1 loc' name' j
        = if loc' = loc ∧ name' = name ∧ j = i then some v else slotOf d loc' name' j := by
  rw [setSolutionValues_one]
  refine ⟨rfl, fun loc' name' j => ?_⟩
  show slotOf (dput d (loc, name) (insert ((dget d (loc, name)).getD []) i v)) loc' name' j = _
  simp only [slotOf, dget_dput]
  by_cases hk : (loc', name') = (loc, name)
  · cases hk
    rw [if_pos rfl, Option.bind_some, lookup_insert]
    by_cases hj : j = i
    · rw [if_pos hj, if_pos ⟨rfl, rfl, hj⟩]
    · rw [if_neg hj, if_neg (fun e => hj e.2.2)]
      cases dget d (loc, name) <;> rfl
  · rw [if_neg hk, if_neg (fun e => hk (by rw [e.1, e.2.1]))]

theorem blockOffset_none (sel : List String) (name : String) (lay : Layout)
    (h : name ∉ lay.map (·.1)) : blockOffset sel name lay = none := by
  induction lay with
  | nil => rfl
  | cons c rest ih =>
    have hc : c.1 ≠ name := fun e => h (e ▸ List.mem_cons_self)
    unfold blockOffset
    rw [ih (fun e => h (List.mem_cons_of_mem _ e)), if_neg hc]
    split <;> rfl

section setterLoop
variable (sel : List String) (loc : Loc) (i : Nat) (values : Val)

/-- the write (non-additive, one index) never raises -/
theorem esSetLoop_cons_sel {b : String × Nat} (hs : b.1 ∈ sel) (rest : Layout) (d : Data) (start : Nat) :
    esSetLoop sel (tsArg loc i) (itArg loc i) false values d start (b :: rest)
      = esSetLoop sel (tsArg loc i) (itArg loc i) false values
          (setSolutionValues d b.1 ((values.drop start).take b.2) (tsArg loc i) (itArg loc i) false).1
          (start + b.2) rest := by
  conv => lhs; unfold esSetLoop
  rw [if_pos hs]
  simp only [(setSolutionValues_slot d b.1 _ loc i).1]

theorem esSetLoop_cons_not {b : String × Nat} (hs : b.1 ∉ sel) (rest : Layout) (d : Data) (start : Nat) :
    esSetLoop sel (tsArg loc i) (itArg loc i) false values d start (b :: rest)
      = esSetLoop sel (tsArg loc i) (itArg loc i) false values d start rest := by
  conv => lhs; unfold esSetLoop
  rw [if_neg hs]

theorem esSetLoop_frame (lay : Layout) (d : Data) (start : Nat) (loc' : Loc) (name' : String) (j : Nat)
    (h : name' ∉ lay.map (·.1)) :
    slotOf (esSetLoop sel (tsArg loc i) (itArg loc i) false values d start lay).1 loc' name' j
      = slotOf d loc' name' j := by
  induction lay generalizing d start with
  | nil => rfl
  | cons b rest ih =>
    have hr : name' ∉ rest.map (·.1) := fun e => h (List.mem_cons_of_mem _ e)
    by_cases hs : b.1 ∈ sel
    · have hb : ¬ (loc' = loc ∧ name' = b.1 ∧ j = i) := fun e => h (e.2.1 ▸ List.mem_cons_self)
      rw [esSetLoop_cons_sel sel loc i values hs, ih _ _ hr, (setSolutionValues_slot d b.1 _ loc i).2,
        if_neg hb]
    · rw [esSetLoop_cons_not sel loc i values hs]
      exact ih _ _ hr

theorem esSetLoop_ok (lay : Layout) (d : Data) (start : Nat) :
    (esSetLoop sel (tsArg loc i) (itArg loc i) false values d start lay).2.1 = .ok ∧
      (esSetLoop sel (tsArg loc i) (itArg loc i) false values d start lay).2.2 = start + selSize sel lay := by
  induction lay generalizing d start with
  | nil => exact ⟨rfl, rfl⟩
  | cons b rest ih =>
    by_cases hs : b.1 ∈ sel
    · rw [esSetLoop_cons_sel sel loc i values hs, selSize, if_pos hs, ← Nat.add_assoc]
      exact ih _ _
    · rw [esSetLoop_cons_not sel loc i values hs, selSize, if_neg hs, Nat.zero_add]
      exact ih _ _

/-- `set_variable_values` (non-additive, one index): the writes never raise, so the outcome is that of
    the final size assertion -/
theorem esSet_eq (lay : Layout) (d : Data) :
    esSet lay d values sel (tsArg loc i) (itArg loc i) false
      = ((esSetLoop sel (tsArg loc i) (itArg loc i) false values d 0 lay).1,
          if selSize sel lay = values.length then .ok else .err .assertionError) := by
  have hok := esSetLoop_ok sel loc i values lay d 0
  simp only [esSet, hok.1, hok.2, Nat.zero_add]

theorem esGetLoop_esSetLoop (lay : Layout) (hnd : (lay.map (·.1)).Nodup) (d : Data) (start : Nat) :
    esGetLoop sel (tsArg loc i) (itArg loc i)
        (esSetLoop sel (tsArg loc i) (itArg loc i) false values d start lay).1 lay
      = .val ((values.drop start).take (selSize sel lay)) := by
  induction lay generalizing d start with
  | nil => rfl
  | cons b rest ih =>
    have hn := nodup_map_cons hnd
    unfold esGetLoop
    by_cases hs : b.1 ∈ sel
    · -- the later blocks have other names, so the block just written is read back unchanged
      rw [esSetLoop_cons_sel sel loc i values hs, if_pos hs, getSolutionValues_slot,
        esSetLoop_frame sel loc i values _ _ _ _ _ _ hn.1, (setSolutionValues_slot d b.1 _ loc i).2,
        if_pos ⟨rfl, rfl, rfl⟩, ih hn.2, selSize, if_pos hs, List.take_add, List.drop_drop]
    · rw [esSetLoop_cons_not sel loc i values hs, if_neg hs, ih hn.2, selSize, if_neg hs, Nat.zero_add]

theorem esSetLoop_block (lay : Layout) (hnd : (lay.map (·.1)).Nodup) (d : Data) (start : Nat)
    (name : String) (n off : Nat) (hb : (name, n) ∈ lay) (hoff : blockOffset sel name lay = some off) :
    slotOf (esSetLoop sel (tsArg loc i) (itArg loc i) false values d start lay).1 loc name i
      = some ((values.drop (start + off)).take n) := by
  induction lay generalizing d start off with
  | nil => cases hb
  | cons b rest ih =>
    have hn := nodup_map_cons hnd
    unfold blockOffset at hoff
    by_cases hname : b.1 = name
    · -- names are distinct, so this is the block `(name, n)`: later blocks leave its slot alone
      have hbn : b = (name, n) := by
        rcases List.mem_cons.mp hb with h | h
        · exact h.symm
        · exact absurd (List.mem_map.mpr ⟨(name, n), h, rfl⟩) (hname ▸ hn.1)
      subst hbn
      by_cases hs : name ∈ sel
      · rw [if_pos hs, if_pos rfl] at hoff
        cases hoff
        rw [esSetLoop_cons_sel sel loc i values hs, esSetLoop_frame sel loc i values _ _ _ _ _ _ hn.1,
          (setSolutionValues_slot d name _ loc i).2, if_pos ⟨rfl, rfl, rfl⟩]
        rfl
      · rw [if_neg hs, blockOffset_none sel name rest hn.1] at hoff
        cases hoff
    · have hb' : (name, n) ∈ rest := by
        rcases List.mem_cons.mp hb with h | h
        · exact absurd (congrArg Prod.fst h).symm hname
        · exact h
      by_cases hs : b.1 ∈ sel
      · rw [if_pos hs, if_neg hname] at hoff
        obtain ⟨off', hoff', rfl⟩ := Option.map_eq_some_iff.mp hoff
        rw [esSetLoop_cons_sel sel loc i values hs, ih hn.2 _ _ _ hb' hoff', Nat.add_assoc,
          Nat.add_comm b.2]
      · rw [if_neg hs] at hoff
        rw [esSetLoop_cons_not sel loc i values hs]
        exact ih hn.2 _ _ _ hb' hoff

end setterLoop

end PorepyVerif.C08
