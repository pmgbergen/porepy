/-
C10 — property theorems (statements depend on Model.lean only; helper lemmas in Lemmas.lean).

Property: during a time-dependent run in which any subset of Newton solves is forced to fail (adaptive
time stepping), after every converged step the most recent stored time-step values equal the converged
iterate, after every failed step the current iterate is reset to the last accepted time-step values, and
the run ends at the final time with the time-step history equal to the sequence of accepted solutions.

All theorems quantify over: every value type `V` with an addition, every clock `clk` (hence every time
manager), every configuration with window lengths ≥ 1, every history of solve tapes `tapes` (every
failure pattern: which solves diverge or exhaust the iterations, and at which iteration) and the tape of
the next solve.  `runAll clk cfg (startRun clk cfg v0 c0) tapes` is an arbitrary reachable state of
`run_time_dependent_model`'s loop.
-/
import PorepyVerif.C09.Props
import PorepyVerif.C10.Lemmas

namespace PorepyVerif.C10

variable {V C : Type} [Add V]

/-- After every converged (accepted) step the most recent stored time-step value equals the converged
    iterate — the iterate the Newton loop ended with —, which is also still the current iterate and
    the new head of the accepted sequence. -/
theorem after_converged_ts0_eq_iterate (clk : Clock C) (cfg : Cfg) (hIt : 0 < cfg.nIt) (hTs : 0 < cfg.nTs)
    (v0 : V) (c0 : C) (tapes : List (List (Iter V))) (tape : List (Iter V)) :
    let r := runAll clk cfg (startRun clk cfg v0 c0) tapes
    let r' := stepRun clk cfg r tape
    r.status = .running → r'.last = .accepted →
    ∃ v, (solveStep cfg tape r.sol).sol.its.head? = some v ∧ r'.sol.tss.head? = some v ∧
      r'.sol.its.head? = some v ∧ r'.accepted = v :: r.accepted :=
  accepted_pass clk cfg hIt _ tape (inv_reached clk cfg hIt hTs v0 c0 tapes).itsLen

/-- After every failed step (diverged at some iteration, or out of iterations) that the time manager lets
    recompute, the current iterate equals the most recent time-step value, the stored time steps are
    untouched, and that value is the last accepted solution. -/
theorem after_failed_iterate_eq_ts0 (clk : Clock C) (cfg : Cfg) (hIt : 0 < cfg.nIt) (hTs : 0 < cfg.nTs)
    (v0 : V) (c0 : C) (tapes : List (List (Iter V))) (tape : List (Iter V)) :
    let r := runAll clk cfg (startRun clk cfg v0 c0) tapes
    let r' := stepRun clk cfg r tape
    r.status = .running → r'.last = .retried →
    r'.sol.its.head? = r'.sol.tss.head? ∧ r'.sol.tss = r.sol.tss ∧ r'.accepted = r.accepted ∧
      r'.sol.tss.head? = r.accepted.head? :=
  retried_pass clk cfg v0 hIt hTs _ tape (inv_reached clk cfg hIt hTs v0 c0 tapes)

/-- The time-step history always equals the sequence of accepted solutions, most recent first, truncated
    to the window (padded with the initial value while fewer than `nTs` steps were accepted) — whatever
    happened in between: failures, raised errors, exhausted tapes. -/
theorem history_is_accepted_sequence (clk : Clock C) (cfg : Cfg) (hIt : 0 < cfg.nIt) (hTs : 0 < cfg.nTs)
    (v0 : V) (c0 : C) (tapes : List (List (Iter V))) :
    let r := runAll clk cfg (startRun clk cfg v0 c0) tapes
    r.sol.tss = window cfg.nTs r.accepted v0 :=
  (inv_reached clk cfg hIt hTs v0 c0 tapes).hist

/-- At every boundary of the time loop (between two solves, and when the loop has ended at the final time)
    the current iterate, the most recent time-step value and the last accepted solution coincide. -/
theorem loop_boundary_consistent (clk : Clock C) (cfg : Cfg) (hIt : 0 < cfg.nIt) (hTs : 0 < cfg.nTs)
    (v0 : V) (c0 : C) (tapes : List (List (Iter V))) (hok : ∀ t ∈ tapes, NoBoth cfg t) :
    let r := runAll clk cfg (startRun clk cfg v0 c0) tapes
    (r.status = .running ∨ r.status = .finished) →
    r.sol.its.head? = r.sol.tss.head? ∧ r.sol.tss.head? = r.accepted.head? := by
  intro r hst
  have hinv : Inv clk cfg v0 r := inv_reached clk cfg hIt hTs v0 c0 tapes
  have hl : r.last ≠ .both := last_ne_both clk cfg tapes hok _ (by simp [startRun])
  refine ⟨hinv.cons hl hst, ?_⟩
  rw [hinv.hist]; exact window_head? _ _ _ hTs hinv.accNe

/-- The stored windows keep their lengths (`len(iterate_indices)`, `len(time_step_indices)`). -/
theorem windows_keep_length (clk : Clock C) (cfg : Cfg) (hIt : 0 < cfg.nIt) (hTs : 0 < cfg.nTs)
    (v0 : V) (c0 : C) (tapes : List (List (Iter V))) :
    let r := runAll clk cfg (startRun clk cfg v0 c0) tapes
    r.sol.its.length = cfg.nIt ∧ r.sol.tss.length = cfg.nTs := by
  intro r
  have hinv : Inv clk cfg v0 r := inv_reached clk cfg hIt hTs v0 c0 tapes
  exact ⟨hinv.itsLen, by rw [hinv.hist]; exact window_length _ _ _⟩

/-- The loop is left as "finished" only when the time manager reports the final time, and it keeps running
    only while it does not. -/
theorem finished_is_final (clk : Clock C) (cfg : Cfg) (hIt : 0 < cfg.nIt) (hTs : 0 < cfg.nTs)
    (v0 : V) (c0 : C) (tapes : List (List (Iter V))) :
    let r := runAll clk cfg (startRun clk cfg v0 c0) tapes
    (r.status = .finished → clk.final r.clock = true) ∧ (r.status = .running → clk.final r.clock = false) := by
  intro r
  have hinv : Inv clk cfg v0 r := inv_reached clk cfg hIt hTs v0 c0 tapes
  exact ⟨hinv.statF, hinv.statR⟩

/-- The run ends at the final time or raises: for a clock with a termination measure (`Terminating`: every
    accepted step and every recomputation the clock grants decreases `μ` — for the time manager the
    remaining distance and the remaining recomputation budget), every sufficiently long supply of
    well-formed tapes (each long enough for `max_iterations + 1` iterations) drives the loop to
    "finished" with `final_time_reached()` true, or to the error raised by `after_nonlinear_failure`
    when the clock refuses another recomputation.  No other end (crash in the accept hook, both flags,
    exhausted tape, still running) is possible. -/
theorem ends_at_final_time_or_raises (clk : Clock C) (cfg : Cfg) (inv : C → Prop) (μ : C → Nat)
    (hT : Terminating clk inv μ) (v0 : V) (c0 : C) (hc0 : inv c0) (tapes : List (List (Iter V)))
    (hok : ∀ t ∈ tapes, NoBoth cfg t ∧ cfg.maxIt < t.length) (hlen : μ c0 < tapes.length) :
    let r := runAll clk cfg (startRun clk cfg v0 c0) tapes
    (r.status = .finished ∧ clk.final r.clock = true ∧ inv r.clock) ∨ ∃ e, r.status = .raised e := by
  intro r
  have h := runAll_ends clk cfg inv μ hT tapes hok (startRun clk cfg v0 c0) <| by
    rcases statusOf_cases clk c0 with ⟨h1, h2⟩ | ⟨h1, _⟩
    · exact .inl ⟨h1, hc0, h2, hlen⟩
    · exact .inr (.inl ⟨h1, hc0⟩)
  rcases h with ⟨h1, h2⟩ | h
  · exact .inl ⟨h1, (statusOk_reached clk cfg v0 c0 tapes).finished h1, h2⟩
  · exact .inr h

/-- The hypotheses of `ends_at_final_time_or_raises` are satisfiable: the tick clock (accept with a grown or
    shrunk step capped at the final time / recompute with half the step / raise at the minimal step or
    when `recompMax` recomputations were used) is `Terminating`. -/
theorem simpleClock_terminating (p : SCParams) : Terminating (simpleClock p) (scInv p) (scMeasure p) := by
  constructor
  · intro c k ⟨hrec, hle, hstep⟩ hfin
    obtain ⟨hdt, hsum⟩ := hstep (Nat.lt_of_not_le (of_decide_eq_false hfin))
    refine ⟨{ t := c.t + c.dt, dt := scNextDt p (c.t + c.dt) c.dt k, recomp := 0 }, rfl,
      ⟨Nat.zero_le _, hsum, ?_⟩, ?_⟩
    · -- the projections are reduced first: unifying through them unfolds `scNextDt`, which is slow
      dsimp only
      exact scNextDt_spec p (c.t + c.dt) c.dt k
    · exact sc_measure_lt p.final p.recompMax c.t (c.t + c.dt) _ (Nat.lt_add_of_pos_right hdt) hsum
  · intro c c' ⟨hrec, hle, hstep⟩ hfin hret
    obtain ⟨hdt, hsum⟩ := hstep (Nat.lt_of_not_le (of_decide_eq_false hfin))
    obtain ⟨hr, hd, rfl⟩ := simpleClock_retry_ok p (c.t + c.dt) c.dt c.recomp c' hret
    rw [Nat.add_sub_cancel]
    -- back at time `c.t` with half the step (which was at least 2) and one recomputation more
    refine ⟨⟨hr, hle, fun _ => ⟨?_, Nat.le_trans (Nat.add_le_add_left (Nat.div_le_self ..) _) hsum⟩⟩,
      Nat.add_lt_add_left ?_ _⟩
    · exact (Nat.le_div_iff_mul_le Nat.two_pos).2 (Nat.lt_of_le_of_ne hdt hd.symm)
    · exact Nat.sub_succ_lt_self _ _ hr

/-- … hence every run over the tick clock with enough well-formed tapes ends EXACTLY at the final time
    (last solve accepted or not needed) or raises, whatever the failure pattern. -/
theorem simpleClock_run_ends (p : SCParams) (cfg : Cfg) (v0 : V) (d0 : Nat) (hd : 1 ≤ d0) (hd' : d0 ≤ p.final)
    (tapes : List (List (Iter V))) (hok : ∀ t ∈ tapes, NoBoth cfg t ∧ cfg.maxIt < t.length)
    (hlen : p.final * (p.recompMax + 1) + p.recompMax < tapes.length) :
    let r := runAll (simpleClock p) cfg (startRun (simpleClock p) cfg v0 ⟨0, d0, 0⟩) tapes
    (r.status = .finished ∧ r.clock.t = p.final) ∨ ∃ e, r.status = .raised e := by
  intro r
  have h := ends_at_final_time_or_raises (simpleClock p) cfg (scInv p) (scMeasure p) (simpleClock_terminating p)
    v0 ⟨0, d0, 0⟩ ⟨Nat.zero_le _, Nat.zero_le _, fun _ => ⟨hd, (Nat.zero_add d0).symm ▸ hd'⟩⟩ tapes hok hlen
  exact h.imp_left fun ⟨h1, h2, h3⟩ => ⟨h1, Nat.le_antisymm h3.2.1 (of_decide_eq_true h2)⟩

/-- A rejected step rewinds the time manager (C09's model): the time and the time index are those of the
    last accepted step again, and one recomputation is counted. -/
theorem tm_retry_rewinds (p : C09.Params) (s s' : C09.TM)
    (h : (tmClock p).retry ((tmClock p).advance s) = .ok s') :
    (tmClock p).time s' = (tmClock p).time s ∧ s'.timeIndex = s.timeIndex ∧ s'.recompNum = s.recompNum + 1 := by
  rw [tmClock_retry] at h
  split at h
  · cases h
  · obtain ⟨h1, h2, h3⟩ := C09.correct_keeps p (C09.rewound p ((tmClock p).advance s))
    split at h
    · rename_i s2 _ heq
      obtain rfl : s2 = s' := Except.ok.inj h
      rw [heq] at h1 h2 h3
      refine ⟨h1.trans ?_, h2.trans ?_, h3⟩
      · show s.time + s.dt - s.dt = s.time
        exact Rat.add_sub_cancel
      · show s.timeIndex + 1 - 1 = s.timeIndex
        omega
    · cases h

/-- `ends_at_final_time_or_raises` for the REAL time manager model: over `tmClock p` — C09's verified model of
    `TimeManager`, simulated step by step by C09's time loop (`sim_runAll`) — with parameters the constructor
    accepts (`C09.Admissible`), a positive `dt_min`, and a supply of well-formed tapes as long as C09's
    termination bound `(recomp_max + 1)·((t_final − t_init)/dt_min + len(schedule) − 1)`, EVERY failure pattern
    drives the run to "finished" with `final_time_reached()` true or to the `ValueError` of
    `after_nonlinear_failure`.  (C09.run_terminates excludes "still running", C09.only_documented_errors
    excludes an exception from the convergence hook.) -/
theorem ends_at_final_time_or_raises_tm (p : C09.Params) (A : C09.Admissible p) (hmin : 0 < p.dtMin)
    (cfg : Cfg) (v0 : V) (tapes : List (List (Iter V)))
    (hok : ∀ t ∈ tapes, NoBoth cfg t ∧ cfg.maxIt < t.length) (hlin : cfg.linear = false)
    (hlen : ((p.recompMax : Rat) + 1) *
              ((p.timeFinal - p.timeInit) + p.dtMin * ((p.schedule.length - 1 : Nat) : Rat))
              ≤ p.dtMin * (tapes.length : Rat)) :
    let r := runAll (tmClock p) cfg (startRun (tmClock p) cfg v0 (C09.init p)) tapes
    (r.status = .finished ∧ C09.finalTimeReached p r.clock = true) ∨ ∃ e, r.status = .raised e := by
  intro r
  obtain ⟨os, hl, hs⟩ := sim_runAll p cfg tapes hok hlin _ _ (sim_start p cfg v0)
  have hterm := C09.run_terminates p A hmin os (by rw [hl]; exact hlen)
  have hdoc := (C09.only_documented_errors p A os).2
  rcases hs with ⟨_, b, _⟩ | ⟨a, _⟩ | ⟨e, _, a, _⟩ | ⟨_, e', _, b⟩
  · exact absurd b hterm
  · exact .inl ⟨a, (statusOk_reached (tmClock p) cfg v0 _ tapes).finished a⟩
  · exact .inr ⟨e, a⟩
  · exact absurd b (hdoc e')

/-- … and the number of accepted steps of such a run is bounded (C09.accepted_steps_bounded transported along
    the simulation): `dt_min · #accepted ≤ (t_final − t_init) + dt_min · len(schedule)`, whatever the tapes. -/
theorem accepted_steps_bounded_tm (p : C09.Params) (A : C09.Admissible p) (hmin : 0 < p.dtMin)
    (cfg : Cfg) (v0 : V) (tapes : List (List (Iter V)))
    (hok : ∀ t ∈ tapes, NoBoth cfg t ∧ cfg.maxIt < t.length) (hlin : cfg.linear = false) :
    let r := runAll (tmClock p) cfg (startRun (tmClock p) cfg v0 (C09.init p)) tapes
    (r.status = .running ∨ r.status = .finished) →
    p.dtMin * (r.acceptedT.length : Rat) ≤ (p.timeFinal - p.timeInit) + p.dtMin * (p.schedule.length : Rat) := by
  intro r hst
  obtain ⟨os, _, hs⟩ := sim_runAll p cfg tapes hok hlin _ _ (sim_start p cfg v0)
  have hb := C09.accepted_steps_bounded p A hmin os
  have hd : r.acceptedT = (C09.run p os).accepted := by
    rcases hs with ⟨_, _, _, d⟩ | ⟨_, _, _, d⟩ | ⟨e, _, a, _⟩ | ⟨e, _, a, _⟩
    · exact d
    · exact d
    · exact absurd hst (by rw [show r.status = _ from a]; exact fun h => h.elim nofun nofun)
    · exact absurd hst (by rw [show r.status = _ from a]; exact fun h => h.elim nofun nofun)
  rw [hd]; exact hb

/-- "Within the recomputation budget": the ONLY way a run raises is the time-manager call of
    `after_nonlinear_failure` (or the linear-problem `ValueError` of that hook) on the clock the run stopped
    at — for every clock, every tape history. -/
theorem raises_only_through_failure_hook (clk : Clock C) (cfg : Cfg) (v0 : V) (c0 : C) (tapes : List (List (Iter V))) :
    let r := runAll clk cfg (startRun clk cfg v0 c0) tapes
    ∀ e, r.status = .raised e → retryOf clk cfg r.clock = .error e :=
  (statusOk_reached clk cfg v0 c0 tapes).raised

/-- … and for the real time-manager model that call raises `ValueError` exactly when the budget is used up:
    constant step, `_recomp_num` reached `recomp_max`, or `dt` already is `dt_min` (the remaining error,
    `IndexError` of the schedule correction, is excluded for admissible parameters by
    C09.only_documented_errors, see `ends_at_final_time_or_raises_tm`). -/
theorem tm_raise_means_budget_exhausted (p : C09.Params) (c : C09.TM) (e : String)
    (h : (tmClock p).retry c = .error e) :
    (e = "ValueError" ∧ (p.constantDt = true ∨ ¬((c.recompNum : Int) < p.recompMax) ∨ c.dt = p.dtMin)) ∨
      e = "IndexError" := by
  rw [tmClock_retry] at h
  split at h
  · rename_i hb
    exact .inl ⟨(Except.error.inj h).symm, hb⟩
  · split at h
    · cases h
    · rename_i e' heq
      obtain rfl := C09.correct_err p _ e' (congrArg Prod.snd heq)
      exact .inr (Except.error.inj h).symm

/-- Entry point `LinearSolver` (`_is_nonlinear_problem() = False`): a linear solve that does not converge
    (NaN in the solution) raises, and leaves iterates, time steps and the accepted sequence untouched, no
    iteration being counted (a linear solve never counts more than one: `linear_single_iteration`). -/
theorem linear_failure_raises_untouched (clk : Clock C) (cfg : Cfg) (hlin : cfg.linear = true)
    (r : Run V C) (tape : List (Iter V)) (hrun : r.status = .running) (hne : tape ≠ [])
    (hfail : (solveStep cfg tape r.sol).fin ≠ .converged) :
    let r' := stepRun clk cfg r tape
    r'.status = .raised "ValueError" ∧ r'.sol = r.sol ∧ r'.accepted = r.accepted ∧ (solveStep cfg tape r.sol).k = 0 := by
  dsimp only
  have hss : (solveStep cfg tape r.sol).fin = .diverged ∧ (solveStep cfg tape r.sol).sol = r.sol ∧
      (solveStep cfg tape r.sol).k = 0 := by
    unfold solveStep at hfail ⊢
    rw [if_pos hlin] at hfail ⊢
    revert hfail
    -- empty tape / converged / not converged
    fun_cases linearSolve cfg tape r.sol
    · exact absurd rfl hne
    · exact fun hfail => absurd rfl hfail
    · exact fun _ => ⟨rfl, rfl, rfl⟩
  have hp := stepRun_spec clk cfg r tape hrun
  generalize stepRun clk cfg r tape = r' at hp ⊢
  cases hp with
  | accepted _ _ hf => exact absurd hf hfail
  | both _ hf => rw [hss.1] at hf; cases hf
  | retried c2 _ _ hc2 => have := (retryOf_ok clk cfg _ c2 hc2).1; rw [hlin] at this; cases this
  | stopped st _ hst =>
    cases hst with
    | crashed _ hf => exact absurd hf hfail
    | outOfTape hf => rw [hss.1] at hf; cases hf
    | raised e _ he =>
      obtain rfl : "ValueError" = e := Except.error.inj ((if_pos hlin).symm.trans he)
      exact ⟨rfl, hss.2.1, rfl, hss.2.2⟩

/-- A linear problem is solved in at most one iteration, whatever the tape says. -/
theorem linear_single_iteration (cfg : Cfg) (hlin : cfg.linear = true) (tape : List (Iter V)) (s : Sol V) :
    (solveStep cfg tape s).k ≤ 1 := by
  unfold solveStep
  rw [if_pos hlin]
  fun_cases linearSolve cfg tape s
  · exact Nat.zero_le 1
  · exact Nat.le_refl 1
  · exact Nat.zero_le 1

/-- One Newton solve makes at most `max_iterations + 1` iterations (the loop condition is
    `num_iteration <= max_iterations` with `num_iteration` counted from 0), never more than the tape has
    entries; a solve that leaves the loop through that condition made exactly `max_iterations + 1`; and
    the loop logs one "iter" and one "check" event per iteration. -/
theorem newton_iterations_le (cfg : Cfg) (tape : List (Iter V)) (s : Sol V) :
    (newton cfg 0 tape s).k ≤ cfg.maxIt + 1 ∧ (newton cfg 0 tape s).k ≤ tape.length ∧
    ((newton cfg 0 tape s).fin = .maxIter → (newton cfg 0 tape s).k = cfg.maxIt + 1) ∧
    (newton cfg 0 tape s).evs.length = 2 * (newton cfg 0 tape s).k := by
  obtain ⟨_, h1, h2, h3⟩ := newton_k_bounds cfg tape 0 s
  rw [Nat.zero_max] at h1
  rw [Nat.zero_add] at h2
  exact ⟨h1, h2, fun hf => h3 hf (Nat.zero_le _), newton_evs_length cfg 0 tape s⟩

/-- Modelled `check_convergence`: with the default tolerances (`nl_divergence_tol = inf`,
    `nl_convergence_tol_res = inf`) the two flags are never raised together … -/
theorem checkConv_exclusive (tol : Rat) (v : Val) : ¬((checkConv tol v).1 = true ∧ (checkConv tol v).2 = true) := by
  cases v <;> simp [checkConv]

/-- … but with a finite `nl_divergence_tol` they are, whenever the increment is below `nl_convergence_tol`
    while the residual norm exceeds `nl_divergence_tol` (the residual criterion of convergence is vacuous by
    default): `check_convergence` CAN return (True, True). -/
theorem checkConvRes_both_flags (tol divTol incNorm resNorm : Rat) (h1 : incNorm < tol) (h2 : divTol < resNorm) :
    checkConvRes tol divTol (some (incNorm, resNorm)) = (true, true) := by
  simp [checkConvRes, h1, h2]

omit [Add V] in
/-- With divergence overruling convergence (the repaired solver), an iteration that raises both flags makes
    the solve FAIL like any diverged one — all theorems above then hold for every tape (`NoBoth` is free). -/
theorem noBoth_of_divOverrules (cfg : Cfg) (h : cfg.divOverrules = true) (tape : List (Iter V)) : NoBoth cfg tape :=
  Or.inl h

/-- Time-dependent boundary values: at the start of EVERY Newton
    loop — first attempt or recomputation — `update_time_dependent_ad_arrays` leaves the boundary values of
    the new time in the iterate slot and, in the time-step slots, the values of the accepted times, most
    recent first (the initial time once more at the end), truncated to `nTs`. -/
theorem bc_history_is_accepted_times (clk : Clock C) (cfg : Cfg) (hTs : 0 < cfg.nTs)
    (v0 : V) (c0 : C) (tapes : List (List (Iter V))) (hok : ∀ t ∈ tapes, NoBoth cfg t) :
    let r := runAll clk cfg (startRun clk cfg v0 c0) tapes
    r.status = .running → ∀ t : Rat,
      beforeLoop cfg t r.bc = { it := t, ts := (r.acceptedT ++ [clk.time c0]).take cfg.nTs } := by
  intro r hrun t
  obtain ⟨h1, h2, h3⟩ := (bcinv_runAll clk cfg (clk.time c0) hTs tapes hok _ (bcinv_start clk cfg v0 c0 hTs)).ok (.inl hrun)
  exact beforeLoop_spec cfg t _ r.bc r.acceptedT hTs h1 h2 h3

/-! ### non-vacuity and witnesses (concrete runs over the tick clock, values in `Int`) -/

section Examples

def exClk : Clock SC := simpleClock ⟨4, 2⟩
def exCfg : Cfg := { maxIt := 1, nIt := 2, nTs := 2 }
def exStart : Run Int SC := startRun exClk exCfg 10 ⟨0, 2, 0⟩

/-- solve 1 converges at iteration 2, solve 2 diverges at iteration 1, solve 3 runs out of iterations
    (dt is then at its minimum: the clock raises) -/
def exTapes : List (List (Iter Int)) :=
  [[⟨1, false, false⟩, ⟨2, true, false⟩], [⟨4, false, true⟩], [⟨8, false, false⟩, ⟨16, false, false⟩]]

-- accepted step: hypotheses of `after_converged_ts0_eq_iterate` hold, values as stated
example : exStart.status = .running ∧ (stepRun exClk exCfg exStart (exTapes.getD 0 [])).last = .accepted ∧
    (stepRun exClk exCfg exStart (exTapes.getD 0 [])).sol.tss = [13, 10] ∧
    (stepRun exClk exCfg exStart (exTapes.getD 0 [])).sol.its = [13, 11] := by decide +kernel

-- rejected step: hypotheses of `after_failed_iterate_eq_ts0` hold; iterate reset, history kept
example : (runAll exClk exCfg exStart (exTapes.take 1)).status = .running ∧
    (runAll exClk exCfg exStart (exTapes.take 2)).last = .retried ∧
    (runAll exClk exCfg exStart (exTapes.take 2)).sol.its = [13, 13] ∧
    (runAll exClk exCfg exStart (exTapes.take 2)).sol.tss = [13, 10] ∧
    (runAll exClk exCfg exStart (exTapes.take 2)).clock = ⟨2, 1, 1⟩ := by decide +kernel

-- the budget is exhausted on the third solve: the run raises
example : (runAll exClk exCfg exStart exTapes).status = .raised "ValueError" := by decide +kernel

-- a run that ends at the final time: the tapes satisfy the hypotheses of `ends_at_final_time_or_raises`
example : let tapes : List (List (Iter Int)) := List.replicate 15 [⟨1, true, false⟩, ⟨0, false, false⟩]
    (∀ t ∈ tapes, NoBoth exCfg t ∧ exCfg.maxIt < t.length) ∧ scMeasure ⟨4, 2⟩ ⟨0, 2, 0⟩ < tapes.length ∧
    (runAll exClk exCfg exStart tapes).status = .finished ∧ (runAll exClk exCfg exStart tapes).clock.t = 4 ∧
    (runAll exClk exCfg exStart tapes).accepted = [12, 11, 10] := by
  refine ⟨?_, by decide +kernel, by decide +kernel, by decide +kernel, by decide +kernel⟩
  intro t ht
  rw [List.eq_of_mem_replicate ht]
  exact ⟨Or.inl rfl, by decide⟩

/-- Witness for finding "both-flags-returns-true-without-hooks": `NewtonSolver.solve` before the repair
    /repo 5380be3c7 (`divOverrules = false`) leaves its loop through the divergence `break` when both flags are raised, calls
    neither hook and returns True — the time loop goes on with an iterate that was never stored as a time
    step.  With divergence overruling (the model's default) the same tape is a failed, recomputed step. -/
theorem both_flags_break_consistency :
    let asCoded := runAll exClk { exCfg with divOverrules := false } exStart [[⟨1, true, true⟩]]
    let repaired := runAll exClk exCfg exStart [[⟨1, true, true⟩]]
    asCoded.status = .running ∧ asCoded.last = .both ∧ asCoded.sol.its.head? = some 11 ∧
      asCoded.sol.tss.head? = some 10 ∧ asCoded.clock.t = 2 ∧
    repaired.status = .running ∧ repaired.last = .retried ∧ repaired.sol.its.head? = some 10 ∧
      repaired.sol.tss.head? = some 10 ∧ repaired.clock = ⟨0, 1, 1⟩ := by
  decide +kernel

-- the iteration bound is attained: max_iterations = 1 gives two iterations
example : (newton exCfg 0 (exTapes.getD 2 []) exStart.sol).k = 2 ∧
    (newton exCfg 0 (exTapes.getD 2 []) exStart.sol).fin = .maxIter := by decide +kernel

-- the hypotheses of `ends_at_final_time_or_raises_tm` are satisfiable (schedule [0, 1, 2], dt 1/2 in [1/8, 1])
def exTm : C09.Params :=
  { schedule := [0, 1, 2], dtInit := 1/2, constantDt := false, dtMin := 1/8, dtMax := 1, iterMax := 15, iterLow := 1,
    iterUpp := 3, underRelax := 1/2, overRelax := 2, recompFactor := 1/2, recompMax := 2, rtol := 0, atol := 0 }

example : C09.Admissible exTm ∧ 0 < exTm.dtMin := by decide +kernel

-- a run over the real time-manager model: accepted, rejected at t = 1 (recomputed with dt 1/4), then accepted up to t = 2
def exTmTapes : List (List (Iter Int)) := [[⟨1, true, false⟩], [⟨1, false, true⟩]] ++ List.replicate 4 [⟨1, true, false⟩]

example : let r := runAll (tmClock exTm) exCfg (startRun (tmClock exTm) exCfg (10 : Int) (C09.init exTm)) exTmTapes
    r.status = .finished ∧ r.acceptedT = [2, 3/2, 1, 3/4, 1/2, 0] ∧ r.accepted = [15, 14, 13, 12, 11, 10] := by
  decide +kernel

-- linear entry point: a NaN solution at the second step raises and leaves the state of the accepted first step
example : let cfgL : Cfg := { exCfg with linear := true }
    let r1 := runAll exClk cfgL (startRun exClk cfgL (10 : Int) ⟨0, 2, 0⟩) [[⟨3, true, false⟩]]
    let r2 := stepRun exClk cfgL r1 [⟨7, false, true⟩]
    r1.status = .running ∧ r1.sol.tss = [13, 10] ∧ (solveStep cfgL [⟨7, false, true⟩] r1.sol).fin ≠ .converged ∧
    r2.status = .raised "ValueError" ∧ r2.sol.its = [13, 10] ∧ r2.sol.tss = [13, 10] ∧
    (retryOf exClk cfgL r2.clock).isOk = false := by decide +kernel

-- `tm_raise_means_budget_exhausted` is not vacuous: dt = dt_min raises ValueError
example : ((tmClock exTm).retry { time := 1/8, dt := 1/8, timeIndex := 1, recompNum := 0, idx := 1, aboutToHit := false }).isOk
    = false := by decide +kernel

end Examples

end PorepyVerif.C10
