/-
C10 — lemmas about the model: what the storage operations, the hooks and the solvers do, the case
analysis of one pass of the time loop, the invariants of the loop, and the simulation of a run over
`tmClock` by C09's time loop.
-/
import PorepyVerif.C10.Model
import PorepyVerif.C09.Lemmas

namespace PorepyVerif.C10

variable {V C : Type}

theorem shiftMax_head? (m : Nat) (l : List V) : (shiftMax m l).head? = l.head? := by
  cases l with
  | nil => rfl
  | cons a l =>
    simp only [shiftMax]
    split
    · rfl
    · split <;> rfl

/-- on a window with room for one more, or exactly full, the shift doubles the head and drops what no longer fits -/
theorem shiftMax_cons (W : Nat) (a : V) (l : List V) (hl : l.length < W) :
    shiftMax W (a :: l) = (a :: a :: l).take W := by
  simp only [shiftMax, List.length_cons]
  split
  · rename_i h
    exact (List.take_of_length_le (Nat.succ_le_of_lt h)).symm
  · -- the window is full: the last value drops out
    rename_i h
    obtain rfl : W = l.length + 1 := Nat.le_antisymm (Nat.le_of_not_lt h) hl
    rw [if_neg (Nat.succ_ne_zero _), List.drop_of_length_le (show (a :: l).length ≤ l.length + 1 from Nat.le_refl _), List.append_nil]
    rfl

/-- shift followed by a write at index 0 is "push, keep the `W` most recent" -/
theorem push_eq (W : Nat) (v : V) (l : List V) (hW : 0 < W) (hl : l.length ≤ W) :
    set0 v (shiftMax W l) = (v :: l).take W := by
  cases l with
  | nil => exact (List.take_of_length_le hW).symm
  | cons a l =>
    obtain ⟨n, rfl⟩ := Nat.exists_eq_succ_of_ne_zero (Nat.pos_iff_ne_zero.1 hW)
    rw [shiftMax_cons _ a l hl]
    rfl

theorem push_length (W : Nat) (v : V) (l : List V) (hW : 0 < W) (hl : l.length = W) :
    (set0 v (shiftMax W l)).length = W := by
  rw [push_eq W v l hW (Nat.le_of_eq hl), List.length_take, List.length_cons, hl]
  exact Nat.min_eq_left (Nat.le_succ W)

theorem shiftMax_length (m : Nat) (l : List V) (h : l.length = m) : (shiftMax m l).length = m := by
  subst h
  cases l with
  | nil => rfl
  | cons a l =>
    refine (congrArg List.length (shiftMax_cons _ a l (Nat.lt_succ_self _))).trans ?_
    rw [List.length_take]
    exact Nat.min_eq_left (Nat.le_succ _)

theorem addAt0_length [Add V] (inc : V) (l : List V) : (addAt0 inc l).length = l.length := by
  cases l <;> rfl

theorem set0_length (v : V) (l : List V) (h : l ≠ []) : (set0 v l).length = l.length := by
  cases l with
  | nil => exact absurd rfl h
  | cons a l => rfl

theorem set0_head? (v : V) (l : List V) : (set0 v l).head? = some v := by
  cases l <;> rfl

theorem take_cons_take (W : Nat) (v : V) (l : List V) : (v :: l.take W).take W = (v :: l).take W := by
  cases W with
  | zero => rfl
  | succ n => rw [List.take_succ_cons, List.take_succ_cons, List.take_take, Nat.min_eq_left (Nat.le_succ n)]

/-- pushing onto a window of the accepted sequence gives the window of the longer sequence -/
theorem window_push (W : Nat) (v v0 : V) (acc : List V) :
    (v :: window W acc v0).take W = window W (v :: acc) v0 :=
  take_cons_take W v _

theorem window_length (W : Nat) (acc : List V) (v0 : V) : (window W acc v0).length = W := by
  simp [window]

theorem window_head? (W : Nat) (acc : List V) (v0 : V) (hW : 0 < W) (h : acc ≠ []) :
    (window W acc v0).head? = acc.head? := by
  obtain ⟨n, rfl⟩ : ∃ n, W = n + 1 := ⟨W - 1, by omega⟩
  cases acc with
  | nil => exact absurd rfl h
  | cons a acc => rfl

theorem afterIteration_tss [Add V] (cfg : Cfg) (inc : V) (s : Sol V) : (afterIteration cfg inc s).tss = s.tss := rfl

theorem afterIteration_its_length [Add V] (cfg : Cfg) (inc : V) (s : Sol V) (h : s.its.length = cfg.nIt) :
    (afterIteration cfg inc s).its.length = cfg.nIt := by
  simp only [afterIteration, addAt0_length]
  exact shiftMax_length _ _ h

theorem updateSolution_eq (cfg : Cfg) (s : Sol V) (v : V) (rest : List V) (h : s.its = v :: rest) :
    updateSolution cfg s = { s with tss := set0 v (shiftMax cfg.nTs s.tss) } := by
  unfold updateSolution; rw [h]

theorem resetIterate_eq (s : Sol V) (w : V) (rest : List V) (h : s.tss = w :: rest) :
    resetIterate s = { s with its := set0 w s.its } := by
  unfold resetIterate; rw [h]

/-! The cases of `fun_induction newton`: the tape is empty; the iteration diverges; it converges; neither (the
loop goes on); the iteration count is used up. -/

/-- the Newton loop changes the solution only through `afterIteration` -/
theorem newton_sol [Add V] (cfg : Cfg) (P : Sol V → Prop) (hP : ∀ inc s, P s → P (afterIteration cfg inc s))
    (k : Nat) (tape : List (Iter V)) (s : Sol V) (h : P s) : P (newton cfg k tape s).sol := by
  fun_induction newton cfg k tape s with
  | case1 | case5 => exact h
  | case2 | case3 => exact hP _ _ h
  | case4 _ _ _ _ _ _ _ _ _ _ ih => exact ih (hP _ _ h)

theorem newton_not_both [Add V] (cfg : Cfg) (k : Nat) (tape : List (Iter V)) (s : Sol V) (hok : NoBoth cfg tape) :
    (newton cfg k tape s).fin ≠ .both := by
  fun_induction newton cfg k tape s with
  | case1 => split <;> simp
  | case2 k it tape s hk s' evs hd =>
    split
    · rename_i hc
      rcases hok with h | h
      · simp [h] at hc
      · simp only [Bool.and_eq_true] at hc
        exact absurd ⟨hc.1, hd⟩ (h it List.mem_cons_self)
    · simp
  | case3 => simp
  | case4 k it tape s _ _ _ _ _ _ ih =>
    exact ih (hok.imp id fun h x hx => h x (List.mem_cons_of_mem _ hx))
  | case5 => simp

theorem newton_not_outOfTape [Add V] (cfg : Cfg) (k : Nat) (tape : List (Iter V)) (s : Sol V)
    (h : cfg.maxIt < k + tape.length) : (newton cfg k tape s).fin ≠ .outOfTape := by
  fun_induction newton cfg k tape s with
  | case1 k s => rw [if_neg (by simpa using h)]; simp
  | case2 => split <;> simp
  | case3 => simp
  | case4 k it tape s _ _ _ _ _ _ ih => exact ih (by simp only [List.length_cons] at h; omega)
  | case5 => simp

theorem newton_k_bounds [Add V] (cfg : Cfg) (tape : List (Iter V)) : ∀ (k : Nat) (s : Sol V),
    k ≤ (newton cfg k tape s).k ∧ (newton cfg k tape s).k ≤ max k (cfg.maxIt + 1) ∧
    (newton cfg k tape s).k ≤ k + tape.length ∧
    ((newton cfg k tape s).fin = .maxIter → k ≤ cfg.maxIt + 1 → (newton cfg k tape s).k = cfg.maxIt + 1) := by
  intro k s
  fun_induction newton cfg k tape s with
  | case1 k s =>
    refine ⟨Nat.le_refl _, Nat.le_max_left .., Nat.le_refl _, fun hf hk => ?_⟩
    by_cases h : k ≤ cfg.maxIt
    · rw [if_pos h] at hf; cases hf
    · exact Nat.le_antisymm hk (Nat.lt_of_not_le h)
  | case2 k it tape s hk' =>
    refine ⟨Nat.le_succ _, Nat.le_trans (Nat.succ_le_succ hk') (Nat.le_max_right ..), Nat.succ_le_succ (Nat.le_add_right ..), ?_⟩
    split <;> nofun
  | case3 k it tape s hk' =>
    exact ⟨Nat.le_succ _, Nat.le_trans (Nat.succ_le_succ hk') (Nat.le_max_right ..), Nat.succ_le_succ (Nat.le_add_right ..), nofun⟩
  | case4 k it tape s hk' s' evs hd hc r ih =>
    obtain ⟨h0, h1, h2, h3⟩ := ih
    refine ⟨Nat.le_trans (Nat.le_succ _) h0, ?_, ?_, fun hf _ => h3 hf (Nat.succ_le_succ hk')⟩
    · -- the loop goes on only from `k ≤ maxIt`, where both maxima are `maxIt + 1`
      rw [Nat.max_eq_right (Nat.succ_le_succ hk')] at h1
      exact Nat.le_trans h1 (Nat.le_max_right ..)
    · rw [List.length_cons, ← Nat.add_assoc, Nat.add_right_comm]; exact h2
  | case5 k it tape s hk' =>
    exact ⟨Nat.le_refl _, Nat.le_max_left .., Nat.le_add_right .., fun _ hk => Nat.le_antisymm hk (Nat.lt_of_not_le hk')⟩

theorem newton_evs_length [Add V] (cfg : Cfg) (k : Nat) (tape : List (Iter V)) (s : Sol V) :
    (newton cfg k tape s).evs.length + 2 * k = 2 * (newton cfg k tape s).k := by
  fun_induction newton cfg k tape s with
  | case1 => exact Nat.zero_add _
  | case2 => exact Nat.add_comm ..
  | case3 => exact Nat.add_comm ..
  | case4 k it tape s hk s' evs hd hc r ih =>
    show (evs ++ r.evs).length + 2 * k = 2 * r.k
    rw [List.length_append, ← ih, Nat.mul_succ]
    show 2 + r.evs.length + 2 * k = r.evs.length + (2 * k + 2)
    rw [Nat.add_comm 2, Nat.add_assoc, Nat.add_comm 2]
  | case5 => exact Nat.zero_add _

/-- … and so does either solver -/
theorem solveStep_sol [Add V] (cfg : Cfg) (P : Sol V → Prop) (hP : ∀ inc s, P s → P (afterIteration cfg inc s))
    (tape : List (Iter V)) (s : Sol V) (h : P s) : P (solveStep cfg tape s).sol := by
  unfold solveStep
  split
  · fun_cases linearSolve cfg tape s
    · exact h
    · exact hP _ _ h
    · exact h
  · exact newton_sol cfg P hP 0 tape s h

theorem solveStep_tss [Add V] (cfg : Cfg) (tape : List (Iter V)) (s : Sol V) : (solveStep cfg tape s).sol.tss = s.tss :=
  solveStep_sol cfg (·.tss = s.tss) (fun inc s' h => (afterIteration_tss cfg inc s').trans h) tape s rfl

theorem solveStep_its_length [Add V] (cfg : Cfg) (tape : List (Iter V)) (s : Sol V) (h : s.its.length = cfg.nIt) :
    (solveStep cfg tape s).sol.its.length = cfg.nIt :=
  solveStep_sol cfg (·.its.length = cfg.nIt) (afterIteration_its_length cfg) tape s h

theorem solveStep_not_both [Add V] (cfg : Cfg) (tape : List (Iter V)) (hok : NoBoth cfg tape) (s : Sol V) :
    (solveStep cfg tape s).fin ≠ .both := by
  unfold solveStep
  split
  · fun_cases linearSolve cfg tape s <;> nofun
  · exact newton_not_both cfg 0 tape s hok

theorem solveStep_not_outOfTape [Add V] (cfg : Cfg) (tape : List (Iter V)) (s : Sol V) (h : cfg.maxIt < tape.length) :
    (solveStep cfg tape s).fin ≠ .outOfTape := by
  unfold solveStep
  split
  · fun_cases linearSolve cfg tape s
    · exact absurd h (Nat.not_lt_zero _)
    · nofun
    · nofun
  · exact newton_not_outOfTape cfg 0 tape s ((Nat.zero_add _).symm ▸ h)

theorem retryOf_nonlinear (clk : Clock C) (cfg : Cfg) (c : C) (h : cfg.linear = false) : retryOf clk cfg c = clk.retry c := by
  simp [retryOf, h]

theorem retryOf_ok (clk : Clock C) (cfg : Cfg) (c c2 : C) (h : retryOf clk cfg c = .ok c2) :
    cfg.linear = false ∧ clk.retry c = .ok c2 := by
  unfold retryOf at h
  split at h
  · cases h
  · rename_i hl; exact ⟨by simpa using hl, h⟩

theorem statusOf_cases (clk : Clock C) (c : C) :
    (statusOf clk c = .running ∧ clk.final c = false) ∨ (statusOf clk c = .finished ∧ clk.final c = true) := by
  unfold statusOf
  cases clk.final c <;> simp

theorem stepRun_not_running [Add V] (clk : Clock C) (cfg : Cfg) (r : Run V C) (tape : List (Iter V))
    (h : r.status ≠ .running) : stepRun clk cfg r tape = r := by
  unfold stepRun
  split
  · rename_i h'; exact absurd h' h
  · rfl

theorem failed_of_ne {f : End} (h1 : f ≠ .converged) (h2 : f ≠ .both) (h3 : f ≠ .outOfTape) :
    f = .diverged ∨ f = .maxIter := by
  cases f
  · exact absurd rfl h1
  · exact .inl rfl
  · exact .inr rfl
  · exact absurd rfl h2
  · exact absurd rfl h3

/-- How a pass that stops the run ended: the status it leaves, and what led to it. -/
inductive Stopped (clk : Clock C) (cfg : Cfg) (c1 : C) (res : NRes V) : Status → Prop
  | crashed (e : String) : res.fin = .converged → clk.accept c1 res.k = .error e → Stopped clk cfg c1 res (.crashed e)
  | outOfTape : res.fin = .outOfTape → Stopped clk cfg c1 res .outOfTape
  | raised (e : String) : (res.fin = .diverged ∨ res.fin = .maxIter) → retryOf clk cfg c1 = .error e →
      Stopped clk cfg c1 res (.raised e)

theorem Stopped.not_live {clk : Clock C} {cfg : Cfg} {c1 : C} {res : NRes V} {st : Status}
    (h : Stopped clk cfg c1 res st) : ¬(st = .running ∨ st = .finished) := by
  cases h <;> exact fun h => h.elim nofun nofun

/-- One pass of the time loop from the running state `r`, up to the log; `c1` and `bc1` are the clock and the boundary
    values the solve starts with, `res` is what it returned. The step is accepted; or both flags were raised and the
    loop goes on as after an accepted step, with no hook called; or the step is rejected and will be recomputed; or the
    run stops, in one of the three ways of `Stopped`. -/
inductive Pass (clk : Clock C) (cfg : Cfg) (r : Run V C) (c1 : C) (bc1 : Bc) (res : NRes V) : Run V C → Prop
  | accepted (c2 : C) (log : List (Ev V C)) : res.fin = .converged → clk.accept c1 res.k = .ok c2 →
      Pass clk cfg r c1 bc1 res ⟨updateSolution cfg res.sol, bc1, c2, pushHead res.sol.its r.accepted,
        clk.time c1 :: r.acceptedT, statusOf clk c2, .accepted, log⟩
  | both (log : List (Ev V C)) : res.fin = .both →
      Pass clk cfg r c1 bc1 res
        { r with sol := res.sol, bc := bc1, clock := c1, status := statusOf clk c1, last := .both, log := log }
  | retried (c2 : C) (log : List (Ev V C)) : (res.fin = .diverged ∨ res.fin = .maxIter) → retryOf clk cfg c1 = .ok c2 →
      Pass clk cfg r c1 bc1 res
        { r with sol := resetIterate res.sol, bc := bcRewind bc1, clock := c2, status := statusOf clk c2,
                 last := .retried, log := log }
  | stopped (st : Status) (log : List (Ev V C)) : Stopped clk cfg c1 res st →
      Pass clk cfg r c1 bc1 res
        { r with sol := res.sol, bc := bc1, clock := c1, status := st, last := .other, log := log }

/-- To split into the cases of a pass, first `generalize stepRun clk cfg r tape = r'` in this fact and in the goal:
    `cases` wants the resulting state to be a variable. -/
theorem stepRun_spec [Add V] (clk : Clock C) (cfg : Cfg) (r : Run V C) (tape : List (Iter V))
    (h : r.status = .running) :
    Pass clk cfg r (clk.advance r.clock) (beforeLoop cfg (clk.time (clk.advance r.clock)) r.bc)
      (solveStep cfg tape r.sol) (stepRun clk cfg r tape) := by
  -- the branches of `stepRun` in the order of its definition; the catch-all branch comes as three `≠`
  fun_cases stepRun clk cfg r tape with
  | case1 _ c1 bc1 res log1 hfin c2 hacc => exact .accepted c2 _ hfin hacc
  | case2 _ c1 bc1 res log1 hfin e hacc => exact .stopped _ _ (.crashed e hfin hacc)
  | case3 _ c1 bc1 res log1 hfin => exact .both _ hfin
  | case4 _ c1 bc1 res log1 hfin => exact .stopped _ _ (.outOfTape hfin)
  | case5 _ c1 bc1 res log1 c2 hret s2 bc2 h1 h2 h3 => exact .retried c2 _ (failed_of_ne h1 h2 h3) hret
  | case6 _ c1 bc1 res log1 e hret h1 h2 h3 => exact .stopped _ _ (.raised e (failed_of_ne h1 h2 h3) hret)
  | case7 hn => exact absurd h hn

theorem runAll_cons [Add V] (clk : Clock C) (cfg : Cfg) (r : Run V C) (t : List (Iter V)) (ts : List (List (Iter V))) :
    runAll clk cfg r (t :: ts) = runAll clk cfg (stepRun clk cfg r t) ts := rfl

theorem runAll_not_running [Add V] (clk : Clock C) (cfg : Cfg) (tapes : List (List (Iter V))) :
    ∀ r : Run V C, r.status ≠ .running → runAll clk cfg r tapes = r := by
  induction tapes with
  | nil => intro r _; rfl
  | cons t ts ih =>
    intro r h
    rw [runAll_cons, stepRun_not_running clk cfg r t h]
    exact ih r h

theorem runAll_append [Add V] (clk : Clock C) (cfg : Cfg) (r : Run V C) (ts : List (List (Iter V))) (t : List (Iter V)) :
    runAll clk cfg r (ts ++ [t]) = stepRun clk cfg (runAll clk cfg r ts) t := by
  simp [runAll, List.foldl_append]

/-- what every pass from a running state over one of the tapes preserves still holds after all of them (a pass
    from any other state changes nothing) -/
theorem runAll_induction [Add V] (clk : Clock C) (cfg : Cfg) (P : Run V C → Prop) (tapes : List (List (Iter V)))
    (hstep : ∀ t ∈ tapes, ∀ r, r.status = .running → P r → P (stepRun clk cfg r t)) :
    ∀ r, P r → P (runAll clk cfg r tapes) := by
  induction tapes with
  | nil => exact fun r h => h
  | cons t ts ih =>
    intro r h
    refine ih (fun x hx => hstep x (List.mem_cons_of_mem _ hx)) _ ?_
    by_cases hrun : r.status = .running
    · exact hstep t List.mem_cons_self r hrun h
    · rw [stepRun_not_running clk cfg r t hrun]; exact h

/-- `finished` and `running` are only ever set by `statusOf`, `raised` only with the error of the failure
    hook on the clock the run stops at. -/
structure StatusOk (clk : Clock C) (cfg : Cfg) (r : Run V C) : Prop where
  finished : r.status = .finished → clk.final r.clock = true
  running : r.status = .running → clk.final r.clock = false
  raised : ∀ e, r.status = .raised e → retryOf clk cfg r.clock = .error e

theorem statusOk_of_statusOf (clk : Clock C) (cfg : Cfg) (r : Run V C) (hst : r.status = statusOf clk r.clock) :
    StatusOk clk cfg r := by
  rcases statusOf_cases clk r.clock with ⟨h1, h2⟩ | ⟨h1, h2⟩ <;> rw [h1] at hst
  · exact ⟨fun h => absurd (hst.symm.trans h) nofun, fun _ => h2, fun e h => absurd (hst.symm.trans h) nofun⟩
  · exact ⟨fun _ => h2, fun h => absurd (hst.symm.trans h) nofun, fun e h => absurd (hst.symm.trans h) nofun⟩

theorem statusOk_start (clk : Clock C) (cfg : Cfg) (v0 : V) (c0 : C) : StatusOk clk cfg (startRun clk cfg v0 c0 : Run V C) :=
  statusOk_of_statusOf clk cfg _ rfl

/-- a pass from a running state sets status and clock together -/
theorem statusOk_step [Add V] (clk : Clock C) (cfg : Cfg) (r : Run V C) (tape : List (Iter V))
    (hrun : r.status = .running) : StatusOk clk cfg (stepRun clk cfg r tape) := by
  have hp := stepRun_spec clk cfg r tape hrun
  generalize stepRun clk cfg r tape = r' at hp ⊢
  cases hp with
  | accepted | both | retried => exact statusOk_of_statusOf clk cfg _ rfl
  | stopped st _ hst =>
    cases hst with
    | crashed | outOfTape => exact ⟨nofun, nofun, nofun⟩
    | raised e _ he => exact ⟨nofun, nofun, fun e' h => Status.raised.inj h ▸ he⟩

theorem statusOk_reached [Add V] (clk : Clock C) (cfg : Cfg) (v0 : V) (c0 : C) (tapes : List (List (Iter V))) :
    StatusOk clk cfg (runAll clk cfg (startRun clk cfg v0 c0) tapes) :=
  runAll_induction clk cfg _ tapes (fun t _ r hrun _ => statusOk_step clk cfg r t hrun) _ (statusOk_start clk cfg v0 c0)

/-- What holds at every boundary of the time loop, whatever the tapes were. -/
structure Inv (clk : Clock C) (cfg : Cfg) (v0 : V) (r : Run V C) : Prop where
  itsLen : r.sol.its.length = cfg.nIt
  hist : r.sol.tss = window cfg.nTs r.accepted v0
  accNe : r.accepted ≠ []
  cons : r.last ≠ .both → (r.status = .running ∨ r.status = .finished) → r.sol.its.head? = r.sol.tss.head?
  statR : r.status = .running → clk.final r.clock = false
  statF : r.status = .finished → clk.final r.clock = true

theorem inv_start (clk : Clock C) (cfg : Cfg) (v0 : V) (c0 : C) (hIt : 0 < cfg.nIt) (hTs : 0 < cfg.nTs) :
    Inv clk cfg v0 (startRun clk cfg v0 c0 : Run V C) := by
  obtain ⟨n, hn⟩ := Nat.exists_eq_succ_of_ne_zero (Nat.pos_iff_ne_zero.1 hIt)
  obtain ⟨m, hm⟩ := Nat.exists_eq_succ_of_ne_zero (Nat.pos_iff_ne_zero.1 hTs)
  refine ⟨List.length_replicate, ?_, List.cons_ne_nil _ _, ?_, (statusOk_start clk cfg v0 c0).running,
    (statusOk_start clk cfg v0 c0).finished⟩
  · show List.replicate cfg.nTs v0 = (v0 :: (List.replicate cfg.nTs v0)).take cfg.nTs
    rw [← List.replicate_succ, List.take_replicate, Nat.min_eq_left (Nat.le_succ _)]
  · intro _ _
    show (List.replicate cfg.nIt v0).head? = (List.replicate cfg.nTs v0).head?
    rw [hn, hm]; rfl

theorem inv_step [Add V] (clk : Clock C) (cfg : Cfg) (v0 : V) (hIt : 0 < cfg.nIt) (hTs : 0 < cfg.nTs)
    (r : Run V C) (tape : List (Iter V)) (hr : Inv clk cfg v0 r) : Inv clk cfg v0 (stepRun clk cfg r tape) := by
  by_cases hrun : r.status = .running
  case neg => rw [stepRun_not_running clk cfg r tape hrun]; exact hr
  have hlen := solveStep_its_length cfg tape r.sol hr.itsLen
  have htss : (solveStep cfg tape r.sol).sol.tss = window cfg.nTs r.accepted v0 :=
    (solveStep_tss cfg tape r.sol).trans hr.hist
  have hs := statusOk_step clk cfg r tape hrun
  have hp := stepRun_spec clk cfg r tape hrun
  generalize stepRun clk cfg r tape = r' at hp hs ⊢
  cases hp with
  | accepted c2 =>
    -- the iterate is pushed onto the time steps
    obtain ⟨v, rest, hv⟩ := List.exists_cons_of_length_pos (hlen ▸ hIt)
    rw [updateSolution_eq cfg _ v rest hv, hv] at hs ⊢
    refine ⟨hv ▸ hlen, ?_, List.cons_ne_nil _ _, fun _ _ => (set0_head? v _).symm, hs.running, hs.finished⟩
    show set0 v (shiftMax cfg.nTs (solveStep cfg tape r.sol).sol.tss) = window cfg.nTs (v :: r.accepted) v0
    rw [htss, push_eq cfg.nTs v _ hTs (Nat.le_of_eq (window_length ..)), window_push]
  | both => exact ⟨hlen, htss, hr.accNe, fun hl => absurd rfl hl, hs.running, hs.finished⟩
  | retried c2 =>
    -- the iterate is reset to time step 0
    obtain ⟨w, rest, hw⟩ := List.exists_cons_of_length_pos
      (show 0 < (solveStep cfg tape r.sol).sol.tss.length by rw [htss, window_length]; exact hTs)
    rw [resetIterate_eq _ w rest hw] at hs ⊢
    refine ⟨?_, htss, hr.accNe, fun _ _ => (set0_head? w _).trans (congrArg List.head? hw).symm, hs.running, hs.finished⟩
    exact (set0_length _ _ (List.ne_nil_of_length_pos (hlen ▸ hIt))).trans hlen
  | stopped st _ hst => exact ⟨hlen, htss, hr.accNe, fun _ hl => absurd hl hst.not_live, hs.running, hs.finished⟩

theorem inv_runAll [Add V] (clk : Clock C) (cfg : Cfg) (v0 : V) (hIt : 0 < cfg.nIt) (hTs : 0 < cfg.nTs)
    (tapes : List (List (Iter V))) : ∀ r : Run V C, Inv clk cfg v0 r → Inv clk cfg v0 (runAll clk cfg r tapes) :=
  runAll_induction clk cfg _ tapes fun t _ r _ => inv_step clk cfg v0 hIt hTs r t

theorem inv_reached [Add V] (clk : Clock C) (cfg : Cfg) (hIt : 0 < cfg.nIt) (hTs : 0 < cfg.nTs) (v0 : V) (c0 : C)
    (tapes : List (List (Iter V))) : Inv clk cfg v0 (runAll clk cfg (startRun clk cfg v0 c0) tapes) :=
  inv_runAll clk cfg v0 hIt hTs tapes _ (inv_start clk cfg v0 c0 hIt hTs)

/-- An accepted pass, from any running state whose iterate window has its length. -/
theorem accepted_pass [Add V] (clk : Clock C) (cfg : Cfg) (hIt : 0 < cfg.nIt) (r : Run V C) (tape : List (Iter V))
    (hlen : r.sol.its.length = cfg.nIt) (hrun : r.status = .running) (hlast : (stepRun clk cfg r tape).last = .accepted) :
    ∃ v, (solveStep cfg tape r.sol).sol.its.head? = some v ∧ (stepRun clk cfg r tape).sol.tss.head? = some v ∧
      (stepRun clk cfg r tape).sol.its.head? = some v ∧ (stepRun clk cfg r tape).accepted = v :: r.accepted := by
  obtain ⟨v, rest, hv⟩ := List.exists_cons_of_length_pos ((solveStep_its_length cfg tape r.sol hlen) ▸ hIt)
  have hp := stepRun_spec clk cfg r tape hrun
  generalize stepRun clk cfg r tape = r' at hp hlast ⊢
  cases hp with
  | accepted c2 =>
    rw [updateSolution_eq cfg _ v rest hv, hv]
    exact ⟨v, rfl, set0_head? _ _, rfl, rfl⟩
  | _ => cases hlast

/-- A rejected pass that will be recomputed, from any running state with the invariant. -/
theorem retried_pass [Add V] (clk : Clock C) (cfg : Cfg) (v0 : V) (hIt : 0 < cfg.nIt) (hTs : 0 < cfg.nTs) (r : Run V C)
    (tape : List (Iter V)) (hinv : Inv clk cfg v0 r) (hrun : r.status = .running)
    (hlast : (stepRun clk cfg r tape).last = .retried) :
    (stepRun clk cfg r tape).sol.its.head? = (stepRun clk cfg r tape).sol.tss.head? ∧
      (stepRun clk cfg r tape).sol.tss = r.sol.tss ∧ (stepRun clk cfg r tape).accepted = r.accepted ∧
      (stepRun clk cfg r tape).sol.tss.head? = r.accepted.head? := by
  have hinv' := inv_step clk cfg v0 hIt hTs r tape hinv
  have hp := stepRun_spec clk cfg r tape hrun
  generalize stepRun clk cfg r tape = r' at hp hlast hinv' ⊢
  cases hp with
  | retried c2 =>
    have htss := hinv'.hist.trans hinv.hist.symm
    refine ⟨hinv'.cons nofun ((statusOf_cases clk c2).imp And.left And.left), htss, rfl, ?_⟩
    rw [htss, hinv.hist]; exact window_head? _ _ _ hTs hinv.accNe
  | _ => cases hlast

theorem last_ne_both_step [Add V] (clk : Clock C) (cfg : Cfg) (r : Run V C) (t : List (Iter V)) (hok : NoBoth cfg t)
    (hrun : r.status = .running) : (stepRun clk cfg r t).last ≠ .both := by
  have hp := stepRun_spec clk cfg r t hrun
  generalize stepRun clk cfg r t = r' at hp ⊢
  cases hp with
  | both _ hb => exact absurd hb (solveStep_not_both cfg t hok r.sol)
  | _ => nofun

/-- with well-formed tapes no solve ever ends with both flags -/
theorem last_ne_both [Add V] (clk : Clock C) (cfg : Cfg) (tapes : List (List (Iter V)))
    (hok : ∀ t ∈ tapes, NoBoth cfg t) : ∀ r : Run V C, r.last ≠ .both → (runAll clk cfg r tapes).last ≠ .both :=
  runAll_induction clk cfg (·.last ≠ .both) tapes fun t ht r hrun _ => last_ne_both_step clk cfg r t (hok t ht) hrun

/-- A run that is still running needs at most `μ` further well-formed tapes to finish or to raise. -/
theorem runAll_ends [Add V] (clk : Clock C) (cfg : Cfg) (inv : C → Prop) (μ : C → Nat) (hT : Terminating clk inv μ)
    (tapes : List (List (Iter V))) :
    (∀ t ∈ tapes, NoBoth cfg t ∧ cfg.maxIt < t.length) →
    ∀ r : Run V C,
      (r.status = .running ∧ inv r.clock ∧ clk.final r.clock = false ∧ μ r.clock < tapes.length) ∨
        (r.status = .finished ∧ inv r.clock) ∨ (∃ e, r.status = .raised e) →
      ((runAll clk cfg r tapes).status = .finished ∧ inv (runAll clk cfg r tapes).clock) ∨
        ∃ e, (runAll clk cfg r tapes).status = .raised e := by
  induction tapes with
  | nil =>
    intro _ r h
    rcases h with ⟨_, _, _, h⟩ | h
    · exact absurd h (Nat.not_lt_zero _)
    · exact h
  | cons t ts ih =>
    intro hok r h
    rw [runAll_cons]
    refine ih (fun x hx => hok x (List.mem_cons_of_mem _ hx)) _ ?_
    rcases h with ⟨hr, hinv, hfin, hμ⟩ | h
    case inr =>
      rw [stepRun_not_running clk cfg r t (by rcases h with ⟨h, _⟩ | ⟨_, h⟩ <;> rw [h] <;> nofun)]
      exact .inr h
    rw [List.length_cons] at hμ
    obtain ⟨ca, hacc, hinva, hμa⟩ := hT.accept r.clock (solveStep cfg t r.sol).k hinv hfin
    -- a pass that leaves status `statusOf clk c2` and clock `c2`, with a smaller measure
    have next : ∀ c2, inv c2 → μ c2 < μ r.clock →
        (statusOf clk c2 = .running ∧ inv c2 ∧ clk.final c2 = false ∧ μ c2 < ts.length) ∨
          (statusOf clk c2 = .finished ∧ inv c2) ∨ (∃ e, statusOf clk c2 = .raised e) := by
      intro c2 hi hlt
      rcases statusOf_cases clk c2 with ⟨h1, h2⟩ | ⟨h1, _⟩
      · exact .inl ⟨h1, hi, h2, by omega⟩
      · exact .inr (.inl ⟨h1, hi⟩)
    have hp := stepRun_spec clk cfg r t hr
    generalize stepRun clk cfg r t = r' at hp ⊢
    cases hp with
    | accepted c2 _ _ hc2 =>
      obtain rfl : ca = c2 := Except.ok.inj (hacc.symm.trans hc2)
      exact next ca hinva hμa
    | both _ hb => exact absurd hb (solveStep_not_both cfg t (hok t List.mem_cons_self).1 r.sol)
    | retried c2 _ _ hc2 =>
      obtain ⟨hinvr, hμr⟩ := hT.retry r.clock c2 hinv hfin (retryOf_ok clk cfg _ c2 hc2).2
      exact next c2 hinvr hμr
    | stopped st _ hst =>
      cases hst with
      | crashed e _ he => rw [hacc] at he; cases he
      | outOfTape ho => exact absurd ho (solveStep_not_outOfTape cfg t r.sol (hok t List.mem_cons_self).2)
      | raised e => exact .inr (.inr ⟨e, rfl⟩)

theorem scNextDt_spec (p : SCParams) (t dt k : Nat) (ht : t < p.final) :
    1 ≤ scNextDt p t dt k ∧ t + scNextDt p t dt k ≤ p.final := by
  unfold scNextDt
  dsimp only
  generalize (if k ≤ 2 then 2 * dt else if 4 ≤ k then dt / 2 else dt) = d
  have hd : 1 ≤ (if d < 1 then 1 else d) := by
    split
    · exact Nat.le_refl 1
    · exact Nat.le_of_not_lt ‹_›
  generalize (if d < 1 then 1 else d) = d' at hd ⊢
  split
  · exact ⟨Nat.le_sub_of_add_le' ht, Nat.le_of_eq (Nat.add_sub_cancel' (Nat.le_of_lt ht))⟩
  · exact ⟨hd, Nat.le_of_not_lt ‹_›⟩

theorem sc_measure_lt (F M t t' x : Nat) (h1 : t < t') (h2 : t' ≤ F) :
    (F - t') * (M + 1) + M < (F - t) * (M + 1) + x :=
  calc (F - t') * (M + 1) + M
    _ < (F - t' + 1) * (M + 1) := by rw [Nat.succ_mul]; exact Nat.add_lt_add_left (Nat.lt_succ_self M) _
    _ ≤ (F - t) * (M + 1) := Nat.mul_le_mul_right _ (Nat.sub_lt_sub_left (Nat.lt_of_lt_of_le h1 h2) h1)
    _ ≤ (F - t) * (M + 1) + x := Nat.le_add_right ..

theorem simpleClock_retry_ok (p : SCParams) (t dt rc : Nat) (c' : SC) (h : (simpleClock p).retry ⟨t, dt, rc⟩ = .ok c') :
    rc < p.recompMax ∧ dt ≠ 1 ∧ c' = ⟨t - dt, dt / 2, rc + 1⟩ := by
  simp only [simpleClock] at h
  split at h
  · split at h
    · cases h
    · exact ⟨‹_›, ‹_›, (Except.ok.inj h).symm⟩
  · cases h

/-- `after_nonlinear_failure` on the time manager: `ValueError` when the budget is used up, else the
    corrections of the shortened step -/
theorem tmClock_retry (p : C09.Params) (c : C09.TM) :
    (tmClock p).retry c =
      if p.constantDt = true ∨ ¬((c.recompNum : Int) < p.recompMax) ∨ c.dt = p.dtMin then .error "ValueError"
      else match C09.correct p (C09.rewound p c) with
        | (s2, .ok _) => .ok s2
        | (_, .err e) => .error (errName e) := by
  show (if p.constantDt = true then _ else _) = _
  by_cases hc : p.constantDt = true
  · rw [if_pos hc, if_pos (.inl hc)]
  rw [if_neg hc, C09.computeTimeStep_recompute p c (Bool.eq_false_iff.2 hc)]
  by_cases hr : (c.recompNum : Int) < p.recompMax
  · by_cases hd : c.dt = p.dtMin
    · rw [if_pos hr, if_pos hd, if_pos (.inr (.inr hd))]; rfl
    · rw [if_pos hr, if_neg hd, if_neg (by simp [hc, hr, hd])]; rfl
  · rw [if_neg hr, if_pos (.inr (.inl hr))]; rfl

/-- Boundary values at a boundary of the time loop: the iterate slot holds the value of the last accepted time, the
    time-step slots those of the accepted times before it (then the initial time `t0`), as far as the next shift
    keeps them. -/
structure BcInv (cfg : Cfg) (t0 : Rat) (r : Run V C) : Prop where
  ok : (r.status = .running ∨ r.status = .finished) →
    some r.bc.it = r.acceptedT.head? ∧ r.bc.ts.length ≤ cfg.nTs ∧
    r.bc.ts.take (cfg.nTs - 1) = (r.acceptedT.tail ++ [t0]).take (cfg.nTs - 1)

/-- what `before_nonlinear_loop` stores from such boundary values, whatever time `t` it starts at -/
theorem beforeLoop_spec (cfg : Cfg) (t t0 : Rat) (b : Bc) (accT : List Rat) (hTs : 0 < cfg.nTs)
    (h1 : some b.it = accT.head?) (h2 : b.ts.length ≤ cfg.nTs)
    (h3 : b.ts.take (cfg.nTs - 1) = (accT.tail ++ [t0]).take (cfg.nTs - 1)) :
    beforeLoop cfg t b = { it := t, ts := (accT ++ [t0]).take cfg.nTs } := by
  obtain ⟨n, hn⟩ := Nat.exists_eq_succ_of_ne_zero (Nat.pos_iff_ne_zero.1 hTs)
  cases accT with
  | nil => cases h1
  | cons a tl =>
    obtain rfl : b.it = a := Option.some.inj h1
    show Bc.mk t (set0 b.it (shiftMax cfg.nTs b.ts)) = _
    rw [push_eq _ _ _ hTs h2]
    rw [hn] at h3 ⊢
    rw [List.cons_append, List.take_succ_cons, List.take_succ_cons]
    exact congrArg (Bc.mk t <| b.it :: ·) h3

theorem bcinv_start (clk : Clock C) (cfg : Cfg) (v0 : V) (c0 : C) (hTs : 0 < cfg.nTs) :
    BcInv cfg (clk.time c0) (startRun clk cfg v0 c0 : Run V C) :=
  ⟨fun _ => ⟨rfl, hTs, rfl⟩⟩

theorem bcinv_step [Add V] (clk : Clock C) (cfg : Cfg) (t0 : Rat) (hTs : 0 < cfg.nTs)
    (r : Run V C) (tape : List (Iter V)) (hok : NoBoth cfg tape) (hrun : r.status = .running) (hr : BcInv cfg t0 r) :
    BcInv cfg t0 (stepRun clk cfg r tape) := by
  obtain ⟨h1, h2, h3⟩ := hr.ok (.inl hrun)
  have hbl := beforeLoop_spec cfg (clk.time (clk.advance r.clock)) t0 r.bc r.acceptedT hTs h1 h2 h3
  have hp := stepRun_spec clk cfg r tape hrun
  generalize stepRun clk cfg r tape = r' at hp ⊢
  rw [hbl] at hp
  cases hp with
  | accepted c2 =>
    -- one more shift
    refine ⟨fun _ => ⟨rfl, List.length_take_le .., ?_⟩⟩
    show List.take (cfg.nTs - 1) (List.take cfg.nTs _) = _
    rw [List.take_take, Nat.min_eq_left (Nat.sub_le ..)]
    rfl
  | both _ hb => exact absurd hb (solveStep_not_both cfg tape hok r.sol)
  | retried c2 =>
    -- `bcRewind` undoes the shift
    obtain ⟨n, hn⟩ := Nat.exists_eq_succ_of_ne_zero (Nat.pos_iff_ne_zero.1 hTs)
    obtain ⟨a, tl, hacc⟩ : ∃ a tl, r.acceptedT = a :: tl := by
      cases hh : r.acceptedT with
      | nil => rw [hh] at h1; cases h1
      | cons a tl => exact ⟨a, tl, rfl⟩
    refine ⟨fun _ => ?_⟩
    dsimp only
    rw [hacc, hn, List.cons_append, List.take_succ_cons]
    refine ⟨rfl, Nat.le_succ_of_le (List.length_take_le ..), ?_⟩
    show List.take n (List.take n (tl ++ [t0])) = List.take n (tl ++ [t0])
    rw [List.take_take, Nat.min_self]
  | stopped st _ hst => exact ⟨fun hl => absurd hl hst.not_live⟩

theorem bcinv_runAll [Add V] (clk : Clock C) (cfg : Cfg) (t0 : Rat) (hTs : 0 < cfg.nTs)
    (tapes : List (List (Iter V))) (hok : ∀ t ∈ tapes, NoBoth cfg t) :
    ∀ r : Run V C, BcInv cfg t0 r → BcInv cfg t0 (runAll clk cfg r tapes) :=
  runAll_induction clk cfg _ tapes fun t ht r => bcinv_step clk cfg t0 hTs r t (hok t ht)

/-- the C10 run over `tmClock p` and a C09 run are in the same state of the time manager -/
def Sim (r : Run V C09.TM) (r9 : C09.Run) : Prop :=
  (r.status = .running ∧ r9.status = .running ∧ r.clock = r9.tm ∧ r.acceptedT = r9.accepted) ∨
  (r.status = .finished ∧ r9.status = .finished ∧ r.clock = r9.tm ∧ r.acceptedT = r9.accepted) ∨
  (∃ e e', r.status = .raised e ∧ r9.status = .raised e') ∨
  (∃ e e', r.status = .crashed e ∧ r9.status = .crashed e')

theorem statusOf_tm (p : C09.Params) (c : C09.TM) :
    (statusOf (tmClock p) c = .running ∧ C09.statusOf p c = .running) ∨
    (statusOf (tmClock p) c = .finished ∧ C09.statusOf p c = .finished) := by
  unfold statusOf C09.statusOf
  simp only [tmClock]
  by_cases h : C09.finalTimeReached p c = true
  · right; simp [h]
  · left; simp [h]

theorem sim_of_status (p : C09.Params) (r : Run V C09.TM) (r9 : C09.Run) (c : C09.TM)
    (h1 : r.status = statusOf (tmClock p) c) (h2 : r9.status = C09.statusOf p c) (h3 : r.clock = c) (h4 : r9.tm = c)
    (h5 : r.acceptedT = r9.accepted) : Sim r r9 := by
  rcases statusOf_tm p c with ⟨a, b⟩ | ⟨a, b⟩
  · exact Or.inl ⟨by rw [h1, a], by rw [h2, b], by rw [h3, h4], h5⟩
  · exact Or.inr (Or.inl ⟨by rw [h1, a], by rw [h2, b], by rw [h3, h4], h5⟩)

/-- C09's pass of the time loop on a converged solve, in terms of the clock's accept hook -/
theorem c09_step_converged (p : C09.Params) (r9 : C09.Run) (k : Nat) (h9 : r9.status = .running) :
    match (tmClock p).accept ((tmClock p).advance r9.tm) k with
    | .ok c2 => C09.stepRun p r9 (.converged k) =
        ⟨c2, ((tmClock p).advance r9.tm).time :: r9.accepted, C09.statusOf p c2⟩
    | .error _ => ∃ e', (C09.stepRun p r9 (.converged k)).status = .crashed e' := by
  unfold C09.stepRun
  rw [h9]
  dsimp only [tmClock]
  by_cases hconst : p.constantDt = true
  · rw [if_pos hconst, if_pos hconst]
  · rw [if_neg hconst, if_neg hconst]
    rcases C09.computeTimeStep p (C09.increaseTimeIndex (C09.increaseTime r9.tm)) (some (k : Int)) false with ⟨s2, _ | e'⟩
    · rfl
    · exact ⟨e', rfl⟩

/-- C09's pass of the time loop on a failed solve, in terms of the clock's retry hook -/
theorem c09_step_failed (p : C09.Params) (r9 : C09.Run) (h9 : r9.status = .running) :
    match (tmClock p).retry ((tmClock p).advance r9.tm) with
    | .ok c2 => C09.stepRun p r9 .failed = ⟨c2, r9.accepted, C09.statusOf p c2⟩
    | .error _ => ∃ e', (C09.stepRun p r9 .failed).status = .raised e' := by
  unfold C09.stepRun
  rw [h9]
  dsimp only [tmClock]
  by_cases hconst : p.constantDt = true
  · rw [if_pos hconst, if_pos hconst]; exact ⟨_, rfl⟩
  · rw [if_neg hconst, if_neg hconst]
    rcases C09.computeTimeStep p (C09.increaseTimeIndex (C09.increaseTime r9.tm)) none true with ⟨s2, _ | e'⟩
    · rfl
    · exact ⟨e', rfl⟩

theorem sim_step [Add V] (p : C09.Params) (cfg : Cfg) (r : Run V C09.TM) (r9 : C09.Run) (tape : List (Iter V))
    (hok : NoBoth cfg tape) (hlen : cfg.maxIt < tape.length) (hlin : cfg.linear = false) (h : Sim r r9) :
    ∃ o, Sim (stepRun (tmClock p) cfg r tape) (C09.stepRun p r9 o) := by
  rcases h with ⟨hrun, h9, hclk, hacc9⟩ | h
  case inr =>
    -- both runs have stopped
    refine ⟨.failed, ?_⟩
    have hr : r.status ≠ .running := by rcases h with ⟨a, _⟩ | ⟨_, _, a, _⟩ | ⟨_, _, a, _⟩ <;> rw [a] <;> nofun
    have h9 : r9.status ≠ .running := by rcases h with ⟨_, a, _⟩ | ⟨_, _, _, a⟩ | ⟨_, _, _, a⟩ <;> rw [a] <;> nofun
    rw [stepRun_not_running _ cfg r tape hr, C09.stepRun_not_running p r9 _ h9]
    exact .inr h
  have h9c := c09_step_converged p r9 (solveStep cfg tape r.sol).k h9
  have h9f := c09_step_failed p r9 h9
  rw [← hclk] at h9c h9f
  have hp := stepRun_spec (tmClock p) cfg r tape hrun
  generalize stepRun (tmClock p) cfg r tape = r' at hp ⊢
  cases hp with
  | accepted c2 _ _ hc2 =>
    refine ⟨.converged (solveStep cfg tape r.sol).k, ?_⟩
    rw [hc2] at h9c
    rw [h9c]
    exact sim_of_status p _ _ c2 rfl rfl rfl rfl (congrArg (_ :: ·) hacc9)
  | both _ hb => exact absurd hb (solveStep_not_both cfg tape hok r.sol)
  | retried c2 _ _ hc2 =>
    refine ⟨.failed, ?_⟩
    rw [retryOf_nonlinear _ cfg _ hlin] at hc2
    rw [hc2] at h9f
    rw [h9f]
    exact sim_of_status p _ _ c2 rfl rfl rfl rfl hacc9
  | stopped st _ hst =>
    cases hst with
    | crashed e _ he =>
      rw [he] at h9c
      obtain ⟨e', he'⟩ := h9c
      exact ⟨.converged (solveStep cfg tape r.sol).k, .inr (.inr (.inr ⟨e, e', rfl, he'⟩))⟩
    | outOfTape ho => exact absurd ho (solveStep_not_outOfTape cfg tape r.sol hlen)
    | raised e _ he =>
      rw [retryOf_nonlinear _ cfg _ hlin] at he
      rw [he] at h9f
      obtain ⟨e', he'⟩ := h9f
      exact ⟨.failed, .inr (.inr (.inl ⟨e, e', rfl, he'⟩))⟩

theorem sim_runAll [Add V] (p : C09.Params) (cfg : Cfg) (tapes : List (List (Iter V)))
    (hok : ∀ t ∈ tapes, NoBoth cfg t ∧ cfg.maxIt < t.length) (hlin : cfg.linear = false) :
    ∀ (r : Run V C09.TM) (r9 : C09.Run), Sim r r9 →
      ∃ os : List C09.Outcome, os.length = tapes.length ∧ Sim (runAll (tmClock p) cfg r tapes) (C09.runFrom p r9 os) := by
  induction tapes with
  | nil => intro r r9 h; exact ⟨[], rfl, h⟩
  | cons t ts ih =>
    intro r r9 h
    obtain ⟨o, ho⟩ := sim_step p cfg r r9 t (hok t List.mem_cons_self).1 (hok t List.mem_cons_self).2 hlin h
    obtain ⟨os, hl, hs⟩ := ih (fun x hx => hok x (List.mem_cons_of_mem _ hx)) _ _ ho
    exact ⟨o :: os, by simp [hl], by rw [runAll_cons]; exact hs⟩

theorem sim_start (p : C09.Params) (cfg : Cfg) (v0 : V) :
    Sim (startRun (tmClock p) cfg v0 (C09.init p) : Run V C09.TM) (C09.startRun p) :=
  sim_of_status p _ _ (C09.init p) rfl rfl rfl rfl rfl

end PorepyVerif.C10
