/-
C25 — `create_interfaces` on a `face_cells` matrix that couples every lower-dimensional cell to one
host face, or every cell to two.
-/
import PorepyVerif.C25.Lemmas
import PorepyVerif.Common.List

namespace PorepyVerif.C25

theorem filterMap_entries_filter (fc : Nat → Option Nat) (l : Nat) (L : List Nat) :
    (L.filterMap (fun g => (fc g).map (fun l => (l, g)))).filter (fun e => e.1 = l)
      = (L.filter (fun g => fc g = some l)).map (fun g => (l, g)) := by
  induction L with
  | nil => rfl
  | cons g L ih =>
    cases hfg : fc g with
    | none => simp [hfg, ih]
    | some l' =>
      by_cases hl : l' = l
      · subst hl; simp [hfg, ih]
      · simp [hfg, ih, hl]

theorem entries_filter (fc : Nat → Option Nat) (cols l : Nat) :
    (entries fc cols).filter (fun e => e.1 = l)
      = ((List.range cols).filter (fun g => fc g = some l)).map (fun g => (l, g)) :=
  filterMap_entries_filter fc l (List.range cols)

theorem foldl_max_le_iff (es : List (Nat × Nat)) (a M : Nat) :
    es.foldl (fun a e => max a e.1) a ≤ M ↔ a ≤ M ∧ ∀ e ∈ es, e.1 ≤ M := by
  induction es generalizing a with
  | nil => simp
  | cons e es ih => rw [List.foldl_cons, ih, Nat.max_le, List.forall_mem_cons, and_assoc]

theorem maxLow_eq (es : List (Nat × Nat)) (M : Nat) (hall : ∀ e ∈ es, e.1 ≤ M) (hex : ∃ e ∈ es, e.1 = M) :
    maxLow es = M := by
  obtain ⟨e, he, rfl⟩ := hex
  exact Nat.le_antisymm ((foldl_max_le_iff es 0 _).mpr ⟨Nat.zero_le _, hall⟩)
    (((foldl_max_le_iff es 0 _).mp (Nat.le_refl _)).2 e he)

theorem length_eq_sum_count (es : List (Nat × Nat)) (n : Nat) (hall : ∀ e ∈ es, e.1 < n) :
    es.length = sumTo n (countLow es) := by
  induction es with
  | nil =>
    have : countLow ([] : List (Nat × Nat)) = fun _ => 0 := funext fun l => rfl
    rw [this, sumTo_const]; rfl
  | cons e es ih =>
    have hpt : ∀ l, countLow (e :: es) l = (if l = e.1 then 1 else 0) + countLow es l := by
      intro l
      unfold countLow
      by_cases h : e.1 = l
      · subst h; simp; omega
      · have : ¬ l = e.1 := fun x => h x.symm
        simp [h, this]
    rw [show countLow (e :: es) = fun l => (if l = e.1 then 1 else 0) + countLow es l from funext hpt,
      sumTo_add_fun, sumTo_ind, if_pos (hall e List.mem_cons_self),
      ← ih (fun x hx => hall x (List.mem_cons_of_mem _ hx)), List.length_cons]
    omega

theorem evens_flatMap_pair {α β : Type} (A B : α → β) (L : List α) :
    evens (L.flatMap (fun l => [A l, B l])) = L.map A ∧ odds (L.flatMap (fun l => [A l, B l])) = L.map B := by
  induction L with
  | nil => exact ⟨rfl, rfl⟩
  | cons a L ih =>
    simp only [List.flatMap_cons, List.cons_append, List.nil_append, evens, odds, List.map_cons, ih.1, ih.2,
      and_self]

theorem mem_entries (fc : Nat → Option Nat) (cols : Nat) (e : Nat × Nat) :
    e ∈ entries fc cols ↔ e.2 < cols ∧ fc e.2 = some e.1 := by
  unfold entries
  simp only [List.mem_filterMap, List.mem_range, Option.map_eq_some_iff]
  constructor
  · rintro ⟨g, hg, l, hl, rfl⟩; exact ⟨hg, hl⟩
  · rintro ⟨h1, h2⟩; exact ⟨e.2, h1, e.1, h2, rfl⟩

/-- the facts shared by the one- and two-sided case: `cnt` faces per cell, listed by `F` -/
theorem createInterface_of_filter (nLow : Nat) (fc : Nat → Option Nat) (cols cnt : Nat) (F : Nat → List (Nat × Nat))
    (hpos : 0 < nLow) (hcnt : cnt = 1 ∨ cnt = 2)
    (hlow : ∀ e ∈ entries fc cols, e.1 < nLow)
    (hF : ∀ l, l < nLow → (entries fc cols).filter (fun e => e.1 = l) = F l)
    (hlen : ∀ l, l < nLow → (F l).length = cnt) :
    createInterface nLow fc cols = .ok ⟨cnt,
      if cnt = 2 then evens ((List.range nLow).flatMap F) ++ odds ((List.range nLow).flatMap F)
      else (List.range nLow).flatMap F⟩ := by
  have hcl : ∀ l, l < nLow → countLow (entries fc cols) l = cnt := by
    intro l hl; unfold countLow; rw [hF l hl, hlen l hl]
  -- the last cell has an entry
  have hlast : ∃ e ∈ entries fc cols, e.1 = nLow - 1 := by
    have hlen' : 0 < ((entries fc cols).filter (fun e => e.1 = nLow - 1)).length := by
      rw [hF _ (by omega), hlen _ (by omega)]; omega
    obtain ⟨e, he⟩ := List.exists_mem_of_length_pos hlen'
    rw [List.mem_filter, decide_eq_true_iff] at he
    exact ⟨e, he⟩
  have hne : entries fc cols ≠ [] := by
    obtain ⟨e, he, _⟩ := hlast
    exact List.ne_nil_of_mem he
  have hmax : maxLow (entries fc cols) + 1 = nLow := by
    rw [maxLow_eq _ (nLow - 1) (fun e he => by have := hlow e he; omega) hlast]; omega
  have hany : (List.range nLow).any (fun l => countLow (entries fc cols) l > 2) = false := by
    rw [List.any_eq_false]
    intro l hl
    rw [hcl l (List.mem_range.mp hl)]
    rcases hcnt with h | h <;> simp [h]
  have hall : (List.range nLow).all (fun l => countLow (entries fc cols) l > 1) = decide (cnt = 2) := by
    rw [Bool.eq_iff_iff, List.all_eq_true, decide_eq_true_iff]
    constructor
    · intro h
      have := h 0 (List.mem_range.mpr hpos)
      rw [hcl 0 hpos, decide_eq_true_iff] at this
      omega
    · intro h l hl
      rw [hcl l (List.mem_range.mp hl), h]; rfl
  have hsorted : (List.range nLow).flatMap (fun l => (entries fc cols).filter (fun e => e.1 = l))
      = (List.range nLow).flatMap F :=
    Common.flatMap_congr fun l hl => hF l (List.mem_range.mp hl)
  have hlength : (entries fc cols).length = nLow * cnt := by
    rw [length_eq_sum_count _ nLow hlow, sumTo_congr (fun l hl => hcl l hl), sumTo_const]
  unfold createInterface
  simp only [hmax, if_neg hne, hany, hall, hsorted, hlength]
  rcases hcnt with h | h <;> subst h <;> simp [Nat.mul_comm]

theorem createInterface_two {nLow cols : Nat} {fc : Nat → Option Nat} {g1 g2 : Nat → Nat}
    (h : TwoSided nLow cols fc g1 g2) :
    createInterface nLow fc cols = .ok ⟨2,
      (List.range nLow).map (fun l => (l, g1 l)) ++ (List.range nLow).map (fun l => (l, g2 l))⟩ := by
  have := createInterface_of_filter nLow fc cols 2 (fun l => [(l, g1 l), (l, g2 l)]) h.pos (Or.inr rfl)
    (fun e he => by
      have := (mem_entries fc cols e).mp he
      exact ((h.spec e.2 e.1 this.1).mp this.2).1)
    (fun l hl => by
      rw [entries_filter, filter_range_two cols (g1 l) (g2 l) _ (h.order l hl).1 (h.order l hl).2
        (fun g hg => by rw [decide_eq_true_iff, h.spec g l hg]; simp [hl])]
      rfl)
    (fun l _ => rfl)
  rw [this, if_pos rfl, (evens_flatMap_pair _ _ _).1, (evens_flatMap_pair _ _ _).2]

theorem createInterface_one {nLow cols : Nat} {fc : Nat → Option Nat} {g1 : Nat → Nat}
    (h : OneSided nLow cols fc g1) :
    createInterface nLow fc cols = .ok ⟨1, (List.range nLow).map (fun l => (l, g1 l))⟩ := by
  have := createInterface_of_filter nLow fc cols 1 (fun l => [(l, g1 l)]) h.pos (Or.inl rfl)
    (fun e he => by
      have := (mem_entries fc cols e).mp he
      exact ((h.spec e.2 e.1 this.1).mp this.2).1)
    (fun l hl => by
      rw [entries_filter, filter_range_one cols (g1 l) _ (h.bound l hl)
        (fun g hg => by rw [decide_eq_true_iff, h.spec g l hg]; simp [hl])]
      rfl)
    (fun l _ => rfl)
  rw [this, if_neg (by decide), ← List.map_eq_flatMap]

end PorepyVerif.C25
