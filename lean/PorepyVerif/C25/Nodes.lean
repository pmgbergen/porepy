/-
C25 — `duplicate_nodes`: the labels of the min-label propagation are component representatives
(`Good`, and equal exactly on connected cells once the propagation is stable), and the offset of a
node in a face is the rank of the component of the cell.
-/
import PorepyVerif.C25.Model

namespace PorepyVerif.C25

theorem listMin_le_init (m : Nat) (xs : List Nat) : listMin m xs ≤ m := by
  induction xs with
  | nil => exact Nat.le_refl _
  | cons x t ih => exact Nat.le_trans (Nat.min_le_right _ _) ih

theorem listMin_le_mem (m : Nat) (xs : List Nat) {x : Nat} (hx : x ∈ xs) : listMin m xs ≤ x := by
  induction xs with
  | nil => cases hx
  | cons y t ih =>
    rcases List.mem_cons.mp hx with rfl | h
    · exact Nat.min_le_left _ _
    · exact Nat.le_trans (Nat.min_le_right _ _) (ih h)

theorem listMin_mem (m : Nat) (xs : List Nat) : listMin m xs = m ∨ listMin m xs ∈ xs := by
  induction xs with
  | nil => exact Or.inl rfl
  | cons y t ih =>
    show min y (listMin m t) = m ∨ min y (listMin m t) ∈ y :: t
    rcases Nat.le_total y (listMin m t) with h | h
    · rw [Nat.min_eq_left h]; exact Or.inr List.mem_cons_self
    · rw [Nat.min_eq_right h]
      rcases ih with e | e
      · exact Or.inl e
      · exact Or.inr (List.mem_cons_of_mem _ e)

theorem tab_map (L : List Nat) (f : Nat → Nat) (c : Nat) : tab L (L.map f) c = if c ∈ L then f c else c := by
  induction L with
  | nil => simp [tab]
  | cons k ks ih =>
    simp only [List.map_cons, tab]
    by_cases h : c = k
    · subst h; simp
    · rw [if_neg h, ih]; simp [h]

theorem tab_self (L : List Nat) (c : Nat) : tab L L c = c := by
  have := tab_map L (fun x => x) c
  rw [List.map_id'] at this
  rw [this]; split <;> rfl

theorem adj_iff (g : NodeGrid) (a b : Nat) : g.adj a b = true ↔ ∃ f, f ∈ g.cellFaces a ∧ f ∈ g.cellFaces b := by
  simp [NodeGrid.adj, List.any_eq_true]

theorem adj_symm (g : NodeGrid) {a b : Nat} (h : g.adj a b = true) : g.adj b a = true := by
  rw [adj_iff] at h ⊢
  obtain ⟨f, h1, h2⟩ := h
  exact ⟨f, h2, h1⟩

theorem Conn.trans {g : NodeGrid} {L : List Nat} {a b c : Nat} (h1 : Conn g L a b) (h2 : Conn g L b c) :
    Conn g L a c := by
  induction h2 with
  | refl => exact h1
  | step _ hb hc hadj ih => exact Conn.step ih hb hc hadj

theorem Conn.single {g : NodeGrid} {L : List Nat} {a b : Nat} (ha : a ∈ L) (hb : b ∈ L) (h : g.adj a b = true) :
    Conn g L a b := Conn.step (Conn.refl a) ha hb h

theorem Conn.symm {g : NodeGrid} {L : List Nat} {a b : Nat} (h : Conn g L a b) : Conn g L b a := by
  induction h with
  | refl => exact Conn.refl _
  | step _ hb hc hadj ih => exact (Conn.single hc hb (adj_symm g hadj)).trans ih

/-- every label is a cell of the cluster connected to the cell that carries it -/
def Good (g : NodeGrid) (L : List Nat) (lab : Nat → Nat) : Prop := ∀ c, c ∈ L → lab c ∈ L ∧ Conn g L c (lab c)

theorem stepLab_cases (g : NodeGrid) (L : List Nat) (lab : Nat → Nat) (c : Nat) :
    g.stepLab L lab c = lab c ∨ ∃ d, d ∈ L ∧ g.adj c d = true ∧ g.stepLab L lab c = lab d := by
  unfold NodeGrid.stepLab
  rcases listMin_mem (lab c) ((L.filter (fun d => g.adj c d)).map lab) with h | h
  · exact Or.inl h
  · obtain ⟨d, hd, e⟩ := List.mem_map.mp h
    rw [List.mem_filter] at hd
    exact Or.inr ⟨d, hd.1, hd.2, e.symm⟩

theorem good_step (g : NodeGrid) (L : List Nat) (lab : Nat → Nat) (h : Good g L lab) :
    Good g L (tab L (L.map (g.stepLab L lab))) := by
  intro c hc
  rw [tab_map, if_pos hc]
  rcases stepLab_cases g L lab c with e | ⟨d, hd, hadj, e⟩
  · rw [e]; exact h c hc
  · rw [e]
    exact ⟨(h d hd).1, (Conn.single hc hd hadj).trans (h d hd).2⟩

theorem good_iter (g : NodeGrid) (L : List Nat) : ∀ (t : Nat) (v : List Nat), Good g L (tab L v) →
    Good g L (tab L (g.iterVals L t v)) := by
  intro t
  induction t with
  | zero => intro v h; exact h
  | succ t ih => intro v h; exact ih _ (good_step g L (tab L v) h)

theorem good_labels (g : NodeGrid) (L : List Nat) : Good g L (g.labels L) :=
  good_iter g L _ _ (fun c hc => by rw [tab_self]; exact ⟨hc, Conn.refl c⟩)

theorem stable_adj {g : NodeGrid} {L : List Nat} {lab : Nat → Nat} (hs : g.stable L lab = true)
    {a b : Nat} (ha : a ∈ L) (hb : b ∈ L) (hadj : g.adj a b = true) : lab a = lab b := by
  have key : ∀ {a b : Nat}, a ∈ L → b ∈ L → g.adj a b = true → lab a ≤ lab b := by
    intro a b ha hb hadj
    have h1 : g.stepLab L lab a = lab a := by
      have := List.all_eq_true.mp hs a ha
      simpa using this
    rw [← h1]
    unfold NodeGrid.stepLab
    exact listMin_le_mem _ _ (List.mem_map.mpr ⟨b, List.mem_filter.mpr ⟨hb, hadj⟩, rfl⟩)
  exact Nat.le_antisymm (key ha hb hadj) (key hb ha (adj_symm g hadj))

theorem stable_conn {g : NodeGrid} {L : List Nat} {lab : Nat → Nat} (hs : g.stable L lab = true)
    {a b : Nat} (h : Conn g L a b) : lab a = lab b := by
  induction h with
  | refl => rfl
  | step _ hb hc hadj ih => exact ih.trans (stable_adj hs hb hc hadj)

theorem label_eq_iff_conn {g : NodeGrid} {L : List Nat} {lab : Nat → Nat} (hg : Good g L lab)
    (hs : g.stable L lab = true) {a b : Nat} (ha : a ∈ L) (hb : b ∈ L) : lab a = lab b ↔ Conn g L a b := by
  constructor
  · intro e
    have h1 := (hg a ha).2
    have h2 := (hg b hb).2
    rw [← e] at h2
    exact h1.trans h2.symm
  · exact stable_conn hs

theorem label_mem_roots {g : NodeGrid} {L : List Nat} {lab : Nat → Nat} (hg : Good g L lab)
    (hs : g.stable L lab = true) {a : Nat} (ha : a ∈ L) : lab a ∈ roots L lab := by
  unfold roots
  rw [List.mem_filter]
  exact ⟨(hg a ha).1, by simpa using (stable_conn hs (hg a ha).2).symm⟩

theorem nodup_cluster (g : NodeGrid) (n : Nat) : (g.cluster n).Nodup := (List.nodup_range).filter _

theorem nodup_roots {L : List Nat} (lab : Nat → Nat) (h : L.Nodup) : (roots L lab).Nodup := h.filter _

theorem offsetAux_none (hit : Nat → Bool) (rs : List Nat) (t : Nat) (h : ∀ r, r ∈ rs → hit r = false) :
    offsetAux hit rs t = 0 := by
  induction rs generalizing t with
  | nil => rfl
  | cons r rs ih =>
    simp only [offsetAux, h r List.mem_cons_self, Bool.false_eq_true, and_false, if_false, Nat.zero_add]
    exact ih _ (fun x hx => h x (List.mem_cons_of_mem _ hx))

theorem offsetAux_single (hit : Nat → Bool) (rs : List Nat) (t r0 : Nat) (hnd : rs.Nodup) (hr0 : r0 ∈ rs)
    (hh : ∀ r, r ∈ rs → (hit r = true ↔ r = r0)) : offsetAux hit rs t = t + rs.idxOf r0 := by
  induction rs generalizing t with
  | nil => cases hr0
  | cons r rs ih =>
    rw [List.nodup_cons] at hnd
    by_cases hr : r = r0
    · subst hr
      have hhit : hit r = true := (hh r List.mem_cons_self).mpr rfl
      have hrest : offsetAux hit rs (t + 1) = 0 := offsetAux_none hit rs _ fun x hx =>
        Bool.eq_false_iff.mpr fun hx' => hnd.1 ((hh x (List.mem_cons_of_mem _ hx)).mp hx' ▸ hx)
      simp only [offsetAux, hhit, and_true, hrest, List.idxOf_cons_self, Nat.add_zero]
      by_cases h1 : 1 ≤ t
      · rw [if_pos h1]
      · rw [if_neg h1]; omega
    · have hhit : hit r = false := Bool.eq_false_iff.mpr fun hx' => hr ((hh r List.mem_cons_self).mp hx')
      have hr0' : r0 ∈ rs := by
        rcases List.mem_cons.mp hr0 with e | e
        · exact absurd e.symm hr
        · exact e
      simp only [offsetAux, hhit, Bool.false_eq_true, and_false, if_false, Nat.zero_add]
      rw [ih (t + 1) hnd.2 hr0' (fun x hx => hh x (List.mem_cons_of_mem _ hx)),
        List.idxOf_cons]
      have : (r == r0) = false := by simpa using hr
      rw [this, cond_false]
      omega

theorem lookupInfo_map (F : Nat → NodeInfo) (split : List Nat) (n : Nat) :
    lookupInfo (split.map (fun m => (m, F m))) n = if n ∈ split then some (F n) else none := by
  induction split with
  | nil => rfl
  | cons k ks ih =>
    simp only [List.map_cons, lookupInfo]
    by_cases h : n = k
    · subst h; simp
    · rw [if_neg h, ih]; simp [h]

theorem duplicateNodes_some {g : NodeGrid} {split : List Nat} {r : NodeOut} (h : g.duplicateNodes split = some r) :
    (∀ n, n ∈ split → g.stable (g.cluster n) (g.labels (g.cluster n)) = true) ∧
    r.nN = g.nN + ((split.map (fun n => (roots (g.cluster n) (g.labels (g.cluster n))).length - 1)).foldl (· + ·) 0) ∧
    (∀ f, r.faceNodes f = (g.faceNodes f).map (fun n =>
        n + (if n ∈ split then g.offset (g.info n) f else 0) + incBefore (split.map (fun m => (m, g.info m))) n)) := by
  unfold NodeGrid.duplicateNodes at h
  simp only [] at h
  split at h
  · rename_i hall
    injection h with h
    subst h
    refine ⟨?_, ?_, ?_⟩
    · intro n hn
      have := List.all_eq_true.mp hall (n, g.info n) (List.mem_map.mpr ⟨n, hn, rfl⟩)
      exact this
    · simp only [List.map_map]; rfl
    · intro f
      apply List.map_congr_left
      intro n _
      simp only [lookupInfo_map]
      by_cases hn : n ∈ split <;> simp [hn]
  · cases h

/-- in the faces of a cell `c` around a split node, the node is replaced by the copy that belongs to
    the component of `c` (copy number = rank of the component) -/
theorem offset_eq_rank {g : NodeGrid} {n c f : Nat}
    (hs : g.stable (g.cluster n) (g.labels (g.cluster n)) = true)
    (hc : c ∈ g.cluster n) (hf : f ∈ g.cellFaces c) :
    g.offset (g.info n) f = (roots (g.cluster n) (g.labels (g.cluster n))).idxOf (g.labels (g.cluster n) c) := by
  have hg := good_labels g (g.cluster n)
  have := offsetAux_single
    (fun r => (g.cluster n).any (fun c' => g.labels (g.cluster n) c' = r && decide (f ∈ g.cellFaces c')))
    (roots (g.cluster n) (g.labels (g.cluster n))) 0 (g.labels (g.cluster n) c)
    (nodup_roots _ (nodup_cluster g n)) (label_mem_roots hg hs hc)
    (fun r _ => by
      simp only [List.any_eq_true, Bool.and_eq_true, decide_eq_true_eq]
      constructor
      · rintro ⟨c', hc', hl, hf'⟩
        rw [← hl]
        exact stable_adj hs hc' hc ((adj_iff g c' c).mpr ⟨f, hf', hf⟩)
      · intro e
        exact ⟨c, hc, e.symm, hf⟩)
  rw [Nat.zero_add] at this
  exact this

end PorepyVerif.C25
