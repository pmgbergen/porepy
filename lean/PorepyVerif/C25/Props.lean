/-
C25 — property theorems.

Property (combinatorial core): after `split_faces`, each lower-dimensional cell is coupled to one
split face of the host on each side (one face only where the host carries a tag there, i.e. where
the host — a fracture — ends at another fracture); the two copies keep the stored normal but have
opposite incidence signs, hence opposite outward normals; the `fracture_faces` tag marks exactly
the coupled faces; every cell keeps its number of faces; each mortar side has as many cells as the
lower-dimensional grid, cell `k` of either side being coupled to lower-dimensional cell `k`
(first side: original faces, second side: duplicates).

The geometric parts of the property (centres, measures, volume, containment) are decided by the
oracle of the harness, not here.
-/
import PorepyVerif.C25.Mortar
import PorepyVerif.C25.Structured
import PorepyVerif.C25.Nodes
import Mathlib.Tactic.Choose

namespace PorepyVerif.C25

/-- `cells_preserved`: whatever `split_faces` does (any input on which it does not raise), every
    cell keeps its number of faces; cells are never created or removed (the model has no operation
    on the cell index set at all). -/
theorem cells_preserved (s s' : Host) (h : splitFaces s = .ok s') (hwf : s.RowsWF) (c : Nat) :
    s'.faceCount c = s.faceCount c :=
  splitFrom_faceCount _ s s' h hwf c

/-- `tags_mark_coupled` in its most general form: on any run that does not raise and ends with
    face indices and face_cells columns aligned (i.e. the "fracture on the boundary" branch of
    `update_cell_connectivity` was never taken), a host without fracture tags ends up with the
    `fracture_faces` tag exactly on the faces that some `face_cells` matrix couples. -/
theorem tags_mark_coupled_of_aligned (s s' : Host) (h : splitFaces s = .ok s')
    (hal : s.fcCols = s.nF) (hal' : s'.fcCols = s'.nF) (h0 : ∀ g, g < s.nF → s.frac g = false) :
    ∀ g, g < s'.nF → (s'.frac g = true ↔ ∃ j, j < s.nFr ∧ (s'.fc j g).isSome = true) := by
  have hinit : TagInv s (fun _ => False) := by
    intro g hg; rw [h0 g hg]; simp
  have := splitFrom_tags _ s s' _ h hal hal' hinit
  intro g hg
  rw [this g hg]
  constructor
  · rintro ⟨j, hj | hj, hs⟩
    · exact ⟨j, List.mem_range.mp hj, hs⟩
    · exact hj.elim
  · rintro ⟨j, hj, hs⟩
    exact ⟨j, Or.inl (List.mem_range.mpr hj), hs⟩

/-- `tags_mark_coupled`: on a valid input `split_faces` does not raise and the `fracture_faces`
    tag marks exactly the coupled faces. -/
theorem tags_mark_coupled (s : Host) (hv : s.Valid) (h0 : ∀ g, g < s.nF → s.frac g = false) :
    ∃ s', splitFaces s = .ok s' ∧
      ∀ g, g < s'.nF → (s'.frac g = true ↔ ∃ j, j < s.nFr ∧ (s'.fc j g).isSome = true) := by
  obtain ⟨s', h, hinv⟩ := splitFaces_valid hv
  exact ⟨s', h, tags_mark_coupled_of_aligned s s' h hv.aligned hinv.aligned h0⟩

/-- `split_face_pairs`: on a valid input `split_faces` does not raise; every lower-dimensional cell
    `l` (of fracture `i`, matched to host face `f`) is afterwards coupled to exactly ONE host face
    — `f` itself — where the host carries a tag at `f` (the host is a fracture that ends there:
    T or L intersection, one side only), and to exactly TWO host faces — `f` and its duplicate `d`,
    recorded in `frac_pairs` — otherwise; each of the two copies has exactly one incident cell. -/
theorem split_face_pairs (s : Host) (hv : s.Valid) :
    ∃ s', splitFaces s = .ok s' ∧ s'.fcCols = s'.nF ∧
      ∀ i f l, i < s.nFr → f < s.nF → s.fc i f = some l →
        (s.rem f = true → s'.coupledCount i l = 1 ∧ ∀ g, g < s'.nF → (s'.fc i g = some l ↔ g = f)) ∧
        (s.rem f = false → s'.coupledCount i l = 2 ∧
          ∃ d, s.nF ≤ d ∧ d < s'.nF ∧ (f, d) ∈ s'.pairs ∧
            (∀ g, g < s'.nF → (s'.fc i g = some l ↔ (g = f ∨ g = d))) ∧
            (s'.inc f).length = 1 ∧ (s'.inc d).length = 1) := by
  obtain ⟨s', h, hinv⟩ := splitFaces_valid hv
  refine ⟨s', h, hinv.aligned, ?_⟩
  intro i f l hi hf hfl
  obtain ⟨h1, h2⟩ := hinv.res i hi hi f l hf hfl
  have hfs : f < s'.nF := by have := hinv.nF; omega
  constructor
  · intro hr
    exact ⟨coupledCount_one s' i l f hfs (h1 hr), h1 hr⟩
  · intro hr
    obtain ⟨d, hd1, hd2, hiff, a, b, _, _, _, _, hif, hid, _, _, hp⟩ := h2 hr
    refine ⟨coupledCount_two s' i l f d (by omega) hd2 hiff, d, hd1, hd2, hp, hiff, ?_, ?_⟩
    · rw [hif]; rfl
    · rw [hid]; rfl

/-- `split_normals_opposite`: the duplicate `d` of a split face `f` keeps the stored normal, the
    single incidence signs of the two copies are opposite (the cell flagged `left` went to the
    duplicate), hence the OUTWARD normals sign · n of the two copies are opposite. -/
theorem split_normals_opposite (s s' : Host) (hv : s.Valid) (h : splitFaces s = .ok s') :
    ∀ i f l, i < s.nFr → f < s.nF → s.fc i f = some l → s.rem f = false →
      ∃ d a b, (f, d) ∈ s'.pairs ∧ s'.fc i d = some l ∧ s'.inc f = [a] ∧ s'.inc d = [b] ∧
        a.left = false ∧ b.left = true ∧ s'.normal d = s'.normal f ∧ b.sign = -a.sign ∧
        s'.outward f = [(s'.normal f).map (fun x => (a.sign : Rat) * x)] ∧
        s'.outward d = [(s'.normal f).map (fun x => -((a.sign : Rat) * x))] := by
  obtain ⟨s'', h', hinv⟩ := splitFaces_valid hv
  rw [h] at h'; injection h' with h'; subst h'
  intro i f l hi hf hfl hr
  obtain ⟨d, _, hd2, hiff, a, b, _, ha, hb, hsg, hif, hid, hnf, hndd, hp⟩ := (hinv.res i hi hi f l hf hfl).2 hr
  refine ⟨d, a, b, hp, (hiff d hd2).mpr (Or.inr rfl), hif, hid, ha, hb, by rw [hndd, hnf], hsg, ?_, ?_⟩
  · unfold Host.outward; rw [hif]; rfl
  · unfold Host.outward; rw [hid, hndd, hnf]
    simp only [List.map_cons, List.map_nil, List.cons.injEq, and_true]
    rw [hsg]
    apply List.map_congr_left
    intro x _
    rw [Rat.intCast_neg, Rat.neg_mul]

/-- `mortar_side_counts`: if every lower-dimensional cell is coupled to exactly two host faces
    `g1 l < g2 l` (resp. exactly one, `g1 l`), `create_interfaces` builds a mortar grid with two
    sides (resp. one side) of `nLow` cells each; mortar cell `k` of the first side is coupled to
    lower-dimensional cell `k` and to the lower-numbered host face `g1 k`, mortar cell `k` of the
    second side to cell `k` and `g2 k`. -/
theorem mortar_side_counts (nLow cols : Nat) (fc : Nat → Option Nat) (g1 g2 : Nat → Nat) :
    (TwoSided nLow cols fc g1 g2 → createInterface nLow fc cols = .ok ⟨2,
        (List.range nLow).map (fun l => (l, g1 l)) ++ (List.range nLow).map (fun l => (l, g2 l))⟩) ∧
    (OneSided nLow cols fc g1 → createInterface nLow fc cols = .ok ⟨1,
        (List.range nLow).map (fun l => (l, g1 l))⟩) :=
  ⟨createInterface_two, createInterface_one⟩

/-- `mortar_after_split`: `split_faces` followed by `create_interfaces` on a valid input.  For a
    fracture `i` whose lower-dimensional grid has `nLow` cells, each matched to a host face:
    if none of these faces carries a tag the mortar grid has two sides of `nLow` cells, side one
    on the original faces `g1`, side two on their duplicates `g2` (the pairs of `frac_pairs`);
    if all of them carry a tag (the host ends at the lower-dimensional grid) it has one side. -/
theorem mortar_after_split (s : Host) (hv : s.Valid) (i nLow : Nat) (hi : i < s.nFr) (hpos : 0 < nLow)
    (htotal : ∀ l, l < nLow → ∃ f, f < s.nF ∧ s.fc i f = some l)
    (hrange : ∀ f l, f < s.nF → s.fc i f = some l → l < nLow) :
    ∃ s', splitFaces s = .ok s' ∧
      ((∀ f, f < s.nF → (s.fc i f).isSome = true → s.rem f = false) →
        ∃ g1 g2 : Nat → Nat,
          (∀ l, l < nLow → g1 l < s.nF ∧ s.fc i (g1 l) = some l ∧ s.nF ≤ g2 l ∧ (g1 l, g2 l) ∈ s'.pairs) ∧
          createInterface nLow (s'.fc i) s'.fcCols = .ok ⟨2,
            (List.range nLow).map (fun l => (l, g1 l)) ++ (List.range nLow).map (fun l => (l, g2 l))⟩) ∧
      ((∀ f, f < s.nF → (s.fc i f).isSome = true → s.rem f = true) →
        ∃ g1 : Nat → Nat, (∀ l, l < nLow → g1 l < s.nF ∧ s.fc i (g1 l) = some l) ∧
          createInterface nLow (s'.fc i) s'.fcCols = .ok ⟨1, (List.range nLow).map (fun l => (l, g1 l))⟩) := by
  obtain ⟨s', h, hinv⟩ := splitFaces_valid hv
  have hal := hinv.aligned
  choose! g1 hg1 using htotal
  have hsome : ∀ l, l < nLow → (s.fc i (g1 l)).isSome = true := fun l hl => by rw [(hg1 l hl).2]; rfl
  have hres := fun l hl => hinv.res i hi hi (g1 l) l (hg1 l hl).1 (hg1 l hl).2
  -- every coupling of the split host comes from a coupling of the unsplit host, hence belongs to a cell
  -- `l < nLow`: a description of the faces of each such cell describes the whole matrix
  have hspec : ∀ Q : Nat → Nat → Prop, (∀ l, l < nLow → ∀ g, g < s'.nF → (s'.fc i g = some l ↔ Q g l)) →
      ∀ g l, g < s'.fcCols → (s'.fc i g = some l ↔ l < nLow ∧ Q g l) := by
    intro Q hQ g l hgc
    rw [hal] at hgc
    refine ⟨fun hfc => ?_, fun ⟨hl, hq⟩ => (hQ l hl g hgc).mpr hq⟩
    have hl : l < nLow := by
      by_cases hlt : g < s.nF
      · rw [hinv.oldFc i g hlt] at hfc; exact hrange g l hlt hfc
      · obtain ⟨f, hf, hfl⟩ := hinv.newSrc i g l (by omega) hgc hfc
        exact hrange f l hf hfl
    exact ⟨hl, (hQ l hl g hgc).mp hfc⟩
  refine ⟨s', h, fun hrem => ?_, fun hrem => ⟨g1, hg1, createInterface_one ⟨hpos, fun l hl => ?_, ?_⟩⟩⟩
  · have key : ∀ l, l < nLow → ∃ d, s.nF ≤ d ∧ d < s'.nF ∧ (g1 l, d) ∈ s'.pairs ∧
        ∀ g, g < s'.nF → (s'.fc i g = some l ↔ (g = g1 l ∨ g = d)) := fun l hl => by
      obtain ⟨d, hd1, hd2, hiff, _, _, _, _, _, _, _, _, _, _, hp⟩ :=
        (hres l hl).2 (hrem _ (hg1 l hl).1 (hsome l hl))
      exact ⟨d, hd1, hd2, hp, hiff⟩
    choose! g2 hg2 using key
    refine ⟨g1, g2, fun l hl => ⟨(hg1 l hl).1, (hg1 l hl).2, (hg2 l hl).1, (hg2 l hl).2.2.1⟩,
      createInterface_two ⟨hpos, fun l hl => ?_, hspec _ (fun l hl => (hg2 l hl).2.2.2)⟩⟩
    have := hg1 l hl; have := hg2 l hl; omega
  · have := hg1 l hl; have := hinv.nF; omega
  · exact hspec _ (fun l hl => (hres l hl).1 (hrem _ (hg1 l hl).1 (hsome l hl)))

/-- `valid_of_check`: `Host.Valid` follows from the boolean check `validB`, which the driver evaluates
    on the input of every correspondence case (the harness requires it to be true). -/
theorem valid_of_check (s : Host) (h : s.validB = true) : s.Valid := valid_of_validB h

/-- `split_checked`: every statement about `split_faces` with decidable hypotheses only: for an input
    that passes `validB` and carries no fracture tags, `split_faces` does not raise, every
    lower-dimensional cell matched to an untagged host face ends up with exactly two coupled faces (the
    face and its duplicate, one incident cell each, same stored geometry, opposite incidence signs) and
    with exactly one where the host is tagged, and the fracture tag marks exactly the coupled faces. -/
theorem split_checked (s : Host) (hv : s.validB = true) (h0 : s.noFracB = true) :
    ∃ s', splitFaces s = .ok s' ∧
      (∀ g, g < s'.nF → (s'.frac g = true ↔ ∃ j, j < s.nFr ∧ (s'.fc j g).isSome = true)) ∧
      (∀ i f l, i < s.nFr → f < s.nF → s.fc i f = some l →
        (s.rem f = true → s'.coupledCount i l = 1) ∧
        (s.rem f = false → s'.coupledCount i l = 2 ∧ ∃ d a b, (f, d) ∈ s'.pairs ∧ s'.fc i d = some l ∧
          s'.inc f = [a] ∧ s'.inc d = [b] ∧ s'.normal d = s'.normal f ∧ b.sign = -a.sign)) := by
  have hval := valid_of_validB hv
  obtain ⟨s', h, _, hp⟩ := split_face_pairs s hval
  obtain ⟨s'', h', ht⟩ := tags_mark_coupled s hval (noFrac_of_noFracB h0)
  rw [h] at h'; injection h' with h'; subst h'
  refine ⟨s', h, ht, ?_⟩
  intro i f l hi hf hfl
  refine ⟨fun hr => ((hp i f l hi hf hfl).1 hr).1, fun hr => ⟨((hp i f l hi hf hfl).2 hr).1, ?_⟩⟩
  obtain ⟨d, a, b, h1, h2, h3, h4, _, _, h7, h8, _, _⟩ := split_normals_opposite s s' hval h i f l hi hf hfl hr
  exact ⟨d, a, b, h1, h2, h3, h4, h7, h8⟩

/-- `entry_dispatch`: `cart_grid` reaches a structured generator iff the number of cells is given for
    2 or 3 directions and `physdims` (if given) has the same length; otherwise it raises ValueError.
    `tensor_grid` raises NotImplementedError without `y`, else meshes in 2-d or 3-d. -/
theorem entry_dispatch (ndim : Nat) (phys : Option Nat) (hasY hasZ : Bool) :
    (cartGridDispatch ndim phys = .ok ndim ↔ (ndim = 2 ∨ ndim = 3) ∧ (phys = none ∨ phys = some ndim)) ∧
    (cartGridDispatch ndim phys ≠ .ok ndim → cartGridDispatch ndim phys = .error .valueError) ∧
    (tensorGridDispatch hasY hasZ = if hasY then .ok (if hasZ then 3 else 2) else .error .notImplementedError) := by
  rw [cartGridDispatch_eq]
  refine ⟨?_, ?_, ?_⟩
  · split
    · rename_i h; exact iff_of_true rfl h
    · rename_i h; exact iff_of_false (fun e => by cases e) h
  · split
    · intro h; exact absurd rfl h
    · intro _; rfl
  · unfold tensorGridDispatch
    cases hasY <;> cases hasZ <;> rfl

example : cartGridDispatch 3 (some 3) = .ok 3 ∧ cartGridDispatch 2 none = .ok 2 ∧ cartGridDispatch 4 none = .error .valueError ∧
    cartGridDispatch 2 (some 3) = .error .valueError ∧ tensorGridDispatch false true = .error .notImplementedError := by
  decide

/-- `nodes_on_line_eq`: `_find_nodes_on_line` between the nodes `a` and `a + m·e_axis` of a tensor
    grid with `nx × ny (× nz)` cells — for ALL `nx`, `ny`, either order of the end points and each of
    the three directions — returns the nodes `a + t·e_axis`, `t = 0..m`, in this order. -/
theorem nodes_on_line_eq (nx ny axis : Nat) (a : T3) (m : Nat) :
    findNodesOnLine nx ny axis (idx3 nx ny a) (idx3 nx ny (shift axis a m))
      = (List.range (m + 1)).map (fun t => idx3 nx ny (shift axis a t)) ∧
    findNodesOnLine nx ny axis (idx3 nx ny (shift axis a m)) (idx3 nx ny a)
      = (List.range (m + 1)).map (fun t => idx3 nx ny (shift axis a t)) :=
  findNodesOnLine_eq nx ny axis a m

/-- the node numbering `(i, j, k) ↦ i + j (nx+1) + k (nx+1)(ny+1)` is injective on the grid -/
theorem node_index_injective (nx ny : Nat) (a b : T3) (ha : InGrid nx ny a) (hb : InGrid nx ny b)
    (h : idx3 nx ny a = idx3 nx ny b) : a = b :=
  idx3_inj nx ny ha hb h

/-- `nodes_on_line_exact`: a grid node belongs to the result iff it lies on the segment. -/
theorem nodes_on_line_exact (nx ny axis : Nat) (a b : T3) (m : Nat)
    (ha : InGrid nx ny (shift axis a m)) (hb : InGrid nx ny b) :
    idx3 nx ny b ∈ findNodesOnLine nx ny axis (idx3 nx ny a) (idx3 nx ny (shift axis a m)) ↔
      ∃ t, t ≤ m ∧ b = shift axis a t :=
  mem_findNodesOnLine nx ny axis a b m ha hb

/-- `plane_faces_exact`: the faces `_create_lower_dim_grids_3d` tags for an axis-aligned rectangle
    on a grid plane (half-space test with the edge normals as coded, any of the eight vertex orders,
    plus the tolerance test in the normal direction) are exactly the grid faces of the right kind
    lying in the rectangle — for all grid sizes and all strictly increasing node coordinates. -/
theorem plane_faces_exact (g : Grid3) (o k0 a0 a1 b0 b1 : Nat) (p tol : Rat) (P : List (Rat × Rat))
    (h : g.PlaneSpec o k0 a0 a1 b0 b1 p tol P) (x : Nat) :
    x ∈ g.planeFaces o p tol P ↔ ∃ f : Nat × T3, g.ValidFace f ∧ f.1 = o ∧ f.2.get o = k0 ∧
      (a0 ≤ f.2.get (activeDims o).1 ∧ f.2.get (activeDims o).1 < a1) ∧
      (b0 ≤ f.2.get (activeDims o).2 ∧ f.2.get (activeDims o).2 < b1) ∧ x = g.faceIndex f :=
  mem_planeFaces h x

/-- `plane_nodes_exact`: the nodes of the fracture grid (`np.unique` of the nodes of the tagged faces)
    are exactly the grid nodes lying on the rectangle. -/
theorem plane_nodes_exact (g : Grid3) (o k0 a0 a1 b0 b1 : Nat) (p tol : Rat) (P : List (Rat × Rat))
    (h : g.PlaneSpec o k0 a0 a1 b0 b1 p tol P) (n : Nat) :
    n ∈ g.planeNodes o p tol P ↔ ∃ c : T3, c.get o = k0 ∧
      (a0 ≤ c.get (activeDims o).1 ∧ c.get (activeDims o).1 ≤ a1) ∧
      (b0 ≤ c.get (activeDims o).2 ∧ c.get (activeDims o).2 ≤ b1) ∧ n = idx3 (g.n 0) (g.n 1) c :=
  mem_planeNodes h n

/-- a 2 × 3 × 4 grid of unit cells -/
def exGrid : Grid3 := { n := fun c => match c with | 0 => 2 | 1 => 3 | _ => 4, x := fun _ i => (i : Rat) }

/-- the fracture `y = 2`, `x ∈ [0, 2]`, `z ∈ [1, 3]`, corners listed clockwise starting at `(2, 1)` -/
theorem exGrid_plane : exGrid.PlaneSpec 1 2 0 2 1 3 2 (1 / 10) [(2, 1), (0, 1), (0, 3), (2, 3)] where
  ho := by decide
  mono := by
    intro c a b _ hab _
    show ((a : Nat) : Rat) < (b : Nat)
    exact_mod_cast hab
  hk := by decide
  hp := by show (2 : Rat) = ((2 : Nat) : Rat); norm_num
  htol := by norm_num
  hgap := by
    intro i _
    show (1 / 10 : Rat) < ((((i + 1 : Nat) : Rat)) - ((i : Nat) : Rat)) / 2
    push_cast; norm_num
  ha := by decide
  hb := by decide
  rect := by
    unfold IsRectOrder
    right; right; right; right; right; right; left
    show _ = [((((2 : Nat) : Rat)), (((1 : Nat) : Rat))), (((0 : Nat) : Rat), ((1 : Nat) : Rat)),
      (((0 : Nat) : Rat), ((3 : Nat) : Rat)), (((2 : Nat) : Rat), ((3 : Nat) : Rat))]
    norm_num

example : exGrid.planeFaces 1 2 (1 / 10) [(2, 1), (0, 1), (0, 3), (2, 3)] = [48, 49, 56, 57] ∧
    exGrid.planeNodes 1 2 (1 / 10) [(2, 1), (0, 1), (0, 3), (2, 3)] = [18, 19, 20, 30, 31, 32, 42, 43, 44] := by
  decide +kernel

/-- a z-line in a grid with ny ≠ nz, where a wrong stride shows: it is (nx+1)(ny+1) = 12, not (nx+1)(nz+1) = 15 -/
example : findNodesOnLine 2 3 2 (idx3 2 3 (1, 2, 4)) (idx3 2 3 (1, 2, 1)) = [19, 31, 43, 55] := by decide +kernel

/-- `node_components`: when the label propagation has converged (checked by the model; always the
    case in the correspondence runs), two cells around a node carry the same label iff they are
    connected through shared (unsplit) faces; every label is one of the representatives `roots`,
    which are pairwise different cells labelled by themselves: the node gets exactly one copy per
    connected component of its cell neighbourhood. -/
theorem node_components (g : NodeGrid) (n : Nat)
    (hs : g.stable (g.cluster n) (g.labels (g.cluster n)) = true) :
    (∀ a b, a ∈ g.cluster n → b ∈ g.cluster n →
        (g.labels (g.cluster n) a = g.labels (g.cluster n) b ↔ Conn g (g.cluster n) a b)) ∧
    (∀ a, a ∈ g.cluster n → g.labels (g.cluster n) a ∈ roots (g.cluster n) (g.labels (g.cluster n))) ∧
    (roots (g.cluster n) (g.labels (g.cluster n))).Nodup ∧
    (∀ r, r ∈ roots (g.cluster n) (g.labels (g.cluster n)) → r ∈ g.cluster n ∧ g.labels (g.cluster n) r = r) := by
  have hg := good_labels g (g.cluster n)
  refine ⟨fun a b ha hb => label_eq_iff_conn hg hs ha hb, fun a ha => label_mem_roots hg hs ha,
    nodup_roots _ (nodup_cluster g n), ?_⟩
  intro r hr
  unfold roots at hr
  rw [List.mem_filter] at hr
  exact ⟨hr.1, by simpa using hr.2⟩

/-- `split_nodes_count`: `duplicate_nodes` adds (number of components − 1) nodes per split node,
    and every face keeps its number of nodes (only the stored indices are rewritten). -/
theorem split_nodes_count (g : NodeGrid) (split : List Nat) (r : NodeOut) (h : g.duplicateNodes split = some r) :
    r.nN = g.nN + ((split.map (fun n => (roots (g.cluster n) (g.labels (g.cluster n))).length - 1)).foldl (· + ·) 0) ∧
    (∀ f, (r.faceNodes f).length = (g.faceNodes f).length) ∧
    (∀ n, n ∈ split → g.stable (g.cluster n) (g.labels (g.cluster n)) = true) := by
  obtain ⟨h1, h2, h3⟩ := duplicateNodes_some h
  exact ⟨h2, fun f => by rw [h3 f, List.length_map], h1⟩

/-- `node_copy_of_cell`: in every face `f` of a cell `c` around a split node `n`, the node is replaced
    by its copy number `rank(c)` = position of the component of `c` among the components ordered by
    their smallest cell; unsplit nodes are only shifted by the copies inserted before them. -/
theorem node_copy_of_cell (g : NodeGrid) (split : List Nat) (r : NodeOut) (h : g.duplicateNodes split = some r) (f : Nat) :
    ∃ φ : Nat → Nat, r.faceNodes f = (g.faceNodes f).map φ ∧
      (∀ m, m ∉ split → φ m = m + incBefore (split.map (fun m => (m, g.info m))) m) ∧
      (∀ n c, n ∈ split → c ∈ g.cluster n → f ∈ g.cellFaces c →
        φ n = n + (roots (g.cluster n) (g.labels (g.cluster n))).idxOf (g.labels (g.cluster n) c)
              + incBefore (split.map (fun m => (m, g.info m))) n) := by
  obtain ⟨h1, _, h3⟩ := duplicateNodes_some h
  refine ⟨_, h3 f, ?_, ?_⟩
  · intro m hm; simp only [if_neg hm, Nat.add_zero]
  · intro n c hn hc hf
    simp only [if_pos hn]
    rw [offset_eq_rank (h1 n hn) hc hf]

/-- the 2 × 2 grid with the X of `exX` after the face split: the centre node 4 is split into four, the
    fracture end nodes 1, 3, 5, 7 on the boundary into two -/
def exNodes : NodeGrid :=
  { nN := 9, nC := 4,
    faceNodes := fun f => ([[0, 3], [1, 4], [2, 5], [3, 6], [4, 7], [5, 8], [0, 1], [1, 2], [3, 4], [4, 5], [6, 7], [7, 8],
      [3, 4], [4, 5], [1, 4], [4, 7]] : List (List Nat)).getD f [],
    cellFaces := fun c => ([[0, 6, 12, 14], [1, 2, 7, 13], [3, 8, 10, 15], [4, 5, 9, 11]] : List (List Nat)).getD c [] }

example : (exNodes.duplicateNodes [1, 3, 4, 5, 7]).map (fun r => (r.nN, (List.range 16).map r.faceNodes, r.newToOld)) = some
    (16, [[0, 4], [2, 7], [3, 10], [5, 12], [9, 14], [11, 15], [0, 1], [2, 3], [5, 8], [9, 11], [12, 13], [14, 15], [4, 6],
          [7, 10], [1, 6], [8, 13]], [0, 1, 1, 2, 3, 3, 4, 4, 4, 4, 5, 5, 6, 7, 7, 8]) := by
  decide +kernel

example : roots (exNodes.cluster 4) (exNodes.labels (exNodes.cluster 4)) = [0, 1, 2, 3] ∧
    exNodes.stable (exNodes.cluster 4) (exNodes.labels (exNodes.cluster 4)) = true := by
  decide +kernel

/-- 2 × 2 Cartesian grid (cells 0..3; x-faces 0..5, y-faces 6..11, PorePy numbering and signs) with a
    horizontal fracture on the y-faces 8, 9 and a vertical fracture on the x-faces 1, 4 (an X). -/
def exInc : Nat → List Inc
  | 0 => [⟨0, -1, false⟩]
  | 1 => [⟨0, 1, true⟩, ⟨1, -1, false⟩]
  | 2 => [⟨1, 1, false⟩]
  | 3 => [⟨2, -1, false⟩]
  | 4 => [⟨2, 1, true⟩, ⟨3, -1, false⟩]
  | 5 => [⟨3, 1, false⟩]
  | 6 => [⟨0, -1, false⟩]
  | 7 => [⟨1, -1, false⟩]
  | 8 => [⟨0, 1, true⟩, ⟨2, -1, false⟩]
  | 9 => [⟨1, 1, true⟩, ⟨3, -1, false⟩]
  | 10 => [⟨2, 1, false⟩]
  | 11 => [⟨3, 1, false⟩]
  | _ => []

def exFc : Nat → Nat → Option Nat
  | 0, 8 => some 0
  | 0, 9 => some 1
  | 1, 1 => some 0
  | 1, 4 => some 1
  | _, _ => none

def exX : Host :=
  { nF := 12, inc := exInc, frac := fun _ => false, tip := fun _ => false,
    dom := fun g => decide (g ∈ [0, 2, 3, 5, 6, 7, 10, 11]),
    normal := fun g => if g < 6 then [1, 0, 0] else [0, 1, 0],
    nFr := 2, fcCols := 12, fc := exFc, pairs := [] }

theorem exX_valid : exX.Valid := valid_of_validB (by decide +kernel)

/-- observable parts of a host: rows of cell_faces and fracture tags; frac_pairs and face_cells columns -/
def view1 (s : Host) : List (List (Nat × Int)) × List Bool :=
  ((List.range s.nF).map (fun g => (s.inc g).map (fun a => (a.cell, a.sign))), (List.range s.nF).map s.frac)

def view2 (s : Host) : List (Nat × Nat) × List (List (Option Nat)) :=
  (s.pairs, (List.range s.nFr).map (fun i => (List.range s.fcCols).map (s.fc i)))

/-- the X: four faces are duplicated (new faces 12..15), the cells below / left of the fractures
    move to the duplicates, both copies are tagged and coupled to the same lower-dimensional cell -/
example : (splitFaces exX).toOption.map view1 = some
    ([[(0, -1)], [(1, -1)], [(1, 1)], [(2, -1)], [(3, -1)], [(3, 1)], [(0, -1)], [(1, -1)], [(2, -1)], [(3, -1)],
      [(2, 1)], [(3, 1)], [(0, 1)], [(1, 1)], [(0, 1)], [(2, 1)]],
     [false, true, false, false, true, false, false, false, true, true, false, false, true, true, true, true]) := by
  decide +kernel

example : (splitFaces exX).toOption.map view2 = some
    ([(8, 12), (9, 13), (1, 14), (4, 15)],
     [[none, none, none, none, none, none, none, none, some 0, some 1, none, none, some 0, some 1, none, none],
      [none, some 0, none, none, some 1, none, none, none, none, none, none, none, none, none, some 0, some 1]]) := by
  decide +kernel

example : (splitFaces exX).toOption.map (fun s => ((createInterface 2 (s.fc 0) s.fcCols).toOption,
      (createInterface 2 (s.fc 1) s.fcCols).toOption))
    = some (some ⟨2, [(0, 8), (1, 9), (0, 12), (1, 13)]⟩, some ⟨2, [(0, 1), (1, 4), (0, 14), (1, 15)]⟩) := by
  decide +kernel

example : exX.validB = true ∧ exX.noFracB = true := by decide +kernel

example : exX.RowsWF := by
  intro g hg
  obtain ⟨k, rfl⟩ := Nat.exists_eq_add_of_le' (show 12 ≤ g from hg)
  rfl

/-- all hypotheses of `mortar_after_split` hold for the horizontal fracture of the X -/
example : ∃ s', splitFaces exX = .ok s' ∧ ∃ g1 g2 : Nat → Nat,
    createInterface 2 (s'.fc 0) s'.fcCols = .ok ⟨2,
      (List.range 2).map (fun l => (l, g1 l)) ++ (List.range 2).map (fun l => (l, g2 l))⟩ := by
  have hrange : ∀ f, f < 12 → ∀ l ∈ exFc 0 f, l < 2 := by decide
  obtain ⟨s', h, h2, _⟩ := mortar_after_split exX exX_valid 0 2 (by decide) (by decide) (by decide)
    (fun f l hf hfl => hrange f hf l hfl)
  obtain ⟨g1, g2, _, hc⟩ := h2 (by decide)
  exact ⟨s', h, g1, g2, hc⟩

/-- a fracture (1-d host, cells 0 1, faces 0 1 2) that ends at another fracture in its tip face 0
    (T-intersection): the face is tagged, it is not duplicated, the intersection point gets one side -/
def exT : Host :=
  { nF := 3,
    inc := fun g => match g with
      | 0 => [⟨0, -1, false⟩]
      | 1 => [⟨0, 1, false⟩, ⟨1, -1, false⟩]
      | 2 => [⟨1, 1, false⟩]
      | _ => [],
    frac := fun _ => false, tip := fun g => decide (g = 0 ∨ g = 2), dom := fun _ => false,
    normal := fun _ => [1, 0, 0], nFr := 1, fcCols := 3,
    fc := fun i g => if i = 0 ∧ g = 0 then some 0 else none, pairs := [] }

theorem exT_valid : exT.Valid := valid_of_validB (by decide +kernel)

example : exT.validB = true ∧ exT.noFracB = true := by decide +kernel

example : (splitFaces exT).toOption.map (fun s => (view1 s, (List.range s.nF).map s.tip))
    = some (([[(0, -1)], [(0, 1), (1, -1)], [(1, 1)]], [true, false, false]), [false, false, true]) := by
  decide +kernel

example : (splitFaces exT).toOption.map (fun s => (view2 s, (createInterface 1 (s.fc 0) s.fcCols).toOption))
    = some (([], [[some 0, none, none]]), some ⟨1, [(0, 0)]⟩) := by
  decide +kernel

end PorepyVerif.C25
