/-
C25 — `split_faces` as lemmas: finite sums and increasing lists over face indices, the equations of
`Host.split`, what one pass of the loop can do, the loop invariant (`Inv`, `Done`), and the boolean
check of `Host.Valid`.
-/
import PorepyVerif.C25.Model
import PorepyVerif.Common.List

namespace PorepyVerif.C25

theorem sumTo_congr {n : Nat} {F G : Nat → Nat} (h : ∀ g, g < n → F g = G g) :
    sumTo n F = sumTo n G := by
  induction n with
  | zero => rfl
  | succ n ih =>
    simp only [sumTo]
    rw [ih (fun g hg => h g (Nat.lt_succ_of_lt hg)), h n (Nat.lt_succ_self n)]

theorem sumTo_add_fun (n : Nat) (F G : Nat → Nat) :
    sumTo n (fun g => F g + G g) = sumTo n F + sumTo n G := by
  induction n with
  | zero => rfl
  | succ n ih => simp only [sumTo, ih]; omega

theorem sumTo_add (a b : Nat) (F : Nat → Nat) :
    sumTo (a + b) F = sumTo a F + sumTo b (fun p => F (a + p)) := by
  induction b with
  | zero => simp [sumTo]
  | succ b ih =>
    have : a + (b + 1) = (a + b) + 1 := by omega
    rw [this]
    simp only [sumTo, ih]; omega

theorem sumTo_const (n c : Nat) : sumTo n (fun _ => c) = n * c := by
  induction n with
  | zero => simp [sumTo]
  | succ n ih => simp only [sumTo, ih, Nat.succ_mul]

theorem sumTo_ind (n a v : Nat) :
    sumTo n (fun g => if g = a then v else 0) = if a < n then v else 0 := by
  induction n with
  | zero => simp [sumTo]
  | succ n ih =>
    simp only [sumTo, ih]
    rcases Nat.lt_trichotomy a n with h | h | h
    · rw [if_pos h, if_neg (Nat.ne_of_gt h), if_pos (Nat.lt_succ_of_lt h)]; rfl
    · rw [if_neg (by omega), if_pos h.symm, if_pos (by omega), Nat.zero_add]
    · rw [if_neg (by omega), if_neg (by omega), if_neg (by omega)]

theorem sumTo_succ_front (n : Nat) (F : Nat → Nat) :
    sumTo (n + 1) F = F 0 + sumTo n (fun p => F (p + 1)) := by
  induction n with
  | zero => simp [sumTo]
  | succ n ih =>
    rw [sumTo, ih]
    simp only [sumTo]; omega

theorem sumTo_getD (ids : List Nat) (h : Nat → Nat) :
    sumTo ids.length (fun p => h (ids.getD p 0)) = (ids.map h).sum := by
  induction ids with
  | nil => rfl
  | cons a t ih =>
    rw [List.length_cons, sumTo_succ_front]
    simp only [List.getD_cons_zero, List.getD_cons_succ, List.map_cons, List.sum_cons, ih]

theorem sumTo_mem (ids : List Nat) (hnd : ids.Nodup) (n : Nat) (h : Nat → Nat)
    (hz : ∀ g ∈ ids, n ≤ g → h g = 0) :
    sumTo n (fun g => if g ∈ ids then h g else 0) = (ids.map h).sum := by
  induction ids with
  | nil => simp [sumTo_const]
  | cons a t ih =>
    rw [List.nodup_cons] at hnd
    have hpt : ∀ g, (if g ∈ a :: t then h g else 0)
        = (if g = a then h a else 0) + (if g ∈ t then h g else 0) := by
      intro g
      by_cases hga : g = a
      · subst hga; simp [hnd.1]
      · simp [hga]
    rw [show (fun g => if g ∈ a :: t then h g else 0)
        = (fun g => (if g = a then h a else 0) + (if g ∈ t then h g else 0)) from funext hpt]
    rw [sumTo_add_fun, sumTo_ind, ih hnd.2 (fun g hg => hz g (List.mem_cons_of_mem _ hg))]
    simp only [List.map_cons, List.sum_cons]
    by_cases han : a < n
    · simp [han]
    · have := hz a (List.mem_cons_self) (by omega)
      simp [han, this]

theorem sumTo_indicator (n : Nat) (p : Nat → Bool) :
    sumTo n (fun g => if p g = true then 1 else 0) = ((List.range n).filter p).length := by
  induction n with
  | zero => rfl
  | succ n ih =>
    rw [sumTo, ih, List.range_succ, List.filter_append, List.length_append]
    cases h : p n <;> simp [h]

/-- an increasing list is determined by its members: the indices below `n` that satisfy `p` -/
theorem filter_range_eq {n : Nat} {p : Nat → Bool} {L : List Nat} (hs : L.Pairwise (· < ·))
    (hL : ∀ g ∈ L, g < n) (hp : ∀ g, g < n → (p g = true ↔ g ∈ L)) : (List.range n).filter p = L :=
  Common.eq_of_pairwise_of_mem_iff (fun _ _ => Nat.lt_asymm) ((List.pairwise_lt_range (n := n)).filter p) hs fun g => by
    rw [List.mem_filter, List.mem_range]
    exact ⟨fun ⟨hg, h⟩ => (hp g hg).mp h, fun h => ⟨hL g h, (hp g (hL g h)).mpr h⟩⟩

theorem filter_range_one (n a : Nat) (p : Nat → Bool) (ha : a < n)
    (hp : ∀ g, g < n → (p g = true ↔ g = a)) : (List.range n).filter p = [a] :=
  filter_range_eq (List.pairwise_singleton _ _) (by simpa using ha) fun g hg => by rw [hp g hg, List.mem_singleton]

theorem filter_range_two (n a b : Nat) (p : Nat → Bool) (hab : a < b) (hb : b < n)
    (hp : ∀ g, g < n → (p g = true ↔ g = a ∨ g = b)) : (List.range n).filter p = [a, b] :=
  filter_range_eq (List.pairwise_pair.mpr hab) (by simp; omega) fun g hg => by
    rw [hp g hg, List.mem_cons, List.mem_singleton]

theorem coupledCount_eq (s : Host) (i l : Nat) :
    s.coupledCount i l = ((List.range s.nF).filter (fun g => s.fc i g = some l)).length :=
  (sumTo_congr fun g _ => by simp only [decide_eq_true_eq]).trans (sumTo_indicator _ _)

theorem coupledCount_one (s : Host) (i l f : Nat) (hf : f < s.nF)
    (h : ∀ g, g < s.nF → (s.fc i g = some l ↔ g = f)) : s.coupledCount i l = 1 := by
  rw [coupledCount_eq, filter_range_one _ f _ hf fun g hg => by rw [decide_eq_true_iff, h g hg]]
  rfl

theorem coupledCount_two (s : Host) (i l f d : Nat) (hfd : f < d) (hd : d < s.nF)
    (h : ∀ g, g < s.nF → (s.fc i g = some l ↔ (g = f ∨ g = d))) : s.coupledCount i l = 2 := by
  rw [coupledCount_eq, filter_range_two _ f d _ hfd hd fun g hg => by rw [decide_eq_true_iff, h g hg]]
  rfl

theorem mem_fracFaces (s : Host) (i g : Nat) :
    g ∈ s.fracFaces i ↔ g < s.fcCols ∧ (s.fc i g).isSome = true := by
  simp [Host.fracFaces]

theorem mem_ids (s : Host) (i g : Nat) :
    g ∈ s.ids i ↔ g < s.fcCols ∧ (s.fc i g).isSome = true ∧ s.rem g = false := by
  simp [Host.ids, mem_fracFaces, and_assoc]

theorem nodup_ids (s : Host) (i : Nat) : (s.ids i).Nodup := by
  unfold Host.ids Host.fracFaces
  exact ((List.nodup_range).filter _).filter _

theorem split_fc_old (s : Host) (i j g : Nat) (hg : g < s.fcCols) : (s.split i).fc j g = s.fc j g := by
  simp only [Host.split, Host.fc1, if_pos hg]

theorem split_fc_new_other (s : Host) (i j g : Nat) (h1 : s.fcCols ≤ g) (h2 : g < s.fcCols + (s.ids i).length)
    (hj : j ≠ i) : (s.split i).fc j g = none := by
  have : ¬ g < s.fcCols := by omega
  simp only [Host.split, Host.fc1, if_neg this, if_pos h2, if_neg hj]

theorem split_fc_new_self (s : Host) (i q : Nat) (hal : s.fcCols = s.nF) (hq : q < (s.ids i).length) :
    (s.split i).fc i (s.nF + q) = s.fc i ((s.ids i).getD q 0) := by
  have h1 : ¬ s.fcCols + q < s.fcCols := by omega
  have h2 : s.fcCols + q < s.fcCols + (s.ids i).length := by omega
  simp only [← hal, Host.split, Host.fc1, if_neg h1, if_pos h2, if_true, Nat.add_sub_cancel_left]

theorem split_inc_old_notin (s : Host) (i g : Nat) (hg : g < s.nF) (hm : g ∉ s.ids i) :
    (s.split i).inc g = s.inc g := by
  simp only [Host.split, if_pos hg, if_neg hm]

theorem split_inc_old_in (s : Host) (i g : Nat) (hg : g < s.nF) (hm : g ∈ s.ids i) :
    (s.split i).inc g = (s.inc g).filter (fun a => !a.left) := by
  simp only [Host.split, if_pos hg, if_pos hm]

theorem split_inc_new (s : Host) (i q : Nat) (hq : q < (s.ids i).length) :
    (s.split i).inc (s.nF + q) = (s.inc ((s.ids i).getD q 0)).filter (·.left) := by
  have h1 : ¬ s.nF + q < s.nF := by omega
  have h2 : s.nF + q < s.nF + (s.ids i).length := by omega
  simp only [Host.split, if_neg h1, if_pos h2, Host.src, Nat.add_sub_cancel_left]

theorem split_normal_old (s : Host) (i g : Nat) (hg : g < s.nF) : (s.split i).normal g = s.normal g := by
  have : ¬ (s.nF ≤ g ∧ g < s.nF + (s.ids i).length) := by omega
  simp only [Host.split, if_neg this]

theorem split_normal_new (s : Host) (i q : Nat) (hq : q < (s.ids i).length) :
    (s.split i).normal (s.nF + q) = s.normal ((s.ids i).getD q 0) := by
  have : s.nF ≤ s.nF + q ∧ s.nF + q < s.nF + (s.ids i).length := by omega
  simp only [Host.split, if_pos this, Host.src, Nat.add_sub_cancel_left]

theorem split_tags_old (s : Host) (i g : Nat) (hg : g < s.nF) :
    (s.split i).frac g = s.frac1 i g ∧ (s.split i).tip g = s.tip1 i g ∧ (s.split i).dom g = s.dom g := by
  have : ¬ (s.nF ≤ g ∧ g < s.nF + (s.ids i).length) := by omega
  simp only [Host.split, if_neg this, and_self]

theorem split_frac_new (s : Host) (i q : Nat) (hq : q < (s.ids i).length) : (s.split i).frac (s.nF + q) = true := by
  have : s.nF ≤ s.nF + q ∧ s.nF + q < s.nF + (s.ids i).length := by omega
  simp only [Host.split, if_pos this]

/-- a face of the split host is a face of `s` or the copy `s.nF + q` of the `q`-th duplicated face -/
theorem split_nF_cases (s : Host) (i : Nat) {g : Nat} (hg : g < (s.split i).nF) :
    g < s.nF ∨ ∃ q, q < (s.ids i).length ∧ g = s.nF + q := by
  have : g < s.nF + (s.ids i).length := hg
  exact (Nat.lt_or_ge g s.nF).imp_right fun h => ⟨g - s.nF, by omega, by omega⟩

theorem split_pairs_mem (s : Host) (i q : Nat) (hq : q < (s.ids i).length) :
    ((s.ids i).getD q 0, s.nF + q) ∈ (s.split i).pairs := by
  show _ ∈ s.pairs ++ _
  apply List.mem_append_right
  have hlen : q < ((s.ids i).zip ((List.range (s.ids i).length).map (· + s.nF))).length := by
    simp [List.length_zip]; exact hq
  have := List.getElem_mem hlen
  rw [List.getElem_zip] at this
  simp only [List.getElem_map, List.getElem_range] at this
  rw [List.getD_eq_getElem?_getD, List.getElem?_eq_getElem hq, Option.getD_some, Nat.add_comm]
  exact this

/-- nothing to duplicate: the early return of `split_faces` is the splitting branch on no faces -/
theorem split_of_ids_nil {s : Host} {i : Nat} (h : s.ids i = []) : s.split i = s.tagOnly i := by
  have hk : ∀ g, ¬ (s.nF ≤ g ∧ g < s.nF) := fun g => by omega
  have hfc : s.fc1 i [] = s.fc := by
    funext j g
    unfold Host.fc1
    split
    · rfl
    · rw [if_neg (by simp only [List.length_nil]; omega)]
  have hinc : (fun g => if g < s.nF then s.inc g
      else if g < s.nF then (s.inc (s.src [] g)).filter (·.left) else s.inc g) = s.inc := by
    funext g
    split <;> rfl
  unfold Host.split Host.tagOnly
  simp only [h, List.length_nil, Nat.add_zero, hk, if_false, hfc, hinc, List.not_mem_nil, List.zip_nil_left,
    List.append_nil]

theorem splitOne_cases {s s' : Host} {i : Nat} (h : splitOne s i = .ok s') :
    s' = s.split i ∨ (s' = s.boundary i ∧ (s.ids i).length ≠ 0) := by
  unfold splitOne at h
  split at h
  · rename_i h0
    exact Or.inl ((Except.ok.inj h).symm.trans (split_of_ids_nil (List.length_eq_zero_iff.mp h0)).symm)
  · rename_i h1
    repeat' split at h
    · exact Or.inr ⟨(Except.ok.inj h).symm, h1⟩
    · cases h
    · cases h
    · exact Or.inl (Except.ok.inj h).symm

/-- a pass that starts and ends with one `face_cells` column per face took the splitting branch:
    the boundary branch adds columns but no faces -/
theorem splitOne_aligned {s s' : Host} {i : Nat} (h : splitOne s i = .ok s') (hal : s.fcCols = s.nF)
    (hal' : s'.fcCols = s'.nF) : s' = s.split i := by
  rcases splitOne_cases h with rfl | ⟨rfl, hk⟩
  · rfl
  · have : s.fcCols + (s.ids i).length = s.nF := hal'
    omega

theorem length_filter_split (p q : Inc → Bool) (L : List Inc) :
    (L.filter q).length = ((L.filter p).filter q).length + ((L.filter (fun a => !p a)).filter q).length := by
  rw [← ((List.filter_append_perm p L).filter q).length_eq, List.filter_append, List.length_append]

theorem faceCount_split (s : Host) (i c : Nat) (hwf : s.RowsWF) :
    (s.split i).faceCount c = s.faceCount c := by
  let cnt : Nat → Nat := fun g => ((s.inc g).filter (fun a => a.cell = c)).length
  let cntL : Nat → Nat := fun g => (((s.inc g).filter (·.left)).filter (fun a => a.cell = c)).length
  let cntR : Nat → Nat := fun g => (((s.inc g).filter (fun a => !a.left)).filter (fun a => a.cell = c)).length
  have hsplit : ∀ g, cnt g = cntL g + cntR g := fun g => length_filter_split (·.left) _ _
  have hzero : ∀ g ∈ s.ids i, s.nF ≤ g → cntL g = 0 := by
    intro g _ hg
    simp [cntL, hwf g hg]
  show sumTo (s.nF + (s.ids i).length) _ = sumTo s.nF _
  rw [sumTo_add]
  have hold : sumTo s.nF (fun g => (((s.split i).inc g).filter (fun a => a.cell = c)).length)
      + sumTo s.nF (fun g => if g ∈ s.ids i then cntL g else 0) = sumTo s.nF cnt := by
    rw [← sumTo_add_fun]
    apply sumTo_congr
    intro g hg
    by_cases hm : g ∈ s.ids i
    · rw [split_inc_old_in s i g hg hm, if_pos hm, hsplit g]; exact Nat.add_comm _ _
    · rw [split_inc_old_notin s i g hg hm, if_neg hm]; rfl
  have hnew : sumTo (s.ids i).length (fun p => (((s.split i).inc (s.nF + p)).filter (fun a => a.cell = c)).length)
      = sumTo s.nF (fun g => if g ∈ s.ids i then cntL g else 0) := by
    rw [sumTo_mem _ (nodup_ids s i) _ _ hzero, ← sumTo_getD]
    exact sumTo_congr (fun p hp => by rw [split_inc_new s i p hp])
  rw [hnew]
  exact hold

theorem rowsWF_split (s : Host) (i : Nat) (hwf : s.RowsWF) : (s.split i).RowsWF := by
  intro g hg
  have hg' : s.nF + (s.ids i).length ≤ g := hg
  have h1 : ¬ g < s.nF := by omega
  have h2 : ¬ g < s.nF + (s.ids i).length := by omega
  simp only [Host.split, if_neg h1, if_neg h2]
  exact hwf g (by omega)

theorem splitOne_faceCount {s s' : Host} {i : Nat} (h : splitOne s i = .ok s') (hwf : s.RowsWF) (c : Nat) :
    s'.faceCount c = s.faceCount c ∧ s'.RowsWF := by
  rcases splitOne_cases h with rfl | ⟨rfl, _⟩
  · exact ⟨faceCount_split s i c hwf, rowsWF_split s i hwf⟩
  · exact ⟨rfl, hwf⟩

theorem splitFrom_cons {s s' : Host} {i : Nat} {is : List Nat} (h : splitFrom s (i :: is) = .ok s') :
    ∃ s1, splitOne s i = .ok s1 ∧ splitFrom s1 is = .ok s' := by
  unfold splitFrom at h
  split at h
  · cases h
  · rename_i s1 h1; exact ⟨s1, h1, h⟩

theorem mem_cons_or (i : Nat) (is : List Nat) (P : Nat → Prop) (j : Nat) :
    j ∈ is ∨ j = i ∨ P j ↔ j ∈ i :: is ∨ P j := by
  rw [List.mem_cons, or_left_comm, or_assoc]

theorem splitFrom_faceCount : ∀ (is : List Nat) (s s' : Host), splitFrom s is = .ok s' → s.RowsWF →
    ∀ c, s'.faceCount c = s.faceCount c := by
  intro is
  induction is with
  | nil => intro s s' h _ c; injection h with h; subst h; rfl
  | cons i is ih =>
    intro s s' h hwf c
    obtain ⟨s1, h1, h2⟩ := splitFrom_cons h
    have := splitOne_faceCount h1 hwf c
    rw [ih s1 s' h2 this.2 c, this.1]

/-- the surplus of `face_cells` columns over host faces never shrinks (it grows in the boundary branch) -/
theorem splitOne_gap {s s' : Host} {i : Nat} (h : splitOne s i = .ok s') (hle : s.nF ≤ s.fcCols) :
    s'.nF ≤ s'.fcCols ∧ s.fcCols + s'.nF ≤ s'.fcCols + s.nF := by
  rcases splitOne_cases h with rfl | ⟨rfl, _⟩
  · show s.nF + (s.ids i).length ≤ s.fcCols + (s.ids i).length ∧
      s.fcCols + (s.nF + (s.ids i).length) ≤ s.fcCols + (s.ids i).length + s.nF
    omega
  · show s.nF ≤ s.fcCols + (s.ids i).length ∧ s.fcCols + s.nF ≤ s.fcCols + (s.ids i).length + s.nF
    omega

theorem splitFrom_gap : ∀ (is : List Nat) (s s' : Host), splitFrom s is = .ok s' → s.nF ≤ s.fcCols →
    s'.nF ≤ s'.fcCols ∧ s.fcCols + s'.nF ≤ s'.fcCols + s.nF := by
  intro is
  induction is with
  | nil => intro s s' h hle; injection h with h; subst h; exact ⟨hle, Nat.le_refl _⟩
  | cons i is ih =>
    intro s s' h hle
    obtain ⟨s1, h1, h2⟩ := splitFrom_cons h
    have g1 := splitOne_gap h1 hle
    have g2 := ih s1 s' h2 g1.1
    exact ⟨g2.1, by omega⟩

/-- the fracture tag marks exactly the faces coupled by one of the fractures in `P` -/
def TagInv (s : Host) (P : Nat → Prop) : Prop :=
  ∀ g, g < s.nF → (s.frac g = true ↔ ∃ j, P j ∧ (s.fc j g).isSome = true)

theorem TagInv.congr {s : Host} {P Q : Nat → Prop} (h : ∀ j, P j ↔ Q j) (hinv : TagInv s P) : TagInv s Q :=
  fun g hg => (hinv g hg).trans (exists_congr fun j => and_congr_left' (h j))

theorem tagInv_old (s : Host) (i : Nat) (P : Nat → Prop) (hal : s.fcCols = s.nF) (hinv : TagInv s P)
    (g : Nat) (hg : g < s.nF) :
    (s.frac1 i g = true ↔ ∃ j, (j = i ∨ P j) ∧ (s.fc j g).isSome = true) := by
  unfold Host.frac1
  by_cases hm : g ∈ s.fracFaces i
  · rw [if_pos hm]
    simp only [true_iff]
    exact ⟨i, Or.inl rfl, ((mem_fracFaces s i g).mp hm).2⟩
  · rw [if_neg hm, hinv g hg]
    constructor
    · rintro ⟨j, hj, hs⟩; exact ⟨j, Or.inr hj, hs⟩
    · rintro ⟨j, hj | hj, hs⟩
      · subst hj
        exact absurd ((mem_fracFaces s j g).mpr ⟨by omega, hs⟩) hm
      · exact ⟨j, hj, hs⟩

theorem tagInv_split {s : Host} {P : Nat → Prop} (i : Nat) (hal : s.fcCols = s.nF) (hinv : TagInv s P) :
    TagInv (s.split i) (fun j => j = i ∨ P j) := by
  intro g hg
  rcases split_nF_cases s i hg with hlt | ⟨q, hq, rfl⟩
  · simp only [split_fc_old s i _ g (hal ▸ hlt), (split_tags_old s i g hlt).1]
    exact tagInv_old s i P hal hinv g hlt
  · rw [split_frac_new s i q hq]
    refine iff_of_true rfl ⟨i, Or.inl rfl, ?_⟩
    rw [split_fc_new_self s i q hal hq]
    exact ((mem_ids s i _).mp (Common.getD_mem 0 hq)).2.1

theorem splitFrom_tags : ∀ (is : List Nat) (s s' : Host) (P : Nat → Prop), splitFrom s is = .ok s' →
    s.fcCols = s.nF → s'.fcCols = s'.nF → TagInv s P → TagInv s' (fun j => j ∈ is ∨ P j) := by
  intro is
  induction is with
  | nil =>
    intro s s' P h _ _ hinv; injection h with h; subst h
    exact hinv.congr (fun j => by simp)
  | cons i is ih =>
    intro s s' P h hal hal' hinv
    obtain ⟨s1, h1, h2⟩ := splitFrom_cons h
    have g1 := splitOne_gap h1 (by omega)
    have g2 := splitFrom_gap is s1 s' h2 g1.1
    have hal1 : s1.fcCols = s1.nF := by omega
    obtain rfl := splitOne_aligned h1 hal hal1
    exact (ih _ s' _ h2 hal1 hal' (tagInv_split i hal hinv)).congr (mem_cons_or i is P)

/-- what the pass for fracture `j` leaves behind for the lower-dimensional cell `l` on host face `f` -/
def Done (s0 s : Host) (j : Nat) : Prop :=
  ∀ f l, f < s0.nF → s0.fc j f = some l →
    (s0.rem f = true → ∀ g, g < s.nF → (s.fc j g = some l ↔ g = f)) ∧
    (s0.rem f = false → ∃ d, s0.nF ≤ d ∧ d < s.nF ∧
        (∀ g, g < s.nF → (s.fc j g = some l ↔ (g = f ∨ g = d))) ∧
        ∃ a b : Inc, (s0.inc f = [a, b] ∨ s0.inc f = [b, a]) ∧ a.left = false ∧ b.left = true ∧
          b.sign = -a.sign ∧ s.inc f = [a] ∧ s.inc d = [b] ∧
          s.normal f = s0.normal f ∧ s.normal d = s0.normal f ∧ (f, d) ∈ s.pairs)

/-- Loop invariant of `split_faces`: `s0` is the input, `s` the host after the passes for the fractures in `done`.
    A face of `s0` keeps its `face_cells` columns (`oldFc`); a new face, being a copy, is coupled only by a done
    fracture (`newFc`) and only to a cell that some face of `s0` was coupled to (`newSrc`); a face that no done
    fracture couples is as in `s0` (`untouched`), so the next pass finds its own faces unsplit. -/
structure Inv (s0 s : Host) (done : Nat → Prop) : Prop where
  nF : s0.nF ≤ s.nF
  aligned : s.fcCols = s.nF
  oldFc : ∀ j g, g < s0.nF → s.fc j g = s0.fc j g
  newFc : ∀ j g, ¬ done j → s0.nF ≤ g → g < s.nF → s.fc j g = none
  newSrc : ∀ j g l, s0.nF ≤ g → g < s.nF → s.fc j g = some l → ∃ f, f < s0.nF ∧ s0.fc j f = some l
  untouched : ∀ g, g < s0.nF → (∀ j, done j → j < s0.nFr → s0.fc j g = none) →
      s.inc g = s0.inc g ∧ s.frac g = s0.frac g ∧ s.tip g = s0.tip g ∧ s.dom g = s0.dom g ∧
      s.normal g = s0.normal g
  res : ∀ j, done j → j < s0.nFr → Done s0 s j

theorem inv_init (s0 : Host) (hv : s0.Valid) : Inv s0 s0 (fun _ => False) where
  nF := Nat.le_refl _
  aligned := hv.aligned
  oldFc := fun _ _ _ => rfl
  newFc := fun _ g _ h1 h2 => absurd h2 (by omega)
  newSrc := fun _ g _ h1 h2 _ => absurd h2 (by omega)
  untouched := fun _ _ _ => ⟨rfl, rfl, rfl, rfl, rfl⟩
  res := fun _ h _ => h.elim

section step
variable {s0 s : Host} {done : Nat → Prop} {i : Nat}

theorem fracFaces_iff (hinv : Inv s0 s done) (hnd : ¬ done i) (g : Nat) :
    g ∈ s.fracFaces i ↔ g < s0.nF ∧ (s0.fc i g).isSome = true := by
  rw [mem_fracFaces, hinv.aligned]
  constructor
  · rintro ⟨hg, hs⟩
    by_cases hlt : g < s0.nF
    · exact ⟨hlt, by rw [← hinv.oldFc i g hlt]; exact hs⟩
    · rw [hinv.newFc i g hnd (by omega) hg] at hs; cases hs
  · rintro ⟨hg, hs⟩
    exact ⟨by have := hinv.nF; omega, by rw [hinv.oldFc i g hg]; exact hs⟩

theorem not_mem_fracFaces (hinv : Inv s0 s done) (hnd : ¬ done i) {g : Nat} (h : s0.fc i g = none) :
    g ∉ s.fracFaces i := by
  rw [fracFaces_iff hinv hnd, h]
  rintro ⟨_, hs⟩
  cases hs

theorem untouched_of_face (hv : s0.Valid) (hinv : Inv s0 s done) (hi : i < s0.nFr) (hnd : ¬ done i)
    {g : Nat} (hg : g < s0.nF) (hs : (s0.fc i g).isSome = true) :
    s.inc g = s0.inc g ∧ s.frac g = s0.frac g ∧ s.tip g = s0.tip g ∧ s.dom g = s0.dom g ∧
      s.normal g = s0.normal g := by
  apply hinv.untouched g hg
  intro j hj hjn
  have hne : i ≠ j := fun e => hnd (e ▸ hj)
  exact hv.disjoint i j g hi hjn hne hg hs

theorem rem_of_face (hv : s0.Valid) (hinv : Inv s0 s done) (hi : i < s0.nFr) (hnd : ¬ done i)
    {g : Nat} (hg : g < s0.nF) (hs : (s0.fc i g).isSome = true) : s.rem g = s0.rem g := by
  have := untouched_of_face hv hinv hi hnd hg hs
  simp only [Host.rem, this.2.1, this.2.2.1, this.2.2.2.1]

theorem ids_iff (hv : s0.Valid) (hinv : Inv s0 s done) (hi : i < s0.nFr) (hnd : ¬ done i) (g : Nat) :
    g ∈ s.ids i ↔ g < s0.nF ∧ (s0.fc i g).isSome = true ∧ s0.rem g = false := by
  unfold Host.ids
  rw [List.mem_filter, fracFaces_iff hinv hnd]
  constructor
  · rintro ⟨⟨hg, hs⟩, hr⟩
    refine ⟨hg, hs, ?_⟩
    rw [← rem_of_face hv hinv hi hnd hg hs]; simpa using hr
  · rintro ⟨hg, hs, hr⟩
    refine ⟨⟨hg, hs⟩, ?_⟩
    rw [rem_of_face hv hinv hi hnd hg hs, hr]; rfl

theorem interior_of_ids (hv : s0.Valid) (hinv : Inv s0 s done) (hi : i < s0.nFr) (hnd : ¬ done i)
    {g : Nat} (hg : g ∈ s.ids i) : s.Interior g := by
  obtain ⟨h1, h2, h3⟩ := (ids_iff hv hinv hi hnd g).mp hg
  have := hv.interior i g hi h1 h2 h3
  unfold Host.Interior at this ⊢
  rw [(untouched_of_face hv hinv hi hnd h1 h2).1]
  exact this

theorem counts_interior (s : Host) (L : List Nat) (h : ∀ g ∈ L, s.Interior g) :
    ((L.flatMap s.inc).filter (·.left)).length = L.length ∧ (L.flatMap s.inc).length = 2 * L.length := by
  induction L with
  | nil => exact ⟨rfl, rfl⟩
  | cons g L ih =>
    have ih' := ih (fun x hx => h x (List.mem_cons_of_mem _ hx))
    obtain ⟨a, b, hab, ha, hb, _⟩ := h g List.mem_cons_self
    have hg : ((s.inc g).filter (·.left)).length = 1 ∧ (s.inc g).length = 2 := by
      rcases hab with e | e <;> simp [e, ha, hb]
    rw [List.flatMap_cons, List.filter_append, List.length_append, List.length_append, ih'.1, ih'.2, hg.1, hg.2,
      List.length_cons]
    omega

theorem fc_old_iff (hv : s0.Valid) (hinv : Inv s0 s done) (hi : i < s0.nFr) (hnd : ¬ done i)
    {f l : Nat} (hf : f < s0.nF) (hfl : s0.fc i f = some l) (g : Nat) (hg : g < s.nF) :
    s.fc i g = some l ↔ g = f := by
  by_cases hlt : g < s0.nF
  · rw [hinv.oldFc i g hlt]
    exact ⟨fun h => hv.inj i g f l hi hlt hf h hfl, fun h => h ▸ hfl⟩
  · rw [hinv.newFc i g hnd (by omega) hg]
    constructor
    · intro h; cases h
    · intro h; omega

/-- the pass for fracture `i` does not disturb what an earlier pass (fracture `j ≠ i`) left behind -/
theorem done_split_other (hv : s0.Valid) (hinv : Inv s0 s done) (hi : i < s0.nFr) (hnd : ¬ done i)
    {j : Nat} (hj : done j) (hjn : j < s0.nFr) (hd : Done s0 s j) : Done s0 (s.split i) j := by
  have hji : j ≠ i := fun e => hnd (e ▸ hj)
  have hal := hinv.aligned
  have hfc : ∀ g l, g < (s.split i).nF → ((s.split i).fc j g = some l ↔ g < s.nF ∧ s.fc j g = some l) := by
    intro g l hg
    rcases split_nF_cases s i hg with hlt | ⟨q, hq, rfl⟩
    · rw [split_fc_old s i j g (by omega)]; simp [hlt]
    · rw [split_fc_new_other s i j _ (by omega) (by omega) hji]
      constructor
      · intro h; cases h
      · intro h; omega
  intro f l hf hfl
  obtain ⟨h1, h2⟩ := hd f l hf hfl
  have hfs : f < s.nF := by have := hinv.nF; omega
  -- a face of fracture `j` is not a face of fracture `i`
  have hfn : f ∉ s.ids i := fun hm => by
    have := ((ids_iff hv hinv hi hnd f).mp hm).2.1
    rw [hv.disjoint j i f hjn hi hji hf (by rw [hfl]; rfl)] at this
    cases this
  constructor
  · intro hr g hg
    rw [hfc g l hg]
    constructor
    · rintro ⟨hlt, h⟩; exact (h1 hr g hlt).mp h
    · intro h; subst h; exact ⟨hfs, (h1 hr g hfs).mpr rfl⟩
  · intro hr
    obtain ⟨d, hd1, hd2, hiff, a, b, hab, ha, hb, hsg, hif, hid, hnf, hndd, hp⟩ := h2 hr
    -- nor is its copy, a face the unsplit host did not have
    have hdn : d ∉ s.ids i := fun hm => by have := (ids_iff hv hinv hi hnd d).mp hm; omega
    refine ⟨d, hd1, by show d < s.nF + _; omega, ?_, a, b, hab, ha, hb, hsg,
      (split_inc_old_notin s i f hfs hfn).trans hif, (split_inc_old_notin s i d hd2 hdn).trans hid,
      (split_normal_old s i f hfs).trans hnf, (split_normal_old s i d hd2).trans hndd,
      List.mem_append_left _ hp⟩
    intro g hg
    rw [hfc g l hg]
    constructor
    · rintro ⟨hlt, h⟩; exact (hiff g hlt).mp h
    · rintro (h | h)
      · subst h; exact ⟨hfs, (hiff g hfs).mpr (Or.inl rfl)⟩
      · subst h; exact ⟨hd2, (hiff g hd2).mpr (Or.inr rfl)⟩

/-- after the pass for fracture `i`, its cell `l` is coupled to the face `f` it was matched to and to
    every copy of `f` -/
theorem split_fc_self_iff (hv : s0.Valid) (hinv : Inv s0 s done) (hi : i < s0.nFr) (hnd : ¬ done i)
    {f l : Nat} (hf : f < s0.nF) (hfl : s0.fc i f = some l) (g : Nat) (hg : g < (s.split i).nF) :
    (s.split i).fc i g = some l ↔
      g = f ∨ ∃ q, q < (s.ids i).length ∧ g = s.nF + q ∧ (s.ids i).getD q 0 = f := by
  have hal := hinv.aligned
  have hnF := hinv.nF
  rcases split_nF_cases s i hg with hlt | ⟨q, hq, rfl⟩
  · rw [split_fc_old s i i g (by omega), fc_old_iff hv hinv hi hnd hf hfl g hlt]
    exact ⟨Or.inl, fun h => h.elim id (fun ⟨q, _, hq, _⟩ => by omega)⟩
  · have hsrc : (s.ids i).getD q 0 < s.nF := by
      have := (ids_iff hv hinv hi hnd _).mp (Common.getD_mem 0 hq); omega
    rw [split_fc_new_self s i q hal hq, fc_old_iff hv hinv hi hnd hf hfl _ hsrc]
    exact ⟨fun h => Or.inr ⟨q, hq, rfl, h⟩,
      fun h => h.elim (fun e => by omega) (fun ⟨q', _, e, h⟩ => by rwa [show q = q' by omega])⟩

/-- what the pass for fracture `i` establishes for its own faces -/
theorem done_split_self (hv : s0.Valid) (hinv : Inv s0 s done) (hi : i < s0.nFr) (hnd : ¬ done i) :
    Done s0 (s.split i) i := by
  intro f l hf hfl
  have hnF := hinv.nF
  have hfs : f < s.nF := by omega
  have hsome : (s0.fc i f).isSome = true := by rw [hfl]; rfl
  have hids := ids_iff hv hinv hi hnd f
  constructor
  · intro hr g hg
    rw [split_fc_self_iff hv hinv hi hnd hf hfl g hg]
    refine ⟨fun h => h.elim id fun ⟨q, hq, _, hqf⟩ => ?_, Or.inl⟩
    -- a tagged face is not duplicated
    have := (hids.mp (hqf ▸ Common.getD_mem 0 hq)).2.2
    rw [hr] at this; cases this
  · intro hr
    have hm : f ∈ s.ids i := hids.mpr ⟨hf, hsome, hr⟩
    obtain ⟨p, hp, hpf⟩ := Common.exists_getD_of_mem 0 hm
    obtain ⟨a, b, hab, ha, hb, hsg⟩ := hv.interior i f hi hf hsome hr
    have hu := untouched_of_face hv hinv hi hnd hf hsome
    refine ⟨s.nF + p, by omega, by show s.nF + p < s.nF + _; omega, ?_, a, b, hab, ha, hb, hsg, ?_, ?_, ?_, ?_, ?_⟩
    · intro g hg
      rw [split_fc_self_iff hv hinv hi hnd hf hfl g hg]
      refine or_congr_right ⟨fun ⟨q, hq, hgq, hqf⟩ => ?_, fun h => ⟨p, hp, h, hpf⟩⟩
      -- `ids` has no repetitions: `f` has one copy
      rw [hgq, (List.getD_inj hq hp (nodup_ids s i)).mp (hqf.trans hpf.symm)]
    · rw [split_inc_old_in s i f hfs hm, hu.1]
      rcases hab with e | e <;> rw [e] <;> simp [ha, hb]
    · rw [split_inc_new s i p hp, hpf, hu.1]
      rcases hab with e | e <;> rw [e] <;> simp [ha, hb]
    · rw [split_normal_old s i f hfs]; exact hu.2.2.2.2
    · rw [split_normal_new s i p hp, hpf]; exact hu.2.2.2.2
    · exact hpf ▸ split_pairs_mem s i p hp

theorem inv_split (hv : s0.Valid) (hinv : Inv s0 s done) (hi : i < s0.nFr) (hnd : ¬ done i) :
    Inv s0 (s.split i) (fun j => j = i ∨ done j) where
  nF := by show s0.nF ≤ s.nF + _; have := hinv.nF; omega
  aligned := by show s.fcCols + _ = s.nF + _; rw [hinv.aligned]
  oldFc := by
    intro j g hg
    rw [split_fc_old s i j g (by have := hinv.nF; have := hinv.aligned; omega)]
    exact hinv.oldFc j g hg
  newFc := by
    intro j g hj h1 h2
    have hal := hinv.aligned
    rcases split_nF_cases s i h2 with hlt | ⟨q, hq, rfl⟩
    · rw [split_fc_old s i j g (by omega)]
      exact hinv.newFc j g (fun h => hj (Or.inr h)) h1 hlt
    · exact split_fc_new_other s i j _ (by omega) (by omega) (fun e => hj (Or.inl e))
  newSrc := by
    intro j g l h1 h2 hfc
    have hal := hinv.aligned
    rcases split_nF_cases s i h2 with hlt | ⟨q, hq, rfl⟩
    · rw [split_fc_old s i j g (by omega)] at hfc
      exact hinv.newSrc j g l h1 hlt hfc
    · by_cases hji : j = i
      · subst hji
        rw [split_fc_new_self s j q hal hq] at hfc
        have hm := (ids_iff hv hinv hi hnd _).mp (Common.getD_mem 0 hq)
        exact ⟨_, hm.1, by rw [← hinv.oldFc j _ hm.1]; exact hfc⟩
      · rw [split_fc_new_other s i j _ (by omega) (by omega) hji] at hfc
        cases hfc
  untouched := by
    intro g hg hnone
    have hu := hinv.untouched g hg (fun j hj hjn => hnone j (Or.inr hj) hjn)
    have hgs : g < s.nF := by have := hinv.nF; omega
    have hni := not_mem_fracFaces hinv hnd (hnone i (Or.inl rfl) hi)
    have hnid : g ∉ s.ids i := fun h => hni (List.mem_filter.mp h).1
    have ht := split_tags_old s i g hgs
    exact ⟨(split_inc_old_notin s i g hgs hnid).trans hu.1, (ht.1.trans (if_neg hni)).trans hu.2.1,
      (ht.2.1.trans (if_neg hni)).trans hu.2.2.1, ht.2.2.trans hu.2.2.2.1,
      (split_normal_old s i g hgs).trans hu.2.2.2.2⟩
  res := by
    intro j hj hjn
    rcases hj with rfl | hj
    · exact done_split_self hv hinv hjn hnd
    · exact done_split_other hv hinv hi hnd hj hjn (hinv.res j hj hjn)

/-- one pass of the loop on a valid input: no error, and the invariant is kept -/
theorem inv_step (hv : s0.Valid) (hinv : Inv s0 s done) (hi : i < s0.nFr) (hnd : ¬ done i) :
    ∃ s1, splitOne s i = .ok s1 ∧ Inv s0 s1 (fun j => j = i ∨ done j) := by
  refine ⟨s.split i, ?_, inv_split hv hinv hi hnd⟩
  have hc := counts_interior s (s.ids i) (fun g hg => interior_of_ids hv hinv hi hnd hg)
  have h1 : s.nLeft i = (s.ids i).length := hc.1
  have h2 : (s.touched i).length = 2 * (s.ids i).length := hc.2
  unfold splitOne
  by_cases hk : (s.ids i).length = 0
  · rw [if_pos hk, split_of_ids_nil (List.length_eq_zero_iff.mp hk)]
  · rw [if_neg hk, if_neg (by omega), if_neg (by omega), if_neg (by omega)]

end step

theorem Inv.congr {s0 s : Host} {P Q : Nat → Prop} (h : ∀ j, P j ↔ Q j) (hinv : Inv s0 s P) : Inv s0 s Q :=
  (funext fun j => propext (h j) : P = Q) ▸ hinv

theorem splitFrom_inv {s0 : Host} (hv : s0.Valid) : ∀ (is : List Nat) (s : Host) (done : Nat → Prop),
    is.Nodup → (∀ i ∈ is, i < s0.nFr ∧ ¬ done i) → Inv s0 s done →
    ∃ s', splitFrom s is = .ok s' ∧ Inv s0 s' (fun j => j ∈ is ∨ done j) := by
  intro is
  induction is with
  | nil =>
    intro s done _ _ hinv
    exact ⟨s, rfl, hinv.congr (fun j => by simp)⟩
  | cons i is ih =>
    intro s done hnd hall hinv
    rw [List.nodup_cons] at hnd
    obtain ⟨hi, hdi⟩ := hall i List.mem_cons_self
    obtain ⟨s1, h1, hinv1⟩ := inv_step hv hinv hi hdi
    obtain ⟨s', h2, hinv2⟩ := ih s1 (fun j => j = i ∨ done j) hnd.2
      (fun i' hi' => ⟨(hall i' (List.mem_cons_of_mem _ hi')).1, by
        rintro (e | e)
        · exact hnd.1 (e ▸ hi')
        · exact (hall i' (List.mem_cons_of_mem _ hi')).2 e⟩) hinv1
    exact ⟨s', by simp only [splitFrom, h1]; exact h2, hinv2.congr (mem_cons_or i is done)⟩

/-- `split_faces` on a valid input: no error, and every fracture is left in the state `Done` -/
theorem splitFaces_valid {s0 : Host} (hv : s0.Valid) :
    ∃ s', splitFaces s0 = .ok s' ∧ Inv s0 s' (fun j => j < s0.nFr) := by
  obtain ⟨s', h, hinv⟩ := splitFrom_inv hv (List.range s0.nFr) s0 (fun _ => False) List.nodup_range
    (fun i hi => ⟨List.mem_range.mp hi, fun h => h⟩) (inv_init s0 hv)
  exact ⟨s', h, hinv.congr (fun j => by simp)⟩

theorem interior_of_interiorB {s : Host} {g : Nat} (h : s.interiorB g = true) : s.Interior g := by
  unfold Host.interiorB at h
  split at h
  · rename_i a b hab
    rw [Bool.and_eq_true, bne_iff_ne, beq_iff_eq] at h
    obtain ⟨h1, h2⟩ := h
    -- the one of the two that is not flagged `left` plays the role of `a`
    cases hal : a.left
    · exact ⟨a, b, Or.inl hab, hal, eq_true_of_ne_false fun e => h1 (hal.trans e.symm), h2⟩
    · exact ⟨b, a, Or.inr hab, eq_false_of_ne_true fun e => h1 (hal.trans e.symm), hal, by omega⟩
  · cases h

theorem valid_of_validB {s : Host} (h : s.validB = true) : s.Valid := by
  unfold Host.validB at h
  rw [Bool.and_eq_true] at h
  obtain ⟨hal, hall⟩ := h
  have key : ∀ i g, i < s.nFr → g < s.nF → ∀ l, s.fc i g = some l →
      (∀ j, j < s.nFr → j = i ∨ s.fc j g = none) ∧ (∀ g', g' < s.nF → g' = g ∨ s.fc i g' ≠ some l) ∧
      (s.rem g = true ∨ s.interiorB g = true) := by
    intro i g hi hg l hfl
    have := List.all_eq_true.mp (List.all_eq_true.mp hall i (List.mem_range.mpr hi)) g (List.mem_range.mpr hg)
    rw [hfl] at this
    simp only [Bool.and_eq_true, List.all_eq_true, List.mem_range, Bool.or_eq_true, beq_iff_eq,
      Option.isNone_iff_eq_none, bne_iff_ne] at this
    exact ⟨this.1.1, this.1.2, this.2⟩
  refine ⟨by simpa using hal, ?_, ?_, ?_⟩
  · intro i j g hi hj hne hg hs
    obtain ⟨l, hl⟩ := Option.isSome_iff_exists.mp hs
    rcases (key i g hi hg l hl).1 j hj with e | e
    · exact absurd e.symm hne
    · exact e
  · intro i g g' l hi hg hg' h1 h2
    rcases (key i g hi hg l h1).2.1 g' hg' with e | e
    · exact e.symm
    · exact absurd h2 e
  · intro i g hi hg hs hr
    obtain ⟨l, hl⟩ := Option.isSome_iff_exists.mp hs
    rcases (key i g hi hg l hl).2.2 with e | e
    · rw [hr] at e; cases e
    · exact interior_of_interiorB e

theorem noFrac_of_noFracB {s : Host} (h : s.noFracB = true) : ∀ g, g < s.nF → s.frac g = false := by
  intro g hg
  have := List.all_eq_true.mp h g (List.mem_range.mpr hg)
  simpa using this

end PorepyVerif.C25
