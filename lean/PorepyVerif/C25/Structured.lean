/-
C25 — the structured generators (`fracs/structured.py`): node lines of a tensor grid, the half-space
test on a rectangle in any of its vertex orders, the faces and nodes of a rectangular fracture on a
grid plane; argument handling of the entry points.
-/
import PorepyVerif.C25.Model
import Mathlib.Algebra.Order.Field.Rat
import Mathlib.Tactic.Linarith
import Mathlib.Tactic.Ring

namespace PorepyVerif.C25

theorem arange_mul (s step m : Nat) (hstep : 0 < step) :
    arange s (s + m * step + 1) step = (List.range (m + 1)).map (fun t => s + t * step) := by
  unfold arange
  have h1 : s + m * step + 1 - s + (step - 1) = (m + 1) * step := by
    have : s + m * step + 1 - s = m * step + 1 := by omega
    rw [this, Nat.add_mul]; omega
  rw [h1, Nat.mul_div_cancel _ hstep]

theorem idx3_shift (nx ny axis : Nat) (a : T3) (t : Nat) :
    idx3 nx ny (shift axis a t) = idx3 nx ny a + t * stride nx ny axis := by
  unfold shift stride idx3 nodeIdx
  split <;> (simp only []; ring)

theorem stride_pos (nx ny axis : Nat) : 0 < stride nx ny axis := by
  unfold stride
  split
  · exact Nat.one_pos
  · exact Nat.succ_pos _
  · exact Nat.mul_pos (Nat.succ_pos _) (Nat.succ_pos _)

theorem findNodesOnLine_eq (nx ny axis : Nat) (a : T3) (m : Nat) :
    findNodesOnLine nx ny axis (idx3 nx ny a) (idx3 nx ny (shift axis a m))
      = (List.range (m + 1)).map (fun t => idx3 nx ny (shift axis a t)) ∧
    findNodesOnLine nx ny axis (idx3 nx ny (shift axis a m)) (idx3 nx ny a)
      = (List.range (m + 1)).map (fun t => idx3 nx ny (shift axis a t)) := by
  have hle : idx3 nx ny a ≤ idx3 nx ny (shift axis a m) := by rw [idx3_shift]; omega
  have key : arange (idx3 nx ny a) (idx3 nx ny (shift axis a m) + 1) (stride nx ny axis)
      = (List.range (m + 1)).map (fun t => idx3 nx ny (shift axis a t)) := by
    rw [idx3_shift, arange_mul _ _ _ (stride_pos nx ny axis)]
    apply List.map_congr_left
    intro t _
    rw [idx3_shift]
  unfold findNodesOnLine
  constructor
  · rw [Nat.min_eq_left hle, Nat.max_eq_right hle]; exact key
  · rw [Nat.min_eq_right hle, Nat.max_eq_left hle]; exact key

theorem nodeIdx_decode (nx ny i j k : Nat) (hi : i ≤ nx) (hj : j ≤ ny) :
    nodeIdx nx ny i j k % (nx + 1) = i ∧ (nodeIdx nx ny i j k / (nx + 1)) % (ny + 1) = j ∧
    nodeIdx nx ny i j k / (nx + 1) / (ny + 1) = k := by
  have h : nodeIdx nx ny i j k = i + (nx + 1) * (j + (ny + 1) * k) := by unfold nodeIdx; ring
  rw [h]
  have hi' : i < nx + 1 := by omega
  have hj' : j < ny + 1 := by omega
  refine ⟨?_, ?_, ?_⟩
  · rw [Nat.add_mul_mod_self_left, Nat.mod_eq_of_lt hi']
  · rw [Nat.add_mul_div_left _ _ (Nat.succ_pos nx), Nat.div_eq_of_lt hi', Nat.zero_add,
      Nat.add_mul_mod_self_left, Nat.mod_eq_of_lt hj']
  · rw [Nat.add_mul_div_left _ _ (Nat.succ_pos nx), Nat.div_eq_of_lt hi', Nat.zero_add,
      Nat.add_mul_div_left _ _ (Nat.succ_pos ny), Nat.div_eq_of_lt hj', Nat.zero_add]

theorem nodeIdx_inj (nx ny : Nat) {i j k i' j' k' : Nat} (hi : i ≤ nx) (hi' : i' ≤ nx) (hj : j ≤ ny) (hj' : j' ≤ ny)
    (h : nodeIdx nx ny i j k = nodeIdx nx ny i' j' k') : i = i' ∧ j = j' ∧ k = k' := by
  have d1 := nodeIdx_decode nx ny i j k hi hj
  have d2 := nodeIdx_decode nx ny i' j' k' hi' hj'
  rw [h] at d1
  exact ⟨d1.1.symm.trans d2.1, d1.2.1.symm.trans d2.2.1, d1.2.2.symm.trans d2.2.2⟩

theorem idx3_inj (nx ny : Nat) {a b : T3} (ha : InGrid nx ny a) (hb : InGrid nx ny b)
    (h : idx3 nx ny a = idx3 nx ny b) : a = b := by
  obtain ⟨a1, a2, a3⟩ := a
  obtain ⟨b1, b2, b3⟩ := b
  obtain ⟨h1, h2, h3⟩ := nodeIdx_inj nx ny ha.1 hb.1 ha.2 hb.2 h
  simp only [] at h1 h2 h3
  subst h1 h2 h3; rfl

theorem inGrid_shift_le (nx ny axis : Nat) (a : T3) {t m : Nat} (ht : t ≤ m)
    (h : InGrid nx ny (shift axis a m)) : InGrid nx ny (shift axis a t) := by
  unfold InGrid shift at *
  split at h <;> simp only [] at h ⊢ <;> omega

theorem mem_findNodesOnLine (nx ny axis : Nat) (a b : T3) (m : Nat)
    (ha : InGrid nx ny (shift axis a m)) (hb : InGrid nx ny b) :
    idx3 nx ny b ∈ findNodesOnLine nx ny axis (idx3 nx ny a) (idx3 nx ny (shift axis a m)) ↔
      ∃ t, t ≤ m ∧ b = shift axis a t := by
  rw [(findNodesOnLine_eq nx ny axis a m).1, List.mem_map]
  constructor
  · rintro ⟨t, ht, h⟩
    have htm : t ≤ m := by have := List.mem_range.mp ht; omega
    exact ⟨t, htm, (idx3_inj nx ny (inGrid_shift_le nx ny axis a htm ha) hb h).symm⟩
  · rintro ⟨t, ht, rfl⟩
    exact ⟨t, List.mem_range.mpr (by omega), rfl⟩

theorem mul_pos_le_zero_iff (x w : Rat) (hw : 0 < w) : x * w ≤ 0 ↔ x ≤ 0 := by
  constructor
  · intro h
    by_contra hx
    have : 0 < x * w := mul_pos (lt_of_not_ge hx) hw
    linarith
  · intro h
    exact mul_nonpos_of_nonpos_of_nonneg h hw.le

macro "c25_hull" hc:ident : tactic => `(tactic|
  (simp only [inHull, $hc:ident, if_true, Bool.false_eq_true, if_false, cyc, List.cons_append, List.nil_append,
      List.zip_cons_cons, List.zip_nil_right, List.all_cons, List.all_nil, Bool.and_true, Bool.and_eq_true, decide_eq_true_eq]
   constructor
   · rintro ⟨h1, h2, h3, h4⟩
     refine ⟨⟨?_, ?_⟩, ?_, ?_⟩ <;> (by_contra hcon; rw [not_le] at hcon; nlinarith)
   · rintro ⟨⟨h1, h2⟩, h3, h4⟩
     refine ⟨?_, ?_, ?_, ?_⟩ <;> nlinarith))

theorem mul_neg_le_zero_iff (x w : Rat) (hw : w < 0) : x * w ≤ 0 ↔ 0 ≤ x := by
  rw [← neg_mul_neg, mul_pos_le_zero_iff _ _ (neg_pos.mpr hw), neg_nonpos]

/-- the half-plane test of `inHull` for the edge `e`, with orientation sign `sg` -/
def edgeIn (sg : Rat) (p : Rat × Rat) (e : (Rat × Rat) × (Rat × Rat)) : Prop :=
  (p.1 - e.1.1) * (sg * (e.2.2 - e.1.2)) + (p.2 - e.1.2) * (sg * -(e.2.1 - e.1.1)) ≤ 0

theorem edgeIn_horiz (sg a b v : Rat) (p : Rat × Rat) :
    edgeIn sg p ((a, v), (b, v)) ↔ (v - p.2) * (sg * (b - a)) ≤ 0 := by
  unfold edgeIn
  rw [show (p.1 - a) * (sg * (v - v)) + (p.2 - v) * (sg * -(b - a)) = (v - p.2) * (sg * (b - a)) by ring]

theorem edgeIn_vert (sg u a b : Rat) (p : Rat × Rat) :
    edgeIn sg p ((u, a), (u, b)) ↔ (p.1 - u) * (sg * (b - a)) ≤ 0 := by
  unfold edgeIn
  rw [show (p.1 - u) * (sg * (b - a)) + (p.2 - a) * (sg * -(u - u)) = (p.1 - u) * (sg * (b - a)) by ring]

theorem isCcw_quad (a b c d : Rat × Rat) :
    isCcw [a, b, c, d] = decide (0 + (b.2 + a.2) * (b.1 - a.1) + (c.2 + b.2) * (c.1 - b.1) + (d.2 + c.2) * (d.1 - c.1)
      + (a.2 + d.2) * (a.1 - d.1) < 0) := rfl

theorem inHull_quad (a b c d p : Rat × Rat) :
    inHull [a, b, c, d] p = true ↔
      edgeIn (if isCcw [a, b, c, d] = true then 1 else -1) p (a, b) ∧
      edgeIn (if isCcw [a, b, c, d] = true then 1 else -1) p (b, c) ∧
      edgeIn (if isCcw [a, b, c, d] = true then 1 else -1) p (c, d) ∧
      edgeIn (if isCcw [a, b, c, d] = true then 1 else -1) p (d, a) := by
  simp only [inHull, cyc, List.cons_append, List.nil_append, List.zip_cons_cons, List.zip_nil_right, List.all_cons,
    List.all_nil, Bool.and_true, Bool.and_eq_true, decide_eq_true_eq, edgeIn]

theorem isCcw_rotate (a b c d : Rat × Rat) : isCcw [b, c, d, a] = isCcw [a, b, c, d] := by
  rw [isCcw_quad, isCcw_quad]
  congr 2
  ring

theorem inHull_rotate (a b c d p : Rat × Rat) : inHull [b, c, d, a] p = true ↔ inHull [a, b, c, d] p = true := by
  rw [inHull_quad, inHull_quad, isCcw_rotate]
  exact ⟨fun ⟨h1, h2, h3, h4⟩ => ⟨h4, h1, h2, h3⟩, fun ⟨h1, h2, h3, h4⟩ => ⟨h2, h3, h4, h1⟩⟩

section rect
variable {u0 u1 v0 v1 : Rat} (hu : u0 < u1) (hv : v0 < v1) (p : Rat × Rat)
include hu hv

theorem inHull_rect_ccw :
    inHull [(u0, v0), (u1, v0), (u1, v1), (u0, v1)] p = true ↔ (u0 ≤ p.1 ∧ p.1 ≤ u1) ∧ (v0 ≤ p.2 ∧ p.2 ≤ v1) := by
  have hc : isCcw [(u0, v0), (u1, v0), (u1, v1), (u0, v1)] = true := by
    rw [isCcw_quad, decide_eq_true_iff]
    have := mul_pos (sub_pos.mpr hu) (sub_pos.mpr hv)
    linarith
  rw [inHull_quad, hc, if_pos rfl, edgeIn_horiz, edgeIn_vert, edgeIn_horiz, edgeIn_vert,
    mul_pos_le_zero_iff _ _ (by linarith), mul_pos_le_zero_iff _ _ (by linarith),
    mul_neg_le_zero_iff _ _ (by linarith), mul_neg_le_zero_iff _ _ (by linarith),
    sub_nonpos, sub_nonpos, sub_nonneg, sub_nonneg]
  exact ⟨fun ⟨h1, h2, h3, h4⟩ => ⟨⟨h4, h2⟩, h1, h3⟩, fun ⟨⟨h4, h2⟩, h1, h3⟩ => ⟨h1, h2, h3, h4⟩⟩

theorem inHull_rect_cw :
    inHull [(u0, v0), (u0, v1), (u1, v1), (u1, v0)] p = true ↔ (u0 ≤ p.1 ∧ p.1 ≤ u1) ∧ (v0 ≤ p.2 ∧ p.2 ≤ v1) := by
  have hc : isCcw [(u0, v0), (u0, v1), (u1, v1), (u1, v0)] = false := by
    rw [isCcw_quad, decide_eq_false_iff_not, not_lt]
    have := mul_pos (sub_pos.mpr hu) (sub_pos.mpr hv)
    linarith
  rw [inHull_quad, hc, if_neg Bool.false_ne_true, edgeIn_vert, edgeIn_horiz, edgeIn_vert, edgeIn_horiz,
    mul_neg_le_zero_iff _ _ (by linarith), mul_neg_le_zero_iff _ _ (by linarith),
    mul_pos_le_zero_iff _ _ (by linarith), mul_pos_le_zero_iff _ _ (by linarith),
    sub_nonpos, sub_nonpos, sub_nonneg, sub_nonneg]
  exact ⟨fun ⟨h1, h2, h3, h4⟩ => ⟨⟨h1, h3⟩, h4, h2⟩, fun ⟨⟨h1, h3⟩, h4, h2⟩ => ⟨h1, h2, h3, h4⟩⟩

end rect

theorem inHull_rect {u0 u1 v0 v1 : Rat} (hu : u0 < u1) (hv : v0 < v1) {P : List (Rat × Rat)}
    (hP : IsRectOrder u0 u1 v0 v1 P) (p : Rat × Rat) :
    inHull P p = true ↔ (u0 ≤ p.1 ∧ p.1 ≤ u1) ∧ (v0 ≤ p.2 ∧ p.2 ≤ v1) := by
  rcases hP with rfl | rfl | rfl | rfl | rfl | rfl | rfl | rfl
  · exact inHull_rect_ccw hu hv p
  · rw [inHull_rotate]; exact inHull_rect_ccw hu hv p
  · rw [inHull_rotate, inHull_rotate]; exact inHull_rect_ccw hu hv p
  · rw [inHull_rotate, inHull_rotate, inHull_rotate]; exact inHull_rect_ccw hu hv p
  · rw [inHull_rotate]; exact inHull_rect_cw hu hv p
  · rw [inHull_rotate, inHull_rotate]; exact inHull_rect_cw hu hv p
  · rw [inHull_rotate, inHull_rotate, inHull_rotate]; exact inHull_rect_cw hu hv p
  · exact inHull_rect_cw hu hv p

section mono
variable {X : Nat → Rat} {N : Nat}

theorem mono_le (hm : ∀ a b, a < b → b ≤ N → X a < X b) {a b : Nat} (hab : a ≤ b) (hb : b ≤ N) : X a ≤ X b := by
  rcases Nat.lt_or_eq_of_le hab with h | h
  · exact (hm a b h hb).le
  · rw [h]

theorem flat_same (hm : ∀ a b, a < b → b ≤ N → X a < X b) {tol : Rat} (htol : 0 < tol)
    (hgap : ∀ i, i < N → tol < (X (i + 1) - X i) / 2) {i k0 : Nat} (hi : i ≤ N) (hk : k0 ≤ N) :
    (X k0 - tol ≤ X i ∧ X i < X k0 + tol) ↔ i = k0 := by
  constructor
  · rintro ⟨h1, h2⟩
    rcases Nat.lt_trichotomy i k0 with h | h | h
    · have g := hgap i (by omega)
      have := mono_le hm (show i + 1 ≤ k0 by omega) hk
      linarith only [g, this, h1, htol]
    · exact h
    · have g := hgap k0 (by omega)
      have := mono_le hm (show k0 + 1 ≤ i by omega) hi
      linarith only [g, this, h2, htol]
  · rintro rfl
    exact ⟨sub_le_self _ htol.le, lt_add_of_pos_right _ htol⟩

theorem flat_mid_false (hm : ∀ a b, a < b → b ≤ N → X a < X b) {tol : Rat}
    (hgap : ∀ i, i < N → tol < (X (i + 1) - X i) / 2) {i k0 : Nat} (hi : i < N) (hk : k0 ≤ N) :
    ¬ (X k0 - tol ≤ (X i + X (i + 1)) / 2 ∧ (X i + X (i + 1)) / 2 < X k0 + tol) := by
  rintro ⟨h1, h2⟩
  have g := hgap i hi
  rcases Nat.lt_or_ge i k0 with h | h
  · have := mono_le hm (show i + 1 ≤ k0 by omega) hk
    linarith only [g, this, h1]
  · have := mono_le hm h (show i ≤ N by omega)
    linarith only [g, this, h2]

theorem mid_between (hm : ∀ a b, a < b → b ≤ N → X a < X b) {i l h : Nat} (hi : i < N) (hl : l ≤ N) (hh : h ≤ N) :
    (X l ≤ (X i + X (i + 1)) / 2 ∧ (X i + X (i + 1)) / 2 ≤ X h) ↔ l ≤ i ∧ i + 1 ≤ h := by
  have hstep := hm i (i + 1) (Nat.lt_succ_self i) hi
  constructor
  · rintro ⟨h1, h2⟩
    constructor
    · by_contra hc
      have := mono_le hm (show i + 1 ≤ l by omega) hl
      linarith only [this, h1, hstep]
    · by_contra hc
      have := mono_le hm (show h ≤ i by omega) (show i ≤ N by omega)
      linarith only [this, h2, hstep]
  · rintro ⟨h1, h2⟩
    have a1 := mono_le hm h1 (show i ≤ N by omega)
    have a2 := mono_le hm h2 hh
    exact ⟨by linarith only [a1, hstep], by linarith only [a2, hstep]⟩

end mono

theorem lt3_cases {o : Nat} (ho : o < 3) : o = 0 ∨ o = 1 ∨ o = 2 := by omega

theorem activeDims_facts {o : Nat} (ho : o < 3) :
    (activeDims o).1 < 3 ∧ (activeDims o).2 < 3 ∧ (activeDims o).1 ≠ o ∧ (activeDims o).2 ≠ o ∧
    (activeDims o).1 ≠ (activeDims o).2 := by
  rcases lt3_cases ho with rfl | rfl | rfl <;> decide

theorem validFace_get {g : Grid3} {f : Nat × T3} (hf : g.ValidFace f) {c : Nat} (hc : c < 3) :
    f.2.get c < g.bound f.1 c := by
  rcases lt3_cases hc with rfl | rfl | rfl
  · exact hf.2.1
  · exact hf.2.2.1
  · exact hf.2.2.2

theorem bound_self (g : Grid3) (d : Nat) : g.bound d d = g.n d + 1 := if_pos rfl

theorem bound_of_ne {g : Grid3} {d c : Nat} (h : c ≠ d) : g.bound d c = g.n c := if_neg h

theorem center_self (g : Grid3) (d : Nat) (t : T3) : g.center d t d = g.x d (t.get d) := if_pos rfl

theorem center_of_ne {g : Grid3} {d c : Nat} {t : T3} (h : c ≠ d) :
    g.center d t c = (g.x c (t.get c) + g.x c (t.get c + 1)) / 2 := if_neg h

theorem face_on_plane_iff {g : Grid3} {o k0 a0 a1 b0 b1 : Nat} {p tol : Rat} {P : List (Rat × Rat)}
    (h : g.PlaneSpec o k0 a0 a1 b0 b1 p tol P) {f : Nat × T3} (hf : g.ValidFace f) :
    g.faceOnPlane o p tol P f = true ↔
      f.1 = o ∧ f.2.get o = k0 ∧ (a0 ≤ f.2.get (activeDims o).1 ∧ f.2.get (activeDims o).1 < a1) ∧
        (b0 ≤ f.2.get (activeDims o).2 ∧ f.2.get (activeDims o).2 < b1) := by
  obtain ⟨ha3, hb3, hao, hbo, _⟩ := activeDims_facts h.ho
  have hmo := fun a b hab hb => h.mono o a b h.ho hab hb
  have hto := validFace_get hf h.ho
  unfold Grid3.faceOnPlane
  rw [Bool.and_eq_true, Bool.and_eq_true, decide_eq_true_iff, decide_eq_true_iff, h.hp]
  by_cases hd : f.1 = o
  · -- a face of the right kind
    have hta := validFace_get hf ha3
    have htb := validFace_get hf hb3
    rw [hd] at hta htb hto ⊢
    rw [bound_of_ne hao] at hta
    rw [bound_of_ne hbo] at htb
    rw [bound_self] at hto
    have hua : g.x (activeDims o).1 a0 < g.x (activeDims o).1 a1 := h.mono _ _ _ ha3 h.ha.1 h.ha.2
    have hub : g.x (activeDims o).2 b0 < g.x (activeDims o).2 b1 := h.mono _ _ _ hb3 h.hb.1 h.hb.2
    rw [center_self, center_of_ne hao, center_of_ne hbo, inHull_rect hua hub h.rect]
    simp only []
    rw [mid_between (fun a b hab hb => h.mono _ a b ha3 hab hb) hta (by have := h.ha; omega) h.ha.2,
      mid_between (fun a b hab hb => h.mono _ a b hb3 hab hb) htb (by have := h.hb; omega) h.hb.2,
      flat_same hmo h.htol h.hgap (Nat.le_of_lt_succ hto) h.hk]
    constructor
    · rintro ⟨⟨⟨h1, h2⟩, h3, h4⟩, h5⟩
      exact ⟨trivial, h5, ⟨h1, by omega⟩, h3, by omega⟩
    · rintro ⟨_, h5, ⟨h1, h2⟩, h3, h4⟩
      exact ⟨⟨⟨h1, by omega⟩, h3, by omega⟩, h5⟩
  · -- a face of another kind: its centre is half a cell away from every grid plane x_o = const
    have hne : o ≠ f.1 := fun e => hd e.symm
    rw [bound_of_ne hne] at hto
    rw [center_of_ne hne]
    exact ⟨fun ⟨_, hflat⟩ => absurd hflat (flat_mid_false hmo h.hgap hto h.hk), fun ⟨e, _⟩ => absurd e hd⟩

theorem mem_facesOfKind (g : Grid3) (d : Nat) (f : Nat × T3) :
    f ∈ g.facesOfKind d ↔ f.1 = d ∧ f.2.1 < g.bound d 0 ∧ f.2.2.1 < g.bound d 1 ∧ f.2.2.2 < g.bound d 2 := by
  obtain ⟨fd, i, j, k⟩ := f
  unfold Grid3.facesOfKind
  simp only [List.mem_flatMap, List.mem_map, List.mem_range, Prod.mk.injEq]
  constructor
  · rintro ⟨k', hk, j', hj, i', hi, rfl, rfl, rfl, rfl⟩
    exact ⟨rfl, hi, hj, hk⟩
  · rintro ⟨rfl, hi, hj, hk⟩
    exact ⟨k, hk, j, hj, i, hi, rfl, rfl, rfl, rfl⟩

theorem mem_allFaces (g : Grid3) (f : Nat × T3) : f ∈ g.allFaces ↔ g.ValidFace f := by
  obtain ⟨fd, t⟩ := f
  unfold Grid3.allFaces Grid3.ValidFace
  simp only [List.mem_append, mem_facesOfKind]
  constructor
  · rintro ((⟨h, h1⟩ | ⟨h, h1⟩) | ⟨h, h1⟩) <;> (subst h; exact ⟨by omega, h1⟩)
  · rintro ⟨h3, h1⟩
    rcases lt3_cases h3 with rfl | rfl | rfl
    · exact Or.inl (Or.inl ⟨rfl, h1⟩)
    · exact Or.inl (Or.inr ⟨rfl, h1⟩)
    · exact Or.inr ⟨rfl, h1⟩

/-- the faces `_create_lower_dim_grids_3d` tags for a fracture are exactly the grid faces lying on it -/
theorem mem_planeFaces {g : Grid3} {o k0 a0 a1 b0 b1 : Nat} {p tol : Rat} {P : List (Rat × Rat)}
    (h : g.PlaneSpec o k0 a0 a1 b0 b1 p tol P) (x : Nat) :
    x ∈ g.planeFaces o p tol P ↔ ∃ f : Nat × T3, g.ValidFace f ∧ f.1 = o ∧ f.2.get o = k0 ∧
      (a0 ≤ f.2.get (activeDims o).1 ∧ f.2.get (activeDims o).1 < a1) ∧
      (b0 ≤ f.2.get (activeDims o).2 ∧ f.2.get (activeDims o).2 < b1) ∧ x = g.faceIndex f := by
  unfold Grid3.planeFaces
  rw [List.mem_map]
  constructor
  · rintro ⟨f, hf, rfl⟩
    rw [List.mem_filter, mem_allFaces] at hf
    obtain ⟨h1, h2, h3, h4⟩ := (face_on_plane_iff h hf.1).mp hf.2
    exact ⟨f, hf.1, h1, h2, h3, h4, rfl⟩
  · rintro ⟨f, hv, h1, h2, h3, h4, rfl⟩
    exact ⟨f, List.mem_filter.mpr ⟨(mem_allFaces g f).mpr hv, (face_on_plane_iff h hv).mpr ⟨h1, h2, h3, h4⟩⟩, rfl⟩

theorem forall_lt3_iff {o : Nat} (ho : o < 3) (Q : Nat → Prop) :
    (∀ c, c < 3 → Q c) ↔ Q o ∧ Q (activeDims o).1 ∧ Q (activeDims o).2 := by
  constructor
  · intro h
    obtain ⟨h1, h2, _⟩ := activeDims_facts ho
    exact ⟨h o ho, h _ h1, h _ h2⟩
  · rintro ⟨h0, h1, h2⟩ c hc
    rcases lt3_cases ho with rfl | rfl | rfl <;> rcases lt3_cases hc with rfl | rfl | rfl <;> assumption

theorem exists_T3 {o : Nat} (ho : o < 3) (vo va vb : Nat) :
    ∃ t : T3, t.get o = vo ∧ t.get (activeDims o).1 = va ∧ t.get (activeDims o).2 = vb := by
  rcases lt3_cases ho with rfl | rfl | rfl
  · exact ⟨(vo, va, vb), rfl, rfl, rfl⟩
  · exact ⟨(va, vo, vb), rfl, rfl, rfl⟩
  · exact ⟨(va, vb, vo), rfl, rfl, rfl⟩

theorem validFace_iff (g : Grid3) (f : Nat × T3) :
    g.ValidFace f ↔ f.1 < 3 ∧ ∀ c, c < 3 → f.2.get c < g.bound f.1 c := by
  constructor
  · intro h; exact ⟨h.1, fun c hc => validFace_get h hc⟩
  · rintro ⟨h3, h⟩
    exact ⟨h3, h 0 (by omega), h 1 (by omega), h 2 (by omega)⟩

/-- the four corners of a cell of a 2-d index lattice, in cyclic order -/
theorem corner_iff (F : Nat → Nat → Nat) (j k n : Nat) :
    (n = F j k ∨ n = F (j + 1) k ∨ n = F (j + 1) (k + 1) ∨ n = F j (k + 1)) ↔
      ∃ y z, (y = j ∨ y = j + 1) ∧ (z = k ∨ z = k + 1) ∧ n = F y z := by
  constructor
  · rintro (h | h | h | h)
    · exact ⟨j, k, Or.inl rfl, Or.inl rfl, h⟩
    · exact ⟨j + 1, k, Or.inr rfl, Or.inl rfl, h⟩
    · exact ⟨j + 1, k + 1, Or.inr rfl, Or.inr rfl, h⟩
    · exact ⟨j, k + 1, Or.inl rfl, Or.inr rfl, h⟩
  · rintro ⟨y, z, rfl | rfl, rfl | rfl, h⟩
    · exact Or.inl h
    · exact Or.inr (Or.inr (Or.inr h))
    · exact Or.inr (Or.inl h)
    · exact Or.inr (Or.inr (Or.inl h))

theorem mem_faceNodes (g : Grid3) (f : Nat × T3) (hf : f.1 < 3) (n : Nat) :
    n ∈ g.faceNodes f ↔ ∃ c : T3, c.get f.1 = f.2.get f.1 ∧
      (c.get (activeDims f.1).1 = f.2.get (activeDims f.1).1 ∨ c.get (activeDims f.1).1 = f.2.get (activeDims f.1).1 + 1) ∧
      (c.get (activeDims f.1).2 = f.2.get (activeDims f.1).2 ∨ c.get (activeDims f.1).2 = f.2.get (activeDims f.1).2 + 1) ∧
      n = idx3 (g.n 0) (g.n 1) c := by
  obtain ⟨d, i, j, k⟩ := f
  rcases lt3_cases (show d < 3 from hf) with rfl | rfl | rfl
  all_goals
    simp only [Grid3.faceNodes, activeDims, T3.get, idx3, List.mem_cons, List.not_mem_nil, or_false]
  -- in each kind the four nodes are the corners in the two in-plane directions, the third index fixed
  · rw [corner_iff (fun y z => nodeIdx (g.n 0) (g.n 1) i y z)]
    exact ⟨fun ⟨y, z, hy, hz, h⟩ => ⟨(i, y, z), rfl, hy, hz, h⟩,
      fun ⟨c, h0, hy, hz, h⟩ => ⟨c.2.1, c.2.2, hy, hz, h0 ▸ h⟩⟩
  · rw [corner_iff (fun z y => nodeIdx (g.n 0) (g.n 1) y j z)]
    exact ⟨fun ⟨z, y, hz, hy, h⟩ => ⟨(y, j, z), rfl, hy, hz, h⟩,
      fun ⟨c, h0, hy, hz, h⟩ => ⟨c.2.2, c.1, hz, hy, h0 ▸ h⟩⟩
  · rw [corner_iff (fun y z => nodeIdx (g.n 0) (g.n 1) y z k)]
    exact ⟨fun ⟨y, z, hy, hz, h⟩ => ⟨(y, z, k), rfl, hy, hz, h⟩,
      fun ⟨c, h0, hy, hz, h⟩ => ⟨c.1, c.2.1, hy, hz, h0 ▸ h⟩⟩

theorem idx3_lt (nx ny nz : Nat) (c : T3) (h1 : c.1 ≤ nx) (h2 : c.2.1 ≤ ny) (h3 : c.2.2 ≤ nz) :
    idx3 nx ny c < (nx + 1) * (ny + 1) * (nz + 1) := by
  unfold idx3 nodeIdx
  have e1 : c.2.1 * (nx + 1) ≤ ny * (nx + 1) := Nat.mul_le_mul_right _ h2
  have e2 : c.2.2 * ((nx + 1) * (ny + 1)) ≤ nz * ((nx + 1) * (ny + 1)) := Nat.mul_le_mul_right _ h3
  have e3 : (nx + 1) * (ny + 1) * (nz + 1) = nz * ((nx + 1) * (ny + 1)) + (ny * (nx + 1) + (nx + 1)) := by ring
  rw [e3]; omega

theorem exists_cell {a0 a1 x : Nat} (h : a0 < a1) (h0 : a0 ≤ x) (h1 : x ≤ a1) :
    ∃ t, a0 ≤ t ∧ t < a1 ∧ (x = t ∨ x = t + 1) := by
  rcases Nat.lt_or_eq_of_le h1 with hlt | rfl
  · exact ⟨x, h0, hlt, Or.inl rfl⟩
  · obtain ⟨t, rfl⟩ := Nat.exists_eq_add_one_of_ne_zero (Nat.ne_zero_of_lt h)
    exact ⟨t, Nat.le_of_lt_succ h, Nat.lt_succ_self t, Or.inr rfl⟩

/-- the node set of the fracture grid is exactly the set of grid nodes lying on the rectangle -/
theorem mem_planeNodes {g : Grid3} {o k0 a0 a1 b0 b1 : Nat} {p tol : Rat} {P : List (Rat × Rat)}
    (h : g.PlaneSpec o k0 a0 a1 b0 b1 p tol P) (n : Nat) :
    n ∈ g.planeNodes o p tol P ↔ ∃ c : T3, c.get o = k0 ∧
      (a0 ≤ c.get (activeDims o).1 ∧ c.get (activeDims o).1 ≤ a1) ∧
      (b0 ≤ c.get (activeDims o).2 ∧ c.get (activeDims o).2 ≤ b1) ∧ n = idx3 (g.n 0) (g.n 1) c := by
  obtain ⟨ha3, hb3, hao, hbo, _⟩ := activeDims_facts h.ho
  unfold Grid3.planeNodes
  simp only [List.mem_filter, List.mem_range, decide_eq_true_iff, List.mem_flatMap]
  constructor
  · rintro ⟨_, f, ⟨hfa, hfs⟩, hn⟩
    have hv := (mem_allFaces g f).mp hfa
    obtain ⟨hd, h2, ⟨h3, h4⟩, h5, h6⟩ := (face_on_plane_iff h hv).mp hfs
    obtain ⟨c, c0, ca, cb, rfl⟩ := (mem_faceNodes g f hv.1 n).mp hn
    rw [hd] at c0 ca cb
    exact ⟨c, c0.trans h2, ⟨by omega, by omega⟩, ⟨by omega, by omega⟩, rfl⟩
  · rintro ⟨c, c0, ⟨ca0, ca1⟩, ⟨cb0, cb1⟩, rfl⟩
    have hbound : ∀ d, d < 3 → c.get d ≤ g.n d :=
      (forall_lt3_iff h.ho _).mpr ⟨c0 ▸ h.hk, Nat.le_trans ca1 h.ha.2, Nat.le_trans cb1 h.hb.2⟩
    refine ⟨idx3_lt _ _ _ c (hbound 0 (by omega)) (hbound 1 (by omega)) (hbound 2 (by omega)), ?_⟩
    -- a face of the rectangle that has the node as a corner
    obtain ⟨ta, hta1, hta2, hta3⟩ := exists_cell h.ha.1 ca0 ca1
    obtain ⟨tb, htb1, htb2, htb3⟩ := exists_cell h.hb.1 cb0 cb1
    obtain ⟨t, rfl, rfl, rfl⟩ := exists_T3 h.ho k0 ta tb
    have hv : g.ValidFace (o, t) := by
      rw [validFace_iff]
      refine ⟨h.ho, (forall_lt3_iff h.ho _).mpr ?_⟩
      rw [bound_self, bound_of_ne hao, bound_of_ne hbo]
      exact ⟨Nat.lt_succ_of_le h.hk, Nat.lt_of_lt_of_le hta2 h.ha.2, Nat.lt_of_lt_of_le htb2 h.hb.2⟩
    exact ⟨(o, t), ⟨(mem_allFaces g _).mpr hv, (face_on_plane_iff h hv).mpr ⟨rfl, rfl, ⟨hta1, hta2⟩, htb1, htb2⟩⟩,
      (mem_faceNodes g (o, t) h.ho _).mpr ⟨c, c0, hta3, htb3, rfl⟩⟩

theorem cartGridDispatch_eq (ndim : Nat) (phys : Option Nat) :
    cartGridDispatch ndim phys =
      if (ndim = 2 ∨ ndim = 3) ∧ (phys = none ∨ phys = some ndim) then .ok ndim else .error .valueError := by
  unfold cartGridDispatch
  rcases phys with _ | p
  · by_cases h2 : ndim = 2
    · simp [h2]
    · by_cases h3 : ndim = 3
      · simp [h3]
      · simp [h2, h3]
  · by_cases hp : p = ndim
    · subst hp
      by_cases h2 : p = 2
      · simp [h2]
      · by_cases h3 : p = 3
        · simp [h3]
        · simp [h2, h3]
    · simp [hp]

end PorepyVerif.C25
