/-
C15 — property theorems (statements only depend on Model.lean and, in the `Biot2` part, on C13's
Model.lean; helper lemmas in Lemmas.lean).

Property: the Biot displacement-divergence matrices applied to a linear displacement field give
div(u) times the cell volume exactly (times the coupling coefficient), and the scalar-gradient matrix
applied to a constant pressure gives exactly minus that pressure times each face's area-weighted
normal, scaled by the coupling coefficient.

The theorems of the first part hold for every dimension `d`, every cell (list of faces of any length),
every affine field, every coupling tensor; they are about one cell / one face and take exact sub-cell
gradients as a hypothesis.  The `Biot2` part is about the assembled 2-D scheme on `C13.GridS`, where that
hypothesis is a theorem.
-/
import PorepyVerif.C15.Lemmas
import PorepyVerif.C13.Props

namespace PorepyVerif.C15

open Finset

/-- the executable closed-cell test of the driver decides `ClosedCell` -/
theorem closedCellB_iff (d : Nat) (faces : List Face) (V : Rat) :
    closedCellB d faces V = true ↔ ClosedCell d faces V := by
  simp only [closedCellB, ClosedCell, Bool.and_eq_true, List.all_eq_true, List.mem_range, decide_eq_true_eq]

/-- The divergence theorem for the components of the affine field `u = A x + b` on a closed cell:
    `Σ_f n_f u_i(x_f) = V ∇u_i`. -/
theorem ClosedCell.moment {d : Nat} {faces : List Face} {V : Rat} (h : ClosedCell d faces V) (A : Mat) (b : Vec)
    (i : Nat) {k : Nat} (hk : k < d) : sumL faces (fun f => f.n k * affine d A b f.x i) = V * A i k := by
  have e : ∀ j, j < d → sumL faces (fun f => f.n k * (A i j * f.x j)) = A i j * (if k = j then V else 0) := by
    intro j hj
    rw [← h.2 k hk j hj, ← sumL_mul_left]
    exact sumL_congr (fun f _ => mul_left_comm _ _ _)
  unfold affine matVec
  -- summed over the faces, `n_k (Σ_j A_ij x_j + b_i)` is `Σ_j Σ_f n_k (A_ij x_j) + (Σ_f n_k) b_i`
  simp only [mul_add, ← sumN_mul_left, sumL_add, sumL_sumN]
  rw [sumN_congr e, sumN_delta hk, sumL_mul_right, h.1 k hk, zero_mul, add_zero, mul_comm]

/-- Divergence theorem on a closed polytope cell, tensor coupling:
    `Σ_f (α n_f)·u(x_f) = V (α : A)` for `u = A x + b`. -/
theorem div_u_exact_tensor (d : Nat) (al A : Mat) (b : Vec) (faces : List Face) (V : Rat)
    (h : ClosedCell d faces V) : fluxSum d al faces A b = V * ddot d al A := by
  rw [fluxSum_affine_moments]
  unfold ddot
  rw [← sumN_mul_left]
  refine sumN_congr (fun i _ => ?_)
  rw [← sumN_mul_left]
  exact sumN_congr (fun k hk => by rw [h.moment A b i hk, mul_left_comm])

/-- scalar coupling coefficient `a` (expanded to `a I` by `Biot.discretize`):
    `Σ_f (a n_f)·u(x_f) = a tr(A) V`. -/
theorem div_u_exact_alpha (d : Nat) (a : Rat) (A : Mat) (b : Vec) (faces : List Face) (V : Rat)
    (h : ClosedCell d faces V) : fluxSum d (iso a) faces A b = a * trace d A * V := by
  rw [div_u_exact_tensor d (iso a) A b faces V h, ddot_iso, mul_comm]

/-- HEADLINE (first half of the property): on a closed cell, `Σ_f n_f · u(x_f) = tr(A) V` for the affine
    field `u = A x + b`.  This is geometry only (no scheme occurs in the statement); the quantity the code
    computes is `divCell`, tied to this surface sum by `div_u_subcell_exact` / `div_u_scheme_exact`. -/
theorem div_u_exact (d : Nat) (A : Mat) (b : Vec) (faces : List Face) (V : Rat)
    (h : ClosedCell d faces V) :
    sumL faces (fun f => dot d f.n (affine d A b f.x)) = trace d A * V := by
  rw [← one_mul (trace d A), ← div_u_exact_alpha d 1 A b faces V h]
  refine sumL_congr (fun f _ => sumN_congr (fun i hi => ?_))
  rw [matVec_iso hi, one_mul]

/-- The displacement divergence AS CODED (sub-cell gradients weighted with `V / #sub-cells`, double dot
    with the coupling tensor): if every sub-cell gradient equals `A` (MPSA consistency, C13), the cell
    value is `V (α : A)`. -/
theorem div_u_subcell_exact (d : Nat) (al A : Mat) (V : Rat) (Gs : List Mat) (hne : Gs ≠ [])
    (hG : ∀ G ∈ Gs, ∀ i, i < d → ∀ j, j < d → G i j = A i j) :
    divCell d al V Gs = V * ddot d al A := by
  have hl : (Gs.length : Rat) ≠ 0 := Nat.cast_ne_zero.mpr (fun h0 => hne (List.length_eq_zero_iff.mp h0))
  unfold divCell ddot
  rw [sumL_congr (fun G hGm => by
      rw [sumN_congr (fun i hi => sumN_congr (fun j hj => by rw [hG G hGm i hi j hj]))]),
    sumL_const, ← mul_assoc, mul_div_cancel₀ V hl]

/-- scalar coefficient: the coded cell value is `a tr(A) V`. -/
theorem div_u_subcell_exact_alpha (d : Nat) (a : Rat) (A : Mat) (V : Rat) (Gs : List Mat) (hne : Gs ≠ [])
    (hG : ∀ G ∈ Gs, ∀ i, i < d → ∀ j, j < d → G i j = A i j) :
    divCell d (iso a) V Gs = a * trace d A * V := by
  rw [div_u_subcell_exact d (iso a) A V Gs hne hG, ddot_iso, mul_comm]

/-- coded volume form = surface form on a closed cell (what ties the sub-cell construction to `div u`). -/
theorem div_u_scheme_exact (d : Nat) (al A : Mat) (b : Vec) (faces : List Face) (V : Rat) (Gs : List Mat)
    (h : ClosedCell d faces V) (hne : Gs ≠ [])
    (hG : ∀ G ∈ Gs, ∀ i, i < d → ∀ j, j < d → G i j = A i j) :
    divCell d al V Gs = fluxSum d al faces A b := by
  rw [div_u_subcell_exact d al A V Gs hne hG, div_u_exact_tensor d al A b faces V h]

/-- HEADLINE (second half): the coded force on a face with `k ≥ 1` sub-faces from a constant pressure is
    `-p (n_fᵀ α)` … -/
theorem scalar_gradient_const (d : Nat) (n : Vec) (k : Nat) (hk : 0 < k) (al : Mat) (p : Rat) (j : Nat) :
    faceForce d n k al p j = -(p * vecMat d n al j) := by
  have hk' : (k : Rat) ≠ 0 := Nat.cast_ne_zero.mpr hk.ne'
  unfold faceForce subfaceForce
  rw [sumN_const, vecMat_scale, mul_neg, div_mul_eq_mul_div, mul_div_cancel₀ _ hk', mul_comm]

/-- … which for a scalar coefficient `a` is `-a p n_f`, component by component. -/
theorem scalar_gradient_const_iso (d : Nat) (n : Vec) (k : Nat) (hk : 0 < k) (a p : Rat) (j : Nat)
    (hj : j < d) : faceForce d n k (iso a) p j = -(a * p * n j) := by
  rw [scalar_gradient_const d n k hk, vecMat_iso hj, mul_left_comm, mul_assoc]

/-- The pressure forces of a constant pressure sum to zero over a closed cell. -/
theorem scalar_gradient_closed_sum_zero (d : Nat) (faces : List Face) (V : Rat) (ks : Face → Nat)
    (h : ClosedCell d faces V) (hks : ∀ f ∈ faces, 0 < ks f) (al : Mat) (p : Rat) (j : Nat) :
    sumL faces (fun f => faceForce d f.n (ks f) al p j) = 0 := by
  rw [sumL_congr (fun f hf => scalar_gradient_const d f.n (ks f) (hks f hf) al p j), sumL_neg, sumL_mul_left]
  unfold vecMat
  rw [sumL_sumN, sumN_congr (g := fun _ => 0) (fun i hi => by rw [sumL_mul_right, h.1 i hi, zero_mul]),
    sumN_zero, mul_zero, neg_zero]

/-- With the same coupling tensor and the same pressure on both sides of an interior sub-face the
    right-hand side of the local systems (`rhs_jumps`) vanishes … -/
theorem pressure_jump_zero (d : Nat) (n : Vec) (k : Nat) (al : Mat) (p : Rat) (j : Nat) :
    jumpRhs d n k al p al p j = 0 :=
  sub_self _

/-- … and so does every linear response to it (`hook * igrad * rhs_jumps`, the consistency term). -/
theorem applyRows_zero (L : List (List Rat)) (m : Nat) :
    applyRows L (List.replicate m 0) = List.replicate L.length 0 := by
  refine (List.map_congr_left (fun row _ => ?_)).trans List.map_const'
  rw [sumL_congr (h := fun _ => 0) (fun q hq => by
      rw [(List.mem_replicate.mp (List.of_mem_zip hq).2).2, mul_zero]), sumL_const, mul_zero]

/-! ### non-vacuity: a skew triangle (2-D) and the unit cube (3-D) -/

/-- triangle (0,0),(2,0),(1,3): outward edge normals, edge midpoints, area 3 -/
def triFaces : List Face :=
  [⟨vecOf [0, -2], vecOf [1, 0]⟩, ⟨vecOf [3, 1], vecOf [3/2, 3/2]⟩, ⟨vecOf [-3, 1], vecOf [1/2, 3/2]⟩]

def cubeFaces : List Face :=
  [⟨vecOf [-1, 0, 0], vecOf [0, 1/2, 1/2]⟩, ⟨vecOf [1, 0, 0], vecOf [1, 1/2, 1/2]⟩,
   ⟨vecOf [0, -1, 0], vecOf [1/2, 0, 1/2]⟩, ⟨vecOf [0, 1, 0], vecOf [1/2, 1, 1/2]⟩,
   ⟨vecOf [0, 0, -1], vecOf [1/2, 1/2, 0]⟩, ⟨vecOf [0, 0, 1], vecOf [1/2, 1/2, 1]⟩]

example : ClosedCell 2 triFaces 3 := (closedCellB_iff _ _ _).mp (by decide +kernel)
example : ClosedCell 3 cubeFaces 1 := (closedCellB_iff _ _ _).mp (by decide +kernel)
/-- a wrong volume is rejected: the hypothesis is not trivially true -/
example : ¬ ClosedCell 2 triFaces 2 := fun h => absurd ((closedCellB_iff _ _ _).mpr h) (by decide +kernel)

/-- `u = [[1/2, 1/4], [-1, 2]] x + (1, -1/2)` on the triangle: `Σ n·u = (1/2 + 2)·3 = 15/2` -/
example : sumL triFaces (fun f => dot 2 f.n (affine 2 (matOf [[1/2, 1/4], [-1, 2]]) (vecOf [1, -1/2]) f.x))
    = 15 / 2 := by decide +kernel
/-- tensor coupling on the cube: `α : A = 2·1 + (1/2)·3 + (1/2)·4 + 3·5 + 1·9 = 59/2` -/
example : fluxSum 3 (matOf [[2, 1/2, 0], [1/2, 3, 0], [0, 0, 1]]) cubeFaces
    (matOf [[1, 3, 2], [4, 5, 6], [7, 8, 9]]) (vecOf [1, 2, 3]) = 59 / 2 := by decide +kernel
/-- coded sub-cell form with three exact sub-cell gradients -/
example : divCell 2 (iso (3/4)) 3 (List.replicate 3 (matOf [[1/2, 1/4], [-1, 2]])) = 3/4 * (5/2) * 3 := by
  decide +kernel
/-- face force of the skew edge with normal (3,1), two sub-faces, α = 3/4, p = 2 -/
example : listOf 2 (faceForce 2 (vecOf [3, 1]) 2 (iso (3/4)) 2) = [-9/2, -3/2] := by decide +kernel
example : sumL triFaces (fun f => faceForce 2 f.n 2 (matOf [[2, 1/2], [1/2, 3]]) 5 0) = 0 := by decide +kernel
example : listOf 2 (jumpRhs 2 (vecOf [3, 1]) 2 (iso 1) 2 (iso 2) 2) = [-3, -1] := by decide +kernel

/-! ## Assembled 2-D statements: the hypothesis "sub-cell gradients are exact" is discharged by C13's certificates -/
namespace Biot2
open PorepyVerif.C13 PorepyVerif.C13.GridS

variable (G : C13.GridS)

/-- The assembled displacement divergence of cell `c` is exact as soon as `_eliminate_ncasym` does no harm to the
    field at the nodes of `c`. -/
theorem divU_affine (al : Nat → C13.Mat 2) (A : C13.Mat 2) (b : C13.Vec 2) (Ls : List C11.Mat)
    (hwf : G.WF) (hcert : G.certs = some Ls) (c : Nat) (hel : ∀ v ∈ nodesOfCell G c, G.ElimOK A v) :
    divU G al (G.nodeSol Ls (G.affineU A b) (G.affineBc A b)) c = cellVol G c * ddot2 (al c) A := by
  refine divU_const G al _ c A (fun v hv => ?_)
  have hv' := (mem_nodesOfCell G c v).mp hv
  exact G.node_gradient_exact_of_elimOK A b Ls hwf hcert v hv'.1 (hel v hv) _ (G.loc_lt v c hv'.2)

/-- **`biot2d_div_u_exact`.**  For EVERY well-formed 2-D grid all of whose interaction regions are certified
    nonsingular and whose boundary faces are all Dirichlet, the displacement divergence assembled as biot.py does
    (sub-cell gradients of the MPSA local solves, weight `V_c / #nodes`, double dot with the cell's coupling tensor)
    applied to the data of `u = A x + b` equals `V_c (α_c : A)` in every cell — exactness of the sub-cell gradients
    is a theorem here (`C13.GridS.node_gradient_exact_of_elimOK`), not a hypothesis.  Cell-wise varying `α` is allowed.
    The Dirichlet conditions serve only to keep `_eliminate_ncasym` off (`divU_affine`). -/
theorem biot2d_div_u_exact (al : Nat → C13.Mat 2) (A : C13.Mat 2) (b : C13.Vec 2) (Ls : List C11.Mat)
    (hwf : G.WF) (hcert : G.certs = some Ls) (hdir : allDir G = true) (c : Nat) :
    divU G al (G.nodeSol Ls (G.affineU A b) (G.affineBc A b)) c = cellVol G c * ddot2 (al c) A :=
  divU_affine G al A b Ls hwf hcert c (fun v _ => .of_not_elim (G.elimAt_false (isNeu_facesOf G hdir v)))

/-- the property's wording for a scalar coefficient: `div_u · u = α tr(A) V` -/
theorem biot2d_div_u_exact_alpha (al : Nat → C13.Mat 2) (a : Rat) (A : C13.Mat 2) (b : C13.Vec 2)
    (Ls : List C11.Mat) (hwf : G.WF) (hcert : G.certs = some Ls) (hdir : allDir G = true) (c : Nat)
    (hal : al c = iso2 a) :
    divU G al (G.nodeSol Ls (G.affineU A b) (G.affineBc A b)) c = a * C13.tr A * cellVol G c := by
  rw [biot2d_div_u_exact G al A b Ls hwf hcert hdir c, hal, ddot2_iso2, mul_comm]

/-- **`biot2d_grad_p_const`.**  For every 2-D grid without Neumann faces, a coupling tensor `α` that is the same
    in all cells and a constant pressure `p`, the assembled scalar gradient (Hooke's law of the pressure-induced
    local solves minus the first-side pressure force, summed over the sub-faces of the face) gives exactly
    `-p (n_fᵀ α)` on every face with at least one node.  Neither well-formedness nor the certificates are
    needed: the right-hand side of every local system vanishes, so `Ls` is arbitrary. -/
theorem biot2d_grad_p_const (Ls : List C11.Mat) (al : Nat → C13.Mat 2) (p : Nat → Rat) (al0 : C13.Mat 2) (p0 : Rat)
    (hal : ∀ c, al c = al0) (hp : ∀ c, p c = p0) (hdir : allDir G = true) (f : Nat) (hne : G.fnodes f ≠ [])
    (a : Fin 2) :
    gradP G al p (pSol G Ls al p) f a = -(p0 * (G.fnAt f 0 * al0 0 a + G.fnAt f 1 * al0 1 a)) := by
  have hN : G.nN f ≠ 0 := Nat.cast_ne_zero.mpr (fun h0 => hne (List.length_eq_zero_iff.mp h0))
  unfold gradP
  rw [sumList_const _ _ (-nAlphaP G al p f (G.firstCell f) a) (fun v _ => by
      unfold GridS.subTr
      rw [pSol_zero G hal hp Ls (isNeu_facesOf G hdir v), subTraction_zero, zero_sub]),
    nAlphaP_eq, hal, hp, mul_neg]
  exact congrArg Neg.neg (mul_div_cancel₀ _ hN)

/-- scalar coefficient: `-α p n_f`, component by component -/
theorem biot2d_grad_p_const_iso (Ls : List C11.Mat) (al : Nat → C13.Mat 2) (p : Nat → Rat) (a0 p0 : Rat)
    (hal : ∀ c, al c = iso2 a0) (hp : ∀ c, p c = p0) (hdir : allDir G = true) (f : Nat) (hne : G.fnodes f ≠ [])
    (a : Fin 2) :
    gradP G al p (pSol G Ls al p) f a = -(a0 * p0 * G.fnAt f a) := by
  rw [biot2d_grad_p_const G Ls al p (iso2 a0) p0 hal hp hdir f hne a]
  rcases fin2_cases a with rfl | rfl
  · show -(p0 * (G.fnAt f 0 * a0 + G.fnAt f 1 * 0)) = _
    ring
  · show -(p0 * (G.fnAt f 0 * 0 + G.fnAt f 1 * a0)) = _
    ring

/-- … and the consistency (stabilisation) term annihilates constant pressures -/
theorem biot2d_stab_const (Ls : List C11.Mat) (al : Nat → C13.Mat 2) (p : Nat → Rat) (al0 : C13.Mat 2) (p0 : Rat)
    (hal : ∀ c, al c = al0) (hp : ∀ c, p c = p0) (hdir : allDir G = true) (c : Nat) :
    stab G al (pSol G Ls al p) c = 0 := by
  unfold stab
  rw [divU_const G al _ c (fun _ _ => 0) (fun v _ => by rw [pSol_zero G hal hp Ls (isNeu_facesOf G hdir v)])]
  unfold ddot2
  ring

/-! non-vacuity: C13's two-square grid with all boundary faces Dirichlet is well-formed, certified, all-Dirichlet;
    the assembled terms are what the theorems say (cell volume 1, α = diag-dominant tensor, resp. 3/4 I) -/
def exGrid : C13.GridS :=
  { nodes := [[0, 0], [1, 0], [2, 0], [0, 1], [1, 1], [2, 1]],
    faceNodes := [[0, 3], [1, 4], [2, 5], [0, 1], [1, 2], [3, 4], [4, 5]],
    faceCells := [[(0, -1)], [(0, 1), (1, -1)], [(1, 1)], [(0, -1)], [(1, -1)], [(0, 1)], [(1, 1)]],
    cellCenters := [[1/2, 1/2], [3/2, 1/2]],
    faceCenters := [[0, 1/2], [1, 1/2], [2, 1/2], [1/2, 0], [3/2, 0], [1/2, 1], [3/2, 1]],
    faceNormals := [[1, 0], [1, 0], [1, 0], [0, 1], [0, 1], [0, 1], [0, 1]],
    volShare := [1/4, 1/4],
    isDir := [true, false, true, true, true, true, true],
    eta := 0, lam := 3/2, mu := 3/4 }

def exAl : Nat → C13.Mat 2 := fun c => if c = 0 then matOfLists [[2, 1/2], [1/2, 3]] else iso2 (3/4)
def exA2 : C13.Mat 2 := matOfLists [[1/2, 1/4], [-1, 2]]
def exb2 : C13.Vec 2 := vecOfList [1, -1/2]

/-- `exGrid` is C13's `exGridDir` up to the Dirichlet flag of the interior face 1, which the model never reads -/
theorem exGrid_certs : exGrid.certs = some exLsDir :=
  (exGridDir.certs_setDir [true, false, true, true, true, true, true] (by decide)).trans exGridDir_certs

example : exGrid.WF ∧ allDir exGrid = true ∧ exGrid.certs.isSome = true ∧ cellVol exGrid 0 = 1 ∧
    exGrid.certs.map (fun Ls => [0, 1].map (divU exGrid exAl (exGrid.nodeSol Ls (exGrid.affineU exA2 exb2) (exGrid.affineBc exA2 exb2))))
      = some [2 * (1/2) + (1/2) * (1/4) + (1/2) * (-1) + 3 * 2, 3/4 * (5/2)] ∧
    exGrid.certs.map (fun Ls => vecToList (gradP exGrid (fun _ => iso2 (3/4)) (fun _ => 2) (pSol exGrid Ls (fun _ => iso2 (3/4)) (fun _ => 2)) 1))
      = some [-(3/2), 0] := by
  rw [exGrid_certs]
  decide +kernel

end Biot2

end PorepyVerif.C15
