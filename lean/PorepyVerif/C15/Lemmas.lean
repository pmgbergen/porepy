/-
C15 — `sumN` / `sumL` as big operators and the algebra of `iso` and `vecMat` built on them; for the
assembled 2-D terms (`Biot2`): the divergence of a cell whose nodes all carry the same gradient, and that
a uniform pressure puts nothing into the local system of a node without Neumann faces.
-/
import PorepyVerif.C15.Model
import PorepyVerif.C13.Props
import Mathlib.Algebra.BigOperators.Ring.Finset
import Mathlib.Algebra.Field.Rat
import Mathlib.Tactic.Ring

namespace PorepyVerif.C15

open Finset

theorem sumN_eq (n : Nat) (f : Nat → Rat) : sumN n f = ∑ i ∈ range n, f i := by
  induction n with
  | zero => rfl
  | succ n ih => rw [sumN, ih, sum_range_succ]

theorem sumN_congr {n : Nat} {f g : Nat → Rat} (h : ∀ i, i < n → f i = g i) : sumN n f = sumN n g := by
  rw [sumN_eq, sumN_eq]
  exact sum_congr rfl (fun i hi => h i (mem_range.mp hi))

theorem sumN_const (n : Nat) (c : Rat) : sumN n (fun _ => c) = (n : Rat) * c := by
  rw [sumN_eq, sum_const, card_range, nsmul_eq_mul]

theorem sumN_zero (n : Nat) : sumN n (fun _ => (0 : Rat)) = 0 := by
  rw [sumN_const, mul_zero]

theorem sumN_mul_left (n : Nat) (c : Rat) (f : Nat → Rat) : sumN n (fun i => c * f i) = c * sumN n f := by
  rw [sumN_eq, sumN_eq, mul_sum]

theorem sumN_delta {n i : Nat} (hi : i < n) (g : Nat → Rat) (V : Rat) :
    sumN n (fun j => g j * (if i = j then V else 0)) = g i * V := by
  simp only [sumN_eq, mul_ite, mul_zero, sum_ite_eq, mem_range, hi, if_true]

section sumL
variable {α : Type} (l : List α)

theorem sumL_eq (g : α → Rat) : sumL l g = (l.map g).sum := by
  induction l with
  | nil => rfl
  | cons a l ih => rw [sumL, ih, List.map_cons, List.sum_cons]

theorem sumL_add (g h : α → Rat) : sumL l (fun a => g a + h a) = sumL l g + sumL l h := by
  simp only [sumL_eq, List.sum_map_add]

theorem sumL_mul_left (c : Rat) (g : α → Rat) : sumL l (fun a => c * g a) = c * sumL l g := by
  simp only [sumL_eq, List.sum_map_mul_left]

theorem sumL_mul_right (g : α → Rat) (c : Rat) : sumL l (fun a => g a * c) = sumL l g * c := by
  simp only [sumL_eq, List.sum_map_mul_right]

theorem sumL_neg (g : α → Rat) : sumL l (fun a => -g a) = -sumL l g := by
  simpa only [neg_one_mul] using sumL_mul_left l (-1) g

theorem sumL_const (c : Rat) : sumL l (fun _ => c) = (l.length : Rat) * c := by
  rw [sumL_eq, List.map_const', List.sum_replicate, nsmul_eq_mul]

variable {l} in
theorem sumL_congr {g h : α → Rat} (e : ∀ a ∈ l, g a = h a) : sumL l g = sumL l h := by
  rw [sumL_eq, sumL_eq, List.map_congr_left e]

theorem sumL_finset (s : Finset Nat) (F : α → Nat → Rat) :
    sumL l (fun a => ∑ i ∈ s, F a i) = ∑ i ∈ s, sumL l (fun a => F a i) := by
  induction l with
  | nil => exact sum_const_zero.symm
  | cons a l ih => simp only [sumL, ih, sum_add_distrib]

theorem sumL_sumN (n : Nat) (F : α → Nat → Rat) :
    sumL l (fun a => sumN n (F a)) = sumN n (fun i => sumL l (fun a => F a i)) := by
  simp only [sumN_eq, sumL_finset]

end sumL

theorem matVec_iso {d i : Nat} (hi : i < d) (a : Rat) (n : Vec) : matVec d (iso a) n i = a * n i := by
  unfold matVec iso
  simp only [sumN_eq, ite_mul, zero_mul, sum_ite_eq, mem_range, hi, if_true]

theorem vecMat_iso {d j : Nat} (hj : j < d) (a : Rat) (n : Vec) : vecMat d n (iso a) j = a * n j := by
  unfold vecMat iso
  simp only [sumN_eq, mul_ite, mul_zero, sum_ite_eq', mem_range, hj, if_true, mul_comm]

theorem ddot_iso (d : Nat) (a : Rat) (A : Mat) : ddot d (iso a) A = a * trace d A := by
  unfold ddot trace
  rw [sumN_eq, sumN_eq, mul_sum]
  -- the `i`-th summand of `ddot` is `matVec d (iso a) (A i) i`
  exact sum_congr rfl (fun i hi => matVec_iso (mem_range.mp hi) a (A i))

theorem vecMat_scale (d : Nat) (n : Vec) (c : Rat) (al : Mat) (j : Nat) :
    vecMat d (fun i => n i / c) al j = vecMat d n al j / c := by
  unfold vecMat
  rw [sumN_eq, sumN_eq, div_eq_mul_inv, sum_mul]
  exact sum_congr rfl (fun i _ => by rw [div_mul_eq_mul_div, div_eq_mul_inv])

/-- any cell: the surface sum only depends on the moments `Σ_f n_f u_i(x_f)` of the components of `u = A x + b` -/
theorem fluxSum_affine_moments (d : Nat) (al A : Mat) (b : Vec) (faces : List Face) :
    fluxSum d al faces A b
      = sumN d (fun i => sumN d (fun k => al i k * sumL faces (fun f => f.n k * affine d A b f.x i))) := by
  unfold fluxSum dot matVec
  rw [sumL_sumN]
  refine sumN_congr (fun i _ => ?_)
  simp only [sumN_eq, sum_mul, mul_assoc, sumL_finset, sumL_mul_left]

/-- … expanded into the geometric moments `Σ_f n_k x_j` and `Σ_f n_k` of the cell, the only way the faces enter -/
theorem fluxSum_moments (d : Nat) (al A : Mat) (b : Vec) (faces : List Face) :
    fluxSum d al faces A b =
      ∑ i ∈ range d, ∑ k ∈ range d,
        ((∑ j ∈ range d, al i k * A i j * sumL faces (fun f => f.n k * f.x j))
          + al i k * b i * sumL faces (fun f => f.n k)) := by
  rw [fluxSum_affine_moments]
  unfold affine matVec
  simp only [sumN_eq]
  refine sum_congr rfl fun i _ => sum_congr rfl fun k _ => ?_
  -- `Σ_f n_k (Σ_j A_ij x_j + b_i)` with the sums over `j` and over the faces exchanged
  simp only [mul_add, mul_sum, sumL_add, sumL_finset, sumL_mul_right, mul_left_comm (Face.n _ k), sumL_mul_left]
  rw [mul_comm _ (b i)]
  simp only [mul_assoc]

namespace Biot2
open PorepyVerif.C13 PorepyVerif.C13.GridS

variable (G : C13.GridS)

theorem isNeu_facesOf (h : allDir G = true) (v : Nat) : ∀ f ∈ G.facesOf v, G.isNeu f = false := by
  intro f hf
  simpa using List.all_eq_true.mp h f (List.mem_range.mpr ((G.mem_facesOf v f).mp hf).1)

theorem mem_nodesOfCell (c v : Nat) : v ∈ nodesOfCell G c ↔ v < G.numNodes ∧ c ∈ G.cellsOf v := by
  simp only [nodesOfCell, List.mem_filter, List.mem_range, List.contains_iff_mem]

theorem divU_const (al : Nat → C13.Mat 2) (sol : Nat → NodeSol) (c : Nat) (g : C13.Mat 2)
    (h : ∀ v ∈ nodesOfCell G c, (sol v).Gs (G.loc v c) = g) :
    divU G al sol c = cellVol G c * ddot2 (al c) g := by
  unfold divU cellVol
  rw [sumList_const _ _ (G.volShare.getD c 0 * ddot2 (al c) g) (fun v hv => by rw [h v hv]), mul_assoc]

theorem ddot2_iso2 (a : Rat) (A : C13.Mat 2) : ddot2 (iso2 a) A = a * C13.tr A := by
  show a * A 0 0 + 0 * A 0 1 + 0 * A 1 0 + a * A 1 1 = a * (A 0 0 + (A 1 1 + 0))
  ring

theorem dot_zero_right (r g : List Rat) (h : ∀ x ∈ g, x = 0) : C11.dot r g = 0 := by
  fun_induction C11.dot r g with
  | case1 a r y g ih =>
    rw [h y List.mem_cons_self, ih (fun x hx => h x (List.mem_cons_of_mem _ hx)), mul_zero, add_zero]
  | case2 => rfl

theorem getD_zero_of_all (y : List Rat) (h : ∀ x ∈ y, x = 0) (i : Nat) : y.getD i 0 = 0 := by
  rw [List.getD_eq_getElem?_getD]
  cases hi : y[i]? with
  | none => rfl
  | some x => exact h x (List.mem_of_getElem? hi)

section uniform
variable {al : Nat → C13.Mat 2} {p : Nat → Rat} {al0 : C13.Mat 2} {p0 : Rat}
  (hal : ∀ c, al c = al0) (hp : ∀ c, p c = p0)
include hal hp

/-- uniform coupling tensor and pressure: nothing enters the local systems through a face that is not Neumann -/
theorem pRow_zero {f : Nat} (hn : G.isNeu f = false) : ∀ x ∈ pRow G al p f, x = 0 := by
  unfold pRow
  split
  · rename_i c s heq
    have hd : G.dirAt f = true := by simpa [GridS.isNeu, GridS.isBoundary, heq] using hn
    rw [if_pos hd]
    simp
  · -- interior face: the two sides carry the same pressure force
    simp [nAlphaP, hal, hp]
  · simp

/-- … so at a node without Neumann faces the pressure right-hand side of the local system vanishes, and with it the
    induced sub-cell gradients (for ANY matrix in place of the inverse) -/
theorem pSol_zero (Ls : List C11.Mat) {v : Nat} (hn : ∀ f ∈ G.facesOf v, G.isNeu f = false) :
    (pSol G Ls al p v).Gs = fun _ _ _ => 0 := by
  funext k i j
  refine getD_zero_of_all _ (fun x hx => ?_) _
  obtain ⟨r, _, rfl⟩ := List.mem_map.mp hx
  refine dot_zero_right _ _ (fun y hy => ?_)
  obtain ⟨f, hf, hyf⟩ := List.mem_flatMap.mp hy
  exact pRow_zero G hal hp (hn f hf) y hyf

end uniform

theorem nAlphaP_eq (al : Nat → C13.Mat 2) (p : Nat → Rat) (f c : Nat) (j : Fin 2) :
    nAlphaP G al p f c j = p c * (G.fnAt f 0 * al c 0 j + G.fnAt f 1 * al c 1 j) / G.nN f := by
  unfold nAlphaP GridS.subNormal
  ring

end Biot2

end PorepyVerif.C15
