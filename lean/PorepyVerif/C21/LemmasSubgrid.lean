/-
C21 — the topologies that are built from others: sorting and renumbering in `extractSubgrid`
(membership and duplicate-freeness of the restricted incidence, well-formedness for any
renumbering), the entries of `splitFace` and of the 1-d constructor.
-/
import PorepyVerif.C21.Lemmas
import PorepyVerif.Common.List
import PorepyVerif.Common.InsSort

namespace PorepyVerif.C21

theorem insSort : Common.InsSort (· ≤ ·) insertSorted isort :=
  .of_ite Nat.le_trans Nat.le_of_not_le (fun _ => rfl) (fun _ _ _ => rfl) rfl (fun _ _ => rfl)

theorem mem_isort (x : Nat) (l : List Nat) : x ∈ isort l ↔ x ∈ l := (insSort.perm l).mem_iff

theorem nodup_isort (l : List Nat) (hl : l.Nodup) : (isort l).Nodup := (insSort.perm l).nodup_iff.mpr hl

theorem mem_uniqueSorted (x : Nat) (l : List Nat) : x ∈ uniqueSorted l ↔ x ∈ l := by
  unfold uniqueSorted; rw [mem_dedup, mem_isort]

theorem nodup_uniqueSorted (l : List Nat) : (uniqueSorted l).Nodup := nodup_dedup _

theorem mem_subEntries (cf : List Inc) (j : Nat) (cs : List Nat) (x : Inc) :
    x ∈ subEntries cf j cs ↔ ∃ i c e, cs[i]? = some c ∧ e ∈ cf ∧ e.cell = c ∧ x = ⟨e.face, j + i, e.sign⟩ := by
  induction cs generalizing j with
  | nil => simp [subEntries]
  | cons c cs ih =>
    simp only [subEntries, List.mem_append, List.mem_map, List.mem_filter, beq_iff_eq, ih]
    constructor
    · rintro (⟨e, ⟨he, hc⟩, rfl⟩ | ⟨i, c', e, hi, he, hc, hx⟩)
      · exact ⟨0, c, e, rfl, he, hc, rfl⟩
      · exact ⟨i + 1, c', e, hi, he, hc, by rw [hx, Nat.add_right_comm, Nat.add_assoc]⟩
    · rintro ⟨i, c', e, hi, he, hc, hx⟩
      cases i with
      | zero => exact Or.inl ⟨e, ⟨he, hc.trans (Option.some.inj hi).symm⟩, hx.symm⟩
      | succ i => exact Or.inr ⟨i, c', e, hi, he, hc, by rw [hx, Nat.add_right_comm, Nat.add_assoc]⟩

theorem nodup_subEntries (cf : List Inc) (hcf : cf.Nodup) (j : Nat) (cs : List Nat) :
    (subEntries cf j cs).Nodup := by
  induction cs generalizing j with
  | nil => simp [subEntries]
  | cons c cs ih =>
    unfold subEntries
    rw [List.nodup_append]
    refine ⟨?_, ih (j + 1), ?_⟩
    · apply nodup_map_of_inj_on _ _ _ (List.Nodup.sublist List.filter_sublist hcf)
      intro a ha b hb hab
      simp only [List.mem_filter, beq_iff_eq] at ha hb
      have hab := Inc.mk.inj hab
      exact Inc.ext' hab.1 (ha.2.trans hb.2.symm) hab.2.2
    · intro a ha b hb hab
      obtain ⟨e, _, hx⟩ := List.mem_map.mp ha
      obtain ⟨i, c', e', _, _, _, hy⟩ := (mem_subEntries cf (j + 1) cs b).mp hb
      have h1 : a.cell = j := by rw [← hx]
      have h2 : b.cell = j + 1 + i := by rw [hy]
      rw [hab] at h1; omega

/-- moving entries to other faces, by a map that sends entries of different faces to different
    faces, keeps the pairwise uniqueness and duplicate-freeness of a list of entries -/
theorem relabel_props (l : List Inc) (g : Inc → Inc)
    (hs : ∀ e, (g e).sign = e.sign) (hc : ∀ e, (g e).cell = e.cell)
    (hg : ∀ e ∈ l, ∀ e' ∈ l, (g e).face = (g e').face → e.face = e'.face)
    (hu : PairUnique l) (hn : l.Nodup) : PairUnique (l.map g) ∧ (l.map g).Nodup := by
  have key : ∀ e1 ∈ l, ∀ e2 ∈ l, (g e1).face = (g e2).face →
      ((g e1).sign = (g e2).sign ∨ (g e1).cell = (g e2).cell) → e1 = e2 := by
    intro e1 h1 e2 h2 hf hsc
    rw [hs, hs, hc, hc] at hsc
    exact hu e1 h1 e2 h2 (hg e1 h1 e2 h2 hf) hsc
  constructor
  · intro a ha b hb hf hsc
    obtain ⟨e1, h1, rfl⟩ := List.mem_map.mp ha
    obtain ⟨e2, h2, rfl⟩ := List.mem_map.mp hb
    rw [key e1 h1 e2 h2 hf hsc]
  · exact nodup_map_of_inj_on _ _ (fun a ha b hb hab => key a ha b hb (by rw [hab]) (Or.inl (by rw [hab]))) hn

theorem pairUnique_subEntries {cf : List Inc} (hu : PairUnique cf) {cs : List Nat} (hcs : cs.Nodup)
    (j : Nat) : PairUnique (subEntries cf j cs) := by
  intro a ha b hb hf hsc
  obtain ⟨i1, c1, e1, hi1, he1, hc1, rfl⟩ := (mem_subEntries _ _ _ a).mp ha
  obtain ⟨i2, c2, e2, hi2, he2, hc2, rfl⟩ := (mem_subEntries _ _ _ b).mp hb
  simp only at hf hsc
  rcases hsc with hs | hcell
  · have := hu e1 he1 e2 he2 hf (Or.inl hs)
    subst this
    obtain ⟨hlt, _⟩ := List.getElem?_eq_some_iff.mp hi1
    have : i1 = i2 := (List.getElem?_inj hlt hcs).mp (by rw [hi1, hi2, ← hc1, ← hc2])
    rw [this]
  · have hi : i1 = i2 := Nat.add_left_cancel hcell
    subst hi
    rw [hi1] at hi2
    rw [hu e1 he1 e2 he2 hf (Or.inr (hc1.trans ((Option.some.inj hi2).trans hc2.symm)))]

/-- the subgrid incidence is well-formed whatever duplicate-free cell list `cs` and whatever face
    list `uf` containing the faces of those cells are used for the renumbering -/
theorem wf_subgrid {t : Topo} (h : WF t) {cs : List Nat} (hcs : cs.Nodup) {uf : List Nat}
    (huf : ∀ x ∈ subEntries t.cf 0 cs, x.face ∈ uf) {fn : List (List Nat)}
    (hfn : fn.length = uf.length) (dim nn : Nat) :
    WF { dim := dim, nf := uf.length, nc := cs.length, nn := nn,
         cf := (subEntries t.cf 0 cs).map (fun e => ⟨uf.idxOf e.face, e.cell, e.sign⟩), fn := fn } := by
  obtain ⟨hu, hn⟩ := relabel_props (subEntries t.cf 0 cs) (fun e => ⟨uf.idxOf e.face, e.cell, e.sign⟩)
    (fun _ => rfl) (fun _ => rfl) (fun e he e' _ hidx => Common.idxOf_inj (huf e he) hidx)
    (pairUnique_subEntries h.pairUnique hcs 0) (nodup_subEntries t.cf h.nodup 0 cs)
  refine ⟨?_, hu, hn, hfn⟩
  intro a ha
  obtain ⟨x, hx, rfl⟩ := List.mem_map.mp ha
  obtain ⟨i, c, e, hi, he, _, rfl⟩ := (mem_subEntries _ _ _ x).mp hx
  obtain ⟨hlt, _⟩ := List.getElem?_eq_some_iff.mp hi
  exact ⟨(h.1 e he).1, List.idxOf_lt_length_iff.mpr (huf _ hx), (Nat.zero_add i).symm ▸ hlt⟩

/-- the face map returned by `extractSubgrid` lists the faces of the selected cells -/
theorem mem_extractSubgrid_faces {t : Topo} {cells : List Nat} {f : Nat} :
    f ∈ (extractSubgrid t cells).2.1 ↔ ∃ x ∈ subEntries t.cf 0 (isort cells), x.face = f := by
  simp only [extractSubgrid, mem_uniqueSorted, List.mem_map]

theorem extractSubgrid_cf (t : Topo) (cells : List Nat) :
    (extractSubgrid t cells).1.cf = (subEntries t.cf 0 (isort cells)).map
      (fun e => ⟨(extractSubgrid t cells).2.1.idxOf e.face, e.cell, e.sign⟩) := rfl

/-- the incidence after the split, entry by entry: the entry of cell `c` on face `f` sits on the
    new face `t.nf`, every other entry is where it was -/
theorem mem_splitFace_cf {t : Topo} {f c : Nat} {x : Inc} :
    x ∈ (splitFace t f c).cf ↔
      (x.face = t.nf ∧ x.cell = c ∧ (⟨f, c, x.sign⟩ : Inc) ∈ t.cf) ∨
      (x ∈ t.cf ∧ ¬(x.face = f ∧ x.cell = c)) := by
  simp only [splitFace, List.mem_map]
  constructor
  · rintro ⟨e, he, rfl⟩
    by_cases m : e.face = f ∧ e.cell = c
    · rw [if_pos m]
      exact Or.inl ⟨rfl, m.2, mem_of_fields he m.1 m.2 rfl⟩
    · rw [if_neg m]
      exact Or.inr ⟨he, m⟩
  · rintro (⟨hf, hc, hm⟩ | ⟨hx, m⟩)
    · exact ⟨_, hm, by rw [if_pos ⟨rfl, rfl⟩, ← hf, ← hc]⟩
    · exact ⟨x, hx, if_neg m⟩

theorem lineCf_eq_flatMap (n : Nat) :
    lineCf n = (List.range n).flatMap fun c => [⟨c, c, -1⟩, ⟨c + 1, c, 1⟩] := by
  induction n with
  | zero => rfl
  | succ n ih => rw [lineCf, ih, List.range_succ, List.flatMap_append, List.flatMap_singleton]

theorem mem_lineCf (n : Nat) (e : Inc) :
    e ∈ lineCf n ↔ e.cell < n ∧ ((e.face = e.cell ∧ e.sign = -1) ∨ (e.face = e.cell + 1 ∧ e.sign = 1)) := by
  simp only [lineCf_eq_flatMap, List.mem_flatMap, List.mem_range, List.mem_cons, List.not_mem_nil, or_false]
  constructor
  · rintro ⟨c, hc, rfl | rfl⟩
    · exact ⟨hc, Or.inl ⟨rfl, rfl⟩⟩
    · exact ⟨hc, Or.inr ⟨rfl, rfl⟩⟩
  · rintro ⟨hc, ⟨hf, hs⟩ | ⟨hf, hs⟩⟩
    · exact ⟨e.cell, hc, Or.inl (Inc.ext' hf rfl hs)⟩
    · exact ⟨e.cell, hc, Or.inr (Inc.ext' hf rfl hs)⟩

theorem nodup_lineCf (n : Nat) : (lineCf n).Nodup := by
  induction n with
  | zero => simp [lineCf]
  | succ n ih =>
    unfold lineCf
    rw [List.nodup_append]
    refine ⟨ih, by simp, ?_⟩
    intro a ha b hb hab
    have h1 := ((mem_lineCf n a).mp ha).1
    simp only [List.mem_cons, List.not_mem_nil, or_false] at hb
    rcases hb with rfl | rfl <;> (rw [hab] at h1; simp at h1)

end PorepyVerif.C21
