/-
C21 — what the queries of Model.lean do on each form of input (rows of the incidence, dense rows,
triplets and their Kronecker blocks), and what well-formedness gives: a face has at most one cell
per sign.  Tag dictionaries are in LemmasTags, the topologies that are built (subgrid, split face,
1-d line) in LemmasSubgrid.
-/
import PorepyVerif.C21.Model

namespace PorepyVerif.C21

theorem mem_entriesOf {cf : List Inc} {f : Nat} {e : Inc} :
    e ∈ entriesOf cf f ↔ e ∈ cf ∧ e.face = f := by
  simp [entriesOf]

theorem mem_of_fields {cf : List Inc} {e : Inc} (he : e ∈ cf) {f c : Nat} {s : Int}
    (hf : e.face = f) (hc : e.cell = c) (hs : e.sign = s) : (⟨f, c, s⟩ : Inc) ∈ cf := by
  subst hf hc hs
  exact he

theorem Inc.ext' {a b : Inc} (hf : a.face = b.face) (hc : a.cell = b.cell) (hs : a.sign = b.sign) :
    a = b := by
  cases a; cases b; cases hf; cases hc; cases hs; rfl

theorem nodup_entriesOf {cf : List Inc} (h : cf.Nodup) (f : Nat) : (entriesOf cf f).Nodup :=
  List.Nodup.sublist List.filter_sublist h

theorem WF.sign {t : Topo} (h : WF t) {e : Inc} (he : e ∈ t.cf) : e.sign = 1 ∨ e.sign = -1 :=
  (h.1 e he).1

/-- the second clause of `WF`, for any list of entries: entries of one face with the same sign, or
    the same cell, are the same entry -/
def PairUnique (l : List Inc) : Prop :=
  ∀ e ∈ l, ∀ e' ∈ l, e.face = e'.face → (e.sign = e'.sign ∨ e.cell = e'.cell) → e = e'

theorem WF.pairUnique {t : Topo} (h : WF t) : PairUnique t.cf := h.2.1

theorem WF.uniq {t : Topo} (h : WF t) {e e' : Inc} (he : e ∈ t.cf) (he' : e' ∈ t.cf)
    (hf : e.face = e'.face) (hs : e.sign = e'.sign ∨ e.cell = e'.cell) : e = e' :=
  h.pairUnique e he e' he' hf hs

theorem WF.nodup {t : Topo} (h : WF t) : t.cf.Nodup := h.2.2.1

theorem WF.cell_unique {t : Topo} (h : WF t) {f c c' : Nat} {s : Int}
    (h1 : (⟨f, c, s⟩ : Inc) ∈ t.cf) (h2 : (⟨f, c', s⟩ : Inc) ∈ t.cf) : c = c' :=
  (Inc.mk.inj (h.uniq h1 h2 rfl (Or.inl rfl))).2.1

theorem third_sign {x y z : Int} (hx : x = 1 ∨ x = -1) (hy : y = 1 ∨ y = -1) (hz : z = 1 ∨ z = -1)
    (hxy : x ≠ y) (hyz : y ≠ z) : x = z := by
  rcases hx with rfl | rfl <;> rcases hy with rfl | rfl <;> rcases hz with rfl | rfl <;> simp at *

theorem WF.cell_eq_or_eq {t : Topo} (h : WF t) {f c c₂ c' : Nat} {s s₂ s' : Int}
    (h1 : (⟨f, c, s⟩ : Inc) ∈ t.cf) (h2 : (⟨f, c₂, s₂⟩ : Inc) ∈ t.cf) (hne : c ≠ c₂)
    (h' : (⟨f, c', s'⟩ : Inc) ∈ t.cf) : c' = c ∨ c' = c₂ := by
  have hs : s ≠ s₂ := fun e => hne (h.cell_unique h1 (e ▸ h2))
  by_cases e : s' = s
  · exact Or.inl (h.cell_unique h' (e ▸ h1))
  · have e₂ : s' = s₂ := third_sign (h.sign h') (h.sign h1) (h.sign h2) e hs
    exact Or.inr (h.cell_unique h' (e₂ ▸ h2))

theorem length_le_one_of_all_eq {α : Type} {l : List α} (hn : l.Nodup)
    (h : ∀ a ∈ l, ∀ b ∈ l, a = b) : l.length ≤ 1 := by
  match l, hn, h with
  | [], _, _ => simp
  | [_], _, _ => simp
  | a :: b :: _, hn, h =>
    have hab : a = b := h a (by simp) b (by simp)
    rw [List.nodup_cons] at hn
    exact absurd (by rw [hab]; simp) hn.1

theorem eq_singleton_of_mem_of_length_le_one {α : Type} {l : List α} {x : α} (hx : x ∈ l)
    (hl : l.length ≤ 1) : l = [x] := by
  obtain ⟨y, rfl⟩ := List.length_eq_one_iff.mp (Nat.le_antisymm hl (List.length_pos_of_mem hx))
  rw [List.mem_singleton.mp hx]

theorem nodup_map_of_inj_on {α β : Type} (f : α → β) (l : List α)
    (hf : ∀ a ∈ l, ∀ b ∈ l, f a = f b → a = b) (hl : l.Nodup) : (l.map f).Nodup := by
  rw [List.Nodup, List.pairwise_map]
  exact hl.imp_of_mem fun ha hb hne e => hne (hf _ ha _ hb e)

/-- in a well-formed topology the entries of one face carry pairwise different signs -/
theorem WF.nodup_signs {t : Topo} (h : WF t) (f : Nat) : ((entriesOf t.cf f).map (·.sign)).Nodup := by
  refine nodup_map_of_inj_on _ _ (fun a ha b hb e => ?_) (nodup_entriesOf h.nodup f)
  rw [mem_entriesOf] at ha hb
  exact h.uniq ha.1 hb.1 (ha.2.trans hb.2.symm) (Or.inl e)

theorem WF.count_le_two {t : Topo} (h : WF t) (f : Nat) : count t f ≤ 2 := by
  -- the signs of the row are different members of `[1, -1]`
  have hsub : (entriesOf t.cf f).map (·.sign) ⊆ [1, -1] := by
    intro s hs
    obtain ⟨e, he, rfl⟩ := List.mem_map.mp hs
    simpa using h.sign (mem_entriesOf.mp he).1
  have := (h.nodup_signs f).length_le_of_subset hsub
  rwa [List.length_map] at this

/-- positive numbers add up to at least their number, and to exactly their number only if all are 1:
    what the size test of `signsAndCells` can tell -/
theorem length_le_sum {l : List Nat} (h : ∀ x ∈ l, 1 ≤ x) :
    l.length ≤ l.sum ∧ (l.sum = l.length → ∀ x ∈ l, x = 1) := by
  induction l with
  | nil => exact ⟨Nat.le_refl 0, fun _ _ hx => nomatch hx⟩
  | cons a l ih =>
    obtain ⟨ha, hl⟩ := List.forall_mem_cons.mp h
    obtain ⟨hle, hall⟩ := ih hl
    rw [List.sum_cons, List.length_cons, List.forall_mem_cons]
    refine ⟨by omega, fun e => ?_⟩
    -- `a + l.sum = l.length + 1` with `1 ≤ a` and `l.length ≤ l.sum` leaves no slack
    have : a = 1 ∧ l.sum = l.length := by omega
    exact ⟨this.1, hall this.2⟩

theorem mem_boundaryFaces {t : Topo} {f : Nat} :
    f ∈ boundaryFaces t ↔ f < t.nf ∧ 0 < t.dim ∧ count t f = 1 := by
  simp [boundaryFaces, isBoundary]

theorem WF.pair_opposite {t : Topo} (h : WF t) {f : Nat} {a b : Inc}
    (hab : entriesOf t.cf f = [a, b]) : a.sign = -b.sign ∧ a.cell ≠ b.cell := by
  have ha : a ∈ entriesOf t.cf f := by rw [hab]; simp
  have hb : b ∈ entriesOf t.cf f := by rw [hab]; simp
  have hne : a ≠ b := by
    have := nodup_entriesOf h.nodup f
    rw [hab] at this
    simpa using this
  rw [mem_entriesOf] at ha hb
  have hu := fun hs => hne (h.uniq ha.1 hb.1 (ha.2.trans hb.2.symm) hs)
  refine ⟨?_, fun e => hu (Or.inr e)⟩
  rcases h.sign ha.1 with h1 | h1 <;> rcases h.sign hb.1 with h2 | h2
  · exact absurd (Or.inl (h1.trans h2.symm)) hu
  · rw [h1, h2]; rfl
  · rw [h1, h2]
  · exact absurd (Or.inl (h1.trans h2.symm)) hu

theorem WF.two_cells {t : Topo} (h : WF t) {f : Nat} (h2 : count t f = 2) :
    ∃ c₁ c₂, c₁ ≠ c₂ ∧ (⟨f, c₁, 1⟩ : Inc) ∈ t.cf ∧ (⟨f, c₂, -1⟩ : Inc) ∈ t.cf := by
  obtain ⟨a, b, hl⟩ : ∃ a b, entriesOf t.cf f = [a, b] := ⟨_, _, List.eq_getElem_of_length_eq_two _ h2⟩
  obtain ⟨hs, hc⟩ := h.pair_opposite hl
  have ha : a ∈ entriesOf t.cf f := by rw [hl]; exact List.mem_cons_self
  have hb : b ∈ entriesOf t.cf f := by rw [hl]; exact List.mem_cons_of_mem _ List.mem_cons_self
  rw [mem_entriesOf] at ha hb
  rcases h.sign ha.1 with h1 | h1
  · exact ⟨a.cell, b.cell, hc, mem_of_fields ha.1 ha.2 rfl h1,
      mem_of_fields hb.1 hb.2 rfl (Int.neg_inj.mp (hs.symm.trans h1))⟩
  · exact ⟨b.cell, a.cell, hc.symm, mem_of_fields hb.1 hb.2 rfl (Int.neg_inj.mp (hs.symm.trans h1)),
      mem_of_fields ha.1 ha.2 rfl h1⟩

theorem WF.count_eq_one_iff {t : Topo} (h : WF t) (f : Nat) :
    count t f = 1 ↔ ∃ c, (∃ s, (⟨f, c, s⟩ : Inc) ∈ t.cf) ∧ ∀ c', (∃ s, (⟨f, c', s⟩ : Inc) ∈ t.cf) → c' = c := by
  unfold count
  constructor
  · intro h1
    obtain ⟨e, hl⟩ := List.length_eq_one_iff.mp h1
    have he : e ∈ entriesOf t.cf f := by rw [hl]; exact List.mem_singleton_self e
    rw [mem_entriesOf] at he
    refine ⟨e.cell, ⟨e.sign, mem_of_fields he.1 he.2 rfl rfl⟩, ?_⟩
    rintro c' ⟨s, hs⟩
    have : (⟨f, c', s⟩ : Inc) ∈ entriesOf t.cf f := mem_entriesOf.mpr ⟨hs, rfl⟩
    rw [hl, List.mem_singleton] at this
    rw [← this]
  · rintro ⟨c, ⟨s, hs⟩, huniq⟩
    have hle : (entriesOf t.cf f).length ≤ 1 := by
      apply length_le_one_of_all_eq (nodup_entriesOf h.nodup f)
      intro a ha b hb
      rw [mem_entriesOf] at ha hb
      have hca := huniq a.cell ⟨a.sign, mem_of_fields ha.1 ha.2 rfl rfl⟩
      have hcb := huniq b.cell ⟨b.sign, mem_of_fields hb.1 hb.2 rfl rfl⟩
      exact h.uniq ha.1 hb.1 (ha.2.trans hb.2.symm) (Or.inr (hca.trans hcb.symm))
    rw [eq_singleton_of_mem_of_length_le_one (mem_entriesOf.mpr ⟨hs, rfl⟩) hle]
    rfl

theorem lastCell_eq_find? (p : Int → Bool) (cf : List Inc) (f : Nat) :
    lastCell p cf f = (cf.reverse.find? (fun e => e.face == f && p e.sign)).map (·.cell) := by
  induction cf with
  | nil => rfl
  | cons e l ih =>
    rw [lastCell, ih, List.reverse_cons, List.find?_append]
    cases l.reverse.find? (fun e => e.face == f && p e.sign) with
    | some x => rfl
    | none =>
      simp only [Option.map_none, Option.none_or, List.find?_singleton]
      split <;> rfl

theorem lastCell_some {p : Int → Bool} {cf : List Inc} {f c : Nat} (h : lastCell p cf f = some c) :
    ∃ e ∈ cf, e.face = f ∧ p e.sign = true ∧ e.cell = c := by
  rw [lastCell_eq_find?, Option.map_eq_some_iff] at h
  obtain ⟨e, he, hc⟩ := h
  have hq := List.find?_some he
  simp only [Bool.and_eq_true, beq_iff_eq] at hq
  exact ⟨e, List.mem_reverse.mp (List.mem_of_find?_eq_some he), hq.1, hq.2, hc⟩

theorem lastCell_none {p : Int → Bool} {cf : List Inc} {f : Nat} :
    lastCell p cf f = none ↔ ∀ e ∈ cf, e.face = f → p e.sign = false := by
  simp [lastCell_eq_find?]

/-- in a well-formed topology the last entry of face `f` that passes a sign test singling out
    `s ∈ {1,-1}` is the only one (`WF.cell_unique`), so the order of storage does not matter -/
theorem lastCell_eq_some_iff {t : Topo} (h : WF t) {p : Int → Bool} {s : Int}
    (hp : ∀ x : Int, (x = 1 ∨ x = -1) → (p x = true ↔ x = s)) (f c : Nat) :
    lastCell p t.cf f = some c ↔ (⟨f, c, s⟩ : Inc) ∈ t.cf := by
  have fwd : ∀ c, lastCell p t.cf f = some c → (⟨f, c, s⟩ : Inc) ∈ t.cf := by
    intro c hc
    obtain ⟨e, he, hf, hps, hcell⟩ := lastCell_some hc
    exact mem_of_fields he hf hcell ((hp e.sign (h.sign he)).mp hps)
  refine ⟨fwd c, fun hmem => ?_⟩
  cases hl : lastCell p t.cf f with
  | none =>
    have hs : p s = true := (hp s (h.sign hmem)).mpr rfl
    have := lastCell_none.mp hl _ hmem rfl
    rw [hs] at this
    cases this
  | some c' => rw [h.cell_unique (fwd c' hl) hmem]

theorem lastCell_eq_none_iff {t : Topo} (h : WF t) {p : Int → Bool} {s : Int}
    (hp : ∀ x : Int, (x = 1 ∨ x = -1) → (p x = true ↔ x = s)) (f : Nat) :
    lastCell p t.cf f = none ↔ ∀ c, (⟨f, c, s⟩ : Inc) ∉ t.cf := by
  rw [Option.eq_none_iff_forall_ne_some]
  exact forall_congr' fun c => not_congr (lastCell_eq_some_iff h hp f c)

theorem denseRow_get (p : Int → Bool) (t : Topo) {f : Nat} (hf : f < t.nf) :
    (denseRow p t)[f]? = some (match lastCell p t.cf f with
      | some c => (c : Int)
      | none => -1) := by
  unfold denseRow
  rw [List.getElem?_map, List.getElem?_range hf]
  rfl

/-- the dense row built with a sign test that singles out `s ∈ {1,-1}` agrees with the incidence in
    both directions: cell `c` at face `f` iff `(f, c, s)` is stored, `-1` iff the face has no cell of sign `s` -/
theorem denseRow_spec {t : Topo} (h : WF t) {p : Int → Bool} {s : Int}
    (hp : ∀ x : Int, (x = 1 ∨ x = -1) → (p x = true ↔ x = s)) {f : Nat} (hf : f < t.nf) :
    (∀ c : Nat, (denseRow p t)[f]? = some (c : Int) ↔ (⟨f, c, s⟩ : Inc) ∈ t.cf) ∧
    ((denseRow p t)[f]? = some (-1) ↔ ∀ c, (⟨f, c, s⟩ : Inc) ∉ t.cf) := by
  rw [denseRow_get p t hf, ← lastCell_eq_none_iff h hp f]
  refine ⟨fun c => ?_, ?_⟩
  · rw [← lastCell_eq_some_iff h hp f c]
    cases lastCell p t.cf f with
    | none => simp
    | some c' => simp only [Option.some.injEq]; exact Int.natCast_inj
  · cases lastCell p t.cf f <;> simp

theorem posTest (x : Int) (hx : x = 1 ∨ x = -1) : (decide (x > 0) = true ↔ x = 1) := by
  rcases hx with rfl | rfl <;> decide

theorem negTest (x : Int) (hx : x = 1 ∨ x = -1) : (decide (x < 0) = true ↔ x = -1) := by
  rcases hx with rfl | rfl <;> decide

theorem mem_dedup (a : Nat) (l : List Nat) : a ∈ dedup l ↔ a ∈ l := by
  induction l with
  | nil => simp [dedup]
  | cons b l ih =>
    unfold dedup
    by_cases h : b ∈ l
    · rw [if_pos h, ih, List.mem_cons]
      exact ⟨Or.inr, fun hc => hc.elim (· ▸ h) id⟩
    · rw [if_neg h, List.mem_cons, List.mem_cons, ih]

theorem nodup_dedup (l : List Nat) : (dedup l).Nodup := by
  induction l with
  | nil => simp [dedup]
  | cons b l ih =>
    unfold dedup
    by_cases h : b ∈ l
    · simp only [h, if_true]; exact ih
    · simp only [h, if_false, List.nodup_cons]
      exact ⟨fun hb => h ((mem_dedup b l).mp hb), ih⟩

theorem entry_nil (r c : Nat) : entry [] r c = 0 := rfl

theorem entry_cons (x : Nat × Nat × Int) (tr : Triplets) (r c : Nat) :
    entry (x :: tr) r c = (if x.1 = r ∧ x.2.1 = c then x.2.2 else 0) + entry tr r c := by
  simp only [entry, List.filter_cons, Bool.and_eq_true, beq_iff_eq]
  split <;> simp

theorem entry_append (a b : Triplets) (r c : Nat) : entry (a ++ b) r c = entry a r c + entry b r c := by
  induction a with
  | nil => simp [entry_nil]
  | cons x a ih => rw [List.cons_append, entry_cons, entry_cons, ih, Int.add_assoc]

theorem entry_scalar (cf : List Inc) (r c : Nat) :
    entry (cf.map (fun e => (e.cell, e.face, e.sign))) r c
      = ((cf.filter (fun e => e.cell == r && e.face == c)).map (·.sign)).sum := by
  simp only [entry, List.filter_map, List.map_map]
  rfl

theorem mul_add_eq_iff {d a x c k : Nat} (hx : x < d) (hk : k < d) :
    a * d + x = c * d + k ↔ a = c ∧ x = k := by
  refine ⟨fun h => ?_, fun ⟨ha, hx⟩ => by rw [ha, hx]⟩
  have hq := congrArg (· / d) h
  have hm := congrArg (· % d) h
  simp only [Nat.mul_comm _ d, Nat.mul_add_div (Nat.zero_lt_of_lt hx), Nat.mul_add_mod, Nat.div_eq_of_lt hx,
    Nat.div_eq_of_lt hk, Nat.mod_eq_of_lt hx, Nat.mod_eq_of_lt hk, Nat.add_zero] at hq hm
  exact ⟨hq, hm⟩

/-- the first `n` of the `d` copies of an incidence entry `(b, a, s)` contribute `s` at block
    `(p, q)`, components `(i, j)`, exactly when that is their own block and `i = j < n` -/
theorem entry_block (a b : Nat) (s : Int) {d i j : Nat} (hi : i < d) (hj : j < d) (p q : Nat)
    {n : Nat} (hn : n ≤ d) :
    entry ((List.range n).map (fun k => (a * d + k, b * d + k, s))) (p * d + i) (q * d + j)
      = if (a = p ∧ b = q) ∧ i = j ∧ i < n then s else 0 := by
  induction n with
  | zero => simp [entry_nil]
  | succ n ih =>
    have hnd : n < d := hn
    rw [List.range_succ, List.map_append, entry_append, ih (Nat.le_of_lt hnd), List.map_singleton, entry_cons,
      entry_nil]
    simp only [mul_add_eq_iff hnd hi, mul_add_eq_iff hnd hj]
    -- copy `n` is the only one in row component `n`
    by_cases hni : n = i
    · subst hni
      simp [and_assoc]
    · simp [hni, Nat.lt_succ_iff_lt_or_eq, Ne.symm hni]

theorem entry_vector (cf : List Inc) (d : Nat) (hd : 0 < d) (r c : Nat) :
    entry (cf.flatMap (fun e => (List.range d).map (fun k => (e.cell * d + k, e.face * d + k, e.sign)))) r c
      = if r % d = c % d then entry (cf.map (fun e => (e.cell, e.face, e.sign))) (r / d) (c / d) else 0 := by
  have hr := Nat.mod_lt r hd
  induction cf with
  | nil => simp [entry_nil]
  | cons e l ih =>
    have hb := entry_block e.cell e.face e.sign hr (Nat.mod_lt c hd) (r / d) (c / d) (Nat.le_refl d)
    rw [Nat.div_add_mod', Nat.div_add_mod'] at hb
    rw [List.flatMap_cons, entry_append, ih, hb, List.map_cons, entry_cons]
    by_cases h : r % d = c % d
    · simp only [h, Nat.mod_lt c hd, and_true, if_true]
    · simp only [h, false_and, and_false, if_false]; rfl

theorem divergence_one (t : Topo) :
    divergence t 1 = some (t.cf.map (fun e => (e.cell, e.face, e.sign))) :=
  if_pos rfl

/-- `divergence` for every `dim ≥ 1` in the Kronecker form (for `dim = 1` the one copy of an entry
    is the entry itself) -/
theorem divergence_kron (t : Topo) {d : Nat} (hd : 1 ≤ d) :
    divergence t d = some (t.cf.flatMap (fun e =>
      (List.range d).map (fun k => (e.cell * d + k, e.face * d + k, e.sign)))) := by
  unfold divergence
  by_cases h1 : d = 1
  · subst h1
    simp [List.map_eq_flatMap]
  · have h2 : (d : Int) > 1 := Int.ofNat_lt.mpr (Nat.lt_of_le_of_ne hd (Ne.symm h1))
    have h3 : (d : Int) ≠ 1 := fun e => h1 (Int.ofNat.inj e)
    rw [if_neg h3, if_pos h2, Int.toNat_natCast]

theorem applyTrip_append (a b : Triplets) (u : Nat → Rat) (r : Nat) :
    applyTrip (a ++ b) u r = applyTrip a u r + applyTrip b u r := by
  induction a with
  | nil => simp [applyTrip, Rat.zero_add]
  | cons x a ih => simp only [List.cons_append, applyTrip, ih, Rat.add_assoc]

theorem applyTrip_block (a b : Nat) (s : Int) {d k : Nat} (hk : k < d) (u : Nat → Rat) (c : Nat)
    {n : Nat} (hn : n ≤ d) :
    applyTrip ((List.range n).map (fun k' => (a * d + k', b * d + k', s))) u (c * d + k)
      = if a = c ∧ k < n then (s : Rat) * u (b * d + k) else 0 := by
  induction n with
  | zero => simp [applyTrip]
  | succ n ih =>
    have hnd : n < d := hn
    rw [List.range_succ, List.map_append, applyTrip_append, ih (Nat.le_of_lt hnd)]
    simp only [List.map_singleton, applyTrip, mul_add_eq_iff hnd hk, Rat.add_zero]
    by_cases hnk : n = k
    · subst hnk
      simp [Rat.zero_add]
    · simp [hnk, Nat.lt_succ_iff_lt_or_eq, Ne.symm hnk, Rat.add_zero]

theorem applyTrip_vector (cf : List Inc) (d : Nat) (u : Nat → Rat) (c k : Nat) (hk : k < d) :
    applyTrip (cf.flatMap (fun e => (List.range d).map (fun k' => (e.cell * d + k', e.face * d + k', e.sign)))) u (c * d + k)
      = applyTrip (cf.map (fun e => (e.cell, e.face, e.sign))) (fun f => u (f * d + k)) c := by
  induction cf with
  | nil => rfl
  | cons e l ih =>
    rw [List.flatMap_cons, applyTrip_append, ih, applyTrip_block _ _ _ hk u c (Nat.le_refl d), List.map_cons]
    simp only [applyTrip, hk, and_true]

theorem mem_trace_block (f c d : Nat) (x : Nat × Nat × Int) :
    x ∈ (List.range d).map (fun k => (f * d + k, c * d + k, (1 : Int))) ↔
      ∃ k, k < d ∧ x = (f * d + k, c * d + k, 1) := by
  simp only [List.mem_map, List.mem_range, eq_comm]

end PorepyVerif.C21
