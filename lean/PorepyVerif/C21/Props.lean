/-
C21 — property theorems (statements only depend on Model.lean; helper lemmas in Lemmas*.lean).

Property: for any grid, the dense face-cell array, the cell-connection map, the boundary-face tags,
the signs and cells of boundary faces, the cell-node map and the vector divergence operator are all
consistent with the signed cell-face incidence: boundary faces are exactly those with one adjacent
cell, the connection map is symmetric, and the vector divergence equals the scalar one expanded per
component.

All theorems quantify over EVERY topology `t` (any number of faces, cells, nodes, any storage
order); those that need it assume `WF t` (Model.lean), whose meaning is spelled out by
`wf_face_has_at_most_two_cells`.
-/
import PorepyVerif.C21.LemmasTags
import PorepyVerif.C21.LemmasSubgrid

namespace PorepyVerif.C21

/-- In a well-formed topology every face has at most two stored entries, and when it has two they
    carry opposite signs and belong to different cells. -/
theorem wf_face_has_at_most_two_cells (t : Topo) (h : WF t) (f : Nat) :
    count t f ≤ 2 ∧ ∀ a b, entriesOf t.cf f = [a, b] → a.sign = -b.sign ∧ a.cell ≠ b.cell :=
  ⟨h.count_le_two f, fun _ _ hab => h.pair_opposite hab⟩

/-- `update_boundary_face_tag` tags exactly the faces with exactly one adjacent cell
    (grids of dimension > 0). -/
theorem boundary_iff_one_cell (t : Topo) (h : WF t) (hd : 0 < t.dim) (f : Nat) (hf : f < t.nf) :
    f ∈ boundaryFaces t ↔
      ∃ c, (∃ s, (⟨f, c, s⟩ : Inc) ∈ t.cf) ∧ ∀ c', (∃ s, (⟨f, c', s⟩ : Inc) ∈ t.cf) → c' = c := by
  rw [mem_boundaryFaces, ← h.count_eq_one_iff f]
  simp only [hf, hd, true_and]

/-- … and nothing on a 0-d grid (as coded: "by default no 0d grid at the boundary"). -/
theorem boundary_tag_zero_dim (t : Topo) (hd : t.dim = 0) : boundaryFaces t = [] := by
  unfold boundaryFaces isBoundary
  simp [hd]

/-- `get_internal_faces` is the complement of the tagged faces … -/
theorem internal_iff_not_boundary (t : Topo) (f : Nat) (hf : f < t.nf) :
    f ∈ internalFaces t ↔ f ∉ boundaryFaces t := by
  unfold internalFaces boundaryFaces
  simp [hf]

/-- … and, when every face has a cell, consists exactly of the faces with two adjacent cells, one on
    the positive and one on the negative side. -/
theorem internal_iff_two_cells (t : Topo) (h : WF t) (hno : NoOrphan t) (hd : 0 < t.dim) (f : Nat)
    (hf : f < t.nf) :
    f ∈ internalFaces t ↔
      ∃ c₁ c₂, c₁ ≠ c₂ ∧ (⟨f, c₁, 1⟩ : Inc) ∈ t.cf ∧ (⟨f, c₂, -1⟩ : Inc) ∈ t.cf := by
  rw [internal_iff_not_boundary t f hf, mem_boundaryFaces]
  simp only [hf, hd, true_and]
  constructor
  · intro hne
    have h1 : 1 ≤ count t f := hno f (List.mem_range.mpr hf)
    have h2 : count t f ≤ 2 := h.count_le_two f
    exact h.two_cells (by omega)
  · rintro ⟨c₁, c₂, hne, h1, h2⟩ hone
    obtain ⟨c, _, huniq⟩ := (h.count_eq_one_iff f).mp hone
    exact hne ((huniq c₁ ⟨1, h1⟩).trans (huniq c₂ ⟨-1, h2⟩).symm)

/-- the domain-boundary tag as the fracture meshing leaves it: one-cell faces that are neither
    fracture nor tip faces -/
theorem domain_boundary_spec (t : Topo) (frac tip : List Nat) (f : Nat) :
    f ∈ domainBoundaryFaces t frac tip ↔ f ∈ boundaryFaces t ∧ f ∉ frac ∧ f ∉ tip := by
  unfold domainBoundaryFaces
  simp [List.mem_filter]

/-- `cell_faces_as_dense` has one column per face … -/
theorem dense_shape (t : Topo) :
    (cellFacesAsDense t).1.length = t.nf ∧ (cellFacesAsDense t).2.length = t.nf := by
  simp [cellFacesAsDense, denseRow]

/-- … and agrees with the incidence in both directions: row 0 holds cell `c` at face `f` iff
    `(f, c, +1)` is stored, and −1 iff the face has no cell on its positive side; row 1 likewise
    for the negative side. -/
theorem dense_matches_incidence (t : Topo) (h : WF t) (f : Nat) (hf : f < t.nf) :
    (∀ c : Nat, (cellFacesAsDense t).1[f]? = some (c : Int) ↔ (⟨f, c, 1⟩ : Inc) ∈ t.cf) ∧
    ((cellFacesAsDense t).1[f]? = some (-1) ↔ ∀ c, (⟨f, c, 1⟩ : Inc) ∉ t.cf) ∧
    (∀ c : Nat, (cellFacesAsDense t).2[f]? = some (c : Int) ↔ (⟨f, c, -1⟩ : Inc) ∈ t.cf) ∧
    ((cellFacesAsDense t).2[f]? = some (-1) ↔ ∀ c, (⟨f, c, -1⟩ : Inc) ∉ t.cf) :=
  ⟨(denseRow_spec h posTest hf).1, (denseRow_spec h posTest hf).2, (denseRow_spec h negTest hf).1,
    (denseRow_spec h negTest hf).2⟩

/-- `cell_connection_map[i, j]` is True iff cells i and j are adjacent to a common face. -/
theorem connection_spec (t : Topo) (i j : Nat) :
    (i, j) ∈ connPairs t ↔ ∃ f, Incident t f i ∧ Incident t f j := by
  simp only [connPairs, Incident, List.mem_flatMap, List.mem_map, List.mem_filter, mem_entriesOf,
    Prod.mk.injEq, Bool.and_eq_true, bne_iff_ne, ne_eq]
  constructor
  · rintro ⟨e, he, e', ⟨⟨he', hf⟩, hs, hs'⟩, rfl, rfl⟩
    exact ⟨e.face, ⟨e.sign, hs, he⟩, e'.sign, hs', mem_of_fields he' hf rfl rfl⟩
  · rintro ⟨f, ⟨s, hs, he⟩, s', hs', he'⟩
    exact ⟨_, he, _, ⟨⟨he', rfl⟩, hs, hs'⟩, rfl, rfl⟩

/-- The connection map is symmetric (for every topology, well-formed or not). -/
theorem connection_symmetric (t : Topo) (i j : Nat) :
    (i, j) ∈ connPairs t ↔ (j, i) ∈ connPairs t := by
  rw [connection_spec, connection_spec]
  constructor <;> rintro ⟨f, h1, h2⟩ <;> exact ⟨f, h2, h1⟩

/-- As coded the map is reflexive on every cell that has a face. -/
theorem connection_diag (t : Topo) (i : Nat) : (i, i) ∈ connPairs t ↔ ∃ f, Incident t f i := by
  rw [connection_spec]
  constructor
  · rintro ⟨f, h, _⟩; exact ⟨f, h⟩
  · rintro ⟨f, h⟩; exact ⟨f, h, h⟩

/-- On boundary faces (in any order, repetitions allowed) `signs_and_cells_of_boundary_faces`
    succeeds and returns, position by position, the sign and the cell of a stored entry of the
    face (the only one if the topology is well-formed, `boundary_iff_one_cell`). -/
theorem signs_cells_boundary_spec (t : Topo) (faces : List Nat)
    (hb : ∀ f ∈ faces, f ∈ boundaryFaces t) :
    ∃ g : Nat → Int × Nat, signsAndCells t faces = some (faces.map g) ∧
      ∀ f ∈ faces, (⟨f, (g f).2, (g f).1⟩ : Inc) ∈ t.cf := by
  have hc : ∀ f ∈ faces, count t f = 1 := fun f hf => (mem_boundaryFaces.mp (hb f hf)).2.2
  have hsum : (faces.map (count t)).sum = faces.length := by
    rw [List.map_congr_left hc, List.map_const', List.sum_replicate_nat, Nat.mul_one]
  refine ⟨_, if_pos hsum, fun f hf => ?_⟩
  have h1 := hc f hf
  cases hfind : t.cf.find? (fun e => e.face == f) with
  | none =>
    have hnil : entriesOf t.cf f = [] :=
      List.filter_eq_nil_iff.mpr fun e he => List.find?_eq_none.mp hfind e he
    rw [count, hnil] at h1
    cases h1
  | some e =>
    have hface := List.find?_some hfind
    exact mem_of_fields (List.mem_of_find?_eq_some hfind) (beq_iff_eq.mp hface) rfl rfl

/-- A query that contains an internal face raises ValueError (on grids where every face has a
    cell, which is every grid porepy builds). -/
theorem signs_cells_internal_errors (t : Topo) (hno : NoOrphan t) (faces : List Nat)
    (hr : ∀ f ∈ faces, f < t.nf) (hint : ∃ f ∈ faces, 2 ≤ count t f) :
    signsAndCells t faces = none := by
  obtain ⟨f, hf, h2⟩ := hint
  have h1 : ∀ x ∈ faces.map (count t), 1 ≤ x := by
    intro x hx
    obtain ⟨f, hf, rfl⟩ := List.mem_map.mp hx
    exact hno f (List.mem_range.mpr (hr f hf))
  -- if the test passed, every queried face would have exactly one entry
  refine if_neg fun e => ?_
  have := (length_le_sum h1).2 (by rwa [List.length_map]) _ (List.mem_map_of_mem hf)
  omega

/-- `cell_nodes[n, c]` is True iff node n belongs to a face adjacent to cell c. -/
theorem cell_nodes_spec (t : Topo) (c n : Nat) :
    n ∈ cellNodes t c ↔ ∃ f, Incident t f c ∧ n ∈ t.fn.getD f [] := by
  unfold cellNodes Incident
  simp only [List.mem_flatMap, List.mem_filter, Bool.and_eq_true, beq_iff_eq, bne_iff_ne, ne_eq]
  constructor
  · rintro ⟨e, ⟨he, hc, hs⟩, hn⟩
    exact ⟨e.face, ⟨e.sign, hs, mem_of_fields he rfl hc rfl⟩, hn⟩
  · rintro ⟨f, ⟨s, hs, he⟩, hn⟩
    exact ⟨_, ⟨he, rfl, hs⟩, hn⟩

/-- `num_cell_nodes[c]` is the number of distinct such nodes. -/
theorem num_cell_nodes_spec (t : Topo) (c : Nat) :
    ∃ l : List Nat, l.Nodup ∧ (∀ n, n ∈ l ↔ ∃ f, Incident t f c ∧ n ∈ t.fn.getD f []) ∧
      numCellNodes t c = l.length :=
  ⟨dedup (cellNodes t c), nodup_dedup _,
    fun n => by rw [mem_dedup, cell_nodes_spec], rfl⟩

/-- The scalar divergence is the transposed incidence: entry (c, f) is the stored sign of (f, c),
    and 0 where nothing is stored. -/
theorem scalar_div_matches_incidence (t : Topo) (h : WF t) :
    ∃ ts, divergence t 1 = some ts ∧
      (∀ f c s, (⟨f, c, s⟩ : Inc) ∈ t.cf → entry ts c f = s) ∧
      (∀ f c, (∀ s, (⟨f, c, s⟩ : Inc) ∉ t.cf) → entry ts c f = 0) := by
  refine ⟨_, divergence_one t, ?_, ?_⟩
  · intro f c s hmem
    rw [entry_scalar]
    -- among the stored entries, being at `(f, c)` is being the entry `(f, c, s)`, and that one occurs once
    have hp : ∀ e ∈ t.cf, (e.cell == c && e.face == f) = (e == ⟨f, c, s⟩) := by
      intro e he
      rw [Bool.eq_iff_iff, Bool.and_eq_true, beq_iff_eq, beq_iff_eq, beq_iff_eq]
      exact ⟨fun hcf => h.uniq he hmem hcf.2 (Or.inr hcf.1), fun e => e ▸ ⟨rfl, rfl⟩⟩
    rw [List.filter_congr hp, List.filter_beq, h.nodup.count, if_pos hmem]
    simp
  · intro f c hnone
    rw [entry_scalar]
    have hl : t.cf.filter (fun e => e.cell == c && e.face == f) = [] := by
      rw [List.filter_eq_nil_iff]
      intro e he hcond
      simp only [Bool.and_eq_true, beq_iff_eq] at hcond
      exact hnone e.sign (mem_of_fields he hcond.2 hcond.1 rfl)
    rw [hl]; rfl

/-- The vector divergence equals the scalar one expanded per component (Kronecker product with
    the identity), for EVERY topology and every dim ≥ 1:
    `div_dim[c·dim + k, f·dim + l] = δ_{kl} · div_1[c, f]`. -/
theorem vector_div_is_kron (t : Topo) (d : Nat) (hd : 1 ≤ d) :
    ∃ tv ts, divergence t (d : Int) = some tv ∧ divergence t 1 = some ts ∧
      ∀ r c, entry tv r c = if r % d = c % d then entry ts (r / d) (c / d) else 0 :=
  ⟨_, _, divergence_kron t hd, divergence_one t, entry_vector t.cf d hd⟩

/-- `divergence(dim)` with dim ≤ 0 raises ValueError. -/
theorem divergence_nonpositive_errors (t : Topo) (d : Int) (hd : d ≤ 0) : divergence t d = none := by
  unfold divergence
  rw [if_neg (by omega), if_neg (by omega)]

/-- Matrix-vector form of `vector_div_is_kron`: the vector divergence acts component by component,
    `(div_d u)[c·d + k] = (div_1 u_k)[c]` with `u_k[f] = u[f·d + k]`, for every topology, every
    d ≥ 1, every flux vector `u` and every component k < d. -/
theorem vector_div_acts_componentwise (t : Topo) (d : Nat) (hd : 1 ≤ d) (u : Nat → Rat)
    (c k : Nat) (hk : k < d) :
    ∃ tv ts, divergence t (d : Int) = some tv ∧ divergence t 1 = some ts ∧
      applyTrip tv u (c * d + k) = applyTrip ts (fun f => u (f * d + k)) c :=
  ⟨_, _, divergence_kron t hd, divergence_one t, applyTrip_vector t.cf d u c k hk⟩

/-- `add_tags`: keys of the new dictionary win, all other keys keep their old value. -/
theorem add_tags_lookup (old new : Tags) (hn : (new.map (·.1)).Nodup) (k : String) :
    (addTags old new).get k = match new.get k with
      | some v => some v
      | none => old.get k := by
  unfold addTags
  induction new generalizing old with
  | nil => rfl
  | cons kv new ih =>
    simp only [List.map_cons, List.nodup_cons] at hn
    rw [List.foldl_cons, ih _ hn.2]
    by_cases h : kv.1 = k
    · subst h
      rw [Tags.get_eq_none_of_not_mem new _ hn.1]
      simp [Tags.get, Tags.get_set]
    · simp only [Tags.get, h, if_false, Tags.get_set]

/-- `all_tags`: the result is the element-wise union of the three tag arrays. -/
theorem all_tags_is_union (tg : Tags) (a b c : String) (x y z : List Bool) (n : Nat)
    (ha : tg.get a = some x) (hb : tg.get b = some y) (hc : tg.get c = some z)
    (hx : x.length = n) (hy : y.length = n) (hz : z.length = n) :
    ∃ r : List Bool, allTags tg [a, b, c] = some r ∧ r.length = n ∧
      ∀ i : Nat, r[i]? = some true ↔ x[i]? = some true ∨ y[i]? = some true ∨ z[i]? = some true := by
  have hxy : x.length = y.length := hx.trans hy.symm
  have hxyz : (orArr x y).length = z.length := by rw [orArr_length x y hxy, hx, hz]
  refine ⟨orArr (orArr x y) z, by simp only [allTags, ha, hb, hc], ?_, fun i => ?_⟩
  · rw [orArr_length _ _ hxyz, orArr_length _ _ hxy, hx]
  · rw [orArr_get _ _ hxyz, orArr_get _ _ hxy, or_assoc]

/-- `get_all_boundary_faces` (= indices where `all_face_tags` is True): a face is listed iff it is
    a fracture, tip or domain-boundary face. -/
theorem all_boundary_faces_is_union (tg : Tags) (fr tp db : List Bool) (n : Nat)
    (h1 : tg.get "fracture_faces" = some fr) (h2 : tg.get "tip_faces" = some tp)
    (h3 : tg.get "domain_boundary_faces" = some db)
    (l1 : fr.length = n) (l2 : tp.length = n) (l3 : db.length = n) :
    ∃ r : List Bool, allFaceTags tg = some r ∧
      ∀ f : Nat, f ∈ indicesOf r ↔ fr[f]? = some true ∨ tp[f]? = some true ∨ db[f]? = some true := by
  obtain ⟨r, hr, _, hspec⟩ := all_tags_is_union tg _ _ _ fr tp db n h1 h2 h3 l1 l2 l3
  exact ⟨r, hr, fun f => (mem_indicesOf r f).trans (hspec f)⟩

/-- node tags derived from face tags (`update_boundary_node_tag`, `add_node_tags_from_face_tags`):
    a node is tagged iff it belongs to a tagged face. -/
theorem node_tag_spec (t : Topo) (ft : List Bool) (n : Nat) (hn : n < t.nn) :
    (nodeTagFromFaces t ft)[n]? = some true ↔
      ∃ f, f < t.nf ∧ ft[f]? = some true ∧ n ∈ t.fn.getD f [] := by
  unfold nodeTagFromFaces
  rw [List.getElem?_map, List.getElem?_range hn]
  simp only [Option.map_some, Option.some.injEq, List.any_eq_true, List.mem_range, Bool.and_eq_true,
    List.contains_iff_mem, getD_false_eq_true]

/-- The tags a grid constructor leaves: domain boundary = faces tagged by
    `update_boundary_face_tag`, no fracture or tip faces, node tags derived from them. -/
theorem fresh_tags_spec (t : Topo) :
    ∃ tg, freshTags t = some tg ∧
      tg.get "domain_boundary_faces" = some ((List.range t.nf).map (isBoundary t)) ∧
      tg.get "fracture_faces" = some (List.replicate t.nf false) ∧
      tg.get "tip_faces" = some (List.replicate t.nf false) ∧
      tg.get "domain_boundary_nodes" = some (nodeTagFromFaces t ((List.range t.nf).map (isBoundary t))) ∧
      tg.get "fracture_nodes" = some (nodeTagFromFaces t (List.replicate t.nf false)) ∧
      tg.get "tip_nodes" = some (nodeTagFromFaces t (List.replicate t.nf false)) := by
  simp [freshTags, updateBoundaryNodeTag, initiateTags, updateBoundaryFaceTag, addTags,
    standardFaceTags, standardNodeTags, Tags.get_set]

/-- On a freshly constructed grid `get_all_boundary_faces` returns exactly the faces tagged by
    `update_boundary_face_tag`, i.e. (by `boundary_iff_one_cell`) the faces with one adjacent cell. -/
theorem fresh_all_boundary_faces (t : Topo) :
    ∃ tg r, freshTags t = some tg ∧ allFaceTags tg = some r ∧ indicesOf r = boundaryFaces t := by
  obtain ⟨tg, htg, h1, h2, h3, _⟩ := fresh_tags_spec t
  refine ⟨tg, (List.range t.nf).map (isBoundary t), htg, ?_, ?_⟩
  · simp only [allFaceTags, allTags, standardFaceTags, h1, h2, h3]
    rw [orArr_false_left _ _ (by simp), orArr_false_left _ _ (by simp)]
  · rw [indicesOf_map_range]; rfl

/-- … and a node is a domain-boundary node iff it belongs to a boundary face. -/
theorem fresh_boundary_node_iff (t : Topo) (n : Nat) (hn : n < t.nn) :
    ∃ tg nt, freshTags t = some tg ∧ tg.get "domain_boundary_nodes" = some nt ∧
      (nt[n]? = some true ↔ ∃ f ∈ boundaryFaces t, n ∈ t.fn.getD f []) := by
  obtain ⟨tg, htg, _, _, _, h4, _⟩ := fresh_tags_spec t
  refine ⟨tg, _, htg, h4, ?_⟩
  rw [node_tag_spec t _ n hn]
  simp only [← mem_indicesOf, indicesOf_map_range]
  exact ⟨fun ⟨f, _, hb, hm⟩ => ⟨f, hb, hm⟩,
    fun ⟨f, hb, hm⟩ => ⟨f, (mem_boundaryFaces.mp hb).1, hb, hm⟩⟩

/-- Restricting a well-formed incidence to a set of cells (with the renumbering of cells, faces and
    nodes performed by `extract_subgrid`) gives a well-formed incidence: subgrids of well-formed
    grids are well-formed, so every theorem above applies to them. -/
theorem extract_subgrid_wf (t : Topo) (h : WF t) (cells : List Nat) (hc : cells.Nodup) :
    WF (extractSubgrid t cells).1 :=
  wf_subgrid h (nodup_isort cells hc) (fun x hx => mem_extractSubgrid_faces.mpr ⟨x, hx, rfl⟩)
    (by simp [extractSubgrid]) _ _

/-- Every entry of the subgrid incidence is an entry of the parent, under the returned face map and
    the sorted cell list. -/
theorem extract_subgrid_entries_from_parent (t : Topo) (cells : List Nat) (e' : Inc)
    (he : e' ∈ (extractSubgrid t cells).1.cf) :
    ∃ f c, (extractSubgrid t cells).2.1[e'.face]? = some f ∧ (isort cells)[e'.cell]? = some c ∧
      (⟨f, c, e'.sign⟩ : Inc) ∈ t.cf := by
  rw [extractSubgrid_cf] at he
  obtain ⟨x, hx, rfl⟩ := List.mem_map.mp he
  have hlt := List.idxOf_lt_length_iff.mpr (mem_extractSubgrid_faces.mpr ⟨x, hx, rfl⟩)
  obtain ⟨i, c, e, hi, hecf, hcell, rfl⟩ := (mem_subEntries _ _ _ x).mp hx
  exact ⟨e.face, c, by rw [List.getElem?_eq_getElem hlt, List.getElem_idxOf hlt], by simpa using hi,
    mem_of_fields hecf rfl hcell rfl⟩

/-- … and in a subgrid every face has a cell, for ANY parent and cell list (the face map keeps only
    faces touched by the cells): the hypothesis `NoOrphan` is discharged for extracted grids. -/
theorem extract_subgrid_no_orphan (t : Topo) (cells : List Nat) : NoOrphan (extractSubgrid t cells).1 := by
  intro f' hf'
  have hf : f' < (extractSubgrid t cells).2.1.length := List.mem_range.mp hf'
  have hnd : (extractSubgrid t cells).2.1.Nodup := nodup_uniqueSorted _
  -- face `f'` of the subgrid is a face of some selected entry, whose image is then stored on `f'`
  obtain ⟨x, hx, hxf⟩ := mem_extractSubgrid_faces.mp (List.getElem_mem hf)
  unfold count
  apply List.length_pos_of_mem (a := ⟨f', x.cell, x.sign⟩)
  rw [mem_entriesOf, extractSubgrid_cf]
  exact ⟨List.mem_map.mpr ⟨x, hx, by rw [hxf, hnd.idxOf_getElem f' hf]⟩, rfl⟩

/-- Splitting a face along a fracture keeps the incidence well-formed … -/
theorem split_face_wf (t : Topo) (h : WF t) (f c : Nat) : WF (splitFace t f c) := by
  obtain ⟨hu, hn⟩ := relabel_props t.cf
    (fun e => if e.face = f ∧ e.cell = c then ⟨t.nf, e.cell, e.sign⟩ else e)
    (fun e => by split <;> rfl) (fun e => by split <;> rfl)
    (by
      -- a moved entry lands on the new face `t.nf`, where no unmoved entry is
      intro e1 h1 e2 h2 hf
      have r1 := (h.1 e1 h1).2.1
      have r2 := (h.1 e2 h2).2.1
      by_cases m1 : e1.face = f ∧ e1.cell = c <;> by_cases m2 : e2.face = f ∧ e2.cell = c
      · exact m1.1.trans m2.1.symm
      · rw [if_pos m1, if_neg m2] at hf
        exact absurd hf.symm (Nat.ne_of_lt r2)
      · rw [if_neg m1, if_pos m2] at hf
        exact absurd hf (Nat.ne_of_lt r1)
      · rwa [if_neg m1, if_neg m2] at hf)
    h.pairUnique h.nodup
  refine ⟨?_, hu, hn, ?_⟩
  · intro x hx
    rcases mem_splitFace_cf.mp hx with ⟨hf, hc, hm⟩ | ⟨hx, _⟩
    · exact ⟨(h.1 _ hm).1, hf ▸ Nat.lt_succ_self _, hc ▸ (h.1 _ hm).2.2⟩
    · exact ⟨h.sign hx, Nat.lt_succ_of_lt (h.1 _ hx).2.1, (h.1 _ hx).2.2⟩
  · show (t.fn ++ [t.fn.getD f []]).length = t.nf + 1
    rw [List.length_append, h.2.2.2]; rfl

/-- … and both copies of a split internal face have exactly one adjacent cell: they are tagged by
    `update_boundary_face_tag`, and the two cells no longer share that face. -/
theorem split_faces_become_boundary (t : Topo) (h : WF t) (hd : 0 < t.dim) (f c c₂ : Nat) (s s₂ : Int)
    (h1 : (⟨f, c, s⟩ : Inc) ∈ t.cf) (h2 : (⟨f, c₂, s₂⟩ : Inc) ∈ t.cf) (hne : c ≠ c₂) :
    f ∈ boundaryFaces (splitFace t f c) ∧ t.nf ∈ boundaryFaces (splitFace t f c) := by
  have hw := split_face_wf t h f c
  have hfr : f < t.nf := (h.1 _ h1).2.1
  constructor
  · rw [boundary_iff_one_cell _ hw hd f (Nat.lt_succ_of_lt hfr)]
    refine ⟨c₂, ⟨s₂, mem_splitFace_cf.mpr (Or.inr ⟨h2, fun m => hne m.2.symm⟩)⟩, ?_⟩
    rintro c' ⟨s', hx⟩
    rcases mem_splitFace_cf.mp hx with ⟨hnf, _⟩ | ⟨hx, m⟩
    · exact absurd hnf (Nat.ne_of_lt hfr)
    · rcases h.cell_eq_or_eq h1 h2 hne hx with e | e
      · exact absurd ⟨rfl, e⟩ m
      · exact e
  · rw [boundary_iff_one_cell _ hw hd t.nf (Nat.lt_succ_self _)]
    refine ⟨c, ⟨s, mem_splitFace_cf.mpr (Or.inl ⟨rfl, rfl, h1⟩)⟩, ?_⟩
    rintro c' ⟨s', hx⟩
    rcases mem_splitFace_cf.mp hx with ⟨_, hc, _⟩ | ⟨hx, _⟩
    · exact hc
    · exact absurd (h.1 _ hx).2.1 (Nat.lt_irrefl _)

/-- `Grid.trace(dim)` (dim ≥ 1) on a list of boundary faces: it succeeds, every stored entry is a
    unit entry `(f·dim + k, c·dim + k)` for a listed face f, its adjacent cell c and a component k,
    and every such position is present. -/
theorem trace_spec (t : Topo) (bf : List Nat) (d : Nat) (hb : ∀ f ∈ bf, f ∈ boundaryFaces t) :
    ∃ tr, trace t bf d = some tr ∧
      (∀ x ∈ tr, ∃ f c s k, f ∈ bf ∧ k < d ∧ (⟨f, c, s⟩ : Inc) ∈ t.cf ∧ x = (f * d + k, c * d + k, 1)) ∧
      (∀ f ∈ bf, ∀ k, k < d → ∃ c s, (⟨f, c, s⟩ : Inc) ∈ t.cf ∧ (f * d + k, c * d + k, 1) ∈ tr) := by
  obtain ⟨g, hg, hspec⟩ := signs_cells_boundary_spec t bf hb
  have hz : bf.zip (bf.map g) = bf.map (fun f => (f, g f)) := by
    simpa using List.zip_map' (f := id) (g := g) (l := bf)
  refine ⟨_, by simp only [trace, hg, hz]; rfl, ?_, ?_⟩
  · intro x hx
    obtain ⟨_, hp, hx⟩ := List.mem_flatMap.mp hx
    obtain ⟨f, hf, rfl⟩ := List.mem_map.mp hp
    obtain ⟨k, hk, rfl⟩ := (mem_trace_block ..).mp hx
    exact ⟨f, (g f).2, (g f).1, k, hf, hk, hspec f hf, rfl⟩
  · intro f hf k hk
    exact ⟨(g f).2, (g f).1, hspec f hf, List.mem_flatMap.mpr
      ⟨(f, g f), List.mem_map.mpr ⟨f, hf, rfl⟩, (mem_trace_block ..).mpr ⟨k, hk, rfl⟩⟩⟩

/-- `trace` raises ValueError when the tagged faces contain an internal face. -/
theorem trace_internal_errors (t : Topo) (hno : NoOrphan t) (bf : List Nat) (d : Nat)
    (hr : ∀ f ∈ bf, f < t.nf) (hint : ∃ f ∈ bf, 2 ≤ count t f) : trace t bf d = none := by
  simp only [trace, signs_cells_internal_errors t hno bf hr hint]

/-- `get_internal_nodes` = the nodes that are not domain-boundary nodes. -/
theorem internal_nodes_spec (t : Topo) (tg : Tags) (b : List Bool)
    (hb : tg.get "domain_boundary_nodes" = some b) :
    ∃ l, getInternalNodes t tg = some l ∧ ∀ n, n ∈ l ↔ n < t.nn ∧ b[n]? ≠ some true := by
  refine ⟨(List.range t.nn).filter (fun n => !(indicesOf b).contains n),
    by simp only [getInternalNodes, getTagged, hb, Option.map_some], ?_⟩
  intro n
  simp [← mem_indicesOf]

/-- The 1-d constructor (`TensorGrid._create_1d_grid`, hence `CartGrid(n)`) builds a well-formed
    incidence for EVERY number of cells: the hypothesis `WF` of the theorems above is discharged for
    this family of grids … -/
theorem line1d_wf (n : Nat) : WF (line1d n) := by
  refine ⟨?_, ?_, nodup_lineCf n, by simp [line1d]⟩
  · intro e he
    obtain ⟨hc, h | h⟩ := (mem_lineCf n e).mp he
    · exact ⟨Or.inr h.2, h.1 ▸ Nat.lt_succ_of_lt hc, hc⟩
    · exact ⟨Or.inl h.2, h.1 ▸ Nat.succ_lt_succ hc, hc⟩
  · intro a ha b hb hf hsc
    obtain ⟨_, ⟨f1, s1⟩ | ⟨f1, s1⟩⟩ := (mem_lineCf n a).mp ha <;>
    obtain ⟨_, ⟨f2, s2⟩ | ⟨f2, s2⟩⟩ := (mem_lineCf n b).mp hb
    -- two left (or two right) faces of cells: the face gives the cell; a left and a right face
    -- have different signs, and on one cell they are different faces
    · exact Inc.ext' hf (f1.symm.trans (hf.trans f2)) (s1.trans s2.symm)
    · rcases hsc with h | h
      · rw [s1, s2] at h
        exact absurd h (by decide)
      · rw [f1, f2, h] at hf
        exact absurd hf (Nat.ne_of_lt (Nat.lt_succ_self _))
    · rcases hsc with h | h
      · rw [s1, s2] at h
        exact absurd h (by decide)
      · rw [f1, f2, h] at hf
        exact absurd hf.symm (Nat.ne_of_lt (Nat.lt_succ_self _))
    · exact Inc.ext' hf (Nat.succ.inj (f1.symm.trans (hf.trans f2))) (s1.trans s2.symm)

/-- … and every face has a cell as soon as there is one cell. -/
theorem line1d_no_orphan (n : Nat) (hn : 1 ≤ n) : NoOrphan (line1d n) := by
  intro f hf
  have hf' : f < n + 1 := List.mem_range.mp hf
  have key : ∀ e : Inc, e ∈ lineCf n → e.face = f → 1 ≤ count (line1d n) f :=
    fun e he hf => List.length_pos_of_mem (mem_entriesOf.mpr ⟨he, hf⟩)
  -- face `f < n` is the left face of cell `f`, face `n` the right face of cell `n - 1`
  rcases Nat.lt_or_ge f n with h | h
  · exact key ⟨f, f, -1⟩ ((mem_lineCf n _).mpr ⟨h, Or.inl ⟨rfl, rfl⟩⟩) rfl
  · have hfn : f = n - 1 + 1 := by omega
    exact key ⟨f, n - 1, 1⟩ ((mem_lineCf n _).mpr ⟨Nat.sub_lt hn Nat.one_pos, Or.inr ⟨hfn, rfl⟩⟩) rfl

/-- `pp.CartGrid([2, 1])`: 2 cells, 7 faces, 6 nodes (incidence in csc storage order) -/
def exCart : Topo :=
  { dim := 2, nf := 7, nc := 2, nn := 6,
    cf := [⟨0, 0, -1⟩, ⟨1, 0, 1⟩, ⟨3, 0, -1⟩, ⟨5, 0, 1⟩, ⟨1, 1, -1⟩, ⟨2, 1, 1⟩, ⟨4, 1, -1⟩, ⟨6, 1, 1⟩],
    fn := [[0, 3], [1, 4], [2, 5], [0, 1], [1, 2], [3, 4], [4, 5]] }

/-- the same grid after the fracture meshing has split face 1: cell 1 now owns the new face 7, and the
    nodes of the face are duplicated as well (`splitFace exCart 1 1` below keeps the nodes) -/
def exSplit : Topo :=
  { dim := 2, nf := 8, nc := 2, nn := 8,
    cf := [⟨0, 0, -1⟩, ⟨1, 0, 1⟩, ⟨3, 0, -1⟩, ⟨5, 0, 1⟩, ⟨2, 1, 1⟩, ⟨4, 1, -1⟩, ⟨6, 1, 1⟩, ⟨7, 1, -1⟩],
    fn := [[0, 3], [1, 4], [2, 5], [0, 1], [6, 2], [3, 4], [7, 5], [6, 7]] }

example : WF exCart ∧ NoOrphan exCart ∧ WF exSplit ∧ NoOrphan exSplit := by decide +kernel

example : cellFacesAsDense exCart = ([-1, 0, 1, -1, -1, 0, 1], [0, 1, -1, 0, 1, -1, -1]) := by decide +kernel
example : boundaryFaces exCart = [0, 2, 3, 4, 5, 6] ∧ internalFaces exCart = [1] := by decide +kernel
example : boundaryFaces exSplit = [0, 1, 2, 3, 4, 5, 6, 7] ∧ internalFaces exSplit = [] := by decide +kernel
example : domainBoundaryFaces exSplit [1, 7] [] = [0, 2, 3, 4, 5, 6] := by decide +kernel
example : (0, 1) ∈ connPairs exCart ∧ (1, 0) ∈ connPairs exCart ∧ (0, 1) ∉ connPairs exSplit := by decide +kernel
example : signsAndCells exCart [6, 0, 3, 6] = some [(1, 1), (-1, 0), (-1, 0), (1, 1)] := by decide +kernel
example : signsAndCells exCart [0, 1] = none := by decide +kernel
example : cellNodes exCart 1 = [1, 4, 2, 5, 1, 2, 4, 5] ∧ numCellNodes exCart 1 = 4 := by decide +kernel
example : divergence exCart 1 = some [(0, 0, -1), (0, 1, 1), (0, 3, -1), (0, 5, 1), (1, 1, -1), (1, 2, 1), (1, 4, -1), (1, 6, 1)] := by
  decide +kernel
example : (divergence exCart 2).map (fun tr => (entry tr 1 3, entry tr 1 2, entry tr 2 2, entry tr 3 13)) = some (1, 0, -1, 1) := by
  decide +kernel
example : divergence exCart 0 = none ∧ divergence exCart (-2) = none := by decide +kernel

/-- flux u = (1, 2, …, 14) on the 7 faces × 2 components: row c·2+k of div₂ u equals div₁ of component k -/
example : (divergence exCart 2).map (fun tr => (List.range 4).map (applyTrip tr (fun j => (j : Rat) + 1)))
    = some [-1 + 3 - 7 + 11, -2 + 4 - 8 + 12, -3 + 5 - 9 + 13, -4 + 6 - 10 + 14] := by decide +kernel

example : (freshTags exCart).map (fun tg => (tg.get "domain_boundary_faces", tg.get "fracture_faces",
      tg.get "domain_boundary_nodes", (allFaceTags tg).map indicesOf)) =
    some (some [true, false, true, true, true, true, true], some (List.replicate 7 false),
      some (List.replicate 6 true), some [0, 2, 3, 4, 5, 6]) := by decide +kernel

/-- 1-d grid with 3 cells: only the end faces and end nodes are boundary -/
def exLine : Topo :=
  { dim := 1, nf := 4, nc := 3, nn := 4,
    cf := [⟨0, 0, -1⟩, ⟨1, 0, 1⟩, ⟨1, 1, -1⟩, ⟨2, 1, 1⟩, ⟨2, 2, -1⟩, ⟨3, 2, 1⟩], fn := [[0], [1], [2], [3]] }

example : WF exLine ∧
    (freshTags exLine).map (·.get "domain_boundary_nodes") = some (some [true, false, false, true]) := by
  decide +kernel

example : (addTags [("a", [true]), ("b", [false])] [("b", [true, true]), ("c", [])]).get "b" = some [true, true] ∧
    allTags [("x", [true, false, false]), ("y", [false, false, true]), ("z", [false, false, false])] ["x", "y", "z"]
      = some [true, false, true] := by decide +kernel

/-- `extract_subgrid(CartGrid([2,1]), [1])`: faces 1,2,4,6 and nodes 1,2,4,5 survive, renumbered -/
example : extractSubgrid exCart [1] =
    ({ dim := 2, nf := 4, nc := 1, nn := 4, cf := [⟨0, 0, -1⟩, ⟨1, 0, 1⟩, ⟨2, 0, -1⟩, ⟨3, 0, 1⟩],
       fn := [[0, 2], [1, 3], [0, 1], [2, 3]] }, [1, 2, 4, 6], [1, 2, 4, 5]) ∧
    WF (extractSubgrid exCart [1]).1 ∧ NoOrphan (extractSubgrid exCart [1]).1 ∧ boundaryFaces (extractSubgrid exCart [1]).1 = [0, 1, 2, 3] := by
  decide +kernel

example : WF (splitFace exCart 1 1) ∧ boundaryFaces (splitFace exCart 1 1) = [0, 1, 2, 3, 4, 5, 6, 7] ∧
    (0, 1) ∉ connPairs (splitFace exCart 1 1) := by decide +kernel

example : line1d 3 = exLine ∧ boundaryFaces (line1d 5) = [0, 5] ∧ ¬ NoOrphan (line1d 0) := by decide +kernel

example : trace exCart (boundaryFaces exCart) 1 = some [(0, 0, 1), (2, 1, 1), (3, 0, 1), (4, 1, 1), (5, 0, 1), (6, 1, 1)] ∧
    trace exCart [1] 2 = none ∧
    trace exLine [3, 0] 2 = some [(6, 4, 1), (7, 5, 1), (0, 0, 1), (1, 1, 1)] := by decide +kernel

example : (freshTags exLine).bind (getInternalNodes exLine) = some [1, 2] ∧
    (freshTags exLine).bind getAllBoundaryNodes = some [0, 3] := by decide +kernel

/-- the well-formedness hypothesis is needed: on a face with three cells (+, −, +), which the
    orientation check of the `Grid` constructor accepts, the dense array forgets cell 0 -/
example :
    let t : Topo := { dim := 1, nf := 1, nc := 3, nn := 1, cf := [⟨0, 0, 1⟩, ⟨0, 1, -1⟩, ⟨0, 2, 1⟩], fn := [[0]] }
    ¬ WF t ∧ (⟨0, 0, 1⟩ : Inc) ∈ t.cf ∧ (cellFacesAsDense t).1[0]? = some 2 := by decide +kernel

end PorepyVerif.C21
