/-
C21 — tag dictionaries and boolean tag arrays: lookup after an update, element-wise union, the
indices of the true entries.
-/
import PorepyVerif.C21.Model

namespace PorepyVerif.C21

theorem Tags.get_set (tg : Tags) (k k' : String) (v : List Bool) :
    (tg.set k v).get k' = if k = k' then some v else tg.get k' := by
  induction tg with
  | nil => simp [Tags.set, Tags.get]
  | cons kv tg ih =>
    unfold Tags.set
    by_cases h : kv.1 = k
    · by_cases h' : k = k'
      · simp [Tags.get, h, h']
      · have : ¬ kv.1 = k' := fun e => h' (h.symm.trans e)
        simp [Tags.get, h, h']
    · rw [if_neg h]
      by_cases h' : k = k'
      · subst h'
        simp only [Tags.get, h, if_false]
        rw [ih]; simp
      · simp [Tags.get, ih, h']

theorem Tags.get_eq_none_of_not_mem (tg : Tags) (k : String) (h : k ∉ tg.map (·.1)) : tg.get k = none := by
  induction tg with
  | nil => rfl
  | cons kv tg ih =>
    simp only [List.map_cons, List.mem_cons, not_or] at h
    have hne : ¬ kv.1 = k := fun e => h.1 e.symm
    simp only [Tags.get, hne, if_false, ih h.2]

theorem orArr_eq_zipWith (a b : List Bool) : orArr a b = List.zipWith (· || ·) a b := by
  induction a generalizing b with
  | nil => cases b <;> rfl
  | cons x a ih =>
    cases b with
    | nil => rfl
    | cons y b => rw [orArr, ih, List.zipWith_cons_cons]

theorem orArr_length (a b : List Bool) (h : a.length = b.length) : (orArr a b).length = a.length := by
  rw [orArr_eq_zipWith, List.length_zipWith, h, Nat.min_self]

theorem orArr_get (a b : List Bool) (h : a.length = b.length) (i : Nat) :
    (orArr a b)[i]? = some true ↔ a[i]? = some true ∨ b[i]? = some true := by
  rw [orArr_eq_zipWith, List.getElem?_zipWith]
  rcases Nat.lt_or_ge i a.length with hi | hi
  · rw [List.getElem?_eq_getElem hi, List.getElem?_eq_getElem (h ▸ hi)]
    simp
  · rw [List.getElem?_eq_none hi, List.getElem?_eq_none (h ▸ hi)]
    simp

theorem orArr_false_left (n : Nat) (b : List Bool) (h : b.length = n) : orArr (List.replicate n false) b = b := by
  subst h
  induction b with
  | nil => rfl
  | cons y b ih => rw [List.length_cons, List.replicate_succ, orArr, ih, Bool.false_or]

theorem getD_false_eq_true {l : List Bool} {i : Nat} : l.getD i false = true ↔ l[i]? = some true := by
  rw [List.getD_eq_getElem?_getD]
  cases l[i]? <;> simp

theorem mem_indicesOf (l : List Bool) (i : Nat) : i ∈ indicesOf l ↔ l[i]? = some true := by
  simp only [indicesOf, List.mem_filter, List.mem_range, getD_false_eq_true]
  exact ⟨And.right, fun h => ⟨(List.getElem?_eq_some_iff.mp h).1, h⟩⟩

theorem indicesOf_map_range (p : Nat → Bool) (n : Nat) :
    indicesOf ((List.range n).map p) = (List.range n).filter p := by
  unfold indicesOf
  rw [List.length_map, List.length_range]
  refine List.filter_congr fun i hi => ?_
  rw [List.getD_eq_getElem?_getD, List.getElem?_map, List.getElem?_range (List.mem_range.mp hi)]
  rfl

theorem nodeTagFromFaces_length (t : Topo) (ft : List Bool) : (nodeTagFromFaces t ft).length = t.nn := by
  simp [nodeTagFromFaces]

end PorepyVerif.C21
