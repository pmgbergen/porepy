/-
C40 — property theorems (statements depend on Model.lean only).

Property: second- and fourth-order tensors built from admissible parameters are symmetric;
rotating a second-order tensor is a similarity transform preserving its eigenvalues;
restriction to cells selects those cells; copies are independent of the original.

"Copies are independent" is a statement about aliasing of numpy arrays.  The model is a value
(immutable), where it holds trivially; what is proved here is that a copy of a constructed
tensor EQUALS the original (`sot_copy_of_constructed`).  Independence itself is tested by the
oracle by mutating the copy / the original of the real classes.
-/
import PorepyVerif.C40.Lemmas

namespace PorepyVerif.C40

/-- What the constructor builds: one matrix per entry of `kxx`; cell `c` holds
    `[[kxx, kxy, kxz], [kxy, kyy, kyz], [kxz, kyz, kzz]]` of the defaulted (kyy, kzz := kxx; off-diagonals := 0)
    and broadcast arguments; and the three sign checks of the code hold in every cell. -/
theorem sot_constructor_entries (a : Args) (t : List M3) (h : mkSOT a = .ok t) :
    t.length = a.kxx.length ∧
    ∃ kyy kzz kxy kxz kyz : Nat → Rat,
      bcast a.kxx.length (a.kyy.getD a.kxx) = some kyy ∧
      bcast a.kxx.length (a.kxy.getD (a.kxx.map (fun v => 0 * v))) = some kxy ∧
      bcast a.kxx.length (a.kzz.getD a.kxx) = some kzz ∧
      bcast a.kxx.length (a.kxz.getD (a.kxx.map (fun v => 0 * v))) = some kxz ∧
      bcast a.kxx.length (a.kyz.getD (a.kxx.map (fun v => 0 * v))) = some kyz ∧
      (∀ c, c < a.kxx.length →
        t[c]? = some (ofEntries (a.kxx.getD c 0) (kyy c) (kzz c) (kxy c) (kxz c) (kyz c)) ∧
        0 ≤ a.kxx.getD c 0 ∧ 0 ≤ minor2 (a.kxx.getD c 0) (kyy c) (kxy c) ∧
        0 ≤ det3 (a.kxx.getD c 0) (kyy c) (kzz c) (kxy c) (kxz c) (kyz c)) := by
  obtain ⟨kyy, kzz, kxy, kxz, kyz, h1, h2, h3, h4, h5, hx, hy, hz, rfl⟩ := mkSOT_ok_inv a t h
  refine ⟨build_length _ _ _ _ _ _ _, kyy, kzz, kxy, kxz, kyz, h1, h2, h3, h4, h5, fun c hc =>
    ⟨?_, Rat.not_lt.mp (hx _ (Common.getD_mem 0 hc)), Rat.not_lt.mp (hy c hc), Rat.not_lt.mp (hz c hc)⟩⟩
  rw [build, List.getElem?_map, List.getElem?_range hc]
  rfl

/-- Every cell of a successfully constructed second-order tensor is a symmetric 3×3 matrix. -/
theorem sot_symmetric (a : Args) (t : List M3) (h : mkSOT a = .ok t) :
    ∀ K ∈ t, ∀ i j, K i j = K j i :=
  fun K hK => (sot_cells_admissible a t h K hK).1

/-- A negative entry of `kxx` is rejected (first check of the code). -/
theorem sot_rejects_negative_kxx (a : Args) (v : Rat) (hv : v ∈ a.kxx) (hneg : v < 0) :
    mkSOT a = .error .x := by
  unfold mkSOT
  exact if_pos (List.any_eq_true.mpr ⟨v, hv, decide_eq_true hneg⟩)

/-- `rotate` as coded (two `tensordot`s) computes, entry by entry, `R Kᵀ Rᵀ`; for a symmetric
    `K` — every constructed tensor — this is the similarity transform `R K Rᵀ`. -/
theorem sot_rotate (R K : M3) :
    (∀ i j, rotate1 R K i j = mul3 (mul3 R (transpose3 K)) (transpose3 R) i j) ∧
    ((∀ i j, K i j = K j i) → ∀ i j, rotate1 R K i j = mul3 (mul3 R K) (transpose3 R) i j) := by
  refine ⟨rotate1_entry R K, fun hs i j => ?_⟩
  rw [rotate1_entry, transpose3_eq_self hs]

/-- the whole tensor: every cell is transformed, cells are not mixed -/
theorem sot_rotate_cells (R : M3) (t : List M3) :
    (rotate R t).length = t.length ∧ ∀ c : Nat, (rotate R t)[c]? = (t[c]?).map (rotate1 R) :=
  ⟨List.length_map _, fun _ => List.getElem?_map⟩

/-- the rotated tensor is symmetric again (for ANY matrix `R`) -/
theorem sot_rotate_symmetric (R K : M3) (hs : ∀ i j, K i j = K j i) :
    ∀ i j, rotate1 R K i j = rotate1 R K j i := by
  intro i j
  have e := congrFun (congrFun (transpose3_rotate1 R K) j) i
  rwa [transpose3_eq_self hs] at e

/-- `RᵀR = I` ⇒ the trace is preserved -/
theorem sot_rotate_trace (R K : M3) (h : mul3 (transpose3 R) R = id3) :
    trace3 (rotate1 R K) = trace3 K := by
  rw [trace_rotate1_gram, h, mul3_id3, trace3_transpose3]

/-- `RᵀR = I` ⇒ the second invariant (sum of principal 2×2 minors) is preserved -/
theorem sot_rotate_inv2 (R K : M3) (h : mul3 (transpose3 R) R = id3) :
    inv2 (rotate1 R K) = inv2 K := by
  rw [inv2_rotate1_gram, h, mul3_id3, inv2_transpose3]

/-- `RᵀR = I` ⇒ the determinant is preserved -/
theorem sot_rotate_det (R K : M3) (h : mul3 (transpose3 R) R = id3) :
    detM (rotate1 R K) = detM K := by
  rw [det_rotate1_gram, h, mul3_id3, detM_transpose3]

/-- `RᵀR = I` ⇒ the characteristic polynomial `det(x·I − K)` is preserved for every `x`; hence
    the eigenvalues (its roots, with multiplicities) of every cell are those of the original. -/
theorem sot_rotate_charpoly (R K : M3) (h : mul3 (transpose3 R) R = id3) (x : Rat) :
    charPoly3 (rotate1 R K) x = charPoly3 K x := by
  rw [charPoly3_eq, charPoly3_eq, sot_rotate_trace R K h, sot_rotate_inv2 R K h, sot_rotate_det R K h]

/-- the copy of a constructed second-order tensor passes the constructor's checks again and
    equals the original -/
theorem sot_copy_of_constructed (a : Args) (t : List M3) (h : mkSOT a = .ok t) :
    copySOTcoded t = .ok t ∧ copySOTcoded t = .ok (copySOT t) :=
  have e := copySOTcoded_ok t (sot_cells_admissible a t h)
  ⟨e, e⟩

/-- `arr[cells]`: the result has one entry per requested cell, entry `k` is the original entry
    `cells[k]` (any order, repetitions allowed); an index out of range is an error. -/
theorem restrict_selects {α : Type} (l : List α) (cells : List Nat) :
    (∀ r, select l cells = some r →
      r.length = cells.length ∧ ∀ k, k < cells.length → cells.getD k 0 < l.length ∧ r[k]? = l[cells.getD k 0]?) ∧
    ((∀ c ∈ cells, c < l.length) → ∃ r, select l cells = some r) ∧
    (∀ c ∈ cells, l.length ≤ c → select l cells = none) :=
  ⟨select_spec l cells, select_some_of_in_range l cells, select_none_of_out_of_range l cells⟩

/-- `restrict_to_cells` selects the cells of the original (any tensor, rotated ones included) -/
theorem sot_restrict_selects (t : List M3) (cells : List Nat) (r : List M3)
    (hr : restrictSOT t cells = .ok r) :
    r.length = cells.length ∧ ∀ k, k < cells.length → r[k]? = t[cells.getD k 0]? := by
  unfold restrictSOT copySOT at hr
  split at hr
  · rename_i r' hs
    obtain rfl := Except.ok.inj hr
    obtain ⟨h1, h2⟩ := select_spec t cells r' hs
    exact ⟨h1, fun k hk => (h2 k hk).2⟩
  · cases hr

/-- on every constructed tensor `restrictSOTcoded` (copy through the validating constructor, then index) is the
    property-level `restrictSOT` -/
theorem sot_restrict_coded_agrees (a : Args) (t : List M3) (h : mkSOT a = .ok t) (cells : List Nat) :
    restrictSOTcoded t cells = restrictSOT t cells :=
  restrictSOTcoded_eq t (sot_cells_admissible a t h) cells

/-- `restrict_to_cells` on a fourth-order tensor selects the cells of `values` and of every
    constitutive parameter (mu, lmbda, other fields), keeping the basis matrices -/
theorem fot_restrict_selects (t r : FOT) (cells : List Nat) (hr : restrictFOT t cells = .ok r) :
    select t.values cells = some r.values ∧ select t.mu cells = some r.mu ∧
    select t.lmbda cells = some r.lmbda ∧
    t.extra.mapM (fun e => (select e.field cells).map (fun f => ({ mat := e.mat, field := f } : Extra))) = some r.extra := by
  unfold restrictFOT at hr
  split at hr
  · rename_i mu lm ex vals h1 h2 h3 h4
    obtain rfl := Except.ok.inj hr
    exact ⟨h4, h1, h2, h3⟩
  · cases hr

/-- Major symmetry: in every cell the 9×9 matrix built from mu, lmbda (hard-coded basis
    matrices) and any other fields with symmetric basis matrices is symmetric. -/
theorem fot_symmetric (mu lmbda : List Rat) (extra : List Extra) (t : FOT)
    (h : mkFOT mu lmbda extra = .ok t) (hex : ∀ e ∈ extra, ∀ i j, e.mat i j = e.mat j i) :
    ∀ V ∈ t.values, ∀ i j, V i j = V j i :=
  fun V hV i j => mkFOT_entry_congr h (muTab_symm i j) (lmTab_symm i j) (fun e he => hex e he i j) V hV

/-- Minor symmetries c_ijkl = c_jikl = c_ijlk in the 9×9 layout (index 3·i + j): exchanging the
    two indices of the row pair or of the column pair leaves every entry unchanged, for the
    hard-coded basis and any other fields whose basis matrices have the minor symmetries. -/
theorem fot_minor_symmetric (mu lmbda : List Rat) (extra : List Extra) (t : FOT)
    (h : mkFOT mu lmbda extra = .ok t)
    (hex : ∀ e ∈ extra, ∀ i j, e.mat (swapIdx i) j = e.mat i j ∧ e.mat i (swapIdx j) = e.mat i j) :
    ∀ V ∈ t.values, ∀ i j, V (swapIdx i) j = V i j ∧ V i (swapIdx j) = V i j :=
  fun V hV i j =>
    ⟨mkFOT_entry_congr h (muTab_minor i j).1 (lmTab_minor i j).1 (fun e he => (hex e he i j).1) V hV,
     mkFOT_entry_congr h (muTab_minor i j).2 (lmTab_minor i j).2 (fun e he => (hex e he i j).2) V hV⟩

/-- The lengths and the parameters are stored as given; `mu` and `lmbda` of different lengths are rejected. -/
theorem fot_constructor (mu lmbda : List Rat) (extra : List Extra) :
    (mu.length ≠ lmbda.length → mkFOT mu lmbda extra = .error .shape) ∧
    (∀ t, mkFOT mu lmbda extra = .ok t → t.mu = mu ∧ t.lmbda = lmbda ∧ t.values.length = mu.length ∧
      ∀ c, c < mu.length → ∀ i j, (t.values[c]?.map (fun V => V i j)) =
        some (muMat i j * mu.getD c 0 + lmMat i j * lmbda.getD c 0 + extraSum extra c i j)) := by
  refine ⟨fun hne => if_pos hne, fun t h => ?_⟩
  obtain rfl := mkFOT_ok h
  refine ⟨rfl, rfl, ?_, fun c hc i j => ?_⟩
  · rw [List.length_map, List.length_range]
  · rw [List.getElem?_map, List.getElem?_range hc]
    rfl

def errOf {α : Type} : Except Err α → Option Err
  | .error e => some e
  | .ok _ => none

/-- a full anisotropic SPD cell and an isotropic default cell -/
def exArgs : Args := { kxx := [4, 1], kyy := some [3, 1], kzz := some [2, 1], kxy := some [1, 0],
                       kxz := some [1/2, 0], kyz := some [-1/2, 0] }

def entries (t : List M3) : List (List (List Rat)) :=
  t.map (fun K => [[K 0 0, K 0 1, K 0 2], [K 1 0, K 1 1, K 1 2], [K 2 0, K 2 1, K 2 2]])

example : (mkSOT exArgs).toOption.map entries
    = some [[[4, 1, 1/2], [1, 3, -1/2], [1/2, -1/2, 2]], [[1, 0, 0], [0, 1, 0], [0, 0, 1]]] := by decide +kernel

/-- rotation about z with cos = 3/5, sin = 4/5 (Pythagorean, exactly orthogonal) -/
def exR : M3 := fun i j => ([[3/5, -4/5, 0], [4/5, 3/5, 0], [0, 0, 1]].getD i.val []).getD j.val 0

example : mul3 (transpose3 exR) exR = id3 := by
  funext i j
  revert i j
  decide +kernel

example : (mkSOT exArgs).toOption.map (fun t => entries (rotate exR t))
    = some [[[12/5, 1/5, 7/10], [1/5, 23/5, 1/10], [7/10, 1/10, 2]], [[1, 0, 0], [0, 1, 0], [0, 0, 1]]] := by
  decide +kernel

example : errOf (mkSOT { kxx := [1, -1] }) = some .x := by decide +kernel
example : errOf (mkSOT { kxx := [1], kyy := some [1], kxy := some [2] }) = some .y := by decide +kernel
example : errOf (mkSOT { kxx := [1], kyy := some [1], kzz := some [1], kxz := some [2] }) = some .z := by decide +kernel
example : errOf (mkSOT { kxx := [1, 1], kyy := some [1, 1, 1] }) = some .shape := by decide +kernel
/-- Documented observation (not a C40 violation by itself): the constructor checks only the
    leading principal minors `>= 0`, which is necessary but not sufficient for positive
    semi-definiteness, so the INADMISSIBLE parameters diag(0, 0, -1) are accepted ... -/
example : (mkSOT { kxx := [0], kyy := some [0], kzz := some [-1] }).toOption.map entries
    = some [[[0, 0, 0], [0, 0, 0], [0, 0, -1]]] := by decide +kernel

/-- ... and a `copy()` through the constructor (`copySOTcoded`) re-validates: after the (exact) rotation that
    moves the -1 to the xx position it raises the x-direction error, while `copySOT` is total.
    The same re-validation made porepy's `copy()` / `restrict_to_cells` raise on ADMISSIBLE singular tensors
    after a rotation with rounding (C40 finding in DESIGN.md §7a; since its repair `SecondOrderTensor.copy`
    copies `values` without the constructor, which is `copySOT`). -/
example : ((mkSOT { kxx := [0], kyy := some [0], kzz := some [-1] }).toOption.map
      (fun t => errOf (copySOTcoded (rotate (fun i j => ([[0, 0, 1], [0, 1, 0], [1, 0, 0]].getD i.val []).getD j.val 0) t))))
    = some (some .x) := by decide +kernel

example : select [10, 20, 30] [2, 0, 2] = some [30, 10, 30] ∧ select [10, 20, 30] [3] = none := by decide

example : (mkFOT [1, 2] [3, 5] []).toOption.map (fun t => t.values.map (fun V => [V 0 0, V 0 4, V 1 3, V 1 1, V 1 2, V 8 8]))
    = some [[5, 3, 1, 1, 0, 5], [9, 5, 2, 2, 0, 9]] := by decide +kernel

end PorepyVerif.C40
