/-
C40 — what the definitions of Model.lean do, stated once: 3×3 matrix algebra and the invariants of a matrix
under `A B ↦ B A`, fancy indexing, when the second-order constructor succeeds, what the fourth-order one builds.
-/
import PorepyVerif.C40.Model
import PorepyVerif.Common.List
import PorepyVerif.Common.Except
import Mathlib.Tactic.Ring

namespace PorepyVerif.C40

theorem fin3_cases : ∀ i : Fin 3, i = 0 ∨ i = 1 ∨ i = 2 := by decide

theorem ofEntries_symm (xx yy zz xy xz yz : Rat) (i j : Fin 3) :
    ofEntries xx yy zz xy xz yz i j = ofEntries xx yy zz xy xz yz j i := by
  rcases fin3_cases i with rfl | rfl | rfl <;> rcases fin3_cases j with rfl | rfl | rfl <;> rfl

/-- reading the diagonal and the lower triangle of a symmetric matrix back gives the matrix -/
theorem ofEntries_eta {K : M3} (hs : ∀ i j, K i j = K j i) :
    ofEntries (K 0 0) (K 1 1) (K 2 2) (K 1 0) (K 2 0) (K 2 1) = K := by
  funext i j
  rcases fin3_cases i with rfl | rfl | rfl <;> rcases fin3_cases j with rfl | rfl | rfl
  exacts [rfl, hs 1 0, hs 2 0, rfl, rfl, hs 2 1, rfl, rfl, rfl]

theorem transpose3_eq_self {K : M3} (hs : ∀ i j, K i j = K j i) : transpose3 K = K :=
  funext fun i => funext fun j => hs j i

theorem mul3_assoc (A B C : M3) : mul3 (mul3 A B) C = mul3 A (mul3 B C) := by
  funext i j
  simp only [mul3, sum3]
  ring

theorem mul3_id3 (A : M3) : mul3 A id3 = A := by
  funext i j
  simp only [mul3, sum3, id3]
  rcases fin3_cases j with rfl | rfl | rfl <;>
    simp only [Fin.isValue, Fin.reduceEq, ↓reduceIte, mul_one, mul_zero, add_zero, zero_add]

theorem transpose3_mul3 (A B : M3) : transpose3 (mul3 A B) = mul3 (transpose3 B) (transpose3 A) := by
  funext i j
  simp only [transpose3, mul3, sum3, mul_comm]

theorem transpose3_transpose3 (K : M3) : transpose3 (transpose3 K) = K := rfl

/-- the two `tensordot`s are matrix products -/
theorem rotate1_def (R K : M3) : rotate1 R K = mul3 R (transpose3 (mul3 R K)) := rfl

theorem rotate1_eq (R K : M3) : rotate1 R K = mul3 (mul3 R (transpose3 K)) (transpose3 R) := by
  rw [rotate1_def, transpose3_mul3, mul3_assoc]

theorem rotate1_entry (R K : M3) (j i : Fin 3) :
    rotate1 R K j i = mul3 (mul3 R (transpose3 K)) (transpose3 R) j i := by
  rw [rotate1_eq]

theorem transpose3_rotate1 (R K : M3) : transpose3 (rotate1 R K) = rotate1 R (transpose3 K) := by
  rw [rotate1_eq, rotate1_eq, transpose3_mul3, transpose3_mul3, mul3_assoc, transpose3_transpose3]

/-! The three invariants of a 3×3 matrix (coefficients of the characteristic polynomial) take the
    same value on `A B` and on `B A`. -/

theorem trace3_mul3_comm (A B : M3) : trace3 (mul3 A B) = trace3 (mul3 B A) := by
  simp only [trace3, mul3, sum3]
  ring

theorem inv2_eq (K : M3) : inv2 K = (trace3 K ^ 2 - trace3 (mul3 K K)) / 2 := by
  simp only [inv2, trace3, mul3, sum3]
  ring

/-- by `inv2_eq` and `tr (AB·AB) = tr (A·BAB) = tr (BAB·A) = tr (BA·BA)`; the direct polynomial identity in
    the 18 entries is much slower to check -/
theorem inv2_mul3_comm (A B : M3) : inv2 (mul3 A B) = inv2 (mul3 B A) := by
  rw [inv2_eq, inv2_eq, trace3_mul3_comm A B, mul3_assoc A B, trace3_mul3_comm A, mul3_assoc B, mul3_assoc A,
    mul3_assoc B A]

theorem detM_mul3 (A B : M3) : detM (mul3 A B) = detM A * detM B := by
  simp only [detM, mul3, sum3]
  ring

theorem detM_mul3_comm (A B : M3) : detM (mul3 A B) = detM (mul3 B A) := by
  rw [detM_mul3, detM_mul3, mul_comm]

/-- Such a quantity takes the same value on `R Kᵀ Rᵀ` as on `Kᵀ (RᵀR)`, whatever `R` is; where `RᵀR = I` it does not
    see the rotation. -/
theorem rotate1_gram (f : M3 → Rat) (hf : ∀ A B, f (mul3 A B) = f (mul3 B A)) (R K : M3) :
    f (rotate1 R K) = f (mul3 (transpose3 K) (mul3 (transpose3 R) R)) := by
  rw [rotate1_eq, mul3_assoc, hf, mul3_assoc]

theorem trace_rotate1_gram (R K : M3) :
    trace3 (rotate1 R K) = trace3 (mul3 (transpose3 K) (mul3 (transpose3 R) R)) :=
  rotate1_gram trace3 trace3_mul3_comm R K

theorem inv2_rotate1_gram (R K : M3) :
    inv2 (rotate1 R K) = inv2 (mul3 (transpose3 K) (mul3 (transpose3 R) R)) :=
  rotate1_gram inv2 inv2_mul3_comm R K

theorem det_rotate1_gram (R K : M3) :
    detM (rotate1 R K) = detM (mul3 (transpose3 K) (mul3 (transpose3 R) R)) :=
  rotate1_gram detM detM_mul3_comm R K

theorem trace3_transpose3 (K : M3) : trace3 (transpose3 K) = trace3 K := rfl

theorem inv2_transpose3 (K : M3) : inv2 (transpose3 K) = inv2 K := by
  simp only [inv2, transpose3]; ring

theorem detM_transpose3 (K : M3) : detM (transpose3 K) = detM K := by
  simp only [detM, transpose3]; ring

/-- the characteristic polynomial in terms of the three invariants -/
theorem charPoly3_eq (K : M3) (x : Rat) :
    charPoly3 K x = x ^ 3 - trace3 K * x ^ 2 + inv2 K * x - detM K := by
  simp only [charPoly3, detM, trace3, inv2, Fin.isValue, Fin.reduceEq, ↓reduceIte]
  ring

theorem select_spec {α : Type} (l : List α) (cells : List Nat) (r : List α) (h : select l cells = some r) :
    r.length = cells.length ∧ ∀ k, k < cells.length → cells.getD k 0 < l.length ∧ r[k]? = l[cells.getD k 0]? := by
  induction cells generalizing r with
  | nil =>
    obtain rfl := Option.some.inj h
    exact ⟨rfl, fun k hk => absurd hk (Nat.not_lt_zero k)⟩
  | cons c cs ih =>
    rw [select] at h
    split at h
    · rename_i v r' hv hr
      obtain rfl := Option.some.inj h
      obtain ⟨hl, hk⟩ := ih r' hr
      refine ⟨congrArg Nat.succ hl, fun k hk' => ?_⟩
      cases k with
      | zero => exact ⟨(List.getElem?_eq_some_iff.mp hv).1, hv.symm⟩
      | succ k => exact hk k (Nat.lt_of_succ_lt_succ hk')
    · cases h

theorem select_none_of_out_of_range {α : Type} (l : List α) (cells : List Nat) (c : Nat)
    (hc : c ∈ cells) (hle : l.length ≤ c) : select l cells = none := by
  cases hs : select l cells with
  | none => rfl
  | some r =>
    obtain ⟨k, hk, rfl⟩ := List.getElem_of_mem hc
    have := ((select_spec l cells r hs).2 k hk).1
    rw [List.getD_eq_getElem?_getD, List.getElem?_eq_getElem hk] at this
    exact absurd this (Nat.not_lt.mpr hle)

theorem select_some_of_in_range {α : Type} (l : List α) (cells : List Nat)
    (h : ∀ c ∈ cells, c < l.length) : ∃ r, select l cells = some r := by
  induction cells with
  | nil => exact ⟨[], rfl⟩
  | cons d cs ih =>
    obtain ⟨r, hr⟩ := ih (fun c hc => h c (List.mem_cons_of_mem _ hc))
    refine ⟨l[d]'(h d List.mem_cons_self) :: r, ?_⟩
    rw [select, hr, List.getElem?_eq_getElem (h d List.mem_cons_self)]

theorem bcast_full (n : Nat) (l : List Rat) (h : l.length = n) : bcast n l = some (fun c => l.getD c 0) :=
  if_pos h

/-- the form of the three sign tests -/
theorem any_neg_iff {α : Type} {l : List α} {p : α → Rat} :
    ¬ l.any (fun x => decide (p x < 0)) = true ↔ ∀ x ∈ l, ¬ p x < 0 := by
  simp only [List.any_eq_true, decide_eq_true_eq, not_exists, not_and]

/-- the list the constructor builds from resolved (defaulted, broadcast) per-cell functions -/
def build (n : Nat) (kxx kyy kzz kxy kxz kyz : Nat → Rat) : List M3 :=
  (List.range n).map (fun c => ofEntries (kxx c) (kyy c) (kzz c) (kxy c) (kxz c) (kyz c))

theorem build_length (n : Nat) (kxx kyy kzz kxy kxz kyz : Nat → Rat) :
    (build n kxx kyy kzz kxy kxz kyz).length = n := by
  rw [build, List.length_map, List.length_range]

theorem mem_build (n : Nat) (kxx kyy kzz kxy kxz kyz : Nat → Rat) (K : M3)
    (h : K ∈ build n kxx kyy kzz kxy kxz kyz) :
    ∃ c, c < n ∧ K = ofEntries (kxx c) (kyy c) (kzz c) (kxy c) (kxz c) (kyz c) :=
  let ⟨c, hc, e⟩ := List.mem_map.mp h
  ⟨c, List.mem_range.mp hc, e.symm⟩

theorem mkSOT_ok_of (a : Args) (kyy kzz kxy kxz kyz : Nat → Rat)
    (h1 : bcast a.kxx.length (a.kyy.getD a.kxx) = some kyy)
    (h2 : bcast a.kxx.length (a.kxy.getD (a.kxx.map (fun v => 0 * v))) = some kxy)
    (h3 : bcast a.kxx.length (a.kzz.getD a.kxx) = some kzz)
    (h4 : bcast a.kxx.length (a.kxz.getD (a.kxx.map (fun v => 0 * v))) = some kxz)
    (h5 : bcast a.kxx.length (a.kyz.getD (a.kxx.map (fun v => 0 * v))) = some kyz)
    (hx : ∀ v ∈ a.kxx, ¬ v < 0)
    (hy : ∀ c, c < a.kxx.length → ¬ minor2 (a.kxx.getD c 0) (kyy c) (kxy c) < 0)
    (hz : ∀ c, c < a.kxx.length → ¬ det3 (a.kxx.getD c 0) (kyy c) (kzz c) (kxy c) (kxz c) (kyz c) < 0) :
    mkSOT a = .ok (build a.kxx.length (fun c => a.kxx.getD c 0) kyy kzz kxy kxz kyz) := by
  unfold mkSOT
  simp only [h1, h2, h3, h4, h5]
  rw [if_neg (any_neg_iff.mpr hx), if_neg (any_neg_iff.mpr fun c hc => hy c (List.mem_range.mp hc)),
    if_neg (any_neg_iff.mpr fun c hc => hz c (List.mem_range.mp hc))]
  rfl

/-- the converse: a successful call resolved its arguments, passed the three tests in every cell and returned the
    list built from the resolved arguments -/
theorem mkSOT_ok_inv (a : Args) (t : List M3) (h : mkSOT a = .ok t) :
    ∃ kyy kzz kxy kxz kyz : Nat → Rat,
      bcast a.kxx.length (a.kyy.getD a.kxx) = some kyy ∧
      bcast a.kxx.length (a.kxy.getD (a.kxx.map (fun v => 0 * v))) = some kxy ∧
      bcast a.kxx.length (a.kzz.getD a.kxx) = some kzz ∧
      bcast a.kxx.length (a.kxz.getD (a.kxx.map (fun v => 0 * v))) = some kxz ∧
      bcast a.kxx.length (a.kyz.getD (a.kxx.map (fun v => 0 * v))) = some kyz ∧
      (∀ v ∈ a.kxx, ¬ v < 0) ∧
      (∀ c, c < a.kxx.length → ¬ minor2 (a.kxx.getD c 0) (kyy c) (kxy c) < 0) ∧
      (∀ c, c < a.kxx.length → ¬ det3 (a.kxx.getD c 0) (kyy c) (kzz c) (kxy c) (kxz c) (kyz c) < 0) ∧
      t = build a.kxx.length (fun c => a.kxx.getD c 0) kyy kzz kxy kxz kyz := by
  unfold mkSOT at h
  obtain ⟨hx, h⟩ := Common.ite_error_eq_ok.1 h
  split at h
  case h_2 => cases h
  rename_i kyy kxy h1 h2
  obtain ⟨hy, h⟩ := Common.ite_error_eq_ok.1 h
  split at h
  case h_2 => cases h
  rename_i kzz kxz kyz h3 h4 h5
  obtain ⟨hz, h⟩ := Common.ite_error_eq_ok.1 h
  exact ⟨kyy, kzz, kxy, kxz, kyz, h1, h2, h3, h4, h5, any_neg_iff.mp hx,
    fun c hc => any_neg_iff.mp hy c (List.mem_range.mpr hc), fun c hc => any_neg_iff.mp hz c (List.mem_range.mpr hc),
    (Except.ok.inj h).symm⟩

/-- a cell as the constructor accepts it when it is handed the cell's diagonal and lower triangle: symmetric,
    and the three sign tests hold -/
def Admissible (K : M3) : Prop :=
  (∀ i j, K i j = K j i) ∧ 0 ≤ K 0 0 ∧ 0 ≤ minor2 (K 0 0) (K 1 1) (K 1 0) ∧
    0 ≤ det3 (K 0 0) (K 1 1) (K 2 2) (K 1 0) (K 2 0) (K 2 1)

theorem sot_cells_admissible (a : Args) (t : List M3) (h : mkSOT a = .ok t) : ∀ K ∈ t, Admissible K := by
  obtain ⟨kyy, kzz, kxy, kxz, kyz, -, -, -, -, -, hx, hy, hz, rfl⟩ := mkSOT_ok_inv a t h
  intro K hK
  obtain ⟨c, hc, rfl⟩ := mem_build _ _ _ _ _ _ _ K hK
  exact ⟨ofEntries_symm _ _ _ _ _ _, Rat.not_lt.mp (hx _ (Common.getD_mem 0 hc)), Rat.not_lt.mp (hy c hc),
    Rat.not_lt.mp (hz c hc)⟩

/-- `copySOTcoded` re-runs the constructor on the diagonal and the lower triangle of every cell: it succeeds,
    with the same values, on any list of admissible cells. -/
theorem copySOTcoded_ok (t : List M3) (h : ∀ K ∈ t, Admissible K) : copySOTcoded t = .ok t := by
  have hl (g : M3 → Rat) : (t.map g).length = (t.map (fun K => K 0 0)).length := by
    rw [List.length_map, List.length_map]
  have hn : (t.map (fun K : M3 => K 0 0)).length = t.length := List.length_map _
  have hg (g : M3 → Rat) {c : Nat} (hc : c < t.length) : (t.map g).getD c 0 = g t[c] := by
    rw [Common.getD_of_lt 0 (by rwa [List.length_map]), List.getElem_map]
  -- `by exact`: these are elaborated last, when the arguments `copy` hands to the constructor are known
  refine (mkSOT_ok_of _ _ _ _ _ _ (bcast_full _ _ (by exact hl _)) (bcast_full _ _ (by exact hl _))
    (bcast_full _ _ (by exact hl _)) (bcast_full _ _ (by exact hl _)) (bcast_full _ _ (by exact hl _))
    ?_ ?_ ?_).trans (congrArg Except.ok ?_)
  · intro v hv
    obtain ⟨K, hK, rfl⟩ := List.mem_map.mp hv
    exact Rat.not_lt.mpr (h K hK).2.1
  · intro c hc
    have hc := hn ▸ hc
    simp only [Option.getD_some, hg _ hc]
    exact Rat.not_lt.mpr (h _ (List.getElem_mem hc)).2.2.1
  · intro c hc
    have hc := hn ▸ hc
    simp only [Option.getD_some, hg _ hc]
    exact Rat.not_lt.mpr (h _ (List.getElem_mem hc)).2.2.2
  · refine List.ext_getElem (by rw [build_length, hn]) fun c _ hc => ?_
    simp only [build, List.getElem_map, List.getElem_range, Option.getD_some, hg _ hc]
    exact ofEntries_eta (h _ (List.getElem_mem hc)).1

/-- `restrictSOTcoded` (copy through the validating constructor, then index) is the property-level `restrictSOT`
    wherever the copy succeeds unchanged: on every list of admissible cells -/
theorem restrictSOTcoded_eq (t : List M3) (h : ∀ K ∈ t, Admissible K) (cells : List Nat) :
    restrictSOTcoded t cells = restrictSOT t cells := by
  unfold restrictSOTcoded restrictSOT copySOT
  rw [copySOTcoded_ok t h]

theorem mkFOT_ok {mu lmbda : List Rat} {extra : List Extra} {t : FOT} (h : mkFOT mu lmbda extra = .ok t) :
    t = { mu := mu, lmbda := lmbda, extra := extra,
          values := (List.range mu.length).map (fun c => fun i j =>
            muMat i j * mu.getD c 0 + lmMat i j * lmbda.getD c 0 + extraSum extra c i j) } := by
  unfold mkFOT at h
  obtain ⟨-, h⟩ := Common.ite_error_eq_ok.1 h
  obtain ⟨-, h⟩ := Common.ite_error_eq_ok.1 h
  exact (Except.ok.inj h).symm

theorem foldl_congr_mem {α β : Type} {f g : α → β → α} {l : List β} (H : ∀ a, ∀ b ∈ l, f a b = g a b) (a : α) :
    l.foldl f a = l.foldl g a := by
  induction l generalizing a with
  | nil => rfl
  | cons b l ih =>
    rw [List.foldl_cons, List.foldl_cons, H a b List.mem_cons_self]
    exact ih (fun a' b' hb' => H a' b' (List.mem_cons_of_mem _ hb')) _

theorem extraSum_congr {es : List Extra} {i j i' j' : Fin 9} (h : ∀ e ∈ es, e.mat i j = e.mat i' j') (c : Nat) :
    extraSum es c i j = extraSum es c i' j' :=
  foldl_congr_mem (fun acc e he => by rw [h e he]) 0

/-- Two positions at which the hard-coded tables and all other basis matrices agree hold the
    same entry in every cell; the symmetries of the tensor are instances. -/
theorem mkFOT_entry_congr {mu lmbda : List Rat} {extra : List Extra} {t : FOT} (h : mkFOT mu lmbda extra = .ok t)
    {i j i' j' : Fin 9} (hmu : tabI muTab i j = tabI muTab i' j') (hlm : tabI lmTab i j = tabI lmTab i' j')
    (hex : ∀ e ∈ extra, e.mat i j = e.mat i' j') : ∀ V ∈ t.values, V i j = V i' j' := by
  obtain rfl := mkFOT_ok h
  intro V hV
  obtain ⟨c, _, rfl⟩ := List.mem_map.mp hV
  simp only [muMat, lmMat, hmu, hlm, extraSum_congr hex]

theorem muTab_symm : ∀ i j : Fin 9, tabI muTab i j = tabI muTab j i := by decide +kernel

theorem lmTab_symm : ∀ i j : Fin 9, tabI lmTab i j = tabI lmTab j i := by decide +kernel

theorem muTab_minor : ∀ i j : Fin 9,
    tabI muTab (swapIdx i) j = tabI muTab i j ∧ tabI muTab i (swapIdx j) = tabI muTab i j := by decide +kernel

theorem lmTab_minor : ∀ i j : Fin 9,
    tabI lmTab (swapIdx i) j = tabI lmTab i j ∧ tabI lmTab i (swapIdx j) = tabI lmTab i j := by decide +kernel

end PorepyVerif.C40
