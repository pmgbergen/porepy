/-
C27 — property theorems.

Property: for any list of subdomains, interfaces or boundary grids (in any order, scalar or
vector-valued), restriction followed by prolongation to the same grids is the identity,
prolongations from all listed grids together form a permutation of the global vector following
the list order, and mortar projections equal the per-interface projections placed at the matching
global offsets.

Notation: `gs` = the subdomain list handed to the projection object, `dim` = vector dimension,
`useFaces` selects face (`true`) or cell (`false`) quantities, `sel` = positions (in `gs`) of the
grids a restriction / prolongation is asked for, in the order asked.  A 0-1 projection is described
by its index map `idx` (`P[idx[j], j] = 1`, `R[j, idx[j]] = 1`); `Mat.apply` is the matrix–vector
product of the triplet matrices the model (and the driver) produce.

Hypotheses used throughout (explicit, decidable, satisfied by every real grid list):
`0 < dim` and `∀ g ∈ gs, g.wf` (≥ 1 cell; faces = 0 iff the grid is 0-dimensional).
-/
import PorepyVerif.C27.Lemmas

namespace PorepyVerif.C27
open List

/-- Vector-valued projections are the scalar ones expanded by `expand_indices_nd`
    (`P_dim = P_1 ⊗ I_dim`), and expanding a range of scalar indices gives the range of vector dofs. -/
theorem kron_dim (useFaces : Bool) (gs : List G) (dim : Nat) (hd : 0 < dim) (hwf : ∀ g ∈ gs, g.wf) :
    projsOf useFaces gs dim =
        (projsOf useFaces gs 1).map (fun bl => bl.map (fun b => expandNd b dim)) ∧
      (∀ a n, expandNd (List.range' a n) dim = List.range' (dim * a) (dim * n)) := by
  constructor
  · rw [projsOf_eq useFaces gs dim hd hwf, projsOf_eq useFaces gs 1 Nat.one_pos hwf]
    have := blocks_mul dim 0 (gs.map (fun g => sizeOf useFaces g))
    simp only [List.map_map, Function.comp_def, Nat.mul_zero] at this
    simp only [Option.map_some, Nat.one_mul, this]
  · intro a n
    exact expandNd_range' a n dim

set_option linter.unusedVariables false in
/-- Component `k` of scalar index `ind[j]` sits at position `j*dim + k` and is `dim*ind[j] + k`;
    nothing else is produced.  (Holds for `dim = 0` as well.) -/
theorem expandNd_index (ind : List Nat) (dim : Nat) (hd : 0 < dim) :
    (expandNd ind dim).length = ind.length * dim ∧
      (∀ j k (hj : j < ind.length), k < dim → (expandNd ind dim)[j * dim + k]? = some (dim * ind[j] + k)) ∧
      (∀ g, g ∈ expandNd ind dim ↔ ∃ i ∈ ind, ∃ k, k < dim ∧ g = dim * i + k) :=
  ⟨expandNd_length ind dim, fun j k hj hk => expandNd_getElem? ind dim j k hj hk,
    fun g => mem_expandNd ind dim g⟩

set_option linter.unusedVariables false in
/-- `sparse_kronecker_product(M, dim)`: entry `(r, c, v)` of `M` becomes exactly the entries
    `(r*dim + k, c*dim + k, v)`, `k < dim`.  (Holds for `dim = 0` as well.) -/
theorem kron_triplets (tr : List Trip) (dim : Nat) (hd : 0 < dim) (t' : Trip) :
    t' ∈ kronI tr dim ↔ ∃ t ∈ tr, ∃ k, k < dim ∧ t' = (t.1 * dim + k, t.2.1 * dim + k, t.2.2) :=
  mem_kronI tr dim t'

/-- The offset loops of `_cell_projections` / `_face_projections` (offset = `ind[-1] + 1`, for faces
    only moved when `sd.dim > 0`) never raise on well-formed grids and produce consecutive ranges. -/
theorem projections_are_blocks (useFaces : Bool) (gs : List G) (dim : Nat) (hd : 0 < dim)
    (hwf : ∀ g ∈ gs, g.wf) :
    projsOf useFaces gs dim = some (blocks 0 (gs.map (fun g => dim * sizeOf useFaces g))) :=
  projsOf_eq useFaces gs dim hd hwf

/-- The blocks, in list order, tile `[off, off + total)`: concatenated they are exactly the range
    (so they are pairwise disjoint, contiguous and cover it), one block per listed grid. -/
theorem blocks_disjoint_contiguous_cover (off : Nat) (ss : List Nat) :
    (blocks off ss).flatten = List.range' off ss.sum ∧ (blocks off ss).flatten.Nodup ∧
      (blocks off ss).length = ss.length := by
  refine ⟨blocks_flatten off ss, ?_, blocks_length off ss⟩
  rw [blocks_flatten]
  exact List.nodup_range' (step := 1)

/-- Grid `p` of the list owns the global indices `[dim * (sizes of the grids before it), + dim * size)`. -/
theorem block_offsets (useFaces : Bool) (gs : List G) (dim : Nat) (hd : 0 < dim)
    (hwf : ∀ g ∈ gs, g.wf) (p : Nat) (hp : p < gs.length) :
    ∃ projs, projsOf useFaces gs dim = some projs ∧ projs.length = gs.length ∧
      projs[p]? = some (List.range' (dim * sumMap (sizeOf useFaces) (gs.take p))
        (dim * sizeOf useFaces gs[p])) := by
  exact ⟨_, projsOf_eq useFaces gs dim hd hwf, by rw [blocks_length, List.length_map],
    blocks_grid_getElem? gs (sizeOf useFaces) dim p hp⟩

/-- the index map the model computes for a selection of listed grids -/
def selIdx (useFaces : Bool) (gs : List G) (dim : Nat) (sel : List Nat) : List Nat :=
  sel.flatMap (fun i => (blocks 0 (gs.map (fun g => dim * sizeOf useFaces g))).getD i [])

private theorem sum_sizes (useFaces : Bool) (gs : List G) (dim : Nat) :
    (gs.map (fun g => dim * sizeOf useFaces g)).sum = sumMap (sizeOf useFaces) gs * dim := by
  rw [sum_map_mul_left, Nat.mul_comm]

/-- on well-formed grids and listed positions both operators are built from the index map `selIdx` -/
theorem prolongation_restriction_eq (useFaces : Bool) (gs : List G) (dim : Nat) (hd : 0 < dim)
    (hwf : ∀ g ∈ gs, g.wf) (sel : List Nat) (hlt : ∀ i ∈ sel, i < gs.length) :
    prolongation useFaces gs dim sel =
        .ok (prolongMat (sumMap (sizeOf useFaces) gs * dim) (selIdx useFaces gs dim sel)) ∧
      restriction useFaces gs dim sel =
        .ok (restrictMat (sumMap (sizeOf useFaces) gs * dim) (selIdx useFaces gs dim sel)) := by
  have h : subIdx (projsOf useFaces gs dim) sel = .ok (selIdx useFaces gs dim sel) := by
    rw [projsOf_eq useFaces gs dim hd hwf]
    exact subIdx_blocks _ sel (fun i hi => by rw [List.length_map]; exact hlt i hi)
  constructor
  · rw [prolongation, h]
    rfl
  · rw [restriction, h]
    rfl

theorem restrict_prolong_apply (n : Nat) (idx : List Nat) (hnodup : idx.Nodup) (hrange : ∀ g ∈ idx, g < n)
    (w : List Rat) (hw : w.length = idx.length) :
    (restrictMat n idx).apply ((prolongMat n idx).apply w) = w := by
  rw [prolongMat_apply, restrictMat_apply]
  unfold restrictV
  rw [List.map_congr_left (fun g hg => prolongV_getD _ idx w g (hrange g hg))]
  exact map_scatterAt_self idx w hnodup hw

theorem prolong_restrict_apply (n : Nat) (idx : List Nat) (hnodup : idx.Nodup) (v : List Rat) :
    (prolongMat n idx).apply ((restrictMat n idx).apply v) =
      (List.range n).map (fun g => if g ∈ idx then v.getD g 0 else 0) := by
  rw [restrictMat_apply, prolongMat_apply]
  unfold prolongV restrictV
  apply List.map_congr_left
  intro g _
  exact scatterAt_map g idx (fun g => v.getD g 0) hnodup

theorem selIdx_nodup_range (useFaces : Bool) (gs : List G) (dim : Nat) (sel : List Nat)
    (hnd : sel.Nodup) (hlt : ∀ i ∈ sel, i < gs.length) :
    (selIdx useFaces gs dim sel).Nodup ∧
      ∀ g ∈ selIdx useFaces gs dim sel, g < sumMap (sizeOf useFaces) gs * dim := by
  have hsp := selIdx_subperm 0 (gs.map (fun g => dim * sizeOf useFaces g)) sel hnd
    (fun i hi => by rw [List.length_map]; exact hlt i hi)
  rw [sum_sizes] at hsp
  refine ⟨nodup_of_subperm hsp (List.nodup_range' (step := 1)), fun g hg => ?_⟩
  have := (List.mem_range'_1.mp (hsp.subset hg)).2
  rwa [Nat.zero_add] at this

/-- For ANY duplicate-free sub-list of the listed grids, in ANY order: the model's prolongation and
    restriction are `P` and `R = Pᵀ` of one index map with distinct, in-range targets, and
    `R (P w) = w` for every vector `w` on the selected grids. -/
theorem restrict_prolong_id (useFaces : Bool) (gs : List G) (dim : Nat) (hd : 0 < dim)
    (hwf : ∀ g ∈ gs, g.wf) (sel : List Nat) (hnd : sel.Nodup) (hlt : ∀ i ∈ sel, i < gs.length) :
    ∃ idx, prolongation useFaces gs dim sel = .ok (prolongMat (sumMap (sizeOf useFaces) gs * dim) idx) ∧
      restriction useFaces gs dim sel = .ok (restrictMat (sumMap (sizeOf useFaces) gs * dim) idx) ∧
      idx.Nodup ∧ (∀ g ∈ idx, g < sumMap (sizeOf useFaces) gs * dim) ∧
      ∀ w : List Rat, w.length = idx.length →
        (restrictMat (sumMap (sizeOf useFaces) gs * dim) idx).apply
          ((prolongMat (sumMap (sizeOf useFaces) gs * dim) idx).apply w) = w := by
  obtain ⟨hnodup, hrange⟩ := selIdx_nodup_range useFaces gs dim sel hnd hlt
  obtain ⟨hP, hR⟩ := prolongation_restriction_eq useFaces gs dim hd hwf sel hlt
  exact ⟨_, hP, hR, hnodup, hrange, fun w hw => restrict_prolong_apply _ _ hnodup hrange w hw⟩

/-- `P (R v)` keeps the entries of `v` that belong to the selected grids and zeroes the rest. -/
theorem prolong_restrict_mask (useFaces : Bool) (gs : List G) (dim : Nat) (hd : 0 < dim)
    (hwf : ∀ g ∈ gs, g.wf) (sel : List Nat) (hnd : sel.Nodup) (hlt : ∀ i ∈ sel, i < gs.length) :
    ∃ idx, prolongation useFaces gs dim sel = .ok (prolongMat (sumMap (sizeOf useFaces) gs * dim) idx) ∧
      restriction useFaces gs dim sel = .ok (restrictMat (sumMap (sizeOf useFaces) gs * dim) idx) ∧
      ∀ v : List Rat,
        (prolongMat (sumMap (sizeOf useFaces) gs * dim) idx).apply
          ((restrictMat (sumMap (sizeOf useFaces) gs * dim) idx).apply v) =
        (List.range (sumMap (sizeOf useFaces) gs * dim)).map (fun g => if g ∈ idx then v.getD g 0 else 0) := by
  obtain ⟨hnodup, _⟩ := selIdx_nodup_range useFaces gs dim sel hnd hlt
  obtain ⟨hP, hR⟩ := prolongation_restriction_eq useFaces gs dim hd hwf sel hlt
  exact ⟨_, hP, hR, fun v => prolong_restrict_apply _ _ hnodup v⟩

/-- If the selection is a permutation of ALL listed grids, the prolongation's index map is a
    permutation of `[0, total)` — the identity when the selection is the list itself — and `P`, `R`
    are mutually inverse on full vectors. -/
theorem prolong_all_is_perm (useFaces : Bool) (gs : List G) (dim : Nat) (hd : 0 < dim)
    (hwf : ∀ g ∈ gs, g.wf) (sel : List Nat) (hp : sel ~ List.range gs.length) :
    ∃ idx, prolongation useFaces gs dim sel = .ok (prolongMat (sumMap (sizeOf useFaces) gs * dim) idx) ∧
      restriction useFaces gs dim sel = .ok (restrictMat (sumMap (sizeOf useFaces) gs * dim) idx) ∧
      idx ~ List.range (sumMap (sizeOf useFaces) gs * dim) ∧
      (sel = List.range gs.length → idx = List.range (sumMap (sizeOf useFaces) gs * dim)) ∧
      (∀ v : List Rat, v.length = sumMap (sizeOf useFaces) gs * dim →
        (prolongMat (sumMap (sizeOf useFaces) gs * dim) idx).apply
          ((restrictMat (sumMap (sizeOf useFaces) gs * dim) idx).apply v) = v) ∧
      (∀ w : List Rat, w.length = sumMap (sizeOf useFaces) gs * dim →
        (restrictMat (sumMap (sizeOf useFaces) gs * dim) idx).apply
          ((prolongMat (sumMap (sizeOf useFaces) gs * dim) idx).apply w) = w) := by
  have hnd : sel.Nodup := hp.nodup_iff.mpr List.nodup_range
  have hlt : ∀ i ∈ sel, i < gs.length := fun i hi => List.mem_range.mp (hp.subset hi)
  obtain ⟨hnodup, hrange⟩ := selIdx_nodup_range useFaces gs dim sel hnd hlt
  have hperm : selIdx useFaces gs dim sel ~ List.range (sumMap (sizeOf useFaces) gs * dim) := by
    have := selIdx_perm 0 (gs.map (fun g => dim * sizeOf useFaces g)) sel (by rwa [List.length_map])
    rw [sum_sizes, ← List.range_eq_range'] at this
    exact this
  obtain ⟨hP, hR⟩ := prolongation_restriction_eq useFaces gs dim hd hwf sel hlt
  refine ⟨_, hP, hR, hperm, ?_, ?_, ?_⟩
  · intro hsel
    unfold selIdx
    rw [hsel]
    have := flatMap_blocks_range 0 (gs.map (fun g => dim * sizeOf useFaces g))
    rw [List.length_map] at this
    rw [this, sum_sizes, ← List.range_eq_range']
  · intro v hv
    rw [prolong_restrict_apply _ _ hnodup v]
    have hall : ∀ g ∈ List.range (sumMap (sizeOf useFaces) gs * dim), g ∈ selIdx useFaces gs dim sel :=
      fun g hg => hperm.symm.subset hg
    rw [List.map_congr_left (fun g hg => if_pos (hall g hg))]
    rw [← hv]
    exact map_getD_range v 0
  · intro w hw
    exact restrict_prolong_apply _ _ hnodup hrange w (by rw [hw, hperm.length_eq, List.length_range])

/-- the index map of a selection is the concatenation, in the order asked, of the ranges the selected grids own
    (no distinctness needed) -/
theorem selIdx_eq (useFaces : Bool) (gs : List G) (dim : Nat) (sel : List Nat) (hlt : ∀ i ∈ sel, i < gs.length) :
    selIdx useFaces gs dim sel = sel.flatMap (fun i =>
      List.range' (dim * sumMap (sizeOf useFaces) (gs.take i))
        (match gs[i]? with
          | some g => dim * sizeOf useFaces g
          | none => 0)) := by
  unfold selIdx
  refine List.flatMap_congr (fun i hi => ?_)
  have hi' : i < gs.length := hlt i hi
  rw [blocks_grid_getD gs _ dim i hi', List.getElem?_eq_getElem hi']

/-- List order: the `k`-th grid of the selection occupies the next `dim * size` columns, and column
    `t` of that group is sent to global index `dim * (sizes of the grids listed before it in gs) + t`.
    (No distinctness needed.) -/
theorem prolong_follows_list_order (useFaces : Bool) (gs : List G) (dim : Nat) (hd : 0 < dim)
    (hwf : ∀ g ∈ gs, g.wf) (sel : List Nat) (hlt : ∀ i ∈ sel, i < gs.length)
    (k t : Nat) (hk : k < sel.length) (g : G) (hg : gs[sel[k]]? = some g)
    (ht : t < dim * sizeOf useFaces g) :
    ∃ idx, prolongation useFaces gs dim sel = .ok (prolongMat (sumMap (sizeOf useFaces) gs * dim) idx) ∧
      idx[sumMap (fun i => match gs[i]? with
                            | some g' => dim * sizeOf useFaces g'
                            | none => 0) (sel.take k) + t]? =
        some (dim * sumMap (sizeOf useFaces) (gs.take sel[k]) + t) := by
  refine ⟨_, (prolongation_restriction_eq useFaces gs dim hd hwf sel hlt).1, ?_⟩
  have h := flatMap_getElem? (fun i => List.range' (dim * sumMap (sizeOf useFaces) (gs.take i))
    (match gs[i]? with
      | some g => dim * sizeOf useFaces g
      | none => 0)) sel k t hk (by rw [List.length_range', hg]; exact ht)
  simp only [List.length_range'] at h
  rw [selIdx_eq useFaces gs dim sel hlt, h, hg, List.getElem?_range' ht, Nat.one_mul]

/-- The triplet matrices produced by the model act on vectors exactly as their index maps say
    (`P w` scatters, `R v` gathers). -/
theorem matrices_act_as_index_maps (n : Nat) (idx : List Nat) (x : List Rat) :
    (prolongMat n idx).apply x = prolongV n idx x ∧ (restrictMat n idx).apply x = restrictV idx x :=
  ⟨prolongMat_apply n idx x, restrictMat_apply n idx x⟩

/-- `_construct_projection` on a non-empty list of interfaces of one admissible codimension: the blocks
    of the interfaces, stacked vertically (to the mortar grids) or horizontally (from them). -/
private theorem constructProjection_eq (gs : List G) (dim : Nat) (hd : 0 < dim) (hwf : ∀ g ∈ gs, g.wf)
    (intfs : List Intf) (hne : intfs ≠ []) (toMortar isPrimary : Bool) (c : Nat) (hc : c = 1 ∨ c = 2)
    (hcod : ∀ i ∈ intfs, i.codim = c) :
    constructProjection gs dim intfs toMortar isPrimary =
      (if toMortar then vstack else hstack) (intfs.map (fun i =>
        mortarBlock dim (blocks 0 (gs.map (fun g => dim * sizeOf (decide (c = 1) && isPrimary) g)))
          (sumMap (sizeOf (decide (c = 1) && isPrimary)) gs * dim)
          (dim * sumMap (sizeOf (decide (c = 1) && isPrimary)) gs) toMortar
          (if isPrimary then i.prim else i.sec) i)) := by
  cases intfs with
  | nil => exact absurd rfl hne
  | cons i0 rest =>
    have hcc : ¬ (c ≠ 1 ∧ c ≠ 2) := fun h => hc.elim h.1 h.2
    simp only [constructProjection, mixedCodim_false c _ hcod, Bool.false_eq_true, if_false,
      hcod i0 List.mem_cons_self, if_neg hcc, projsOf_eq _ gs dim hd hwf]
    cases toMortar <;> rfl

/-- `mortar_to_primary_*` / `mortar_to_secondary_*` (`is_primary` selects the side): for ANY list of
    subdomains and ANY non-empty ordered list of interfaces of one codimension `c ∈ {1, 2}`, the global
    matrix has shape `(dim * Σ size) × (dim * Σ mortar cells)` and consists exactly of the local
    matrices `kron(M_k, I_dim)`, interface `k` shifted to
      rows    `dim * (sizes of the subdomains listed before its neighbour)`,
      columns `dim * (cells of the interfaces listed before it)`;
    interfaces whose neighbour is not in the subdomain list contribute nothing.  `size` is faces for
    codimension-1 primaries and cells otherwise.  (Local entries are assumed to fit the neighbour.) -/
theorem mortar_block_offsets (gs : List G) (dim : Nat) (hd : 0 < dim) (hwf : ∀ g ∈ gs, g.wf)
    (intfs : List Intf) (hne : intfs ≠ []) (isPrimary : Bool) (c : Nat) (hc : c = 1 ∨ c = 2)
    (hcod : ∀ i ∈ intfs, i.codim = c)
    (hpos : ∀ i ∈ intfs, ∀ p, (if isPrimary then i.prim else i.sec) = some p →
      ∃ g, gs[p]? = some g ∧ ∀ t ∈ i.mat, t.1 < sizeOf (decide (c = 1) && isPrimary) g) :
    constructProjection gs dim intfs false isPrimary =
      .ok ⟨dim * sumMap (sizeOf (decide (c = 1) && isPrimary)) gs, dim * sumMap Intf.cells intfs,
        (List.range intfs.length).flatMap (fun k =>
          match intfs[k]? with
          | some i =>
            (match (if isPrimary then i.prim else i.sec) with
             | some p => (kronI i.mat dim).map (fun t =>
                 (dim * sumMap (sizeOf (decide (c = 1) && isPrimary)) (gs.take p) + t.1,
                  dim * sumMap Intf.cells (intfs.take k) + t.2.1, t.2.2))
             | none => [])
          | none => [])⟩ := by
  rw [constructProjection_eq gs dim hd hwf intfs hne false isPrimary c hc hcod,
    List.map_congr_left (fun i hi => mortarBlock_eq gs _ dim false _ i (hpos i hi))]
  exact hstack_from _ dim _ (fun i => if isPrimary then i.prim else i.sec) intfs hne

/-- `primary_to_mortar_*` / `secondary_to_mortar_*`: the same placement, transposed (rows = mortar
    cells of interface `k` at `dim * (cells of the earlier interfaces)`, columns at the subdomain offset). -/
theorem mortar_to_mortar_block_offsets (gs : List G) (dim : Nat) (hd : 0 < dim) (hwf : ∀ g ∈ gs, g.wf)
    (intfs : List Intf) (hne : intfs ≠ []) (isPrimary : Bool) (c : Nat) (hc : c = 1 ∨ c = 2)
    (hcod : ∀ i ∈ intfs, i.codim = c)
    (hpos : ∀ i ∈ intfs, ∀ p, (if isPrimary then i.prim else i.sec) = some p →
      ∃ g, gs[p]? = some g ∧ ∀ t ∈ i.mat, t.2.1 < sizeOf (decide (c = 1) && isPrimary) g) :
    constructProjection gs dim intfs true isPrimary =
      .ok ⟨dim * sumMap Intf.cells intfs, dim * sumMap (sizeOf (decide (c = 1) && isPrimary)) gs,
        (List.range intfs.length).flatMap (fun k =>
          match intfs[k]? with
          | some i =>
            (match (if isPrimary then i.prim else i.sec) with
             | some p => (kronI i.mat dim).map (fun t =>
                 (dim * sumMap Intf.cells (intfs.take k) + t.1,
                  dim * sumMap (sizeOf (decide (c = 1) && isPrimary)) (gs.take p) + t.2.1, t.2.2))
             | none => [])
          | none => [])⟩ := by
  rw [constructProjection_eq gs dim hd hwf intfs hne true isPrimary c hc hcod,
    List.map_congr_left (fun i hi => mortarBlock_eq gs _ dim true _ i (hpos i hi))]
  exact vstack_to _ dim _ (fun i => if isPrimary then i.prim else i.sec) intfs hne

/-- Interfaces of different codimension in one list are refused (`ValueError`), as are codimensions
    other than 1 and 2; an empty interface list gives an empty matrix of the right non-mortar size. -/
theorem mortar_rejections (gs : List G) (dim : Nat) (toMortar isPrimary : Bool) :
    (∀ i j rest, i.codim ≠ j.codim → j ∈ rest →
        constructProjection gs dim (i :: rest) toMortar isPrimary = .error .valueError) ∧
      (∀ i rest, i.codim ≠ 1 → i.codim ≠ 2 →
        constructProjection gs dim (i :: rest) toMortar isPrimary = .error .valueError) ∧
      constructProjection gs dim [] false isPrimary = .ok ⟨dim * sumMap (sizeOf isPrimary) gs, 0, []⟩ ∧
      constructProjection gs dim [] true isPrimary = .ok ⟨0, dim * sumMap (sizeOf isPrimary) gs, []⟩ := by
  refine ⟨?_, ?_, rfl, rfl⟩
  · intro i j rest hij hj
    have : mixedCodim (i :: rest) = true := by
      simp only [mixedCodim, List.any_eq_true]
      exact ⟨j, hj, by simpa using fun h => hij h.symm⟩
    simp [constructProjection, this]
  · intro i rest h1 h2
    by_cases hm : mixedCodim (i :: rest) = true
    · simp [constructProjection, hm]
    · simp [constructProjection, hm, h1, h2]

/-- `BoundaryProjection`: `subdomain_to_boundary` is the restriction `R` (and `boundary_to_subdomain`
    its transpose `P`) of ONE index map: boundary cell `i`, component `k` of the grid at position `p`
    reads global face dof `dim * (faces of the grids listed before) + dim * bf_i + k`, grid after grid
    in list order (0-d grids contribute no rows).  The targets are distinct and in range, hence
    `R (P w) = w`: going to the subdomains and back is the identity on boundary data. -/
theorem boundary_projection_is_restriction (gs : List G) (dim : Nat) (hd : 0 < dim)
    (hwf : ∀ g ∈ gs, g.wf) (hb : ∀ g ∈ gs, g.bfaces.Nodup ∧ ∀ b ∈ g.bfaces, b < g.faces) :
    ∃ idx, boundaryProjection gs dim = .ok (restrictMat (sumMap G.faces gs * dim) idx) ∧
      idx = (List.range gs.length).flatMap (fun p =>
        match gs[p]? with
        | some g =>
          if 0 < g.gdim then (expandNd g.bfaces dim).map (fun c => dim * sumMap G.faces (gs.take p) + c)
          else []
        | none => []) ∧
      idx.Nodup ∧ (∀ x ∈ idx, x < sumMap G.faces gs * dim) ∧
      ∀ w : List Rat, w.length = idx.length →
        (restrictMat (sumMap G.faces gs * dim) idx).apply
          ((prolongMat (sumMap G.faces gs * dim) idx).apply w) = w := by
  have hidx : boundaryIdx gs dim = .ok (accFlat (fun g => dim * g.faces) (bPiece dim) 0 gs) := by
    rw [boundaryIdx, faceProjs_eq gs dim hd hwf]
    exact congrArg Except.ok (boundaryIdxAux_eq dim gs 0 (fun g hg => (hb g hg).2))
  obtain ⟨hnodup, hrange⟩ := accFlat_bPiece_props dim gs 0 hb
  rw [Nat.zero_add, Nat.mul_comm] at hrange
  have hrange' := fun x hx => (hrange x hx).2
  refine ⟨_, ?_, ?_, hnodup, hrange', fun w hw => restrict_prolong_apply _ _ hnodup hrange' w hw⟩
  · rw [boundaryProjection, hidx]
    rfl
  · rw [accFlat_eq]
    congr 1
    funext p
    cases gs[p]? with
    | none => rfl
    | some g =>
      dsimp only
      rw [Nat.zero_add, sumMap_mul_left]
      rfl

/-- `Divergence(subdomains, dim).parse = blockdiag(kron(div_p, I_dim))` in list order: the local
    divergence of the grid at position `p` (cells × faces, expanded by `dim`) sits at row offset
    `dim * (cells of the grids before it)` and column offset `dim * (faces of the grids before it)`;
    the shape is `(dim * Σ cells) × (dim * Σ faces)`.  Holds for ALL grid lists and `dim`. -/
theorem divergence_is_block_diagonal (gs : List G) (dim : Nat) (locals : List (List Trip))
    (hlen : gs.length = locals.length) :
    divergenceMat gs dim locals = ⟨dim * sumMap G.cells gs, dim * sumMap G.faces gs,
      (List.range gs.length).flatMap (fun p =>
        match (gs.zip locals)[p]? with
        | some x => (kronI x.2 dim).map (fun t =>
            (dim * sumMap G.cells (gs.take p) + t.1, dim * sumMap G.faces (gs.take p) + t.2.1, t.2.2))
        | none => [])⟩ := by
  unfold divergenceMat
  rw [blockDiagAux_eq, accFlat2_map_list, sumMap_map, sumMap_map,
    accFlat2_zip_eq (fun g : G => g.cells * dim) (fun g : G => g.faces * dim) _ gs locals hlen,
    sumMap_zip_fst (fun g : G => g.cells * dim) gs locals (Nat.le_of_eq hlen),
    sumMap_zip_fst (fun g : G => g.faces * dim) gs locals (Nat.le_of_eq hlen)]
  simp only [sumMap_mul_right G.cells, sumMap_mul_right G.faces, Nat.zero_add]
  congr 2
  funext p
  cases (gs.zip locals)[p]? <;> rfl

/-- `Trace(subdomains).trace` (scalar): the local trace of the grid at position `p` (faces × cells)
    sits at row offset `Σ faces before`, column offset `Σ cells before` — the same offsets as the
    face / cell projections — and the shape is `Σ faces × Σ cells`. -/
theorem trace_is_block_placement (gs : List G) (hne : gs ≠ []) (hwf : ∀ g ∈ gs, g.wf)
    (locals : List (List Trip)) (hlen : gs.length = locals.length)
    (hfit : ∀ x ∈ gs.zip locals, ∀ t ∈ x.2, t.2.1 < x.1.cells) :
    traceMat gs 1 locals = .ok ⟨sumMap G.faces gs, sumMap G.cells gs,
      (List.range gs.length).flatMap (fun p =>
        match (gs.zip locals)[p]? with
        | some x => x.2.map (fun t =>
            (sumMap G.faces (gs.take p) + t.1, sumMap G.cells (gs.take p) + t.2.1, t.2.2))
        | none => [])⟩ := by
  have hl : gs.length ≤ ((blocks 0 (gs.map G.cells)).zip locals).length := by
    rw [List.length_zip, blocks_length, List.length_map, ← hlen, Nat.min_self]
  rw [traceMat, cellProjs_eq gs 1 Nat.one_pos hwf]
  · simp only [Nat.one_mul, Nat.mul_one]
    show vstack ((gs.zip ((blocks 0 (gs.map G.cells)).zip locals)).map _) = _
    rw [vstack_ok (sumMap G.cells gs) _ ?ne (List.forall_mem_map.mpr (fun _ _ => rfl)), accFlat_map_list,
      sumMap_map, sumMap_zip_fst G.faces gs _ hl]
    · refine congrArg Except.ok (congrArg (Mat.mk _ _) ?_)
      -- each grid is zipped with its own block of cell indices, so the columns of its trace move to that block
      refine (accFlat_zip_blocks G.faces G.cells
        (fun o _ b L => (mapCols b L).map (fun t => (o + t.1, t.2.1, t.2.2))) 0 0 gs locals).trans ?_
      rw [accFlat2_zip_eq G.faces G.cells _ gs locals hlen]
      congr 1
      funext p
      cases h : (gs.zip locals)[p]? with
      | none => rfl
      | some x =>
        dsimp only
        rw [mapCols_range' _ _ _ (hfit x (List.mem_of_getElem? h)), List.map_map]
        rfl
    · intro e
      have := congrArg List.length e
      rw [List.length_map, List.length_zip, Nat.min_eq_left hl] at this
      exact hne (List.eq_nil_of_length_eq_zero this)
  · exact hne

/-- The other branches of `Trace.__init__`: an empty list gives the empty matrix; vector-valued
    traces are refused (`NotImplementedError`) for every non-empty well-formed list. -/
theorem trace_other_cases (gs : List G) (dim : Nat) (locals : List (List Trip)) :
    traceMat [] dim locals = .ok ⟨0, 0, []⟩ ∧
      (gs ≠ [] → 0 < dim → dim ≠ 1 → (∀ g ∈ gs, g.wf) → traceMat gs dim locals = .error .notImplemented) := by
  refine ⟨rfl, ?_⟩
  intro hne hd h1 hwf
  cases gs with
  | nil => exact absurd rfl hne
  | cons g gs' =>
    simp [traceMat, cellProjs_eq (g :: gs') dim hd hwf, liftO, bind, Except.bind, h1]

/-- Error paths of `cell_/face_restriction/prolongation`, for ALL grid data (no well-formedness assumed):
    * the offset loop raises `IndexError` exactly when some grid has no cells (cell version) resp. some
      grid of positive dimension has no faces (face version) — and then every call raises it, whatever `sel`;
    * otherwise a call raises `KeyError` exactly when some requested grid is not in the list;
    * otherwise it returns a matrix.  No other exception is possible. -/
theorem error_paths (useFaces : Bool) (gs : List G) (dim : Nat) (hd : 0 < dim) (sel : List Nat) :
    (projsOf useFaces gs dim = none ↔
        ∃ g ∈ gs, if useFaces then (0 < g.gdim ∧ g.faces = 0) else g.cells = 0) ∧
      (prolongation useFaces gs dim sel = .error .indexError ↔ projsOf useFaces gs dim = none) ∧
      (prolongation useFaces gs dim sel = .error .keyError ↔
        projsOf useFaces gs dim ≠ none ∧ ∃ i ∈ sel, gs.length ≤ i) ∧
      ((∃ m, prolongation useFaces gs dim sel = .ok m) ↔
        projsOf useFaces gs dim ≠ none ∧ ∀ i ∈ sel, i < gs.length) ∧
      (restriction useFaces gs dim sel = .error .indexError ↔ projsOf useFaces gs dim = none) ∧
      (restriction useFaces gs dim sel = .error .keyError ↔
        projsOf useFaces gs dim ≠ none ∧ ∃ i ∈ sel, gs.length ≤ i) ∧
      ((∃ m, restriction useFaces gs dim sel = .ok m) ↔
        projsOf useFaces gs dim ≠ none ∧ ∀ i ∈ sel, i < gs.length) := by
  have hlen : ∀ r, projsOf useFaces gs dim = some r → r.length = gs.length := by
    intro r hr
    rw [projsOf_eq_projAux] at hr
    rw [projAux_length dim _ 0 r hr, List.length_map]
  obtain ⟨h1, h2, h3⟩ := subIdx_char (projsOf useFaces gs dim) gs.length hlen sel
  refine ⟨?_, ?_, ?_, ?_, ?_, ?_, ?_⟩
  · rw [projsOf_eq_projAux, projAux_none_iff dim hd]
    constructor
    · rintro ⟨p, hp, h2, h1⟩
      obtain ⟨g, hg, rfl⟩ := List.mem_map.mp hp
      refine ⟨g, hg, ?_⟩
      cases useFaces with
      | false => exact h1
      | true => exact ⟨of_decide_eq_true h2, h1⟩
    · rintro ⟨g, hg, h⟩
      refine ⟨_, List.mem_map.mpr ⟨g, hg, rfl⟩, ?_⟩
      cases useFaces with
      | false => exact ⟨rfl, h⟩
      | true => exact ⟨decide_eq_true h.1, h.2⟩
  · exact (bind_pure_error _ _ _).trans h1
  · exact (bind_pure_error _ _ _).trans h2
  · exact (bind_pure_ok _ _).trans h3
  · exact (bind_pure_error _ _ _).trans h1
  · exact (bind_pure_error _ _ _).trans h2
  · exact (bind_pure_ok _ _).trans h3

/-- `MortarProjections.sign_of_mortar_sides`: the diagonal is the concatenation, in interface order, of
    the per-interface signs; interface `k` occupies the entries `[dim * (cells of the earlier
    interfaces), + dim * cells)`, `-1` on the first (`LEFT`) side, `+1` on the second, all `+1` for
    one-sided interfaces.  Every entry is `±1`, so the operator is its own inverse. -/
theorem sign_block_offsets (dim : Nat) (intfs : List Intf)
    (hcons : ∀ i ∈ intfs, i.sides = 1 ∨ i.left + i.right = i.cells) :
    (signDiag dim intfs).length = dim * sumMap Intf.cells intfs ∧
      (∀ x ∈ signDiag dim intfs, x * x = 1) ∧
      ∀ k j (hk : k < intfs.length), j < intfs[k].cells * dim →
        (signDiag dim intfs)[dim * sumMap Intf.cells (intfs.take k) + j]? =
          some (if intfs[k].sides = 1 then 1 else if j < intfs[k].left * dim then -1 else 1) := by
  have hl : ∀ l : List Intf, (∀ i ∈ l, i.sides = 1 ∨ i.left + i.right = i.cells) →
      sumMap (fun i => (signOf dim i).length) l = dim * sumMap Intf.cells l := by
    intro l hlc
    rw [sumMap_congr _ (fun i : Intf => i.cells * dim) l (fun i hi => signOf_length dim i (hlc i hi)),
      sumMap_mul_right]
  refine ⟨?_, ?_, ?_⟩
  · rw [← hl intfs hcons, sumMap_eq_sum]
    exact List.length_flatMap
  · intro x hx
    obtain ⟨i, _, hxi⟩ := List.mem_flatMap.mp hx
    rcases signOf_mem dim i x hxi with rfl | rfl
    · exact one_mul 1
    · rw [neg_mul_neg, one_mul]
  · intro k j hk hj
    have hkc := hcons _ (List.getElem_mem hk)
    unfold signDiag
    rw [← hl (intfs.take k) (fun i hi => hcons i (List.mem_of_mem_take hi)),
      flatMap_getElem? (signOf dim) intfs k j hk (by rw [signOf_length dim _ hkc]; exact hj)]
    exact signOf_getElem? dim _ hkc j hj

/-- `np.where(tags["domain_boundary_faces"])[0]` is strictly increasing (hence duplicate free) and
    below `num_faces = len(mask)`: the hypothesis `hb` of `boundary_projection_is_restriction` holds for
    every grid whose boundary faces are read from its tag mask, so for such grids it disappears. -/
theorem boundary_tags_satisfy_hypothesis (cells gdim : Nat) (mask : List Bool) :
    (G.ofTags cells gdim mask).bfaces.Pairwise (· < ·) ∧ (G.ofTags cells gdim mask).bfaces.Nodup ∧
      ∀ b ∈ (G.ofTags cells gdim mask).bfaces, b < (G.ofTags cells gdim mask).faces := by
  obtain ⟨hp, hr⟩ := whereTrue_props 0 mask
  refine ⟨hp, ?_, fun b hb => by have := hr b hb; simpa [G.ofTags] using this.2⟩
  exact hp.imp (fun h => Nat.ne_of_lt h)

/-- boundary projection for grid lists read from real grids (tag masks): no hypothesis on the boundary
    faces is left — only `0 < dim` and well-formed sizes. -/
theorem boundary_projection_from_tags (specs : List (Nat × Nat × List Bool)) (dim : Nat) (hd : 0 < dim)
    (hwf : ∀ g ∈ specs.map (fun x => G.ofTags x.1 x.2.1 x.2.2), g.wf) :
    ∃ idx, boundaryProjection (specs.map (fun x => G.ofTags x.1 x.2.1 x.2.2)) dim =
        .ok (restrictMat (sumMap G.faces (specs.map (fun x => G.ofTags x.1 x.2.1 x.2.2)) * dim) idx) ∧
      idx.Nodup ∧
      ∀ w : List Rat, w.length = idx.length →
        (restrictMat (sumMap G.faces (specs.map (fun x => G.ofTags x.1 x.2.1 x.2.2)) * dim) idx).apply
          ((prolongMat (sumMap G.faces (specs.map (fun x => G.ofTags x.1 x.2.1 x.2.2)) * dim) idx).apply w) = w := by
  have hb : ∀ g ∈ specs.map (fun x => G.ofTags x.1 x.2.1 x.2.2),
      g.bfaces.Nodup ∧ ∀ b ∈ g.bfaces, b < g.faces := by
    intro g hg
    obtain ⟨x, _, rfl⟩ := List.mem_map.mp hg
    exact (boundary_tags_satisfy_hypothesis x.1 x.2.1 x.2.2).2
  obtain ⟨idx, h1, _, h3, _, h5⟩ := boundary_projection_is_restriction _ dim hd hwf hb
  exact ⟨idx, h1, h3, h5⟩

/-- Argument checks of the entry points: the constructor refuses (`ValueError`) exactly the lists with a
    repeated subdomain; a restriction / prolongation called with a non-list raises `ValueError` before
    anything else (even when the offset loop would raise), and with a list it is the projection proper,
    whose error paths are characterised by `error_paths`. -/
theorem entry_point_checks (ids : List Nat) (restrict useFaces : Bool) (gs : List G) (dim : Nat) (sel : List Nat) :
    (ctorCheck ids = .error .valueError ↔ ¬ ids.Nodup) ∧ (ctorCheck ids = .ok () ↔ ids.Nodup) ∧
      subCall restrict useFaces false gs dim sel = .error .valueError ∧
      subCall restrict useFaces true gs dim sel =
        (if restrict then restriction useFaces gs dim sel else prolongation useFaces gs dim sel) := by
  refine ⟨?_, ?_, rfl, rfl⟩
  · rw [← setLen_lt_iff]
    unfold ctorCheck
    split <;> simp [*]
  · rw [← not_iff_not, ← setLen_lt_iff]
    unfold ctorCheck
    split <;> simp [*]

private theorem hypMortar_sound (gs : List G) (toMortar isPrimary : Bool) (i0 : Intf) (rest : List Intf)
    (h : hypMortar gs (i0 :: rest) toMortar isPrimary = true) :
    (i0.codim = 1 ∨ i0.codim = 2) ∧ (∀ i ∈ i0 :: rest, i.codim = i0.codim) ∧
      ∀ i ∈ i0 :: rest, ∀ p, (if isPrimary then i.prim else i.sec) = some p →
        ∃ g, gs[p]? = some g ∧ ∀ t ∈ i.mat,
          (if toMortar then t.2.1 else t.1) < sizeOf (decide (i0.codim = 1) && isPrimary) g := by
  simp only [hypMortar, Bool.and_eq_true, Bool.or_eq_true, beq_iff_eq, List.all_eq_true] at h
  obtain ⟨⟨hc, hu⟩, hf⟩ := h
  refine ⟨hc, hu, fun i hi p hp => ?_⟩
  have := hf i hi
  rw [hp] at this
  cases hg : gs[p]? with
  | none => simp [hg] at this
  | some g =>
    simp only [hg] at this
    exact ⟨g, rfl, fun t ht => of_decide_eq_true (List.all_eq_true.mp this t ht)⟩

/-- The Boolean hypothesis checks the driver evaluates on every case are exactly the hypotheses of the
    theorems above (so a `true` answer makes the theorems applicable to that case). -/
theorem driver_hypotheses_sound (gs : List G) (intfs : List Intf) :
    (hypGrids gs = true → (∀ g ∈ gs, g.wf) ∧ ∀ g ∈ gs, g.bfaces.Nodup ∧ ∀ b ∈ g.bfaces, b < g.faces) ∧
      (hypSign intfs = true → ∀ i ∈ intfs, i.sides = 1 ∨ i.left + i.right = i.cells) ∧
      (∀ isPrimary i0 rest, intfs = i0 :: rest → hypMortar gs intfs false isPrimary = true →
        (i0.codim = 1 ∨ i0.codim = 2) ∧ (∀ i ∈ intfs, i.codim = i0.codim) ∧
        ∀ i ∈ intfs, ∀ p, (if isPrimary then i.prim else i.sec) = some p →
          ∃ g, gs[p]? = some g ∧ ∀ t ∈ i.mat, t.1 < sizeOf (decide (i0.codim = 1) && isPrimary) g) ∧
      (∀ isPrimary i0 rest, intfs = i0 :: rest → hypMortar gs intfs true isPrimary = true →
        (i0.codim = 1 ∨ i0.codim = 2) ∧ (∀ i ∈ intfs, i.codim = i0.codim) ∧
        ∀ i ∈ intfs, ∀ p, (if isPrimary then i.prim else i.sec) = some p →
          ∃ g, gs[p]? = some g ∧ ∀ t ∈ i.mat, t.2.1 < sizeOf (decide (i0.codim = 1) && isPrimary) g) := by
  refine ⟨?_, ?_, ?_, ?_⟩
  · intro h
    simp only [hypGrids, List.all_eq_true, Bool.and_eq_true, decide_eq_true_eq] at h
    exact ⟨fun g hg => (h g hg).1.1, fun g hg => ⟨(h g hg).1.2, (h g hg).2⟩⟩
  · intro h
    simp only [hypSign, List.all_eq_true, Bool.or_eq_true, beq_iff_eq] at h
    exact h
  · intro isPrimary i0 rest he h
    subst he
    exact hypMortar_sound gs false isPrimary i0 rest h
  · intro isPrimary i0 rest he h
    subst he
    exact hypMortar_sound gs true isPrimary i0 rest h

/-- a 2-d grid (4 cells, 16 faces), two 1-d grids, a 0-d grid — listed in a non-sorted order -/
def exGs : List G :=
  [⟨2, 4, 1, [0, 3]⟩, ⟨4, 16, 2, [0, 1, 5, 9]⟩, ⟨1, 0, 0, []⟩, ⟨3, 6, 1, [5]⟩]

/-- two codimension-1 interfaces: primary = grid 1 (the 2-d grid), secondaries = grids 0 and 3;
    a third one whose neighbours are not in the list -/
def exIntfs : List Intf :=
  [⟨4, 1, some 1, some 0, [(3, 0, 1), (5, 1, 1), (7, 2, 1 / 2), (7, 3, 1 / 2)], 2, 2, 2⟩,
   ⟨2, 1, none, none, [(0, 0, 1)], 2, 1, 1⟩,
   ⟨6, 1, some 1, some 3, [(15, 5, 1), (0, 0, 1)], 2, 3, 3⟩]

/-- the example grids pass the driver's hypothesis check, so the theorems apply to them -/
theorem exGs_hyp : (∀ g ∈ exGs, g.wf) ∧ ∀ g ∈ exGs, g.bfaces.Nodup ∧ ∀ b ∈ g.bfaces, b < g.faces :=
  (driver_hypotheses_sound exGs []).1 (by decide)

example : ∀ g ∈ exGs, g.wf := exGs_hyp.1

example : projsOf true exGs 2 =
    some [List.range' 0 8, List.range' 8 32, [], List.range' 40 12] := by decide +kernel

example := kron_dim true exGs 3 (by decide) exGs_hyp.1
example := expandNd_index [4, 0, 7] 3 (by decide)
example : expandNd [4, 0, 7] 3 = [12, 13, 14, 0, 1, 2, 21, 22, 23] := by decide
example := projections_are_blocks false exGs 2 (by decide) exGs_hyp.1
example : (blocks 3 [2, 0, 4]) = [[3, 4], [], [5, 6, 7, 8]] := by decide
example := block_offsets true exGs 2 (by decide) exGs_hyp.1 3 (by decide)
example := restrict_prolong_id true exGs 2 (by decide) exGs_hyp.1 [3, 0] (by decide) (by decide)
example := prolong_restrict_mask false exGs 3 (by decide) exGs_hyp.1 [2, 1] (by decide) (by decide)

example : [2, 0, 3, 1] ~ List.range exGs.length := by decide
example := prolong_all_is_perm true exGs 2 (by decide) exGs_hyp.1 [2, 0, 3, 1] (by decide)

example := prolong_follows_list_order true exGs 2 (by decide) exGs_hyp.1 [3, 0, 1] (by decide)
  2 5 (by decide) ⟨4, 16, 2, [0, 1, 5, 9]⟩ rfl (by decide)

private theorem exIntfs_fit :
    ∀ i ∈ exIntfs, ∀ p, (if true then i.prim else i.sec) = some p →
      ∃ g, exGs[p]? = some g ∧ ∀ t ∈ i.mat, t.1 < sizeOf (decide (1 = 1) && true) g :=
  (hypMortar_sound exGs false true _ _ (by decide)).2.2

example := mortar_block_offsets exGs 2 (by decide) exGs_hyp.1 exIntfs (by decide)
  true 1 (Or.inl rfl) (by decide) exIntfs_fit

/-- the placed blocks of the example: 4 local entries × dim 2 for interface 0 and 2 × 2 for
    interface 2 (interface 1 has no listed neighbour) -/
example : (match constructProjection exGs 2 exIntfs false true with
    | .ok m => (m.nr, m.nc, m.tr.map (fun t => (t.1, t.2.1)))
    | .error _ => (0, 0, [])) =
    (52, 24, [(14, 0), (15, 1), (18, 2), (19, 3), (22, 4), (23, 5), (22, 6), (23, 7),
              (38, 22), (39, 23), (8, 12), (9, 13)]) := by decide +kernel

/-- the same interfaces with the transposed local matrices (`primary_to_mortar_*`) -/
def exIntfsT : List Intf :=
  exIntfs.map (fun i => { i with mat := i.mat.map (fun t => (t.2.1, t.1, t.2.2)) })

private theorem exIntfsT_fit :
    ∀ i ∈ exIntfsT, ∀ p, (if true then i.prim else i.sec) = some p →
      ∃ g, exGs[p]? = some g ∧ ∀ t ∈ i.mat, t.2.1 < sizeOf (decide (1 = 1) && true) g :=
  (hypMortar_sound exGs true true _ _ (by decide)).2.2

example := mortar_to_mortar_block_offsets exGs 2 (by decide) exGs_hyp.1 exIntfsT (by decide)
  true 1 (Or.inl rfl) (by decide) exIntfsT_fit

example := mortar_rejections exGs 2 false true

example : ∀ g ∈ exGs, g.bfaces.Nodup ∧ ∀ b ∈ g.bfaces, b < g.faces := exGs_hyp.2
example := boundary_projection_is_restriction exGs 2 (by decide) exGs_hyp.1 exGs_hyp.2

example : (match boundaryIdx exGs 2 with | .ok idx => idx | .error _ => []) =
    [0, 1, 6, 7, 8, 9, 10, 11, 18, 19, 26, 27, 50, 51] := by decide +kernel

/-- local divergences (cells × faces) / traces (faces × cells) of the four example grids -/
def exDivs : List (List Trip) :=
  [[(0, 0, -1), (0, 1, 1), (1, 1, -1), (1, 2, 1)], [(0, 0, -1), (3, 15, 1)], [], [(2, 5, 1)]]
def exTraces : List (List Trip) :=
  [[(0, 0, 1), (3, 1, 1)], [(15, 3, 1), (0, 0, 1)], [], [(5, 2, 1)]]

example := divergence_is_block_diagonal exGs 2 exDivs rfl
example : (divergenceMat exGs 2 exDivs).tr.map (fun t => (t.1, t.2.1)) =
    [(0, 0), (1, 1), (0, 2), (1, 3), (2, 2), (3, 3), (2, 4), (3, 5),
     (4, 8), (5, 9), (10, 38), (11, 39), (18, 50), (19, 51)] := by decide +kernel
example := trace_is_block_placement exGs (by decide) exGs_hyp.1 exTraces rfl (by decide)
example := (trace_other_cases exGs 2 exTraces).2 (by decide) (by decide) (by decide) exGs_hyp.1
example := error_paths true exGs 2 (by decide) [0, 7]
/-- a grid of positive dimension without faces makes the face version raise, the cell version not -/
example : projsOf true [⟨2, 4, 1, []⟩, ⟨3, 0, 1, []⟩] 2 = none ∧
    projsOf false [⟨2, 4, 1, []⟩, ⟨3, 0, 1, []⟩] 2 ≠ none := by decide
example : prolongation false exGs 2 [0, 7] = .error .keyError :=
  ((error_paths false exGs 2 (by decide) [0, 7]).2.2.1).mpr ⟨by decide, 7, by decide, by decide⟩
example := sign_block_offsets 2 exIntfs (by decide)
example : signDiag 2 exIntfs = [-1, -1, -1, -1, 1, 1, 1, 1, -1, -1, 1, 1, -1, -1, -1, -1, -1, -1, 1, 1, 1, 1, 1, 1] := by
  decide +kernel

example := boundary_tags_satisfy_hypothesis 4 2 [true, false, true, true, false]
example : (G.ofTags 4 2 [true, false, true, true, false]).bfaces = [0, 2, 3] := by decide
example := boundary_projection_from_tags [(4, 2, [true, false, true, true]), (1, 0, []), (2, 1, [true, false, true])] 2
  (by decide) (by decide)
example := entry_point_checks [3, 1, 3] true false exGs 2 [0]
example : ctorCheck [3, 1, 3] = .error .valueError ∧ ctorCheck [3, 1, 2] = .ok () := by decide
example : hypGrids exGs = true ∧ hypSign exIntfs = true ∧ hypMortar exGs exIntfs false true = true := by decide

end PorepyVerif.C27
