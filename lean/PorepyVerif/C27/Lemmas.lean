/-
C27 — what each loop of the model computes, in closed form. `LemmasBlocks`: the per-grid projections are the
consecutive ranges `blocks`; `LemmasApply`: the 0-1 matrices act as their index maps; `LemmasPlace`: stacking places
triplets at accumulated offsets. Here: the sign vector, the `Except` plumbing and the argument checks.
-/
import PorepyVerif.C27.LemmasApply
import PorepyVerif.C27.LemmasPlace

namespace PorepyVerif.C27
open List

theorem signOf_length (dim : Nat) (i : Intf) (h : i.sides = 1 ∨ i.left + i.right = i.cells) :
    (signOf dim i).length = i.cells * dim := by
  unfold signOf
  split
  · simp
  · rcases h with h | h
    · contradiction
    · simp [← h, Nat.add_mul]

theorem signOf_getElem? (dim : Nat) (i : Intf) (h : i.sides = 1 ∨ i.left + i.right = i.cells) (j : Nat)
    (hj : j < i.cells * dim) :
    (signOf dim i)[j]? = some (if i.sides = 1 then 1 else if j < i.left * dim then -1 else 1) := by
  by_cases h1 : i.sides = 1
  · rw [signOf, if_pos h1, if_pos h1, List.getElem?_replicate, if_pos hj]
  · rw [← h.resolve_left h1, Nat.add_mul] at hj
    rw [signOf, if_neg h1, if_neg h1]
    by_cases hlt : j < i.left * dim
    · rw [if_pos hlt, List.getElem?_append_left (by rwa [List.length_replicate]), List.getElem?_replicate,
        if_pos hlt]
    · rw [if_neg hlt, List.getElem?_append_right (by rw [List.length_replicate]; exact Nat.le_of_not_lt hlt),
        List.length_replicate, List.getElem?_replicate, if_pos (by omega)]

theorem signOf_mem (dim : Nat) (i : Intf) (x : Rat) (hx : x ∈ signOf dim i) : x = 1 ∨ x = -1 := by
  unfold signOf at hx
  split at hx
  · exact Or.inl (List.eq_of_mem_replicate hx)
  · rcases List.mem_append.mp hx with h | h
    · exact Or.inr (List.eq_of_mem_replicate h)
    · exact Or.inl (List.eq_of_mem_replicate h)

theorem bind_pure_error {α β : Type} (x : Except Err α) (f : α → β) (e : Err) :
    (do let a ← x; pure (f a) : Except Err β) = .error e ↔ x = .error e := by
  cases x with
  | error e' => exact ⟨fun h => by cases h; rfl, fun h => by cases h; rfl⟩
  | ok a => exact ⟨nofun, nofun⟩

theorem bind_pure_ok {α β : Type} (x : Except Err α) (f : α → β) :
    (∃ m, (do let a ← x; pure (f a) : Except Err β) = .ok m) ↔ ∃ a, x = .ok a := by
  cases x with
  | error e => exact ⟨nofun, nofun⟩
  | ok a => exact ⟨fun _ => ⟨a, rfl⟩, fun _ => ⟨f a, rfl⟩⟩

theorem whereTrue_props (i : Nat) (mask : List Bool) :
    (whereTrue i mask).Pairwise (· < ·) ∧ ∀ b ∈ whereTrue i mask, i ≤ b ∧ b < i + mask.length := by
  induction mask generalizing i with
  | nil => exact ⟨List.Pairwise.nil, fun _ h => nomatch h⟩
  | cons c cs ih =>
    obtain ⟨hp, hr⟩ := ih (i + 1)
    have hr' : ∀ b ∈ whereTrue (i + 1) cs, i ≤ b ∧ b < i + (c :: cs).length := by
      intro b hb
      obtain ⟨h1, h2⟩ := hr b hb
      rw [List.length_cons, Nat.add_comm cs.length, ← Nat.add_assoc]
      exact ⟨Nat.le_of_succ_le h1, h2⟩
    cases c with
    | false => exact ⟨hp, hr'⟩
    | true =>
      refine ⟨List.pairwise_cons.mpr ⟨fun b hb => (hr b hb).1, hp⟩, fun b hb => ?_⟩
      rcases List.mem_cons.mp hb with rfl | hb
      · exact ⟨Nat.le_refl _, Nat.lt_add_of_pos_right (Nat.succ_pos _)⟩
      · exact hr' b hb

theorem setLen_le (l : List Nat) : setLen l ≤ l.length := by
  induction l with
  | nil => simp [setLen]
  | cons c l ih =>
    simp only [setLen, List.length_cons]
    split <;> omega

theorem setLen_lt_iff (l : List Nat) : setLen l < l.length ↔ ¬ l.Nodup := by
  induction l with
  | nil => exact ⟨fun h => absurd h (Nat.lt_irrefl 0), fun h => absurd List.nodup_nil h⟩
  | cons c l ih =>
    have hle := setLen_le l
    rw [setLen, List.length_cons, List.nodup_cons]
    split
    · next h => exact ⟨fun _ hn => hn.1 h, fun _ => Nat.lt_succ_of_le hle⟩
    · next h => rw [Nat.succ_lt_succ_iff, ih]; exact ⟨fun hn hc => hn hc.2, fun hn hc => hn ⟨h, hc⟩⟩

end PorepyVerif.C27
