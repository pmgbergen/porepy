/-
C27 — placement at accumulated offsets: `hstack`/`vstack`/`blockDiagAux` and the boundary index map concatenate
pieces at running offsets (`accFlat`, `accFlat2`), piece `k` landing at the sums of the sizes before it; the mortar
blocks are the expanded local matrices moved to the offset of the neighbouring subdomain.
-/
import PorepyVerif.C27.LemmasBlocks

namespace PorepyVerif.C27
open List

/- `accFlat size F off l`: the pieces `F o a` of the elements of `l` concatenated, the offset `o` running from
   `off` by the sizes of the elements before (how `sps.bmat` places its blocks). -/
def accFlat {α β : Type} (size : α → Nat) (F : Nat → α → List β) : Nat → List α → List β
  | _, [] => []
  | off, a :: l => F off a ++ accFlat size F (off + size a) l

/-- the same with two running offsets (block diagonal placement) -/
def accFlat2 {α β : Type} (sa sb : α → Nat) (F : Nat → Nat → α → List β) : Nat → Nat → List α → List β
  | _, _, [] => []
  | a, b, x :: l => F a b x ++ accFlat2 sa sb F (a + sa x) (b + sb x) l

/-- element `k` of the list is placed at the offsets given by the sizes of the elements before it -/
theorem accFlat2_eq {α β : Type} (sa sb : α → Nat) (F : Nat → Nat → α → List β) (a b : Nat) (l : List α) :
    accFlat2 sa sb F a b l = (List.range l.length).flatMap (fun k =>
      match l[k]? with
      | some x => F (a + sumMap sa (l.take k)) (b + sumMap sb (l.take k)) x
      | none => []) := by
  induction l generalizing a b with
  | nil => rfl
  | cons x l ih =>
    rw [accFlat2, ih, List.length_cons, List.range_succ_eq_map, List.flatMap_cons, List.flatMap_map]
    congr 2
    funext k
    show _ = match l[k]? with
      | some y => F (a + (sa x + sumMap sa (l.take k))) (b + (sb x + sumMap sb (l.take k))) y
      | none => []
    rw [Nat.add_assoc, Nat.add_assoc]

theorem accFlat_eq_accFlat2 {α β : Type} (size : α → Nat) (F : Nat → α → List β) (off : Nat) (l : List α) :
    accFlat size F off l = accFlat2 size (fun _ => 0) (fun o _ a => F o a) off 0 l := by
  induction l generalizing off with
  | nil => rfl
  | cons a l ih => rw [accFlat, accFlat2, ih]

theorem accFlat2_map_list {α β γ : Type} (sa sb : α → Nat) (F : Nat → Nat → α → List β) (g : γ → α)
    (a b : Nat) (l : List γ) :
    accFlat2 sa sb F a b (l.map g) =
      accFlat2 (fun c => sa (g c)) (fun c => sb (g c)) (fun x y c => F x y (g c)) a b l := by
  induction l generalizing a b with
  | nil => rfl
  | cons x l ih => simp [accFlat2, ih]

theorem accFlat_map_list {α β γ : Type} (size : α → Nat) (F : Nat → α → List β) (g : γ → α) (off : Nat)
    (l : List γ) :
    accFlat size F off (l.map g) = accFlat (fun c => size (g c)) (fun o c => F o (g c)) off l := by
  rw [accFlat_eq_accFlat2, accFlat2_map_list, accFlat_eq_accFlat2]

theorem accFlat_eq {α β : Type} (size : α → Nat) (F : Nat → α → List β) (off : Nat) (l : List α) :
    accFlat size F off l = (List.range l.length).flatMap (fun k =>
      match l[k]? with
      | some a => F (off + sumMap size (l.take k)) a
      | none => []) := by
  rw [accFlat_eq_accFlat2, accFlat2_eq]

theorem map_accFlat {α β γ : Type} (size : α → Nat) (F : Nat → α → List β) (h : β → γ) (off : Nat)
    (l : List α) :
    (accFlat size F off l).map h = accFlat size (fun o a => (F o a).map h) off l := by
  induction l generalizing off with
  | nil => rfl
  | cons a l ih => simp [accFlat, ih]

theorem accFlat_congr {α β : Type} (size : α → Nat) (F F' : Nat → α → List β) (off : Nat) (l : List α)
    (h : ∀ a ∈ l, ∀ o, F o a = F' o a) : accFlat size F off l = accFlat size F' off l := by
  induction l generalizing off with
  | nil => rfl
  | cons a l ih =>
    simp only [accFlat]
    rw [h a (by simp), ih _ (fun b hb => h b (List.mem_cons_of_mem _ hb))]

/-- pieces without repetition that stay inside their own slot `[o, o + size a)` give a list without
    repetition inside `[off, off + Σ size)` -/
theorem accFlat_nodup_range {α : Type} (size : α → Nat) (F : Nat → α → List Nat) (l : List α) (off : Nat)
    (h : ∀ a ∈ l, ∀ o, (F o a).Nodup ∧ ∀ x ∈ F o a, o ≤ x ∧ x < o + size a) :
    (accFlat size F off l).Nodup ∧ ∀ x ∈ accFlat size F off l, off ≤ x ∧ x < off + sumMap size l := by
  induction l generalizing off with
  | nil => exact ⟨List.nodup_nil, fun _ hx => nomatch hx⟩
  | cons a l ih =>
    obtain ⟨hn1, hr1⟩ := h a List.mem_cons_self off
    obtain ⟨hn2, hr2⟩ := ih (off + size a) (fun b hb => h b (List.mem_cons_of_mem _ hb))
    rw [accFlat, sumMap, ← Nat.add_assoc]
    refine ⟨List.nodup_append.mpr ⟨hn1, hn2, fun x hx y hy =>
      Nat.ne_of_lt (Nat.lt_of_lt_of_le (hr1 x hx).2 (hr2 y hy).1)⟩, fun x hx => ?_⟩
    rcases List.mem_append.mp hx with hx | hx
    · exact ⟨(hr1 x hx).1, Nat.lt_of_lt_of_le (hr1 x hx).2 (Nat.le_add_right _ _)⟩
    · exact ⟨Nat.le_trans (Nat.le_add_right _ _) (hr2 x hx).1, (hr2 x hx).2⟩

/-- on a zipped list whose sizes only look at the first components, the offsets are sums over the first list -/
theorem accFlat2_zip_eq {α γ β : Type} (sa sb : α → Nat) (F : Nat → Nat → α × γ → List β)
    (l₁ : List α) (l₂ : List γ) (h : l₁.length = l₂.length) :
    accFlat2 (fun x : α × γ => sa x.1) (fun x => sb x.1) F 0 0 (l₁.zip l₂) =
      (List.range l₁.length).flatMap (fun p =>
        match (l₁.zip l₂)[p]? with
        | some x => F (sumMap sa (l₁.take p)) (sumMap sb (l₁.take p)) x
        | none => []) := by
  rw [accFlat2_eq, List.length_zip, ← h, Nat.min_self]
  congr 1
  funext p
  cases (l₁.zip l₂)[p]? with
  | none => rfl
  | some x =>
    dsimp only
    rw [Nat.zero_add, Nat.zero_add, sumMap_take_zip_fst sa l₁ l₂ p h, sumMap_take_zip_fst sb l₁ l₂ p h]

/-- zipping a list with the blocks of its sizes hands each element its own range -/
theorem accFlat_zip_blocks {α γ β : Type} (sz s : α → Nat) (F : Nat → α → List Nat → γ → List β)
    (ro co : Nat) (l : List α) (l' : List γ) :
    accFlat (fun x : α × List Nat × γ => sz x.1) (fun o x => F o x.1 x.2.1 x.2.2) ro
        (l.zip ((blocks co (l.map s)).zip l')) =
      accFlat2 (fun x : α × γ => sz x.1) (fun x => s x.1)
        (fun a b x => F a x.1 (List.range' b (s x.1)) x.2) ro co (l.zip l') := by
  induction l generalizing ro co l' with
  | nil => rfl
  | cons a l ih =>
    cases l' with
    | nil => simp [blocks, accFlat, accFlat2]
    | cons c l' => simp only [List.map_cons, blocks, List.zip_cons_cons, accFlat, accFlat2, ih]

theorem hstackAux_ok (nr off : Nat) (ms : List Mat) (h : ∀ m ∈ ms, m.nr = nr) :
    hstackAux nr off ms = .ok (off + sumMap Mat.nc ms,
      accFlat Mat.nc (fun o m => m.tr.map (fun t => (t.1, o + t.2.1, t.2.2))) off ms) := by
  induction ms generalizing off with
  | nil => rfl
  | cons m ms ih =>
    rw [hstackAux, if_neg (not_not.mpr (h m List.mem_cons_self)),
      ih _ (fun m' hm' => h m' (List.mem_cons_of_mem _ hm')), sumMap, ← Nat.add_assoc]
    rfl

theorem hstack_ok (nr : Nat) (ms : List Mat) (hne : ms ≠ []) (h : ∀ m ∈ ms, m.nr = nr) :
    hstack ms = .ok ⟨nr, sumMap Mat.nc ms,
      accFlat Mat.nc (fun o m => m.tr.map (fun t => (t.1, o + t.2.1, t.2.2))) 0 ms⟩ := by
  cases ms with
  | nil => exact absurd rfl hne
  | cons m ms =>
    rw [hstack, h m List.mem_cons_self, hstackAux_ok nr 0 (m :: ms) h, Nat.zero_add]
    rfl

theorem accFlat_transpose (off : Nat) (l : List Mat) :
    (accFlat Mat.nc (fun o m => m.tr.map (fun t => (t.1, o + t.2.1, t.2.2))) off (l.map Mat.transpose)).map
        (fun t => (t.2.1, t.1, t.2.2)) =
      accFlat Mat.nr (fun o m => m.tr.map (fun t => (o + t.1, t.2.1, t.2.2))) off l := by
  rw [accFlat_map_list, map_accFlat]
  exact accFlat_congr _ _ _ off l (fun a _ o => by rw [Mat.transpose, List.map_map, List.map_map]; rfl)

/-- `vstack` is `hstack` between two transpositions, so the blocks land at accumulated row offsets -/
theorem vstack_ok (nc : Nat) (ms : List Mat) (hne : ms ≠ []) (h : ∀ m ∈ ms, m.nc = nc) :
    vstack ms = .ok ⟨sumMap Mat.nr ms, nc,
      accFlat Mat.nr (fun o m => m.tr.map (fun t => (o + t.1, t.2.1, t.2.2))) 0 ms⟩ := by
  have e : vstack ms = (do let x ← hstack (ms.map Mat.transpose); pure x.transpose) := rfl
  rw [e, hstack_ok nc _ (fun e => hne (List.eq_nil_of_map_eq_nil e)) (List.forall_mem_map.mpr h)]
  show Except.ok (Mat.mk _ _ _) = _
  rw [accFlat_transpose, sumMap_map]
  rfl

theorem kronI_eq_flatMap (tr : List Trip) (dim : Nat) :
    kronI tr dim = tr.flatMap (fun t => (List.range dim).map (fun k => (t.1 * dim + k, t.2.1 * dim + k, t.2.2))) := by
  unfold kronI
  split
  · next h =>
    subst h
    simp
  · rfl

theorem mem_kronI (tr : List Trip) (dim : Nat) (t' : Trip) :
    t' ∈ kronI tr dim ↔ ∃ t ∈ tr, ∃ k, k < dim ∧ t' = (t.1 * dim + k, t.2.1 * dim + k, t.2.2) := by
  rw [kronI_eq_flatMap]
  simp only [List.mem_flatMap, List.mem_map, List.mem_range]
  constructor
  · rintro ⟨t, ht, k, hk, rfl⟩; exact ⟨t, ht, k, hk, rfl⟩
  · rintro ⟨t, ht, k, hk, rfl⟩; exact ⟨t, ht, k, hk, rfl⟩

/-- bounds on the local rows (`b = false`) or columns (`b = true`) carry over to the expanded triplets -/
theorem kronI_lt (b : Bool) (tr : List Trip) (dim n : Nat)
    (h : ∀ t ∈ tr, (if b then t.2.1 else t.1) < n) :
    ∀ t' ∈ kronI tr dim, (if b then t'.2.1 else t'.1) < dim * n := by
  intro t' ht'
  obtain ⟨t, ht, k, hk, rfl⟩ := (mem_kronI tr dim t').mp ht'
  cases b <;> exact mul_add_lt (h t ht) hk

/-- looking up `key a` in a range that contains it just adds the start of the range -/
theorem filterMap_range'_getElem? {α β : Type} (off n : Nat) (key : α → Nat) (g : α → Nat → β)
    (l : List α) (h : ∀ a ∈ l, key a < n) :
    l.filterMap (fun a => ((List.range' off n)[key a]?).map (g a)) = l.map (fun a => g a (off + key a)) := by
  induction l with
  | nil => rfl
  | cons a l ih =>
    rw [List.filterMap_cons, List.getElem?_range' (h a List.mem_cons_self),
      ih (fun x hx => h x (List.mem_cons_of_mem _ hx)), Nat.one_mul]
    rfl

theorem mapRows_range' (ro n : Nat) (tr : List Trip) (h : ∀ t ∈ tr, t.1 < n) :
    mapRows (List.range' ro n) tr = tr.map (fun t => (ro + t.1, t.2.1, t.2.2)) :=
  filterMap_range'_getElem? ro n (fun t : Trip => t.1) (fun t g => ((g, t.2.1, t.2.2) : Trip)) tr h

theorem mapCols_range' (co n : Nat) (tr : List Trip) (h : ∀ t ∈ tr, t.2.1 < n) :
    mapCols (List.range' co n) tr = tr.map (fun t => (t.1, co + t.2.1, t.2.2)) :=
  filterMap_range'_getElem? co n (fun t : Trip => t.2.1) (fun t g => ((t.1, g, t.2.2) : Trip)) tr h

theorem mixedCodim_false (c : Nat) (intfs : List Intf) (h : ∀ i ∈ intfs, i.codim = c) :
    mixedCodim intfs = false := by
  cases intfs with
  | nil => rfl
  | cons i0 rest =>
    simp only [mixedCodim, List.any_eq_false]
    intro j hj
    have h0 := h i0 (by simp)
    have hj' := h j (List.mem_cons_of_mem _ hj)
    simp [h0, hj']

/-- content of the block of one interface: the expanded local triplets, moved by `f p` when the neighbouring
    subdomain is listed at position `p`, nothing otherwise -/
def placed (dim : Nat) (f : Nat → Trip → Trip) (side : Option Nat) (i : Intf) : List Trip :=
  match side with
  | some p => (kronI i.mat dim).map (f p)
  | none => []

/-- on block projections a mortar block is the local matrix moved to the offset of the subdomain, along the
    columns towards the mortar grid and along the rows from it -/
theorem mortarBlock_eq (gs : List G) (useFaces : Bool) (dim : Nat) (toMortar : Bool)
    (side : Option Nat) (i : Intf)
    (hpos : ∀ p, side = some p → ∃ g, gs[p]? = some g ∧
      ∀ t ∈ i.mat, (if toMortar then t.2.1 else t.1) < sizeOf useFaces g) :
    mortarBlock dim (blocks 0 (gs.map (fun g => dim * sizeOf useFaces g)))
        (sumMap (sizeOf useFaces) gs * dim) (dim * sumMap (sizeOf useFaces) gs) toMortar side i =
      if toMortar then
        ⟨i.cells * dim, dim * sumMap (sizeOf useFaces) gs,
          placed dim (fun p t => (t.1, dim * sumMap (sizeOf useFaces) (gs.take p) + t.2.1, t.2.2)) side i⟩
      else
        ⟨dim * sumMap (sizeOf useFaces) gs, i.cells * dim,
          placed dim (fun p t => (dim * sumMap (sizeOf useFaces) (gs.take p) + t.1, t.2.1, t.2.2)) side i⟩ := by
  cases side with
  | none => cases toMortar <;> rfl
  | some p =>
    obtain ⟨g, hg, hlt⟩ := hpos p rfl
    obtain ⟨hp, rfl⟩ := List.getElem?_eq_some_iff.mp hg
    have hk := kronI_lt toMortar i.mat dim _ hlt
    simp only [mortarBlock, placed]
    rw [blocks_grid_getD gs (sizeOf useFaces) dim p hp, Nat.mul_comm (sumMap _ gs) dim]
    cases toMortar with
    | false => rw [if_neg Bool.false_ne_true, if_neg Bool.false_ne_true, mapRows_range' _ _ _ hk]
    | true => rw [if_pos rfl, if_pos rfl, mapCols_range' _ _ _ hk]

/-- stacking such blocks: interface `k` is moved by `sh` to the offset `dim * (cells of the interfaces before it)` -/
theorem accFlat_placed (dim : Nat) (f sh : Nat → Trip → Trip) (side : Intf → Option Nat) (intfs : List Intf) :
    accFlat (fun i : Intf => i.cells * dim) (fun o i => (placed dim f (side i) i).map (sh o)) 0 intfs =
      (List.range intfs.length).flatMap (fun k =>
        match intfs[k]? with
        | some i =>
          (match side i with
           | some p => (kronI i.mat dim).map (fun t => sh (dim * sumMap Intf.cells (intfs.take k)) (f p t))
           | none => [])
        | none => []) := by
  rw [accFlat_eq]
  congr 1
  funext k
  cases intfs[k]? with
  | none => rfl
  | some i =>
    dsimp only
    rw [Nat.zero_add, sumMap_mul_right Intf.cells]
    cases side i with
    | none => rfl
    | some p => exact List.map_map

/-- `hstack` of such blocks (from the mortar grids): interface `k` lands in the columns from
    `dim * (cells of the interfaces before it)` -/
theorem hstack_from (n dim : Nat) (f : Nat → Trip → Trip) (side : Intf → Option Nat) (intfs : List Intf)
    (hne : intfs ≠ []) :
    hstack (intfs.map (fun i => (⟨n, i.cells * dim, placed dim f (side i) i⟩ : Mat))) =
      .ok ⟨n, dim * sumMap Intf.cells intfs,
        (List.range intfs.length).flatMap (fun k =>
          match intfs[k]? with
          | some i =>
            (match side i with
             | some p => (kronI i.mat dim).map (fun t =>
                 ((f p t).1, dim * sumMap Intf.cells (intfs.take k) + (f p t).2.1, (f p t).2.2))
             | none => [])
          | none => [])⟩ := by
  rw [hstack_ok n _ (fun e => hne (List.eq_nil_of_map_eq_nil e)) (List.forall_mem_map.mpr (fun _ _ => rfl)),
    accFlat_map_list, sumMap_map, sumMap_mul_right Intf.cells, accFlat_placed dim f _ side]

/-- `vstack` of such blocks (to the mortar grids): the same along the rows -/
theorem vstack_to (n dim : Nat) (f : Nat → Trip → Trip) (side : Intf → Option Nat) (intfs : List Intf)
    (hne : intfs ≠ []) :
    vstack (intfs.map (fun i => (⟨i.cells * dim, n, placed dim f (side i) i⟩ : Mat))) =
      .ok ⟨dim * sumMap Intf.cells intfs, n,
        (List.range intfs.length).flatMap (fun k =>
          match intfs[k]? with
          | some i =>
            (match side i with
             | some p => (kronI i.mat dim).map (fun t =>
                 (dim * sumMap Intf.cells (intfs.take k) + (f p t).1, (f p t).2.1, (f p t).2.2))
             | none => [])
          | none => [])⟩ := by
  rw [vstack_ok n _ (fun e => hne (List.eq_nil_of_map_eq_nil e)) (List.forall_mem_map.mpr (fun _ _ => rfl)),
    accFlat_map_list, sumMap_map, sumMap_mul_right Intf.cells, accFlat_placed dim f _ side]

/-- per-grid piece of the boundary index map, at face-dof offset `o` -/
def bPiece (dim : Nat) (o : Nat) (g : G) : List Nat :=
  if 0 < g.gdim then (expandNd g.bfaces dim).map (fun c => o + c) else []

theorem boundaryIdxAux_eq (dim : Nat) (gs : List G) (off : Nat)
    (hb : ∀ g ∈ gs, ∀ b ∈ g.bfaces, b < g.faces) :
    boundaryIdxAux dim (blocks off (gs.map (fun g => dim * g.faces))) gs =
      accFlat (fun g => dim * g.faces) (bPiece dim) off gs := by
  induction gs generalizing off with
  | nil => rfl
  | cons g gs ih =>
    simp only [List.map_cons, blocks, boundaryIdxAux, accFlat]
    rw [ih _ (fun g' hg' => hb g' (List.mem_cons_of_mem _ hg'))]
    congr 1
    unfold boundaryIdxOf bPiece
    split
    · have h := filterMap_range'_getElem? off (dim * g.faces) id (fun _ x => x) _
        (expandNd_lt _ _ _ (hb g List.mem_cons_self))
      simp only [Option.map_id', id] at h
      exact h
    · rfl

theorem bPiece_props (dim : Nat) (o : Nat) (g : G) (hnd : g.bfaces.Nodup)
    (hb : ∀ b ∈ g.bfaces, b < g.faces) :
    (bPiece dim o g).Nodup ∧ ∀ x ∈ bPiece dim o g, o ≤ x ∧ x < o + dim * g.faces := by
  unfold bPiece
  split
  · refine ⟨(expandNd_nodup _ _ _ hnd hb).map (fun _ _ hab => Nat.add_left_cancel hab), fun x hx => ?_⟩
    obtain ⟨c, hc, rfl⟩ := List.mem_map.mp hx
    exact ⟨Nat.le_add_right _ _, Nat.add_lt_add_left (expandNd_lt _ _ _ hb c hc) _⟩
  · exact ⟨List.nodup_nil, fun _ h => nomatch h⟩

theorem accFlat_bPiece_props (dim : Nat) (gs : List G) (off : Nat)
    (h : ∀ g ∈ gs, g.bfaces.Nodup ∧ ∀ b ∈ g.bfaces, b < g.faces) :
    (accFlat (fun g => dim * g.faces) (bPiece dim) off gs).Nodup ∧
      ∀ x ∈ accFlat (fun g => dim * g.faces) (bPiece dim) off gs,
        off ≤ x ∧ x < off + dim * sumMap G.faces gs := by
  rw [← sumMap_mul_left]
  exact accFlat_nodup_range _ _ gs off (fun g hg o => bPiece_props dim o g (h g hg).1 (h g hg).2)

theorem blockDiagAux_eq (ro co : Nat) (ms : List Mat) :
    blockDiagAux ro co ms = (ro + sumMap Mat.nr ms, co + sumMap Mat.nc ms,
      accFlat2 Mat.nr Mat.nc (fun a b m => m.tr.map (fun t => (a + t.1, b + t.2.1, t.2.2))) ro co ms) := by
  induction ms generalizing ro co with
  | nil => rfl
  | cons m ms ih => simp [blockDiagAux, ih, accFlat2, sumMap, Nat.add_assoc]

end PorepyVerif.C27
