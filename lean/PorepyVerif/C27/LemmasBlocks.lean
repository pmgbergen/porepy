/-
C27 — the per-grid projections in closed form: `expandNd` of a range is a range, the offset loop `projAux` gives
the consecutive ranges `blocks` (or raises), `select`/`subIdx` pick and concatenate them, and a selection of
blocks is a sub-permutation of the whole range.
-/
import Mathlib.Data.List.Perm.Basic
import Mathlib.Data.List.Perm.Subperm
import Mathlib.Data.List.Nodup
import Mathlib.Data.List.Flatten
import Mathlib.Tactic.Ring
import PorepyVerif.C27.Model
import PorepyVerif.Common.List

namespace PorepyVerif.C27
open List

theorem sumMap_eq_sum {α : Type} (f : α → Nat) (l : List α) : sumMap f l = (l.map f).sum := by
  induction l with
  | nil => rfl
  | cons a l ih => simp [sumMap, ih]

theorem flatMap_getElem? {α β : Type} (f : α → List β) (l : List α) (k t : Nat) (hk : k < l.length)
    (ht : t < (f l[k]).length) :
    (l.flatMap f)[sumMap (fun a => (f a).length) (l.take k) + t]? = (f l[k])[t]? := by
  induction l generalizing k with
  | nil => exact absurd hk (Nat.not_lt_zero _)
  | cons a l ih =>
    rw [List.flatMap_cons]
    cases k with
    | zero =>
      rw [List.take_zero, sumMap, Nat.zero_add]
      exact List.getElem?_append_left ht
    | succ k =>
      rw [List.take_succ_cons, sumMap, Nat.add_assoc, List.getElem?_append_right (Nat.le_add_right _ _),
        Nat.add_sub_cancel_left]
      exact ih k (Nat.lt_of_succ_lt_succ hk) ht

theorem map_mul_add_range (dim a : Nat) :
    (List.range dim).map (fun k => dim * a + k) = List.range' (dim * a) dim := by
  rw [List.range_eq_range', List.map_add_range']
  simp

/-- the `nd = 1` shortcut of the code is not a special case -/
theorem expandNd_eq_flatMap (ind : List Nat) (dim : Nat) :
    expandNd ind dim = ind.flatMap (fun i => (List.range dim).map (fun k => dim * i + k)) := by
  unfold expandNd
  split
  · next h =>
    subst h
    simp
  · rfl

theorem expandNd_range' (a n dim : Nat) :
    expandNd (List.range' a n) dim = List.range' (dim * a) (dim * n) := by
  rw [expandNd_eq_flatMap]
  induction n generalizing a with
  | zero => simp
  | succ n ih =>
    rw [List.range'_succ, List.flatMap_cons, ih, map_mul_add_range]
    have h1 : dim * (a + 1) = dim * a + 1 * dim := by rw [Nat.mul_succ, Nat.one_mul]
    have h2 : dim * (n + 1) = dim + dim * n := by rw [Nat.mul_succ, Nat.add_comm]
    rw [h1, h2, List.range'_append]

theorem expandNd_length (ind : List Nat) (dim : Nat) :
    (expandNd ind dim).length = ind.length * dim := by
  rw [expandNd_eq_flatMap]
  induction ind with
  | nil => simp
  | cons a l ih =>
    rw [List.flatMap_cons, List.length_append, ih, List.length_map, List.length_range, List.length_cons,
      Nat.succ_mul, Nat.add_comm]

theorem expandNd_getElem? (ind : List Nat) (dim j k : Nat) (hj : j < ind.length) (hk : k < dim) :
    (expandNd ind dim)[j * dim + k]? = some (dim * ind[j] + k) := by
  have := flatMap_getElem? (fun i => List.range' (dim * i) dim) ind j k hj (by rwa [List.length_range'])
  simp only [List.length_range'] at this
  rw [sumMap_eq_sum, List.map_const', List.sum_replicate_nat, List.length_take,
    Nat.min_eq_left (Nat.le_of_lt hj)] at this
  rw [expandNd_eq_flatMap]
  simp only [map_mul_add_range]
  rw [this, List.getElem?_range' hk, Nat.one_mul]

theorem mem_expandNd (ind : List Nat) (dim g : Nat) :
    g ∈ expandNd ind dim ↔ ∃ i ∈ ind, ∃ k, k < dim ∧ g = dim * i + k := by
  rw [expandNd_eq_flatMap]
  simp only [List.mem_flatMap, List.mem_map, List.mem_range]
  constructor
  · rintro ⟨i, hi, k, hk, rfl⟩; exact ⟨i, hi, k, hk, rfl⟩
  · rintro ⟨i, hi, k, hk, rfl⟩; exact ⟨i, hi, k, hk, rfl⟩

/-- One step of the loop: the block of a grid is `[off, off + dim * n)`; the step raises when the offset is
    to be moved past an empty block, and moves it by the block length otherwise. -/
theorem projAux_cons (dim : Nat) (hd : 0 < dim) (off n : Nat) (upd : Bool) (rest : List (Nat × Bool)) :
    projAux dim off ((n, upd) :: rest) =
      if upd = true ∧ n = 0 then none
      else (projAux dim (if upd = true then off + dim * n else off) rest).map
        (List.range' off (dim * n) :: ·) := by
  have hind : (expandNd (List.range n) dim).map (off + ·) = List.range' off (dim * n) := by
    rw [List.range_eq_range', expandNd_range' 0 n dim, List.map_add_range', Nat.mul_zero, Nat.add_zero]
  rw [projAux, hind]
  cases upd with
  | false => rfl
  | true =>
    by_cases hn : n = 0
    · subst hn
      rfl
    · have hpos : dim * n ≠ 0 := Nat.mul_ne_zero (Nat.ne_of_gt hd) hn
      rw [if_pos rfl, List.getLast?_range', if_neg hpos, if_neg (fun h => hn h.2), if_pos rfl]
      show (projAux dim (off + dim * n - 1 + 1) rest).map _ = _
      rw [Nat.sub_add_cancel (Nat.succ_le_of_lt (Nat.add_pos_right off (Nat.pos_of_ne_zero hpos)))]

theorem projAux_eq_blocks (dim : Nat) (hd : 0 < dim) (l : List (Nat × Bool)) (off : Nat)
    (h : ∀ p ∈ l, (p.2 = true → 0 < p.1) ∧ (p.2 = false → p.1 = 0)) :
    projAux dim off l = some (blocks off (l.map (fun p => dim * p.1))) := by
  induction l generalizing off with
  | nil => rfl
  | cons p rest ih =>
    obtain ⟨n, upd⟩ := p
    have hp : (upd = true → 0 < n) ∧ (upd = false → n = 0) := h (n, upd) List.mem_cons_self
    have hoff : (if upd = true then off + dim * n else off) = off + dim * n := by
      cases upd with
      | true => rfl
      | false => rw [hp.2 rfl]; rfl
    rw [projAux_cons dim hd, if_neg (fun hc : upd = true ∧ n = 0 => Nat.lt_irrefl 0 (hc.2 ▸ hp.1 hc.1)), hoff,
      ih _ (fun q hq => h q (List.mem_cons_of_mem _ hq))]
    rfl

theorem projAux_none_iff (dim : Nat) (hd : 0 < dim) (l : List (Nat × Bool)) (off : Nat) :
    projAux dim off l = none ↔ ∃ p ∈ l, p.2 = true ∧ p.1 = 0 := by
  induction l generalizing off with
  | nil => simp [projAux]
  | cons p rest ih =>
    obtain ⟨n, upd⟩ := p
    rw [projAux_cons dim hd]
    simp only [List.mem_cons, exists_eq_or_imp]
    split
    · next h => exact ⟨fun _ => Or.inl h, fun _ => rfl⟩
    · next h => rw [Option.map_eq_none_iff, ih, or_iff_right h]

theorem projAux_length (dim : Nat) (l : List (Nat × Bool)) (off : Nat) (r : List (List Nat))
    (h : projAux dim off l = some r) : r.length = l.length := by
  induction l generalizing off r with
  | nil => cases h; rfl
  | cons p rest ih =>
    obtain ⟨n, upd⟩ := p
    rw [projAux] at h
    split at h
    · split at h
      · cases h
      · obtain ⟨r', hr', rfl⟩ := Option.map_eq_some_iff.mp h
        rw [List.length_cons, List.length_cons, ih _ _ hr']
    · obtain ⟨r', hr', rfl⟩ := Option.map_eq_some_iff.mp h
      rw [List.length_cons, List.length_cons, ih _ _ hr']

theorem blocks_length (off : Nat) (ss : List Nat) : (blocks off ss).length = ss.length := by
  induction ss generalizing off with
  | nil => rfl
  | cons s ss ih => simp [blocks, ih]

theorem blocks_getElem? (off : Nat) (ss : List Nat) (i : Nat) (h : i < ss.length) :
    (blocks off ss)[i]? = some (List.range' (off + (ss.take i).sum) ss[i]) := by
  induction ss generalizing off i with
  | nil => exact absurd h (Nat.not_lt_zero _)
  | cons s ss ih =>
    cases i with
    | zero => rfl
    | succ i =>
      rw [List.take_succ_cons, List.sum_cons, ← Nat.add_assoc]
      exact ih (off + s) i (Nat.lt_of_succ_lt_succ h)

theorem blocks_flatten (off : Nat) (ss : List Nat) :
    (blocks off ss).flatten = List.range' off ss.sum := by
  induction ss generalizing off with
  | nil => simp [blocks]
  | cons s ss ih =>
    simp only [blocks, List.flatten_cons, List.sum_cons, ih]
    simp

theorem blocks_mul (dim off : Nat) (ss : List Nat) :
    blocks (dim * off) (ss.map (fun s => dim * s)) = (blocks off ss).map (fun b => expandNd b dim) := by
  induction ss generalizing off with
  | nil => rfl
  | cons s ss ih =>
    simp only [List.map_cons, blocks, expandNd_range']
    rw [← Nat.mul_add, ih]

/-- the look-ups succeed exactly when every requested position is listed -/
theorem select_eq_ite (projs : List (List Nat)) (sel : List Nat) :
    select projs sel =
      if ∀ i ∈ sel, i < projs.length then some (sel.map (fun i => projs.getD i [])) else none := by
  induction sel with
  | nil => rfl
  | cons i is ih =>
    rw [select, ih]
    simp only [List.forall_mem_cons]
    by_cases hi : i < projs.length
    · rw [List.getElem?_eq_getElem hi]
      by_cases his : ∀ j ∈ is, j < projs.length
      · rw [if_pos his, if_pos ⟨hi, his⟩, List.map_cons, List.getD_eq_getElem?_getD, List.getElem?_eq_getElem hi]
        rfl
      · rw [if_neg his, if_neg (fun h => his h.2)]
        rfl
    · rw [List.getElem?_eq_none (Nat.le_of_not_lt hi), if_neg (fun h : _ ∧ _ => hi h.1)]

theorem subIdx_none (sel : List Nat) : subIdx none sel = .error .indexError := rfl

/-- on computed projections a call either returns the index map or raises `KeyError` -/
theorem subIdx_some (projs : List (List Nat)) (sel : List Nat) :
    subIdx (some projs) sel =
      if ∀ i ∈ sel, i < projs.length then .ok (sel.flatMap (fun i => projs.getD i []))
      else .error .keyError := by
  show (do let bs ← liftO Err.keyError (select projs sel); pure bs.flatten : Except Err _) = _
  rw [select_eq_ite, List.flatMap_def]
  split <;> rfl

theorem subIdx_blocks (ss : List Nat) (sel : List Nat) (hlt : ∀ i ∈ sel, i < ss.length) :
    subIdx (some (blocks 0 ss)) sel = .ok (sel.flatMap (fun i => (blocks 0 ss).getD i [])) := by
  rw [subIdx_some, blocks_length, if_pos hlt]

theorem subIdx_keyError (ss : List Nat) (sel : List Nat) (i : Nat) (hi : i ∈ sel) (hge : ss.length ≤ i) :
    subIdx (some (blocks 0 ss)) sel = .error .keyError := by
  rw [subIdx_some, blocks_length, if_neg (fun h => Nat.not_lt.mpr hge (h i hi))]

theorem subIdx_char (projs : Option (List (List Nat))) (n : Nat)
    (hlen : ∀ r, projs = some r → r.length = n) (sel : List Nat) :
    (subIdx projs sel = .error .indexError ↔ projs = none) ∧
      (subIdx projs sel = .error .keyError ↔ projs ≠ none ∧ ∃ i ∈ sel, n ≤ i) ∧
      ((∃ idx, subIdx projs sel = .ok idx) ↔ projs ≠ none ∧ ∀ i ∈ sel, i < n) := by
  cases projs with
  | none => exact ⟨⟨fun _ => rfl, fun _ => rfl⟩, ⟨nofun, fun h => absurd rfl h.1⟩,
      ⟨nofun, fun h => absurd rfl h.1⟩⟩
  | some r =>
    have hs : some r ≠ none := nofun
    rw [subIdx_some, hlen r rfl]
    by_cases h : ∀ i ∈ sel, i < n
    · rw [if_pos h]
      exact ⟨⟨nofun, nofun⟩,
        ⟨nofun, fun ⟨_, i, hi, hge⟩ => absurd (h i hi) (Nat.not_lt.mpr hge)⟩,
        ⟨fun _ => ⟨hs, h⟩, fun _ => ⟨_, rfl⟩⟩⟩
    · rw [if_neg h]
      have h' : ∃ i ∈ sel, n ≤ i := by
        refine Classical.byContradiction fun hc => h fun i hi => Nat.lt_of_not_le fun hge => hc ⟨i, hi, hge⟩
      exact ⟨⟨nofun, nofun⟩, ⟨fun _ => ⟨hs, h'⟩, fun _ => rfl⟩, ⟨nofun, fun h' => absurd h'.2 h⟩⟩

theorem map_getD_range {α : Type} (l : List α) (d : α) :
    (List.range l.length).map (fun i => l.getD i d) = l :=
  Common.map_range_getD l d

theorem flatMap_getD_range (bl : List (List Nat)) :
    (List.range bl.length).flatMap (fun i => bl.getD i []) = bl.flatten := by
  rw [List.flatMap_def, map_getD_range]

theorem subperm_flatMap {α β : Type} (f : α → List β) {l₁ l₂ : List α} (h : l₁ <+~ l₂) :
    l₁.flatMap f <+~ l₂.flatMap f := by
  obtain ⟨l, hp, hs⟩ := h
  exact ⟨l.flatMap f, hp.flatMap_right f, hs.flatMap f⟩

theorem nodup_of_subperm {α : Type} {l₁ l₂ : List α} (h : l₁ <+~ l₂) (hn : l₂.Nodup) : l₁.Nodup := by
  obtain ⟨l, hp, hs⟩ := h
  exact hp.nodup_iff.mp (hn.sublist hs)

theorem flatMap_blocks_range (off : Nat) (ss : List Nat) :
    (List.range ss.length).flatMap (fun i => (blocks off ss).getD i []) = List.range' off ss.sum := by
  rw [← blocks_length off ss, flatMap_getD_range, blocks_flatten]

theorem selIdx_subperm (off : Nat) (ss : List Nat) (sel : List Nat) (hnd : sel.Nodup)
    (hlt : ∀ i ∈ sel, i < ss.length) :
    sel.flatMap (fun i => (blocks off ss).getD i []) <+~ List.range' off ss.sum := by
  have := subperm_flatMap (fun i => (blocks off ss).getD i [])
    (List.subperm_of_subset hnd (fun i hi => List.mem_range.mpr (hlt i hi)))
  rwa [flatMap_blocks_range] at this

theorem selIdx_perm (off : Nat) (ss : List Nat) (sel : List Nat) (hp : sel ~ List.range ss.length) :
    sel.flatMap (fun i => (blocks off ss).getD i []) ~ List.range' off ss.sum := by
  have := hp.flatMap_right (fun i => (blocks off ss).getD i [])
  rwa [flatMap_blocks_range] at this

theorem sumMap_map {α β : Type} (f : β → Nat) (g : α → β) (l : List α) :
    sumMap f (l.map g) = sumMap (fun a => f (g a)) l := by
  rw [sumMap_eq_sum, sumMap_eq_sum, List.map_map]
  rfl

theorem sumMap_congr {α : Type} (f g : α → Nat) (l : List α) (h : ∀ a ∈ l, f a = g a) :
    sumMap f l = sumMap g l := by
  rw [sumMap_eq_sum, sumMap_eq_sum, List.map_congr_left h]

theorem sum_map_mul_left {α : Type} (f : α → Nat) (d : Nat) (l : List α) :
    (l.map (fun a => d * f a)).sum = d * sumMap f l := by
  induction l with
  | nil => simp [sumMap]
  | cons a l ih => simp [sumMap, ih, Nat.mul_add]

theorem sumMap_mul_left {α : Type} (f : α → Nat) (d : Nat) (l : List α) :
    sumMap (fun a => d * f a) l = d * sumMap f l := by
  rw [sumMap_eq_sum, sum_map_mul_left]

theorem sumMap_mul_right {α : Type} (f : α → Nat) (d : Nat) (l : List α) :
    sumMap (fun a => f a * d) l = d * sumMap f l := by
  simp only [Nat.mul_comm _ d, sumMap_mul_left]

theorem sumMap_zip_fst {α β : Type} (f : α → Nat) (l₁ : List α) (l₂ : List β) (h : l₁.length ≤ l₂.length) :
    sumMap (fun x => f x.1) (l₁.zip l₂) = sumMap f l₁ := by
  rw [← sumMap_map f Prod.fst, List.map_fst_zip h]

theorem sumMap_take_zip_fst {α β : Type} (f : α → Nat) (l₁ : List α) (l₂ : List β) (k : Nat)
    (h : l₁.length = l₂.length) :
    sumMap (fun x => f x.1) ((l₁.zip l₂).take k) = sumMap f (l₁.take k) := by
  rw [List.zip, List.take_zipWith]
  exact sumMap_zip_fst f _ _ (by simp [List.length_take, h])

/-- the cell and the face loop are the same loop: cells always move the offset, faces when `sd.dim > 0` -/
theorem projsOf_eq_projAux (useFaces : Bool) (gs : List G) (dim : Nat) :
    projsOf useFaces gs dim =
      projAux dim 0 (gs.map (fun g => (sizeOf useFaces g, !useFaces || decide (0 < g.gdim)))) := by
  cases useFaces <;> rfl

theorem projsOf_eq (useFaces : Bool) (gs : List G) (dim : Nat) (hd : 0 < dim) (hwf : ∀ g ∈ gs, g.wf) :
    projsOf useFaces gs dim = some (blocks 0 (gs.map (fun g => dim * sizeOf useFaces g))) := by
  rw [projsOf_eq_projAux, projAux_eq_blocks dim hd, List.map_map]
  · rfl
  · intro p hp
    obtain ⟨g, hg, rfl⟩ := List.mem_map.mp hp
    obtain ⟨hc, hf0, hf⟩ := hwf g hg
    cases useFaces with
    | false => exact ⟨fun _ => hc, fun h => by simp at h⟩
    | true =>
      exact ⟨fun h => hf (by simpa using h), fun h => hf0 (Nat.eq_zero_of_not_pos (by simpa using h))⟩

theorem cellProjs_eq (gs : List G) (dim : Nat) (hd : 0 < dim) (hwf : ∀ g ∈ gs, g.wf) :
    cellProjs gs dim = some (blocks 0 (gs.map (fun g => dim * g.cells))) :=
  projsOf_eq false gs dim hd hwf

theorem faceProjs_eq (gs : List G) (dim : Nat) (hd : 0 < dim) (hwf : ∀ g ∈ gs, g.wf) :
    faceProjs gs dim = some (blocks 0 (gs.map (fun g => dim * g.faces))) :=
  projsOf_eq true gs dim hd hwf

theorem blocks_grid_getElem? (gs : List G) (size : G → Nat) (dim p : Nat) (hp : p < gs.length) :
    (blocks 0 (gs.map (fun g => dim * size g)))[p]? =
      some (List.range' (dim * sumMap size (gs.take p)) (dim * size gs[p])) := by
  rw [blocks_getElem? _ _ _ (by rwa [List.length_map]), List.getElem_map, Nat.zero_add, ← List.map_take,
    sum_map_mul_left]

theorem blocks_grid_getD (gs : List G) (size : G → Nat) (dim p : Nat) (hp : p < gs.length) :
    (blocks 0 (gs.map (fun g => dim * size g))).getD p [] =
      List.range' (dim * sumMap size (gs.take p)) (dim * size gs[p]) := by
  rw [List.getD_eq_getElem?_getD, blocks_grid_getElem? gs size dim p hp]
  rfl

theorem mul_add_lt {a n k dim : Nat} (ha : a < n) (hk : k < dim) : a * dim + k < dim * n :=
  calc a * dim + k < a * dim + dim := Nat.add_lt_add_left hk _
    _ = (a + 1) * dim := (Nat.succ_mul a dim).symm
    _ ≤ n * dim := Nat.mul_le_mul_right _ ha
    _ = dim * n := Nat.mul_comm _ _

theorem expandNd_lt (ind : List Nat) (dim n : Nat) (h : ∀ b ∈ ind, b < n) :
    ∀ c ∈ expandNd ind dim, c < dim * n := by
  intro c hc
  obtain ⟨b, hb, k, hk, rfl⟩ := (mem_expandNd ind dim c).mp hc
  rw [Nat.mul_comm dim b]
  exact mul_add_lt (h b hb) hk

theorem expandNd_nodup (ind : List Nat) (dim n : Nat) (hnd : ind.Nodup)
    (h : ∀ b ∈ ind, b < n) : (expandNd ind dim).Nodup := by
  have hsub : ind <+~ List.range' 0 n := by
    apply List.subperm_of_subset hnd
    intro b hb
    rw [← List.range_eq_range']
    exact List.mem_range.mpr (h b hb)
  have := subperm_flatMap (fun i => (List.range dim).map (fun k => dim * i + k)) hsub
  rw [← expandNd_eq_flatMap, ← expandNd_eq_flatMap, expandNd_range'] at this
  exact nodup_of_subperm this (List.nodup_range' (step := 1))

end PorepyVerif.C27
