/-
C27 — the 0-1 triplet matrices act on vectors as their index maps say: `prolongMat` scatters, `restrictMat` gathers,
and for a duplicate-free index map gathering undoes scattering.
-/
import Mathlib.Tactic.Ring
import PorepyVerif.C27.Model
import PorepyVerif.Common.List

namespace PorepyVerif.C27
open List

theorem scatterAt_not_mem (g : Nat) (idx : List Nat) (w : List Rat) (h : g ∉ idx) :
    scatterAt g idx w = 0 := by
  induction idx generalizing w with
  | nil => cases w <;> rfl
  | cons i is ih =>
    cases w with
    | nil => rfl
    | cons x xs =>
      have hne : i ≠ g := fun e => h (by simp [e])
      have hg : g ∉ is := fun e => h (List.mem_cons_of_mem _ e)
      simp [scatterAt, hne, ih xs hg]

theorem map_scatterAt_self (idx : List Nat) (w : List Rat) (hnd : idx.Nodup)
    (hlen : w.length = idx.length) : idx.map (fun g => scatterAt g idx w) = w := by
  induction idx generalizing w with
  | nil =>
    cases w with
    | nil => rfl
    | cons x xs => cases hlen
  | cons i is ih =>
    cases w with
    | nil => cases hlen
    | cons x xs =>
      obtain ⟨hi, hnd'⟩ := List.nodup_cons.mp hnd
      rw [List.map_cons]
      congr 1
      · rw [scatterAt, if_pos rfl, scatterAt_not_mem i is xs hi, add_zero]
      · conv_rhs => rw [← ih xs hnd' (Nat.succ.inj hlen)]
        apply List.map_congr_left
        intro g hg
        rw [scatterAt, if_neg (fun e : i = g => hi (e ▸ hg)), zero_add]

theorem scatterAt_map (g : Nat) (idx : List Nat) (f : Nat → Rat) (hnd : idx.Nodup) :
    scatterAt g idx (idx.map f) = if g ∈ idx then f g else 0 := by
  induction idx with
  | nil => rfl
  | cons i is ih =>
    have hi : i ∉ is := (List.nodup_cons.mp hnd).1
    have hnd' : is.Nodup := (List.nodup_cons.mp hnd).2
    simp only [List.map_cons, scatterAt, ih hnd']
    by_cases h : i = g
    · subst h
      simp [hi]
    · have : ¬ g = i := fun e => h e.symm
      simp [h, this]

theorem prolongV_getD (n : Nat) (idx : List Nat) (w : List Rat) (g : Nat) (hg : g < n) :
    (prolongV n idx w).getD g 0 = scatterAt g idx w :=
  Common.getD_map_range _ 0 hg

theorem scatterAt_nil (g : Nat) (idx : List Nat) : scatterAt g idx [] = 0 := by
  cases idx <;> rfl

theorem rowDot_colTrips (g : Nat) (w : List Rat) (j : Nat) (idx : List Nat) :
    rowDot g w (colTrips j idx) = scatterAt g idx (w.drop j) := by
  induction idx generalizing j with
  | nil => cases h : w.drop j <;> rfl
  | cons i is ih =>
    rw [colTrips, rowDot, ih]
    show (if i = g then 1 * w.getD j 0 else 0) + scatterAt g is (w.drop (j + 1)) = _
    rw [one_mul, List.getD_eq_getElem?_getD]
    by_cases hj : j < w.length
    · rw [List.drop_eq_getElem_cons hj, scatterAt, List.getElem?_eq_getElem hj]
      rfl
    · have hle : w.length ≤ j := Nat.le_of_not_lt hj
      rw [List.drop_eq_nil_of_le hle, List.drop_eq_nil_of_le (Nat.le_succ_of_le hle), scatterAt_nil,
        scatterAt_nil, List.getElem?_eq_none hle, add_zero]
      exact ite_self 0

theorem prolongMat_apply (n : Nat) (idx : List Nat) (w : List Rat) :
    (prolongMat n idx).apply w = prolongV n idx w := by
  simp [prolongMat, Mat.apply, prolongV, rowDot_colTrips]

theorem rowDot_swap_lt (r : Nat) (v : List Rat) (j : Nat) (idx : List Nat) (h : r < j) :
    rowDot r v ((colTrips j idx).map (fun t => (t.2.1, t.1, t.2.2))) = 0 := by
  induction idx generalizing j with
  | nil => rfl
  | cons i is ih =>
    rw [colTrips, List.map_cons, rowDot, if_neg (Nat.ne_of_gt h), zero_add]
    exact ih (j + 1) (Nat.lt_succ_of_lt h)

theorem map_rowDot_swap (v : List Rat) (j : Nat) (idx : List Nat) :
    (List.range' j idx.length).map (fun r => rowDot r v ((colTrips j idx).map (fun t => (t.2.1, t.1, t.2.2)))) =
      idx.map (fun g => v.getD g 0) := by
  induction idx generalizing j with
  | nil => rfl
  | cons i is ih =>
    rw [List.length_cons, List.range'_succ, List.map_cons, List.map_cons]
    congr 1
    · rw [colTrips, List.map_cons, rowDot, if_pos rfl, one_mul,
        rowDot_swap_lt j v (j + 1) is (Nat.lt_succ_self j), add_zero]
    · rw [← ih (j + 1)]
      apply List.map_congr_left
      intro r hr
      have hne : ¬ j = r := Nat.ne_of_lt (List.mem_range'_1.mp hr).1
      rw [colTrips, List.map_cons, rowDot, if_neg hne, zero_add]

theorem restrictMat_apply (n : Nat) (idx : List Nat) (v : List Rat) :
    (restrictMat n idx).apply v = restrictV idx v := by
  have := map_rowDot_swap v 0 idx
  rw [← List.range_eq_range'] at this
  exact this

end PorepyVerif.C27
