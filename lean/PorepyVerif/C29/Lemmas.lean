/-
C29 — the model's plane algebra over ℚ, order facts on ℚ, and `OnSeg` through the parameter: a point of the line
through a segment is `along a d t`; between such points `OnSeg` is `Btw` of the parameters (`onSeg_along_iff`) and
equality is equality of the parameters (`along_inj`), so that facts about points of one line become facts about
rationals (`touch_or_same`).
-/
import PorepyVerif.C29.Model
import Mathlib.Algebra.Order.Field.Rat
import Mathlib.Algebra.Order.Field.Basic
import Mathlib.Tactic.Ring
import Mathlib.Tactic.LinearCombination

namespace PorepyVerif.C29

@[simp] theorem along_fst (a d : Pt) (t : Rat) : (along a d t).1 = a.1 + t * d.1 := rfl
@[simp] theorem along_snd (a d : Pt) (t : Rat) : (along a d t).2 = a.2 + t * d.2 := rfl
@[simp] theorem psub_fst (p q : Pt) : (psub p q).1 = p.1 - q.1 := rfl
@[simp] theorem psub_snd (p q : Pt) : (psub p q).2 = p.2 - q.2 := rfl
@[simp] theorem d_fst (s : Seg) : s.d.1 = s.b.1 - s.a.1 := rfl
@[simp] theorem d_snd (s : Seg) : s.d.2 = s.b.2 - s.a.2 := rfl

theorem rmax_eq_max (x y : Rat) : rmax x y = max x y := (max_def x y).symm
theorem rmin_eq_min (x y : Rat) : rmin x y = min x y := (min_def x y).symm

theorem along_zero (a d : Pt) : along a d 0 = a := by
  apply Prod.ext <;> simp

theorem along_one (s : Seg) : along s.a s.d 1 = s.b := by
  apply Prod.ext <;> simp

theorem psub_ne_zero {a b : Pt} (h : a ≠ b) : (psub b a).1 ≠ 0 ∨ (psub b a).2 ≠ 0 := by
  by_contra hc
  push Not at hc
  exact h (Prod.ext (sub_eq_zero.mp hc.1).symm (sub_eq_zero.mp hc.2).symm)

theorem d_ne_zero {s : Seg} (h : s.nondeg) : s.d.1 ≠ 0 ∨ s.d.2 ≠ 0 := psub_ne_zero h

theorem normSq_pos {d : Pt} (hd : d.1 ≠ 0 ∨ d.2 ≠ 0) : 0 < d.1 * d.1 + d.2 * d.2 := by
  rcases hd with h | h
  · exact add_pos_of_pos_of_nonneg (mul_self_pos.mpr h) (mul_self_nonneg _)
  · exact add_pos_of_nonneg_of_pos (mul_self_nonneg _) (mul_self_pos.mpr h)

theorem along_inj {a d : Pt} (hd : d.1 ≠ 0 ∨ d.2 ≠ 0) {t u : Rat} (h : along a d t = along a d u) : t = u := by
  rcases hd with hd | hd
  · exact mul_right_cancel₀ hd (add_left_cancel (congrArg Prod.fst h))
  · exact mul_right_cancel₀ hd (add_left_cancel (congrArg Prod.snd h))

theorem along_eq_iff {a d : Pt} (hd : d.1 ≠ 0 ∨ d.2 ≠ 0) {t u : Rat} : along a d t = along a d u ↔ t = u :=
  ⟨along_inj hd, congrArg _⟩

theorem paramOn_along {a d : Pt} (hd : d.1 ≠ 0 ∨ d.2 ≠ 0) (t : Rat) : paramOn a d (along a d t) = t := by
  unfold paramOn
  split_ifs with h1
  · rw [along_fst, add_sub_cancel_left, mul_div_assoc, div_self h1, mul_one]
  · rw [along_snd, add_sub_cancel_left, mul_div_assoc, div_self (hd.resolve_left h1), mul_one]

theorem paramOn_start (s : Seg) : paramOn s.a s.d s.a = 0 := by
  unfold paramOn; split_ifs <;> rw [sub_self, zero_div]

theorem paramOn_end {s : Seg} (hs : s.nondeg) : paramOn s.a s.d s.b = 1 := by
  have := paramOn_along (a := s.a) (d_ne_zero hs) 1
  rwa [along_one] at this

theorem line_param {a d p : Pt} (hd : d.1 ≠ 0 ∨ d.2 ≠ 0) (h : cross (psub p a) d = 0) :
    p = along a d (paramOn a d p) := by
  have h : (p.1 - a.1) * d.2 - (p.2 - a.2) * d.1 = 0 := h
  unfold paramOn
  split_ifs with h1
  · have e : (p.1 - a.1) / d.1 * d.2 = p.2 - a.2 := by
      rw [div_mul_eq_mul_div, div_eq_iff h1]; linear_combination h
    exact Prod.ext (by rw [along_fst, div_mul_cancel₀ _ h1]; ring) (by rw [along_snd, e]; ring)
  · have h2 := hd.resolve_left h1
    have e : (p.2 - a.2) / d.2 * d.1 = p.1 - a.1 := by
      rw [div_mul_eq_mul_div, div_eq_iff h2]; linear_combination -h
    exact Prod.ext (by rw [along_fst, e]; ring) (by rw [along_snd, div_mul_cancel₀ _ h2]; ring)

theorem dist2_along (a d : Pt) (t : Rat) :
    dist2 (along a d t) a = t * t * (d.1 * d.1 + d.2 * d.2) := by
  simp only [dist2, along_fst, along_snd]; ring

theorem dist2_self (a : Pt) : dist2 a a = 0 := by simp only [dist2]; ring

theorem dist2_pos {a b : Pt} (h : b ≠ a) : 0 < dist2 b a := by
  unfold dist2; rw [← psub_fst, ← psub_snd]; exact normSq_pos (psub_ne_zero h.symm)

theorem param_le_of_dist2_le {a d : Pt} (hd : d.1 ≠ 0 ∨ d.2 ≠ 0) {x y : Rat} (hx : 0 ≤ x) (hy : 0 ≤ y)
    (h : dist2 (along a d x) a ≤ dist2 (along a d y) a) : x ≤ y := by
  rw [dist2_along, dist2_along] at h
  exact (mul_self_le_mul_self_iff hx hy).mpr (le_of_mul_le_mul_right h (normSq_pos hd))

theorem cross_swap_zero {x y : Pt} (h : cross x y = 0) : cross y x = 0 := by
  simp only [cross] at h ⊢; linear_combination -h

theorem cross_par_trans {x y d : Pt} (hd : d.1 ≠ 0 ∨ d.2 ≠ 0) (hx : cross x d = 0) (hy : cross y d = 0) :
    cross x y = 0 := by
  simp only [cross] at hx hy ⊢
  rcases hd with hd | hd
  · exact mul_right_cancel₀ hd (by linear_combination (-x.1) * hy + y.1 * hx)
  · exact mul_right_cancel₀ hd (by linear_combination y.2 * hx - x.2 * hy)

/-- the discriminant that `inter` tests is `cross` of the directions up to sign -/
theorem discr_eq (u v : Pt) : u.1 * -v.2 - u.2 * -v.1 = -cross u v := by
  simp only [cross]; ring

/-- `z` lies between `x` and `y` -/
def Btw (x y z : Rat) : Prop := (x ≤ z ∧ z ≤ y) ∨ (y ≤ z ∧ z ≤ x)

theorem Btw.symm {x y z : Rat} (h : Btw x y z) : Btw y x z := Or.symm h

theorem btw_iff_min_max {x y z : Rat} : Btw x y z ↔ min x y ≤ z ∧ z ≤ max x y := by
  constructor
  · rintro (⟨h1, h2⟩ | ⟨h1, h2⟩)
    · exact ⟨(min_le_left _ _).trans h1, h2.trans (le_max_right _ _)⟩
    · exact ⟨(min_le_right _ _).trans h1, h2.trans (le_max_left _ _)⟩
  · rcases le_total x y with h | h
    · rw [min_eq_left h, max_eq_right h]; exact Or.inl
    · rw [min_eq_right h, max_eq_left h]; exact Or.inr

theorem btw_lerp {x y t : Rat} (h0 : 0 ≤ t) (h1 : t ≤ 1) : Btw x y (x + t * (y - x)) := by
  rcases le_total x y with hxy | hxy
  · have a := mul_nonneg h0 (sub_nonneg.mpr hxy)
    have b := mul_nonneg (sub_nonneg.mpr h1) (sub_nonneg.mpr hxy)
    exact Or.inl ⟨le_add_of_nonneg_right a, by linear_combination b⟩
  · have a := mul_nonneg h0 (sub_nonneg.mpr hxy)
    have b := mul_nonneg (sub_nonneg.mpr h1) (sub_nonneg.mpr hxy)
    exact Or.inr ⟨by linear_combination b, by linear_combination a⟩

theorem btw_param {x y z : Rat} (h : Btw x y z) : ∃ t : Rat, 0 ≤ t ∧ t ≤ 1 ∧ z = x + t * (y - x) := by
  have key : ∀ {x y : Rat}, x ≤ z → z ≤ y → ∃ t : Rat, 0 ≤ t ∧ t ≤ 1 ∧ z = x + t * (y - x) := by
    intro x y h1 h2
    rcases eq_or_lt_of_le (h1.trans h2) with rfl | hxy
    · exact ⟨0, le_refl _, zero_le_one, by rw [zero_mul, add_zero]; exact le_antisymm h2 h1⟩
    · have hp := sub_pos.mpr hxy
      exact ⟨(z - x) / (y - x), div_nonneg (sub_nonneg.mpr h1) hp.le,
        (div_le_one hp).mpr (sub_le_sub_right h2 x), by rw [div_mul_cancel₀ _ hp.ne']; ring⟩
  rcases h with ⟨h1, h2⟩ | ⟨h1, h2⟩
  · exact key h1 h2
  · obtain ⟨t, t0, t1, ht⟩ := key h1 h2
    exact ⟨1 - t, sub_nonneg.mpr t1, sub_le_self 1 t0, by rw [ht]; ring⟩

theorem btw_range {x y z : Rat} (hx : 0 ≤ x ∧ x ≤ 1) (hy : 0 ≤ y ∧ y ≤ 1) (h : Btw x y z) : 0 ≤ z ∧ z ≤ 1 := by
  rcases h with ⟨h1, h2⟩ | ⟨h1, h2⟩
  · exact ⟨hx.1.trans h1, h2.trans hy.2⟩
  · exact ⟨hy.1.trans h1, h2.trans hx.2⟩

theorem btw_of_le {x y z : Rat} (h : Btw x y z) (hxy : x ≤ y) : x ≤ z ∧ z ≤ y :=
  h.elim id fun h' => ⟨hxy.trans h'.1, h'.2.trans hxy⟩

theorem ends_eq_or_touch {a b c d z : Rat} (ha : a ≤ z) (hb : z ≤ b) (hc : c ≤ z) (hd : z ≤ d)
    (h1 : Btw a b c → c = a ∨ c = b) (h2 : Btw a b d → d = a ∨ d = b)
    (h3 : Btw c d a → a = c ∨ a = d) (h4 : Btw c d b → b = c ∨ b = d) :
    ((z = a ∨ z = b) ∧ (z = c ∨ z = d)) ∨ (a = c ∧ b = d) := by
  -- the larger of the lower ends lies in both intervals: the lower ends agree, or it is an upper end
  have lo : a = c ∨ b = c ∨ a = d := by
    rcases le_total a c with h | h
    · exact (h1 (Or.inl ⟨h, hc.trans hb⟩)).imp Eq.symm fun e => Or.inl e.symm
    · exact (h3 (Or.inl ⟨h, ha.trans hd⟩)).imp id Or.inr
  -- likewise the smaller of the upper ends
  have hi : b = d ∨ b = c ∨ a = d := by
    rcases le_total b d with h | h
    · exact (h4 (Or.inl ⟨hc.trans hb, h⟩)).symm.imp id Or.inl
    · exact (h2 (Or.inl ⟨ha.trans hd, h⟩)).symm.imp Eq.symm fun e => Or.inr e.symm
  -- an upper end that is a lower end squeezes `z`
  have touch : b = c ∨ a = d → (z = a ∨ z = b) ∧ (z = c ∨ z = d) := by
    rintro (rfl | rfl)
    · exact ⟨Or.inr (le_antisymm hb hc), Or.inl (le_antisymm hb hc)⟩
    · exact ⟨Or.inl (le_antisymm hd ha), Or.inr (le_antisymm hd ha)⟩
  rcases lo with e1 | t
  · rcases hi with e2 | t
    · exact Or.inr ⟨e1, e2⟩
    · exact Or.inl (touch t)
  · exact Or.inl (touch t)

/-- the parameters in `[0, 1]` that lie between `ts` and `te` form the interval whose ends `overlap` reports -/
theorem clip_iff {ts te z : Rat} :
    (0 ≤ z ∧ z ≤ 1 ∧ Btw ts te z) ↔ max (min ts te) 0 ≤ z ∧ z ≤ min (max ts te) 1 := by
  rw [btw_iff_min_max, max_le_iff, le_min_iff]
  exact ⟨fun ⟨a, b, c, d⟩ => ⟨⟨c, a⟩, d, b⟩, fun ⟨⟨c, a⟩, d, b⟩ => ⟨a, b, c, d⟩⟩

/-- that interval is non-empty exactly when `overlap` does not return early -/
theorem clip_nonempty_iff {ts te : Rat} :
    max (min ts te) 0 ≤ min (max ts te) 1 ↔ ¬ (ts < 0 ∧ te < 0) ∧ ¬ (ts > 1 ∧ te > 1) := by
  rw [max_le_iff, le_min_iff, le_min_iff, ← max_lt_iff, gt_iff_lt, gt_iff_lt, ← lt_min_iff, not_lt, not_lt]
  exact ⟨fun h => ⟨h.2.1, h.1.2⟩, fun h => ⟨⟨min_le_max, h.2⟩, h.1, zero_le_one⟩⟩

theorem clip_end_iff {ts te z : Rat} :
    max (min ts te) 0 ≤ min (max ts te) 1 ∧ (z = max (min ts te) 0 ∨ z = min (max ts te) 1) ↔
      0 ≤ z ∧ z ≤ 1 ∧ Btw ts te z ∧ (z = 0 ∨ z = 1 ∨ z = ts ∨ z = te) := by
  constructor
  · rintro ⟨hne, rfl | rfl⟩
    · obtain ⟨h0, h1, hb⟩ := clip_iff.mpr ⟨le_refl _, hne⟩
      refine ⟨h0, h1, hb, ?_⟩
      rcases max_choice (min ts te) 0 with h | h
      · rw [h]; exact Or.inr (Or.inr (min_choice ts te))
      · exact Or.inl h
    · obtain ⟨h0, h1, hb⟩ := clip_iff.mpr ⟨hne, le_refl _⟩
      refine ⟨h0, h1, hb, ?_⟩
      rcases min_choice (max ts te) 1 with h | h
      · rw [h]; exact Or.inr (Or.inr (max_choice ts te))
      · exact Or.inr (Or.inl h)
  · rintro ⟨h0, h1, hb, he⟩
    obtain ⟨hlo, hhi⟩ := clip_iff.mp ⟨h0, h1, hb⟩
    refine ⟨hlo.trans hhi, ?_⟩
    rcases he with e | e | e | e <;> subst e
    · exact Or.inl (le_antisymm (le_max_right _ _) hlo)
    · exact Or.inr (le_antisymm hhi (min_le_right _ _))
    · rcases le_total z te with h | h
      · left; rw [min_eq_left h, max_eq_left h0]
      · right; rw [max_eq_left h, min_eq_left h1]
    · rcases le_total ts z with h | h
      · right; rw [max_eq_right h, min_eq_left h1]
      · left; rw [min_eq_right h, max_eq_left h0]

theorem convex_pos {A B nu : Rat} (hA : 0 < A) (hB : 0 < B) (n0 : 0 ≤ nu) (n1 : nu ≤ 1) :
    0 < (1 - nu) * A + nu * B := by
  rcases eq_or_lt_of_le n1 with rfl | h
  · rw [sub_self, zero_mul, zero_add, one_mul]; exact hB
  · exact add_pos_of_pos_of_nonneg (mul_pos (sub_pos.mpr h) hA) (mul_nonneg n0 hB.le)

theorem onSeg_left (a b : Pt) : OnSeg a b a := ⟨0, le_refl _, by norm_num, by ring, by ring⟩
theorem onSeg_right (a b : Pt) : OnSeg a b b := ⟨1, by norm_num, le_refl _, by ring, by ring⟩

theorem onSeg_symm {a b q : Pt} (h : OnSeg a b q) : OnSeg b a q := by
  obtain ⟨t, h0, h1, hx, hy⟩ := h
  exact ⟨1 - t, sub_nonneg.mpr h1, sub_le_self 1 h0, by rw [hx]; ring, by rw [hy]; ring⟩

theorem onSeg_iff_along (s : Seg) (q : Pt) :
    OnSeg s.a s.b q ↔ ∃ t : Rat, 0 ≤ t ∧ t ≤ 1 ∧ q = along s.a s.d t :=
  ⟨fun ⟨t, h0, h1, hx, hy⟩ => ⟨t, h0, h1, Prod.ext hx hy⟩,
   fun ⟨t, h0, h1, hq⟩ => ⟨t, h0, h1, congrArg Prod.fst hq, congrArg Prod.snd hq⟩⟩

theorem onSeg_btw {a b q : Pt} (h : OnSeg a b q) : Btw a.1 b.1 q.1 ∧ Btw a.2 b.2 q.2 := by
  obtain ⟨t, t0, t1, hx, hy⟩ := h
  rw [hx, hy]
  exact ⟨btw_lerp t0 t1, btw_lerp t0 t1⟩

theorem onSeg_box {a b p : Pt} (h : OnSeg a b p) :
    rmin a.1 b.1 ≤ p.1 ∧ p.1 ≤ rmax a.1 b.1 ∧ rmin a.2 b.2 ≤ p.2 ∧ p.2 ≤ rmax a.2 b.2 := by
  simp only [rmin_eq_min, rmax_eq_max]
  obtain ⟨hx, hy⟩ := onSeg_btw h
  exact ⟨(btw_iff_min_max.mp hx).1, (btw_iff_min_max.mp hx).2, (btw_iff_min_max.mp hy).1, (btw_iff_min_max.mp hy).2⟩

theorem onSeg_of_along_ends {a d : Pt} {x y : Rat} {p : Pt} (h : OnSeg (along a d x) (along a d y) p) :
    ∃ z : Rat, p = along a d z ∧ Btw x y z := by
  obtain ⟨l, l0, l1, hx, hy⟩ := h
  refine ⟨x + l * (y - x), Prod.ext ?_ ?_, btw_lerp l0 l1⟩
  · rw [hx]; simp only [along_fst]; ring
  · rw [hy]; simp only [along_snd]; ring

theorem onSeg_along_iff {a d : Pt} (hd : d.1 ≠ 0 ∨ d.2 ≠ 0) (x y z : Rat) :
    OnSeg (along a d x) (along a d y) (along a d z) ↔ Btw x y z := by
  constructor
  · intro h
    obtain ⟨z', hz, hb⟩ := onSeg_of_along_ends h
    rw [along_inj hd hz]; exact hb
  · intro h
    obtain ⟨t, t0, t1, rfl⟩ := btw_param h
    exact ⟨t, t0, t1, by simp only [along_fst]; ring, by simp only [along_snd]; ring⟩

theorem onSeg_trans {s : Seg} {u v q : Pt} (hu : OnSeg s.a s.b u) (hv : OnSeg s.a s.b v)
    (hq : OnSeg u v q) : OnSeg s.a s.b q := by
  obtain ⟨x, x0, x1, rfl⟩ := (onSeg_iff_along s u).mp hu
  obtain ⟨y, y0, y1, rfl⟩ := (onSeg_iff_along s v).mp hv
  obtain ⟨z, rfl, hb⟩ := onSeg_of_along_ends hq
  have := btw_range ⟨x0, x1⟩ ⟨y0, y1⟩ hb
  exact (onSeg_iff_along s _).mpr ⟨z, this.1, this.2, rfl⟩

theorem onSeg_mid {u v : Pt} (h : u ≠ v) : ∃ m, OnSeg u v m ∧ m ≠ u ∧ m ≠ v := by
  have hd := psub_ne_zero h
  refine ⟨along u (psub v u) (1 / 2), ⟨1 / 2, by norm_num, by norm_num, rfl, rfl⟩, fun e => ?_, fun e => ?_⟩
  · exact absurd (along_inj hd (e.trans (along_zero u _).symm)) (by norm_num)
  · exact absurd (along_inj hd (e.trans (along_one ⟨u, v, []⟩).symm)) (by norm_num)

theorem touch_or_same {a d : Pt} (hd : d.1 ≠ 0 ∨ d.2 ≠ 0) {x1 x2 y1 y2 z : Rat}
    (hq : OnSeg (along a d x1) (along a d x2) (along a d z))
    (hq' : OnSeg (along a d y1) (along a d y2) (along a d z))
    (h1 : OnSeg (along a d x1) (along a d x2) (along a d y1) → along a d y1 = along a d x1 ∨ along a d y1 = along a d x2)
    (h2 : OnSeg (along a d x1) (along a d x2) (along a d y2) → along a d y2 = along a d x1 ∨ along a d y2 = along a d x2)
    (h3 : OnSeg (along a d y1) (along a d y2) (along a d x1) → along a d x1 = along a d y1 ∨ along a d x1 = along a d y2)
    (h4 : OnSeg (along a d y1) (along a d y2) (along a d x2) → along a d x2 = along a d y1 ∨ along a d x2 = along a d y2) :
    ((along a d z = along a d x1 ∨ along a d z = along a d x2) ∧
        (along a d z = along a d y1 ∨ along a d z = along a d y2)) ∨
      ((along a d x1 = along a d y1 ∧ along a d x2 = along a d y2) ∨
        (along a d x1 = along a d y2 ∧ along a d x2 = along a d y1)) := by
  simp only [onSeg_along_iff hd, along_eq_iff hd] at hq hq' h1 h2 h3 h4 ⊢
  -- exchanging `x1` with `x2`, or `y1` with `y2`, only permutes hypotheses and conclusion
  wlog hx : x1 ≤ x2 generalizing x1 x2
  · exact (this hq.symm (fun h => (h1 h.symm).symm) (fun h => (h2 h.symm).symm) h4 h3
      (le_of_not_ge hx)).imp (And.imp_left Or.symm) fun h => h.symm.imp And.symm And.symm
  wlog hy : y1 ≤ y2 generalizing y1 y2
  · exact (this hq'.symm h2 h1 (fun h => (h3 h.symm).symm) (fun h => (h4 h.symm).symm)
      (le_of_not_ge hy)).imp (And.imp_right Or.symm) Or.symm
  obtain ⟨ha, hb⟩ := btw_of_le hq hx
  obtain ⟨hc, hd⟩ := btw_of_le hq' hy
  exact (ends_eq_or_touch ha hb hc hd h1 h2 h3 h4).imp id Or.inl

end PorepyVerif.C29
