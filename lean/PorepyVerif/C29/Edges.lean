/-
C29 — edges: `dedupEdges` keeps the first representative of every unordered pair; `preFrom` and `trivFrom` number
the parents from a start index.
-/
import PorepyVerif.C29.Inter

namespace PorepyVerif.C29

/-- the same edge as an unordered pair of points (Prop form of `sameEdge`) -/
def Same (e f : OutEdge) : Prop := (e.p = f.p ∧ e.q = f.q) ∨ (e.p = f.q ∧ e.q = f.p)

theorem sameEdge_iff (e f : OutEdge) : sameEdge e f = true ↔ Same e f := by
  simp [sameEdge, Same]

theorem Same.refl (e : OutEdge) : Same e e := Or.inl ⟨rfl, rfl⟩

theorem Same.symm {e f : OutEdge} (h : Same e f) : Same f e := by
  rcases h with ⟨a, b⟩ | ⟨a, b⟩
  · exact Or.inl ⟨a.symm, b.symm⟩
  · exact Or.inr ⟨b.symm, a.symm⟩

theorem Same.trans {e f g : OutEdge} (h1 : Same e f) (h2 : Same f g) : Same e g := by
  rcases h1 with ⟨a, b⟩ | ⟨a, b⟩ <;> rcases h2 with ⟨c, d⟩ | ⟨c, d⟩
  · exact Or.inl ⟨a.trans c, b.trans d⟩
  · exact Or.inr ⟨a.trans c, b.trans d⟩
  · exact Or.inr ⟨a.trans d, b.trans c⟩
  · exact Or.inl ⟨a.trans d, b.trans c⟩

theorem not_sameEdge_iff (e f : OutEdge) : (!sameEdge e f) = true ↔ ¬ Same e f := by
  rw [← sameEdge_iff]; simp

theorem mem_filter_not_same {e f : OutEdge} {l : List OutEdge} :
    f ∈ l.filter (fun g => !sameEdge g e) ↔ f ∈ l ∧ ¬ Same f e := by
  rw [List.mem_filter, not_sameEdge_iff]

theorem dedupEdges_sublist (l : List OutEdge) : (dedupEdges l).Sublist l := by
  induction l with
  | nil => exact List.Sublist.slnil
  | cons e l ih =>
    unfold dedupEdges
    exact List.Sublist.cons_cons e (List.Sublist.trans List.filter_sublist ih)

theorem dedupEdges_rep (l : List OutEdge) : ∀ e ∈ l, ∃ f ∈ dedupEdges l, Same f e := by
  induction l with
  | nil => intro e h; cases h
  | cons e0 l ih =>
    intro e he
    unfold dedupEdges
    rcases List.mem_cons.mp he with rfl | he
    · exact ⟨e, List.mem_cons_self, Same.refl e⟩
    · obtain ⟨f, hf, hs⟩ := ih e he
      by_cases h0 : Same f e0
      · exact ⟨e0, List.mem_cons_self, (h0.symm).trans hs⟩
      · exact ⟨f, List.mem_cons_of_mem _ (mem_filter_not_same.mpr ⟨hf, h0⟩), hs⟩

theorem dedupEdges_pairwise (l : List OutEdge) : (dedupEdges l).Pairwise (fun e f => ¬ Same e f) := by
  induction l with
  | nil => exact List.Pairwise.nil
  | cons e0 l ih =>
    unfold dedupEdges
    refine List.pairwise_cons.mpr ⟨?_, List.Pairwise.sublist List.filter_sublist ih⟩
    exact fun f hf h => (mem_filter_not_same.mp hf).2 h.symm

theorem dedupEdges_first (l : List OutEdge) (hl : l.Pairwise (fun a b => a.parent ≤ b.parent)) :
    ∀ e ∈ dedupEdges l, ∀ g ∈ l, Same g e → e.parent ≤ g.parent := by
  induction l with
  | nil => intro e he; cases he
  | cons e0 l ih =>
    intro e he g hg hs
    have hp := List.pairwise_cons.mp hl
    unfold dedupEdges at he
    rcases List.mem_cons.mp he with rfl | he
    · rcases List.mem_cons.mp hg with rfl | hg
      · exact Nat.le_refl _
      · exact hp.1 g hg
    · obtain ⟨he, hne⟩ := mem_filter_not_same.mp he
      rcases List.mem_cons.mp hg with rfl | hg
      · exact absurd hs.symm hne
      · exact ih hp.2 e he g hg hs

theorem dedupEdges_id : ∀ {l : List OutEdge}, l.Pairwise (fun e f => ¬ Same e f) → dedupEdges l = l := by
  intro l
  induction l with
  | nil => intro _; rfl
  | cons e l ih =>
    intro h
    have hp := List.pairwise_cons.mp h
    unfold dedupEdges
    rw [ih hp.2]
    congr 1
    apply List.filter_eq_self.mpr
    intro f hf
    rw [not_sameEdge_iff]
    exact fun hs => hp.1 f hf hs.symm

theorem mem_preFrom {all : List Seg} {e : OutEdge} : ∀ {l : List Seg} {i : Nat}, e ∈ preFrom all i l ↔
    ∃ k s, l[k]? = some s ∧ e.parent = i + k ∧ e.tags = s.tags ∧ (e.p, e.q) ∈ pieces all s := by
  intro l
  induction l with
  | nil => intro i; exact ⟨fun h => (nomatch h), fun ⟨k, s, hk, _⟩ => (nomatch hk)⟩
  | cons s rest ih =>
    intro i
    rw [preFrom, List.mem_append, List.mem_map, ih]
    constructor
    · rintro (⟨pc, hpc, rfl⟩ | ⟨k, s', hk, hp, ht, hpc⟩)
      · exact ⟨0, s, rfl, rfl, rfl, hpc⟩
      · exact ⟨k + 1, s', hk, by rw [hp, Nat.add_assoc, Nat.add_comm 1 k], ht, hpc⟩
    · rintro ⟨k, s', hk, hp, ht, hpc⟩
      cases k with
      | zero =>
        obtain rfl : s = s' := Option.some.inj hk
        exact Or.inl ⟨(e.p, e.q), hpc, by cases e; cases hp; cases ht; rfl⟩
      | succ k => exact Or.inr ⟨k, s', hk, by rw [hp, Nat.add_assoc, Nat.add_comm 1 k], ht, hpc⟩

theorem preFrom_of_piece_idx {all : List Seg} : ∀ (l : List Seg) (i k : Nat) (s : Seg) (pc : Pt × Pt),
    l[k]? = some s → pc ∈ pieces all s →
    ∃ e ∈ preFrom all i l, e.p = pc.1 ∧ e.q = pc.2 ∧ e.parent = i + k ∧ e.tags = s.tags :=
  fun _ i k s pc hk hpc =>
    ⟨⟨pc.1, pc.2, i + k, s.tags⟩, mem_preFrom.mpr ⟨k, s, hk, rfl, rfl, hpc⟩, rfl, rfl, rfl, rfl⟩

theorem preFrom_of_piece {all : List Seg} : ∀ (l : List Seg) (i : Nat) (s : Seg) (pc : Pt × Pt),
    s ∈ l → pc ∈ pieces all s → ∃ e ∈ preFrom all i l, e.p = pc.1 ∧ e.q = pc.2 :=
  fun l i s pc hs hpc =>
    have ⟨_, hk⟩ := List.getElem?_of_mem hs
    have ⟨e, he, h1, h2, _⟩ := preFrom_of_piece_idx l i _ s pc hk hpc
    ⟨e, he, h1, h2⟩

theorem mem_preEdges {segs : List Seg} {e : OutEdge} :
    e ∈ preEdges segs ↔ ∃ s, segs[e.parent]? = some s ∧ e.tags = s.tags ∧ (e.p, e.q) ∈ pieces segs s := by
  unfold preEdges
  rw [mem_preFrom]
  constructor
  · rintro ⟨k, s, hk, hp, h⟩
    exact ⟨s, by rwa [hp, Nat.zero_add], h⟩
  · rintro ⟨s, hk, h⟩
    exact ⟨e.parent, s, hk, (Nat.zero_add _).symm, h⟩

theorem preFrom_sorted {all : List Seg} : ∀ (l : List Seg) (i : Nat),
    (preFrom all i l).Pairwise (fun a b => a.parent ≤ b.parent) := by
  intro l
  induction l with
  | nil => intro i; simp [preFrom]
  | cons s rest ih =>
    intro i
    unfold preFrom
    rw [List.pairwise_append]
    refine ⟨?_, ih (i + 1), ?_⟩
    · rw [List.pairwise_map]
      exact List.pairwise_of_forall (fun _ _ => Nat.le_refl _)
    · intro a ha b hb
      obtain ⟨pc, _, rfl⟩ := List.mem_map.mp ha
      obtain ⟨k, _, _, hp, _⟩ := mem_preFrom.mp hb
      show i ≤ b.parent
      omega

theorem preFrom_trivial {all : List Seg} : ∀ (l : List Seg) (i : Nat),
    (∀ s ∈ l, pieces all s = [(s.a, s.b)]) → preFrom all i l = trivFrom i l := by
  intro l
  induction l with
  | nil => intro i _; rfl
  | cons s rest ih =>
    intro i h
    unfold preFrom trivFrom
    rw [h s List.mem_cons_self, ih (i + 1) (fun t ht => h t (List.mem_cons_of_mem _ ht))]
    rfl

theorem mem_trivFrom : ∀ (l : List Seg) (i : Nat) (f : OutEdge), f ∈ trivFrom i l →
    ∃ t ∈ l, f.p = t.a ∧ f.q = t.b := by
  intro l
  induction l with
  | nil => intro i f h; cases h
  | cons s rest ih =>
    intro i f h
    unfold trivFrom at h
    rcases List.mem_cons.mp h with rfl | h
    · exact ⟨s, List.mem_cons_self, rfl, rfl⟩
    · obtain ⟨t, ht, a, b⟩ := ih (i + 1) f h
      exact ⟨t, List.mem_cons_of_mem _ ht, a, b⟩

theorem trivFrom_pairwise : ∀ (l : List Seg) (i : Nat), (∀ s ∈ l, s.nondeg) →
    l.Pairwise (fun s t => inter s t = [] ∧ inter t s = []) →
    (trivFrom i l).Pairwise (fun e f => ¬ Same e f) := by
  intro l
  induction l with
  | nil => intro i _ _; exact List.Pairwise.nil
  | cons s rest ih =>
    intro i hnd h
    have hp := List.pairwise_cons.mp h
    unfold trivFrom
    refine List.pairwise_cons.mpr ⟨?_, ih (i + 1) (fun t ht => hnd t (List.mem_cons_of_mem _ ht)) hp.2⟩
    intro f hf hsame
    obtain ⟨t, ht, fa, fb⟩ := mem_trivFrom rest (i + 1) f hf
    have hsn := hnd s List.mem_cons_self
    have hon : OnSeg t.a t.b s.a := by
      rcases hsame with ⟨a, _⟩ | ⟨a, _⟩
      · rw [show s.a = t.a from a.trans fa]; exact onSeg_left _ _
      · rw [show s.a = t.b from a.trans fb]; exact onSeg_right _ _
    obtain ⟨x, hx, _⟩ := inter_hull hsn (onSeg_left _ _) hon
    exact List.ne_nil_of_mem hx (hp.1 t ht).1

end PorepyVerif.C29
