/-
C29 — the list functions under `pieces`: `dedup`, `sortFrom` (an insertion sort, through `Common.InsSort`), `consec`.
-/
import PorepyVerif.C29.Lemmas
import PorepyVerif.Common.InsSort

namespace PorepyVerif.C29

theorem mem_dedup (p : Pt) (l : List Pt) : p ∈ dedup l ↔ p ∈ l := by
  induction l with
  | nil => simp [dedup]
  | cons a l ih =>
    unfold dedup
    by_cases h : a ∈ l
    · rw [if_pos h, ih, List.mem_cons, or_iff_right_of_imp (fun e => e ▸ h)]
    · rw [if_neg h, List.mem_cons, List.mem_cons, ih]

theorem nodup_dedup (l : List Pt) : (dedup l).Nodup := by
  induction l with
  | nil => simp [dedup]
  | cons a l ih =>
    unfold dedup
    by_cases h : a ∈ l
    · rw [if_pos h]; exact ih
    · rw [if_neg h]
      exact List.nodup_cons.mpr ⟨fun hc => h ((mem_dedup a l).mp hc), ih⟩

/-- `sortFrom a` is an insertion sort by squared distance from `a` -/
theorem insSort (a : Pt) : Common.InsSort (fun x y => dist2 x a ≤ dist2 y a) (insertBy a) (sortFrom a) :=
  .of_ite le_trans (fun h => (not_le.mp h).le) (fun _ => rfl) (fun _ _ _ => rfl) rfl (fun _ _ => rfl)

theorem mem_sortFrom (a x : Pt) (l : List Pt) : x ∈ sortFrom a l ↔ x ∈ l := ((insSort a).perm l).mem_iff

theorem nodup_sortFrom (a : Pt) (l : List Pt) (hl : l.Nodup) : (sortFrom a l).Nodup :=
  ((insSort a).perm l).nodup_iff.mpr hl

/-- nothing is nearer to `a` than `a` -/
theorem sortFrom_head {a : Pt} {l : List Pt} (ha : a ∈ l) : ∃ t, sortFrom a l = a :: t := by
  have hm := (mem_sortFrom a a l).mpr ha
  have hs := (insSort a).sorted l
  cases hS : sortFrom a l with
  | nil => rw [hS] at hm; cases hm
  | cons p t =>
    rw [hS] at hm hs
    have hle : dist2 p a ≤ dist2 a a := by
      rcases List.mem_cons.mp hm with e | h
      · rw [e]
      · exact (List.pairwise_cons.mp hs).1 a h
    have hpa : p = a := by
      by_contra hne
      exact absurd hle (not_le.mpr (by rw [dist2_self]; exact dist2_pos hne))
    exact ⟨t, by rw [hpa]⟩

theorem sortFrom_two {a b : Pt} (hab : a ≠ b) {L : List Pt} (hnd : L.Nodup) (ha : a ∈ L) (hb : b ∈ L)
    (hall : ∀ x ∈ L, x = a ∨ x = b) : sortFrom a L = [a, b] := by
  obtain ⟨t, ht⟩ := sortFrom_head ha
  have hn := nodup_sortFrom a L hnd
  have hmem : ∀ x, x ∈ a :: t ↔ x ∈ L := fun x => ht ▸ mem_sortFrom a x L
  rw [ht] at hn ⊢
  obtain ⟨hat, hnt⟩ := List.nodup_cons.mp hn
  have hbt : b ∈ t := (List.mem_cons.mp ((hmem b).mpr hb)).resolve_left (Ne.symm hab)
  have ht' : ∀ x ∈ t, x = b := fun x hx =>
    (hall x ((hmem x).mp (List.mem_cons_of_mem _ hx))).resolve_left fun e => hat (e ▸ hx)
  match t, hnt, hbt, ht' with
  | [x], _, _, h => rw [h x List.mem_cons_self]
  | x :: y :: r, hnt, _, h =>
    have hy := List.mem_cons_of_mem x (List.mem_cons_self (a := y) (l := r))
    exact absurd (List.mem_cons.mpr (Or.inl ((h x List.mem_cons_self).trans (h y hy).symm)))
      (List.nodup_cons.mp hnt).1

theorem consec_split {l : List Pt} {u v : Pt} (h : (u, v) ∈ consec l) :
    ∃ pre post, l = pre ++ u :: v :: post := by
  induction l with
  | nil => simp [consec] at h
  | cons p l ih =>
    cases l with
    | nil => simp [consec] at h
    | cons q r =>
      simp only [consec, List.mem_cons] at h
      rcases h with h | h
      · obtain ⟨rfl, rfl⟩ := Prod.mk.inj h
        exact ⟨[], r, rfl⟩
      · obtain ⟨pre, post, e⟩ := ih h
        exact ⟨p :: pre, post, by rw [e]; rfl⟩

theorem consec_mem {l : List Pt} {u v : Pt} (h : (u, v) ∈ consec l) : u ∈ l ∧ v ∈ l := by
  obtain ⟨pre, post, rfl⟩ := consec_split h
  simp

theorem consec_ne {l : List Pt} (hl : l.Nodup) {u v : Pt} (h : (u, v) ∈ consec l) : u ≠ v := by
  obtain ⟨pre, post, rfl⟩ := consec_split h
  have := (List.nodup_append.mp hl).2.1
  have := (List.nodup_cons.mp this).1
  intro e; apply this; rw [e]; exact List.mem_cons_self

theorem consec_sorted {a : Pt} {l : List Pt} (hs : l.Pairwise (fun x y => dist2 x a ≤ dist2 y a))
    {u v x : Pt} (he : (u, v) ∈ consec l) (hx : x ∈ l) :
    dist2 u a ≤ dist2 v a ∧ (dist2 x a ≤ dist2 u a ∨ dist2 v a ≤ dist2 x a) := by
  obtain ⟨pre, post, rfl⟩ := consec_split he
  rw [List.pairwise_append] at hs
  obtain ⟨_, h2, h3⟩ := hs
  have h4 := List.pairwise_cons.mp h2
  have h5 := List.pairwise_cons.mp h4.2
  refine ⟨h4.1 v List.mem_cons_self, ?_⟩
  rcases List.mem_append.mp hx with hx | hx
  · left; exact h3 x hx u List.mem_cons_self
  · rcases List.mem_cons.mp hx with rfl | hx
    · left; exact le_refl _
    · rcases List.mem_cons.mp hx with rfl | hx
      · right; exact le_refl _
      · right; exact h5.1 x hx

/-- discrete intermediate value -/
theorem ivt (c : Pt → Rat) (k : Rat) : ∀ (l : List Pt) (p : Pt), c p ≤ k → (∃ y ∈ l, k ≤ c y) →
    ∃ e ∈ consec (p :: l), c e.1 ≤ k ∧ k ≤ c e.2 := by
  intro l
  induction l with
  | nil => rintro p _ ⟨y, hy, _⟩; cases hy
  | cons q r ih =>
    rintro p hp ⟨y, hy, hk⟩
    by_cases hq : k ≤ c q
    · exact ⟨(p, q), List.mem_cons_self, hp, hq⟩
    · have hyr : y ∈ r := (List.mem_cons.mp hy).resolve_left fun e => hq (e ▸ hk)
      obtain ⟨e, he, h⟩ := ih q (le_of_not_ge hq) ⟨y, hyr, hk⟩
      exact ⟨e, List.mem_cons_of_mem _ he, h⟩

theorem pairwise_mem_ne {α : Type} {R : α → α → Prop} (hsym : ∀ a b, R a b → R b a) :
    ∀ {l : List α}, l.Pairwise R → ∀ a ∈ l, ∀ b ∈ l, a ≠ b → R a b := by
  intro l
  induction l with
  | nil => intro _ a ha; cases ha
  | cons x l ih =>
    intro h a ha b hb hne
    have hp := List.pairwise_cons.mp h
    rcases List.mem_cons.mp ha with ea | ha'
    · rcases List.mem_cons.mp hb with eb | hb'
      · exact absurd (ea.trans eb.symm) hne
      · rw [ea]; exact hp.1 b hb'
    · rcases List.mem_cons.mp hb with eb | hb'
      · rw [eb]; exact hsym _ _ (hp.1 a ha')
      · exact ih hp.2 a ha' b hb' hne

end PorepyVerif.C29
