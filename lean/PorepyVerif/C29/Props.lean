/-
C29 — property theorems (statements only depend on Model.lean; helper lemmas in Lemmas, Inter, Sort,
Pieces, Edges).

Property: for any set of 2-D segments, splitting at intersections returns edges that meet only at
shared end points, cover exactly the union of the input segments, each lie inside the input segment
they are mapped to with that segment's tags, and contain no duplicates.

All theorems about `split` hold for EVERY list of segments without zero-length members
(`AllNondeg`); coordinates are arbitrary rationals (so every binary64 input is covered, rounding is not).
-/
import PorepyVerif.C29.Pieces
import PorepyVerif.C29.Edges

namespace PorepyVerif.C29

/-- hypothesis of the theorems about `split`: no zero-length input segment -/
def AllNondeg (segs : List Seg) : Prop := ∀ s ∈ segs, s.nondeg

instance (segs : List Seg) : Decidable (AllNondeg segs) :=
  inferInstanceAs (Decidable (∀ s ∈ segs, s.nondeg))

theorem mem_split_pre {segs : List Seg} {e : OutEdge} (h : e ∈ split segs) : e ∈ preEdges segs :=
  (dedupEdges_sublist _).subset h

/-! ### the pairwise intersection (`segments_2d`, exact) -/

/-- every reported point lies on both segments -/
theorem inter_sound {s t : Seg} (hs : s.nondeg) {p : Pt} (h : p ∈ inter s t) :
    OnSeg s.a s.b p ∧ OnSeg t.a t.b p := inter_sound' hs h

/-- every common point of the two segments lies between two reported points (the reported points
    span the whole intersection); for non-parallel segments the common point is the only report -/
theorem inter_complete {s t : Seg} (hs : s.nondeg) {q : Pt}
    (h1 : OnSeg s.a s.b q) (h2 : OnSeg t.a t.b q) :
    (∃ p1 ∈ inter s t, ∃ p2 ∈ inter s t, OnSeg p1 p2 q) ∧ (cross s.d t.d ≠ 0 → inter s t = [q]) :=
  ⟨inter_hull hs h1 h2, fun h => inter_complete_nonpar h h1 h2⟩

/-! ### the two prefilters only discard pairs without a common point -/

/-- bounding-box prefilter: segments that intersect have overlapping closed bounding boxes
    (contrapositive: disjoint boxes ⇒ `segments_2d` would return `None`) -/
theorem prefilter_sound {s t : Seg} (hs : s.nondeg) (h : inter s t ≠ []) : boxesOverlap s t := by
  obtain ⟨p, hp⟩ := List.exists_mem_of_ne_nil _ h
  obtain ⟨h1, h2⟩ := inter_sound' hs hp
  obtain ⟨a1, a2, a3, a4⟩ := onSeg_box h1
  obtain ⟨b1, b2, b3, b4⟩ := onSeg_box h2
  exact ⟨le_trans a1 b2, le_trans b1 a2, le_trans a3 b4, le_trans b3 a4⟩

/-- cross-product side prefilter (exact form): if both end points of `t` are strictly on the same
    side of the line through `s`, there is no intersection -/
theorem side_prefilter_sound {s t : Seg} (hs : s.nondeg) (h : sameStrictSide s t) : inter s t = [] := by
  by_contra hne
  obtain ⟨p, hp⟩ := List.exists_mem_of_ne_nil _ hne
  obtain ⟨h1, h2⟩ := inter_sound' hs hp
  exact no_common_of_sameStrictSide h h1 h2

/-- the candidate pairs of the bounding-box prefilter contain every pair of input segments that
    intersect: restricting the calls of `segments_2d` to `boxPairs` loses no intersection point -/
theorem prefilter_pairs_complete (segs : List Seg) (i j : Nat) (s t : Seg)
    (hi : segs[i]? = some s) (hj : segs[j]? = some t) (hij : i < j) (hs : s.nondeg)
    (h : inter s t ≠ []) : (i, j) ∈ boxPairs segs := by
  have := mem_pairsFrom segs 0 i j s t hi hj hij ((boxesOverlapB_iff s t).mpr (prefilter_sound hs h))
  simpa [boxPairs] using this

/-! ### the subdivision -/

/-- every returned edge lies inside the input segment it is mapped to (`argsort`), carries that
    segment's tags, and has positive length -/
theorem split_inside_parent_with_tags (segs : List Seg) (hall : AllNondeg segs) :
    ∀ e ∈ split segs, ∃ s, segs[e.parent]? = some s ∧ e.tags = s.tags ∧
      OnSeg s.a s.b e.p ∧ OnSeg s.a s.b e.q ∧ e.p ≠ e.q ∧ ∀ q, OnSeg e.p e.q q → OnSeg s.a s.b q := by
  intro e he
  obtain ⟨s, hk, ht, hpc⟩ := mem_preEdges.mp (mem_split_pre he)
  have hs : s ∈ segs := List.mem_of_getElem? hk
  obtain ⟨h1, h2⟩ := pieces_onSeg (hall s hs) hpc
  exact ⟨s, hk, ht, h1, h2, pieces_ne hpc, fun q hq => onSeg_trans h1 h2 hq⟩

/-- the returned edges cover every input segment: each point of a parent lies on a returned edge
    that is itself contained in the parent.  Together with `split_inside_parent_with_tags` the union of
    the returned edges is exactly the union of the input segments. -/
theorem split_cover (segs : List Seg) (hall : AllNondeg segs) :
    ∀ s ∈ segs, ∀ q, OnSeg s.a s.b q →
      ∃ e ∈ split segs, OnSeg e.p e.q q ∧ OnSeg s.a s.b e.p ∧ OnSeg s.a s.b e.q := by
  intro s hs q hq
  have hsn := hall s hs
  obtain ⟨pc, hpc, hon⟩ := pieces_cover (segs := segs) hsn hq
  obtain ⟨g, hg, gp, gq⟩ := preFrom_of_piece segs 0 s pc hs hpc
  obtain ⟨f, hf, hsame⟩ := dedupEdges_rep _ g hg
  obtain ⟨h1, h2⟩ := pieces_onSeg (u := pc.1) (v := pc.2) hsn hpc
  refine ⟨f, hf, ?_⟩
  rcases hsame with ⟨a, b⟩ | ⟨a, b⟩
  · rw [a, b, gp, gq]; exact ⟨hon, h1, h2⟩
  · rw [a, b, gp, gq]; exact ⟨onSeg_symm hon, h2, h1⟩

/-- no duplicates: two different returned edges are never the same unordered pair of points
    (`List.Pairwise` = for any two different positions of the list) -/
theorem split_nodup (segs : List Seg) :
    (split segs).Pairwise (fun e f => ¬ ((e.p = f.p ∧ e.q = f.q) ∨ (e.p = f.q ∧ e.q = f.p))) :=
  dedupEdges_pairwise _

/-- FULL non-crossing statement: two different returned edges meet only in points that are end
    points of both — for non-parallel parents (an interior crossing point would have been a split
    point of both), parallel parents (no common point), and collinear / overlapping / identical
    parents (inside the overlap both parents have the same split points). -/
theorem split_noncrossing (segs : List Seg) (hall : AllNondeg segs) :
    (split segs).Pairwise (fun e f => ∀ q, OnSeg e.p e.q q → OnSeg f.p f.q q →
      (q = e.p ∨ q = e.q) ∧ (q = f.p ∨ q = f.q)) := by
  refine List.Pairwise.imp_of_mem ?_ (dedupEdges_pairwise (preEdges segs))
  intro e f he hf hns q hq hq'
  obtain ⟨s, hk, _, hpc⟩ := mem_preEdges.mp (mem_split_pre he)
  obtain ⟨t, hk', _, hpc'⟩ := mem_preEdges.mp (mem_split_pre hf)
  rcases meet hall (List.mem_of_getElem? hk) (List.mem_of_getElem? hk') hpc hpc' hq hq' with h | h
  · exact h
  · exact absurd h hns

/-- `tag_info`: one entry per piece before uniquification; each entry carries the tags of the
    piece's parent and points to a returned edge that is the same unordered pair as the piece -/
theorem split_tag_info (segs : List Seg) :
    (tagInfo segs).length = (preEdges segs).length ∧
    ∀ x ∈ tagInfo segs, ∃ e ∈ preEdges segs, (∃ s, segs[e.parent]? = some s ∧ x.1 = s.tags) ∧
      ∃ f ∈ split segs, x.2 = some f ∧ ((f.p = e.p ∧ f.q = e.q) ∨ (f.p = e.q ∧ f.q = e.p)) := by
  constructor
  · simp [tagInfo]
  · intro x hx
    unfold tagInfo at hx
    obtain ⟨e, he, rfl⟩ := List.mem_map.mp hx
    obtain ⟨s, hk, ht, _⟩ := mem_preEdges.mp he
    refine ⟨e, he, ⟨s, hk, ht⟩, ?_⟩
    obtain ⟨f0, hf0, hs0⟩ := dedupEdges_rep _ e he
    cases hfind : (split segs).find? (fun f => sameEdge f e) with
    | none =>
      have := List.find?_eq_none.mp hfind f0 hf0
      exact absurd ((sameEdge_iff f0 e).mpr hs0) this
    | some f =>
      have hp : sameEdge f e = true := List.find?_some (p := fun f => sameEdge f e) hfind
      exact ⟨f, List.mem_of_find?_eq_some hfind, rfl, (sameEdge_iff f e).mp hp⟩

/-- the parent reported for a returned edge is the FIRST (lowest-index) input segment that has this
    edge among its pieces -/
theorem split_parent_is_first (segs : List Seg) :
    ∀ e ∈ split segs, ∀ g ∈ preEdges segs,
      ((g.p = e.p ∧ g.q = e.q) ∨ (g.p = e.q ∧ g.q = e.p)) → e.parent ≤ g.parent :=
  dedupEdges_first _ (preFrom_sorted segs 0)

/-- `tag_info` is complete: every input segment that contains a returned edge contributes a piece
    (before uniquification) that is this edge as an unordered pair, with that segment's index and tags -/
theorem split_tag_info_complete (segs : List Seg) (hall : AllNondeg segs) :
    ∀ e ∈ split segs, ∀ (i : Nat) (s : Seg), segs[i]? = some s →
      OnSeg s.a s.b e.p → OnSeg s.a s.b e.q →
      ∃ g ∈ preEdges segs, g.parent = i ∧ g.tags = s.tags ∧
        ((g.p = e.p ∧ g.q = e.q) ∨ (g.p = e.q ∧ g.q = e.p)) := by
  intro e he i s hi h1 h2
  obtain ⟨t, hk, _, hpc⟩ := mem_preEdges.mp (mem_split_pre he)
  have hs := List.mem_of_getElem? hi
  have ht := List.mem_of_getElem? hk
  rcases edge_is_piece_of_container hall hs ht hpc h1 h2 with h | h <;>
    obtain ⟨g, hg, gp, gq, gi, gt⟩ := preFrom_of_piece_idx segs 0 i s _ hi h
  · exact ⟨g, hg, gi.trans (Nat.zero_add i), gt, Or.inl ⟨gp, gq⟩⟩
  · exact ⟨g, hg, gi.trans (Nat.zero_add i), gt, Or.inr ⟨gp, gq⟩⟩

/-- the union of the returned edges is exactly the union of the input segments -/
theorem split_union_eq (segs : List Seg) (hall : AllNondeg segs) (q : Pt) :
    (∃ e ∈ split segs, OnSeg e.p e.q q) ↔ (∃ s ∈ segs, OnSeg s.a s.b q) := by
  constructor
  · rintro ⟨e, he, hq⟩
    obtain ⟨s, hk, _, _, _, _, hin⟩ := split_inside_parent_with_tags segs hall e he
    exact ⟨s, List.mem_of_getElem? hk, hin q hq⟩
  · rintro ⟨s, hs, hq⟩
    obtain ⟨e, he, h, _⟩ := split_cover segs hall s hs q hq
    exact ⟨e, he, h⟩

/-- the early-return branch is consistent with the general path: when no two different input
    segments have an intersection point, the general algorithm returns the input edges unchanged,
    in order, each mapped to itself (`argsort = arange`) — exactly what the code returns early -/
theorem split_no_intersection (segs : List Seg) (hall : AllNondeg segs) (hno : NoIsect segs) :
    split segs = trivFrom 0 segs := by
  have h1 : preEdges segs = trivFrom 0 segs :=
    preFrom_trivial segs 0 (fun s hs => pieces_trivial hall hno hs)
  unfold split
  rw [h1]
  exact dedupEdges_id (trivFrom_pairwise segs 0 hall hno)

/-! ### non-vacuity: concrete inputs -/

/-- an X-crossing with a fractional crossing point (0, 1), a collinear overlap (0, 3), collinear and angled segments
    that only share an end point (0, 2 and 2, 4), a reversed duplicate (1, 5) -/
def exSegs : List Seg :=
  [⟨(0, 0), (3, 1), [1]⟩, ⟨(0, 1), (3, 0), [2]⟩, ⟨(3, 1), (6, 2), [3]⟩, ⟨(-3, -1), (3, 1), [4]⟩,
   ⟨(6, 2), (6, 0), [5]⟩, ⟨(3, 0), (0, 1), [6]⟩]

example : AllNondeg exSegs := by decide +kernel

/-- the pieces before uniquification; the checks of `split`, `tagInfo` and `preEdges` below start from this value -/
theorem preEdges_exSegs : preEdges exSegs =
    [⟨(0, 0), (3/2, 1/2), 0, [1]⟩, ⟨(3/2, 1/2), (3, 1), 0, [1]⟩, ⟨(0, 1), (3/2, 1/2), 1, [2]⟩,
     ⟨(3/2, 1/2), (3, 0), 1, [2]⟩, ⟨(3, 1), (6, 2), 2, [3]⟩, ⟨(-3, -1), (0, 0), 3, [4]⟩,
     ⟨(0, 0), (3/2, 1/2), 3, [4]⟩, ⟨(3/2, 1/2), (3, 1), 3, [4]⟩, ⟨(6, 2), (6, 0), 4, [5]⟩,
     ⟨(3, 0), (3/2, 1/2), 5, [6]⟩, ⟨(3/2, 1/2), (0, 1), 5, [6]⟩] := by
  decide +kernel

example : (split exSegs).map (fun e => (e.p, e.q, e.parent, e.tags)) =
    [((0, 0), (3/2, 1/2), 0, [1]), ((3/2, 1/2), (3, 1), 0, [1]),
     ((0, 1), (3/2, 1/2), 1, [2]), ((3/2, 1/2), (3, 0), 1, [2]),
     ((3, 1), (6, 2), 2, [3]), ((-3, -1), (0, 0), 3, [4]), ((6, 2), (6, 0), 4, [5])] := by
  rw [split, preEdges_exSegs]; decide +kernel

example : (tagInfo exSegs).map (fun x => (x.1, x.2.map (fun e => e.parent))) =
    [([1], some 0), ([1], some 0), ([2], some 1), ([2], some 1), ([3], some 2),
     ([4], some 3), ([4], some 0), ([4], some 0), ([5], some 4), ([6], some 1), ([6], some 1)] := by
  rw [tagInfo, split, preEdges_exSegs]; decide +kernel

/-- `inter` on the three kinds of pairs -/
example : inter ⟨(0, 0), (3, 1), []⟩ ⟨(0, 1), (3, 0), []⟩ = [(3/2, 1/2)] := by decide +kernel
example : inter ⟨(0, 0), (3, 1), []⟩ ⟨(-3, -1), (3/2, 1/2), []⟩ = [(0, 0), (3/2, 1/2)] := by decide +kernel
example : inter ⟨(0, 0), (3, 1), []⟩ ⟨(0, 1), (3, 2), []⟩ = [] := by decide +kernel

/-- the hypotheses of the prefilter theorems are satisfiable -/
example : inter ⟨(0, 0), (3, 1), []⟩ ⟨(0, 1), (3, 0), []⟩ ≠ [] := by decide +kernel
example : sameStrictSide ⟨(0, 0), (3, 1), []⟩ ⟨(0, 1), (3, 2), []⟩ := by
  unfold sameStrictSide; decide +kernel

/-- `split_tag_info_complete` on data: the returned edge (0,0)-(3/2,1/2) (parent 0) also lies in input
    segment 3 = (-3,-1)-(3,1); segment 3 contributes that piece with its own index and tags -/
example : ∃ g ∈ preEdges exSegs, g.parent = 3 ∧ g.tags = [4] ∧ g.p = ((0, 0) : Pt) ∧ g.q = ((3/2, 1/2) : Pt) := by
  rw [preEdges_exSegs]; decide +kernel

/-- the right-hand side of `split_union_eq` on data: the crossing point lies on an input segment -/
example : ∃ s ∈ exSegs, OnSeg s.a s.b ((3/2, 1/2) : Pt) :=
  ⟨⟨(0, 0), (3, 1), [1]⟩, by decide +kernel, 1/2, by decide +kernel, by decide +kernel,
    by decide +kernel, by decide +kernel⟩

/-- the candidate pairs on the example (every intersecting pair is among them) -/
example : boxPairs exSegs =
    [(0, 1), (0, 2), (0, 3), (0, 5), (1, 2), (1, 3), (1, 5), (2, 3), (2, 4), (2, 5), (3, 5)] := by decide +kernel

/-- hypothesis of `split_no_intersection` is satisfiable (two parallel segments and an isolated one) -/
example : NoIsect [⟨(0, 0), (2, 1), [1]⟩, ⟨(0, 1), (2, 2), [2]⟩, ⟨(5, 5), (6, 7), [3]⟩] := by
  decide +kernel

end PorepyVerif.C29
