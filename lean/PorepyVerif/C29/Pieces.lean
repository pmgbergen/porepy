/-
C29 — split points and pieces of a parent.  All parents are cut at one common set of points (`splitPts_shared`), and
a piece has no split point of its own parent strictly inside (`piece_no_interior`), hence none of any parent: from
this `meet` (two pieces meet only in common ends, or are the same pair); `edge_is_piece_of_container` is `meet` at
the midpoint of the edge.
-/
import PorepyVerif.C29.Inter
import PorepyVerif.C29.Sort

namespace PorepyVerif.C29

theorem mem_splitPts {segs : List Seg} {s : Seg} {x : Pt} :
    x ∈ splitPts segs s ↔ x = s.a ∨ x = s.b ∨ ∃ u ∈ segs, x ∈ inter s u := by
  unfold splitPts
  rw [mem_dedup, List.mem_cons, List.mem_cons, List.mem_flatMap]

/-- the split points of `s` without reference to `inter`: the points of `s` that are an end point of `s`, lie on a
    segment crossing `s`, or are an end point of a parallel segment -/
theorem mem_splitPts_iff {segs : List Seg} {s : Seg} (hs : s.nondeg) {x : Pt} :
    x ∈ splitPts segs s ↔ OnSeg s.a s.b x ∧ ((x = s.a ∨ x = s.b) ∨
      ∃ u ∈ segs, OnSeg u.a u.b x ∧ (cross s.d u.d = 0 → x = u.a ∨ x = u.b)) := by
  rw [mem_splitPts, ← or_assoc]
  constructor
  · rintro (e | ⟨u, hu, hxu⟩)
    · exact ⟨e.elim (· ▸ onSeg_left _ _) (· ▸ onSeg_right _ _), Or.inl e⟩
    · obtain ⟨h1, h2, he⟩ := (mem_inter_iff hs).mp hxu
      refine ⟨h1, ?_⟩
      by_cases hpar : cross s.d u.d = 0
      · exact (or_assoc.mpr (he hpar)).imp id fun e => ⟨u, hu, h2, fun _ => e⟩
      · exact Or.inr ⟨u, hu, h2, fun h => absurd h hpar⟩
  · rintro ⟨h1, e | ⟨u, hu, h2, he⟩⟩
    · exact Or.inl e
    · exact Or.inr ⟨u, hu, (mem_inter_iff hs).mpr ⟨h1, h2, fun h => Or.inr (Or.inr (he h))⟩⟩

theorem splitPts_onSeg {segs : List Seg} {s : Seg} (hs : s.nondeg) {x : Pt}
    (hx : x ∈ splitPts segs s) : OnSeg s.a s.b x :=
  ((mem_splitPts_iff hs).mp hx).1

theorem splitPts_param {segs : List Seg} {s : Seg} (hs : s.nondeg) {x : Pt}
    (hx : x ∈ splitPts segs s) : ∃ t : Rat, 0 ≤ t ∧ t ≤ 1 ∧ x = along s.a s.d t :=
  (onSeg_iff_along s x).mp (splitPts_onSeg hs hx)

/-- all parents are cut at one common set of points: a split point of `s` that lies on `t` is a split point of `t` -/
theorem splitPts_shared {segs : List Seg} (hall : ∀ u ∈ segs, u.nondeg) {s t : Seg}
    (hs : s ∈ segs) (ht : t ∈ segs) {x : Pt} (hx : x ∈ splitPts segs s) (hxt : OnSeg t.a t.b x) :
    x ∈ splitPts segs t := by
  obtain ⟨hxs, h⟩ := (mem_splitPts_iff (hall s hs)).mp hx
  refine (mem_splitPts_iff (hall t ht)).mpr ⟨hxt, Or.inr ?_⟩
  rcases h with e | ⟨u, hu, hxu, he⟩
  · exact ⟨s, hs, hxs, fun _ => e⟩
  · by_cases htu : cross t.d u.d = 0
    · by_cases hsu : cross s.d u.d = 0
      · exact ⟨u, hu, hxu, fun _ => he hsu⟩
      -- `s` and `u` cross at `x`, so `t`, parallel to `u`, is not parallel to `s`
      · exact ⟨s, hs, hxs, fun hts => absurd (cross_par_trans (d_ne_zero (hall t ht))
          (cross_swap_zero hts) (cross_swap_zero htu)) hsu⟩
    · exact ⟨u, hu, hxu, fun h => absurd h htu⟩

theorem splitPts_trivial {segs : List Seg} (hall : ∀ u ∈ segs, u.nondeg) (hno : NoIsect segs)
    {s : Seg} (hs : s ∈ segs) : ∀ x ∈ splitPts segs s, x = s.a ∨ x = s.b := by
  intro x hx
  obtain ⟨hxs, e | ⟨u, hu, hxu, he⟩⟩ := (mem_splitPts_iff (hall s hs)).mp hx
  · exact e
  -- `NoIsect` speaks of two positions of the list; as values `s` and `u` may be equal (`splitPts` also
  -- intersects `s` with itself), and `s` is parallel to itself
  · by_cases e : s = u
    · subst e
      exact he (by simp only [cross]; ring)
    · have := (pairwise_mem_ne (fun a b h => ⟨h.2, h.1⟩) hno s hs u hu e).1
      exact absurd ((mem_inter_iff (hall s hs)).mpr ⟨hxs, hxu, fun h => Or.inr (Or.inr (he h))⟩)
        (this ▸ List.not_mem_nil)

theorem pieces_mem {segs : List Seg} {s : Seg} {u v : Pt} (he : (u, v) ∈ pieces segs s) :
    u ∈ splitPts segs s ∧ v ∈ splitPts segs s := by
  have hm := consec_mem he
  exact ⟨(mem_sortFrom _ _ _).mp hm.1, (mem_sortFrom _ _ _).mp hm.2⟩

theorem pieces_onSeg {segs : List Seg} {s : Seg} (hs : s.nondeg) {u v : Pt} (he : (u, v) ∈ pieces segs s) :
    OnSeg s.a s.b u ∧ OnSeg s.a s.b v :=
  ⟨splitPts_onSeg hs (pieces_mem he).1, splitPts_onSeg hs (pieces_mem he).2⟩

theorem pieces_ne {segs : List Seg} {s : Seg} {u v : Pt} (he : (u, v) ∈ pieces segs s) : u ≠ v :=
  consec_ne (nodup_sortFrom _ _ (nodup_dedup _)) he

theorem pieces_trivial {segs : List Seg} (hall : ∀ u ∈ segs, u.nondeg) (hno : NoIsect segs)
    {s : Seg} (hs : s ∈ segs) : pieces segs s = [(s.a, s.b)] := by
  unfold pieces
  rw [sortFrom_two (L := splitPts segs s) (hall s hs)
    (show (splitPts segs s).Nodup from nodup_dedup _) (mem_splitPts.mpr (Or.inl rfl))
    (mem_splitPts.mpr (Or.inr (Or.inl rfl))) (splitPts_trivial hall hno hs)]
  rfl

/-- in the list sorted by distance from `s.a`, which is the order of the parameters, no entry comes strictly between
    two consecutive ones -/
theorem piece_no_interior {segs : List Seg} {s : Seg} (hs : s.nondeg) {u v x : Pt}
    (he : (u, v) ∈ pieces segs s) (hx : x ∈ splitPts segs s) (hb : OnSeg u v x) : x = u ∨ x = v := by
  have hd := d_ne_zero hs
  have hm := pieces_mem he
  obtain ⟨hle, hcase⟩ := consec_sorted ((insSort s.a).sorted _) he ((mem_sortFrom _ _ _).mpr hx)
  obtain ⟨xu, u0, _, rfl⟩ := splitPts_param hs hm.1
  obtain ⟨xv, v0, _, rfl⟩ := splitPts_param hs hm.2
  obtain ⟨xx, x0, _, rfl⟩ := splitPts_param hs hx
  obtain ⟨l1, l2⟩ := btw_of_le ((onSeg_along_iff hd xu xv xx).mp hb) (param_le_of_dist2_le hd u0 v0 hle)
  rcases hcase with hc | hc
  · exact Or.inl (congrArg _ (le_antisymm (param_le_of_dist2_le hd x0 u0 hc) l1))
  · exact Or.inr (congrArg _ (le_antisymm l2 (param_le_of_dist2_le hd v0 x0 hc)))

/-- walking along the sorted split points from `s.a` (parameter 0) to `s.b` (parameter 1), the parameter
    passes that of `q` between two consecutive ones -/
theorem pieces_cover {segs : List Seg} {s : Seg} (hs : s.nondeg) {q : Pt} (hq : OnSeg s.a s.b q) :
    ∃ e ∈ pieces segs s, OnSeg e.1 e.2 q := by
  have hd := d_ne_zero hs
  obtain ⟨z, z0, z1, rfl⟩ := (onSeg_iff_along s q).mp hq
  obtain ⟨l, hl⟩ := sortFrom_head (mem_splitPts.mpr (Or.inl rfl) : s.a ∈ splitPts segs s)
  have hb : s.b ∈ sortFrom s.a (splitPts segs s) :=
    (mem_sortFrom _ _ _).mpr (mem_splitPts.mpr (Or.inr (Or.inl rfl)))
  rw [hl] at hb
  obtain ⟨e, he, hbt⟩ := ivt (paramOn s.a s.d) z l s.a (by rw [paramOn_start]; exact z0)
    ⟨s.b, (List.mem_cons.mp hb).resolve_left (Ne.symm hs), by rw [paramOn_end hs]; exact z1⟩
  rw [← hl] at he
  refine ⟨e, he, ?_⟩
  have hm := pieces_mem (u := e.1) (v := e.2) he
  obtain ⟨xu, _, _, hu⟩ := splitPts_param hs hm.1
  obtain ⟨xv, _, _, hv⟩ := splitPts_param hs hm.2
  rw [hu, hv, paramOn_along hd, paramOn_along hd] at hbt
  rw [hu, hv]
  exact (onSeg_along_iff hd xu xv z).mpr (Or.inl hbt)

/-- a split point of any parent that lies on a piece is one of its ends -/
theorem piece_no_interior_shared {segs : List Seg} (hall : ∀ u ∈ segs, u.nondeg) {s t : Seg}
    (hs : s ∈ segs) (ht : t ∈ segs) {u v x : Pt} (he : (u, v) ∈ pieces segs s)
    (hx : x ∈ splitPts segs t) (hb : OnSeg u v x) : x = u ∨ x = v :=
  have h := pieces_onSeg (hall s hs) he
  piece_no_interior (hall s hs) he (splitPts_shared hall ht hs hx (onSeg_trans h.1 h.2 hb)) hb

theorem meet {segs : List Seg} (hall : ∀ u ∈ segs, u.nondeg) {s t : Seg}
    (hs : s ∈ segs) (ht : t ∈ segs) {u v u' v' q : Pt}
    (he : (u, v) ∈ pieces segs s) (he' : (u', v') ∈ pieces segs t)
    (hq : OnSeg u v q) (hq' : OnSeg u' v' q) :
    ((q = u ∨ q = v) ∧ (q = u' ∨ q = v')) ∨ ((u = u' ∧ v = v') ∨ (u = v' ∧ v = u')) := by
  have hsn := hall s hs
  have hm := pieces_mem he
  have hm' := pieces_mem he'
  obtain ⟨hu, hv⟩ := pieces_onSeg hsn he
  obtain ⟨hu', hv'⟩ := pieces_onSeg (hall t ht) he'
  have hqs : OnSeg s.a s.b q := onSeg_trans hu hv hq
  have hqt : OnSeg t.a t.b q := onSeg_trans hu' hv' hq'
  by_cases hpar : cross s.d t.d = 0
  -- parents on one line (of `inter_of_col` only that the ends of `t` lie on the line of `s` is used): both pieces are
  -- intervals of that line, and no end of one is strictly inside the other
  · have hd := d_ne_zero hsn
    obtain ⟨ts, te, hta, htb, _⟩ := inter_of_col hsn (col_of_par_common hpar hqs hqt)
    rw [hta, htb] at hu' hv'
    obtain ⟨x1, _, _, rfl⟩ := (onSeg_iff_along s u).mp hu
    obtain ⟨x2, _, _, rfl⟩ := (onSeg_iff_along s v).mp hv
    obtain ⟨y1, rfl, _⟩ := onSeg_of_along_ends hu'
    obtain ⟨y2, rfl, _⟩ := onSeg_of_along_ends hv'
    obtain ⟨z, _, _, rfl⟩ := (onSeg_iff_along s q).mp hqs
    exact touch_or_same hd hq hq'
      (piece_no_interior_shared hall hs ht he hm'.1) (piece_no_interior_shared hall hs ht he hm'.2)
      (piece_no_interior_shared hall ht hs he' hm.1) (piece_no_interior_shared hall ht hs he' hm.2)
  -- crossing parents: the common point is a split point
  · have hqS : q ∈ splitPts segs s :=
      (mem_splitPts_iff hsn).mpr ⟨hqs, Or.inr ⟨t, ht, hqt, fun h => absurd h hpar⟩⟩
    exact Or.inl ⟨piece_no_interior hsn he hqS hq, piece_no_interior_shared hall ht hs he' hqS hq'⟩

theorem edge_is_piece_of_container {segs : List Seg} (hall : ∀ u ∈ segs, u.nondeg) {s t : Seg}
    (hs : s ∈ segs) (ht : t ∈ segs) {u v : Pt} (he : (u, v) ∈ pieces segs t)
    (h1 : OnSeg s.a s.b u) (h2 : OnSeg s.a s.b v) :
    (u, v) ∈ pieces segs s ∨ (v, u) ∈ pieces segs s := by
  -- the piece of `s` that covers the midpoint of `u` and `v` meets `(u, v)` in a point that is no end of it
  obtain ⟨m, hm, hmu, hmv⟩ := onSeg_mid (pieces_ne he)
  obtain ⟨⟨u', v'⟩, he', hm'⟩ := pieces_cover (segs := segs) (hall s hs) (onSeg_trans h1 h2 hm)
  rcases meet hall ht hs he he' hm hm' with ⟨h | h, _⟩ | ⟨rfl, rfl⟩ | ⟨rfl, rfl⟩
  · exact absurd h hmu
  · exact absurd h hmv
  · exact Or.inl he'
  · exact Or.inr he'

end PorepyVerif.C29
