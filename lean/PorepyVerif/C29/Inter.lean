/-
C29 — `overlap` and `inter` (`segments_2d`).  `mem_inter_iff` says which points `inter` reports, `inter_hull` that
they span the common part; the later modules use nothing else of `inter`.  Then the two prefilters.
-/
import PorepyVerif.C29.Lemmas

namespace PorepyVerif.C29

theorem mem_overlap {a d : Pt} {ts te : Rat} {p : Pt} :
    p ∈ overlap a d ts te ↔ max (min ts te) 0 ≤ min (max ts te) 1 ∧
      (p = along a d (max (min ts te) 0) ∨ p = along a d (min (max ts te) 1)) := by
  unfold overlap
  simp only [rmax_eq_max, rmin_eq_min]
  by_cases h : max (min ts te) 0 ≤ min (max ts te) 1
  · obtain ⟨n1, n2⟩ := clip_nonempty_iff.mp h
    rw [if_neg n1, if_neg n2]
    split_ifs with hc
    · rw [List.mem_singleton, le_antisymm hc h, or_self, and_iff_right (le_refl _)]
    · rw [List.mem_cons, List.mem_singleton, and_iff_right h]
  · rw [iff_false_right (fun hh => h hh.1)]
    rw [clip_nonempty_iff, not_and_or, not_not, not_not] at h
    rcases h with h | h
    · rw [if_pos h]; exact List.not_mem_nil
    · rw [if_pos h, ite_self]; exact List.not_mem_nil

theorem mem_overlap_iff {a d : Pt} {ts te : Rat} {p : Pt} :
    p ∈ overlap a d ts te ↔
      ∃ z : Rat, p = along a d z ∧ 0 ≤ z ∧ z ≤ 1 ∧ Btw ts te z ∧ (z = 0 ∨ z = 1 ∨ z = ts ∨ z = te) := by
  rw [mem_overlap]
  constructor
  · rintro ⟨hne, hp | hp⟩
    · exact ⟨_, hp, clip_end_iff.mp ⟨hne, Or.inl rfl⟩⟩
    · exact ⟨_, hp, clip_end_iff.mp ⟨hne, Or.inr rfl⟩⟩
  · rintro ⟨z, rfl, h⟩
    obtain ⟨hne, hz⟩ := clip_end_iff.mpr h
    exact ⟨hne, hz.imp (congrArg _) (congrArg _)⟩

theorem overlap_hull {a d : Pt} {ts te z : Rat} (h0 : 0 ≤ z) (h1 : z ≤ 1) (hb : Btw ts te z) :
    ∃ z1 z2 : Rat, along a d z1 ∈ overlap a d ts te ∧ along a d z2 ∈ overlap a d ts te ∧
      z1 ≤ z ∧ z ≤ z2 := by
  obtain ⟨hlo, hhi⟩ := clip_iff.mp ⟨h0, h1, hb⟩
  have hne := hlo.trans hhi
  exact ⟨_, _, mem_overlap.mpr ⟨hne, Or.inl rfl⟩, mem_overlap.mpr ⟨hne, Or.inr rfl⟩, hlo, hhi⟩

/-- the two segments lie on one line -/
def Col (s t : Seg) : Prop := cross s.d t.d = 0 ∧ cross (psub t.a s.a) s.d = 0

theorem inter_of_col {s t : Seg} (hs : s.nondeg) (h : Col s t) :
    ∃ ts te : Rat, t.a = along s.a s.d ts ∧ t.b = along s.a s.d te ∧
      inter s t = overlap s.a s.d ts te := by
  have hd := d_ne_zero hs
  obtain ⟨h1, h2⟩ := h
  have h3 : cross (psub t.b s.a) s.d = 0 := by
    simp only [cross, psub_fst, psub_snd, d_fst, d_snd] at h1 h2 ⊢
    linear_combination h2 - h1
  refine ⟨_, _, line_param hd h2, line_param hd h3, ?_⟩
  have e2 : (psub t.a s.a).1 * s.d.2 - (psub t.a s.a).2 * s.d.1 = 0 := h2
  unfold inter
  simp only
  rw [if_pos (by rw [discr_eq, h1, neg_zero]), if_pos e2]

theorem inter_of_par_noncol {s t : Seg} (h1 : cross s.d t.d = 0) (h2 : cross (psub t.a s.a) s.d ≠ 0) :
    inter s t = [] := by
  have e2 : ¬ ((psub t.a s.a).1 * s.d.2 - (psub t.a s.a).2 * s.d.1 = 0) := h2
  unfold inter
  simp only
  rw [if_pos (by rw [discr_eq, h1, neg_zero]), if_neg e2]

/-- the Cramer parameters of the non-parallel branch -/
def cramer1 (s t : Seg) : Rat :=
  ((psub t.a s.a).1 * (-t.d.2) - (psub t.a s.a).2 * (-t.d.1)) / (s.d.1 * (-t.d.2) - s.d.2 * (-t.d.1))
def cramer2 (s t : Seg) : Rat :=
  (s.d.1 * (psub t.a s.a).2 - s.d.2 * (psub t.a s.a).1) / (s.d.1 * (-t.d.2) - s.d.2 * (-t.d.1))

theorem discr_ne_zero {s t : Seg} (h : cross s.d t.d ≠ 0) : s.d.1 * -t.d.2 - s.d.2 * -t.d.1 ≠ 0 := by
  rw [discr_eq]; exact neg_ne_zero.mpr h

theorem inter_of_nonpar {s t : Seg} (h : cross s.d t.d ≠ 0) :
    inter s t = if 0 ≤ cramer1 s t ∧ cramer1 s t ≤ 1 ∧ 0 ≤ cramer2 s t ∧ cramer2 s t ≤ 1
      then [along s.a s.d (cramer1 s t)] else [] := by
  unfold inter cramer1 cramer2
  simp only
  rw [if_neg (discr_ne_zero h)]

theorem cramer_point {s t : Seg} (h : cross s.d t.d ≠ 0) :
    along s.a s.d (cramer1 s t) = along t.a t.d (cramer2 s t) := by
  have e1 := discr_ne_zero h
  have hc1 : cramer1 s t * (s.d.1 * -t.d.2 - s.d.2 * -t.d.1) =
      (t.a.1 - s.a.1) * (-t.d.2) - (t.a.2 - s.a.2) * (-t.d.1) := div_mul_cancel₀ _ e1
  have hc2 : cramer2 s t * (s.d.1 * -t.d.2 - s.d.2 * -t.d.1) =
      s.d.1 * (t.a.2 - s.a.2) - s.d.2 * (t.a.1 - s.a.1) := div_mul_cancel₀ _ e1
  refine Prod.ext (mul_left_cancel₀ e1 ?_) (mul_left_cancel₀ e1 ?_)
  · simp only [along_fst]; linear_combination s.d.1 * hc1 - t.d.1 * hc2
  · simp only [along_snd]; linear_combination s.d.2 * hc1 - t.d.2 * hc2

theorem cramer_unique {s t : Seg} (h : cross s.d t.d ≠ 0) {mu nu : Rat}
    (hq : along s.a s.d mu = along t.a t.d nu) : mu = cramer1 s t ∧ nu = cramer2 s t := by
  have e1 := discr_ne_zero h
  have hx : s.a.1 + mu * s.d.1 = t.a.1 + nu * t.d.1 := congrArg Prod.fst hq
  have hy : s.a.2 + mu * s.d.2 = t.a.2 + nu * t.d.2 := congrArg Prod.snd hq
  unfold cramer1 cramer2
  simp only [psub_fst, psub_snd]
  constructor
  · rw [eq_div_iff e1]; linear_combination (-t.d.2) * hx + t.d.1 * hy
  · rw [eq_div_iff e1]; linear_combination (-s.d.2) * hx + s.d.1 * hy

theorem mem_inter_col {s t : Seg} (hs : s.nondeg) (hc : Col s t) {x : Pt} :
    x ∈ inter s t ↔ (x = s.a ∨ x = s.b ∨ x = t.a ∨ x = t.b) ∧ OnSeg s.a s.b x ∧ OnSeg t.a t.b x := by
  have hd := d_ne_zero hs
  obtain ⟨ts, te, hta, htb, hi⟩ := inter_of_col hs hc
  have e0 : ∀ z, along s.a s.d z = s.a ↔ z = 0 := fun z => by rw [← along_eq_iff hd (a := s.a), along_zero]
  have e1 : ∀ z, along s.a s.d z = s.b ↔ z = 1 := fun z => by rw [← along_eq_iff hd (a := s.a), along_one]
  have e2 : ∀ z, along s.a s.d z = t.a ↔ z = ts := fun z => by rw [← along_eq_iff hd (a := s.a), ← hta]
  have e3 : ∀ z, along s.a s.d z = t.b ↔ z = te := fun z => by rw [← along_eq_iff hd (a := s.a), ← htb]
  rw [hi, mem_overlap_iff]
  constructor
  · rintro ⟨z, rfl, h0, h1, hb, he⟩
    refine ⟨?_, (onSeg_iff_along s _).mpr ⟨z, h0, h1, rfl⟩, ?_⟩
    · rwa [e0, e1, e2, e3]
    · rw [hta, htb]; exact (onSeg_along_iff hd ts te z).mpr hb
  · rintro ⟨hx, hs1, h2⟩
    obtain ⟨z, h0, h1, rfl⟩ := (onSeg_iff_along s x).mp hs1
    rw [hta, htb] at h2
    rw [e0, e1, e2, e3] at hx
    exact ⟨z, rfl, h0, h1, (onSeg_along_iff hd ts te z).mp h2, hx⟩

theorem inter_complete_nonpar {s t : Seg} (hpar : cross s.d t.d ≠ 0) {q : Pt}
    (h1 : OnSeg s.a s.b q) (h2 : OnSeg t.a t.b q) : inter s t = [q] := by
  obtain ⟨mu, m0, m1, hq1⟩ := (onSeg_iff_along s q).mp h1
  obtain ⟨nu, n0, n1, hq2⟩ := (onSeg_iff_along t q).mp h2
  obtain ⟨e1, e2⟩ := cramer_unique hpar (hq1.symm.trans hq2)
  rw [inter_of_nonpar hpar, ← e1, ← e2, if_pos ⟨m0, m1, n0, n1⟩, hq1]

theorem col_of_par_common {s t : Seg} (hpar : cross s.d t.d = 0) {q : Pt}
    (h1 : OnSeg s.a s.b q) (h2 : OnSeg t.a t.b q) : Col s t := by
  obtain ⟨mu, m0, m1, hq1⟩ := (onSeg_iff_along s q).mp h1
  obtain ⟨nu, n0, n1, hq2⟩ := (onSeg_iff_along t q).mp h2
  refine ⟨hpar, ?_⟩
  have hx : s.a.1 + mu * s.d.1 = t.a.1 + nu * t.d.1 := congrArg Prod.fst (hq1.symm.trans hq2)
  have hy : s.a.2 + mu * s.d.2 = t.a.2 + nu * t.d.2 := congrArg Prod.snd (hq1.symm.trans hq2)
  simp only [cross, psub_fst, psub_snd] at hpar ⊢
  linear_combination (-s.d.2) * hx + s.d.1 * hy + nu * hpar

/-- what `inter` reports: the common points, and of parallel segments only those that are an end point of one
    of them -/
theorem mem_inter_iff {s t : Seg} (hs : s.nondeg) {x : Pt} :
    x ∈ inter s t ↔ OnSeg s.a s.b x ∧ OnSeg t.a t.b x ∧
      (cross s.d t.d = 0 → x = s.a ∨ x = s.b ∨ x = t.a ∨ x = t.b) := by
  by_cases hpar : cross s.d t.d = 0
  · by_cases hcol : cross (psub t.a s.a) s.d = 0
    · rw [mem_inter_col hs ⟨hpar, hcol⟩]
      exact ⟨fun ⟨e, h1, h2⟩ => ⟨h1, h2, fun _ => e⟩, fun ⟨h1, h2, e⟩ => ⟨e hpar, h1, h2⟩⟩
    · rw [inter_of_par_noncol hpar hcol]
      exact ⟨fun h => (nomatch h), fun ⟨h1, h2, _⟩ => absurd (col_of_par_common hpar h1 h2).2 hcol⟩
  · constructor
    · intro h
      rw [inter_of_nonpar hpar] at h
      split_ifs at h with hc
      · obtain rfl := List.mem_singleton.mp h
        obtain ⟨c0, c1, c2, c3⟩ := hc
        exact ⟨(onSeg_iff_along s _).mpr ⟨_, c0, c1, rfl⟩,
          (onSeg_iff_along t _).mpr ⟨_, c2, c3, cramer_point hpar⟩, fun h => absurd h hpar⟩
      · cases h
    · rintro ⟨h1, h2, _⟩
      rw [inter_complete_nonpar hpar h1 h2]
      exact List.mem_singleton_self x

theorem inter_sound' {s t : Seg} (hs : s.nondeg) {p : Pt} (h : p ∈ inter s t) :
    OnSeg s.a s.b p ∧ OnSeg t.a t.b p :=
  have h := (mem_inter_iff hs).mp h
  ⟨h.1, h.2.1⟩

theorem inter_hull {s t : Seg} (hs : s.nondeg) {q : Pt} (h1 : OnSeg s.a s.b q) (h2 : OnSeg t.a t.b q) :
    ∃ p1 ∈ inter s t, ∃ p2 ∈ inter s t, OnSeg p1 p2 q := by
  by_cases hpar : cross s.d t.d = 0
  · have hd := d_ne_zero hs
    obtain ⟨ts, te, hta, htb, hi⟩ := inter_of_col hs (col_of_par_common hpar h1 h2)
    obtain ⟨mu, m0, m1, rfl⟩ := (onSeg_iff_along s q).mp h1
    rw [hta, htb] at h2
    obtain ⟨z1, z2, i1, i2, l1, l2⟩ := overlap_hull (a := s.a) (d := s.d) m0 m1
      ((onSeg_along_iff hd ts te mu).mp h2)
    rw [hi]
    exact ⟨_, i1, _, i2, (onSeg_along_iff hd z1 z2 mu).mpr (Or.inl ⟨l1, l2⟩)⟩
  · rw [inter_complete_nonpar hpar h1 h2]
    exact ⟨q, List.mem_singleton_self q, q, List.mem_singleton_self q, onSeg_left q q⟩

/-- along `t` the cross product with the direction of `s` interpolates between its values at the
    end points of `t`, so it cannot vanish if those have the same strict sign -/
theorem no_common_of_sameStrictSide {s t : Seg} (h : sameStrictSide s t) {q : Pt}
    (h1 : OnSeg s.a s.b q) (h2 : OnSeg t.a t.b q) : False := by
  obtain ⟨mu, _, _, hx, hy⟩ := h1
  obtain ⟨nu, n0, n1, hx', hy'⟩ := h2
  have e : (1 - nu) * cross s.d (psub t.a s.a) + nu * cross s.d (psub t.b s.a) = 0 := by
    simp only [cross, psub_fst, psub_snd, d_fst, d_snd]
    linear_combination (s.b.1 - s.a.1) * (hy - hy') - (s.b.2 - s.a.2) * (hx - hx')
  rcases h with ⟨c1, c2⟩ | ⟨c1, c2⟩
  · exact (convex_pos c1 c2 n0 n1).ne' e
  · exact (convex_pos (neg_pos.mpr c1) (neg_pos.mpr c2) n0 n1).ne' (by linear_combination -e)

theorem boxesOverlapB_iff (s t : Seg) : boxesOverlapB s t = true ↔ boxesOverlap s t := by
  simp [boxesOverlapB, boxesOverlap, and_assoc]

theorem mem_pairsWith (i : Nat) (s : Seg) : ∀ (l : List Seg) (j k : Nat) (t : Seg),
    l[k]? = some t → boxesOverlapB s t = true → (i, j + k) ∈ pairsWith i s j l := by
  intro l
  induction l with
  | nil => intro j k t hk; cases hk
  | cons t0 rest ih =>
    intro j k t hk hb
    unfold pairsWith
    cases k with
    | zero =>
      obtain rfl : t0 = t := Option.some.inj hk
      rw [if_pos hb]
      exact List.mem_cons_self
    | succ k =>
      have := ih (j + 1) k t hk hb
      rw [Nat.add_assoc, Nat.add_comm 1 k] at this
      split_ifs
      · exact List.mem_cons_of_mem _ this
      · exact this

theorem mem_pairsFrom : ∀ (l : List Seg) (i0 a b : Nat) (s t : Seg),
    l[a]? = some s → l[b]? = some t → a < b → boxesOverlapB s t = true →
    (i0 + a, i0 + b) ∈ pairsFrom i0 l := by
  intro l
  induction l with
  | nil => intro i0 a b s t ha; cases ha
  | cons s0 rest ih =>
    intro i0 a b s t ha hb hab hov
    unfold pairsFrom
    cases b with
    | zero => exact absurd hab (Nat.not_lt_zero a)
    | succ b =>
      cases a with
      | zero =>
        obtain rfl : s0 = s := Option.some.inj ha
        have := mem_pairsWith i0 s0 rest (i0 + 1) b t hb hov
        rw [Nat.add_assoc, Nat.add_comm 1 b] at this
        exact List.mem_append_left _ this
      | succ a =>
        have := ih (i0 + 1) a b s t ha hb (Nat.lt_of_succ_lt_succ hab) hov
        rw [Nat.add_assoc, Nat.add_comm 1 a, Nat.add_assoc, Nat.add_comm 1 b] at this
        exact List.mem_append_right _ this

end PorepyVerif.C29
