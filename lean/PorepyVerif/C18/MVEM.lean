/-
C18 — the MVEM local matrix as Mathlib matrices: quadratic form, symmetry, positive definiteness, consistency
(`F D = G` is the divergence theorem), the face rows applied to the exact fluxes of a linear pressure; `normInf`.
-/
import Mathlib.Tactic.FieldSimp
import PorepyVerif.C18.Basic

open Finset BigOperators Matrix
namespace PorepyVerif.C18

theorem toM_mvemAssemble {d m : Nat} (G : Mat d d) (Pi : Mat d m) (D : Mat m d) (w : ℚ) :
    toM (mvemAssemble G Pi D w) = (toM Pi)ᵀ * (toM G * toM Pi)
      + w • ((1 - toM D * toM Pi)ᵀ * (1 - toM D * toM Pi)) := by
  ext f g
  simp only [mvemAssemble, matMul_apply, transpose, idMat, Matrix.add_apply, Matrix.smul_apply,
    Matrix.mul_apply, Matrix.transpose_apply, Matrix.sub_apply, Matrix.one_apply, Matrix.of_apply,
    smul_eq_mul]

theorem mvem_quad {d m : Nat} (G : Mat d d) (Pi : Mat d m) (D : Mat m d) (w : ℚ) (y : Vec m) :
    quadForm (mvemAssemble G Pi D w) y
      = quadForm G (mulVec Pi y) + w * dot (y - mulVec D (mulVec Pi y)) (y - mulVec D (mulVec Pi y)) := by
  rw [quadForm_toM, quadForm_toM, toM_mvemAssemble, dot_dotProduct, mulVec_toM, mulVec_toM]
  rw [Matrix.add_mulVec, dotProduct_add, Matrix.smul_mulVec, dotProduct_smul, smul_eq_mul]
  congr 1
  · rw [← Matrix.mulVec_mulVec, Matrix.dotProduct_mulVec, Matrix.vecMul_transpose, Matrix.mulVec_mulVec]
  · rw [← Matrix.mulVec_mulVec, Matrix.dotProduct_mulVec, Matrix.vecMul_transpose]
    rw [Matrix.sub_mulVec, Matrix.one_mulVec, Matrix.mulVec_mulVec]

theorem mvem_spd {d m : Nat} (G : Mat d d) (Pi : Mat d m) (D : Mat m d) (w : ℚ) (hG : PosDef G) (hw : 0 < w) :
    PosDef (mvemAssemble G Pi D w) := by
  intro y hy
  rw [mvem_quad]
  by_cases hP : mulVec Pi y = 0
  · rw [hP, quadForm_zero, mulVec_zero, sub_zero, zero_add]
    exact mul_pos hw (dot_self_pos y hy)
  · exact add_pos_of_pos_of_nonneg (hG _ ((nonZero_iff _).mpr hP)) (mul_nonneg hw.le (dot_self_nonneg _))

theorem mvem_symm {d m : Nat} (G : Mat d d) (Pi : Mat d m) (D : Mat m d) (w : ℚ) (hG : IsSymm G) :
    IsSymm (mvemAssemble G Pi D w) := by
  have h : (toM (mvemAssemble G Pi D w))ᵀ = toM (mvemAssemble G Pi D w) := by
    rw [toM_mvemAssemble]
    simp only [Matrix.transpose_add, Matrix.transpose_smul, Matrix.transpose_mul, Matrix.transpose_transpose,
      isSymm_toM G hG, Matrix.mul_assoc]
  intro f g
  have := congrFun (congrFun h g) f
  simpa only [Matrix.transpose_apply, Matrix.of_apply] using this

/-- consistency: if `F D = G` (divergence theorem) the projector reproduces polynomial gradients,
    the stabilisation vanishes on them and `A D = Fᵀ` -/
theorem mvemAssemble_consistency {d m : Nat} (G Ginv : Mat d d) (F : Mat d m) (D : Mat m d) (w : ℚ)
    (hinv : IsInverse Ginv G) (hG : IsSymm G) (hFD : ∀ a b, matMul F D a b = G a b) :
    (∀ g : Vec d, mulVec (mvemPi Ginv F) (mulVec D g) = g) ∧
    (∀ g : Vec d, mulVec D g - mulVec D (mulVec (mvemPi Ginv F) (mulVec D g)) = 0) ∧
    (∀ g : Vec d, mulVec (mvemAssemble G (mvemPi Ginv F) D w) (mulVec D g) = mulVec (transpose F) g) := by
  obtain ⟨hi1, hi2⟩ := isInverse_toM Ginv G hinv
  have hFD' : toM F * toM D = toM G := by
    ext a b; rw [← toM_matMul]; simp only [Matrix.of_apply, hFD]
  have hPi : toM (mvemPi Ginv F) = toM Ginv * toM F := toM_matMul Ginv F
  have hPD : toM (mvemPi Ginv F) * toM D = 1 := by rw [hPi, Matrix.mul_assoc, hFD', hi1]
  have hGs := isSymm_toM G hG
  have hGiT : (toM Ginv)ᵀ * toM G = 1 := by
    rw [← hGs, ← Matrix.transpose_mul, hi2, Matrix.transpose_one]
  have c1 : ∀ g : Vec d, mulVec (mvemPi Ginv F) (mulVec D g) = g := by
    intro g; rw [mulVec_toM, mulVec_toM, Matrix.mulVec_mulVec, hPD, Matrix.one_mulVec]
  refine ⟨c1, fun g => by rw [c1 g, sub_self], fun g => ?_⟩
  rw [mulVec_toM, mulVec_toM, mulVec_toM, toM_mvemAssemble, Matrix.mulVec_mulVec, Matrix.add_mul,
    Matrix.smul_mul, Matrix.mul_assoc, Matrix.mul_assoc, Matrix.mul_assoc, hPD, Matrix.sub_mul,
    Matrix.mul_assoc, hPD, Matrix.one_mul, Matrix.mul_one, Matrix.mul_one, sub_self, Matrix.mul_zero,
    smul_zero, add_zero, hPi, Matrix.transpose_mul, Matrix.mul_assoc, hGiT, Matrix.mul_one]
  rfl

theorem mvemD_apply (d m : Nat) (K : Mat d d) (nrm : Fin m → Vec d) (diam : ℚ) (f : Fin m) (a : Fin d) :
    mvemD d m K nrm diam f a = (∑ e, nrm f e * K e a) / diam := by
  simp only [mvemD, dot_eq, mulVec_apply, mvemGrad]
  rw [Finset.sum_div]
  refine Finset.sum_congr rfl fun e _ => ?_
  simp only [ite_div, zero_div, mul_ite, mul_zero, Finset.sum_ite_eq, Finset.mem_univ, if_true]
  ring

theorem mvemG_apply (d : Nat) (K : Mat d d) (V diam : ℚ) (a b : Fin d) :
    mvemG d K V diam a b = K a b * V / (diam * diam) := by
  simp only [mvemG, dot_eq, mulVec_apply, mvemGrad]
  simp only [ite_div, zero_div, mul_ite, mul_zero, ite_mul, zero_mul, Finset.sum_ite_eq, Finset.mem_univ, if_true]
  ring

theorem mvemG_symm (d : Nat) (K : Mat d d) (V diam : ℚ) (hK : IsSymm K) : IsSymm (mvemG d K V diam) := by
  intro a b; rw [mvemG_apply, mvemG_apply, hK a b]

theorem mvemG_quad (d : Nat) (K : Mat d d) (V diam : ℚ) (v : Vec d) :
    quadForm (mvemG d K V diam) v = quadForm K v * (V / (diam * diam)) := by
  simp only [quadForm_eq, mvemG_apply, Finset.sum_mul, Finset.mul_sum]
  exact Finset.sum_congr rfl fun j _ => Finset.sum_congr rfl fun k _ => by ring

theorem mvemG_posDef (d : Nat) (K : Mat d d) (V diam : ℚ) (hK : PosDef K) (hV : 0 < V) (hdiam : diam ≠ 0) :
    PosDef (mvemG d K V diam) := by
  intro v hv
  rw [mvemG_quad]
  have : 0 < diam * diam := mul_self_pos.mpr hdiam
  exact mul_pos (hK v hv) (div_pos hV this)

/-- `F D = G` is the divergence theorem on the cell (the assertion inside `MVEM.massHdiv`) -/
theorem mvem_FD (d m : Nat) (K : Mat d d) (c : Vec d) (V diam : ℚ) (fc nrm : Fin m → Vec d) (s : Vec m)
    (hdiv : DivThm V s fc nrm) (a b : Fin d) :
    matMul (mvemF d m c fc s diam) (mvemD d m K nrm diam) a b = mvemG d K V diam a b := by
  obtain ⟨h1, h2⟩ := (divThm_iff _ _ _ _).mp hdiv
  rw [matMul_apply, mvemG_apply]
  have e1 : ∀ f, mvemF d m c fc s diam a f * mvemD d m K nrm diam f b
      = ∑ e, K e b / (diam * diam) * (s f * fc f a * nrm f e - c a * (s f * nrm f e)) := by
    intro f
    rw [mvemD_apply, mvemF, Finset.sum_div, Finset.mul_sum]
    exact Finset.sum_congr rfl fun e _ => by ring
  simp only [e1]
  rw [Finset.sum_comm]
  simp only [← Finset.mul_sum, Finset.sum_sub_distrib, h1, h2, mul_zero, sub_zero, mul_ite,
    Finset.sum_ite_eq, Finset.mem_univ, if_true]
  ring

theorem flux_eq_D (d m : Nat) (K : Mat d d) (nrm : Fin m → Vec d) (diam : ℚ) (hdiam : diam ≠ 0) (a : Vec d) :
    faceFlux (darcy K a) nrm = mulVec (mvemD d m K nrm diam) (fun b => -diam * a b) := by
  funext f
  simp only [faceFlux, darcy, dot_eq, mulVec_apply, mvemD_apply]
  have hc : ∀ X ab : ℚ, X / diam * (-diam * ab) = -(X * ab) := fun X ab => by field_simp
  simp only [hc]
  simp only [neg_mul, Finset.sum_mul, Finset.sum_neg_distrib]
  rw [Finset.sum_comm]
  exact congrArg Neg.neg (Finset.sum_congr rfl fun b _ => Finset.sum_congr rfl fun e _ => by ring)

theorem mvem_row_exact {d m : Nat} (K Kinv Ginv : Mat d d) (c : Vec d) (V diam weight : ℚ) (hdiam : diam ≠ 0)
    (fc nrm : Fin m → Vec d) (s : Vec m) (hK : IsSymm K) (hinv : IsInverse Ginv (mvemG d K V diam))
    (hdiv : DivThm V s fc nrm) (a : Vec d) (f : Fin m) :
    ∑ g, mvemMassWith d m Ginv K Kinv c V fc nrm s diam weight f g * faceFlux (darcy K a) nrm g
      = - s f * (dot a (fc f) - dot a c) := by
  have hc := (mvemAssemble_consistency (mvemG d K V diam) Ginv (mvemF d m c fc s diam) (mvemD d m K nrm diam)
    (weight * normInf Kinv) hinv (mvemG_symm d K V diam hK) (mvem_FD d m K c V diam fc nrm s hdiv)).2.2
    (fun b => -diam * a b)
  have := congrFun hc f
  rw [← flux_eq_D d m K nrm diam hdiam a] at this
  rw [mulVec_apply] at this
  unfold mvemMassWith
  rw [this, mulVec_apply]
  simp only [transpose, mvemF, dot_eq]
  rw [← Finset.sum_sub_distrib, Finset.mul_sum]
  refine Finset.sum_congr rfl fun b _ => ?_
  field_simp

theorem maxFin_succ (n : Nat) (f : Fin (n + 1) → ℚ) :
    maxFin (n + 1) f = max (f 0) (maxFin n fun i => f i.succ) := (max_def _ _).symm

theorem le_maxFin (n : Nat) : ∀ (f : Fin n → ℚ) (i : Fin n), f i ≤ maxFin n f := by
  induction n with
  | zero => exact fun _ i => i.elim0
  | succ n ih =>
    intro f i
    rw [maxFin_succ]
    exact Fin.cases (le_max_left _ _) (fun j => le_trans (ih (fun i => f i.succ) j) (le_max_right _ _)) i

theorem absR_eq (q : ℚ) : absR q = |q| := by
  unfold absR; split_ifs with h
  · exact (abs_of_neg h).symm
  · exact (abs_of_nonneg (not_lt.mp h)).symm

theorem normInf_pos {n : Nat} (A : Mat n n) (h : ∃ i j, A i j ≠ 0) : 0 < normInf A := by
  obtain ⟨i, j, hij⟩ := h
  have h1 : |A i j| ≤ ∑ j, |A i j| :=
    Finset.single_le_sum (f := fun j => |A i j|) (fun j _ => abs_nonneg _) (Finset.mem_univ j)
  have h2 : ∑ j, |A i j| ≤ normInf A := by
    simpa only [normInf, sumFin_eq, absR_eq] using le_maxFin n (fun i => sumFin n fun j => absR (A i j)) i
  exact lt_of_lt_of_le (lt_of_lt_of_le (abs_pos.mpr hij) h1) h2

end PorepyVerif.C18
