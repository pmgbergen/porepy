/-
C18 — the model's structural sums, matrices and predicates in Mathlib's terms (`Finset.sum`, `Matrix`), what an
inverse gives, the divergence theorem on a simplex as a moment identity, and the two rows of the saddle-point
system that belong to one cell: everything the RT0, MVEM, explicit-dimension and assembly modules share.
-/
import Mathlib.Algebra.BigOperators.Fin
import Mathlib.Algebra.BigOperators.Field
import Mathlib.LinearAlgebra.Matrix.NonsingularInverse
import Mathlib.Tactic.Ring
import Mathlib.Tactic.LinearCombination
import PorepyVerif.C18.Model

open Finset BigOperators
namespace PorepyVerif.C18

theorem sumFin_eq (n : Nat) (f : Fin n → ℚ) : sumFin n f = ∑ i, f i := by
  induction n with
  | zero => simp [sumFin]
  | succ n ih => rw [sumFin, ih, Fin.sum_univ_succ]

theorem dot_eq {d : Nat} (u v : Vec d) : dot u v = ∑ a, u a * v a := sumFin_eq _ _

theorem mulVec_apply {m n : Nat} (A : Mat m n) (v : Vec n) (i : Fin m) :
    mulVec A v i = ∑ j, A i j * v j := sumFin_eq _ _

theorem matMul_apply {m n k : Nat} (A : Mat m n) (B : Mat n k) (i : Fin m) (j : Fin k) :
    matMul A B i j = ∑ l, A i l * B l j := sumFin_eq _ _

theorem vsub_eq {d : Nat} (u v : Vec d) : vsub u v = u - v := rfl

theorem vsub_apply {d : Nat} (u v : Vec d) (a : Fin d) : vsub u v a = u a - v a := rfl

theorem quadForm_eq {n : Nat} (A : Mat n n) (y : Vec n) :
    quadForm A y = ∑ j, y j * ∑ k, A j k * y k := by
  simp only [quadForm, dot_eq, mulVec_apply]

theorem dot_comm {d : Nat} (u v : Vec d) : dot u v = dot v u := by
  simp only [dot_eq]; exact Finset.sum_congr rfl fun a _ => mul_comm _ _

theorem dot_sub_right {d : Nat} (u v w : Vec d) : dot u (v - w) = dot u v - dot u w := by
  simp only [dot_eq, Pi.sub_apply, mul_sub, Finset.sum_sub_distrib]

theorem dot_self_nonneg {d : Nat} (u : Vec d) : 0 ≤ dot u u := by
  rw [dot_eq]; exact Finset.sum_nonneg fun a _ => mul_self_nonneg _

theorem dot_self_pos {d : Nat} (u : Vec d) (h : NonZero u) : 0 < dot u u := by
  obtain ⟨i, hi⟩ := h
  rw [dot_eq]
  exact Finset.sum_pos' (fun a _ => mul_self_nonneg _) ⟨i, Finset.mem_univ _, mul_self_pos.mpr hi⟩

theorem mulVec_zero {m n : Nat} (A : Mat m n) : mulVec A 0 = 0 := by
  funext i
  simp only [mulVec_apply, Pi.zero_apply, mul_zero, Finset.sum_const_zero]

theorem quadForm_zero {n : Nat} (A : Mat n n) : quadForm A 0 = 0 := by
  simp only [quadForm, dot_eq, Pi.zero_apply, zero_mul, Finset.sum_const_zero]

theorem mulVec_sub_apply {m n : Nat} (A : Mat m n) (v w : Vec n) (i : Fin m) :
    mulVec A (v - w) i = mulVec A v i - mulVec A w i := by
  simp only [mulVec_apply, Pi.sub_apply, mul_sub, Finset.sum_sub_distrib]

theorem nonZero_iff {n : Nat} (v : Vec n) : NonZero v ↔ v ≠ 0 := Function.ne_iff.symm

theorem posDef_semidef {n : Nat} (A : Mat n n) (hA : PosDef A) : PosSemidef A := by
  intro v
  by_cases hv : v = 0
  · rw [hv, quadForm_zero]
  · exact (hA v ((nonZero_iff v).mpr hv)).le

open Matrix

abbrev toM {m n : Nat} (A : Mat m n) : Matrix (Fin m) (Fin n) ℚ := Matrix.of A

theorem toM_matMul {m n k : Nat} (A : Mat m n) (B : Mat n k) : toM (matMul A B) = toM A * toM B := by
  ext i j; simp only [Matrix.of_apply, matMul_apply, Matrix.mul_apply]

theorem mulVec_toM {m n : Nat} (A : Mat m n) (v : Vec n) : mulVec A v = toM A *ᵥ v := by
  funext i; simp only [mulVec_apply, Matrix.mulVec, dotProduct, Matrix.of_apply]

theorem quadForm_toM {n : Nat} (A : Mat n n) (y : Vec n) : quadForm A y = y ⬝ᵥ (toM A *ᵥ y) := by
  rw [quadForm, ← mulVec_toM, dot_eq]; rfl

theorem dot_dotProduct {n : Nat} (u v : Vec n) : dot u v = u ⬝ᵥ v := by rw [dot_eq]; rfl

theorem isInverse_iff {n : Nat} (B A : Mat n n) :
    IsInverse B A ↔ (∀ i j, ∑ l, B i l * A l j = if i = j then 1 else 0) ∧
      (∀ i j, ∑ l, A i l * B l j = if i = j then 1 else 0) := by
  simp only [IsInverse, matMul_apply, idMat]

theorem isInverse_toM {n : Nat} (B A : Mat n n) (h : IsInverse B A) : toM B * toM A = 1 ∧ toM A * toM B = 1 := by
  obtain ⟨h1, h2⟩ := (isInverse_iff B A).mp h
  constructor
  · ext i j; simp only [Matrix.mul_apply, Matrix.of_apply, h1, Matrix.one_apply]
  · ext i j; simp only [Matrix.mul_apply, Matrix.of_apply, h2, Matrix.one_apply]

theorem isSymm_toM {n : Nat} (A : Mat n n) (h : IsSymm A) : (toM A)ᵀ = toM A := by
  ext i j; simp only [Matrix.transpose_apply, Matrix.of_apply]; exact h j i

theorem isInverse_mulVec {n : Nat} (B A : Mat n n) (h : IsInverse B A) (v : Vec n) :
    mulVec B (mulVec A v) = v := by
  rw [mulVec_toM, mulVec_toM, Matrix.mulVec_mulVec, (isInverse_toM B A h).1, Matrix.one_mulVec]

theorem isInverse_symm {n : Nat} (B A : Mat n n) (h : IsInverse B A) : IsInverse A B := ⟨h.2, h.1⟩

theorem posDef_inv {n : Nat} (K Kinv : Mat n n) (hK : PosDef K) (hinv : IsInverse Kinv K) : PosDef Kinv := by
  intro v hv
  have hvz : mulVec K (mulVec Kinv v) = v := isInverse_mulVec K Kinv (isInverse_symm _ _ hinv) v
  have hz : NonZero (mulVec Kinv v) := by
    rw [nonZero_iff]; intro h0
    exact (nonZero_iff v).mp hv (by rw [← hvz, h0, mulVec_zero])
  have := hK _ hz
  unfold quadForm at this ⊢
  rw [hvz, dot_comm] at this
  exact this

theorem isInverse_of_left {n : Nat} (B A : Mat n n) (h : ∀ i j, ∑ l, B i l * A l j = if i = j then 1 else 0) :
    IsInverse B A := by
  have h1 : toM B * toM A = 1 := by
    ext i j; simp only [Matrix.mul_apply, Matrix.of_apply, h, Matrix.one_apply]
  have h2 : ∀ i j, (toM A * toM B) i j = (1 : Matrix (Fin n) (Fin n) ℚ) i j := by
    rw [mul_eq_one_comm.mp h1]; exact fun _ _ => rfl
  simp only [Matrix.mul_apply, Matrix.of_apply, Matrix.one_apply] at h2
  exact (isInverse_iff B A).mpr ⟨h, h2⟩

/-- `C A = D · I` with `D ≠ 0` (`C` the adjugate, `D` the determinant): `C / D` is the inverse of `A` -/
theorem isInverse_div {n : Nat} (C A : Mat n n) (D : ℚ) (hD : D ≠ 0)
    (h : ∀ i j, ∑ l, C i l * A l j = if i = j then D else 0) : IsInverse (fun i j => C i j / D) A := by
  refine isInverse_of_left _ A fun i j => ?_
  simp only [div_mul_eq_mul_div, ← Finset.sum_div, h]
  split_ifs
  · exact div_self hD
  · exact zero_div D

theorem divThm_iff {d m : Nat} (V : ℚ) (s : Vec m) (fc nrm : Fin m → Vec d) :
    DivThm V s fc nrm ↔ (∀ b, ∑ f, s f * nrm f b = 0) ∧
      (∀ a b, ∑ f, s f * fc f a * nrm f b = if a = b then V else 0) := by
  simp only [DivThm, sumFin_eq]

theorem faceCentre_apply {d : Nat} (x : Fin (d + 1) → Vec d) (j : Fin (d + 1)) (a : Fin d) :
    faceCentre x j a = ((∑ i, x i a) - x j a) / d := by
  simp only [faceCentre, sumFin_eq]

theorem centroid_apply {d : Nat} (x : Fin (d + 1) → Vec d) (a : Fin d) :
    centroid x a = (∑ i, x i a) / ((d : ℚ) + 1) := by
  simp only [centroid, sumFin_eq]

/-- On a simplex (face centres `faceCentre x`) the divergence theorem says: the normals sum to zero and
    `Σ_f s_f (x_f − y) ⊗ n_f = −d V · I`, for any (hence every) base point `y`. -/
theorem divThm_simplex_iff {d : Nat} (hd : (d : ℚ) ≠ 0) (V : ℚ) (x n : Fin (d + 1) → Vec d) (s : Vec (d + 1))
    (y : Vec d) :
    DivThm V s (faceCentre x) n ↔ (∀ b, ∑ f, s f * n f b = 0) ∧
      ∀ a b, ∑ f, s f * (x f a - y a) * n f b = if a = b then -(d * V) else 0 := by
  rw [divThm_iff]
  refine and_congr_right fun h1 => forall_congr' fun a => forall_congr' fun b => ?_
  -- `d · fc_f = Σ_i x_i − x_f`, and the terms constant in `f` drop out by `h1`
  have key : ∑ f, s f * (x f a - y a) * n f b = -(d * ∑ f, s f * faceCentre x f a * n f b) := by
    have e : ∀ f, s f * (x f a - y a) * n f b
        = ((∑ i, x i a) - y a) * (s f * n f b) - d * (s f * faceCentre x f a * n f b) := by
      intro f
      have hfc : (d : ℚ) * faceCentre x f a = (∑ i, x i a) - x f a := by
        rw [faceCentre_apply, mul_div_cancel₀ _ hd]
      linear_combination (s f * n f b) * hfc
    simp only [e, Finset.sum_sub_distrib, ← Finset.mul_sum, h1, mul_zero, zero_sub]
  rw [key]
  split_ifs
  · rw [neg_inj, mul_right_inj' hd]
  · rw [neg_eq_zero, mul_eq_zero, or_iff_right hd]

theorem faceFlux_divfree {d m : Nat} (V : ℚ) (s : Vec m) (fc nrm : Fin m → Vec d)
    (hdiv : DivThm V s fc nrm) (U : Vec d) : localDivergence s (faceFlux U nrm) = 0 := by
  obtain ⟨h1, _⟩ := (divThm_iff _ _ _ _).mp hdiv
  simp only [localDivergence, faceFlux, sumFin_eq, dot_eq, Finset.mul_sum]
  rw [Finset.sum_comm]
  have e : ∀ a, ∑ g, s g * (U a * nrm g a) = U a * ∑ g, s g * nrm g a := by
    intro a; rw [Finset.mul_sum]; exact Finset.sum_congr rfl fun g _ => by ring
  simp only [e, h1, mul_zero, Finset.sum_const_zero, neg_zero]

/-- The face row of the saddle-point system for a linear pressure `a·y + b`: it holds as soon as row `f` of the
    local matrix applied to the fluxes returns `−s_f (p(x_f) − p(x_c))`. -/
theorem localResidual_linP {d m : Nat} (A : Mat m m) (s u : Vec m) (a : Vec d) (b : ℚ) (c : Vec d)
    (fc : Fin m → Vec d) (f : Fin m) (h : ∑ g, A f g * u g = - s f * (dot a (fc f) - dot a c)) :
    localResidual A s u (linP a b c) (fun g => linP a b (fc g)) f = 0 := by
  simp only [localResidual, sumFin_eq, linP, h]; ring

end PorepyVerif.C18
