/-
C18 — property theorems (the statements only depend on Model.lean).

Property: for any 1-D, 2-D or 3-D simplex grid and constant permeability, RT0 and MVEM with
Dirichlet data from a linear pressure give the exact face fluxes and cell-centre pressures, and
their mass matrices are symmetric positive definite.

What is proved here (over ℚ, for EVERY dimension `d ≥ 1`, all simplices, tensors, signs):
  * the local RT0 mass matrix as coded (`rt0Mass`) is symmetric, is a Gram matrix (sum of squares),
    hence positive semidefinite, and positive definite on every non-degenerate simplex;
  * the RT0 interpolant of a constant velocity is that velocity; the exact fluxes `−K∇p·n_f` and
    exact pressures of a linear `p` satisfy every face row and the cell row of the saddle-point
    system that belong to one cell (`localResidual = 0`, `localDivergence = 0`), for RT0 and MVEM;
  * MVEM: projector consistency, symmetry, positive definiteness (any polytope with `m` faces);
  * in dimension 1, 2, 3: the as-coded explicit inverses are inverses, explicit normals satisfy the
    divergence theorem, Sylvester's criterion gives the positive-definiteness hypotheses.
  * grid level: the assembled mass matrices are symmetric positive definite, the saddle-point system
    has at most one solution when `-cell_facesᵀ` has full row rank (spanning-tree certificate), so every
    solution of the assembled system with Dirichlet data from a linear pressure is the exact one.
Not proved: that a generated grid meets the geometric hypotheses and the certificate (the oracle checks
them on the real grids).
-/
import PorepyVerif.C18.RT0
import PorepyVerif.C18.MVEM
import PorepyVerif.C18.Lemmas
import PorepyVerif.C18.Assembly

open Finset BigOperators
namespace PorepyVerif.C18

/-- `RT0.massHdiv` is symmetric whenever `K⁻¹` is. -/
theorem rt0_local_mass_symmetric (d : Nat) (Kinv : Mat d d) (V : Rat) (x : Fin (d + 1) → Vec d)
    (s : Vec (d + 1)) (hK : IsSymm Kinv) : IsSymm (rt0Mass d Kinv V x s) := by
  intro j k
  have hA : IsSymm (fun a b => Kinv a b / V) := fun a b => congrArg (· / V) (hK a b)
  have h : ∑ i, ∑ l, hbCoef d i l * bf (fun a b => Kinv a b / V) (x i - x k) (x l - x j)
      = ∑ i, ∑ l, hbCoef d i l * bf (fun a b => Kinv a b / V) (x i - x j) (x l - x k) := by
    rw [Finset.sum_comm]
    refine Finset.sum_congr rfl fun i _ => Finset.sum_congr rfl fun l _ => ?_
    rw [bf_symm _ hA, hbCoef_symm]
  rw [rt0Mass_apply, rt0Mass_apply, h]; ring

/-- Gram (sum of squares) representation: with `t_j = s_j y_j`, `w_i = Σ_j t_j (x_i − x_j)` and
    `q(v) = vᵀ (K⁻¹/V) v`:  `yᵀ M y = (Σ_i q(w_i) + q(Σ_i w_i)) / (d·d·(d+1)·(d+2))`.
    (This is `∫_T |Σ_j t_j φ_j|²_{K⁻¹}` with the vertex quadrature that is exact for P1·P1.) -/
theorem rt0_local_mass_gram (d : Nat) (Kinv : Mat d d) (V : Rat) (x : Fin (d + 1) → Vec d)
    (s y : Vec (d + 1)) :
    quadForm (rt0Mass d Kinv V x s) y
      = 1 / ((d : Rat) * d * (d + 1) * (d + 2)) *
        (sumFin (d + 1) (fun i => quadForm (fun a b => Kinv a b / V) (rt0Field x (fun j => s j * y j) i))
          + quadForm (fun a b => Kinv a b / V)
              (fun a => sumFin (d + 1) fun i => rt0Field x (fun j => s j * y j) i a)) := by
  have hsum : (∑ i, rt0Field x (fun j => s j * y j) i)
      = fun a => sumFin (d + 1) fun i => rt0Field x (fun j => s j * y j) i a := by
    funext a; simp only [Finset.sum_apply, sumFin_eq]
  rw [rt0_quad_gram, hsum]
  simp only [sumFin_eq, quadForm_bf]
  rfl

/-- positive semidefinite for every simplex (even a degenerate one) -/
theorem rt0_local_mass_psd (d : Nat) (Kinv : Mat d d) (V : Rat) (x : Fin (d + 1) → Vec d)
    (s : Vec (d + 1)) (hK : PosSemidef Kinv) (hV : 0 < V) : PosSemidef (rt0Mass d Kinv V x s) := by
  intro y
  rw [rt0_quad_gram]
  exact mul_nonneg (hbC_nonneg d) (add_nonneg (Finset.sum_nonneg fun i _ => bfdiv_nonneg Kinv V hK hV _)
    (bfdiv_nonneg Kinv V hK hV _))

/-- positive definite on every non-degenerate simplex: `yᵀ M y > 0` for `y ≠ 0` -/
theorem rt0_local_mass_spd (d : Nat) (hd : 1 ≤ d) (Kinv : Mat d d) (V : Rat) (x : Fin (d + 1) → Vec d)
    (s : Vec (d + 1)) (hK : PosDef Kinv) (hV : 0 < V) (hx : AffineIndep x) (hs : ∀ j, s j ≠ 0) :
    PosDef (rt0Mass d Kinv V x s) := by
  intro y hy
  have hK0 := posDef_semidef Kinv hK
  rw [rt0_quad_gram]
  apply mul_pos (hbC_pos d hd)
  -- some `w_i ≠ 0`: otherwise `s_j y_j = 0` for all `j` by affine independence
  have hex : ∃ i, rt0Field x (fun j => s j * y j) i ≠ 0 := by
    by_contra hcon
    have ht := rt0Field_injective hd x hx (fun j => s j * y j) fun i => not_not.mp fun h => hcon ⟨i, h⟩
    obtain ⟨j, hj⟩ := hy
    exact (mul_ne_zero (hs j) hj) (ht j)
  obtain ⟨i, hi⟩ := hex
  exact add_pos_of_pos_of_nonneg
    (Finset.sum_pos' (fun i _ => bfdiv_nonneg Kinv V hK0 hV _)
      ⟨i, Finset.mem_univ _, bfdiv_pos Kinv V hK hV _ hi⟩)
    (bfdiv_nonneg Kinv V hK0 hV _)

/-- The RT0 interpolant of a constant velocity `U` is `U`: with the basis
    `φ_g(y) = (y − x_g)/(d·V)` and outward fluxes `s_g (U·n_g)`:  `Σ_g s_g (U·n_g) φ_g(y) = U`
    at every point `y`. -/
theorem rt0_interpolation_exact (d : Nat) (hd : 1 ≤ d) (V : Rat) (hV : V ≠ 0) (x nrm : Fin (d + 1) → Vec d)
    (s : Vec (d + 1)) (hdiv : DivThm V s (faceCentre x) nrm) (U y : Vec d) (b : Fin d) :
    sumFin (d + 1) (fun g => s g * faceFlux U nrm g * ((y b - x g b) / ((d : Rat) * V))) = U b := by
  have hd0 : (d : ℚ) ≠ 0 := Nat.cast_ne_zero.mpr (Nat.one_le_iff_ne_zero.mp hd)
  simp only [sumFin_eq, faceFlux, mul_div_assoc', ← Finset.sum_div]
  rw [rt0_interp hd0 V x nrm s hdiv U y b]
  exact mul_div_cancel_left₀ _ (mul_ne_zero hd0 hV)

/-- LOCAL EXACTNESS (RT0).  Let `p(y) = a·y + b`, `U = −K a`, face unknowns `u_g = U·n_g`
    (global normal orientation), cell unknown `p(x_c)` at the cell centre, Dirichlet / neighbour
    value `p(x_f)` at the face centres.  Then every face row of `[[M, divᵀ],[div, 0]]` restricted
    to one cell is satisfied, and so is the cell row. -/
theorem rt0_linear_exact_local (d : Nat) (hd : 1 ≤ d) (K Kinv : Mat d d) (V : Rat) (hV : V ≠ 0)
    (x nrm : Fin (d + 1) → Vec d) (s : Vec (d + 1)) (hinv : IsInverse Kinv K)
    (hdiv : DivThm V s (faceCentre x) nrm) (a : Vec d) (b : Rat) :
    (∀ f, localResidual (rt0Mass d Kinv V x s) s (faceFlux (darcy K a) nrm) (linP a b (centroid x))
        (fun g => linP a b (faceCentre x g)) f = 0)
    ∧ localDivergence s (faceFlux (darcy K a) nrm) = 0 :=
  ⟨fun f => localResidual_linP _ _ _ _ _ _ _ _ (rt0_row_exact hd K Kinv V hV x nrm s hinv hdiv a f),
    faceFlux_divfree V s (faceCentre x) nrm hdiv (darcy K a)⟩

/-- `RT0.faces_to_cell` (used by `project_flux`) returns the constant velocity from its fluxes.
    `hden` is the denominator `faces_to_cell` divides by: height over face `g` times its area is `d·V`, with the
    sign of the normal. -/
theorem rt0_projection_exact (d : Nat) (hd : 1 ≤ d) (V : Rat) (hV : V ≠ 0) (x nrm : Fin (d + 1) → Vec d)
    (s : Vec (d + 1)) (hs : ∀ g, s g * s g = 1) (hdiv : DivThm V s (faceCentre x) nrm)
    (hden : ∀ g, dot (vsub (faceCentre x g) (x g)) (nrm g) = s g * (d * V)) (U pt : Vec d) (a : Fin d) :
    sumFin (d + 1) (fun g => faceFlux U nrm g * rt0Proj d pt x (faceCentre x) nrm g a) = U a := by
  -- term by term the sum of `rt0_interpolation_exact` at `y = pt`, since `1 / s_g = s_g`
  refine Eq.trans ?_ (rt0_interpolation_exact d hd V hV x nrm s hdiv U pt a)
  simp only [sumFin_eq]
  refine Finset.sum_congr rfl fun g _ => ?_
  simp only [rt0Proj, hden g]
  rw [div_mul_eq_div_div_swap, div_eq_mul_inv _ (s g), inv_eq_of_mul_eq_one_right (hs g)]
  ring

/-- consistency: `Π_s` reproduces the gradient `g` of a linear polynomial from the face fluxes
    `D g` of `K∇(g·m)`; the stabilisation `(I − D Π_s)` vanishes on them; `A (D g) = Fᵀ g`. -/
theorem mvem_consistency (d m : Nat) (K Kinv Ginv : Mat d d) (c : Vec d) (V diam weight : Rat)
    (fc nrm : Fin m → Vec d) (s : Vec m) (hK : IsSymm K) (hinv : IsInverse Ginv (mvemG d K V diam))
    (hdiv : DivThm V s fc nrm) (g : Vec d) :
    mulVec (mvemPi Ginv (mvemF d m c fc s diam)) (mulVec (mvemD d m K nrm diam) g) = g
    ∧ (∀ f, mulVec (mvemD d m K nrm diam) g f
          - mulVec (mvemD d m K nrm diam)
              (mulVec (mvemPi Ginv (mvemF d m c fc s diam)) (mulVec (mvemD d m K nrm diam) g)) f = 0)
    ∧ mulVec (mvemMassWith d m Ginv K Kinv c V fc nrm s diam weight) (mulVec (mvemD d m K nrm diam) g)
        = mulVec (transpose (mvemF d m c fc s diam)) g := by
  obtain ⟨c1, c2, c3⟩ := mvemAssemble_consistency (mvemG d K V diam) Ginv (mvemF d m c fc s diam)
    (mvemD d m K nrm diam) (weight * normInf Kinv) hinv (mvemG_symm d K V diam hK)
    (mvem_FD d m K c V diam fc nrm s hdiv)
  exact ⟨c1 g, fun f => congrFun (c2 g) f, c3 g⟩

/-- `MVEM.massHdiv` is symmetric for symmetric `K` (whatever the solve returns). -/
theorem mvem_local_mass_symmetric (d m : Nat) (K Kinv Ginv : Mat d d) (c : Vec d) (V diam weight : Rat)
    (fc nrm : Fin m → Vec d) (s : Vec m) (hK : IsSymm K) :
    IsSymm (mvemMassWith d m Ginv K Kinv c V fc nrm s diam weight) :=
  mvem_symm _ _ _ _ (mvemG_symm d K V diam hK)

/-- `MVEM.massHdiv` is positive definite: consistency part PSD + stabilisation PD on its kernel. -/
theorem mvem_local_mass_spd (d m : Nat) (K Kinv Ginv : Mat d d) (c : Vec d) (V diam weight : Rat)
    (fc nrm : Fin m → Vec d) (s : Vec m) (hK : PosDef K) (hV : 0 < V) (hdiam : diam ≠ 0)
    (hw : 0 < weight) (hKinv : ∃ i j, Kinv i j ≠ 0) :
    PosDef (mvemMassWith d m Ginv K Kinv c V fc nrm s diam weight) :=
  mvem_spd _ _ _ _ (mvemG_posDef d K V diam hK hV hdiam) (mul_pos hw (normInf_pos Kinv hKinv))

/-- LOCAL EXACTNESS (MVEM), same statement as for RT0 with the cell centre `c` handed to `massHdiv`.
    `Kinv` need not be related to `K`: it only scales the stabilisation, which vanishes on these fluxes. -/
theorem mvem_linear_exact_local (d m : Nat) (K Kinv Ginv : Mat d d) (c : Vec d) (V diam weight : Rat)
    (hdiam : diam ≠ 0) (fc nrm : Fin m → Vec d) (s : Vec m) (hK : IsSymm K)
    (hinv : IsInverse Ginv (mvemG d K V diam)) (hdiv : DivThm V s fc nrm) (a : Vec d) (b : Rat) :
    (∀ f, localResidual (mvemMassWith d m Ginv K Kinv c V fc nrm s diam weight) s
        (faceFlux (darcy K a) nrm) (linP a b c) (fun g => linP a b (fc g)) f = 0)
    ∧ localDivergence s (faceFlux (darcy K a) nrm) = 0 :=
  ⟨fun f => localResidual_linP _ _ _ _ _ _ _ _
      (mvem_row_exact K Kinv Ginv c V diam weight hdiam fc nrm s hK hinv hdiv a f),
    faceFlux_divfree V s fc nrm hdiv (darcy K a)⟩

theorem inv_matrix_correct_1d (K : Mat 1 1) (h : K 0 0 ≠ 0) : IsInverse (invMatrix 1 K) K :=
  isInverse_div (fun _ _ => 1) K (K 0 0) h fun i j => by
    rw [Subsingleton.elim i 0, Subsingleton.elim j 0, Fin.sum_univ_one, one_mul, if_pos rfl]

theorem inv_matrix_correct_2d (K : Mat 2 2) (hK : IsSymm K) (h : det2 K ≠ 0) : IsInverse (invMatrix 2 K) K := by
  refine isInverse_div (mk2 (K 1 1) (-K 0 1) (-K 0 1) (K 0 0)) K (det2 K) h ?_
  simp only [Fin.forall_fin_two, Fin.sum_univ_two, mk2_00, mk2_01, mk2_10, mk2_11, hK 1 0, det2,
    Fin.isValue, Fin.reduceEq, if_true, if_false]
  exact ⟨⟨by ring, by ring⟩, by ring, by ring⟩

/-- includes the entry of `_inv_matrix_3d` that reads `K[1,0]` instead of `K[0,1]` -/
theorem inv_matrix_correct_3d (K : Mat 3 3) (hK : IsSymm K) (h : det3 K ≠ 0) : IsInverse (invMatrix 3 K) K := by
  refine isInverse_div (mk3 _ _ _ _ _ _ _ _ _) K (det3 K) h ?_
  simp only [forall_fin3, Fin.sum_univ_three, mk3_00, mk3_01, mk3_02, mk3_10, mk3_11, mk3_12,
    mk3_20, mk3_21, mk3_22, hK 1 0, hK 2 0, hK 2 1, det3, Fin.isValue, Fin.reduceEq, if_true, if_false]
  exact ⟨⟨by ring, by ring, by ring⟩, ⟨by ring, by ring, by ring⟩, by ring, by ring, by ring⟩

/-- divergence theorem on a segment / triangle / tetrahedron with the explicit normals
    `s_f · σ · n_f` (`σ = ±1` orientation of the vertex numbering, `s_f = ±1` the `cell_faces` sign)
    and volume `σ · signedVol` -/
theorem simplex_divthm_1d (x : Fin 2 → Vec 1) (s : Vec 2) (σ : Rat) (hs : ∀ f, s f * s f = 1) :
    DivThm (σ * signedVol1 x) s (faceCentre x) (fun f b => s f * (σ * simplexNormal1 x f b)) :=
  divThm_scale _ _ _ s σ hs (divThm_simplex1 x)

theorem simplex_divthm_2d (x : Fin 3 → Vec 2) (s : Vec 3) (σ : Rat) (hs : ∀ f, s f * s f = 1) :
    DivThm (σ * signedVol2 x) s (faceCentre x) (fun f b => s f * (σ * simplexNormal2 x f b)) :=
  divThm_scale _ _ _ s σ hs (divThm_simplex2 x)

theorem simplex_divthm_3d (x : Fin 4 → Vec 3) (s : Vec 4) (σ : Rat) (hs : ∀ f, s f * s f = 1) :
    DivThm (σ * signedVol3 x) s (faceCentre x) (fun f b => s f * (σ * simplexNormal3 x f b)) :=
  divThm_scale _ _ _ s σ hs (divThm_simplex3 x)

/-- SPD of the RT0 local matrix built from `K` by the as-coded pipeline, explicit hypotheses. -/
theorem rt0_spd_segment (K : Mat 1 1) (V : Rat) (x : Fin 2 → Vec 1) (s : Vec 2)
    (h1 : 0 < K 0 0) (hV : 0 < V) (hx : signedVol1 x ≠ 0) (hs : ∀ j, s j ≠ 0) :
    PosDef (rt0Mass 1 (invMatrix 1 K) V x s) :=
  rt0_local_mass_spd 1 (le_refl _) (invMatrix1d K) V x s
    (posDef_inv K _ (posDef_1d K h1) (inv_matrix_correct_1d K h1.ne')) hV (affineIndep_1d x hx) hs

theorem rt0_spd_triangle (K : Mat 2 2) (V : Rat) (x : Fin 3 → Vec 2) (s : Vec 3)
    (hK : IsSymm K) (h1 : 0 < K 0 0) (h2 : 0 < det2 K) (hV : 0 < V) (hx : signedVol2 x ≠ 0)
    (hs : ∀ j, s j ≠ 0) : PosDef (rt0Mass 2 (invMatrix 2 K) V x s) :=
  rt0_local_mass_spd 2 (by norm_num) (invMatrix2d K) V x s
    (posDef_inv K _ (posDef_2d K hK h1 h2) (inv_matrix_correct_2d K hK h2.ne')) hV (affineIndep_2d x hx) hs

theorem rt0_spd_tetrahedron (K : Mat 3 3) (V : Rat) (x : Fin 4 → Vec 3) (s : Vec 4)
    (hK : IsSymm K) (h1 : 0 < K 0 0) (h2 : 0 < minor2 K 0 1) (h3 : 0 < det3 K) (hV : 0 < V)
    (hx : signedVol3 x ≠ 0) (hs : ∀ j, s j ≠ 0) : PosDef (rt0Mass 3 (invMatrix 3 K) V x s) :=
  rt0_local_mass_spd 3 (by norm_num) (invMatrix3d K) V x s
    (posDef_inv K _ (posDef_3d K hK h1 h2 h3) (inv_matrix_correct_3d K hK h3.ne')) hV (affineIndep_3d x hx) hs

/-- local exactness of the whole as-coded RT0 pipeline on a segment / triangle / tetrahedron -/
theorem rt0_exact_segment (K : Mat 1 1) (V σ : Rat) (x : Fin 2 → Vec 1) (s : Vec 2) (a : Vec 1) (b : Rat)
    (hdet : K 0 0 ≠ 0) (hs : ∀ j, s j * s j = 1) (hV : V = σ * signedVol1 x) (hV0 : V ≠ 0) :
    (∀ f, localResidual (rt0Mass 1 (invMatrix 1 K) V x s) s
        (faceFlux (darcy K a) (fun f c => s f * (σ * simplexNormal1 x f c))) (linP a b (centroid x))
        (fun g => linP a b (faceCentre x g)) f = 0)
    ∧ localDivergence s (faceFlux (darcy K a) (fun f c => s f * (σ * simplexNormal1 x f c))) = 0 := by
  subst hV
  exact rt0_linear_exact_local 1 (le_refl _) K (invMatrix1d K) _ hV0 x _ s (inv_matrix_correct_1d K hdet)
    (simplex_divthm_1d x s σ hs) a b

theorem rt0_exact_triangle (K : Mat 2 2) (V σ : Rat) (x : Fin 3 → Vec 2) (s : Vec 3) (a : Vec 2) (b : Rat)
    (hK : IsSymm K) (hdet : det2 K ≠ 0) (hs : ∀ j, s j * s j = 1) (hV : V = σ * signedVol2 x) (hV0 : V ≠ 0) :
    (∀ f, localResidual (rt0Mass 2 (invMatrix 2 K) V x s) s
        (faceFlux (darcy K a) (fun f c => s f * (σ * simplexNormal2 x f c))) (linP a b (centroid x))
        (fun g => linP a b (faceCentre x g)) f = 0)
    ∧ localDivergence s (faceFlux (darcy K a) (fun f c => s f * (σ * simplexNormal2 x f c))) = 0 := by
  subst hV
  exact rt0_linear_exact_local 2 (by norm_num) K (invMatrix2d K) _ hV0 x _ s (inv_matrix_correct_2d K hK hdet)
    (simplex_divthm_2d x s σ hs) a b

theorem rt0_exact_tetrahedron (K : Mat 3 3) (V σ : Rat) (x : Fin 4 → Vec 3) (s : Vec 4) (a : Vec 3) (b : Rat)
    (hK : IsSymm K) (hdet : det3 K ≠ 0) (hs : ∀ j, s j * s j = 1) (hV : V = σ * signedVol3 x) (hV0 : V ≠ 0) :
    (∀ f, localResidual (rt0Mass 3 (invMatrix 3 K) V x s) s
        (faceFlux (darcy K a) (fun f c => s f * (σ * simplexNormal3 x f c))) (linP a b (centroid x))
        (fun g => linP a b (faceCentre x g)) f = 0)
    ∧ localDivergence s (faceFlux (darcy K a) (fun f c => s f * (σ * simplexNormal3 x f c))) = 0 := by
  subst hV
  exact rt0_linear_exact_local 3 (by norm_num) K (invMatrix3d K) _ hV0 x _ s (inv_matrix_correct_3d K hK hdet)
    (simplex_divthm_3d x s σ hs) a b

/-- local exactness of the as-coded MVEM pipeline (`mvemMass`: solve with the explicit inverse of
    `G`) on a triangle and on a tetrahedron with the explicit normals -/
theorem mvem_exact_triangle (K Kinv : Mat 2 2) (c : Vec 2) (V σ diam weight : Rat) (x : Fin 3 → Vec 2)
    (s : Vec 3) (a : Vec 2) (b : Rat) (hK : IsSymm K) (hdiam : diam ≠ 0)
    (hG : det2 (mvemG 2 K V diam) ≠ 0) (hs : ∀ j, s j * s j = 1) (hV : V = σ * signedVol2 x) :
    ∀ f, localResidual
        (mvemMass 2 3 K Kinv c V (faceCentre x) (fun f c => s f * (σ * simplexNormal2 x f c)) s diam weight) s
        (faceFlux (darcy K a) (fun f c => s f * (σ * simplexNormal2 x f c))) (linP a b c)
        (fun g => linP a b (faceCentre x g)) f = 0 := by
  subst hV
  exact (mvem_linear_exact_local 2 3 K Kinv (invMatrix2d (mvemG 2 K _ diam)) c _ diam weight hdiam _ _ s hK
    (inv_matrix_correct_2d _ (mvemG_symm 2 K _ diam hK) hG) (simplex_divthm_2d x s σ hs) a b).1

theorem mvem_exact_tetrahedron (K Kinv : Mat 3 3) (c : Vec 3) (V σ diam weight : Rat) (x : Fin 4 → Vec 3)
    (s : Vec 4) (a : Vec 3) (b : Rat) (hK : IsSymm K) (hdiam : diam ≠ 0)
    (hG : det3 (mvemG 3 K V diam) ≠ 0) (hs : ∀ j, s j * s j = 1) (hV : V = σ * signedVol3 x) :
    ∀ f, localResidual
        (mvemMass 3 4 K Kinv c V (faceCentre x) (fun f c => s f * (σ * simplexNormal3 x f c)) s diam weight) s
        (faceFlux (darcy K a) (fun f c => s f * (σ * simplexNormal3 x f c))) (linP a b c)
        (fun g => linP a b (faceCentre x g)) f = 0 := by
  subst hV
  exact (mvem_linear_exact_local 3 4 K Kinv (invMatrix3d (mvemG 3 K _ diam)) c _ diam weight hdiam _ _ s hK
    (inv_matrix_correct_3d _ (mvemG_symm 3 K _ diam hK) hG) (simplex_divthm_3d x s σ hs) a b).1

/-- The assembled RT0 mass matrix (local matrices scattered by the face map) is symmetric positive
    definite on every grid of non-degenerate simplices in which each face belongs to a cell. -/
theorem rt0_global_mass_spd (d nf nc : Nat) (hd : 1 ≤ d) (f : Fin nc → Fin (d + 1) → Fin nf)
    (Kinv : Fin nc → Mat d d) (V : Fin nc → Rat) (x : Fin nc → Fin (d + 1) → Vec d) (s : Fin nc → Vec (d + 1))
    (hK : ∀ c, PosDef (Kinv c)) (hKs : ∀ c, IsSymm (Kinv c)) (hV : ∀ c, 0 < V c)
    (hx : ∀ c, AffineIndep (x c)) (hs : ∀ c j, s c j ≠ 0) (hcov : ∀ F, ∃ c j, f c j = F) :
    IsSymm (assemble nf nc (d + 1) f fun c => rt0Mass d (Kinv c) (V c) (x c) (s c)) ∧
    PosDef (assemble nf nc (d + 1) f fun c => rt0Mass d (Kinv c) (V c) (x c) (s c)) :=
  ⟨assemble_symm _ _ _ f _ (fun c => rt0_local_mass_symmetric d (Kinv c) (V c) (x c) (s c) (hKs c)),
   assemble_posDef _ _ _ f _
     (fun c => rt0_local_mass_spd d hd (Kinv c) (V c) (x c) (s c) (hK c) (hV c) (hx c) (hs c)) hcov⟩

/-- … and so is the assembled MVEM mass matrix (cells with `m` faces each). -/
theorem mvem_global_mass_spd (d m nf nc : Nat) (f : Fin nc → Fin m → Fin nf)
    (K Kinv Ginv : Fin nc → Mat d d) (cen : Fin nc → Vec d) (V diam weight : Fin nc → Rat)
    (fc nrm : Fin nc → Fin m → Vec d) (s : Fin nc → Vec m)
    (hK : ∀ c, PosDef (K c)) (hKs : ∀ c, IsSymm (K c)) (hV : ∀ c, 0 < V c) (hdiam : ∀ c, diam c ≠ 0)
    (hw : ∀ c, 0 < weight c) (hKinv : ∀ c, ∃ i j, Kinv c i j ≠ 0) (hcov : ∀ F, ∃ c j, f c j = F) :
    IsSymm (assemble nf nc m f fun c =>
      mvemMassWith d m (Ginv c) (K c) (Kinv c) (cen c) (V c) (fc c) (nrm c) (s c) (diam c) (weight c)) ∧
    PosDef (assemble nf nc m f fun c =>
      mvemMassWith d m (Ginv c) (K c) (Kinv c) (cen c) (V c) (fc c) (nrm c) (s c) (diam c) (weight c)) :=
  ⟨assemble_symm _ _ _ f _ (fun c => mvem_local_mass_symmetric d m (K c) (Kinv c) (Ginv c) (cen c) (V c)
      (diam c) (weight c) (fc c) (nrm c) (s c) (hKs c)),
   assemble_posDef _ _ _ f _
     (fun c => mvem_local_mass_spd d m (K c) (Kinv c) (Ginv c) (cen c) (V c) (diam c)
        (weight c) (fc c) (nrm c) (s c) (hK c) (hV c) (hdiam c) (hw c) (hKinv c)) hcov⟩

/-- UNIQUE SOLVABILITY of the saddle-point system `[[M, Bᵀ],[B, 0]]`: `M` positive definite and
    `Bᵀ` injective (`B` of full row rank) ⇒ two solutions for the same right-hand side coincide. -/
theorem saddle_point_unique {nf nc : Nat} (M : Mat nf nf) (B : Mat nc nf) (hM : PosDef M)
    (hB : ∀ p : Vec nc, (∀ F, mulVec (transpose B) p F = 0) → ∀ c, p c = 0)
    (r1 : Vec nf) (r2 : Vec nc) (u u' : Vec nf) (p p' : Vec nc)
    (h1 : ∀ F, mulVec M u F + mulVec (transpose B) p F = r1 F) (h2 : ∀ c, mulVec B u c = r2 c)
    (h1' : ∀ F, mulVec M u' F + mulVec (transpose B) p' F = r1 F) (h2' : ∀ c, mulVec B u' c = r2 c) :
    (∀ F, u F = u' F) ∧ ∀ c, p c = p' c := by
  have e1 : ∀ F, mulVec M (u - u') F + mulVec (transpose B) (p - p') F = 0 := by
    intro F; rw [mulVec_sub_apply, mulVec_sub_apply]; linear_combination h1 F - h1' F
  have e2 : ∀ c, mulVec B (u - u') c = 0 := by
    intro c; rw [mulVec_sub_apply]; linear_combination h2 c - h2' c
  have t : ∑ F, (u - u') F * mulVec (transpose B) (p - p') F = ∑ c, mulVec B (u - u') c * (p - p') c := by
    simp only [mulVec_apply, transpose, Finset.mul_sum, Finset.sum_mul]
    rw [Finset.sum_comm]
    exact Finset.sum_congr rfl fun c _ => Finset.sum_congr rfl fun F _ => by ring
  have q : quadForm M (u - u') = 0 := by
    unfold quadForm; rw [dot_eq]
    have h : ∀ F, (u - u') F * mulVec M (u - u') F = -((u - u') F * mulVec (transpose B) (p - p') F) := by
      intro F; linear_combination (u - u') F * e1 F
    simp only [h, Finset.sum_neg_distrib, t, e2, zero_mul, Finset.sum_const_zero, neg_zero]
  have hdu : ∀ F, (u - u') F = 0 := by
    intro F; by_contra hF
    have := hM (u - u') ⟨F, hF⟩
    rw [q] at this; exact lt_irrefl 0 this
  have hMdu : ∀ F, mulVec M (u - u') F = 0 := by
    intro F; simp only [mulVec_apply, hdu, mul_zero, Finset.sum_const_zero]
  have hdp := hB (p - p') (fun F => by have := e1 F; rw [hMdu F, zero_add] at this; exact this)
  exact ⟨fun F => sub_eq_zero.mp (hdu F), fun c => sub_eq_zero.mp (hdp c)⟩

/-- FULL ROW RANK of `B = -cell_facesᵀ` from a spanning-tree certificate (= the grid is connected
    and has a boundary, i.e. Dirichlet, face): a root cell with a face `rootFace` that no other cell
    touches, and for every other cell a face `link c` shared only with a cell `parent c` of smaller
    rank.  Then `Bᵀ p = 0 ⇒ p = 0`. -/
theorem div_full_row_rank {nf nc : Nat} (B : Mat nc nf) (root : Fin nc) (rootFace : Fin nf)
    (parent : Fin nc → Fin nc) (link : Fin nc → Fin nf) (rank : Fin nc → Nat)
    (hroot : B root rootFace ≠ 0) (hroot' : ∀ c, c ≠ root → B c rootFace = 0)
    (hlink : ∀ c, c ≠ root → B c (link c) ≠ 0 ∧ rank (parent c) < rank c ∧
      ∀ c', c' ≠ c → c' ≠ parent c → B c' (link c) = 0)
    (p : Vec nc) (hp : ∀ F, mulVec (transpose B) p F = 0) : ∀ c, p c = 0 := by
  simp only [mulVec_apply, transpose] at hp
  have hr : p root = 0 := by
    have := hp rootFace
    rw [Finset.sum_eq_single root (fun c _ hc => by rw [hroot' c hc, zero_mul])
      (fun h => absurd (Finset.mem_univ _) h)] at this
    exact (mul_eq_zero.mp this).resolve_left hroot
  have key : ∀ n c, rank c < n → p c = 0 := by
    intro n
    induction n with
    | zero => intro c h; exact absurd h (Nat.not_lt_zero _)
    | succ n ih =>
      intro c hc
      by_cases hcr : c = root
      · rw [hcr]; exact hr
      · obtain ⟨hne, hrank, hoth⟩ := hlink c hcr
        have hpar : p (parent c) = 0 := ih (parent c) (by omega)
        have := hp (link c)
        rw [Finset.sum_eq_single c (fun c' _ hc' => by
            by_cases hpc : c' = parent c
            · rw [hpc, hpar, mul_zero]
            · rw [hoth c' hc' hpc, zero_mul])
          (fun h => absurd (Finset.mem_univ _) h)] at this
        exact (mul_eq_zero.mp this).resolve_left hne
  exact fun c => key (rank c + 1) c (Nat.lt_succ_self _)

/-- GLOBAL EXACTNESS, generic in the local matrices: if in every cell the exact values satisfy the
    local face rows and the local cell row, then they satisfy the assembled system with the
    Dirichlet right-hand side `-faceSign F · P F`; if moreover the global mass matrix is positive
    definite and `Bᵀ` is injective, EVERY solution of the assembled system is the exact one. -/
theorem mixed_linear_exact_global (nf nc m : Nat) (f : Fin nc → Fin m → Fin nf) (L : Fin nc → Mat m m)
    (s : Fin nc → Vec m) (uex : Vec nf) (pex : Vec nc) (P : Vec nf)
    (hloc : ∀ c j, localResidual (L c) (s c) (restrict uex (f c)) (pex c) (restrict P (f c)) j = 0)
    (hdiv : ∀ c, localDivergence (s c) (restrict uex (f c)) = 0)
    (hM : PosDef (assemble nf nc m f L))
    (hB : ∀ p : Vec nc, (∀ F, mulVec (transpose (divMat nf nc m f s)) p F = 0) → ∀ c, p c = 0)
    (u : Vec nf) (p : Vec nc)
    (h1 : ∀ F, mulVec (assemble nf nc m f L) u F + mulVec (transpose (divMat nf nc m f s)) p F
        = - faceSign nf nc m f s F * P F)
    (h2 : ∀ c, mulVec (divMat nf nc m f s) u c = 0) :
    (∀ F, u F = uex F) ∧ ∀ c, p c = pex c := by
  obtain ⟨g1, g2⟩ := global_rows_exact nf nc m f L s uex pex P hloc hdiv
  exact saddle_point_unique _ _ hM hB (fun F => - faceSign nf nc m f s F * P F) (fun _ => 0) u uex p pex h1 h2 g1 g2

/-- GLOBAL EXACTNESS OF RT0 on a simplex grid: global normals `N F`, face centres `XF F`, per cell
    vertices `x c` (vertex `j` opposite to local face `j`), constant `K`.  Any solution `(u, p)` of the
    assembled RT0 system with Dirichlet data from `p(y) = a·y + b` has `u F = −K a · N F` on every
    face and `p c = p(x_c)` in every cell. -/
theorem rt0_linear_exact_global (d nf nc : Nat) (hd : 1 ≤ d) (f : Fin nc → Fin (d + 1) → Fin nf)
    (K Kinv : Mat d d) (V : Fin nc → Rat) (x : Fin nc → Fin (d + 1) → Vec d) (s : Fin nc → Vec (d + 1))
    (N XF : Fin nf → Vec d) (hinv : IsInverse Kinv K) (hKpd : PosDef Kinv) (hV : ∀ c, 0 < V c)
    (hx : ∀ c, AffineIndep (x c)) (hs : ∀ c j, s c j ≠ 0) (hcov : ∀ F, ∃ c j, f c j = F)
    (hXF : ∀ c j, faceCentre (x c) j = XF (f c j))
    (hdivthm : ∀ c, DivThm (V c) (s c) (faceCentre (x c)) (fun j => N (f c j)))
    (hB : ∀ p : Vec nc, (∀ F, mulVec (transpose (divMat nf nc (d + 1) f s)) p F = 0) → ∀ c, p c = 0)
    (a : Vec d) (b : Rat) (u : Vec nf) (p : Vec nc)
    (h1 : ∀ F, mulVec (assemble nf nc (d + 1) f fun c => rt0Mass d Kinv (V c) (x c) (s c)) u F
        + mulVec (transpose (divMat nf nc (d + 1) f s)) p F
        = - faceSign nf nc (d + 1) f s F * linP a b (XF F))
    (h2 : ∀ c, mulVec (divMat nf nc (d + 1) f s) u c = 0) :
    (∀ F, u F = dot (darcy K a) (N F)) ∧ ∀ c, p c = linP a b (centroid (x c)) := by
  refine mixed_linear_exact_global nf nc (d + 1) f (fun c => rt0Mass d Kinv (V c) (x c) (s c)) s
    (fun F => dot (darcy K a) (N F)) (fun c => linP a b (centroid (x c))) (fun F => linP a b (XF F))
    (fun c j => ?_) (fun c => ?_) ?_ hB u p h1 h2
  · have h := (rt0_linear_exact_local d hd K Kinv (V c) (hV c).ne' (x c) (fun j => N (f c j)) (s c) hinv
      (hdivthm c) a b).1 j
    simp only [hXF] at h
    exact h
  · exact (rt0_linear_exact_local d hd K Kinv (V c) (hV c).ne' (x c) (fun j => N (f c j)) (s c) hinv
      (hdivthm c) a b).2
  · exact assemble_posDef _ _ _ f _
      (fun c => rt0_local_mass_spd d hd Kinv (V c) (x c) (s c) hKpd (hV c) (hx c) (hs c)) hcov

/-- `project_flux` at grid level: from the global vector of exact face fluxes of a constant velocity
    `U`, the P0 reconstruction in every cell (at any evaluation point) is `U`. -/
theorem project_flux_exact_global (d nf nc : Nat) (hd : 1 ≤ d) (f : Fin nc → Fin (d + 1) → Fin nf)
    (V : Fin nc → Rat) (x : Fin nc → Fin (d + 1) → Vec d) (s : Fin nc → Vec (d + 1)) (N : Fin nf → Vec d)
    (hV : ∀ c, V c ≠ 0) (hs : ∀ c g, s c g * s c g = 1)
    (hdivthm : ∀ c, DivThm (V c) (s c) (faceCentre (x c)) (fun j => N (f c j)))
    (hden : ∀ c g, dot (vsub (faceCentre (x c) g) (x c g)) (N (f c g)) = s c g * (d * V c))
    (U : Vec d) (u : Vec nf) (hu : ∀ F, u F = dot U (N F)) (pt : Fin nc → Vec d) (c : Fin nc) (a' : Fin d) :
    sumFin (d + 1) (fun g => u (f c g) *
      rt0Proj d (pt c) (x c) (faceCentre (x c)) (fun j => N (f c j)) g a') = U a' := by
  have h := rt0_projection_exact d hd (V c) (hV c) (x c) (fun j => N (f c j)) (s c) (hs c) (hdivthm c)
    (hden c) U (pt c) a'
  simp only [hu]
  exact h

/-! ## non-vacuity: every hypothesis above is satisfied by concrete, non-trivial rational data
(segment `[1/2, 2]`, a negatively oriented triangle, a tetrahedron; anisotropic tensors; mixed signs) -/

-- the model reproduces the reference matrix of tests/numerics/vem/test_rt0.py (unit triangle, K = I), here in
-- the model's face numbering (face j opposite to vertex j): M = [[1/6,0,0],[0,1/3,-1/6],[0,-1/6,1/3]]
example : rt0Mass 2 (idMat 2) (1/2) (pts3 (vec2 0 0) (vec2 1 0) (vec2 0 1)) (fun _ => 1) 1 2 = -1/6 := by
  decide +kernel
example : rt0Mass 2 (idMat 2) (1/2) (pts3 (vec2 0 0) (vec2 1 0) (vec2 0 1)) (fun _ => 1) 0 0 = 1/6 := by
  decide +kernel

theorem exK2_sylvester : IsSymm exK2 ∧ 0 < exK2 0 0 ∧ 0 < det2 exK2 := by unfold IsSymm; decide +kernel

theorem exK3_sylvester : IsSymm exK3 ∧ 0 < exK3 0 0 ∧ 0 < minor2 exK3 0 1 ∧ 0 < det3 exK3 := by
  unfold IsSymm; decide +kernel

theorem exK2_posDef : PosDef exK2 := posDef_2d exK2 exK2_sylvester.1 exK2_sylvester.2.1 exK2_sylvester.2.2

theorem exK2_inv_posDef : PosDef (invMatrix 2 exK2) :=
  posDef_inv exK2 _ exK2_posDef (inv_matrix_correct_2d exK2 exK2_sylvester.1 exK2_sylvester.2.2.ne')

theorem exK2_inv_symm : IsSymm (invMatrix 2 exK2) := by unfold IsSymm; decide +kernel

theorem exTri_affineIndep : AffineIndep exTri := affineIndep_2d exTri (by decide +kernel)

example : signedVol1 exSeg = 3/2 := by decide +kernel
example : signedVol2 exTri = -23/16 := by decide +kernel
example : signedVol3 exTet = 11/32 := by decide +kernel
example : IsSymm exK2 ∧ 0 < exK2 0 0 ∧ 0 < det2 exK2 := exK2_sylvester
example : IsSymm exK3 ∧ 0 < exK3 0 0 ∧ 0 < minor2 exK3 0 1 ∧ 0 < det3 exK3 := exK3_sylvester

example : PosDef (rt0Mass 1 (invMatrix 1 exK1) (3/2) exSeg exS2) :=
  rt0_spd_segment exK1 (3/2) exSeg exS2 (by decide +kernel) (by decide +kernel) (by decide +kernel)
    (by decide +kernel)

example : PosDef (rt0Mass 2 (invMatrix 2 exK2) (23/16) exTri exS3) :=
  rt0_spd_triangle exK2 (23/16) exTri exS3 exK2_sylvester.1 exK2_sylvester.2.1 exK2_sylvester.2.2
    (by decide +kernel) (by decide +kernel) (by decide +kernel)

example : PosDef (rt0Mass 3 (invMatrix 3 exK3) (11/32) exTet exS4) :=
  rt0_spd_tetrahedron exK3 (11/32) exTet exS4 exK3_sylvester.1 exK3_sylvester.2.1 exK3_sylvester.2.2.1
    exK3_sylvester.2.2.2 (by decide +kernel) (by decide +kernel) (by decide +kernel)

/-- generic SPD / PSD / symmetry theorems instantiated (d = 2, negatively oriented triangle) -/
example : PosDef (rt0Mass 2 (invMatrix 2 exK2) (23/16) exTri exS3)
    ∧ PosSemidef (rt0Mass 2 (invMatrix 2 exK2) (23/16) exTri exS3)
    ∧ IsSymm (rt0Mass 2 (invMatrix 2 exK2) (23/16) exTri exS3) :=
  ⟨rt0_local_mass_spd 2 (by norm_num) _ _ exTri exS3 exK2_inv_posDef (by decide +kernel)
      exTri_affineIndep (by decide +kernel),
    rt0_local_mass_psd 2 _ _ exTri exS3 (posDef_semidef _ exK2_inv_posDef) (by decide +kernel),
    rt0_local_mass_symmetric 2 _ _ exTri exS3 exK2_inv_symm⟩

/-- the quadratic form of the Gram identity does not vanish at a concrete vector -/
example : quadForm (rt0Mass 2 (invMatrix 2 exK2) (23/16) exTri exS3) (vec3 1 2 (-1)) ≠ 0 := by decide +kernel

/-- exactness on the negatively oriented triangle (σ = −1, V = 23/16), mixed signs, anisotropic K -/
example : (∀ f, localResidual (rt0Mass 2 (invMatrix 2 exK2) (23/16) exTri exS3) exS3
      (faceFlux (darcy exK2 (vec2 1 (-2))) (fun f c => exS3 f * (-1 * simplexNormal2 exTri f c)))
      (linP (vec2 1 (-2)) (1/2) (centroid exTri)) (fun g => linP (vec2 1 (-2)) (1/2) (faceCentre exTri g)) f = 0)
    ∧ localDivergence exS3
      (faceFlux (darcy exK2 (vec2 1 (-2))) (fun f c => exS3 f * (-1 * simplexNormal2 exTri f c))) = 0 :=
  rt0_exact_triangle exK2 (23/16) (-1) exTri exS3 (vec2 1 (-2)) (1/2) exK2_sylvester.1
    exK2_sylvester.2.2.ne' (by decide +kernel) (by decide +kernel) (by decide +kernel)

-- … and the conclusion is not an accident of the statement: the same residual with the flux of
-- a WRONG velocity (tensor not applied) does not vanish
example : localResidual (rt0Mass 2 (invMatrix 2 exK2) (23/16) exTri exS3) exS3
      (faceFlux (darcy (idMat 2) (vec2 1 (-2))) (fun f c => exS3 f * (-1 * simplexNormal2 exTri f c)))
      (linP (vec2 1 (-2)) (1/2) (centroid exTri)) (fun g => linP (vec2 1 (-2)) (1/2) (faceCentre exTri g)) 0 ≠ 0 := by
  decide +kernel

example : DivThm (1 * signedVol3 exTet) exS4 (faceCentre exTet) (fun f b => exS4 f * (1 * simplexNormal3 exTet f b)) :=
  simplex_divthm_3d exTet exS4 1 (by decide +kernel)

example : ∀ f, localResidual (rt0Mass 3 (invMatrix 3 exK3) (11/32) exTet exS4) exS4
      (faceFlux (darcy exK3 (vec3 1 (-2) (1/2))) (fun f c => exS4 f * (1 * simplexNormal3 exTet f c)))
      (linP (vec3 1 (-2) (1/2)) 3 (centroid exTet)) (fun g => linP (vec3 1 (-2) (1/2)) 3 (faceCentre exTet g)) f = 0 :=
  (rt0_exact_tetrahedron exK3 (11/32) 1 exTet exS4 (vec3 1 (-2) (1/2)) 3 exK3_sylvester.1
    exK3_sylvester.2.2.2.ne' (by decide +kernel) (by decide +kernel) (by decide +kernel)).1

example : ∀ f, localResidual (rt0Mass 1 (invMatrix 1 exK1) (3/2) exSeg exS2) exS2
      (faceFlux (darcy exK1 (vec1 2)) (fun f c => exS2 f * (1 * simplexNormal1 exSeg f c)))
      (linP (vec1 2) 1 (centroid exSeg)) (fun g => linP (vec1 2) 1 (faceCentre exSeg g)) f = 0 :=
  (rt0_exact_segment exK1 (3/2) 1 exSeg exS2 (vec1 2) 1 (by decide +kernel) (by decide +kernel)
    (by decide +kernel) (by decide +kernel)).1

/-- MVEM on the same triangle (diam = 5/2, weight = 1): SPD, exact, and `Π_s` returns a gradient from its fluxes -/
example : PosDef (mvemMass 2 3 exK2 (invMatrix 2 exK2) (centroid exTri) (23/16) (faceCentre exTri)
      (fun f c => exS3 f * (-1 * simplexNormal2 exTri f c)) exS3 (5/2) 1) :=
  mvem_local_mass_spd 2 3 exK2 _ _ _ _ _ _ _ _ exS3 exK2_posDef
    (by decide +kernel) (by decide +kernel) (by decide +kernel) ⟨0, 0, by decide +kernel⟩

example : ∀ f, localResidual (mvemMass 2 3 exK2 (invMatrix 2 exK2) (centroid exTri) (23/16) (faceCentre exTri)
      (fun f c => exS3 f * (-1 * simplexNormal2 exTri f c)) exS3 (5/2) 1) exS3
      (faceFlux (darcy exK2 (vec2 1 (-2))) (fun f c => exS3 f * (-1 * simplexNormal2 exTri f c)))
      (linP (vec2 1 (-2)) (1/2) (centroid exTri)) (fun g => linP (vec2 1 (-2)) (1/2) (faceCentre exTri g)) f = 0 :=
  mvem_exact_triangle exK2 _ (centroid exTri) (23/16) (-1) (5/2) 1 exTri exS3 (vec2 1 (-2)) (1/2)
    exK2_sylvester.1 (by decide +kernel) (by decide +kernel) (by decide +kernel) (by decide +kernel)

example : mulVec (mvemPiOf 2 3 exK2 (centroid exTri) (23/16) (faceCentre exTri) exS3 (5/2))
      (mulVec (mvemD 2 3 exK2 (fun f c => exS3 f * (-1 * simplexNormal2 exTri f c)) (5/2)) (vec2 3 (-1))) 0 = 3 := by
  decide +kernel

/-- the two-triangle grid: every face is covered, `B = -cell_facesᵀ` has full row rank by the
    spanning-tree certificate (root cell 0 with boundary face 0, cell 1 linked through face 2) -/
example : ∀ F : Fin 5, ∃ c j, exF c j = F := by decide +kernel

example : ∀ p : Vec 2, (∀ F, mulVec (transpose (divMat 5 2 3 exF exSg)) p F = 0) → ∀ c, p c = 0 :=
  div_full_row_rank (divMat 5 2 3 exF exSg) 0 0 (fun _ => 0) (fun _ => 2) (fun c => c.val)
    (by decide +kernel) (by decide +kernel) (by decide +kernel)

example : PosDef (assemble 5 2 3 exF fun c => rt0Mass 2 (invMatrix 2 exK2) (23/16) exTri (exSg c)) :=
  (rt0_global_mass_spd 2 5 2 (by norm_num) exF (fun _ => invMatrix 2 exK2) (fun _ => 23/16) (fun _ => exTri) exSg
    (fun _ => exK2_inv_posDef) (fun _ => exK2_inv_symm) (fun _ => by decide +kernel)
    (fun _ => exTri_affineIndep) (by decide +kernel) (by decide +kernel)).2

/-- the right-hand side `-faceSign F · P F` on this grid: nothing on the shared face 2, the datum on a boundary face
    (with the previous two examples, the hypotheses `hM`, `hB` of `mixed_linear_exact_global` hold here) -/
example : faceSign 5 2 3 exF exSg 2 = 0 ∧ faceSign 5 2 3 exF exSg 0 = 1 := by decide +kernel

end PorepyVerif.C18
