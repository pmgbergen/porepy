/-
C18 — from one cell to the grid: what the assembled operators do to a vector, the quadratic form of the assembled
mass matrix as the sum of the local ones, and the assembled rows from the local rows.
-/
import PorepyVerif.C18.Basic

open Finset BigOperators
namespace PorepyVerif.C18

theorem delta_sum {n : Nat} (a : Fin n) (g : Fin n → ℚ) : ∑ F, delta a F * g F = g a := by
  simp only [delta, ite_mul, one_mul, zero_mul, Finset.sum_ite_eq, Finset.mem_univ, if_true]

theorem mulVec_assemble (nf nc m : Nat) (f : Fin nc → Fin m → Fin nf) (L : Fin nc → Mat m m) (u : Vec nf)
    (F : Fin nf) :
    mulVec (assemble nf nc m f L) u F = ∑ c, ∑ j, delta (f c j) F * ∑ k, L c j k * u (f c k) := by
  have g : ∀ c j k, ∑ G, delta (f c j) F * L c j k * delta (f c k) G * u G
      = delta (f c j) F * (L c j k * u (f c k)) := by
    intro c j k
    simp only [mul_assoc, ← Finset.mul_sum, delta_sum]
  simp only [mulVec_apply, assemble, sumFin_eq, Finset.sum_mul]
  rw [Finset.sum_comm]
  refine Finset.sum_congr rfl fun c _ => ?_
  rw [Finset.sum_comm]
  refine Finset.sum_congr rfl fun j _ => ?_
  rw [Finset.sum_comm]
  simp only [g, Finset.mul_sum]

theorem mulVec_divMat (nf nc m : Nat) (f : Fin nc → Fin m → Fin nf) (s : Fin nc → Vec m) (u : Vec nf)
    (c : Fin nc) : mulVec (divMat nf nc m f s) u c = -∑ j, s c j * u (f c j) := by
  have e : ∀ F, (-∑ j, delta (f c j) F * s c j) * u F = -∑ j, s c j * (delta (f c j) F * u F) := by
    intro F; rw [neg_mul, Finset.sum_mul]
    exact congrArg Neg.neg (Finset.sum_congr rfl fun j _ => by ring)
  simp only [mulVec_apply, divMat, sumFin_eq, e, Finset.sum_neg_distrib]
  rw [Finset.sum_comm]
  simp only [← Finset.mul_sum, delta_sum]

theorem mulVec_divMat_transpose (nf nc m : Nat) (f : Fin nc → Fin m → Fin nf) (s : Fin nc → Vec m)
    (p : Vec nc) (F : Fin nf) :
    mulVec (transpose (divMat nf nc m f s)) p F = ∑ c, ∑ j, delta (f c j) F * (-(s c j * p c)) := by
  simp only [mulVec_apply, transpose, divMat, sumFin_eq]
  refine Finset.sum_congr rfl fun c _ => ?_
  rw [neg_mul, Finset.sum_mul, ← Finset.sum_neg_distrib]
  exact Finset.sum_congr rfl fun j _ => by ring

theorem sum_scatter {nf nc m : Nat} (f : Fin nc → Fin m → Fin nf) (y : Vec nf) (g : Fin nc → Fin m → ℚ) :
    ∑ F, y F * ∑ c, ∑ j, delta (f c j) F * g c j = ∑ c, ∑ j, y (f c j) * g c j := by
  have e : ∀ c j F, y F * (delta (f c j) F * g c j) = delta (f c j) F * (y F * g c j) := by
    intro c j F; ring
  simp only [Finset.mul_sum]
  rw [Finset.sum_comm]
  refine Finset.sum_congr rfl fun c _ => ?_
  rw [Finset.sum_comm]
  simp only [e, delta_sum]

theorem assemble_quad (nf nc m : Nat) (f : Fin nc → Fin m → Fin nf) (L : Fin nc → Mat m m) (y : Vec nf) :
    quadForm (assemble nf nc m f L) y = ∑ c, quadForm (L c) (restrict y (f c)) := by
  simp only [quadForm, dot_eq, mulVec_assemble, sum_scatter]
  simp only [mulVec_apply, restrict]

theorem assemble_symm (nf nc m : Nat) (f : Fin nc → Fin m → Fin nf) (L : Fin nc → Mat m m)
    (hL : ∀ c, IsSymm (L c)) : IsSymm (assemble nf nc m f L) := by
  intro F G
  simp only [assemble, sumFin_eq]
  refine Finset.sum_congr rfl fun c _ => ?_
  rw [Finset.sum_comm]
  refine Finset.sum_congr rfl fun j _ => Finset.sum_congr rfl fun k _ => ?_
  rw [hL c j k]; ring

theorem assemble_posDef_of_cover (nf nc m : Nat) (f : Fin nc → Fin m → Fin nf) (L : Fin nc → Mat m m)
    (hpsd : ∀ c, PosSemidef (L c)) (hcov : ∀ F, ∃ c j, f c j = F ∧ PosDef (L c)) :
    PosDef (assemble nf nc m f L) := by
  intro y hy
  obtain ⟨F, hF⟩ := hy
  rw [assemble_quad]
  obtain ⟨c, j, hj, hpd⟩ := hcov F
  refine Finset.sum_pos' (fun c _ => hpsd c _) ⟨c, Finset.mem_univ _, hpd _ ⟨j, ?_⟩⟩
  simp only [restrict, hj]; exact hF

theorem assemble_posDef (nf nc m : Nat) (f : Fin nc → Fin m → Fin nf) (L : Fin nc → Mat m m)
    (hpd : ∀ c, PosDef (L c)) (hcov : ∀ F, ∃ c j, f c j = F) : PosDef (assemble nf nc m f L) :=
  assemble_posDef_of_cover nf nc m f L (fun c => posDef_semidef _ (hpd c)) fun F =>
    let ⟨c, j, h⟩ := hcov F
    ⟨c, j, h, hpd c⟩

theorem global_rows_exact (nf nc m : Nat) (f : Fin nc → Fin m → Fin nf) (L : Fin nc → Mat m m)
    (s : Fin nc → Vec m) (u : Vec nf) (pc : Vec nc) (P : Vec nf)
    (hloc : ∀ c j, localResidual (L c) (s c) (restrict u (f c)) (pc c) (restrict P (f c)) j = 0)
    (hdiv : ∀ c, localDivergence (s c) (restrict u (f c)) = 0) :
    (∀ F, mulVec (assemble nf nc m f L) u F + mulVec (transpose (divMat nf nc m f s)) pc F
        = - faceSign nf nc m f s F * P F)
    ∧ (∀ c, mulVec (divMat nf nc m f s) u c = 0) := by
  constructor
  · intro F
    simp only [mulVec_assemble, mulVec_divMat_transpose, faceSign, sumFin_eq, neg_mul, Finset.sum_mul,
      ← Finset.sum_neg_distrib, ← Finset.sum_add_distrib]
    refine Finset.sum_congr rfl fun c _ => Finset.sum_congr rfl fun j _ => ?_
    have hl := hloc c j
    simp only [localResidual, sumFin_eq, restrict] at hl
    unfold delta
    split_ifs with h
    · rw [← h]; linear_combination hl
    · ring
  · intro c
    have hd := hdiv c
    simp only [localDivergence, sumFin_eq, restrict] at hd
    rw [mulVec_divMat]
    exact hd

end PorepyVerif.C18
