/-
C18 — the RT0 local mass matrix: a bilinear form in the vertex fields `rt0Field` (Gram representation), the
interpolation identity, and the face rows applied to the exact fluxes of a linear pressure.
-/
import Mathlib.LinearAlgebra.Matrix.BilinearForm
import Mathlib.Tactic.FieldSimp
import Mathlib.Tactic.Positivity
import PorepyVerif.C18.Basic

open Finset BigOperators
namespace PorepyVerif.C18

/-- the bilinear form `(u, v) ↦ uᵀ A v` -/
noncomputable def bf {d : Nat} (A : Mat d d) : LinearMap.BilinForm ℚ (Fin d → ℚ) :=
  Matrix.toBilin' (Matrix.of A)

theorem dot_mulVec {d : Nat} (A : Mat d d) (u v : Vec d) : dot u (mulVec A v) = bf A u v := by
  rw [bf, Matrix.toBilin'_apply', dot_eq]
  simp only [dotProduct, Matrix.mulVec, Matrix.of_apply, mulVec_apply]

theorem bf_apply {d : Nat} (A : Mat d d) (u v : Vec d) : bf A u v = ∑ i, ∑ j, u i * A i j * v j := by
  rw [bf, Matrix.toBilin'_apply]; rfl

theorem quadForm_bf {n : Nat} (A : Mat n n) (y : Vec n) : quadForm A y = bf A y y := dot_mulVec A y y

theorem bf_symm {d : Nat} (A : Mat d d) (hA : IsSymm A) (u v : Vec d) : bf A u v = bf A v u := by
  rw [bf_apply, bf_apply, Finset.sum_comm]
  refine Finset.sum_congr rfl fun i _ => Finset.sum_congr rfl fun j _ => ?_
  rw [hA j i]; ring

theorem bf_div {d : Nat} (A : Mat d d) (V : ℚ) (u v : Vec d) :
    bf (fun a b => A a b / V) u v = bf A u v / V := by
  rw [bf_apply, bf_apply, div_eq_mul_inv, Finset.sum_mul]
  refine Finset.sum_congr rfl fun i _ => ?_
  rw [Finset.sum_mul]
  refine Finset.sum_congr rfl fun j _ => ?_
  ring

/-- the scalar factor of `hbCoef` -/
def hbC (d : Nat) : ℚ := 1 / ((d : ℚ) * d * (d + 1) * (d + 2))

theorem hbC_nonneg (d : Nat) : 0 ≤ hbC d := by unfold hbC; positivity

theorem hbC_pos (d : Nat) (hd : 1 ≤ d) : 0 < hbC d := by
  unfold hbC
  have : (0 : ℚ) < d := by exact_mod_cast hd
  positivity

theorem hb_split (d : Nat) (g : Fin (d + 1) → Fin (d + 1) → ℚ) :
    ∑ i, ∑ l, hbCoef d i l * g i l = hbC d * (∑ i, g i i + ∑ i, ∑ l, g i l) := by
  have h : ∀ i l, hbCoef d i l * g i l = hbC d * ((if i = l then g i l else 0) + g i l) := by
    intro i l; unfold hbCoef hbC; split_ifs <;> ring
  simp only [h, ← Finset.mul_sum, Finset.sum_add_distrib, Finset.sum_ite_eq, Finset.mem_univ, if_true]

/-- the model's `rt0Field x t i` (`w_i = Σ_j t_j (x_i − x_j)`) as a combination of vectors -/
theorem rt0Field_eq {d : Nat} (x : Fin (d + 1) → Vec d) (t : Fin (d + 1) → ℚ) (i : Fin (d + 1)) :
    rt0Field x t i = ∑ j, t j • (x i - x j) := by
  funext a
  simp only [rt0Field, sumFin_eq, Finset.sum_apply, Pi.smul_apply, Pi.sub_apply, smul_eq_mul]

theorem rt0Mass_apply (d : Nat) (Kinv : Mat d d) (V : ℚ) (x : Fin (d + 1) → Vec d) (s : Fin (d + 1) → ℚ)
    (j k : Fin (d + 1)) :
    rt0Mass d Kinv V x s j k =
      s j * (∑ i, ∑ l, hbCoef d i l * bf (fun a b => Kinv a b / V) (x i - x j) (x l - x k)) * s k := by
  simp only [rt0Mass, sumFin_eq, dot_mulVec, vsub_eq]

theorem rt0Mass_mulVec (d : Nat) (Kinv : Mat d d) (V : ℚ) (x : Fin (d + 1) → Vec d) (s y : Fin (d + 1) → ℚ)
    (j : Fin (d + 1)) :
    ∑ k, rt0Mass d Kinv V x s j k * y k =
      s j * ∑ i, ∑ l, hbCoef d i l *
        bf (fun a b => Kinv a b / V) (x i - x j) (rt0Field x (fun k => s k * y k) l) := by
  simp only [rt0Mass_apply, rt0Field_eq, LinearMap.BilinForm.sum_right, LinearMap.BilinForm.smul_right,
    Finset.mul_sum, Finset.sum_mul]
  rw [Finset.sum_comm]
  refine Finset.sum_congr rfl fun i _ => ?_
  rw [Finset.sum_comm]
  exact Finset.sum_congr rfl fun l _ => Finset.sum_congr rfl fun k _ => by ring

theorem rt0_quad_field (d : Nat) (Kinv : Mat d d) (V : ℚ) (x : Fin (d + 1) → Vec d) (s y : Fin (d + 1) → ℚ) :
    quadForm (rt0Mass d Kinv V x s) y =
      ∑ i, ∑ l, hbCoef d i l *
        bf (fun a b => Kinv a b / V) (rt0Field x (fun j => s j * y j) i) (rt0Field x (fun j => s j * y j) l) := by
  have hl : ∀ i (v : Vec d), bf (fun a b => Kinv a b / V) (rt0Field x (fun j => s j * y j) i) v
      = ∑ j, s j * y j * bf (fun a b => Kinv a b / V) (x i - x j) v := by
    intro i v
    simp only [rt0Field_eq, LinearMap.BilinForm.sum_left, LinearMap.BilinForm.smul_left]
  rw [quadForm_eq]
  simp only [rt0Mass_mulVec, hl, Finset.mul_sum]
  rw [Finset.sum_comm]
  refine Finset.sum_congr rfl fun i _ => ?_
  rw [Finset.sum_comm]
  exact Finset.sum_congr rfl fun l _ => Finset.sum_congr rfl fun j _ => by ring

/-- Gram / sum-of-squares representation: `yᵀ M y = c (Σ_i q(w_i) + q(Σ_i w_i))`, `q(v) = vᵀ (K⁻¹/V) v`. -/
theorem rt0_quad_gram (d : Nat) (Kinv : Mat d d) (V : ℚ) (x : Fin (d + 1) → Vec d) (s y : Fin (d + 1) → ℚ) :
    quadForm (rt0Mass d Kinv V x s) y =
      hbC d * ((∑ i, bf (fun a b => Kinv a b / V) (rt0Field x (fun j => s j * y j) i) (rt0Field x (fun j => s j * y j) i))
        + bf (fun a b => Kinv a b / V) (∑ i, rt0Field x (fun j => s j * y j) i) (∑ i, rt0Field x (fun j => s j * y j) i)) := by
  rw [rt0_quad_field, hb_split]
  congr 2
  rw [LinearMap.BilinForm.sum_left]
  refine Finset.sum_congr rfl fun i _ => ?_
  rw [LinearMap.BilinForm.sum_right]

theorem rt0Field_apply {d : Nat} (x : Fin (d + 1) → Vec d) (t : Fin (d + 1) → ℚ) (i : Fin (d + 1)) (a : Fin d) :
    rt0Field x t i a = (∑ j, t j) * x i a - ∑ j, t j * x j a := by
  simp only [rt0Field, sumFin_eq, mul_sub, Finset.sum_sub_distrib, Finset.sum_mul]

/-- the matrix `N` of `RT0.massHdiv` has a trivial kernel on a non-degenerate simplex -/
theorem rt0Field_injective {d : Nat} (hd : 1 ≤ d) (x : Fin (d + 1) → Vec d) (hx : AffineIndep x)
    (t : Fin (d + 1) → ℚ) (hw : ∀ i, rt0Field x t i = 0) : ∀ j, t j = 0 := by
  -- for every vertex `k`, `t − (Σ t) e_k` is an affine dependence (its moment is `−w_k`), so `t = (Σ t) e_k`
  have key : ∀ k j, t j = if j = k then ∑ i, t i else 0 := by
    intro k j
    refine sub_eq_zero.mp (hx (fun j => t j - if j = k then ∑ i, t i else 0) ?_ (fun a => ?_) j)
    · rw [sumFin_eq, Finset.sum_sub_distrib, Finset.sum_ite_eq', if_pos (Finset.mem_univ _), sub_self]
    · have h := congrFun (hw k) a
      rw [rt0Field_apply, Pi.zero_apply] at h
      simp only [sumFin_eq, sub_mul, ite_mul, zero_mul, Finset.sum_sub_distrib, Finset.sum_ite_eq',
        Finset.mem_univ, if_true]
      linear_combination -h
  have hne : (0 : Fin (d + 1)) ≠ Fin.last d := fun h => by
    have := congrArg Fin.val h
    simp only [Fin.val_zero, Fin.val_last] at this
    omega
  have h0 : t 0 = 0 := by rw [key (Fin.last d) 0, if_neg hne]
  have hT : ∑ i, t i = 0 := by
    have := key 0 0
    rw [if_pos rfl, h0] at this
    exact this.symm
  intro j
  rw [key 0 j, hT, ite_self]

theorem hbCoef_symm (d : Nat) (i l : Fin (d + 1)) : hbCoef d i l = hbCoef d l i := by
  unfold hbCoef
  by_cases h : i = l
  · subst h; rfl
  · rw [if_neg h, if_neg (Ne.symm h)]

theorem bfdiv_nonneg {d : Nat} (Kinv : Mat d d) (V : ℚ) (hK : PosSemidef Kinv) (hV : 0 < V) (v : Vec d) :
    0 ≤ bf (fun a b => Kinv a b / V) v v := by
  rw [bf_div, ← quadForm_bf]; exact div_nonneg (hK v) hV.le

theorem bfdiv_pos {d : Nat} (Kinv : Mat d d) (V : ℚ) (hK : PosDef Kinv) (hV : 0 < V) (v : Vec d) (hv : v ≠ 0) :
    0 < bf (fun a b => Kinv a b / V) v v := by
  rw [bf_div, ← quadForm_bf]; exact div_pos (hK v ((nonZero_iff v).mpr hv)) hV

theorem rt0_interp {d : Nat} (hd : (d : ℚ) ≠ 0) (V : ℚ) (x nrm : Fin (d + 1) → Vec d) (s : Vec (d + 1))
    (hdiv : DivThm V s (faceCentre x) nrm) (U y : Vec d) (b : Fin d) :
    ∑ g, s g * dot U (nrm g) * (y b - x g b) = d * V * U b := by
  have e : ∀ g, s g * dot U (nrm g) * (y b - x g b) = ∑ a, -U a * (s g * (x g b - y b) * nrm g a) := by
    intro g
    rw [dot_eq, Finset.mul_sum, Finset.sum_mul]
    exact Finset.sum_congr rfl fun a _ => by ring
  simp only [e]
  rw [Finset.sum_comm]
  simp only [← Finset.mul_sum, ((divThm_simplex_iff hd V x nrm s y).mp hdiv).2 b]
  simp only [mul_ite, mul_zero, Finset.sum_ite_eq, Finset.mem_univ, if_true]
  ring

theorem mulVec_darcy {d : Nat} (K Kinv : Mat d d) (V : ℚ) (hinv : IsInverse Kinv K) (a : Vec d) :
    mulVec (fun i j => Kinv i j / V) (darcy K a) = fun c => - a c / V := by
  funext c
  have h := congrFun (isInverse_mulVec Kinv K hinv a) c
  rw [mulVec_apply] at h
  rw [mulVec_apply, ← h, neg_div, Finset.sum_div, ← Finset.sum_neg_distrib]
  refine Finset.sum_congr rfl fun j _ => ?_
  simp only [darcy]; ring

theorem dot_centroid {d : Nat} (a : Vec d) (x : Fin (d + 1) → Vec d) :
    dot a (centroid x) = (∑ i, dot a (x i)) / ((d : ℚ) + 1) := by
  simp only [dot_eq, centroid_apply]
  rw [Finset.sum_comm, Finset.sum_div]
  refine Finset.sum_congr rfl fun c _ => ?_
  rw [← Finset.mul_sum, mul_div_assoc]

theorem dot_faceCentre {d : Nat} (a : Vec d) (x : Fin (d + 1) → Vec d) (f : Fin (d + 1)) :
    dot a (faceCentre x f) = ((∑ i, dot a (x i)) - dot a (x f)) / (d : ℚ) := by
  simp only [dot_eq, faceCentre_apply]
  rw [Finset.sum_comm, ← Finset.sum_sub_distrib, Finset.sum_div]
  refine Finset.sum_congr rfl fun c _ => ?_
  rw [← Finset.mul_sum, ← mul_sub, mul_div_assoc]

theorem bf_darcy {d : Nat} (K Kinv : Mat d d) (V : ℚ) (hinv : IsInverse Kinv K) (a v w : Vec d) :
    bf (fun i j => Kinv i j / V) (v - w) (darcy K a) = -(dot a v - dot a w) / V := by
  rw [← dot_mulVec, mulVec_darcy K Kinv V hinv a, dot_eq, dot_eq, dot_eq, ← Finset.sum_sub_distrib,
    neg_div, Finset.sum_div, ← Finset.sum_neg_distrib]
  refine Finset.sum_congr rfl fun c _ => ?_
  simp only [Pi.sub_apply]; ring

theorem rt0_row_exact {d : Nat} (hd : 1 ≤ d) (K Kinv : Mat d d) (V : ℚ) (hV : V ≠ 0)
    (x nrm : Fin (d + 1) → Vec d) (s : Vec (d + 1)) (hinv : IsInverse Kinv K)
    (hdiv : DivThm V s (faceCentre x) nrm) (a : Vec d) (f : Fin (d + 1)) :
    ∑ g, rt0Mass d Kinv V x s f g * faceFlux (darcy K a) nrm g
      = - s f * (dot a (faceCentre x f) - dot a (centroid x)) := by
  have hd0 : (d : ℚ) ≠ 0 := Nat.cast_ne_zero.mpr (Nat.one_le_iff_ne_zero.mp hd)
  -- the field with coefficients `s_g u_g` is the constant `d V U` (interpolation identity)
  have hw : ∀ l, rt0Field x (fun g => s g * faceFlux (darcy K a) nrm g) l = ((d : ℚ) * V) • darcy K a := by
    intro l; funext b
    simp only [rt0Field, sumFin_eq, Pi.smul_apply, smul_eq_mul, faceFlux]
    exact rt0_interp hd0 V x nrm s hdiv _ (x l) b
  rw [rt0Mass_mulVec, dot_centroid, dot_faceCentre]
  simp only [hw, LinearMap.BilinForm.smul_right, bf_darcy K Kinv V hinv a]
  rw [hb_split]
  simp only [Finset.sum_const, Finset.card_univ, Fintype.card_fin, nsmul_eq_mul, Nat.cast_add,
    Nat.cast_one, ← Finset.mul_sum, ← Finset.sum_div, Finset.sum_neg_distrib, Finset.sum_sub_distrib]
  generalize (∑ i, dot a (x i)) = S
  unfold hbC
  have h1 : (d : ℚ) + 1 ≠ 0 := by positivity
  have h2 : (d : ℚ) + 2 ≠ 0 := by positivity
  field_simp
  ring

end PorepyVerif.C18
