/-
C39 — what the assignment loop leaves at each face (`lastType`), the partition invariant it
preserves, and histories of operations on one component.
-/
import PorepyVerif.C39.Model
import PorepyVerif.Common.List
import PorepyVerif.Common.Except

namespace PorepyVerif.C39

theorem get_set (l : List Bool) (i j : Nat) (v : Bool) (hi : i < l.length) :
    get (l.set i v) j = if i = j then v else get l j := by
  simp only [get, List.getD_eq_getElem?_getD, List.getElem?_set]
  split <;> rfl

theorem get_replicate_false (n f : Nat) : get (List.replicate n false) f = false :=
  Common.getD_replicate n f false

theorem get_map_range (p : Nat → Bool) (n f : Nat) :
    get ((List.range n).map p) f = (decide (f < n) && p f) := by
  unfold get
  simp only [List.getD_eq_getElem?_getD, List.getElem?_map]
  by_cases h : f < n <;> simp [h]

theorem get_mapIdx_ite (l : List Bool) (q : Nat → Bool) (x : Bool) (f : Nat) :
    get (l.mapIdx fun i v => if q i then x else v) f
      = if f < l.length ∧ q f = true then x else get l f := by
  simp only [get, List.getD_eq_getElem?_getD, List.getElem?_mapIdx]
  by_cases h : f < l.length
  · simp [h]
  · simp [h]

/-- all three arrays have the length of the grid -/
def BC.wf (n : Nat) (b : BC) : Prop := b.neu.length = n ∧ b.dir.length = n ∧ b.rob.length = n

theorem wf_init (g : Grid) : (BC.init g).wf g.nf := by
  simp [BC.wf, BC.init]

theorem at_init (g : Grid) (f : Nat) : (BC.init g).at f = (g.isBf f, false, false) := by
  simp only [BC.at, BC.init, get_replicate_false, get_map_range]
  simp only [Grid.isBf, Bool.and_self_left]

theorem isBf_lt (g : Grid) (f : Nat) (h : g.isBf f = true) : f < g.nf := by
  simp only [Grid.isBf, Bool.and_eq_true, decide_eq_true_eq] at h
  exact h.1

theorem isBf_of_frac {g : Grid} {f : Nat} (hf : f < g.nf) (hr : g.frac f = true) : g.isBf f = true := by
  simp [Grid.isBf, hf, hr]

theorem lastType_cons (f : Nat) (t : Bool × Bool × Bool) (p : Nat × Cond) (ps : List (Nat × Cond)) :
    lastType f t (p :: ps) = lastType f (lastType f t [p]) ps := by
  obtain ⟨f0, c⟩ := p
  cases c <;> exact (apply_ite (fun t => lastType f t ps) _ _ _).symm

theorem lastType_append (f : Nat) (l1 l2 : List (Nat × Cond)) : ∀ t : Bool × Bool × Bool,
    lastType f t (l1 ++ l2) = lastType f (lastType f t l1) l2 := by
  induction l1 with
  | nil => intro t; rfl
  | cons q l1 ih => intro t; rw [List.cons_append, lastType_cons, ih, ← lastType_cons]

theorem lastType_single_cases (f : Nat) (t : Bool × Bool × Bool) (p : Nat × Cond) :
    lastType f t [p] = t ∨
      ((lastType f t [p] = (false, true, false) ∨ lastType f t [p] = (false, false, true))
        ∧ p.1 = f ∧ (p.2 = .dir ∨ p.2 = .rob)) := by
  obtain ⟨f0, c⟩ := p
  by_cases e : f0 = f
  · cases c with
    | neu => exact Or.inl (ite_self _)
    | bad => exact Or.inl (ite_self _)
    | dir => exact Or.inr ⟨Or.inl (if_pos e), e, Or.inl rfl⟩
    | rob => exact Or.inr ⟨Or.inr (if_pos e), e, Or.inr rfl⟩
  · exact Or.inl (if_neg e)

theorem lastType_cases (f : Nat) (ps : List (Nat × Cond)) : ∀ t,
    lastType f t ps = t ∨ ((lastType f t ps = (false, true, false) ∨ lastType f t ps = (false, false, true))
      ∧ ∃ p ∈ ps, p.1 = f ∧ (p.2 = .dir ∨ p.2 = .rob)) := by
  induction ps with
  | nil => intro t; exact Or.inl rfl
  | cons p ps ih =>
    intro t
    rw [lastType_cons]
    rcases ih (lastType f t [p]) with h | ⟨h, q, hq, hq'⟩
    · rcases lastType_single_cases f t p with e | ⟨e, hp⟩
      · exact Or.inl (h.trans e)
      · exact Or.inr ⟨by rw [h]; exact e, p, List.mem_cons_self, hp⟩
    · exact Or.inr ⟨h, q, List.mem_cons_of_mem _ hq, hq'⟩

theorem lastType_eq_self (f : Nat) (t : Bool × Bool × Bool) (ps : List (Nat × Cond))
    (h : ∀ p ∈ ps, p.1 = f → (p.2 = .neu ∨ p.2 = .bad)) : lastType f t ps = t := by
  rcases lastType_cases f ps t with e | ⟨_, p, hp, hf, hc⟩
  · exact e
  · refine absurd hc ?_
    rcases h p hp hf with e | e <;> rw [e] <;> decide

/-- the last write wins: after the final `dir`/`rob` for face `f` nothing changes the face -/
theorem lastType_append_last (f : Nat) (t : Bool × Bool × Bool) (pre post : List (Nat × Cond)) (c : Cond)
    (hpost : ∀ p ∈ post, p.1 = f → (p.2 = .neu ∨ p.2 = .bad)) :
    lastType f t (pre ++ (f, c) :: post) = lastType f (lastType f t pre) [(f, c)] := by
  rw [lastType_append, lastType_cons, lastType_eq_self f _ post hpost]

theorem lastType_all_dir (f : Nat) (fs : List Nat) : ∀ t : Bool × Bool × Bool,
    lastType f t (fs.map (fun x => (x, Cond.dir))) = if f ∈ fs then (false, true, false) else t := by
  induction fs with
  | nil => intro t; rfl
  | cons a fs ih =>
    intro t
    simp only [List.map_cons, lastType, ih, List.mem_cons]
    by_cases e : a = f
    · subst e; simp
    · have e' : ¬ f = a := fun h => e h.symm
      simp [e, e']

theorem goodPrefix_subset (ps : List (Nat × Cond)) : ∀ p ∈ goodPrefix ps, p ∈ ps := by
  induction ps with
  | nil => intro p h; cases h
  | cons q ps ih =>
    intro p h
    simp only [goodPrefix] at h
    split at h
    · cases h
    · rcases List.mem_cons.mp h with rfl | h'
      · exact List.mem_cons_self
      · exact List.mem_cons_of_mem _ (ih p h')

theorem goodPrefix_of_all_good (ps : List (Nat × Cond)) (h : ps.all (fun p => p.2 != .bad) = true) :
    goodPrefix ps = ps := by
  induction ps with
  | nil => rfl
  | cons q ps ih =>
    simp only [List.all_cons, Bool.and_eq_true, bne_iff_ne, ne_eq] at h
    simp only [goodPrefix, h.1, if_false, ih h.2]

theorem at_set {n : Nat} {b : BC} (hw : b.wf n) {f0 : Nat} (hf : f0 < n) (x y z : Bool) :
    BC.wf n ⟨b.neu.set f0 x, b.dir.set f0 y, b.rob.set f0 z⟩ ∧
    ∀ f, BC.at ⟨b.neu.set f0 x, b.dir.set f0 y, b.rob.set f0 z⟩ f = if f0 = f then (x, y, z) else b.at f := by
  obtain ⟨h1, h2, h3⟩ := hw
  refine ⟨⟨List.length_set.trans h1, List.length_set.trans h2, List.length_set.trans h3⟩, fun f => ?_⟩
  simp only [BC.at, get_set _ _ _ _ (h1 ▸ hf), get_set _ _ _ _ (h2 ▸ hf), get_set _ _ _ _ (h3 ▸ hf)]
  split <;> rfl

theorem assign_spec {n : Nat} {b : BC} {f0 : Nat} {c : Cond} (hw : b.wf n) (hf : f0 < n) (hc : c ≠ .bad) :
    ∃ b', b.assign f0 c = some b' ∧ b'.wf n ∧ ∀ f, b'.at f = lastType f (b.at f) [(f0, c)] := by
  cases c with
  | neu => exact ⟨b, rfl, hw, fun f => (ite_self _).symm⟩
  | dir => exact ⟨_, rfl, at_set hw hf false true false⟩
  | rob => exact ⟨_, rfl, at_set hw hf false false true⟩
  | bad => exact absurd rfl hc

theorem applyAll_spec (n : Nat) (ps : List (Nat × Cond)) :
    ∀ (b : BC), b.wf n → (∀ p ∈ ps, p.1 < n) →
      (applyAll b ps).1.wf n ∧
      (∀ f, (applyAll b ps).1.at f = lastType f (b.at f) (goodPrefix ps)) := by
  induction ps with
  | nil => intro b hw _; exact ⟨hw, fun _ => rfl⟩
  | cons p ps ih =>
    intro b hw hp
    rw [applyAll, goodPrefix]
    by_cases hbad : p.2 = .bad
    · rw [hbad, if_pos rfl]
      exact ⟨hw, fun _ => rfl⟩
    · obtain ⟨b', hc, hw', hat⟩ := assign_spec hw (hp p List.mem_cons_self) hbad
      obtain ⟨i1, i2⟩ := ih b' hw' (fun q hq => hp q (List.mem_cons_of_mem _ hq))
      rw [hc, if_neg hbad]
      exact ⟨i1, fun f => by rw [i2 f, hat f, ← lastType_cons]⟩

/-- the completion flag of the loop does not depend on the arrays -/
theorem applyAll_snd (ps : List (Nat × Cond)) : ∀ b : BC,
    (applyAll b ps).2 = ps.all (fun p => p.2 != .bad) := by
  induction ps with
  | nil => intro b; rfl
  | cons p ps ih =>
    intro b
    obtain ⟨f0, c⟩ := p
    cases c with
    | bad => rfl
    | _ => exact ih _

theorem prepare_some (g : Grid) (fa : Faces) (cs : Conds) (fs : List Int)
    (hr : resolveFaces g.nf fa = .ok fs) :
    prepare g fa (some cs) =
      if !(fs.all (inBf g)) then .error .notBoundary else
      if fs.length ≠ (expandConds fs.length cs).length then .error .length else
      .ok ((fs.map Int.toNat).zip (expandConds fs.length cs),
        !(fs.all (fun i => g.dom i.toNat || g.tip i.toNat))) := by
  rw [prepare, hr]

theorem prepare_mem {g : Grid} {fa : Faces} {cond : Option Conds} {pairs : List (Nat × Cond)} {w : Bool}
    (h : prepare g fa cond = .ok (pairs, w)) :
    ∃ fs, resolveFaces g.nf fa = .ok fs ∧ ∀ p ∈ pairs, (p.1 : Int) ∈ fs ∧ g.isBf p.1 = true := by
  cases cond with
  | none => cases h
  | some cs =>
    cases hr : resolveFaces g.nf fa with
    | error e => rw [prepare, hr] at h; cases h
    | ok fs =>
      refine ⟨fs, rfl, fun p hp => ?_⟩
      rw [prepare_some g fa cs fs hr] at h
      obtain ⟨hall, h⟩ := Common.ite_error_eq_ok.1 h
      obtain ⟨_, h⟩ := Common.ite_error_eq_ok.1 h
      injection h with h
      injection h with h
      rw [← h] at hp
      obtain ⟨i, hi, hi'⟩ := List.mem_map.mp (List.of_mem_zip hp).1
      rw [Bool.not_eq_true, Bool.not_eq_false'] at hall
      have hin := List.all_eq_true.mp hall i hi
      rw [inBf, Bool.and_eq_true, decide_eq_true_eq] at hin
      rw [← hi', Int.toNat_of_nonneg hin.1]
      exact ⟨hi, hin.2⟩

theorem prepare_ok {g : Grid} {fa : Faces} {cond : Option Conds} {pairs : List (Nat × Cond)} {w : Bool}
    (h : prepare g fa cond = .ok (pairs, w)) : ∀ p ∈ pairs, g.isBf p.1 = true := by
  obtain ⟨_, _, hm⟩ := prepare_mem h
  exact fun p hp => (hm p hp).2

theorem setBc_err (g : Grid) (b : BC) (faces : Option Faces) (cond : Option Conds) :
    (setBc g b faces cond).2 = callErr g faces cond := by
  cases faces with
  | none => rfl
  | some fa =>
    rw [setBc, callErr]
    cases prepare g fa cond with
    | error e => rfl
    | ok r => dsimp only; rw [applyAll_snd]

/-- The property for one triple of arrays: lengths fit the grid, every boundary face carries
    exactly one type, every other face (interior, or index out of range) carries none. -/
def Partition (g : Grid) (b : BC) : Prop :=
  b.wf g.nf ∧ ∀ f,
    (g.isBf f = true → exactlyOne (get b.neu f) (get b.dir f) (get b.rob f) = true) ∧
    (g.isBf f = false → b.at f = (false, false, false))

/-- `Partition` in terms of the flags `b.at f` of a face -/
theorem partition_iff (g : Grid) (b : BC) :
    Partition g b ↔ b.wf g.nf ∧ ∀ f,
      (g.isBf f = true → exactlyOne (b.at f).1 (b.at f).2.1 (b.at f).2.2 = true) ∧
      (g.isBf f = false → b.at f = (false, false, false)) := Iff.rfl

theorem partition_init (g : Grid) : Partition g (BC.init g) := by
  refine (partition_iff g _).mpr ⟨wf_init g, fun f => ?_⟩
  rw [at_init]
  cases g.isBf f with
  | true => exact ⟨fun _ => rfl, fun e => nomatch e⟩
  | false => exact ⟨(fun e => nomatch e), fun _ => rfl⟩

theorem partition_of_lastType {g : Grid} {b b' : BC} {ps : List (Nat × Cond)} (hb : Partition g b)
    (hps : ∀ p ∈ ps, g.isBf p.1 = true) (hw : b'.wf g.nf)
    (hat : ∀ f, b'.at f = lastType f (b.at f) ps) : Partition g b' := by
  refine (partition_iff g _).mpr ⟨hw, fun f => ?_⟩
  rw [hat f]
  rcases lastType_cases f ps (b.at f) with h | ⟨h, q, hq, hqf, _⟩
  · rw [h]; exact ((partition_iff g b).mp hb).2 f
  · -- a `dir`/`rob` pair names `f`, so `f` is a boundary face and now has exactly that type
    rw [show g.isBf f = true from hqf ▸ hps q hq]
    rcases h with h | h <;> rw [h] <;> exact ⟨fun _ => rfl, fun e => nomatch e⟩

theorem partition_applyAll (g : Grid) (b : BC) (ps : List (Nat × Cond)) (hb : Partition g b)
    (hps : ∀ p ∈ ps, g.isBf p.1 = true) : Partition g (applyAll b ps).1 :=
  have h := applyAll_spec g.nf ps b hb.1 fun p hp => isBf_lt g _ (hps p hp)
  partition_of_lastType hb (fun p hp => hps p (goodPrefix_subset ps p hp)) h.1 h.2

/-- one operation on one component (`stepV` does this to every component) -/
def stepBC (g : Grid) (b : BC) : VOp → BC
  | .setBc fa co => (setBc g b fa co).1
  | .internalToDirichlet => internalToDirichlet g b

theorem setBc_spec (g : Grid) (b : BC) (hw : b.wf g.nf) (fa : Option Faces) (co : Option Conds) :
    (setBc g b fa co).1.wf g.nf ∧
    ∀ f, (setBc g b fa co).1.at f = lastType f (b.at f) (executed g (.setBc fa co)) := by
  cases fa with
  | none => exact ⟨hw, fun f => rfl⟩
  | some fa =>
    rw [setBc, executed]
    cases hp : prepare g fa co with
    | error e => exact ⟨hw, fun f => rfl⟩
    | ok r =>
      exact applyAll_spec g.nf r.1 b hw fun p hp' => isBf_lt g _ (prepare_ok hp p hp')

theorem at_internalToDirichlet (g : Grid) (b : BC) (hw : b.wf g.nf) (f : Nat) :
    (internalToDirichlet g b).at f =
      if f < g.nf ∧ g.frac f = true then (false, true, false) else b.at f := by
  obtain ⟨h1, h2, h3⟩ := hw
  simp only [BC.at, internalToDirichlet, get_mapIdx_ite, h1, h2, h3]
  split <;> rfl

theorem internalToDirichlet_spec (g : Grid) (b : BC) (hw : b.wf g.nf) :
    (internalToDirichlet g b).wf g.nf ∧
    ∀ f, (internalToDirichlet g b).at f = lastType f (b.at f) (executed g .internalToDirichlet) := by
  refine ⟨?_, fun f => ?_⟩
  · obtain ⟨h1, h2, h3⟩ := hw
    exact ⟨List.length_mapIdx.trans h1, List.length_mapIdx.trans h2, List.length_mapIdx.trans h3⟩
  · simp only [at_internalToDirichlet g b hw, executed, lastType_all_dir, List.mem_filter, List.mem_range]

theorem stepBC_spec (g : Grid) (b : BC) (hw : b.wf g.nf) : ∀ o : VOp,
    (stepBC g b o).wf g.nf ∧ ∀ f, (stepBC g b o).at f = lastType f (b.at f) (executed g o)
  | .setBc fa co => setBc_spec g b hw fa co
  | .internalToDirichlet => internalToDirichlet_spec g b hw

theorem executed_on_boundary (g : Grid) (o : VOp) : ∀ p ∈ executed g o, g.isBf p.1 = true := by
  intro p hp
  cases o with
  | internalToDirichlet =>
    simp only [executed, List.mem_map, List.mem_filter, List.mem_range] at hp
    obtain ⟨f, ⟨hf, hr⟩, rfl⟩ := hp
    exact isBf_of_frac hf hr
  | setBc fa co =>
    cases fa with
    | none => cases hp
    | some fa =>
      cases hq : prepare g fa co with
      | error e => simp [executed, hq] at hp
      | ok r =>
        simp only [executed, hq] at hp
        exact prepare_ok hq p (goodPrefix_subset r.1 p hp)

theorem foldl_stepBC_spec (g : Grid) (ops : List VOp) : ∀ b : BC, b.wf g.nf →
    (ops.foldl (stepBC g) b).wf g.nf ∧
    ∀ f, (ops.foldl (stepBC g) b).at f = lastType f (b.at f) (ops.flatMap (executed g)) := by
  induction ops with
  | nil => intro b hw; exact ⟨hw, fun _ => rfl⟩
  | cons o os ih =>
    intro b hw
    obtain ⟨hw', hat⟩ := stepBC_spec g b hw o
    obtain ⟨h1, h2⟩ := ih _ hw'
    exact ⟨h1, fun f => by rw [List.foldl_cons, h2 f, hat f, List.flatMap_cons, lastType_append]⟩

theorem partition_foldl_stepBC (g : Grid) (b : BC) (hb : Partition g b) (ops : List VOp) :
    Partition g (ops.foldl (stepBC g) b) := by
  obtain ⟨hw, hat⟩ := foldl_stepBC_spec g ops b hb.1
  refine partition_of_lastType hb (fun p hp => ?_) hw hat
  obtain ⟨o, _, ho⟩ := List.mem_flatMap.mp hp
  exact executed_on_boundary g o p ho

theorem partition_setBc (g : Grid) (b : BC) (faces : Option Faces) (cond : Option Conds)
    (hb : Partition g b) : Partition g (setBc g b faces cond).1 :=
  partition_foldl_stepBC g b hb [.setBc faces cond]

theorem stepV_replicate (g : Grid) (n : Nat) (b : BC) (o : VOp) :
    stepV g (List.replicate n b) o = List.replicate n (stepBC g b o) := by
  cases o <;> exact List.map_replicate

theorem runOps_replicate (g : Grid) (n : Nat) (ops : List VOp) : ∀ b : BC,
    runOps g (List.replicate n b) ops = List.replicate n (ops.foldl (stepBC g) b) := by
  induction ops with
  | nil => intro b; rfl
  | cons o os ih => intro b; rw [runOps, stepV_replicate, ih, List.foldl_cons]

theorem runV_eq_runOps (g : Grid) (calls : List (Option Faces × Option Conds)) : ∀ v : VBC,
    runV g v calls = runOps g v (calls.map fun c => .setBc c.1 c.2) := by
  induction calls with
  | nil => intro v; rfl
  | cons c cs ih => intro v; exact ih _

theorem mkVector_ok {g : Grid} {dim : Nat} {faces : Option Faces} {cond : Option Conds} {v0 : VBC}
    (h : mkVector g dim faces cond = .ok v0) :
    v0 = List.replicate dim (stepBC g (BC.init g) (.setBc faces cond)) := by
  rw [mkVector] at h
  split at h
  · cases h; exact List.map_replicate
  · cases h

end PorepyVerif.C39
