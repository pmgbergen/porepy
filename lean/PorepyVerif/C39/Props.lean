/-
C39 — property theorems (statements depend on Model.lean and the definitions `BC.wf`,
`Partition` of Lemmas.lean).

Property: for any grid and any assignment of Dirichlet, Neumann and Robin conditions, every
boundary face carries exactly one condition type, interior non-fracture faces carry none,
unassigned boundary faces are Neumann, and the vectorial variant satisfies this per component.

A grid is (number of faces, domain-boundary tag, fracture tag, tip tag) — arbitrary.  Faces are
given as an index array (any order, repetitions, negative or too large entries allowed) or a
mask; conditions as one keyword or a list.

What "last assignment wins" means in the code: the loop writes only for `dir` and `rob`; the
keyword `neu` is `pass`.  Hence the type of a face after the call is the last `dir`/`rob`
given for it, and `neu` given after `dir` leaves the face Dirichlet (`neu_does_not_override`).
-/
import PorepyVerif.C39.Lemmas

namespace PorepyVerif.C39

/-- a successful scalar constructor is a successful `set_bc` on the default arrays -/
theorem mkScalar_ok {g : Grid} {faces : Option Faces} {cond : Option Conds} {b : BC} {w : Bool}
    (h : mkScalar g faces cond = .ok (b, w)) :
    b = (setBc g (BC.init g) faces cond).1 ∧ (setBc g (BC.init g) faces cond).2 = none := by
  cases faces with
  | none =>
    simp only [mkScalar, Except.ok.injEq, Prod.mk.injEq] at h
    exact ⟨h.1.symm, rfl⟩
  | some fa =>
    simp only [mkScalar, setBc] at h ⊢
    cases hp : prepare g fa cond with
    | error e => rw [hp] at h; cases h
    | ok r =>
      simp only [hp] at h ⊢
      split at h
      · rename_i hflag
        simp only [Except.ok.injEq, Prod.mk.injEq] at h
        exact ⟨h.1.symm, if_pos hflag⟩
      · cases h

theorem mkScalar_partition {g : Grid} {faces : Option Faces} {cond : Option Conds} {b : BC} {w : Bool}
    (h : mkScalar g faces cond = .ok (b, w)) : Partition g b :=
  (mkScalar_ok h).1 ▸ partition_setBc g _ faces cond (partition_init g)

/-- Every boundary face (domain boundary, fracture or tip) carries exactly one condition type. -/
theorem bc_exactly_one_on_boundary (g : Grid) (faces : Option Faces) (cond : Option Conds) (b : BC)
    (w : Bool) (h : mkScalar g faces cond = .ok (b, w)) (f : Nat) (hf : g.isBf f = true) :
    exactlyOne (get b.neu f) (get b.dir f) (get b.rob f) = true :=
  ((mkScalar_partition h).2 f).1 hf

/-- Faces that are not boundary faces (interior non-fracture faces) carry no condition;
    the arrays have exactly `nf` entries. -/
theorem bc_none_on_interior (g : Grid) (faces : Option Faces) (cond : Option Conds) (b : BC)
    (w : Bool) (h : mkScalar g faces cond = .ok (b, w)) :
    (b.neu.length = g.nf ∧ b.dir.length = g.nf ∧ b.rob.length = g.nf) ∧
    ∀ f, g.isBf f = false → get b.neu f = false ∧ get b.dir f = false ∧ get b.rob f = false := by
  have hP := mkScalar_partition h
  refine ⟨hP.1, fun f hf => ?_⟩
  have := (hP.2 f).2 hf
  simp only [BC.at, Prod.mk.injEq] at this
  exact this

/-- One `set_bc` call on one component: every face gets the last `dir`/`rob` among the pairs
    executed before the first unknown keyword, and keeps its type otherwise. -/
theorem set_bc_type_is_last_assignment (g : Grid) (b : BC) (hb : Partition g b) (fa : Faces)
    (cond : Option Conds) (pairs : List (Nat × Cond)) (w : Bool)
    (hp : prepare g fa cond = .ok (pairs, w)) (f : Nat) :
    (setBc g b (some fa) cond).1.at f = lastType f (b.at f) (goodPrefix pairs) := by
  have h := (setBc_spec g b hb.1 (some fa) cond).2 f
  simp only [executed, hp] at h
  exact h

/-- Refinement: the constructed arrays hold, at every face, the last `dir`/`rob` among the
    (face, cond) pairs, starting from the default (Neumann on boundary faces, nothing elsewhere). -/
theorem bc_type_is_last_assignment (g : Grid) (fa : Faces) (cond : Option Conds) (b : BC) (w w' : Bool)
    (pairs : List (Nat × Cond)) (hp : prepare g fa cond = .ok (pairs, w'))
    (h : mkScalar g (some fa) cond = .ok (b, w)) (f : Nat) :
    b.at f = lastType f (g.isBf f, false, false) pairs := by
  obtain ⟨rfl, he⟩ := mkScalar_ok h
  rw [setBc_err] at he
  simp only [callErr, hp] at he
  have hall : pairs.all (fun p => p.2 != .bad) = true :=
    Decidable.byContradiction fun hc => by rw [if_neg hc] at he; cases he
  rw [set_bc_type_is_last_assignment g _ (partition_init g) fa cond pairs w' hp f, at_init,
    goodPrefix_of_all_good pairs hall]

/-- Unassigned boundary faces are Neumann (no argument at all). -/
theorem bc_default_neumann_no_faces (g : Grid) (cond : Option Conds) (b : BC) (w : Bool)
    (h : mkScalar g none cond = .ok (b, w)) (f : Nat) (hf : g.isBf f = true) :
    b.at f = (true, false, false) := by
  cases h
  rw [at_init, hf]

/-- Unassigned boundary faces are Neumann: a boundary face that does not occur in the face
    argument (index list, or true positions of the mask) is Neumann and nothing else. -/
theorem bc_default_neumann (g : Grid) (fa : Faces) (cond : Option Conds) (b : BC) (w : Bool)
    (fs : List Int) (hfs : resolveFaces g.nf fa = .ok fs)
    (h : mkScalar g (some fa) cond = .ok (b, w)) (f : Nat) (hf : g.isBf f = true)
    (hnot : (f : Int) ∉ fs) : b.at f = (true, false, false) := by
  cases hp : prepare g fa cond with
  | error e => simp [mkScalar, hp] at h
  | ok r =>
    obtain ⟨pairs, w'⟩ := r
    rw [bc_type_is_last_assignment g fa cond b w w' pairs hp h f, hf]
    -- a pair naming `f` would make `f` one of the resolved indices
    refine lastType_eq_self f _ pairs (fun p hp' e => absurd ?_ hnot)
    obtain ⟨fs', hfs', hm⟩ := prepare_mem hp
    rw [hfs, Except.ok.injEq] at hfs'
    rw [hfs', ← e]
    exact (hm p hp').1

/-- Last assignment wins, as coded: if the last `dir`/`rob` given for face `f` is `c`
    (anything after it for `f` is `neu`), the face has exactly type `c`. -/
theorem bc_last_assignment_wins (g : Grid) (fa : Faces) (cond : Option Conds) (b : BC) (w w' : Bool)
    (pre post : List (Nat × Cond)) (f : Nat) (c : Cond) (hc : c = .dir ∨ c = .rob)
    (hp : prepare g fa cond = .ok (pre ++ (f, c) :: post, w'))
    (hpost : ∀ p ∈ post, p.1 = f → p.2 = .neu)
    (h : mkScalar g (some fa) cond = .ok (b, w)) :
    b.at f = (false, c == .dir, c == .rob) := by
  rw [bc_type_is_last_assignment g fa cond b w w' _ hp h f,
    lastType_append_last f _ pre post c (fun p hp' e => Or.inl (hpost p hp' e))]
  rcases hc with rfl | rfl <;> exact if_pos rfl

/-- `neu` is not an assignment: `neu` given for `f` after the other pairs leaves the face as
    those pairs made it — in particular `dir` followed by `neu` on the same face stays Dirichlet. -/
theorem neu_does_not_override (g : Grid) (fa : Faces) (cond : Option Conds) (b : BC) (w w' : Bool)
    (pre post : List (Nat × Cond)) (f : Nat)
    (hp : prepare g fa cond = .ok (pre ++ (f, .neu) :: post, w'))
    (hpost : ∀ p ∈ post, p.1 = f → p.2 = .neu)
    (h : mkScalar g (some fa) cond = .ok (b, w)) :
    b.at f = lastType f (g.isBf f, false, false) pre := by
  rw [bc_type_is_last_assignment g fa cond b w w' _ hp h f,
    lastType_append_last f _ pre post .neu (fun p hp' e => Or.inl (hpost p hp' e))]
  exact ite_self _

/-- Per component: after the constructor and ANY sequence of `set_bc` calls — including calls
    that raise, some after writing part of their pairs — every component (row of the
    `(dim, num_faces)` arrays) satisfies the partition invariant, there are `dim` components,
    and all components are equal. -/
theorem bcv_componentwise (g : Grid) (dim : Nat) (faces : Option Faces) (cond : Option Conds)
    (v0 : VBC) (h0 : mkVector g dim faces cond = .ok v0)
    (calls : List (Option Faces × Option Conds)) :
    (runV g v0 calls).length = dim ∧
    (∀ b ∈ runV g v0 calls, Partition g b) ∧
    (∀ b ∈ runV g v0 calls, ∀ b' ∈ runV g v0 calls, b = b') := by
  rw [mkVector_ok h0, runV_eq_runOps, runOps_replicate]
  refine ⟨List.length_replicate, fun b hb => ?_, fun b hb b' hb' => ?_⟩
  · rw [List.eq_of_mem_replicate hb]
    exact partition_foldl_stepBC g _ (partition_init g) (.setBc faces cond :: _)
  · rw [List.eq_of_mem_replicate hb, List.eq_of_mem_replicate hb']

/-- The three flag arrays after any history depend only on the last `dir`/`rob` written per
    (component, face): for every component `b` and every face `f` (boundary, interior or out of
    range) the triple (is_neu, is_dir, is_rob) equals `lastType` over the concatenation of the
    pairs each operation really executed, starting from the default — Neumann on every boundary
    face, which on split fractured grids includes the internal-boundary (fracture) faces.
    Failing `set_bc` calls contribute their executed prefix (or nothing if validation failed);
    `internal_to_dirichlet` contributes a `dir` for every fracture face. Every component also
    satisfies the partition invariant. -/
theorem bcv_history_last_assignment (g : Grid) (dim : Nat) (faces : Option Faces) (cond : Option Conds)
    (v0 : VBC) (h0 : mkVector g dim faces cond = .ok v0) (ops : List VOp) :
    (runOps g v0 ops).length = dim ∧
    ∀ b ∈ runOps g v0 ops, Partition g b ∧
      ∀ f, b.at f = lastType f (g.isBf f, false, false)
        (executed g (.setBc faces cond) ++ ops.flatMap (executed g)) := by
  rw [mkVector_ok h0, runOps_replicate]
  refine ⟨List.length_replicate, fun b hb => ?_⟩
  -- every component is the history `set_bc faces cond :: ops` run on the default arrays
  rw [List.eq_of_mem_replicate hb]
  refine ⟨partition_foldl_stepBC g _ (partition_init g) (.setBc faces cond :: ops), fun f => ?_⟩
  rw [← at_init, ← List.flatMap_cons]
  exact (foldl_stepBC_spec g (.setBc faces cond :: ops) _ (wf_init g)).2 f

/-- Internal-boundary default on split fractured grids: a fracture face that no executed pair
    names is Neumann (and nothing else) in every component, after any history. -/
theorem bcv_internal_boundary_default (g : Grid) (dim : Nat) (faces : Option Faces) (cond : Option Conds)
    (v0 : VBC) (h0 : mkVector g dim faces cond = .ok v0) (ops : List VOp) (f : Nat)
    (hf : f < g.nf) (hfrac : g.frac f = true)
    (hnot : ∀ p ∈ executed g (.setBc faces cond) ++ ops.flatMap (executed g), p.1 ≠ f) :
    ∀ b ∈ runOps g v0 ops, b.at f = (true, false, false) := by
  intro b hb
  rw [((bcv_history_last_assignment g dim faces cond v0 h0 ops).2 b hb).2 f,
    lastType_eq_self f _ _ (fun p hp e => absurd e (hnot p hp)), isBf_of_frac hf hfrac]

/-- `internal_to_dirichlet` (which clears the Robin flag too, /repo 9210c8da9): afterwards every
    fracture face is Dirichlet only, every other face is unchanged. -/
theorem internal_to_dirichlet_spec (g : Grid) (b : BC) (hb : Partition g b) (f : Nat) :
    (internalToDirichlet g b).at f =
      if f < g.nf ∧ g.frac f = true then (false, true, false) else b.at f :=
  at_internalToDirichlet g b hb.1 f

/-! error cases (all `ValueError` in the code, except the assertion) -/

/-- a mask of the wrong size is rejected -/
theorem bc_rejects_wrong_mask (g : Grid) (m : List Bool) (cs : Conds) (hm : m.length ≠ g.nf) :
    mkScalar g (some (.mask m)) (some cs) = .error .maskSize ∧
    callErr g (some (.mask m)) (some cs) = some .maskSize := by
  simp [mkScalar, callErr, prepare, resolveFaces, hm]

/-- a face that is not a boundary face (interior, negative, too large) is rejected, nothing is written -/
theorem bc_rejects_non_boundary (g : Grid) (fa : Faces) (cs : Conds) (fs : List Int)
    (hfs : resolveFaces g.nf fa = .ok fs) (i : Int) (hi : i ∈ fs) (hbad : inBf g i = false) (b : BC) :
    mkScalar g (some fa) (some cs) = .error .notBoundary ∧
    setBc g b (some fa) (some cs) = (b, some .notBoundary) := by
  have hall : fs.all (inBf g) = false := by
    rw [List.all_eq_false]; exact ⟨i, hi, by simp [hbad]⟩
  simp [mkScalar, setBc, prepare, hfs, hall]

/-- the number of keywords must equal the number of faces -/
theorem bc_rejects_length_mismatch (g : Grid) (fa : Faces) (cl : List Cond) (fs : List Int)
    (hfs : resolveFaces g.nf fa = .ok fs) (hall : fs.all (inBf g) = true)
    (hlen : fs.length ≠ cl.length) (b : BC) :
    mkScalar g (some fa) (some (.many cl)) = .error .length ∧
    setBc g b (some fa) (some (.many cl)) = (b, some .length) := by
  simp [mkScalar, setBc, prepare, hfs, hall, expandConds, hlen]

/-- an unknown keyword is rejected: the scalar constructor fails, `set_bc` raises -/
theorem bc_rejects_unknown_keyword (g : Grid) (fa : Faces) (cond : Option Conds)
    (pairs : List (Nat × Cond)) (w : Bool) (hp : prepare g fa cond = .ok (pairs, w))
    (p : Nat × Cond) (hmem : p ∈ pairs) (hbad : p.2 = .bad) (b : BC) :
    mkScalar g (some fa) cond = .error .unknown ∧ (setBc g b (some fa) cond).2 = some .unknown := by
  have hall : pairs.all (fun p => p.2 != .bad) = false := by
    rw [List.all_eq_false]; exact ⟨p, hmem, by simp [hbad]⟩
  constructor
  · simp [mkScalar, hp, applyAll_snd, hall]
  · rw [setBc_err]; simp [callErr, hp, hall]

/-! non-vacuity: concrete grids and assignments -/

deriving instance DecidableEq for Except

/-- 6 faces; 0,1 domain boundary, 2 fracture, 5 tip, 3,4 interior -/
def gEx : Grid := ⟨6, fun f => f < 2, fun f => f == 2, fun f => f == 5⟩

/-- rob then dir on face 0 (the F6 input), dir then neu on face 1 (stays Dirichlet),
    rob on the fracture face 2 (warns), face 5 unassigned (Neumann) -/
example :
    mkScalar gEx (some (.idx [0, 0, 1, 1, 2])) (some (.many [.rob, .dir, .dir, .neu, .rob]))
      = .ok (⟨[false, false, false, false, false, true],
              [true, true, false, false, false, false],
              [false, false, true, false, false, false]⟩, true) := by decide +kernel

example : mkScalar gEx (some (.mask [true, false, false, false, false, true])) (some (.one .dir))
      = .ok (⟨[false, true, true, false, false, false],
              [true, false, false, false, false, true],
              [false, false, false, false, false, false]⟩, false) := by decide +kernel

example : mkScalar gEx (some (.idx [3])) (some (.one .dir)) = .error .notBoundary := by decide +kernel
example : mkScalar gEx (some (.idx [-1])) (some (.one .dir)) = .error .notBoundary := by decide +kernel
example : mkScalar gEx (some (.idx [0, 1])) (some (.many [.dir])) = .error .length := by decide +kernel
example : mkScalar gEx (some (.idx [0, 1])) (some (.many [.dir, .bad])) = .error .unknown := by decide +kernel
example : mkScalar gEx (some (.mask [true])) (some (.one .dir)) = .error .maskSize := by decide +kernel
example : mkScalar gEx (some (.idx [0])) none = .error .assertion := by decide +kernel

/-- vectorial, 2 components: constructor, then a `set_bc` that raises after writing face 0 -/
example :
    (mkVector gEx 2 (some (.idx [0])) (some (.one .rob))).toOption.map
      (fun v => runV gEx v [(some (.idx [0, 1, 2]), some (.many [.dir, .bad, .rob]))])
      = some (List.replicate 2 ⟨[false, true, true, false, false, true],
                                [true, false, false, false, false, false],
                                [false, false, false, false, false, false]⟩) := by decide +kernel

/-- `internalToDirichletCoded` — the method before /repo 9210c8da9, which left the Robin flag untouched
    (the recorded finding) — makes face 2 (fracture, Robin before) Dirichlet AND Robin;
    `internalToDirichlet` clears the flag. -/
example :
    (mkVector gEx 1 (some (.idx [2])) (some (.one .rob))).toOption.map
      (fun v => (v.map (internalToDirichletCoded gEx), v.map (internalToDirichlet gEx)))
      = some ([⟨[true, true, false, false, false, true], [false, false, true, false, false, false],
                [false, false, true, false, false, false]⟩],
              [⟨[true, true, false, false, false, true], [false, false, true, false, false, false],
                [false, false, false, false, false, false]⟩]) := by decide +kernel

example : parseCond "DiR" = .dir ∧ parseCond "neu" = .neu ∧ parseCond "Rob" = .rob ∧ parseCond "dirichlet" = .bad := by
  decide +kernel

end PorepyVerif.C39
