/-
C34 — property theorems (statements only depend on Model.lean; the lemmas are in Dist, Walk, Greedy, Lemmas).

Property: for point sets made of well-separated clusters, uniquification returns one
representative per cluster, the first-occurring member, in order of first occurrence, with index
maps linking every point to its cluster.  Column membership and tolerance-based set intersection
agree with brute-force comparison.

The uniquification theorems are about `uniquify Rule.chain` (norm pre-clustering compares with the
previous norm — the repaired algorithm).  `anchor_rule_splits_cluster` shows that they are false
for `Rule.anchor`, the rule the code uses today (finding F4).
-/
import PorepyVerif.C34.Lemmas

namespace PorepyVerif.C34

variable {t : Rat} {pts : List Pt} {cl : Nat → Nat}

/-- The wording of the property implies `Separated`: cluster diameter below `ε·tol` with
    `0 ≤ ε ≤ 1`, points of different clusters farther apart than `tol`. -/
theorem separated_of_margins (ε : Rat) (hε0 : 0 ≤ ε) (hε1 : ε ≤ 1)
    (hsame : ∀ i j p q, pts[i]? = some p → pts[j]? = some q → cl i = cl j →
      dist2 p q < (ε * t) * (ε * t))
    (hdiff : ∀ i j p q, pts[i]? = some p → pts[j]? = some q → cl i ≠ cl j → t * t < dist2 p q) :
    Separated t pts cl := by
  intro i j p q hi hj
  have hle : (ε * t) * (ε * t) ≤ t * t := by
    rw [mul_mul_mul_comm]
    exact mul_le_of_le_one_left (mul_self_nonneg t) (mul_le_one₀ hε1 hε0 hε1)
  constructor
  · intro h
    exact lt_of_lt_of_le (hsame i j p q hi hj h) hle
  · intro h
    by_contra hne
    exact lt_asymm h (hdiff i j p q hi hj hne)

/-- the decidable check used for concrete data implies `Separated` -/
theorem separated_of_check (labels : List Nat) (h : separatedB t pts labels = true) :
    Separated t pts (fun i => labels.getD i 0) := by
  intro i j p q hi hj
  simp only [separatedB, List.all_eq_true] at h
  have := h (i, p) (mem_enumFrom_zero.mpr hi) (j, q) (mem_enumFrom_zero.mpr hj)
  rwa [beq_iff_eq, decide_eq_decide] at this

/-- `new_2_old` is exactly the ascending list of the first-occurring member of every cluster:
    one representative per cluster, the first member, in order of first occurrence. -/
theorem uniq_first_member (hsep : Separated t pts cl) :
    (uniquify .chain t pts).new2old = firsts cl pts.length :=
  (uniquify_chain_spec hsep).reps

/-- the representatives appear in order of first occurrence (strictly increasing indices) -/
theorem uniq_order_first_occurrence (hsep : Separated t pts cl) :
    (uniquify .chain t pts).new2old.Pairwise (· < ·) := by
  rw [uniq_first_member hsep]
  exact firsts_sorted cl _

/-- the returned points are the input columns at `new_2_old` -/
theorem uniq_points (hsep : Separated t pts cl) :
    (uniquify .chain t pts).pts = (uniquify .chain t pts).new2old.map (fun i => pts.getD i []) := by
  rw [(uniquify_chain_spec hsep).reps, (uniquify_chain_spec hsep).cols]

/-- `old_2_new` sends every point to the representative of its cluster, and that representative is
    the first-occurring member of the cluster. -/
theorem uniq_maps_consistent (hsep : Separated t pts cl) :
    (uniquify .chain t pts).old2new.length = pts.length ∧
    ∀ i, i < pts.length → ∃ r j : Nat, (uniquify .chain t pts).old2new[i]? = some r ∧
      (uniquify .chain t pts).new2old[r]? = some j ∧ cl j = cl i ∧ j ≤ i ∧
      ∀ j', j' < pts.length → cl j' = cl i → j ≤ j' := by
  have h := uniquify_chain_spec hsep
  refine ⟨h.len, fun i hi => ?_⟩
  obtain ⟨r, j, hr, hj, hcl⟩ := h.map i hi
  have hjm := List.mem_of_getElem? hj
  exact ⟨r, j, hr, h.reps ▸ hj, hcl, firsts_le hjm hcl,
    fun j' _ hcl' => firsts_le hjm (hcl.trans hcl'.symm)⟩

/-- exactly one representative per cluster -/
theorem uniq_one_per_cluster (hsep : Separated t pts cl) (i : Nat) (hi : i < pts.length) :
    ∃ r j : Nat, (uniquify .chain t pts).new2old[r]? = some j ∧ cl j = cl i ∧
      ∀ r' j' : Nat, (uniquify .chain t pts).new2old[r']? = some j' → cl j' = cl i → r' = r := by
  have h := uniquify_chain_spec hsep
  obtain ⟨r, j, _, hj, hcl⟩ := h.map i hi
  rw [h.reps]
  exact ⟨r, j, hj, hcl, fun r' j' hj' hcl' => firsts_idx_inj hj' hj (hcl'.trans hcl.symm)⟩

/-- the two index maps are inverse to each other on the representatives -/
theorem uniq_old2new_new2old (hsep : Separated t pts cl) (r j : Nat)
    (hr : (uniquify .chain t pts).new2old[r]? = some j) :
    (uniquify .chain t pts).old2new[j]? = some r := by
  have h := uniquify_chain_spec hsep
  rw [h.reps] at hr
  obtain ⟨r0, j0, h0, hr0, hcl0⟩ := h.map j (mem_firsts.mp (List.mem_of_getElem? hr)).1
  rw [firsts_idx_inj hr hr0 hcl0.symm]
  exact h0

/-- two points get the same `old_2_new` entry iff they belong to the same cluster -/
theorem uniq_old2new_eq_iff (hsep : Separated t pts cl) (i j : Nat) (hi : i < pts.length)
    (hj : j < pts.length) :
    (uniquify .chain t pts).old2new[i]? = (uniquify .chain t pts).old2new[j]? ↔ cl i = cl j := by
  have h := uniquify_chain_spec hsep
  obtain ⟨ri, ji, hri, hni, hcli⟩ := h.map i hi
  obtain ⟨rj, jj, hrj, hnj, hclj⟩ := h.map j hj
  rw [hri, hrj, Option.some_inj]
  constructor
  · rintro rfl
    cases hni.symm.trans hnj
    exact hcli.symm.trans hclj
  · exact fun hc => firsts_idx_inj hni hnj (hcli.trans (hc.trans hclj.symm))

/-- `fracs.utils.uniquify_points`: edges whose end points fall into the same cluster are deleted
    (and reported), all others survive in order with their end points renumbered by `old_2_new` and their tags untouched. -/
theorem uniquifyPoints_edges (hsep : Separated t pts cl) (edges : List (List Nat))
    (hvalid : ∀ e ∈ edges, ∃ a b tags, e = a :: b :: tags ∧ a < pts.length ∧ b < pts.length) :
    (uniquifyPoints .chain t pts edges).1 = (uniquify .chain t pts).pts ∧
    (uniquifyPoints .chain t pts edges).2.1 =
      (edges.filter (fun e => !sameCluster cl e)).map (mapEdge (uniquify .chain t pts).old2new) ∧
    ∀ k, k ∈ (uniquifyPoints .chain t pts edges).2.2 ↔
      ∃ e, edges[k]? = some e ∧ sameCluster cl e = true := by
  have hpe : ∀ e ∈ edges, isPointEdge (mapEdge (uniquify .chain t pts).old2new e) = sameCluster cl e := by
    intro e he
    obtain ⟨a, b, tags, rfl, ha, hb⟩ := hvalid e he
    have hiff := uniq_old2new_eq_iff hsep a b ha hb
    obtain ⟨ra, _, hra, _⟩ := (uniq_maps_consistent hsep).2 a ha
    obtain ⟨rb, _, hrb, _⟩ := (uniq_maps_consistent hsep).2 b hb
    simp only [mapEdge, isPointEdge, sameCluster, List.getD_eq_getElem?_getD, hra, hrb, Option.getD_some]
    rw [hra, hrb, Option.some_inj] at hiff
    rw [Bool.eq_iff_iff, beq_iff_eq, decide_eq_true_iff]
    exact hiff
  refine ⟨rfl, ?_, ?_⟩
  · show ((edges.map (mapEdge _)).filter (fun e => !isPointEdge e)) = _
    rw [List.filter_map]
    congr 1
    exact List.filter_congr (fun e he => by simp [hpe e he])
  · intro k
    show k ∈ ((enumFrom 0 (edges.map (mapEdge _))).filter (fun p => isPointEdge p.2)).map (·.1) ↔ _
    rw [mem_filter_enum_map_fst edges (mapEdge _) isPointEdge k]
    refine exists_congr fun e => and_congr_right fun hek => ?_
    rw [hpe e (List.mem_of_getElem? hek)]

/-- in `sort=True` mode two columns match iff they are permutations of each other -/
theorem sortCol_eq_iff_perm (c d : Col) : colKey true c = colKey true d ↔ c.Perm d := by
  simp only [colKey, if_true]
  exact sortCol_eq_sortCol_iff_perm c d

/-- reading of the brute-force specification: the mask, the number of returned indices, and that the
    first-match index `b.findIdx …` of a member column points at a matching column of `b`.  That the
    returned index list IS the list of these `findIdx` values is `ismember_eq_brute` (second
    component of `bruteMember`); it is not restated here. -/
theorem ismember_spec (a b : List Col) (sort : Bool) :
    (ismember a b sort).1 = a.map (fun c => decide (∃ d ∈ b, colKey sort c = colKey sort d)) ∧
    (ismember a b sort).2.length = ((ismember a b sort).1.filter id).length ∧
    ∀ c ∈ a, (∃ d ∈ b, colKey sort c = colKey sort d) →
      ∃ d, b[b.findIdx (fun d => decide (colKey sort c = colKey sort d))]? = some d ∧
        colKey sort c = colKey sort d := by
  rw [ismember_eq_brute]
  refine ⟨?_, ?_, ?_⟩
  · simp only [bruteMember]
    refine List.map_congr_left (fun c _ => ?_)
    rw [Bool.eq_iff_iff, List.any_eq_true, decide_eq_true_iff]
    simp only [decide_eq_true_iff]
  · simp only [bruteMember, List.length_map, List.filter_map]
    rfl
  · rintro c _ ⟨d, hd, hcd⟩
    have hlt : b.findIdx (fun d => decide (colKey sort c = colKey sort d)) < b.length :=
      List.findIdx_lt_length_of_exists ⟨d, hd, decide_eq_true hcd⟩
    refine ⟨b[b.findIdx (fun d => decide (colKey sort c = colKey sort d))], List.getElem?_eq_getElem hlt, ?_⟩
    exact of_decide_eq_true (List.findIdx_getElem (w := hlt))

/-- `intersect_sets` agrees with brute-force comparison: the pair lists, `ia`, `ib` (sorted,
    duplicate-free) and the mask `a_in_b`. -/
theorem intersect_spec (a b : List Pt) :
    (∀ (i : Nat) (l : List Nat), (intersectSets t a b).inter[i]? = some l ↔
        ∃ p : Pt, a[i]? = some p ∧ l = neighbours t b p) ∧
    (∀ (p : Pt) (j : Nat), j ∈ neighbours t b p ↔ ∃ q : Pt, b[j]? = some q ∧ dist2 p q ≤ t * t) ∧
    (∀ i, i ∈ (intersectSets t a b).ia ↔
        ∃ (p q : Pt) (j : Nat), a[i]? = some p ∧ b[j]? = some q ∧ dist2 p q ≤ t * t) ∧
    (∀ j, j ∈ (intersectSets t a b).ib ↔
        ∃ (p q : Pt) (i : Nat), a[i]? = some p ∧ b[j]? = some q ∧ dist2 p q ≤ t * t) ∧
    (intersectSets t a b).ia.Pairwise (· < ·) ∧ (intersectSets t a b).ib.Pairwise (· < ·) ∧
    (intersectSets t a b).aInB = a.map (fun p => decide (∃ q ∈ b, dist2 p q ≤ t * t)) := by
  refine ⟨?_, fun p j => mem_neighbours, ?_, ?_, filter_enum_fst_sorted _ _, dedup_sorted_strict _, ?_⟩
  · intro i l
    show (a.map (neighbours t b))[i]? = some l ↔ _
    rw [List.getElem?_map, Option.map_eq_some_iff]
    exact exists_congr fun p => and_congr_right fun _ => eq_comm
  · intro i
    show i ∈ ((enumFrom 0 (a.map (neighbours t b))).filter (fun r => !r.2.isEmpty)).map (·.1) ↔ _
    rw [mem_filter_enum_map_fst a (neighbours t b) (fun l => !l.isEmpty) i]
    simp only [Bool.not_eq_true', List.isEmpty_eq_false_iff_exists_mem, mem_neighbours]
    constructor
    · rintro ⟨p, hp, j, q, hj, hd⟩
      exact ⟨p, q, j, hp, hj, hd⟩
    · rintro ⟨p, q, j, hp, hj, hd⟩
      exact ⟨p, hp, j, q, hj, hd⟩
  · intro j
    show j ∈ dedup (isortBy _ (a.map (neighbours t b)).flatten) ↔ _
    rw [mem_dedup, mem_isortBy, List.mem_flatten]
    constructor
    · rintro ⟨l, hl, hj⟩
      obtain ⟨p, hp, rfl⟩ := List.mem_map.mp hl
      obtain ⟨q, hq⟩ := mem_neighbours.mp hj
      obtain ⟨i, hi⟩ := List.mem_iff_getElem?.mp hp
      exact ⟨p, q, i, hi, hq⟩
    · rintro ⟨p, q, i, hi, hq⟩
      exact ⟨neighbours t b p, List.mem_map.mpr ⟨p, List.mem_of_getElem? hi, rfl⟩,
        mem_neighbours.mpr ⟨q, hq⟩⟩
  · show (a.map (neighbours t b)).map (fun l => !l.isEmpty) = _
    rw [List.map_map]
    refine List.map_congr_left (fun p _ => ?_)
    rw [Bool.eq_iff_iff, Function.comp, Bool.not_eq_true', neighbours_isEmpty, decide_eq_true_iff]

/-- for a well-separated set `b` (distinct points farther apart than `2·tol`) every point of `a`
    matches at most one point of `b` -/
theorem intersect_unique_match (b : List Pt)
    (hb : ∀ (j j' : Nat) (q q' : Pt), b[j]? = some q → b[j']? = some q' → j ≠ j' →
      4 * (t * t) < dist2 q q')
    (p : Pt) (j j' : Nat) (hj : j ∈ neighbours t b p) (hj' : j' ∈ neighbours t b p) : j = j' := by
  obtain ⟨q, hq, hd⟩ := mem_neighbours.mp hj
  obtain ⟨q', hq', hd'⟩ := mem_neighbours.mp hj'
  by_contra hne
  have h1 := hb j j' q q' hq hq' hne
  have h2 := dist2_triangle p q q'
  linarith

/-! ### finding F4: the rule used by the code today (anchor on the first norm) splits a cluster -/

/-- Witness (the recorded input scaled to integers, `tol = 100`): the far-away point `(0, 99905)`
    anchors a norm cluster that contains `(100004, 0)` (norm difference 99) but not `(100006, 0)`
    (norm difference 101), although these two points are only 2 apart.  With the anchor rule the
    model returns three unique points, with the chain rule the two clusters. -/
theorem anchor_rule_splits_cluster :
    ∃ (t : Rat) (pts : List Pt) (cl : Nat → Nat), Separated t pts cl ∧
      (uniquify .anchor t pts).new2old ≠ firsts cl pts.length ∧
      (uniquify .chain t pts).new2old = firsts cl pts.length :=
  ⟨100, [[0, 99905], [100004, 0], [100006, 0]], fun i => [0, 1, 1].getD i 0,
    separated_of_check _ (by decide +kernel), by decide +kernel, by decide +kernel⟩

example : uniquify .anchor 100 [[0, 99905], [100004, 0], [100006, 0]] =
    { pts := [[0, 99905], [100004, 0], [100006, 0]], new2old := [0, 1, 2], old2new := [0, 1, 2] } := by
  decide +kernel

example : uniquify .chain 100 [[0, 99905], [100004, 0], [100006, 0]] =
    { pts := [[0, 99905], [100004, 0]], new2old := [0, 1], old2new := [0, 1, 1] } := by
  decide +kernel

/-! ### when the current (anchor) code agrees with the chain rule

By `uniquify_eq_greedy_within_norm_clusters` the two rules can only differ through their norm
clusters, and they produce the same norm clusters exactly when they take the same "open a new
cluster" decision at every step of the walk over the sorted norms (`anchorAgrees`, a decidable
condition on the sorted squared norms). -/

/-- anchor and chain rule produce the same norm clusters iff `anchorAgrees` -/
theorem anchor_eq_chain_iff (t : Rat) (pts : List Pt) :
    normGroups .anchor t pts = normGroups .chain t pts ↔ anchorAgrees t pts = true := by
  unfold anchorAgrees normGroups
  generalize isortBy (fun x y : Item => decide (norm2 x.2 ≤ norm2 y.2)) (enumFrom 0 pts) = sorted
  cases sorted with
  | nil => simp [normClusters]
  | cons x rest =>
    simp only [normClusters, List.map_cons]
    have := walk_anchor_eq_chain_iff t (x :: rest) (norm2 x.2) (norm2 x.2)
    simpa only [List.map_cons] using this

/-- sufficient condition (no separation hypothesis needed): if the decisions agree, the current
    code computes exactly what the repaired algorithm computes -/
theorem uniquify_anchor_eq_chain (t : Rat) (pts : List Pt) (h : anchorAgrees t pts = true) :
    uniquify .anchor t pts = uniquify .chain t pts := by
  have hnc := (anchor_eq_chain_iff t pts).mpr h
  rw [uniquify_eq_greedy_within_norm_clusters, uniquify_eq_greedy_within_norm_clusters, slotState,
    slotState, hnc]

/-- … hence on separated inputs on which the decisions agree the CURRENT code satisfies the property -/
theorem anchor_correct_of_agree (hsep : Separated t pts cl) (h : anchorAgrees t pts = true) :
    (uniquify .anchor t pts).new2old = firsts cl pts.length ∧
    (uniquify .anchor t pts).pts = (firsts cl pts.length).map (fun i => pts.getD i []) ∧
    (uniquify .anchor t pts).old2new = (uniquify .chain t pts).old2new := by
  have hr := uniquify_spec_of_grouping .anchor hsep
    ((anchor_eq_chain_iff t pts).mpr h ▸ chain_grouping hsep)
  exact ⟨hr.reps, hr.cols, congrArg Result.old2new (uniquify_anchor_eq_chain t pts h)⟩

/-- on the F4 witness the decisions differ (and so do the results, `anchor_rule_splits_cluster`) -/
example : anchorAgrees 100 [[0, 99905], [100004, 0], [100006, 0]] = false := by decide +kernel

example : anchorAgrees (1 / 10) [[1, 0], [0, 101 / 100], [102 / 100, 0], [0, 0], [0, 103 / 100]] = true := by
  decide +kernel

/-! ### non-vacuity: concrete data satisfying the hypotheses, and the computed results -/

/-- the first fixture of the test-suite (`tol = 1e-2`) is separated, with these cluster labels -/
example : Separated (1 / 100) [[1, 1], [0, 0], [1 / 2, 0], [0, 0], [0, 1 / 2], [0, 0], [1 / 2, 0]]
    (fun i => [0, 1, 2, 1, 3, 1, 2].getD i 0) :=
  separated_of_check _ (by decide +kernel)

example : uniquify .chain (1 / 100) [[1, 1], [0, 0], [1 / 2, 0], [0, 0], [0, 1 / 2], [0, 0], [1 / 2, 0]] =
    { pts := [[1, 1], [0, 0], [1 / 2, 0], [0, 1 / 2]], new2old := [0, 1, 2, 4],
      old2new := [0, 1, 2, 1, 3, 1, 2] } := by decide +kernel

/-- a cluster with non-zero diameter whose members straddle the norm of another cluster -/
example : Separated (1 / 10) [[1, 0], [0, 101 / 100], [102 / 100, 0], [0, 0], [0, 103 / 100]]
    (fun i => [0, 1, 0, 2, 1].getD i 0) :=
  separated_of_check _ (by decide +kernel)

example : uniquify .chain (1 / 10) [[1, 0], [0, 101 / 100], [102 / 100, 0], [0, 0], [0, 103 / 100]] =
    { pts := [[1, 0], [0, 101 / 100], [0, 0]], new2old := [0, 1, 3], old2new := [0, 1, 0, 2, 1] } := by
  decide +kernel

example : uniquifyPoints .chain (1 / 100) [[0, 0], [1, 0], [0, 0]] [[0, 1, 7], [0, 2, 8], [2, 1, 9]] =
    ([[0, 0], [1, 0]], [[0, 1, 7], [0, 1, 9]], [1]) := by decide +kernel

/-- the docstring example of `ismember_columns`, both sort modes -/
example : ismember [[1, 3], [3, 3], [3, 2], [1, 3], [7, 0]] [[3, 3], [1, 3], [3, 2], [5, 1], [3, 2]] true =
    ([true, true, true, true, false], [1, 0, 2, 1]) := by decide +kernel

example : ismember [[1, 3], [3, 3], [3, 2], [1, 3], [7, 0]] [[3, 3], [1, 3], [2, 3], [5, 1], [1, 2]] false =
    ([true, true, false, true, false], [1, 0, 1]) := by decide +kernel

example : intersectSets (1 / 1000) [[0, 0], [1, 0], [2, 0]] [[2, 0], [0, 0], [0, 0], [5, 5]] =
    { ia := [0, 2], ib := [0, 1, 2], aInB := [true, false, true], inter := [[1, 2], [], [0]] } := by
  decide +kernel

/-- repeated points inside both sets: every copy is reported (multiplicities as coded) -/
example : intersectSets (1 / 1000) [[1, 0], [1, 0], [3, 3]] [[1, 0], [7, 7], [1, 0], [3, 3], [3, 3]] =
    { ia := [0, 1, 2], ib := [0, 2, 3, 4], aInB := [true, true, true],
      inter := [[0, 2], [0, 2], [3, 4]] } := by
  decide +kernel

end PorepyVerif.C34
