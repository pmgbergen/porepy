/-
C34 — the norm-cluster walk: it loses no item, the chain rule's clusters are pairwise far in norm,
and anchor and chain rule give the same clusters iff they take the same decisions.
-/
import PorepyVerif.C34.Dist

namespace PorepyVerif.C34

theorem consHead_flatten {α : Type} (x : α) (G : List (List α)) :
    (consHead x G).flatten = x :: G.flatten := by
  cases G <;> simp [consHead]

theorem consHead_ne_nil {α : Type} (x : α) (G : List (List α)) : consHead x G ≠ [] := by
  cases G <;> simp [consHead]

theorem walk_ne_nil (rule : Rule) (t ref : Rat) (items : List Item) : walk rule t ref items ≠ [] := by
  cases items with
  | nil => simp [walk]
  | cons x rest =>
    simp only [walk]
    split
    · simp
    · exact consHead_ne_nil _ _

theorem walk_flatten (rule : Rule) (t : Rat) (ref : Rat) (items : List Item) :
    (walk rule t ref items).flatten = items := by
  induction items generalizing ref with
  | nil => simp [walk]
  | cons x rest ih =>
    simp only [walk]
    split <;> simp [consHead_flatten, ih]

theorem normClusters_flatten (rule : Rule) (t : Rat) (items : List Item) :
    (normClusters rule t items).flatten = items := by
  cases items with
  | nil => rfl
  | cons x rest => exact walk_flatten _ _ _ _

/-- every member of the first group is far below (in norm) every member of the second -/
def FarG (t : Rat) (g g' : List Item) : Prop :=
  ∀ x ∈ g, ∀ y ∈ g', farLe t (norm2 x.2) (norm2 y.2) = true

theorem walk_chain_spec (t : Rat) (items : List Item) :
    ∀ ref : Rat, items.Pairwise (fun x y => norm2 x.2 ≤ norm2 y.2) →
      (∀ x ∈ items, ref ≤ norm2 x.2) →
      (walk .chain t ref items).Pairwise (FarG t) ∧
      ∀ g' ∈ (walk .chain t ref items).tail, ∀ y ∈ g', farLe t ref (norm2 y.2) = true := by
  induction items with
  | nil => intro ref _ _; simp [walk]
  | cons x rest ih =>
    intro ref hs hr
    rw [List.pairwise_cons] at hs
    have hax : ref ≤ norm2 x.2 := hr x List.mem_cons_self
    obtain ⟨ih1, ih2⟩ := ih (norm2 x.2) hs.2 hs.1
    have hfl := walk_flatten .chain t (norm2 x.2) rest
    obtain ⟨h, tl, hW⟩ := List.exists_cons_of_ne_nil (walk_ne_nil .chain t (norm2 x.2) rest)
    rw [hW] at ih1 ih2 hfl
    rw [List.pairwise_cons] at ih1
    rw [List.tail_cons] at ih2
    have hP : ((x :: h) :: tl).Pairwise (FarG t) := by
      refine List.Pairwise.cons ?_ ih1.2
      intro g' hg' z hz y hy
      rcases List.mem_cons.mp hz with rfl | hz
      · exact ih2 g' hg' y hy
      · exact ih1.1 g' hg' z hz y hy
    simp only [walk, hW, consHead]
    by_cases hfar : normFar t ref (norm2 x.2) = true
    · rw [if_pos hfar, List.tail_cons]
      rw [normFar_of_le hax] at hfar
      refine ⟨List.Pairwise.cons (fun _ _ _ hz => nomatch hz) hP, ?_⟩
      intro g' hg' y hy
      have hy' : y ∈ x :: rest := by
        rw [← hfl, ← consHead_flatten]
        exact List.mem_flatten.mpr ⟨g', hg', hy⟩
      refine farLe_mono (le_refl _) ?_ hfar
      rcases List.mem_cons.mp hy' with rfl | hy'
      · exact le_refl _
      · exact hs.1 y hy'
    · rw [if_neg hfar, List.tail_cons]
      exact ⟨hP, fun g' hg' y hy => farLe_mono hax (le_refl _) (ih2 g' hg' y hy)⟩

theorem normClusters_chain_far (t : Rat) (items : List Item)
    (hs : items.Pairwise (fun x y => norm2 x.2 ≤ norm2 y.2)) :
    (normClusters .chain t items).Pairwise (FarG t) := by
  cases items with
  | nil => simp [normClusters]
  | cons x rest =>
    refine (walk_chain_spec t (x :: rest) (norm2 x.2) hs ?_).1
    intro y hy
    rcases List.mem_cons.mp hy with rfl | hy
    · exact le_refl _
    · exact (List.pairwise_cons.mp hs).1 y hy

theorem consHead_inj {α : Type} {x : α} {G G' : List (List α)} (hG : G ≠ []) (hG' : G' ≠ []) :
    consHead x G = consHead x G' ↔ G = G' := by
  cases G with
  | nil => exact absurd rfl hG
  | cons g gs =>
    cases G' with
    | nil => exact absurd rfl hG'
    | cons g' gs' => simp [consHead]

theorem nil_cons_ne_consHead {α : Type} (x : α) (G G' : List (List α)) : [] :: G ≠ consHead x G' := by
  cases G' <;> simp [consHead]

theorem walk_anchor_eq_chain_iff (t : Rat) (items : List Item) : ∀ ra rp : Rat,
    walk .anchor t ra items = walk .chain t rp items ↔
      rulesAgree t ra rp (items.map (fun x => norm2 x.2)) = true := by
  induction items with
  | nil => intro ra rp; simp [walk, rulesAgree]
  | cons x rest ih =>
    intro ra rp
    have hne := fun rule ref => walk_ne_nil rule t ref rest
    simp only [walk, List.map_cons, rulesAgree, Bool.and_eq_true, beq_iff_eq]
    cases h1 : normFar t ra (norm2 x.2) <;> cases h2 : normFar t rp (norm2 x.2)
    · -- neither rule opens a cluster: the anchor keeps `ra`, the chain moves on to `x`
      simpa [consHead_inj (hne _ _) (hne _ _)] using ih ra (norm2 x.2)
    · simpa using (nil_cons_ne_consHead x _ _).symm
    · simpa using nil_cons_ne_consHead x _ _
    · -- both open a cluster at `x`
      simpa [consHead_inj (hne _ _) (hne _ _)] using ih (norm2 x.2) (norm2 x.2)

end PorepyVerif.C34
