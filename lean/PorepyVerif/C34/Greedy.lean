/-
C34 — the loop inside a norm cluster (`clusterStep`, invariant `ClInv`) and the loop over the norm
clusters (`combine`, invariant `GInv`).  What goes in is a `Grouping` (groups of items no two of
which meet the same cluster), what comes out is `Slots` (`combine_slots`); nothing here knows how
the groups were found.
-/
import PorepyVerif.Common.List
import PorepyVerif.C34.Model

namespace PorepyVerif.C34

/-- an item carries the column stored at its index -/
def ValidItem (pts : List Pt) (x : Item) : Prop := pts[x.1]? = some x.2

theorem sep_within {t : Rat} {pts : List Pt} {cl : Nat → Nat} (h : Separated t pts cl) {x y : Item}
    (hx : ValidItem pts x) (hy : ValidItem pts y) : within t x.2 y.2 = true ↔ cl x.1 = cl y.1 := by
  unfold within
  rw [decide_eq_true_iff]
  exact (h x.1 y.1 x.2 y.2 hx hy).symm

theorem findSlot_none {t : Rat} {col : Pt} {S : List Item} (h : findSlot t col S = none) :
    ∀ s ∈ S, within t col s.2 = false := by
  induction S with
  | nil => intro s hs; cases hs
  | cons s0 ss ih =>
    rw [findSlot] at h
    split at h
    · cases h
    · rename_i hw
      intro s hs
      rcases List.mem_cons.mp hs with rfl | hs
      · exact Bool.eq_false_iff.mpr hw
      · exact ih (Option.map_eq_none_iff.mp h) s hs

theorem findSlot_some {t : Rat} {col : Pt} {S : List Item} {k : Nat} {s : Item}
    (h : findSlot t col S = some (k, s)) : S[k]? = some s ∧ within t col s.2 = true := by
  induction S generalizing k with
  | nil => cases h
  | cons s0 ss ih =>
    rw [findSlot] at h
    split at h
    · rename_i hw
      cases h
      exact ⟨rfl, hw⟩
    · obtain ⟨⟨k', s'⟩, hf, he⟩ := Option.map_eq_some_iff.mp h
      cases he
      exact ih hf

/-- slot `k` of `S` holds a member of the cluster of point `i` whose index is at most `i` -/
def Rep (cl : Nat → Nat) (S : List Item) (i k : Nat) : Prop :=
  ∃ s, S[k]? = some s ∧ cl s.1 = cl i ∧ s.1 ≤ i

theorem Rep.append_left {cl : Nat → Nat} {S : List Item} {i k : Nat} (T : List Item)
    (h : Rep cl S i k) : Rep cl (S ++ T) i k := by
  obtain ⟨s, hs, h12⟩ := h
  refine ⟨s, ?_, h12⟩
  rw [List.getElem?_append_left (List.getElem?_eq_some_iff.mp hs).1]
  exact hs

theorem Rep.append_right {cl : Nat → Nat} {T : List Item} {i k : Nat} (S : List Item)
    (h : Rep cl T i k) : Rep cl (S ++ T) i (S.length + k) := by
  obtain ⟨s, hs, h12⟩ := h
  refine ⟨s, ?_, h12⟩
  rw [List.getElem?_append_right (Nat.le_add_right _ _), Nat.add_sub_cancel_left]
  exact hs

theorem Rep.set {cl : Nat → Nat} {S : List Item} {i k k0 : Nat} {s0 m : Item}
    (h0 : S[k0]? = some s0) (hcl : cl m.1 = cl s0.1) (hle : m.1 ≤ s0.1) (h : Rep cl S i k) :
    Rep cl (S.set k0 m) i k := by
  obtain ⟨s, hs, h1, h2⟩ := h
  by_cases hk : k0 = k
  · subst hk
    cases h0.symm.trans hs
    exact ⟨m, List.getElem?_set_self (List.getElem?_eq_some_iff.mp h0).1, hcl.trans h1, Nat.le_trans hle h2⟩
  · exact ⟨s, by rw [List.getElem?_set_ne hk]; exact hs, h1, h2⟩

/-- invariant of the loop over one norm cluster: `P` = items processed so far, `S` = slots
    (`new_2_old`/`unique_cols`), no two of the same cluster, `L` = local `old_2_new` -/
structure ClInv (cl : Nat → Nat) (P S : List Item) (L : List Nat) : Prop where
  sub : ∀ s ∈ S, s ∈ P
  nodup : (S.map (fun s => cl s.1)).Nodup
  len : L.length = P.length
  asg : ∀ (x : Item) (k : Nat), (x, k) ∈ P.zip L → Rep cl S x.1 k

theorem ClInv.nil (cl : Nat → Nat) : ClInv cl [] [] [] :=
  ⟨fun _ h => h, List.nodup_nil, rfl, fun _ _ h => nomatch h⟩

theorem clusterStep_inv {t : Rat} {pts : List Pt} {cl : Nat → Nat} (hsep : Separated t pts cl)
    {P S : List Item} {L : List Nat} {x : Item}
    (hP : ∀ y ∈ P, ValidItem pts y) (hx : ValidItem pts x) (inv : ClInv cl P S L) :
    ClInv cl (P ++ [x]) (clusterStep t (S, L) x).1 (clusterStep t (S, L) x).2 := by
  -- whatever the step does to the slots, it is enough that old assignments survive and that the
  -- new entry `k` is one
  have assemble : ∀ (S' : List Item) (k : Nat), (∀ s ∈ S', s ∈ P ++ [x]) →
      (S'.map (fun s => cl s.1)).Nodup → (∀ i k', Rep cl S i k' → Rep cl S' i k') →
      Rep cl S' x.1 k → ClInv cl (P ++ [x]) S' (L ++ [k]) := by
    intro S' k hsub hnd hmono hnew
    refine ⟨hsub, hnd, by rw [List.length_append, List.length_append, inv.len]; rfl, ?_⟩
    intro y k' hy
    rw [List.zip_append inv.len.symm] at hy
    rcases List.mem_append.mp hy with h | h
    · exact hmono _ _ (inv.asg y k' h)
    · cases List.mem_singleton.mp h
      exact hnew
  have hsubP : ∀ s ∈ S, s ∈ P ++ [x] := fun s hs => List.mem_append_left _ (inv.sub s hs)
  unfold clusterStep
  cases hf : findSlot t x.2 S with
  | none =>
    have hne : ∀ s ∈ S, cl s.1 ≠ cl x.1 := by
      intro s hs heq
      have := (sep_within hsep hx (hP s (inv.sub s hs))).mpr heq.symm
      rw [findSlot_none hf s hs] at this
      cases this
    refine assemble (S ++ [x]) S.length ?_ ?_ (fun _ _ h => h.append_left _)
      ⟨x, List.getElem?_concat_length, rfl, Nat.le_refl _⟩
    · intro s hs
      exact (List.mem_append.mp hs).elim (hsubP s) (List.mem_append_right _)
    · rw [List.map_append, List.nodup_append]
      refine ⟨inv.nodup, List.pairwise_singleton _ _, ?_⟩
      intro a ha b hb hab
      obtain ⟨s, hs, rfl⟩ := List.mem_map.mp ha
      cases List.mem_singleton.mp hb
      exact hne s hs hab
  | some r =>
    obtain ⟨k0, s0⟩ := r
    obtain ⟨hk0, hw⟩ := findSlot_some hf
    have hcl0 : cl x.1 = cl s0.1 :=
      (sep_within hsep hx (hP s0 (inv.sub s0 (List.mem_of_getElem? hk0)))).mp hw
    have hk0lt : k0 < S.length := (List.getElem?_eq_some_iff.mp hk0).1
    show ClInv cl _ (if x.1 < s0.1 then S.set k0 x else S) (L ++ [k0])
    split
    · rename_i hlt
      refine assemble (S.set k0 x) k0 ?_ ?_ (fun _ _ h => h.set hk0 hcl0 (Nat.le_of_lt hlt))
        ⟨x, List.getElem?_set_self hk0lt, rfl, Nat.le_refl _⟩
      · intro s hs
        exact (List.mem_or_eq_of_mem_set hs).elim (hsubP s)
          (fun e => e ▸ List.mem_append_right _ List.mem_cons_self)
      · -- the list of clusters of the slots does not change
        have e : cl x.1 = (S.map (fun s => cl s.1))[k0]'(by simpa using hk0lt) := by
          rw [List.getElem_map, hcl0, (List.getElem?_eq_some_iff.mp hk0).2]
        rw [List.map_set, e, List.set_getElem_self]
        exact inv.nodup
    · rename_i hlt
      exact assemble S k0 hsubP inv.nodup (fun _ _ h => h) ⟨s0, hk0, hcl0.symm, Nat.le_of_not_lt hlt⟩

theorem foldl_clusterStep_inv {t : Rat} {pts : List Pt} {cl : Nat → Nat} (hsep : Separated t pts cl)
    (g : List Item) : ∀ (P S : List Item) (L : List Nat),
    (∀ y ∈ P ++ g, ValidItem pts y) → ClInv cl P S L →
    ClInv cl (P ++ g) (g.foldl (clusterStep t) (S, L)).1 (g.foldl (clusterStep t) (S, L)).2 := by
  induction g with
  | nil => intro P S L _ inv; rwa [List.append_nil]
  | cons x g ih =>
    intro P S L hv inv
    rw [List.append_cons] at hv ⊢
    have hv' : ∀ y ∈ P ++ [x], ValidItem pts y := fun y hy => hv y (List.mem_append_left _ hy)
    exact ih _ _ _ hv (clusterStep_inv hsep (fun y hy => hv' y (List.mem_append_left _ hy))
      (hv' x (List.mem_append_right _ List.mem_cons_self)) inv)

theorem uniqueInCluster_inv {t : Rat} {pts : List Pt} {cl : Nat → Nat} (hsep : Separated t pts cl)
    (g : List Item) (hg : ∀ y ∈ g, ValidItem pts y) :
    ClInv cl g (uniqueInCluster t g).1 (uniqueInCluster t g).2 :=
  foldl_clusterStep_inv hsep g [] [] [] hg (ClInv.nil cl)

/-- invariant of `combine`: `S` = all slots, `A` = scatter of `old_2_new` (slot numbers shifted by
    `off`) -/
structure GInv (cl : Nat → Nat) (off : Nat) (groups : List (List Item)) (S : List Item)
    (A : List (Nat × Nat)) : Prop where
  sub : ∀ s ∈ S, s ∈ groups.flatten
  nodup : (S.map (fun s => cl s.1)).Nodup
  keys : A.map (·.1) = groups.flatten.map (·.1)
  asg : ∀ (i kk : Nat), (i, kk) ∈ A → ∃ k, kk = off + k ∧ Rep cl S i k

theorem combine_inv {t : Rat} {pts : List Pt} {cl : Nat → Nat} (hsep : Separated t pts cl)
    (groups : List (List Item)) : ∀ off : Nat,
    (∀ g ∈ groups, ∀ y ∈ g, ValidItem pts y) →
    groups.Pairwise (fun g g' => ∀ x ∈ g, ∀ y ∈ g', cl x.1 ≠ cl y.1) →
    GInv cl off groups (combine t off groups).1 (combine t off groups).2 := by
  induction groups with
  | nil => intro off _ _; exact ⟨fun _ h => h, List.nodup_nil, rfl, fun _ _ h => nomatch h⟩
  | cons g gs ih =>
    intro off hv hpw
    rw [List.pairwise_cons] at hpw
    have cinv := uniqueInCluster_inv hsep g (hv g List.mem_cons_self)
    have ginv := ih (off + (uniqueInCluster t g).1.length)
      (fun g' hg' => hv g' (List.mem_cons_of_mem _ hg')) hpw.2
    simp only [combine]
    generalize uniqueInCluster t g = r at cinv ginv ⊢
    generalize combine t (off + r.1.length) gs = r' at ginv ⊢
    refine ⟨?_, ?_, ?_, ?_⟩
    · intro s hs
      rw [List.flatten_cons]
      exact List.mem_append.mpr ((List.mem_append.mp hs).imp (cinv.sub s) (ginv.sub s))
    · rw [List.map_append, List.nodup_append]
      refine ⟨cinv.nodup, ginv.nodup, ?_⟩
      intro a ha b hb hab
      obtain ⟨s, hs, rfl⟩ := List.mem_map.mp ha
      obtain ⟨s', hs', rfl⟩ := List.mem_map.mp hb
      obtain ⟨g', hg', hsg⟩ := List.mem_flatten.mp (ginv.sub s' hs')
      exact hpw.1 g' hg' s (cinv.sub s hs) s' hsg hab
    · simp only [List.map_append, List.flatten_cons, ginv.keys]
      congr 1
      exact List.map_fst_zip (Nat.le_of_eq (by rw [List.length_map, List.length_map, cinv.len]))
    · intro i kk h
      rcases List.mem_append.mp h with h | h
      · rw [List.zip_map, List.mem_map] at h
        obtain ⟨⟨x, k⟩, hxk, he⟩ := h
        cases he
        exact ⟨k, Nat.add_comm k off, (cinv.asg x k hxk).append_left _⟩
      · obtain ⟨k, rfl, hk⟩ := ginv.asg i kk h
        exact ⟨r.1.length + k, Nat.add_assoc _ _ _, hk.append_right _⟩

theorem assoc_of_mem_keys {A : List (Nat × Nat)} {i : Nat} (h : i ∈ A.map (·.1)) :
    ∃ kk, assoc A i = some kk ∧ (i, kk) ∈ A := by
  induction A with
  | nil => cases h
  | cons p A ih =>
    rw [assoc]
    split
    · rename_i hp
      exact ⟨p.2, rfl, hp ▸ List.mem_cons_self⟩
    · rename_i hp
      rw [List.map_cons, List.mem_cons] at h
      obtain ⟨kk, h1, h2⟩ := ih (h.resolve_left fun e => hp e.symm)
      exact ⟨kk, h1, List.mem_cons_of_mem _ h2⟩

/-- a division of the items of `pts`, in any order, into groups no two of which meet the same
    cluster: what the norm pre-clustering has to deliver -/
structure Grouping (pts : List Pt) (cl : Nat → Nat) (groups : List (List Item)) : Prop where
  mem : ∀ x : Item, x ∈ groups.flatten ↔ ValidItem pts x
  disj : groups.Pairwise (fun g g' => ∀ x ∈ g, ∀ y ∈ g', cl x.1 ≠ cl y.1)

/-- what the two loops hand to the final reordering: the slots hold items of `pts`, no two of one
    cluster, and the scatter sends every point to a slot that holds a member of its cluster with
    an index at most its own -/
structure Slots (pts : List Pt) (cl : Nat → Nat) (S : List Item) (A : List (Nat × Nat)) : Prop where
  valid : ∀ s ∈ S, ValidItem pts s
  nodup : (S.map (fun s => cl s.1)).Nodup
  asg : ∀ i, i < pts.length → ∃ kk, assoc A i = some kk ∧ Rep cl S i kk

/-- Greedy clustering inside the groups of any grouping: neither the order of the items nor the
    way the groups were found matters. -/
theorem combine_slots {t : Rat} {pts : List Pt} {cl : Nat → Nat} (hsep : Separated t pts cl)
    {groups : List (List Item)} (hG : Grouping pts cl groups) :
    Slots pts cl (combine t 0 groups).1 (combine t 0 groups).2 := by
  have ginv := combine_inv hsep groups 0
    (fun g hg y hy => (hG.mem y).mp (List.mem_flatten.mpr ⟨g, hg, hy⟩)) hG.disj
  refine ⟨fun s hs => (hG.mem s).mp (ginv.sub s hs), ginv.nodup, ?_⟩
  intro i hi
  have hin : i ∈ (combine t 0 groups).2.map (·.1) := by
    rw [ginv.keys]
    exact List.mem_map.mpr ⟨(i, pts[i]), (hG.mem _).mpr (List.getElem?_eq_getElem hi), rfl⟩
  obtain ⟨kk, hkk, hmemA⟩ := assoc_of_mem_keys hin
  obtain ⟨k, rfl, hk⟩ := ginv.asg i kk hmemA
  exact ⟨0 + k, hkk, (Nat.zero_add k).symm ▸ hk⟩

/-- every slot holds the first-occurring member of its cluster -/
theorem Slots.first {pts : List Pt} {cl : Nat → Nat} {S : List Item} {A : List (Nat × Nat)}
    (h : Slots pts cl S A) {s : Item} (hs : s ∈ S) :
    s.1 < pts.length ∧ ∀ j, j < pts.length → cl j = cl s.1 → s.1 ≤ j := by
  refine ⟨(List.getElem?_eq_some_iff.mp (h.valid s hs)).1, ?_⟩
  intro j hj hcl
  obtain ⟨kk, _, s', hs', h1, h2⟩ := h.asg j hj
  cases Common.eq_of_nodup_map h.nodup hs (List.mem_of_getElem? hs') (h1.trans hcl).symm
  exact h2

end PorepyVerif.C34
