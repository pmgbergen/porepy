/-
C34 — arithmetic of squared norms and distances of rational columns: Cauchy–Schwarz, the reverse
triangle inequality without square roots (`farLe_false_of_close`: points closer than `t` are never
far in norm), the triangle inequality in parallelogram form.
-/
import Mathlib.Tactic.Linarith
import Mathlib.Tactic.Ring
import Mathlib.Algebra.Order.Field.Rat
import PorepyVerif.C34.Model

namespace PorepyVerif.C34

theorem norm2_nonneg (p : Pt) : 0 ≤ norm2 p := by
  induction p with
  | nil => exact le_refl _
  | cons x p ih => exact add_nonneg (mul_self_nonneg x) ih

theorem dist2_eq (p q : Pt) : dist2 p q = norm2 p + norm2 q - 2 * dot p q := by
  induction p generalizing q with
  | nil => simp [dist2, norm2, dot]
  | cons x p ih =>
    cases q with
    | nil => simp [dist2, norm2, dot]
    | cons y q => simp only [dist2, norm2, dot, ih q]; ring

theorem dist2_self (p : Pt) : dist2 p p = 0 := by
  induction p with
  | nil => simp [dist2, norm2]
  | cons x p ih => simp [dist2, ih]

/-- `0 ≤ ‖αp − βq‖²`, written out -/
theorem two_mul_dot_le (α β : Rat) (p q : Pt) :
    2 * (α * β) * dot p q ≤ α * α * norm2 p + β * β * norm2 q := by
  induction p generalizing q with
  | nil =>
    simp only [dot, norm2, mul_zero, zero_add]
    exact mul_nonneg (mul_self_nonneg β) (norm2_nonneg q)
  | cons x p ih =>
    cases q with
    | nil =>
      simp only [dot, norm2, mul_zero, add_zero]
      exact mul_nonneg (mul_self_nonneg α) (norm2_nonneg (x :: p))
    | cons y q =>
      simp only [dot, norm2]
      have h1 := ih q
      have h2 := mul_self_nonneg (α * x - β * y)
      linarith

/-- Cauchy–Schwarz for columns of rationals: one more coordinate adds
    `x²‖q‖² + y²‖p‖² − 2xy(p·q) ≥ 0` to `‖p‖²‖q‖² − (p·q)²` -/
theorem dot_sq_le (p q : Pt) : dot p q * dot p q ≤ norm2 p * norm2 q := by
  induction p generalizing q with
  | nil => simp [dot, norm2]
  | cons x p ih =>
    cases q with
    | nil => simp [dot, norm2]
    | cons y q =>
      simp only [dot, norm2]
      have h1 := ih q
      have h2 := two_mul_dot_le y x p q
      generalize norm2 p = A at *
      generalize norm2 q = B at *
      generalize dot p q = s at *
      linarith

theorem farLe_iff (t a b : Rat) :
    farLe t a b = true ↔ 0 < b - a - t * t ∧ 4 * (t * t) * a < (b - a - t * t) * (b - a - t * t) := by
  rw [farLe, Bool.and_eq_true, decide_eq_true_iff, decide_eq_true_iff]

theorem farLe_mono {t a b a' b' : Rat} (ha : a' ≤ a) (hb : b ≤ b') (h : farLe t a b = true) :
    farLe t a' b' = true := by
  rw [farLe_iff] at h ⊢
  obtain ⟨h1, h2⟩ := h
  have hu : b - a - t * t ≤ b' - a' - t * t := sub_le_sub_right (sub_le_sub hb ha) _
  refine ⟨lt_of_lt_of_le h1 hu, ?_⟩
  calc 4 * (t * t) * a' ≤ 4 * (t * t) * a :=
        mul_le_mul_of_nonneg_left ha (mul_nonneg zero_le_four (mul_self_nonneg t))
    _ < (b - a - t * t) * (b - a - t * t) := h2
    _ ≤ _ := mul_self_le_mul_self h1.le hu

theorem normFar_of_le {t a b : Rat} (h : a ≤ b) : normFar t a b = farLe t a b := if_pos h

theorem normFar_comm (t a b : Rat) : normFar t a b = normFar t b a := by
  rcases lt_trichotomy a b with h | rfl | h
  · rw [normFar, normFar, if_pos h.le, if_neg (not_le.mpr h)]
  · rfl
  · rw [normFar, normFar, if_neg (not_le.mpr h), if_pos h.le]

/-- reverse triangle inequality, squared form.
    With `a = ‖p‖²`, `b = ‖q‖²`, `s = p·q`, `u = b − a − t²`: closeness gives `2s > 2a + u`, so if
    `u > 0` then `(2a + u)² < 4s² ≤ 4ab` by Cauchy–Schwarz, which is `u² < 4t²a`. -/
theorem farLe_false_of_close {t : Rat} {p q : Pt} (h : dist2 p q < t * t) :
    farLe t (norm2 p) (norm2 q) = false := by
  rw [Bool.eq_false_iff, Ne, farLe_iff]
  rintro ⟨h1, h2⟩
  rw [dist2_eq] at h
  have ha := norm2_nonneg p
  have hcs := dot_sq_le p q
  generalize norm2 p = a at *
  generalize norm2 q = b at *
  generalize dot p q = s at *
  have hsq := mul_self_lt_mul_self (a := 2 * a + (b - a - t * t)) (b := 2 * s)
    (add_nonneg (mul_nonneg zero_le_two ha) h1.le) (by linarith)
  linarith

theorem dist2_nil_right (p : Pt) : dist2 p [] = norm2 p := by
  cases p <;> rfl

/-- a missing coordinate counts as `0` -/
theorem dist2_head_tail (p q : Pt) :
    dist2 p q = (p.headD 0 - q.headD 0) * (p.headD 0 - q.headD 0) + dist2 p.tail q.tail := by
  cases p <;> cases q <;> simp [dist2, norm2, dist2_nil_right]

/-- one coordinate of the triangle inequality in squared (parallelogram) form, on top of the
    inequality `h` for the remaining coordinates -/
private theorem triangle_step (x y z : Rat) {a b c : Rat} (h : c ≤ 2 * (a + b)) :
    (y - z) * (y - z) + c ≤ 2 * ((x - y) * (x - y) + a + ((x - z) * (x - z) + b)) := by
  have := mul_self_nonneg (2 * x - y - z)
  linarith

/-- triangle inequality in squared (parallelogram) form; the columns may differ in length, so the
    induction is on a common bound of the three lengths -/
theorem dist2_triangle (p q r : Pt) : dist2 q r ≤ 2 * (dist2 p q + dist2 p r) := by
  suffices h : ∀ n (p q r : Pt), p.length ≤ n → q.length ≤ n → r.length ≤ n →
      dist2 q r ≤ 2 * (dist2 p q + dist2 p r) from
    h (p.length + q.length + r.length) p q r (Nat.le_add_right_of_le (Nat.le_add_right _ _))
      (Nat.le_add_right_of_le (Nat.le_add_left _ _)) (Nat.le_add_left _ _)
  intro n
  induction n with
  | zero =>
    intro p q r hp hq hr
    cases List.eq_nil_of_length_eq_zero (Nat.le_zero.mp hp)
    cases List.eq_nil_of_length_eq_zero (Nat.le_zero.mp hq)
    cases List.eq_nil_of_length_eq_zero (Nat.le_zero.mp hr)
    simp [dist2, norm2]
  | succ n ih =>
    intro p q r hp hq hr
    have ht : ∀ l : Pt, l.length ≤ n + 1 → l.tail.length ≤ n := fun l h => by
      rw [List.length_tail]; exact Nat.sub_le_of_le_add h
    rw [dist2_head_tail q r, dist2_head_tail p q, dist2_head_tail p r]
    exact triangle_step _ _ _ (ih _ _ _ (ht p hp) (ht q hq) (ht r hr))

end PorepyVerif.C34
