/-
C30 — convex planar polygons in three dimensions: `side3` by components, the plane and the convex region of a polygon
(`InPlane`, `InRegion.along`), where a segment enters the region (`convex_entry`), nearest point on the boundary, and the
winding test carried over from the kept coordinates (`to2d_bridge`, `inPoly_complete`, `inPoly_sound`).
-/
import PorepyVerif.C30.LemmasVec
import PorepyVerif.C30.LemmasWinding

namespace PorepyVerif.C30

theorem eq_triple_of_length (v : Vec) (h : v.length = 3) : ∃ x y z, v = [x, y, z] := by
  match v, h with
  | [x, y, z], _ => exact ⟨x, y, z, rfl⟩

theorem side3_along (n a b q x : Vec) (t : Rat) (hn : n.length = 3) (ha : a.length = 3) (hb : b.length = 3)
    (hq : q.length = 3) (hx : x.length = 3) :
    side3 n a b (along q x t) = side3 n a b q + t * (side3 n a b x - side3 n a b q) := by
  obtain ⟨n1, n2, n3, rfl⟩ := eq_triple_of_length n hn
  obtain ⟨a1, a2, a3, rfl⟩ := eq_triple_of_length a ha
  obtain ⟨b1, b2, b3, rfl⟩ := eq_triple_of_length b hb
  obtain ⟨q1, q2, q3, rfl⟩ := eq_triple_of_length q hq
  obtain ⟨x1, x2, x3, rfl⟩ := eq_triple_of_length x hx
  simp [side3, cross3, along]
  ring

/-- `((b-a)×(x-a))·n = ((a-x)×(b-x))·n` -/
theorem side3_rot (n a b x : Vec) (hn : n.length = 3) (ha : a.length = 3) (hb : b.length = 3) (hx : x.length = 3) :
    side3 n a b x = side3 n x a b := by
  obtain ⟨n1, n2, n3, rfl⟩ := eq_triple_of_length n hn
  obtain ⟨a1, a2, a3, rfl⟩ := eq_triple_of_length a ha
  obtain ⟨b1, b2, b3, rfl⟩ := eq_triple_of_length b hb
  obtain ⟨x1, x2, x3, rfl⟩ := eq_triple_of_length x hx
  simp [side3, cross3]
  ring

theorem side3_self (n a b : Vec) (hn : n.length = 3) (ha : a.length = 3) (hb : b.length = 3) :
    side3 n a b b = 0 ∧ side3 n a b a = 0 ∧ side3 n a a b = 0 := by
  obtain ⟨n1, n2, n3, rfl⟩ := eq_triple_of_length n hn
  obtain ⟨a1, a2, a3, rfl⟩ := eq_triple_of_length a ha
  obtain ⟨b1, b2, b3, rfl⟩ := eq_triple_of_length b hb
  refine ⟨?_, ?_, ?_⟩ <;> (simp [side3, cross3]; try ring)

theorem side3_pred (n g a b : Vec) (t : Rat) (hn : n.length = 3) (hg : g.length = 3) (ha : a.length = 3) (hb : b.length = 3) :
    side3 n g a (along a b t) = t * side3 n g a b := by
  rw [side3_along n g a a b t hn hg ha ha hb, (side3_self n g a hn hg ha).1, sub_zero, zero_add]

theorem side3_succ (n a b g : Vec) (t : Rat) (hn : n.length = 3) (hg : g.length = 3) (ha : a.length = 3) (hb : b.length = 3) :
    side3 n b g (along a b t) = (1 - t) * side3 n a b g := by
  rw [side3_along n b g a b t hn hb hg ha hb, (side3_self n b g hn hb hg).2.1,
    side3_rot n a b g hn ha hb hg, side3_rot n g a b hn hg ha hb]
  ring

/-- for `e`, `w` orthogonal to `n`: `|n|² (e × w) = ((e × w) · n) n`, by components -/
theorem cross_orth {e1 e2 e3 w1 w2 w3 n1 n2 n3 : Rat}
    (en : e1 * n1 + (e2 * n2 + e3 * n3) = 0) (wn : w1 * n1 + (w2 * n2 + w3 * n3) = 0) :
    (e2 * w3 - e3 * w2) * (n1 * n1 + (n2 * n2 + n3 * n3)) =
      n1 * ((e2 * w3 - e3 * w2) * n1 + ((e3 * w1 - e1 * w3) * n2 + (e1 * w2 - e2 * w1) * n3)) ∧
    (e3 * w1 - e1 * w3) * (n1 * n1 + (n2 * n2 + n3 * n3)) =
      n2 * ((e2 * w3 - e3 * w2) * n1 + ((e3 * w1 - e1 * w3) * n2 + (e1 * w2 - e2 * w1) * n3)) ∧
    (e1 * w2 - e2 * w1) * (n1 * n1 + (n2 * n2 + n3 * n3)) =
      n3 * ((e2 * w3 - e3 * w2) * n1 + ((e3 * w1 - e1 * w3) * n2 + (e1 * w2 - e2 * w1) * n3)) :=
  ⟨by linear_combination (n2 * w3 - n3 * w2) * en - (n2 * e3 - n3 * e2) * wn,
   by linear_combination (n3 * w1 - n1 * w3) * en - (n3 * e1 - n1 * e3) * wn,
   by linear_combination (n1 * w2 - n2 * w1) * en - (n1 * e2 - n2 * e1) * wn⟩

/-- vectors `e`, `w` orthogonal to `n ≠ 0` with `(e × w) · n = 0` are parallel: `|e|² w = (e · w) e` -/
theorem parallel_of_coplanar {e1 e2 e3 w1 w2 w3 n1 n2 n3 : Rat} (hN : n1 * n1 + (n2 * n2 + n3 * n3) ≠ 0)
    (en : e1 * n1 + (e2 * n2 + e3 * n3) = 0) (wn : w1 * n1 + (w2 * n2 + w3 * n3) = 0)
    (h0 : (e2 * w3 - e3 * w2) * n1 + ((e3 * w1 - e1 * w3) * n2 + (e1 * w2 - e2 * w1) * n3) = 0) :
    (e1 * e1 + (e2 * e2 + e3 * e3)) * w1 = (e1 * w1 + (e2 * w2 + e3 * w3)) * e1 ∧
    (e1 * e1 + (e2 * e2 + e3 * e3)) * w2 = (e1 * w1 + (e2 * w2 + e3 * w3)) * e2 ∧
    (e1 * e1 + (e2 * e2 + e3 * e3)) * w3 = (e1 * w1 + (e2 * w2 + e3 * w3)) * e3 := by
  -- `e × w` is a multiple of `n` that is orthogonal to `n`, so it vanishes
  obtain ⟨x1, x2, x3⟩ := cross_orth en wn
  rw [h0, mul_zero] at x1 x2 x3
  have C1 := (mul_eq_zero.mp x1).resolve_right hN
  have C2 := (mul_eq_zero.mp x2).resolve_right hN
  have C3 := (mul_eq_zero.mp x3).resolve_right hN
  exact ⟨by linear_combination e3 * C2 - e2 * C3, by linear_combination e1 * C3 - e3 * C1,
    by linear_combination e2 * C1 - e1 * C2⟩

theorem collinear_param (n c a b y : Vec) (hn : n.length = 3) (hc : c.length = 3) (ha : a.length = 3)
    (hb : b.length = 3) (hy : y.length = 3) (hnn : nsq n ≠ 0) (hab : nsq (vsub b a) ≠ 0)
    (pa : dot (vsub a c) n = 0) (pb : dot (vsub b c) n = 0) (py : dot (vsub y c) n = 0)
    (h0 : side3 n a b y = 0) :
    y = along a b (dot (vsub b a) (vsub y a) / nsq (vsub b a)) := by
  obtain ⟨n1, n2, n3, rfl⟩ := eq_triple_of_length n hn
  obtain ⟨c1, c2, c3, rfl⟩ := eq_triple_of_length c hc
  obtain ⟨a1, a2, a3, rfl⟩ := eq_triple_of_length a ha
  obtain ⟨b1, b2, b3, rfl⟩ := eq_triple_of_length b hb
  obtain ⟨y1, y2, y3, rfl⟩ := eq_triple_of_length y hy
  simp only [side3, cross3, nsq, vsub_cons, vsub_nil_left, dot_cons, dot_nil_left, add_zero] at pa pb py h0 hnn hab ⊢
  obtain ⟨k1, k2, k3⟩ := parallel_of_coplanar hnn (by linarith) (by linarith) h0
  simp only [along, vsub_cons, vsub_nil_left, smul_cons, smul_nil, vadd_cons, vadd_nil_left]
  rw [div_mul_eq_mul_div, div_mul_eq_mul_div, div_mul_eq_mul_div, ← k1, ← k2, ← k3,
    mul_div_cancel_left₀ _ hab, mul_div_cancel_left₀ _ hab, mul_div_cancel_left₀ _ hab]
  simp

theorem ConvexPoly.nsq_pos {poly : List Vec} (C : ConvexPoly poly) : 0 < nsq (normal poly) :=
  lt_of_le_of_ne (nsq_nonneg _) (Ne.symm C.nn)

/-- three coordinates, in the plane of the polygon -/
def InPlane (poly : List Vec) (x : Vec) : Prop :=
  x.length = 3 ∧ dot (vsub x (centroid poly)) (normal poly) = 0

theorem InRegion.inPlane {poly : List Vec} {x : Vec} (h : InRegion poly x) : InPlane poly x := ⟨h.1, h.2.1⟩

theorem ConvexPoly.proj {poly : List Vec} (C : ConvexPoly poly) {p : Vec} (hp : p.length = 3) :
    InPlane poly (projPlane (centroid poly) (normal poly) p) :=
  ⟨by rw [length_projPlane _ _ _ (by rw [C.nlen, hp]), hp],
    projPlane_in_plane _ _ _ (by rw [C.clen, hp]) (by rw [C.nlen, hp]) C.nn⟩

theorem InPlane.along {poly : List Vec} (C : ConvexPoly poly) {q x : Vec} (hq : InPlane poly q) (hx : InPlane poly x)
    (l : Rat) : InPlane poly (along q x l) :=
  have h : q.length = x.length := hq.1.trans hx.1.symm
  ⟨(length_along q x l h).trans hq.1, along_in_plane _ _ q x l h (C.clen.trans hq.1.symm) hq.2 hx.2⟩

/-- squared distance from any point to a point of the plane: squared height plus the squared distance in the plane -/
theorem ConvexPoly.pythagoras {poly : List Vec} (C : ConvexPoly poly) {p z : Vec} (hp : p.length = 3)
    (hz : InPlane poly z) :
    nsq (vsub p z) = dot (vsub p (centroid poly)) (normal poly) * dot (vsub p (centroid poly)) (normal poly)
      / nsq (normal poly) + nsq (vsub (projPlane (centroid poly) (normal poly) p) z) := by
  have hn : (normal poly).length = p.length := C.nlen.trans hp.symm
  rw [pythagoras_plane _ _ p z (C.clen.trans hp.symm) hn (hz.1.trans hp.symm) C.nn hz.2, nsq_to_projPlane _ _ _ hn C.nn]

theorem interp_nonneg {x y l : Rat} (x0 : 0 ≤ x) (y0 : 0 ≤ y) (l0 : 0 ≤ l) (l1 : l ≤ 1) : 0 ≤ x + l * (y - x) := by
  linarith [mul_nonneg (sub_nonneg.mpr l1) x0, mul_nonneg l0 y0]

theorem interp_mem {x y l : Rat} (x0 : 0 ≤ x) (x1 : x ≤ 1) (y0 : 0 ≤ y) (y1 : y ≤ 1) (l0 : 0 ≤ l) (l1 : l ≤ 1) :
    0 ≤ x + l * (y - x) ∧ x + l * (y - x) ≤ 1 :=
  ⟨interp_nonneg x0 y0 l0 l1, by linarith [interp_nonneg (sub_nonneg.mpr x1) (sub_nonneg.mpr y1) l0 l1]⟩

/-- the region is convex -/
theorem InRegion.along {poly : List Vec} (C : ConvexPoly poly) {q x : Vec} (hq : InRegion poly q) (hx : InRegion poly x)
    {l : Rat} (l0 : 0 ≤ l) (l1 : l ≤ 1) : InRegion poly (along q x l) := by
  obtain ⟨ly, py⟩ := hq.inPlane.along C hx.inPlane l
  refine ⟨ly, py, fun g hg => ?_⟩
  rw [side3_along _ _ _ _ _ l C.nlen (C.len3 g hg).1 (C.len3 g hg).2 hq.1 hx.1]
  exact interp_nonneg (hq.2.2 g hg) (hx.2.2 g hg) l0 l1

theorem ConvexPoly.fst_inRegion {poly : List Vec} (C : ConvexPoly poly) {g : Vec × Vec} (hg : g ∈ edges poly) :
    InRegion poly g.1 :=
  ⟨(C.len3 g hg).1, (C.planar g hg).1, C.vertsIn g hg⟩

theorem ConvexPoly.snd_inRegion {poly : List Vec} (C : ConvexPoly poly) {g : Vec × Vec} (hg : g ∈ edges poly) :
    InRegion poly g.2 := by
  obtain ⟨_, _, gn, hgn, _, e2, _, _⟩ := C.corners g hg
  exact e2 ▸ C.fst_inRegion hgn

/-- affine functions `λ ↦ f0 e + λ (f1 e - f0 e)`, all non-negative at `λ = 1`: `l` is the first parameter of `[0,1]`
    from which on all are non-negative -/
theorem first_feasible {α : Type} (es : List α) (f0 f1 : α → Rat) (h1 : ∀ e ∈ es, 0 ≤ f1 e) :
    ∃ l : Rat, 0 ≤ l ∧ l ≤ 1 ∧ (∀ e ∈ es, 0 ≤ f0 e + l * (f1 e - f0 e)) ∧
      (l = 0 ∨ ∃ e ∈ es, f0 e + l * (f1 e - f0 e) = 0) := by
  induction es with
  | nil => exact ⟨0, le_refl _, zero_le_one, fun e he => absurd he List.not_mem_nil, Or.inl rfl⟩
  | cons e es ih =>
    obtain ⟨l0, h0, h1', hall, htight⟩ := ih (fun g hg => h1 g (List.mem_cons_of_mem _ hg))
    by_cases hf : 0 ≤ f0 e + l0 * (f1 e - f0 e)
    · refine ⟨l0, h0, h1', List.forall_mem_cons.mpr ⟨hf, hall⟩, htight.imp_right ?_⟩
      exact fun ⟨g, hg, hg0⟩ => ⟨g, List.mem_cons_of_mem _ hg, hg0⟩
    · -- the new constraint fails at `l0`: move to its root `l`, the others stay satisfied between `l0` and 1
      have hy := h1 e List.mem_cons_self
      have hneg : f0 e + l0 * (f1 e - f0 e) < 0 := not_le.mp hf
      have hl0 : l0 < 1 := by
        by_contra h
        rw [le_antisymm h1' (not_lt.mp h)] at hneg
        linarith
      have hd : 0 < f1 e - f0 e :=
        pos_of_mul_pos_right (show 0 < (1 - l0) * (f1 e - f0 e) by linarith) (sub_nonneg.mpr hl0.le)
      have hroot : f0 e + -f0 e / (f1 e - f0 e) * (f1 e - f0 e) = 0 := by rw [div_mul_cancel₀ _ hd.ne']; ring
      have hgt : l0 < -f0 e / (f1 e - f0 e) := by rw [lt_div_iff₀ hd]; linarith
      have hle : -f0 e / (f1 e - f0 e) ≤ 1 := by rw [div_le_one hd]; linarith
      generalize -f0 e / (f1 e - f0 e) = l at hroot hgt hle
      refine ⟨l, by linarith, hle, List.forall_mem_cons.mpr ⟨hroot.ge, fun g hg => ?_⟩,
        Or.inr ⟨e, List.mem_cons_self, hroot⟩⟩
      have ha := hall g hg
      have hb := h1 g (List.mem_cons_of_mem _ hg)
      have key : (f0 g + l * (f1 g - f0 g)) * (1 - l0)
          = (1 - l) * (f0 g + l0 * (f1 g - f0 g)) + (l - l0) * f1 g := by ring
      refine nonneg_of_mul_nonneg_left ?_ (sub_pos.mpr hl0)
      rw [key]
      exact add_nonneg (mul_nonneg (by linarith) ha) (mul_nonneg (by linarith) hb)

/-- a point of the region that is on the carrier line of an edge lies on the edge: the half-planes of the two
    neighbouring edges bound its parameter -/
theorem on_edge (poly : List Vec) (C : ConvexPoly poly) (g : Vec × Vec) (hg : g ∈ edges poly) (y : Vec)
    (hy : InRegion poly y) (h0 : side3 (normal poly) g.1 g.2 y = 0) :
    ∃ t : Rat, 0 ≤ t ∧ t ≤ 1 ∧ y = along g.1 g.2 t := by
  obtain ⟨hy, py, hall⟩ := hy
  obtain ⟨gp, hgp, gn, hgn, e1, e2, tp, tn⟩ := C.corners g hg
  obtain ⟨la, lb⟩ := C.len3 g hg
  have lgp := (C.len3 gp hgp).1
  have lgn := (C.len3 gn hgn).2
  have hab : nsq (vsub g.2 g.1) ≠ 0 := by
    intro h
    have : g.1 = g.2 := (vsub_self_of_nsq_zero g.2 g.1 (by rw [la, lb]) h).symm
    rw [← this] at tn
    have := (side3_self (normal poly) g.1 gn.2 C.nlen la lgn).2.2
    linarith
  have hy' := collinear_param (normal poly) (centroid poly) g.1 g.2 y C.nlen C.clen la lb hy C.nn hab
    (C.planar g hg).1 (C.planar g hg).2 py h0
  refine ⟨_, ?_, ?_, hy'⟩
  · -- predecessor
    have h := hall gp hgp
    rw [e1, hy', side3_pred _ _ _ _ _ C.nlen lgp la lb] at h
    by_contra hc
    have := mul_neg_of_neg_of_pos (not_le.mp hc) tp
    linarith
  · have h := hall gn hgn
    rw [e2, hy', side3_succ _ _ _ _ _ C.nlen lgn la lb] at h
    by_contra hc
    have : (1 - dot (vsub g.2 g.1) (vsub y g.1) / nsq (vsub g.2 g.1)) * side3 (normal poly) g.1 g.2 gn.2 < 0 :=
      mul_neg_of_neg_of_pos (by linarith [not_le.mp hc]) tn
    linarith

/-- a segment from a point of the plane that is not strictly inside the region to a point of the region meets the
    boundary -/
theorem convex_entry (poly : List Vec) (C : ConvexPoly poly) (q x : Vec) (hq : InPlane poly q) (hx : InRegion poly x)
    (hout : ∃ g ∈ edges poly, side3 (normal poly) g.1 g.2 q ≤ 0) :
    ∃ g ∈ edges poly, ∃ t l : Rat, 0 ≤ t ∧ t ≤ 1 ∧ 0 ≤ l ∧ l ≤ 1 ∧ along q x l = along g.1 g.2 t := by
  -- `side3` of each edge is affine along `q x`: take the first parameter at which all are non-negative
  obtain ⟨l, l0, l1, hall, htight⟩ := first_feasible (edges poly)
    (fun g => side3 (normal poly) g.1 g.2 q) (fun g => side3 (normal poly) g.1 g.2 x) hx.2.2
  have sy : ∀ h ∈ edges poly, side3 (normal poly) h.1 h.2 (along q x l)
      = side3 (normal poly) h.1 h.2 q + l * (side3 (normal poly) h.1 h.2 x - side3 (normal poly) h.1 h.2 q) :=
    fun h hh => side3_along _ _ _ _ _ l C.nlen (C.len3 h hh).1 (C.len3 h hh).2 hq.1 hx.1
  obtain ⟨ly, py⟩ := hq.along C hx.inPlane l
  have hally : ∀ h ∈ edges poly, 0 ≤ side3 (normal poly) h.1 h.2 (along q x l) :=
    fun h hh => (sy h hh).symm ▸ hall h hh
  -- that point is on an edge: on the one of `hout` if it is `q` itself, else on the one whose `side3` vanishes
  obtain ⟨g, hg, h0⟩ : ∃ g ∈ edges poly, side3 (normal poly) g.1 g.2 (along q x l) = 0 := by
    rcases htight with h | ⟨g, hg, hg0⟩
    · obtain ⟨g, hg, hle⟩ := hout
      refine ⟨g, hg, le_antisymm ?_ (hally g hg)⟩
      rw [sy g hg, h, zero_mul, add_zero]
      exact hle
    · exact ⟨g, hg, (sy g hg).trans hg0⟩
  obtain ⟨t, t0, t1, e⟩ := on_edge poly C g hg _ ⟨ly, py, hally⟩ h0
  exact ⟨g, hg, t, l, t0, t1, l0, l1, e⟩

/-- if the projection of `p` is not strictly inside the region, the point of the region nearest to `p` is on the
    boundary -/
theorem convex_outside_bound (poly : List Vec) (C : ConvexPoly poly) (p : Vec) (hp : p.length = 3)
    (hout : ∃ g ∈ edges poly, side3 (normal poly) g.1 g.2 (projPlane (centroid poly) (normal poly) p) ≤ 0)
    (x : Vec) (hx : InRegion poly x) :
    ∃ g ∈ edges poly, ∃ t : Rat, 0 ≤ t ∧ t ≤ 1 ∧ nsq (vsub p (along g.1 g.2 t)) ≤ nsq (vsub p x) := by
  have hq := C.proj hp
  obtain ⟨g, hg, t, l, t0, t1, l0, l1, e⟩ := convex_entry poly C _ x hq hx hout
  refine ⟨g, hg, t, t0, t1, ?_⟩
  -- both points are in the plane, and the boundary point is the nearer one to the projection of `p`
  rw [← e, C.pythagoras hp (hq.along C hx.inPlane l), C.pythagoras hp hx.inPlane,
    nsq_vsub_along_self _ _ l (hq.1.trans hx.1.symm), nsq_vsub_comm x]
  have hnn := nsq_nonneg (vsub (projPlane (centroid poly) (normal poly) p) x)
  have hll : l * l ≤ 1 := by linarith [mul_nonneg (sub_nonneg.mpr l1) l0]
  linarith [mul_le_of_le_one_left hnn hll]

/-- for points of a plane with normal `n`, the 2-d cross product of the kept coordinates is a fixed non-zero
    multiple of the 3-d orientation `side3`: the multiple is the dominant component of `n`, whose axis `to2d` drops -/
theorem to2d_bridge (c n : Vec) (hc : c.length = 3) (hn : n.length = 3) (hnn : nsq n ≠ 0) :
    ∃ r : Rat, r ≠ 0 ∧ ∀ q a b : Vec, q.length = 3 → a.length = 3 → b.length = 3 →
      dot (vsub q c) n = 0 → dot (vsub a c) n = 0 → dot (vsub b c) n = 0 →
      cross2 (rel (to2d n q) (to2d n a)) (rel (to2d n q) (to2d n b)) * nsq n = r * side3 n q a b := by
  obtain ⟨n1, n2, n3, rfl⟩ := eq_triple_of_length n hn
  have hN : n1 * n1 + (n2 * n2 + n3 * n3) ≠ 0 := by simpa [nsq] using hnn
  refine ⟨if absR n2 ≤ absR n1 ∧ absR n3 ≤ absR n1 then n1 else if absR n3 ≤ absR n2 then -n2 else n3, ?_, ?_⟩
  · split_ifs with c1 c2
    · intro h0
      have a2 : n2 = 0 := absR_eq_zero (by rw [h0] at c1; simpa [absR] using c1.1)
      have a3 : n3 = 0 := absR_eq_zero (by rw [h0] at c1; simpa [absR] using c1.2)
      apply hN; rw [h0, a2, a3]; ring
    · intro h0
      have h2 : n2 = 0 := by linarith
      have a3 : n3 = 0 := absR_eq_zero (by rw [h2] at c2; simpa [absR] using c2)
      apply c1
      rw [h2, a3]
      exact ⟨by simp [absR]; exact absR_nonneg n1, by simp [absR]; exact absR_nonneg n1⟩
    · intro h0
      apply c2
      rw [h0]; simp [absR]; exact absR_nonneg n2
  · intro q a b hq ha hb pq pa pb
    have pa := rel_plane c _ a q (ha.trans hq.symm) (hc.trans hq.symm) pa pq
    have pb := rel_plane c _ b q (hb.trans hq.symm) (hc.trans hq.symm) pb pq
    obtain ⟨q1, q2, q3, rfl⟩ := eq_triple_of_length q hq
    obtain ⟨a1, a2, a3, rfl⟩ := eq_triple_of_length a ha
    obtain ⟨b1, b2, b3, rfl⟩ := eq_triple_of_length b hb
    simp only [vsub_cons, vsub_nil_left, dot_cons, dot_nil_left, add_zero] at pa pb
    obtain ⟨x1, x2, x3⟩ := cross_orth pa pb
    simp only [to2d, rel, cross2, side3, cross3, nsq, vsub_cons, vsub_nil_left, dot_cons, dot_nil_left, add_zero]
    split_ifs
    · exact x1
    · linear_combination (-1 : Rat) * x2
    · exact x3

theorem convex_nonempty (poly : List Vec) (C : ConvexPoly poly) : poly ≠ [] := by
  intro h
  apply C.nn
  rw [h]
  decide +kernel

theorem inPoly_eq (poly : List Vec) (n x : Vec) :
    inPoly poly n x = windingInside (edges (poly.map (to2d n))) (to2d n x) := by
  unfold inPoly; rw [edges_map]

theorem inPoly_complete (poly : List Vec) (C : ConvexPoly poly) (q : Vec) (hq : q.length = 3)
    (pq : dot (vsub q (centroid poly)) (normal poly) = 0)
    (hin : ∀ g ∈ edges poly, 0 < side3 (normal poly) g.1 g.2 q) :
    inPoly poly (normal poly) q = true := by
  obtain ⟨r, hr, hbr⟩ := to2d_bridge (centroid poly) (normal poly) C.clen C.nlen C.nn
  have hnn := C.nsq_pos
  rw [inPoly_eq]
  apply winding_complete _ _ r
  · intro h
    exact convex_nonempty poly C (List.map_eq_nil_iff.mp h)
  · intro e he
    rw [edges_map] at he
    obtain ⟨g, hg, rfl⟩ := List.mem_map.mp he
    obtain ⟨la, lb⟩ := C.len3 g hg
    have hb := hbr q g.1 g.2 hq la lb pq (C.planar g hg).1 (C.planar g hg).2
    have hs : 0 < side3 (normal poly) q g.1 g.2 := by
      rw [← side3_rot _ _ _ _ C.nlen la lb hq]; exact hin g hg
    simp only []
    refine pos_of_mul_pos_left ?_ hnn.le
    rw [mul_assoc, hb, ← mul_assoc]
    exact mul_pos (mul_self_pos.mpr hr) hs

theorem cross2_rel_sub (r : Rat) (K1 K2 Q V : Rat × Rat) :
    (-(r * (rel K1 K2).2)) * (rel Q V).1 + (r * (rel K1 K2).1) * (rel Q V).2
      = r * (cross2 (rel K1 K2) (rel K1 V) - cross2 (rel K1 K2) (rel K1 Q)) := by
  unfold cross2 rel; ring

theorem inPoly_sound (poly : List Vec) (C : ConvexPoly poly) (q : Vec) (hq : q.length = 3)
    (pq : dot (vsub q (centroid poly)) (normal poly) = 0)
    (hacc : inPoly poly (normal poly) q = true) :
    ∀ g ∈ edges poly, 0 ≤ side3 (normal poly) g.1 g.2 q := by
  intro k hk
  by_contra hneg
  have hneg : side3 (normal poly) k.1 k.2 q < 0 := not_le.mp hneg
  obtain ⟨r, hr, hbr⟩ := to2d_bridge (centroid poly) (normal poly) C.clen C.nlen C.nn
  have hnn := C.nsq_pos
  obtain ⟨lka, lkb⟩ := C.len3 k hk
  obtain ⟨pka, pkb⟩ := C.planar k hk
  rw [inPoly_eq] at hacc
  apply windingInside_sum_ne hacc
  -- direction of the separating edge in the kept coordinates
  have hq2 := hbr k.1 k.2 q lka lkb hq pka pkb pq
  -- every vertex is strictly on the positive side of the parallel line through q
  have vert : ∀ v : Vec, v.length = 3 → dot (vsub v (centroid poly)) (normal poly) = 0 →
      0 ≤ side3 (normal poly) k.1 k.2 v →
      0 < (-(r * (rel (to2d (normal poly) k.1) (to2d (normal poly) k.2)).2)) * (rel (to2d (normal poly) q) (to2d (normal poly) v)).1
        + (r * (rel (to2d (normal poly) k.1) (to2d (normal poly) k.2)).1) * (rel (to2d (normal poly) q) (to2d (normal poly) v)).2 := by
    intro v lv pv sv
    have hv2 := hbr k.1 k.2 v lka lkb lv pka pkb pv
    rw [cross2_rel_sub]
    refine pos_of_mul_pos_left ?_ hnn.le
    rw [mul_assoc, sub_mul, hv2, hq2, ← mul_sub, ← mul_assoc]
    exact mul_pos (mul_self_pos.mpr hr) (by linarith)
  apply winding_sum_zero _ _ (-(r * (rel (to2d (normal poly) k.1) (to2d (normal poly) k.2)).2))
    (r * (rel (to2d (normal poly) k.1) (to2d (normal poly) k.2)).1)
  intro e he
  rw [edges_map] at he
  obtain ⟨g, hg, rfl⟩ := List.mem_map.mp he
  obtain ⟨_, _, gn, hgn, _, e2, _, _⟩ := C.corners g hg
  refine ⟨vert g.1 (C.len3 g hg).1 (C.planar g hg).1 (C.vertsIn g hg k hk), ?_⟩
  have := vert gn.1 (C.len3 gn hgn).1 (C.planar gn hgn).1 (C.vertsIn gn hgn k hk)
  rw [e2] at this
  exact this

theorem edge_in_region (poly : List Vec) (C : ConvexPoly poly) (g : Vec × Vec) (hg : g ∈ edges poly)
    (t : Rat) (t0 : 0 ≤ t) (t1 : t ≤ 1) : InRegion poly (along g.1 g.2 t) :=
  (C.fst_inRegion hg).along C (C.snd_inRegion hg) t0 t1

/-- contrapositive of completeness -/
theorem not_strictly_inside (poly : List Vec) (C : ConvexPoly poly) (q : Vec) (hq : InPlane poly q)
    (h : inPoly poly (normal poly) q = false) :
    ∃ g ∈ edges poly, side3 (normal poly) g.1 g.2 q ≤ 0 := by
  by_contra hno
  have := inPoly_complete poly C q hq.1 hq.2 (fun g hg => by
    by_contra hle
    exact hno ⟨g, hg, not_lt.mp hle⟩)
  rw [this] at h
  exact absurd h (by decide)

end PorepyVerif.C30
