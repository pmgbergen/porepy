/-
C30 — the kernels for one pair: the clamped two-parameter algorithm of the segment–segment kernel yields a KKT point of a
convex quadratic on the unit square, hence a global minimum (`Gram`, `KKT`, `kkt_min`, `params_spec`); `ptSeg` is its
one-parameter case (`clamp_min`); first minimum over a list of edges; integer data are in the exact regime.
-/
import PorepyVerif.C30.LemmasVec

namespace PorepyVerif.C30

/-- facts about `a = u·u, b = u·v, c = v·v, d = u·w, e = v·w` that hold for all vectors -/
structure Gram (a b c d e : Rat) : Prop where
  ha : 0 ≤ a
  hc : 0 ≤ c
  hQ : ∀ x y : Rat, 0 ≤ x * x * a - 2 * x * y * b + y * y * c
  hker : ∀ x y : Rat, x * x * a - 2 * x * y * b + y * y * c = 0 → x * d - y * e = 0

theorem Gram.cs {a b c d e : Rat} (G : Gram a b c d e) : b * b ≤ a * c := by
  rcases G.ha.lt_or_eq with ha | ha
  · have h : 0 ≤ a * (a * c - b * b) := by linarith [G.hQ b a]
    linarith [nonneg_of_mul_nonneg_right h ha]
  rcases G.hc.lt_or_eq with hc | hc
  · have h : 0 ≤ c * (a * c - b * b) := by linarith [G.hQ c b]
    linarith [nonneg_of_mul_nonneg_right h hc]
  · have h := G.hQ 1 b
    rw [← ha, ← hc] at h ⊢
    linarith

theorem Gram.b0 {a b c d e : Rat} (G : Gram a b c d e) (h : a * c = 0) : b = 0 :=
  mul_self_eq_zero.mp (le_antisymm (h ▸ G.cs) (mul_self_nonneg b))

theorem Gram.a0 {a b c d e : Rat} (G : Gram a b c d e) (h : a = 0) : b = 0 ∧ d = 0 :=
  ⟨G.b0 (by rw [h, zero_mul]), by linarith [G.hker 1 0 (by rw [h]; ring)]⟩

theorem Gram.c0 {a b c d e : Rat} (G : Gram a b c d e) (h : c = 0) : b = 0 ∧ e = 0 :=
  ⟨G.b0 (by rw [h, mul_zero]), by linarith [G.hker 0 1 (by rw [h]; ring)]⟩

/-- the part of the squared distance that depends on the parameters -/
def distQuad (a b c d e s t : Rat) : Rat := s * s * a + t * t * c + 2 * s * d - 2 * t * e - 2 * s * t * b

/-- half the partial derivatives of `distQuad` -/
def gradS (a b d s t : Rat) : Rat := d + s * a - t * b
def gradT (b c e s t : Rat) : Rat := -e - s * b + t * c

/-- KKT conditions of `distQuad` on the unit square at `(s, t)` -/
structure KKT (a b c d e s t : Rat) : Prop where
  s0 : 0 ≤ s
  s1 : s ≤ 1
  t0 : 0 ≤ t
  t1 : t ≤ 1
  sLo : s < 1 → 0 ≤ gradS a b d s t
  sHi : 0 < s → gradS a b d s t ≤ 0
  tLo : t < 1 → 0 ≤ gradT b c e s t
  tHi : 0 < t → gradT b c e s t ≤ 0

theorem variational_ineq {x0 g : Rat} (lo : x0 < 1 → 0 ≤ g) (hi : 0 < x0 → g ≤ 0)
    {x : Rat} (hx0 : 0 ≤ x) (hx1 : x ≤ 1) : 0 ≤ (x - x0) * g := by
  rcases lt_trichotomy x x0 with h | h | h
  · exact mul_nonneg_of_nonpos_of_nonpos (by linarith) (hi (by linarith))
  · rw [h, sub_self, zero_mul]
  · exact mul_nonneg (by linarith) (lo (by linarith))

theorem clamp01_of_nonpos {x : Rat} (h : x ≤ 0) : clamp01 x = 0 := by
  unfold clamp01; rw [if_pos h]

theorem clamp01_of_one_le {x : Rat} (h : 1 ≤ x) : clamp01 x = 1 := by
  unfold clamp01; rw [if_neg (by linarith), if_pos h]

theorem clamp01_of_mem {x : Rat} (h0 : 0 ≤ x) (h1 : x ≤ 1) : clamp01 x = x := by
  unfold clamp01
  split_ifs <;> linarith

theorem clamp01_bounds (x : Rat) : 0 ≤ clamp01 x ∧ clamp01 x ≤ 1 := by
  unfold clamp01
  split_ifs with h1 h2
  · exact ⟨le_refl _, zero_le_one⟩
  · exact ⟨zero_le_one, le_refl _⟩
  · exact ⟨by linarith, by linarith⟩

/-- one-dimensional clamp: `x = clamp01 (g / m)` is in `[0, 1]` and satisfies the sign conditions of `m x²/2 - g x` there -/
theorem clamp_kkt {g m : Rat} (hm : 0 < m) :
    0 ≤ clamp01 (g / m) ∧ clamp01 (g / m) ≤ 1 ∧
    (clamp01 (g / m) < 1 → 0 ≤ clamp01 (g / m) * m - g) ∧
    (0 < clamp01 (g / m) → clamp01 (g / m) * m - g ≤ 0) := by
  refine ⟨(clamp01_bounds _).1, (clamp01_bounds _).2, ?_⟩
  rcases le_or_gt (g / m) 0 with h | h
  · rw [clamp01_of_nonpos h]
    exact ⟨fun _ => by linarith [(div_le_iff₀ hm).mp h], fun h0 => absurd h0 (lt_irrefl _)⟩
  rcases le_or_gt 1 (g / m) with h' | h'
  · rw [clamp01_of_one_le h']
    exact ⟨fun h1 => absurd h1 (lt_irrefl _), fun _ => by linarith [(le_div_iff₀ hm).mp h']⟩
  · rw [clamp01_of_mem h.le h'.le, div_mul_cancel₀ _ hm.ne', sub_self]
    exact ⟨fun _ => le_refl _, fun _ => le_refl _⟩

/-- `clamp01 (g / m)` minimises `x ↦ m x² - 2 g x` on `[0, 1]` -/
theorem clamp_min {g m x : Rat} (hm : 0 < m) (hx0 : 0 ≤ x) (hx1 : x ≤ 1) :
    clamp01 (g / m) * clamp01 (g / m) * m - 2 * clamp01 (g / m) * g ≤ x * x * m - 2 * x * g := by
  obtain ⟨_, _, klo, khi⟩ := clamp_kkt (g := g) hm
  have hvi := variational_ineq klo khi hx0 hx1
  generalize clamp01 (g / m) = c at hvi ⊢
  linarith [mul_nonneg (mul_self_nonneg (x - c)) hm.le]

theorem clamp01_cases (x : Rat) : clamp01 x = 0 ∨ clamp01 x = 1 ∨ (0 ≤ x ∧ x ≤ 1 ∧ clamp01 x = x) := by
  rcases le_or_gt x 0 with h | h
  · exact Or.inl (clamp01_of_nonpos h)
  rcases le_or_gt 1 x with h' | h'
  · exact Or.inr (Or.inl (clamp01_of_one_le h'))
  · exact Or.inr (Or.inr ⟨h.le, h'.le, clamp01_of_mem h.le h'.le⟩)

theorem kkt_min {a b c d e s0 t0 : Rat} (hQ : ∀ x y : Rat, 0 ≤ x * x * a - 2 * x * y * b + y * y * c)
    (K : KKT a b c d e s0 t0) {s t : Rat} (hs0 : 0 ≤ s) (hs1 : s ≤ 1) (ht0 : 0 ≤ t) (ht1 : t ≤ 1) :
    distQuad a b c d e s0 t0 ≤ distQuad a b c d e s t := by
  have key : distQuad a b c d e s t - distQuad a b c d e s0 t0 =
      2 * ((s - s0) * gradS a b d s0 t0) + 2 * ((t - t0) * gradT b c e s0 t0)
        + ((s - s0) * (s - s0) * a - 2 * (s - s0) * (t - t0) * b + (t - t0) * (t - t0) * c) := by
    unfold distQuad gradS gradT; ring
  have h1 := variational_ineq K.sLo K.sHi hs0 hs1
  have h2 := variational_ineq K.tLo K.tHi ht0 ht1
  have h3 := hQ (s - s0) (t - t0)
  linarith

/-- moving from the line `t = t1` (where `t1` is stationary for `s1`) to the line `t = t2`:
    if `s1`, `s2` are the constrained minimisers along the two lines, the `t`-derivative at
    `(s2, t2)` points away from `t1`. -/
theorem gradT_across_lines {a b c d e s1 t1 s2 t2 : Rat} (hc : 0 ≤ c) (hcs : b * b ≤ a * c)
    (hst : c * t1 = e + s1 * b)
    (V1 : 0 ≤ (s2 - s1) * gradS a b d s1 t1) (V2 : 0 ≤ (s1 - s2) * gradS a b d s2 t2) :
    0 ≤ (t2 - t1) * gradT b c e s2 t2 := by
  -- with X = s2 - s1, τ = t2 - t1, Y = τ X b: the claim is Y ≤ τ² c, and V1 + V2 say X² a ≤ Y
  have hgoal : (t2 - t1) * gradT b c e s2 t2 = (t2 - t1) * (t2 - t1) * c - (t2 - t1) * (s2 - s1) * b := by
    unfold gradT; linear_combination (t2 - t1) * hst
  have hY : (s2 - s1) * (s2 - s1) * a ≤ (t2 - t1) * (s2 - s1) * b := by unfold gradS at V1 V2; linarith
  rw [hgoal, sub_nonneg]
  generalize s2 - s1 = X at hY ⊢
  generalize t2 - t1 = τ at hY ⊢
  have hR : 0 ≤ τ * τ * c := mul_nonneg (mul_self_nonneg _) hc
  rcases le_or_gt (τ * X * b) 0 with h0 | hpos
  · exact h0.trans hR
  · -- Y² = τ² X² b² ≤ τ² X² a c ≤ τ² c Y
    have e1 : (τ * X * b) * (τ * X * b) ≤ (τ * τ * c) * (X * X * a) := by
      linarith [mul_le_mul_of_nonneg_left hcs (mul_nonneg (mul_self_nonneg τ) (mul_self_nonneg X))]
    exact le_of_mul_le_mul_right (e1.trans (mul_le_mul_of_nonneg_left hY hR)) hpos

/-- `(sN, sD, tN, tD)` represent the parameters `s = sN/sD`, `t = tN/tD` with positive denominators -/
structure Rep (q : Par) (s t : Rat) : Prop where
  hs : q.sN = s * q.sD
  ht : q.tN = t * q.tD
  sD : 0 < q.sD
  tD : 0 < q.tD

/-- after stage 1: `s1` is the clamped optimum, `t1` is the unconstrained optimal `t` for `s1`,
    and `s1` satisfies the sign conditions along the line `t = t1` -/
structure S1 (a b c d e s t : Rat) : Prop where
  s0 : 0 ≤ s
  s1 : s ≤ 1
  st : c * t = e + s * b
  sLo : s < 1 → 0 ≤ gradS a b d s t
  sHi : 0 < s → gradS a b d s t ≤ 0

/-- with `t` stationary for `s`, the sign conditions on `gradS` are sign conditions on `s D - (b e - c d)`, `D = a c - b²` -/
theorem S1.of_num {a b c d e s t : Rat} (hc : 0 < c) (s0 : 0 ≤ s) (s1 : s ≤ 1) (st : c * t = e + s * b)
    (lo : s < 1 → 0 ≤ s * (a * c - b * b) - (b * e - c * d)) (hi : 0 < s → s * (a * c - b * b) - (b * e - c * d) ≤ 0) :
    S1 a b c d e s t := by
  have key : c * gradS a b d s t = s * (a * c - b * b) - (b * e - c * d) := by
    unfold gradS; linear_combination (-b) * st
  exact ⟨s0, s1, st, fun h => nonneg_of_mul_nonneg_right (key ▸ lo h) hc,
    fun h => nonpos_of_mul_nonpos_right (key ▸ hi h) hc⟩

/-- what stage 1 represents, always; in the exact regime (the second premise is the first of the three tests in
    `exactRegime_iff`: the parallel test fires only on a discriminant that is not positive) `s1` is optimal along `t = t1` -/
theorem stage1_spec {tol a b c d e : Rat} (ha : 0 < a) (hc : 0 < c) (htol : 0 < tol) :
    ∃ s1 t1, Rep (stage1 tol a b c d e) s1 t1 ∧ 0 ≤ s1 ∧ s1 ≤ 1 ∧
      (Gram a b c d e → (a * c - b * b < tol * a * c → a * c - b * b ≤ 0) → S1 a b c d e s1 t1) := by
  have hne : c ≠ 0 := ne_of_gt hc
  have hp : 0 < tol * a * c := mul_pos (mul_pos htol ha) hc
  unfold stage1
  simp only []
  split_ifs with hpar hs0 hs1
  · -- parallel: D = 0 in the regime
    refine ⟨0, e / c, ⟨(zero_mul _).symm, (div_mul_cancel₀ _ hne).symm, one_pos, hc⟩, le_rfl, zero_le_one,
      fun G hreg => ?_⟩
    have hD : a * c - b * b = 0 := le_antisymm (hreg hpar) (by linarith [G.cs])
    have hk := G.hker c b (by linear_combination c * hD)
    exact S1.of_num hc le_rfl zero_le_one (by rw [mul_div_cancel₀ _ hne, zero_mul, add_zero])
      (fun _ => by rw [hD]; linarith) (fun h => absurd h (lt_irrefl _))
  · -- s = 0 edge
    exact ⟨0, e / c, ⟨(zero_mul _).symm, (div_mul_cancel₀ _ hne).symm, by linarith, hc⟩, le_rfl, zero_le_one,
      fun _ _ => S1.of_num hc le_rfl zero_le_one (by rw [mul_div_cancel₀ _ hne, zero_mul, add_zero])
        (fun _ => by linarith) (fun h => absurd h (lt_irrefl _))⟩
  · -- s = 1 edge
    exact ⟨1, (b + e) / c, ⟨(one_mul _).symm, (div_mul_cancel₀ _ hne).symm, by linarith, hc⟩, zero_le_one, le_rfl,
      fun _ _ => S1.of_num hc zero_le_one le_rfl (by rw [mul_div_cancel₀ _ hne, one_mul, add_comm])
        (fun h => absurd h (lt_irrefl _)) (fun _ => by linarith)⟩
  · -- interior stationary point
    have hD : 0 < a * c - b * b := by linarith
    have hs : (b * e - c * d) / (a * c - b * b) * (a * c - b * b) = b * e - c * d := div_mul_cancel₀ _ hD.ne'
    have ht : (a * e - b * d) / (a * c - b * b) * (a * c - b * b) = a * e - b * d := div_mul_cancel₀ _ hD.ne'
    have s0 := div_nonneg (not_lt.mp hs0) hD.le
    have s1 := (div_le_one hD).mpr (not_lt.mp hs1)
    exact ⟨_, _, ⟨hs.symm, ht.symm, hD, hD⟩, s0, s1, fun _ _ => S1.of_num hc s0 s1
      (mul_right_cancel₀ hD.ne' (by linear_combination c * ht - b * hs))
      (fun _ => by rw [hs, sub_self]) (fun _ => by rw [hs, sub_self])⟩

/-- on the edge `t = t2 ∈ {0, 1}` lying between the stationary `t1` of stage 1 and the square, the clamped
    minimiser in `s` along that edge is a KKT point -/
theorem edge_kkt {a b c d e s1 t1 t2 g : Rat} (ha : 0 < a) (hc : 0 ≤ c) (hcs : b * b ≤ a * c)
    (H : S1 a b c d e s1 t1) (hg : g = t2 * b - d) (ht : (t2 = 0 ∧ t1 < 0) ∨ (t2 = 1 ∧ 1 < t1)) :
    KKT a b c d e (clamp01 (g / a)) t2 := by
  obtain ⟨k0, k1, klo, khi⟩ := clamp_kkt (g := g) ha
  have gse : gradS a b d (clamp01 (g / a)) t2 = clamp01 (g / a) * a - g := by unfold gradS; rw [hg]; ring
  rw [← gse] at klo khi
  have sw := gradT_across_lines hc hcs H.st (variational_ineq H.sLo H.sHi k0 k1) (variational_ineq klo khi H.s0 H.s1)
  rcases ht with ⟨rfl, ht⟩ | ⟨rfl, ht⟩
  · exact ⟨k0, k1, le_refl _, zero_le_one, klo, khi,
      fun _ => nonneg_of_mul_nonneg_right sw (by linarith), fun h => absurd h (lt_irrefl _)⟩
  · refine ⟨k0, k1, zero_le_one, le_refl _, klo, khi, fun h => absurd h (lt_irrefl _), fun _ => ?_⟩
    by_contra hpos
    linarith [mul_neg_of_neg_of_pos (sub_neg.mpr ht) (not_le.mp hpos)]

/-- the update shared by the two `t`-edges of stage 2: the `t`-numerator becomes `n`, and `s := clamp (g / a)`
    written with numerator and denominator -/
def sEdge (a g n : Rat) (q : Par) : Par :=
  if g < 0 then { q with tN := n, sN := 0 }
  else if a < g then { q with tN := n, sN := q.sD }
  else { q with tN := n, sN := g, sD := a }

theorem stage2a_eq (a d : Rat) (q : Par) : stage2a a d q = if q.tN < 0 then sEdge a (-d) 0 q else q := by
  simp only [stage2a, sEdge, neg_lt_zero]

theorem stage2b_eq (a b d : Rat) (q : Par) :
    stage2b a b d q = if q.tD < q.tN then sEdge a (-d + b) q.tD q else q := rfl

theorem sEdge_t (a g n : Rat) (q : Par) : (sEdge a g n q).tN = n ∧ (sEdge a g n q).tD = q.tD := by
  unfold sEdge; split_ifs <;> exact ⟨rfl, rfl⟩

theorem sEdge_s {a g n : Rat} {q : Par} (ha : 0 < a) (hq : 0 < q.sD) :
    0 < (sEdge a g n q).sD ∧ (sEdge a g n q).sN = clamp01 (g / a) * (sEdge a g n q).sD := by
  unfold sEdge
  split_ifs with h1 h2
  · exact ⟨hq, by rw [clamp01_of_nonpos (div_nonpos_of_nonpos_of_nonneg h1.le ha.le), zero_mul]⟩
  · exact ⟨hq, by rw [clamp01_of_one_le ((one_le_div ha).mpr h2.le), one_mul]⟩
  · exact ⟨ha, by rw [clamp01_of_mem (div_nonneg (not_lt.mp h1) ha.le) ((div_le_one ha).mpr (not_lt.mp h2)),
      div_mul_cancel₀ _ ha.ne']⟩

/-- with a positive `t`-denominator at most one of the two edge updates of stage 2 fires -/
theorem stage2_eq {a b d : Rat} {q : Par} (hD : 0 < q.tD) :
    stage2 a b d q =
      if q.tN < 0 then sEdge a (-d) 0 q else if q.tD < q.tN then sEdge a (-d + b) q.tD q else q := by
  unfold stage2
  rw [stage2a_eq]
  split_ifs with hA hB
  · obtain ⟨eN, eD⟩ := sEdge_t a (-d) 0 q
    rw [stage2b_eq, if_neg (by rw [eN, eD]; exact not_lt.mpr hD.le)]
  · rw [stage2b_eq, if_pos hB]
  · rw [stage2b_eq, if_neg hB]

/-- a representation with a parameter in `[0, 1]`, read off the numerator: `0 ≤ n ≤ dn` -/
theorem Rep.num_mem {n dn x : Rat} (hn : n = x * dn) (hd : 0 < dn) : (0 ≤ x ↔ 0 ≤ n) ∧ (x ≤ 1 ↔ n ≤ dn) := by
  rw [hn]
  exact ⟨(mul_nonneg_iff_of_pos_right hd).symm, (mul_le_iff_le_one_left hd).symm⟩

/-- stage 2 moves to the edge `t = 0` or `t = 1` if the stationary `t1` lies outside `[0, 1]` -/
theorem stage2_spec {a b c d e : Rat} (ha : 0 < a) {q : Par} {s1 t1 : Rat} (R : Rep q s1 t1)
    (h0 : 0 ≤ s1) (h1 : s1 ≤ 1) :
    ∃ s2 t2, Rep (stage2 a b d q) s2 t2 ∧ 0 ≤ s2 ∧ s2 ≤ 1 ∧ 0 ≤ t2 ∧ t2 ≤ 1 ∧
      (Gram a b c d e → S1 a b c d e s1 t1 → KKT a b c d e s2 t2) := by
  obtain ⟨t0iff, t1iff⟩ := Rep.num_mem R.ht R.tD
  rw [stage2_eq R.tD]
  split_ifs with hA hB
  · -- t = 0 edge
    obtain ⟨eN, eD⟩ := sEdge_t a (-d) 0 q
    obtain ⟨sD, sN⟩ := sEdge_s (g := -d) (n := 0) ha R.sD
    exact ⟨_, 0, ⟨sN, by rw [eN, zero_mul], sD, by rw [eD]; exact R.tD⟩,
      (clamp01_bounds _).1, (clamp01_bounds _).2, le_rfl, zero_le_one,
      fun G H => edge_kkt ha G.hc G.cs H (by ring) (Or.inl ⟨rfl, not_le.mp (mt t0iff.mp (not_le.mpr hA))⟩)⟩
  · -- t = 1 edge
    obtain ⟨eN, eD⟩ := sEdge_t a (-d + b) q.tD q
    obtain ⟨sD, sN⟩ := sEdge_s (g := -d + b) (n := q.tD) ha R.sD
    exact ⟨_, 1, ⟨sN, by rw [eN, eD, one_mul], sD, by rw [eD]; exact R.tD⟩,
      (clamp01_bounds _).1, (clamp01_bounds _).2, zero_le_one, le_rfl,
      fun G H => edge_kkt ha G.hc G.cs H (by ring) (Or.inr ⟨rfl, not_le.mp (mt t1iff.mp (not_le.mpr hB))⟩)⟩
  · -- t1 ∈ [0, 1]: stage 1 already gave the minimiser
    have ht0 := t0iff.mpr (not_lt.mp hA)
    have ht1 := t1iff.mpr (not_lt.mp hB)
    refine ⟨s1, t1, R, h0, h1, ht0, ht1, fun _ H => ?_⟩
    have hg : gradT b c e s1 t1 = 0 := by unfold gradT; linarith [H.st]
    exact ⟨H.s0, H.s1, ht0, ht1, H.sLo, H.sHi, fun _ => hg.ge, fun _ => hg.le⟩

theorem snapDiv_eq {tol n dn x : Rat} (hn : n = x * dn) (hd : 0 < dn) (hx : 0 ≤ x)
    (hreg : n < tol * dn → n ≤ 0) : snapDiv tol n dn = x := by
  unfold snapDiv
  split_ifs with h
  · have h1 := hreg h
    rw [hn] at h1
    have : x ≤ 0 := by
      by_contra hc
      have : 0 < x * dn := mul_pos (not_le.mp hc) hd
      linarith
    linarith
  · rw [hn, mul_div_assoc, div_self (ne_of_gt hd), mul_one]

/-- the snap to zero keeps a parameter of `[0, 1]` there -/
theorem snapDiv_mem {tol n dn x : Rat} (hn : n = x * dn) (hd : 0 < dn) (hx0 : 0 ≤ x) (hx1 : x ≤ 1) :
    0 ≤ snapDiv tol n dn ∧ snapDiv tol n dn ≤ 1 := by
  unfold snapDiv
  split_ifs
  · exact ⟨le_rfl, zero_le_one⟩
  · rw [hn, mul_div_assoc, div_self hd.ne', mul_one]; exact ⟨hx0, hx1⟩

theorem exactRegime_iff {tol a b c d e : Rat} :
    exactRegime tol a b c d e = true ↔ a = 0 ∨ c = 0 ∨
      ((a * c - b * b < tol * a * c → a * c - b * b ≤ 0) ∧
      ((stage2 a b d (stage1 tol a b c d e)).sN < tol * (stage2 a b d (stage1 tol a b c d e)).sD →
        (stage2 a b d (stage1 tol a b c d e)).sN ≤ 0) ∧
      ((stage2 a b d (stage1 tol a b c d e)).tN < tol * (stage2 a b d (stage1 tol a b c d e)).tD →
        (stage2 a b d (stage1 tol a b c d e)).tN ≤ 0)) := by
  unfold exactRegime
  simp only [Bool.or_eq_true, Bool.and_eq_true, decide_eq_true_eq, Bool.not_eq_true', decide_eq_false_iff_not,
    ← imp_iff_not_or, or_assoc, and_assoc]

/-- the returned parameters lie in the unit square; in the exact regime they are a KKT point -/
theorem params_spec {tol a b c d e : Rat} (ha0 : 0 ≤ a) (hc0 : 0 ≤ c) (htol : 0 < tol) :
    (0 ≤ (segSegParams tol a b c d e).1 ∧ (segSegParams tol a b c d e).1 ≤ 1 ∧
      0 ≤ (segSegParams tol a b c d e).2 ∧ (segSegParams tol a b c d e).2 ≤ 1) ∧
    (Gram a b c d e → exactRegime tol a b c d e = true →
      KKT a b c d e (segSegParams tol a b c d e).1 (segSegParams tol a b c d e).2) := by
  unfold segSegParams
  by_cases hc : c = 0
  · -- the second segment is a point
    rw [if_pos hc]
    by_cases ha : a = 0
    · rw [if_pos ha]
      refine ⟨⟨le_rfl, zero_le_one, le_rfl, zero_le_one⟩, fun G _ => ?_⟩
      obtain ⟨hb, he⟩ := G.c0 hc
      obtain ⟨_, hd⟩ := G.a0 ha
      refine ⟨le_rfl, zero_le_one, le_rfl, zero_le_one, ?_, ?_, ?_, ?_⟩ <;> intro _ <;>
        simp [gradS, gradT, ha, hb, hc, hd, he]
    · rw [if_neg ha]
      obtain ⟨k0, k1, klo, khi⟩ := clamp_kkt (g := -d) (lt_of_le_of_ne ha0 (Ne.symm ha))
      refine ⟨⟨k0, k1, le_rfl, zero_le_one⟩, fun G _ => ?_⟩
      obtain ⟨hb, he⟩ := G.c0 hc
      refine ⟨k0, k1, le_rfl, zero_le_one, ?_, ?_, ?_, ?_⟩
      · intro h; unfold gradS; rw [hb]; linarith [klo h]
      · intro h; unfold gradS; rw [hb]; linarith [khi h]
      · intro _; simp [gradT, hb, hc, he]
      · intro _; simp [gradT, hb, hc, he]
  · rw [if_neg hc]
    have hc' : 0 < c := lt_of_le_of_ne hc0 (Ne.symm hc)
    by_cases ha : a = 0
    · -- the first segment is a point
      rw [if_pos ha]
      obtain ⟨k0, k1, klo, khi⟩ := clamp_kkt (g := e) hc'
      refine ⟨⟨le_rfl, zero_le_one, k0, k1⟩, fun G _ => ?_⟩
      obtain ⟨hb, hd⟩ := G.a0 ha
      refine ⟨le_rfl, zero_le_one, k0, k1, ?_, ?_, ?_, ?_⟩
      · intro _; simp [gradS, ha, hb, hd]
      · intro _; simp [gradS, ha, hb, hd]
      · intro h; unfold gradT; rw [hb]; linarith [klo h]
      · intro h; unfold gradT; rw [hb]; linarith [khi h]
    · rw [if_neg ha]
      have ha' : 0 < a := lt_of_le_of_ne ha0 (Ne.symm ha)
      obtain ⟨s1, t1, R1, m0, m1, H1⟩ := stage1_spec (b := b) (d := d) (e := e) ha' hc' htol
      obtain ⟨s2, t2, R2, n0, n1, n2, n3, K⟩ := stage2_spec (b := b) (c := c) (d := d) (e := e) ha' R1 m0 m1
      simp only []
      refine ⟨⟨(snapDiv_mem R2.hs R2.sD n0 n1).1, (snapDiv_mem R2.hs R2.sD n0 n1).2,
        (snapDiv_mem R2.ht R2.tD n2 n3).1, (snapDiv_mem R2.ht R2.tD n2 n3).2⟩, fun G hreg => ?_⟩
      obtain ⟨r1, r2, r3⟩ := ((exactRegime_iff.mp hreg).resolve_left ha).resolve_left hc
      rw [snapDiv_eq R2.hs R2.sD n0 r2, snapDiv_eq R2.ht R2.tD n2 r3]
      exact K G (H1 G r1)

theorem gram_of_vectors (u v w : Vec) (h1 : u.length = v.length) :
    Gram (nsq u) (dot u v) (nsq v) (dot u w) (dot v w) where
  ha := nsq_nonneg u
  hc := nsq_nonneg v
  hQ := fun x y => by rw [← nsq_comb u v x y h1]; exact nsq_nonneg _
  hker := fun x y h => by
    rw [← nsq_comb u v x y h1] at h
    rw [← dot_smul_left x, ← dot_smul_left y, ← dot_vsub_left _ _ _ (by simp [h1])]
    exact dot_eq_zero_of_nsq_eq_zero _ _ h

/-- `points_segments` in one equation: the parameter is the clamped projection parameter -/
theorem ptSeg_eq (p a b : Vec) (h : a.length = b.length) :
    ptSeg p a b =
      ⟨clamp01 (if nsq (vsub b a) = 0 then 0 else dot (vsub p a) (vsub b a) / nsq (vsub b a)),
       along a b (clamp01 (if nsq (vsub b a) = 0 then 0 else dot (vsub p a) (vsub b a) / nsq (vsub b a))),
       nsq (vsub p (along a b (clamp01 (if nsq (vsub b a) = 0 then 0 else dot (vsub p a) (vsub b a) / nsq (vsub b a)))))⟩ := by
  unfold ptSeg clamp01
  simp only []
  generalize (if nsq (vsub b a) = 0 then 0 else dot (vsub p a) (vsub b a) / nsq (vsub b a)) = proj
  split_ifs
  · rw [along_zero a b h]
  · rw [along_one a b h]
  · rfl

theorem ptSeg_spec (p a b : Vec) (_h1 : p.length = a.length) (h2 : a.length = b.length) :
    0 ≤ (ptSeg p a b).t ∧ (ptSeg p a b).t ≤ 1 ∧ (ptSeg p a b).cp = along a b (ptSeg p a b).t ∧
      (ptSeg p a b).d2 = nsq (vsub p (ptSeg p a b).cp) := by
  rw [ptSeg_eq p a b h2]
  exact ⟨(clamp01_bounds _).1, (clamp01_bounds _).2, rfl, rfl⟩

theorem ptSeg_min (p a b : Vec) (h1 : p.length = a.length) (h2 : a.length = b.length)
    (s : Rat) (hs0 : 0 ≤ s) (hs1 : s ≤ 1) :
    (ptSeg p a b).d2 ≤ nsq (vsub p (along a b s)) := by
  rw [ptSeg_eq p a b h2, nsq_sub_along p a b _ h1 h2, nsq_sub_along p a b s h1 h2]
  by_cases hl : nsq (vsub b a) = 0
  · -- zero-length segment
    have hz : dot (vsub p a) (vsub b a) = 0 := by
      rw [dot_comm]; exact dot_eq_zero_of_nsq_eq_zero _ _ hl
    rw [if_pos hl, hz, hl]
    simp
  · rw [if_neg hl]
    linarith [clamp_min (g := dot (vsub p a) (vsub b a)) (lt_of_le_of_ne (nsq_nonneg _) (Ne.symm hl)) hs0 hs1]

/-- the kernel is run on the five dot products of `u = p1 - p0`, `v = q1 - q0`, `w = p0 - q0` -/
theorem segSeg_fields (tol : Rat) (p0 p1 q0 q1 : Vec) :
    let st := segSegParams tol (nsq (vsub p1 p0)) (dot (vsub p1 p0) (vsub q1 q0)) (nsq (vsub q1 q0))
      (dot (vsub p1 p0) (vsub p0 q0)) (dot (vsub q1 q0) (vsub p0 q0))
    (segSeg tol p0 p1 q0 q1).s = st.1 ∧ (segSeg tol p0 p1 q0 q1).t = st.2 ∧
    (segSeg tol p0 p1 q0 q1).cp1 = along p0 p1 st.1 ∧ (segSeg tol p0 p1 q0 q1).cp2 = along q0 q1 st.2 ∧
    (segSeg tol p0 p1 q0 q1).d2 = nsq (vsub (vadd (vsub p0 q0) (smul st.1 (vsub p1 p0))) (smul st.2 (vsub q1 q0))) ∧
    (segSeg tol p0 p1 q0 q1).exact = exactRegime tol (nsq (vsub p1 p0)) (dot (vsub p1 p0) (vsub q1 q0)) (nsq (vsub q1 q0))
      (dot (vsub p1 p0) (vsub p0 q0)) (dot (vsub q1 q0) (vsub p0 q0)) :=
  ⟨rfl, rfl, rfl, rfl, rfl, rfl⟩

theorem segSeg_exact (tol : Rat) (p0 p1 q0 q1 : Vec) :
    (segSeg tol p0 p1 q0 q1).exact = exactRegime tol (nsq (vsub p1 p0)) (dot (vsub p1 p0) (vsub q1 q0)) (nsq (vsub q1 q0))
      (dot (vsub p1 p0) (vsub p0 q0)) (dot (vsub q1 q0) (vsub p0 q0)) := rfl

/-- the distance is that of `w + s u - t v` (`dist_eq`: the difference of the two closest points) -/
theorem segSeg_d2 (tol : Rat) (p0 p1 q0 q1 : Vec) :
    (segSeg tol p0 p1 q0 q1).d2 = nsq (vsub (vadd (vsub p0 q0) (smul (segSeg tol p0 p1 q0 q1).s (vsub p1 p0)))
      (smul (segSeg tol p0 p1 q0 q1).t (vsub q1 q0))) := rfl

theorem segSeg_on_segs (tol : Rat) (htol : 0 < tol) (p0 p1 q0 q1 : Vec)
    (h1 : p0.length = p1.length) (h2 : p0.length = q0.length) (h3 : q0.length = q1.length) :
    let o := segSeg tol p0 p1 q0 q1
    0 ≤ o.s ∧ o.s ≤ 1 ∧ 0 ≤ o.t ∧ o.t ≤ 1 ∧ o.cp1 = along p0 p1 o.s ∧ o.cp2 = along q0 q1 o.t ∧
      o.d2 = nsq (vsub o.cp1 o.cp2) := by
  obtain ⟨b0, b1, b2, b3⟩ := (params_spec (tol := tol) (b := dot (vsub p1 p0) (vsub q1 q0))
    (d := dot (vsub p1 p0) (vsub p0 q0)) (e := dot (vsub q1 q0) (vsub p0 q0))
    (nsq_nonneg (vsub p1 p0)) (nsq_nonneg (vsub q1 q0)) htol).1
  exact ⟨b0, b1, b2, b3, rfl, rfl, congrArg nsq (dist_eq p0 p1 q0 q1 _ _ h1 h2 h3)⟩

theorem segSeg_min (tol : Rat) (htol : 0 < tol) (p0 p1 q0 q1 : Vec)
    (h1 : p0.length = p1.length) (h2 : p0.length = q0.length) (h3 : q0.length = q1.length)
    (hreg : (segSeg tol p0 p1 q0 q1).exact = true)
    (s t : Rat) (hs0 : 0 ≤ s) (hs1 : s ≤ 1) (ht0 : 0 ≤ t) (ht1 : t ≤ 1) :
    (segSeg tol p0 p1 q0 q1).d2 ≤ nsq (vsub (along p0 p1 s) (along q0 q1 t)) := by
  rw [segSeg_exact] at hreg
  rw [segSeg_d2, dist_eq p0 p1 q0 q1 _ _ h1 h2 h3, nsq_along_along p0 p1 q0 q1 _ _ h1 h2 h3,
    nsq_along_along p0 p1 q0 q1 s t h1 h2 h3]
  have hl : (vsub p1 p0).length = (vsub q1 q0).length := by
    rw [length_vsub _ _ h1.symm, length_vsub _ _ h3.symm]; omega
  have G := gram_of_vectors (vsub p1 p0) (vsub q1 q0) (vsub p0 q0) hl
  have K : KKT _ _ _ _ _ (segSeg tol p0 p1 q0 q1).s (segSeg tol p0 p1 q0 q1).t :=
    (params_spec G.ha G.hc htol).2 G hreg
  have := kkt_min G.hQ K hs0 hs1 ht0 ht1
  unfold distQuad at this
  linarith

/-- first minimum of `key ∘ f` over a list, the way `minPtSeg` and `minSegSeg` compute it -/
def firstMin {α β : Type} (key : β → Rat) (f : α → β) : List α → Option β
  | [] => none
  | e :: es =>
    match firstMin key f es with
    | none => some (f e)
    | some o' => if key o' < key (f e) then some o' else some (f e)

theorem firstMin_none {α β : Type} {key : β → Rat} {f : α → β} {es : List α} (h : firstMin key f es = none) :
    es = [] := by
  cases es with
  | nil => rfl
  | cons e es =>
    unfold firstMin at h
    cases h' : firstMin key f es <;> rw [h'] at h <;> simp at h
    split at h <;> simp at h

theorem firstMin_spec {α β : Type} {key : β → Rat} {f : α → β} {es : List α} {o : β}
    (h : firstMin key f es = some o) : (∀ g ∈ es, key o ≤ key (f g)) ∧ ∃ g ∈ es, o = f g := by
  induction es generalizing o with
  | nil => simp [firstMin] at h
  | cons g gs ih =>
    unfold firstMin at h
    cases hm : firstMin key f gs with
    | none =>
      rw [hm] at h
      obtain rfl : f g = o := Option.some.inj h
      rw [firstMin_none hm]
      exact ⟨fun g' hg' => by rw [List.mem_singleton.mp hg'], g, List.mem_singleton_self g, rfl⟩
    | some o' =>
      rw [hm] at h
      obtain ⟨ih1, g', hg', ih2⟩ := ih hm
      simp only [] at h
      split_ifs at h with hlt
      · obtain rfl : o' = o := Option.some.inj h
        exact ⟨List.forall_mem_cons.mpr ⟨hlt.le, ih1⟩, g', List.mem_cons_of_mem _ hg', ih2⟩
      · obtain rfl : f g = o := Option.some.inj h
        exact ⟨List.forall_mem_cons.mpr ⟨le_refl _, fun x hx => (not_lt.mp hlt).trans (ih1 x hx)⟩,
          g, List.mem_cons_self, rfl⟩

theorem minPtSeg_eq (p : Vec) (es : List (Vec × Vec)) :
    minPtSeg p es = firstMin PtSegOut.d2 (fun g => ptSeg p g.1 g.2) es := by
  induction es with
  | nil => rfl
  | cons g gs ih =>
    unfold minPtSeg firstMin
    rw [ih]
    cases firstMin PtSegOut.d2 (fun g => ptSeg p g.1 g.2) gs <;> rfl

theorem minSegSeg_eq (tol : Rat) (s e : Vec) (es : List (Vec × Vec)) :
    minSegSeg tol s e es = firstMin SegSegOut.d2 (fun g => segSeg tol s e g.1 g.2) es := by
  induction es with
  | nil => rfl
  | cons g gs ih =>
    unfold minSegSeg firstMin
    rw [ih]
    cases firstMin SegSegOut.d2 (fun g => segSeg tol s e g.1 g.2) gs <;> rfl

theorem minPtSeg_spec (p : Vec) (es : List (Vec × Vec)) (o : PtSegOut) (h : minPtSeg p es = some o) :
    (∀ g ∈ es, o.d2 ≤ (ptSeg p g.1 g.2).d2) ∧ ∃ g ∈ es, o = ptSeg p g.1 g.2 :=
  firstMin_spec (minPtSeg_eq p es ▸ h)

theorem minPtSeg_none (p : Vec) (es : List (Vec × Vec)) (h : minPtSeg p es = none) : es = [] :=
  firstMin_none (minPtSeg_eq p es ▸ h)

theorem minSegSeg_spec (tol : Rat) (s e : Vec) (es : List (Vec × Vec)) (o : SegSegOut)
    (h : minSegSeg tol s e es = some o) :
    (∀ g ∈ es, o.d2 ≤ (segSeg tol s e g.1 g.2).d2) ∧ ∃ g ∈ es, o = segSeg tol s e g.1 g.2 :=
  firstMin_spec (minSegSeg_eq tol s e es ▸ h)

theorem minSegSeg_none (tol : Rat) (s e : Vec) (es : List (Vec × Vec)) (h : minSegSeg tol s e es = none) :
    es = [] :=
  firstMin_none (minSegSeg_eq tol s e es ▸ h)

/-! ### integer inputs: the tolerance devices cannot fire on non-zero quantities -/

def IsInt (x : Rat) : Prop := ∃ z : Int, x = (z : Rat)

theorem IsInt.zero : IsInt 0 := ⟨0, by simp⟩
theorem IsInt.one : IsInt 1 := ⟨1, by simp⟩
theorem IsInt.add {x y : Rat} (hx : IsInt x) (hy : IsInt y) : IsInt (x + y) := by
  obtain ⟨a, rfl⟩ := hx; obtain ⟨b, rfl⟩ := hy; exact ⟨a + b, by push_cast; ring⟩
theorem IsInt.sub {x y : Rat} (hx : IsInt x) (hy : IsInt y) : IsInt (x - y) := by
  obtain ⟨a, rfl⟩ := hx; obtain ⟨b, rfl⟩ := hy; exact ⟨a - b, by push_cast; ring⟩
theorem IsInt.mul {x y : Rat} (hx : IsInt x) (hy : IsInt y) : IsInt (x * y) := by
  obtain ⟨a, rfl⟩ := hx; obtain ⟨b, rfl⟩ := hy; exact ⟨a * b, by push_cast; ring⟩
theorem IsInt.neg {x : Rat} (hx : IsInt x) : IsInt (-x) := by
  obtain ⟨a, rfl⟩ := hx; exact ⟨-a, by push_cast; ring⟩

theorem IsInt.le_zero_of_lt_one {x : Rat} (hx : IsInt x) (h : x < 1) : x ≤ 0 := by
  obtain ⟨z, rfl⟩ := hx
  have : z < 1 := by exact_mod_cast h
  have : z ≤ 0 := by omega
  exact_mod_cast this

theorem IsInt.one_le {x : Rat} (hx : IsInt x) (h0 : 0 ≤ x) (hne : x ≠ 0) : 1 ≤ x := by
  obtain ⟨z, rfl⟩ := hx
  have h1 : (0 : Int) ≤ z := by exact_mod_cast h0
  have h2 : z ≠ 0 := by intro h; apply hne; rw [h]; simp
  have : 1 ≤ z := by omega
  exact_mod_cast this

def IntVec (v : Vec) : Prop := ∀ x ∈ v, IsInt x

theorem IntVec.tail {x : Rat} {xs : Vec} (h : IntVec (x :: xs)) : IntVec xs :=
  fun y hy => h y (List.mem_cons_of_mem _ hy)

theorem IntVec.head {x : Rat} {xs : Vec} (h : IntVec (x :: xs)) : IsInt x := h x (by simp)

theorem IntVec.vsub {u v : Vec} (hu : IntVec u) (hv : IntVec v) : IntVec (vsub u v) := by
  induction u generalizing v with
  | nil => intro x hx; simp at hx
  | cons a as ih => cases v with
    | nil => intro x hx; simp at hx
    | cons b bs =>
      intro x hx
      simp only [vsub_cons, List.mem_cons] at hx
      rcases hx with rfl | hx
      · exact hu.head.sub hv.head
      · exact ih hu.tail hv.tail x hx

theorem IntVec.dot {u v : Vec} (hu : IntVec u) (hv : IntVec v) : IsInt (dot u v) := by
  induction u generalizing v with
  | nil => simp; exact IsInt.zero
  | cons a as ih => cases v with
    | nil => simp; exact IsInt.zero
    | cons b bs => simp only [dot_cons]; exact (hu.head.mul hv.head).add (ih hu.tail hv.tail)

structure IntPar (m : Rat) (q : Par) : Prop where
  sN : IsInt q.sN
  tN : IsInt q.tN
  sD : IsInt q.sD
  tD : IsInt q.tD
  sDm : q.sD ≤ m
  tDm : q.tD ≤ m

theorem stage1_int {tol a b c d e : Rat} (ha : IsInt a) (hb : IsInt b) (hc : IsInt c) (hd : IsInt d) (he : IsInt e)
    (h1a : 1 ≤ a) (h1c : 1 ≤ c) : IntPar (a * c) (stage1 tol a b c d e) := by
  have hac : 1 ≤ a * c := one_le_mul_of_one_le_of_one_le h1a h1c
  have hca : c ≤ a * c := le_mul_of_one_le_left (zero_le_one.trans h1c) h1a
  have hD : a * c - b * b ≤ a * c := by linarith [mul_self_nonneg b]
  have iD : IsInt (a * c - b * b) := (ha.mul hc).sub (hb.mul hb)
  unfold stage1
  simp only []
  split_ifs
  · exact ⟨IsInt.zero, he, IsInt.one, hc, hac, hca⟩
  · exact ⟨IsInt.zero, he, iD, hc, hD, hca⟩
  · exact ⟨iD, hb.add he, iD, hc, hD, hca⟩
  · exact ⟨(hb.mul he).sub (hc.mul hd), (ha.mul he).sub (hb.mul hd), iD, iD, hD, hD⟩

theorem sEdge_int {m a g n : Rat} {q : Par} (ha : IsInt a) (hg : IsInt g) (hn : IsInt n) (ham : a ≤ m)
    (h : IntPar m q) : IntPar m (sEdge a g n q) := by
  unfold sEdge
  split_ifs
  · exact ⟨IsInt.zero, hn, h.sD, h.tD, h.sDm, h.tDm⟩
  · exact ⟨h.sD, hn, h.sD, h.tD, h.sDm, h.tDm⟩
  · exact ⟨hg, hn, ha, h.tD, ham, h.tDm⟩

theorem stage2_int {m a b d : Rat} {q : Par} (ha : IsInt a) (hb : IsInt b) (hd : IsInt d) (ham : a ≤ m)
    (h : IntPar m q) : IntPar m (stage2 a b d q) := by
  have A : IntPar m (stage2a a d q) := by
    rw [stage2a_eq]
    split_ifs
    · exact sEdge_int ha hd.neg IsInt.zero ham h
    · exact h
  unfold stage2
  rw [stage2b_eq]
  split_ifs
  · exact sEdge_int ha (hd.neg.add hb) A.tD ham A
  · exact A

theorem exactRegime_of_int {tol a b c d e : Rat} (htol : 0 < tol)
    (ha : IsInt a) (hb : IsInt b) (hc : IsInt c) (hd : IsInt d) (he : IsInt e)
    (ha0 : 0 ≤ a) (hc0 : 0 ≤ c) (hbound : tol * a * c ≤ 1) : exactRegime tol a b c d e = true := by
  rw [exactRegime_iff]
  by_cases hz : a = 0
  · exact Or.inl hz
  by_cases hzc : c = 0
  · exact Or.inr (Or.inl hzc)
  have h1a := ha.one_le ha0 hz
  have h1c := hc.one_le hc0 hzc
  have I2 := stage2_int ha hb hd (le_mul_of_one_le_right ha0 h1c) (stage1_int (tol := tol) ha hb hc hd he h1a h1c)
  -- an integer numerator below `tol` times a denominator `≤ a c` is below 1
  have key : ∀ n dn : Rat, IsInt n → dn ≤ a * c → n < tol * dn → n ≤ 0 := fun n dn hn hdn h =>
    hn.le_zero_of_lt_one (by linarith [mul_le_mul_of_nonneg_left hdn htol.le])
  exact Or.inr (Or.inr ⟨fun h => ((ha.mul hc).sub (hb.mul hb)).le_zero_of_lt_one (by linarith),
    key _ _ I2.sN I2.sDm, key _ _ I2.tN I2.tDm⟩)

end PorepyVerif.C30
