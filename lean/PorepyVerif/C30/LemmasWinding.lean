/-
C30 — the winding test in two dimensions: it accepts a point that is strictly on the same side of all edges
(`winding_complete`), and the contributions sum to zero when all vertices lie in an open half-plane (`winding_sum_zero`).
-/
import PorepyVerif.C30.Model
import Mathlib.Algebra.Order.Field.Rat
import Mathlib.Tactic.Ring
import Mathlib.Tactic.Linarith
import Mathlib.Tactic.Positivity
import Mathlib.Tactic.FieldSimp
import Mathlib.Tactic.LinearCombination

namespace PorepyVerif.C30

theorem sgn_pos {x : Rat} (h : 0 < x) : sgn x = 1 := by
  unfold sgn; rw [if_neg (by linarith), if_pos h]
theorem sgn_neg {x : Rat} (h : x < 0) : sgn x = -1 := by
  unfold sgn; rw [if_pos h]
theorem sgn_zero : sgn 0 = 0 := by unfold sgn; simp

/-- where `vertex_sgn = 1`: the open right half-plane plus the positive y-axis; `LeftHalf` is its mirror image -/
def RightHalf (u : Rat × Rat) : Prop := 0 < u.1 ∨ (u.1 = 0 ∧ 0 < u.2)
def LeftHalf (u : Rat × Rat) : Prop := u.1 < 0 ∨ (u.1 = 0 ∧ u.2 < 0)

theorem RightHalf.x_nonneg {u : Rat × Rat} (h : RightHalf u) : 0 ≤ u.1 := h.elim le_of_lt (fun h => h.1.ge)
theorem LeftHalf.x_nonpos {u : Rat × Rat} (h : LeftHalf u) : u.1 ≤ 0 := h.elim le_of_lt (fun h => h.1.le)
theorem LeftHalf.neg {u : Rat × Rat} (h : LeftHalf u) : RightHalf (-u.1, -u.2) :=
  h.imp neg_pos.mpr (fun h => ⟨neg_eq_zero.mpr h.1, neg_pos.mpr h.2⟩)

theorem vsign2_cases (u : Rat × Rat) :
    (vsign2 u = 1 ∧ RightHalf u) ∨ (vsign2 u = -1 ∧ LeftHalf u) ∨
    (vsign2 u = 0 ∧ u.1 = 0 ∧ u.2 = 0) := by
  unfold vsign2 vsign
  rcases lt_trichotomy u.1 0 with h | h | h
  · right; left
    rw [sgn_neg h]; simp; exact Or.inl h
  · have hs : sgn u.1 = 0 := by rw [h]; exact sgn_zero
    rw [if_pos hs]
    rcases lt_trichotomy u.2 0 with h2 | h2 | h2
    · right; left; exact ⟨sgn_neg h2, Or.inr ⟨h, h2⟩⟩
    · right; right; exact ⟨by rw [h2]; exact sgn_zero, h, h2⟩
    · left; exact ⟨sgn_pos h2, Or.inr ⟨h, h2⟩⟩
  · left
    rw [sgn_pos h]; simp; exact Or.inl h

theorem cross2_self (u : Rat × Rat) : cross2 u u = 0 := by unfold cross2; ring
theorem cross2_anti (u v : Rat × Rat) : cross2 v u = -cross2 u v := by unfold cross2; ring

theorem vsign2_eq_one {u : Rat × Rat} (h : vsign2 u = 1) : RightHalf u := by
  rcases vsign2_cases u with ⟨_, hu⟩ | ⟨s, _⟩ | ⟨s, _⟩
  · exact hu
  · rw [s] at h; exact absurd h (by decide)
  · rw [s] at h; exact absurd h (by decide)

theorem vsign2_eq_neg_one {u : Rat × Rat} (h : vsign2 u = -1) : LeftHalf u := by
  rcases vsign2_cases u with ⟨s, _⟩ | ⟨_, hu⟩ | ⟨s, _⟩
  · rw [s] at h; exact absurd h (by decide)
  · exact hu
  · rw [s] at h; exact absurd h (by decide)

theorem cross2_neg_neg (u v : Rat × Rat) : cross2 (-u.1, -u.2) (-v.1, -v.2) = cross2 u v := by unfold cross2; ring

/-- the angular order is transitive in the half-plane `vertex_sgn = 1` -/
theorem turn_trans_right {ρ : Rat} {u v w : Rat × Rat} (hu : RightHalf u) (hv : 0 ≤ v.1)
    (hw : RightHalf w) (c1 : 0 < ρ * cross2 u v) (c2 : 0 < ρ * cross2 v w) :
    0 < ρ * cross2 u w := by
  have X1 : v.1 * (ρ * cross2 u w) = u.1 * (ρ * cross2 v w) + w.1 * (ρ * cross2 u v) := by unfold cross2; ring
  have X2 : v.2 * (ρ * cross2 u w) = u.2 * (ρ * cross2 v w) + w.2 * (ρ * cross2 u v) := by unfold cross2; ring
  have hu1 := hu.x_nonneg
  have hw1 := hw.x_nonneg
  rcases hu with hu | ⟨hu0, hu2⟩
  · refine pos_of_mul_pos_right ?_ hv
    rw [X1]; exact add_pos_of_pos_of_nonneg (mul_pos hu c2) (mul_nonneg hw1 c1.le)
  rcases hw with hw | ⟨hw0, hw2⟩
  · refine pos_of_mul_pos_right ?_ hv
    rw [X1]; exact add_pos_of_nonneg_of_pos (mul_nonneg hu1 c2.le) (mul_pos hw c1)
  -- `u` and `w` both on the positive y-axis: their cross product vanishes, against the second identity
  have hX : ρ * cross2 u w = 0 := by unfold cross2; rw [hu0, hw0]; ring
  have : 0 < v.2 * (ρ * cross2 u w) := by rw [X2]; exact add_pos (mul_pos hu2 c2) (mul_pos hw2 c1)
  rw [hX, mul_zero] at this
  exact absurd this (lt_irrefl _)

/-- "same half-plane, counter-clockwise (times ρ)" relation between direction vectors -/
def Rturn (ρ : Rat) (u v : Rat × Rat) : Prop :=
  vsign2 u = vsign2 v ∧ vsign2 u ≠ 0 ∧ 0 < ρ * cross2 u v

theorem Rturn_trans {ρ : Rat} {u v w : Rat × Rat} (h1 : Rturn ρ u v) (h2 : Rturn ρ v w) : Rturn ρ u w := by
  obtain ⟨e1, n1, c1⟩ := h1
  obtain ⟨e2, _, c2⟩ := h2
  refine ⟨e1.trans e2, n1, ?_⟩
  rcases vsign2_cases u with ⟨su, hu⟩ | ⟨su, hu⟩ | ⟨su, _⟩
  · have hv := vsign2_eq_one (e1.symm.trans su)
    have hw := vsign2_eq_one (e2.symm.trans (e1.symm.trans su))
    exact turn_trans_right hu hv.x_nonneg hw c1 c2
  · -- the other half-plane is the mirror image
    have hv := vsign2_eq_neg_one (e1.symm.trans su)
    have hw := vsign2_eq_neg_one (e2.symm.trans (e1.symm.trans su))
    have := turn_trans_right (ρ := ρ) (u := (-u.1, -u.2)) (v := (-v.1, -v.2)) (w := (-w.1, -w.2))
      hu.neg (neg_nonneg.mpr hv.x_nonpos) hw.neg
      (by rw [cross2_neg_neg]; exact c1) (by rw [cross2_neg_neg]; exact c2)
    rwa [cross2_neg_neg] at this
  · exact absurd su n1

theorem Rturn_irrefl {ρ : Rat} {u : Rat × Rat} (h : Rturn ρ u u) : False := by
  have := h.2.2; rw [cross2_self] at this; simp at this

/-- a closed chain cannot turn the same way at every step inside one half-plane -/
theorem no_closed_chain (ρ : Rat) (first a : Rat × Rat) (l : List (Rat × Rat))
    (hstart : first = a ∨ Rturn ρ first a)
    (hall : ∀ e ∈ edgesFrom first (a :: l), Rturn ρ e.1 e.2) : False := by
  induction l generalizing a with
  | nil =>
    have h := hall (a, first) (by simp [edgesFrom])
    rcases hstart with rfl | h'
    · exact Rturn_irrefl h
    · exact Rturn_irrefl (Rturn_trans h' h)
  | cons b l ih =>
    have hab := hall (a, b) (by simp [edgesFrom])
    apply ih b
    · right
      rcases hstart with rfl | h'
      · exact hab
      · exact Rturn_trans h' hab
    · intro e he
      exact hall e (by simp only [edgesFrom, List.mem_cons]; exact Or.inr he)

theorem edgesFrom_map {α β : Type} (f : α → β) (first : α) (l : List α) :
    edgesFrom (f first) (l.map f) = (edgesFrom first l).map (fun e => (f e.1, f e.2)) := by
  induction l with
  | nil => rfl
  | cons a l ih =>
    cases l with
    | nil => rfl
    | cons b l => simp only [List.map_cons, edgesFrom] at ih ⊢; rw [ih]

theorem edges_map {α β : Type} (f : α → β) (l : List α) :
    edges (l.map f) = (edges l).map (fun e => (f e.1, f e.2)) := by
  cases l with
  | nil => rfl
  | cons a l => exact edgesFrom_map f a (a :: l)

theorem sum_telescope {α : Type} (φ : α → Int) (first a : α) (l : List α) :
    sumInt ((edgesFrom first (a :: l)).map (fun e => φ e.2 - φ e.1)) = φ first - φ a := by
  induction l generalizing a with
  | nil => simp [edgesFrom, sumInt]
  | cons b l ih =>
    simp only [edgesFrom, List.map_cons, sumInt]
    rw [ih b]; ring

theorem sum_telescope_edges {α : Type} (φ : α → Int) (l : List α) :
    sumInt ((edges l).map (fun e => φ e.2 - φ e.1)) = 0 := by
  cases l with
  | nil => rfl
  | cons a l => unfold edges; rw [sum_telescope]; ring

theorem sumInt_nonneg (l : List Int) (h0 : ∀ x ∈ l, 0 ≤ x) : 0 ≤ sumInt l := by
  induction l with
  | nil => exact le_refl _
  | cons a l ih =>
    have ha := h0 a List.mem_cons_self
    have := ih (fun x hx => h0 x (List.mem_cons_of_mem _ hx))
    simp only [sumInt]; omega

theorem sumInt_ge_one (l : List Int) (h0 : ∀ x ∈ l, 0 ≤ x) (h1 : ∃ x ∈ l, 1 ≤ x) : 1 ≤ sumInt l := by
  induction l with
  | nil => obtain ⟨x, hx, _⟩ := h1; cases hx
  | cons a l ih =>
    have ha := h0 a List.mem_cons_self
    have h0' : ∀ y ∈ l, 0 ≤ y := fun y hy => h0 y (List.mem_cons_of_mem _ hy)
    have hnn := sumInt_nonneg l h0'
    obtain ⟨x, hx, hx1⟩ := h1
    simp only [sumInt]
    rcases List.mem_cons.mp hx with rfl | hx
    · omega
    · have := ih h0' ⟨x, hx, hx1⟩
      omega

theorem sumInt_map_mul {α : Type} (k : Int) (f : α → Int) (l : List α) :
    sumInt (l.map (fun e => k * f e)) = k * sumInt (l.map f) := by
  induction l with
  | nil => simp [sumInt]
  | cons a l ih => simp only [List.map_cons, sumInt, ih]; ring

theorem sgn_eq_zero {x : Rat} (h : sgn x = 0) : x = 0 := by
  rcases lt_trichotomy x 0 with h1 | h1 | h1
  · rw [sgn_neg h1] at h; exact absurd h (by decide)
  · exact h1
  · rw [sgn_pos h1] at h; exact absurd h (by decide)

theorem sgn_neg_eq (x : Rat) : sgn (-x) = -sgn x := by
  rcases lt_trichotomy x 0 with h | h | h
  · rw [sgn_neg h, sgn_pos (neg_pos.mpr h)]; rfl
  · rw [h]; simp [sgn_zero]
  · rw [sgn_pos h, sgn_neg (neg_neg_of_pos h)]

theorem sgn_of_mul_pos {b c : Rat} (h : 0 < b * c) : sgn c = sgn b ∧ sgn b * sgn b = 1 := by
  rcases lt_trichotomy b 0 with hb | hb | hb
  · have : c < 0 := by
      by_contra hc
      have := mul_nonpos_of_nonpos_of_nonneg hb.le (not_lt.mp hc)
      linarith
    rw [sgn_neg this, sgn_neg hb]; exact ⟨rfl, by decide⟩
  · rw [hb] at h; simp at h
  · have : 0 < c := by
      by_contra hc
      have := mul_nonpos_of_nonneg_of_nonpos hb.le (not_lt.mp hc)
      linarith
    rw [sgn_pos this, sgn_pos hb]; exact ⟨rfl, by decide⟩

theorem cross2_ne {ρ : Rat} {u v : Rat × Rat} (h : 0 < ρ * cross2 u v) :
    ¬ (u.1 = 0 ∧ u.2 = 0) ∧ ¬ (v.1 = 0 ∧ v.2 = 0) := by
  unfold cross2 at h
  constructor <;> intro h0 <;> rw [h0.1, h0.2] at h <;> simp at h

theorem vsign2_ne_zero {u : Rat × Rat} (h : ¬ (u.1 = 0 ∧ u.2 = 0)) : vsign2 u ≠ 0 := by
  intro h0
  rcases vsign2_cases u with ⟨s, _⟩ | ⟨s, _⟩ | ⟨_, h1, h2⟩
  · rw [s] at h0; exact absurd h0 (by decide)
  · rw [s] at h0; exact absurd h0 (by decide)
  · exact h ⟨h1, h2⟩

/-- completeness of the winding test; `hpos`: the point is strictly on the same side of all edges -/
theorem winding_complete (vs : List (Rat × Rat)) (p : Rat × Rat) (ρ : Rat) (hne : vs ≠ [])
    (hpos : ∀ e ∈ edges vs, 0 < ρ * cross2 (rel p e.1) (rel p e.2)) :
    windingInside (edges vs) p = true := by
  have hsg : ∀ e ∈ edges vs, edgeSgn p e = sgn ρ ∧ sgn ρ * sgn ρ = 1 := fun e he => sgn_of_mul_pos (hpos e he)
  have hnz1 : ∀ e ∈ edges vs, vsign2 (rel p e.1) ≠ 0 := fun e he => vsign2_ne_zero (cross2_ne (hpos e he)).1
  unfold windingInside
  have a1 : ¬ ((edges vs).any (fun e => (decide ((rel p e.1).1 = 0) && decide ((rel p e.1).2 = 0)) ||
      (decide ((rel p e.2).1 = 0) && decide ((rel p e.2).2 = 0))) = true) := by
    intro h
    obtain ⟨e, he, h⟩ := List.any_eq_true.mp h
    simp only [Bool.or_eq_true, Bool.and_eq_true, decide_eq_true_eq] at h
    exact h.elim (cross2_ne (hpos e he)).1 (cross2_ne (hpos e he)).2
  have a2 : ¬ ((edges vs).any (fun e => active p e && (edgeSgn p e == 0)) = true) := by
    intro h
    obtain ⟨e, he, h⟩ := List.any_eq_true.mp h
    simp only [Bool.and_eq_true, beq_iff_eq] at h
    have := hsg e he
    rw [h.2] at this
    rw [← this.1] at this
    simp at this
  rw [if_neg a1, if_neg a2]
  have hact : ∃ e ∈ edges vs, active p e = true := by
    by_contra hno
    have hin : ∀ e ∈ edges vs, vsign2 (rel p e.1) = vsign2 (rel p e.2) := fun e he => by
      have h : ¬ active p e = true := fun h => hno ⟨e, he, h⟩
      simp only [active, bne_iff_ne, ne_eq, not_not] at h
      omega
    cases vs with
    | nil => exact hne rfl
    | cons a l =>
      apply no_closed_chain ρ (rel p a) (rel p a) (l.map (rel p)) (Or.inl rfl)
      intro e he
      have : edgesFrom (rel p a) (rel p a :: l.map (rel p)) = (edges (a :: l)).map (fun e => (rel p e.1, rel p e.2)) :=
        edges_map (rel p) (a :: l)
      rw [this] at he
      obtain ⟨e', he', rfl⟩ := List.mem_map.mp he
      exact ⟨hin e' he', hnz1 e' he', hpos e' he'⟩
  -- the sum of the contributions is sgn ρ times a positive count
  obtain ⟨e0, he0, hact0⟩ := hact
  have hs2 : sgn ρ * sgn ρ = 1 := (hsg e0 he0).2
  have hsum : 1 ≤ sumInt ((edges vs).map (fun e => sgn ρ * contrib p e)) := by
    apply sumInt_ge_one
    · intro x hx
      obtain ⟨e, he, rfl⟩ := List.mem_map.mp hx
      unfold contrib
      split_ifs
      · rw [(hsg e he).1, hs2]; decide
      · simp
    · refine ⟨sgn ρ * contrib p e0, List.mem_map.mpr ⟨e0, he0, rfl⟩, ?_⟩
      unfold contrib
      rw [if_pos hact0, (hsg e0 he0).1, hs2]
  rw [sumInt_map_mul] at hsum
  simp only [bne_iff_ne, ne_eq]
  intro h0
  rw [h0] at hsum
  simp at hsum

theorem half_plane_cross {α β : Rat} {u v : Rat × Rat}
    (hu : RightHalf u) (hv : LeftHalf v)
    (Lu : 0 < α * u.1 + β * u.2) (Lv : 0 < α * v.1 + β * v.2) : 0 < β * cross2 u v := by
  have key : β * cross2 u v = u.1 * (α * v.1 + β * v.2) + -v.1 * (α * u.1 + β * u.2) := by unfold cross2; ring
  have hu1 := hu.x_nonneg
  have hv1 := neg_nonneg.mpr hv.x_nonpos
  rw [key]
  rcases hu with hu | ⟨hu0, hu2⟩
  · exact add_pos_of_pos_of_nonneg (mul_pos hu Lv) (mul_nonneg hv1 Lu.le)
  rcases hv with hv | ⟨hv0, hv2⟩
  · exact add_pos_of_nonneg_of_pos (mul_nonneg hu1 Lv.le) (mul_pos (neg_pos.mpr hv) Lu)
  · -- both on the y-axis, on opposite sides of the origin: `β` would be positive and negative
    rw [hu0, mul_zero, zero_add] at Lu
    rw [hv0, mul_zero, zero_add] at Lv
    exact absurd Lv (not_lt.mpr (mul_neg_of_pos_of_neg (pos_of_mul_pos_left Lu hu2.le) hv2).le)

/-- soundness of the winding test; `hG`: all vertices (relative to the point) lie in an open half-plane -/
theorem winding_sum_zero (vs : List (Rat × Rat)) (p : Rat × Rat) (α β : Rat)
    (hG : ∀ e ∈ edges vs, 0 < α * (rel p e.1).1 + β * (rel p e.1).2 ∧ 0 < α * (rel p e.2).1 + β * (rel p e.2).2) :
    sumInt ((edges vs).map (contrib p)) = 0 := by
  have per : ∀ e ∈ edges vs, 2 * contrib p e = -(sgn β) * (vsign2 (rel p e.2) - vsign2 (rel p e.1)) := by
    intro e he
    obtain ⟨Lu, Lv⟩ := hG e he
    unfold contrib active
    rcases vsign2_cases (rel p e.1) with ⟨su, hu⟩ | ⟨su, hu⟩ | ⟨_, h1, h2⟩
    · rcases vsign2_cases (rel p e.2) with ⟨sv, hv⟩ | ⟨sv, hv⟩ | ⟨_, h1, h2⟩
      · rw [su, sv]; simp
      · rw [su, sv]
        have hc := sgn_of_mul_pos (half_plane_cross hu hv Lu Lv)
        unfold edgeSgn
        rw [hc.1]; simp; ring
      · rw [h1, h2] at Lv; simp at Lv
    · rcases vsign2_cases (rel p e.2) with ⟨sv, hv⟩ | ⟨sv, hv⟩ | ⟨_, h1, h2⟩
      · rw [su, sv]
        have hc := sgn_of_mul_pos (half_plane_cross hv hu Lv Lu)
        unfold edgeSgn
        rw [cross2_anti (rel p e.2) (rel p e.1), sgn_neg_eq, hc.1]; simp; ring
      · rw [su, sv]; simp
      · rw [h1, h2] at Lv; simp at Lv
    · rw [h1, h2] at Lu; simp at Lu
  have h2 := congrArg sumInt (List.map_congr_left per)
  rw [sumInt_map_mul, sumInt_map_mul, sum_telescope_edges (fun v => vsign2 (rel p v)) vs] at h2
  omega

theorem windingInside_sum_ne {es : List ((Rat × Rat) × (Rat × Rat))} {p : Rat × Rat}
    (h : windingInside es p = true) : sumInt (es.map (contrib p)) ≠ 0 := by
  unfold windingInside at h
  split_ifs at h
  simpa using h

end PorepyVerif.C30
