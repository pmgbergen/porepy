/-
C30 — property theorems (statements depend on Model.lean and, for `seg_seg_minimal_int`, on `IntVec` of
LemmasSegSeg.lean; helper lemmas in Lemmas.lean and the four modules it imports).

Property: the point–point, point–segment, segment–segment, point–polygon and segment–polygon distance
functions return the true Euclidean distance, and the returned closest points lie on the respective
objects at that distance.  Distances are squared throughout (no square roots in the model).

Vectors are lists of rationals; the point and segment theorems hold in every dimension (the length hypotheses
say that all points of a configuration have the same number of coordinates), the theorems about convex polygons
are about three coordinates.  `along a b s = a + s (b - a)`.
-/
import PorepyVerif.C30.Lemmas

namespace PorepyVerif.C30

/-- the distance is symmetric -/
theorem pt_pt_symm (p q : Vec) : ptPtSq p q = ptPtSq q p := nsq_vsub_comm p q

/-- … non-negative, and zero exactly for equal points -/
theorem pt_pt_zero_iff (p q : Vec) (h : p.length = q.length) :
    0 ≤ ptPtSq p q ∧ (ptPtSq p q = 0 ↔ p = q) :=
  ⟨nsq_nonneg _, ⟨vsub_self_of_nsq_zero p q h, fun e => by rw [e]; exact nsq_vsub_self q⟩⟩

example : ptPtSq [0, 0, 1] [3, 4, 1] = 25 := by decide +kernel

/-- `point_pointset(…, exponent=1)` (the 1-norm): symmetric, non-negative, zero exactly for equal points -/
theorem pt_pt1_metric (p q : Vec) (h : p.length = q.length) :
    ptPt1 p q = ptPt1 q p ∧ 0 ≤ ptPt1 p q ∧ (ptPt1 p q = 0 ↔ p = q) :=
  ⟨ptPt1_symm p q, norm1_nonneg _, ptPt1_zero p q h⟩

example : ptPt1 [0, 0] [3, -4] = 7 := by decide +kernel

/-- `pointset(p, max_diag)`: off the diagonal the entry is the (symmetric) squared distance of the two points; the
    diagonal is 0, or with `max_diag` it is `(2·max_j |p_i - p_j|)²`: four times the largest squared distance of
    the row, which is attained by a point of the set and dominates every entry of the row -/
theorem pointset_entry (maxDiag : Bool) (ps : List Vec) (pi pj : Vec × Nat) :
    (pi.2 ≠ pj.2 → pointSetEntry maxDiag ps pi pj = ptPtSq pi.1 pj.1 ∧
      pointSetEntry maxDiag ps pi pj = pointSetEntry maxDiag ps pj pi) ∧
    (pointSetEntry false ps pi pi = 0) ∧
    (∀ q ∈ ps, ptPtSq pi.1 q ≤ pointSetEntry true ps pi pi) ∧
    (ps ≠ [] → ∃ q ∈ ps, pointSetEntry true ps pi pi = 4 * ptPtSq pi.1 q) := by
  refine ⟨fun hne => ?_, by simp [pointSetEntry], fun q hq => ?_, fun hne => ?_⟩
  · unfold pointSetEntry
    rw [if_neg hne, if_neg (Ne.symm hne)]
    exact ⟨rfl, pt_pt_symm _ _⟩
  · simp only [pointSetEntry, if_true]
    have h1 := le_maxList (ps.map (ptPtSq pi.1)) _ (List.mem_map.mpr ⟨q, hq, rfl⟩)
    have h2 := maxList_nonneg (ps.map (ptPtSq pi.1))
    linarith
  · simp only [pointSetEntry, if_true]
    have hm := maxList_mem (ps.map (ptPtSq pi.1)) (by simpa using hne)
      (fun x hx => by obtain ⟨q, _, rfl⟩ := List.mem_map.mp hx; exact nsq_nonneg _)
    obtain ⟨q, hq, he⟩ := List.mem_map.mp hm
    exact ⟨q, hq, by rw [he]⟩

example : pointSet true [[0, 0], [3, 4], [0, 1]] = [[100, 25, 1], [25, 100, 18], [1, 18, 72]] := by decide +kernel

/-- the returned parameter lies in `[0,1]`, the returned closest point is the point of the segment
    with that parameter, and the returned distance is the distance to that point -/
theorem pt_seg_closest_on_seg (p a b : Vec) (h1 : p.length = a.length) (h2 : a.length = b.length) :
    0 ≤ (ptSeg p a b).t ∧ (ptSeg p a b).t ≤ 1 ∧ (ptSeg p a b).cp = along a b (ptSeg p a b).t ∧
      (ptSeg p a b).d2 = nsq (vsub p (ptSeg p a b).cp) :=
  ptSeg_spec p a b h1 h2

/-- no point of the segment is closer (every dimension; zero-length segments included) -/
theorem pt_seg_minimal (p a b : Vec) (h1 : p.length = a.length) (h2 : a.length = b.length)
    (s : Rat) (hs0 : 0 ≤ s) (hs1 : s ≤ 1) :
    (ptSeg p a b).d2 ≤ nsq (vsub p (along a b s)) :=
  ptSeg_min p a b h1 h2 s hs0 hs1

example : (ptSeg [1, 2] [0, 0] [4, 0]).d2 = 4 ∧ (ptSeg [1, 2] [0, 0] [4, 0]).cp = [1, 0] := by decide +kernel
example : (ptSeg [5, 5, 0] [1, 1, 0] [1, 1, 0]).d2 = 32 := by decide +kernel   -- zero-length segment

/-- both parameters lie in `[0,1]`, the closest points are the points with these parameters, and the
    returned distance is the distance between them (all branches, no assumption on the placement) -/
theorem seg_seg_closest_on_segs (tol : Rat) (htol : 0 < tol) (p0 p1 q0 q1 : Vec)
    (h1 : p0.length = p1.length) (h2 : p0.length = q0.length) (h3 : q0.length = q1.length) :
    let o := segSeg tol p0 p1 q0 q1
    0 ≤ o.s ∧ o.s ≤ 1 ∧ 0 ≤ o.t ∧ o.t ≤ 1 ∧ o.cp1 = along p0 p1 o.s ∧ o.cp2 = along q0 q1 o.t ∧
      o.d2 = nsq (vsub o.cp1 o.cp2) :=
  segSeg_on_segs tol htol p0 p1 q0 q1 h1 h2 h3

/-- no pair of points of the two segments is closer: global minimality of the clamped two-parameter
    algorithm, including the parallel branch and zero-length segments.  `exact = true` (decidable, computed
    by the model) says that the two tolerance devices of the kernel fire only on quantities that are
    exactly zero; it holds for exactly parallel as well as for clearly non-parallel placements. -/
theorem seg_seg_minimal (tol : Rat) (htol : 0 < tol) (p0 p1 q0 q1 : Vec)
    (h1 : p0.length = p1.length) (h2 : p0.length = q0.length) (h3 : q0.length = q1.length)
    (hreg : (segSeg tol p0 p1 q0 q1).exact = true)
    (s t : Rat) (hs0 : 0 ≤ s) (hs1 : s ≤ 1) (ht0 : 0 ≤ t) (ht1 : t ≤ 1) :
    (segSeg tol p0 p1 q0 q1).d2 ≤ nsq (vsub (along p0 p1 s) (along q0 q1 t)) :=
  segSeg_min tol htol p0 p1 q0 q1 h1 h2 h3 hreg s t hs0 hs1 ht0 ht1

/-- the hypothesis `exact = true` is discharged for integer coordinates under an explicit bound:
    if `tol·|p1-p0|²·|q1-q0|² ≤ 1` (for the kernel's `tol = 1e-8`: product of the two lengths at most 10⁴),
    all numerators are integers and all denominators are at most `1/tol`, so neither tolerance test can
    fire on a non-zero quantity — global minimality holds unconditionally. -/
theorem seg_seg_minimal_int (tol : Rat) (htol : 0 < tol) (p0 p1 q0 q1 : Vec)
    (h1 : p0.length = p1.length) (h2 : p0.length = q0.length) (h3 : q0.length = q1.length)
    (i0 : IntVec p0) (i1 : IntVec p1) (j0 : IntVec q0) (j1 : IntVec q1)
    (hbound : tol * nsq (vsub p1 p0) * nsq (vsub q1 q0) ≤ 1)
    (s t : Rat) (hs0 : 0 ≤ s) (hs1 : s ≤ 1) (ht0 : 0 ≤ t) (ht1 : t ≤ 1) :
    (segSeg tol p0 p1 q0 q1).exact = true ∧
    (segSeg tol p0 p1 q0 q1).d2 ≤ nsq (vsub (along p0 p1 s) (along q0 q1 t)) := by
  have hreg : (segSeg tol p0 p1 q0 q1).exact = true := by
    rw [segSeg_exact]
    have iu := i1.vsub i0
    have iv := j1.vsub j0
    have iw := i0.vsub j0
    exact exactRegime_of_int htol (iu.dot iu) (iu.dot iv) (iv.dot iv) (iu.dot iw) (iv.dot iw)
      (nsq_nonneg _) (nsq_nonneg _) hbound
  exact ⟨hreg, segSeg_min tol htol p0 p1 q0 q1 h1 h2 h3 hreg s t hs0 hs1 ht0 ht1⟩

example : (1 / 100000000 : Rat) * nsq (vsub [30, 40, 0] [0, 0, 0]) * nsq (vsub [0, 7, 99] [0, 7, 0]) ≤ 1 := by decide +kernel

-- parallel, overlapping
example : (segSeg (1 / 100000000) [0, 0, 0] [2, 0, 0] [1, 1, 0] [3, 1, 0]).exact = true ∧
    (segSeg (1 / 100000000) [0, 0, 0] [2, 0, 0] [1, 1, 0] [3, 1, 0]).d2 = 1 := by decide +kernel
-- skew in 3-d, interior minimiser
example : (segSeg (1 / 100000000) [0, 0, 0] [2, 0, 0] [1, -1, 1] [1, 1, 1]).exact = true ∧
    (segSeg (1 / 100000000) [0, 0, 0] [2, 0, 0] [1, -1, 1] [1, 1, 1]).cp1 = [1, 0, 0] := by decide +kernel
-- zero-length second segment
example : (segSeg (1 / 100000000) [0, 0] [4, 0] [1, 3] [1, 3]).exact = true ∧
    (segSeg (1 / 100000000) [0, 0] [4, 0] [1, 3] [1, 3]).d2 = 9 := by decide +kernel
-- collinear, disjoint
example : (segSeg (1 / 100000000) [0, 0] [1, 0] [3, 0] [5, 0]).exact = true ∧
    (segSeg (1 / 100000000) [0, 0] [1, 0] [3, 0] [5, 0]).d2 = 4 := by decide +kernel

/-- `segment_set`: the distance entries are symmetric, the closest-point entry `(i, j)` lies on segment `i`,
    and off the diagonal the distance entry is the minimum over all pairs of points of the two segments -/
theorem seg_set_entry (tol : Rat) (htol : 0 < tol) (si sj : (Vec × Vec) × Nat)
    (h1 : si.1.1.length = si.1.2.length) (h2 : si.1.1.length = sj.1.1.length) (h3 : sj.1.1.length = sj.1.2.length) :
    (segSetEntry tol si sj).1 = (segSetEntry tol sj si).1 ∧
    (∃ t, 0 ≤ t ∧ t ≤ 1 ∧ (segSetEntry tol si sj).2 = along si.1.1 si.1.2 t) ∧
    (si.2 ≠ sj.2 → (segSeg tol si.1.1 si.1.2 sj.1.1 sj.1.2).exact = true →
      (segSeg tol sj.1.1 sj.1.2 si.1.1 si.1.2).exact = true →
      ∀ s t : Rat, 0 ≤ s → s ≤ 1 → 0 ≤ t → t ≤ 1 →
        (segSetEntry tol si sj).1 ≤ nsq (vsub (along si.1.1 si.1.2 s) (along sj.1.1 sj.1.2 t))) := by
  obtain ⟨a0, a1, a2, a3, a4, a5, _⟩ := segSeg_on_segs tol htol si.1.1 si.1.2 sj.1.1 sj.1.2 h1 h2 h3
  obtain ⟨b0, b1, b2, b3, b4, b5, _⟩ := segSeg_on_segs tol htol sj.1.1 sj.1.2 si.1.1 si.1.2 h3 h2.symm h1
  unfold segSetEntry
  rcases Nat.lt_trichotomy si.2 sj.2 with hlt | heq | hgt
  · rw [if_neg (Nat.ne_of_lt hlt), if_pos hlt, if_neg (Nat.ne_of_gt hlt), if_neg (Nat.lt_asymm hlt)]
    refine ⟨rfl, ⟨_, a0, a1, a4⟩, fun _ hr _ s t hs0 hs1 ht0 ht1 => ?_⟩
    exact segSeg_min tol htol _ _ _ _ h1 h2 h3 hr s t hs0 hs1 ht0 ht1
  · rw [if_pos heq, if_pos heq.symm]
    refine ⟨rfl, ⟨1 / 2, by norm_num, by norm_num, rfl⟩, fun h => absurd heq h⟩
  · rw [if_neg (Nat.ne_of_gt hgt), if_neg (Nat.lt_asymm hgt), if_neg (Nat.ne_of_lt hgt), if_pos hgt]
    refine ⟨rfl, ⟨_, b2, b3, b5⟩, fun _ _ hr s t hs0 hs1 ht0 ht1 => ?_⟩
    rw [nsq_vsub_comm]
    exact segSeg_min tol htol _ _ _ _ h3 h2.symm h1 hr t s ht0 ht1 hs0 hs1

example : ((segSet (1 / 100000000) [([0, 0], [1, 1]), ([1, 0], [2, 1]), ([2, 0], [3, 1])]).map (·.map (·.1)))
    = [[0, 1 / 2, 2], [1 / 2, 0, 1 / 2], [2, 1 / 2, 0]] := by decide +kernel

/-! ### point – polygon: reduction to the plane distance, the point–segment distances and the membership test

For arbitrary polygons nothing is proved about the winding test `inPoly` itself, nor that a point whose projection
is outside has its nearest polygon point on the boundary (correspondence + exact oracle only); for convex polygons
both are theorems of the next section. -/

/-- if the membership test accepts the projection: the closest point is the orthogonal projection onto the
    polygon's plane, it lies in that plane, and no point of the plane (a fortiori of the polygon) is closer -/
theorem pt_poly_inside_plane_minimal (p : Vec) (poly : List Vec)
    (hc : (centroid poly).length = p.length) (hn : (normal poly).length = p.length)
    (hnn : nsq (normal poly) ≠ 0) (hin : (ptPoly p poly).inside = true) :
    dot (vsub (ptPoly p poly).cp (centroid poly)) (normal poly) = 0 ∧
    (ptPoly p poly).d2 = nsq (vsub p (ptPoly p poly).cp) ∧
    ∀ x : Vec, x.length = p.length → dot (vsub x (centroid poly)) (normal poly) = 0 →
      (ptPoly p poly).d2 ≤ nsq (vsub p x) := by
  rw [ptPoly_inside] at hin
  rw [ptPoly_of_inPoly p poly hin, ← nsq_to_projPlane _ _ _ hn hnn]
  exact ⟨projPlane_in_plane _ _ _ hc hn hnn, rfl, fun x hx hp => projPlane_min _ _ _ x hc hn hx hnn hp⟩

/-- otherwise: the result is the minimum of the point–segment distances over the boundary segments, attained
    at the returned point, which lies on one of them -/
theorem pt_poly_outside_boundary_minimal (p : Vec) (poly : List Vec)
    (hl : ∀ g ∈ edges poly, p.length = g.1.length ∧ g.1.length = g.2.length)
    (hout : (ptPoly p poly).inside = false) :
    (∀ g ∈ edges poly, ∀ s : Rat, 0 ≤ s → s ≤ 1 → (ptPoly p poly).d2 ≤ nsq (vsub p (along g.1 g.2 s))) ∧
    (edges poly ≠ [] → ∃ g ∈ edges poly, ∃ t : Rat, 0 ≤ t ∧ t ≤ 1 ∧ (ptPoly p poly).cp = along g.1 g.2 t ∧
      (ptPoly p poly).d2 = nsq (vsub p (ptPoly p poly).cp)) := by
  rw [ptPoly_inside] at hout
  rw [ptPoly_of_not_inPoly p poly hout]
  cases hm : minPtSeg p (edges poly) with
  | none =>
    rw [minPtSeg_none _ _ hm]
    exact ⟨fun g hg => absurd hg List.not_mem_nil, fun h => absurd rfl h⟩
  | some o =>
    obtain ⟨m1, g, hg, m2⟩ := minPtSeg_spec _ _ _ hm
    refine ⟨fun g' hg' s hs0 hs1 => ?_, fun _ => ⟨g, hg, ?_⟩⟩
    · exact le_trans (m1 g' hg') (ptSeg_min p _ _ (hl g' hg').1 (hl g' hg').2 s hs0 hs1)
    · obtain ⟨t0, t1, tc, td⟩ := ptSeg_spec p g.1 g.2 (hl g hg).1 (hl g hg).2
      rw [m2]
      exact ⟨_, t0, t1, tc, td⟩

/-- in both cases, for a planar polygon: no boundary point is closer than the returned distance -/
theorem pt_poly_le_boundary (p : Vec) (poly : List Vec)
    (hc : (centroid poly).length = p.length) (hn : (normal poly).length = p.length)
    (hnn : nsq (normal poly) ≠ 0)
    (hl : ∀ g ∈ edges poly, p.length = g.1.length ∧ g.1.length = g.2.length)
    (hplanar : ∀ g ∈ edges poly, dot (vsub g.1 (centroid poly)) (normal poly) = 0 ∧
      dot (vsub g.2 (centroid poly)) (normal poly) = 0)
    (g : Vec × Vec) (hg : g ∈ edges poly) (s : Rat) (hs0 : 0 ≤ s) (hs1 : s ≤ 1) :
    (ptPoly p poly).d2 ≤ nsq (vsub p (along g.1 g.2 s)) := by
  cases hin : (ptPoly p poly).inside with
  | true =>
    obtain ⟨_, _, m⟩ := pt_poly_inside_plane_minimal p poly hc hn hnn hin
    refine m _ ?_ ?_
    · rw [length_along _ _ _ (hl g hg).2, (hl g hg).1]
    · exact along_in_plane _ _ _ _ s (hl g hg).2 (by rw [hc, (hl g hg).1]) (hplanar g hg).1 (hplanar g hg).2
  | false =>
    exact (pt_poly_outside_boundary_minimal p poly hl hin).1 g hg s hs0 hs1

-- unit square, a point above the interior and a point beside it
example : (ptPoly [1 / 2, 1 / 2, 3] [[0, 0, 0], [1, 0, 0], [1, 1, 0], [0, 1, 0]]).inside = true ∧
    (ptPoly [1 / 2, 1 / 2, 3] [[0, 0, 0], [1, 0, 0], [1, 1, 0], [0, 1, 0]]).d2 = 9 ∧
    nsq (normal [[0, 0, 0], [1, 0, 0], [1, 1, 0], [0, 1, 0]]) ≠ 0 := by decide +kernel
example : (ptPoly [2, 1 / 2, 1] [[0, 0, 0], [1, 0, 0], [1, 1, 0], [0, 1, 0]]).inside = false ∧
    (ptPoly [2, 1 / 2, 1] [[0, 0, 0], [1, 0, 0], [1, 1, 0], [0, 1, 0]]).d2 = 2 := by decide +kernel

/-! ### convex polygons: the membership test decides membership, and the distance is the minimum over
the WHOLE polygon (FULL for convex planar polygons)

`InRegion poly x`: `x` lies in the polygon's plane and to the left of (or on) every edge, seen against the
Newell normal — for a convex polygon (`ConvexPoly`: planar, strict left turn at every corner, every vertex in
the half-plane of every edge) this is the closed polygon as a point set. -/

/-- the winding-number test as coded decides membership for convex polygons: accepted points lie in the closed
    polygon, and every point strictly inside is accepted (points on the boundary get the default `False`) -/
theorem membership_convex (poly : List Vec) (C : ConvexPoly poly) (q : Vec) (hq : q.length = 3)
    (pq : dot (vsub q (centroid poly)) (normal poly) = 0) :
    (inPoly poly (normal poly) q = true → InRegion poly q) ∧
    ((∀ g ∈ edges poly, 0 < side3 (normal poly) g.1 g.2 q) → inPoly poly (normal poly) q = true) :=
  ⟨fun h => ⟨hq, pq, inPoly_sound poly C q hq pq h⟩, inPoly_complete poly C q hq pq⟩

/-- a point whose projection is not strictly inside a convex polygon has its nearest polygon point on the
    boundary: every point of the polygon is at least as far as some point of some edge -/
theorem convex_nearest_on_boundary (poly : List Vec) (C : ConvexPoly poly) (p : Vec) (hp : p.length = 3)
    (hout : ∃ g ∈ edges poly, side3 (normal poly) g.1 g.2 (projPlane (centroid poly) (normal poly) p) ≤ 0)
    (x : Vec) (hx : InRegion poly x) :
    ∃ g ∈ edges poly, ∃ t : Rat, 0 ≤ t ∧ t ≤ 1 ∧ nsq (vsub p (along g.1 g.2 t)) ≤ nsq (vsub p x) :=
  convex_outside_bound poly C p hp hout x hx

/-- `points_polygon` on a convex planar polygon returns the true distance: no point of the polygon is closer
    than the returned distance, and the returned closest point belongs to the polygon and realises it -/
theorem pt_polygon_minimal_convex (poly : List Vec) (C : ConvexPoly poly) (p : Vec) (hp : p.length = 3) :
    (∀ x : Vec, InRegion poly x → (ptPoly p poly).d2 ≤ nsq (vsub p x)) ∧
    InRegion poly (ptPoly p poly).cp ∧ (ptPoly p poly).d2 = nsq (vsub p (ptPoly p poly).cp) := by
  have hc : (centroid poly).length = p.length := by rw [C.clen, hp]
  have hn : (normal poly).length = p.length := by rw [C.nlen, hp]
  obtain ⟨lq, pq⟩ := C.proj hp
  have hl : ∀ g ∈ edges poly, p.length = g.1.length ∧ g.1.length = g.2.length := fun g hg => by
    obtain ⟨la, lb⟩ := C.len3 g hg
    exact ⟨by rw [hp, la], by rw [la, lb]⟩
  cases hI : inPoly poly (normal poly) (projPlane (centroid poly) (normal poly) p) with
  | true =>
    obtain ⟨_, m2, m3⟩ := pt_poly_inside_plane_minimal p poly hc hn C.nn ((ptPoly_inside p poly).trans hI)
    refine ⟨fun x hx => m3 x (by rw [hx.1, hp]) hx.2.1, ?_, m2⟩
    rw [ptPoly_of_inPoly p poly hI]
    exact (membership_convex poly C _ lq pq).1 hI
  | false =>
    obtain ⟨b1, b2⟩ := pt_poly_outside_boundary_minimal p poly hl ((ptPoly_inside p poly).trans hI)
    have hout := not_strictly_inside poly C _ ⟨lq, pq⟩ hI
    have hne : edges poly ≠ [] := by
      obtain ⟨g, hg, _⟩ := hout
      exact List.ne_nil_of_mem hg
    obtain ⟨g, hg, t, t0, t1, ecp, ed⟩ := b2 hne
    refine ⟨fun x hx => ?_, ?_, ed⟩
    · obtain ⟨g', hg', t', t0', t1', hle⟩ := convex_outside_bound poly C p hp hout x hx
      exact le_trans (b1 g' hg' t' t0' t1') hle
    · rw [ecp]
      exact edge_in_region poly C g hg t t0 t1

-- the unit square and a tilted pentagon (plane x + y + z = 3) are convex polygons in this sense
example : ConvexPoly [[0, 0, 0], [1, 0, 0], [1, 1, 0], [0, 1, 0]] :=
  ⟨by decide +kernel, by decide +kernel, by decide +kernel, by decide +kernel, by decide +kernel,
   by decide +kernel, by decide +kernel⟩
example : ConvexPoly [[3, 0, 0], [2, 2, -1], [0, 3, 0], [-1, 2, 2], [1, -1, 3]] :=
  ⟨by decide +kernel, by decide +kernel, by decide +kernel, by decide +kernel, by decide +kernel,
   by decide +kernel, by decide +kernel⟩
example : (ptPoly [3, 1 / 2, 4] [[0, 0, 0], [1, 0, 0], [1, 1, 0], [0, 1, 0]]).d2 = 20 := by decide +kernel

/-- crossing branch: the returned point lies on the segment and in the polygon's plane, the distance is 0
    (that the point is inside the polygon is the membership test, see above) -/
theorem seg_poly_cross_sound (tolP tolS : Rat) (s e : Vec) (poly : List Vec)
    (hse : s.length = e.length) (hc : (centroid poly).length = s.length)
    (hb : (segPoly tolP tolS s e poly).branch = 0) :
    (segPoly tolP tolS s e poly).d2 = 0 ∧
    ∃ t : Rat, 0 ≤ t ∧ t ≤ 1 ∧ (segPoly tolP tolS s e poly).cp = along s e t ∧
      dot (vsub (segPoly tolP tolS s e poly).cp (centroid poly)) (normal poly) = 0 := by
  obtain ⟨x0, hx, hseg⟩ := segPoly_branch0 tolP tolS s e poly hb
  obtain ⟨t, t0, t1, ex, px, _⟩ := crossPoint_some tolP s e poly x0 hse hc hx
  rw [hseg]
  exact ⟨rfl, t, t0, t1, ex, px⟩

/-- general branch: the result is the least of the two end-point distances to the polygon and the
    segment–segment distances to all boundary segments, and it is one of them -/
theorem seg_poly_general_min (tolP tolS : Rat) (s e : Vec) (poly : List Vec)
    (hb : (segPoly tolP tolS s e poly).branch = 2) :
    (segPoly tolP tolS s e poly).d2 ≤ (ptPoly s poly).d2 ∧ (segPoly tolP tolS s e poly).d2 ≤ (ptPoly e poly).d2 ∧
    (∀ g ∈ edges poly, (segPoly tolP tolS s e poly).d2 ≤ (segSeg tolS s e g.1 g.2).d2) ∧
    ((segPoly tolP tolS s e poly).d2 = (ptPoly s poly).d2 ∨ (segPoly tolP tolS s e poly).d2 = (ptPoly e poly).d2 ∨
      ∃ g ∈ edges poly, (segPoly tolP tolS s e poly).d2 = (segSeg tolS s e g.1 g.2).d2) := by
  rw [segPoly_branch2 tolP tolS s e poly hb]
  exact segPolyGeneral_spec tolS s e poly

/-- `segments_polygon` on a convex planar polygon returns the true distance: no pair (point of the segment, point
    of the polygon) is closer than the returned distance.  Hypotheses (decidable, satisfied by every generated
    case): the segment–segment kernel is in its exact regime against every boundary segment (for integer data see
    `seg_seg_minimal_int`), and the incline of the segment over the polygon's plane is exactly zero or above the
    tolerance argument (`|dz| > tol`), i.e. not inside the tolerance band of `non_zero_incline`.
    Attainment: by `seg_poly_cross_sound` / `seg_poly_general_min` the value is 0 at a common point or equals one of
    the end-point / segment–edge distances, which are attained (`pt_polygon_minimal_convex`, `seg_seg_closest_on_segs`). -/
theorem seg_poly_minimal_convex (poly : List Vec) (C : ConvexPoly poly) (tolP tolS : Rat) (htol : 0 < tolS) (s e : Vec)
    (hs : s.length = 3) (he : e.length = 3)
    (hss : ∀ g ∈ edges poly, (segSeg tolS s e g.1 g.2).exact = true)
    (hinc : dot (vsub e (centroid poly)) (normal poly) - dot (vsub s (centroid poly)) (normal poly) = 0 ∨
      tolP * tolP * nsq (normal poly) <
        (dot (vsub e (centroid poly)) (normal poly) - dot (vsub s (centroid poly)) (normal poly)) *
        (dot (vsub e (centroid poly)) (normal poly) - dot (vsub s (centroid poly)) (normal poly)))
    (mu : Rat) (mu0 : 0 ≤ mu) (mu1 : mu ≤ 1) (x : Vec) (hx : InRegion poly x) :
    (segPoly tolP tolS s e poly).d2 ≤ nsq (vsub (along s e mu) x) :=
  segPoly_min_convex poly C tolP tolS htol s e hs he hss hinc mu mu0 mu1 x hx

/-- where the returned "closest point" of `segments_polygon` lies, for a convex planar polygon, branch by branch:
    * crossing: distance 0, and the point lies on the segment AND in the polygon;
    * in-plane: distance 0 is returned and the point lies in the polygon, within the tolerance `tol` (start point) or
      `2·tol` (end point) of an end point of the segment — the only branch where "at that distance" holds up to the
      tolerance argument only;
    * general: there are a point `y` of the segment and a point `z` of the polygon at exactly the returned distance, and
      the returned point is one of the two.
    With `seg_poly_minimal_convex` this is the property for segment–polygon: true distance, realised at the returned point. -/
theorem seg_poly_attained_convex (poly : List Vec) (C : ConvexPoly poly) (tolP tolS : Rat) (htol : 0 < tolS) (s e : Vec)
    (hs : s.length = 3) (he : e.length = 3) :
    ((segPoly tolP tolS s e poly).branch = 0 → (segPoly tolP tolS s e poly).d2 = 0 ∧
        InRegion poly (segPoly tolP tolS s e poly).cp ∧ ∃ t : Rat, 0 ≤ t ∧ t ≤ 1 ∧ (segPoly tolP tolS s e poly).cp = along s e t) ∧
    ((segPoly tolP tolS s e poly).branch = 1 → (segPoly tolP tolS s e poly).d2 = 0 ∧
        InRegion poly (segPoly tolP tolS s e poly).cp ∧
        (nsq (vsub s (segPoly tolP tolS s e poly).cp) < tolP * tolP ∨ nsq (vsub e (segPoly tolP tolS s e poly).cp) < 4 * (tolP * tolP))) ∧
    ((segPoly tolP tolS s e poly).branch = 2 → ∃ y z : Vec, (∃ t : Rat, 0 ≤ t ∧ t ≤ 1 ∧ y = along s e t) ∧ InRegion poly z ∧
        ((segPoly tolP tolS s e poly).cp = y ∨ (segPoly tolP tolS s e poly).cp = z) ∧
        (segPoly tolP tolS s e poly).d2 = nsq (vsub y z)) := by
  have hnn := C.nsq_pos
  have hse : s.length = e.length := by rw [hs, he]
  have hcs : (centroid poly).length = s.length := by rw [C.clen, hs]
  have accepted : ∀ w : Vec, w.length = 3 →
      inPoly poly (normal poly) (projPlane (centroid poly) (normal poly) w) = true →
      InRegion poly (projPlane (centroid poly) (normal poly) w) :=
    fun w lw hacc => (membership_convex poly C _ (C.proj lw).1 (C.proj lw).2).1 hacc
  refine ⟨fun hb => ?_, fun hb => ?_, fun hb => ?_⟩
  · -- crossing
    obtain ⟨x0, hx, hseg⟩ := segPoly_branch0 tolP tolS s e poly hb
    obtain ⟨t, t0, t1, ex, px, hacc⟩ := crossPoint_some tolP s e poly x0 hse hcs hx
    have lx : x0.length = 3 := by rw [ex, length_along _ _ _ hse, hs]
    have hin := accepted x0 lx hacc
    rw [projPlane_fix (centroid poly) (normal poly) x0 (by rw [C.nlen, lx]) px] at hin
    rw [hseg]
    exact ⟨rfl, hin, t, t0, t1, ex⟩
  · -- in the plane
    obtain ⟨h1, h2, h3, h4⟩ := segPoly_branch1 tolP tolS s e poly hb
    have T : 0 ≤ tolP * tolP := mul_self_nonneg _
    rcases h3 with ⟨hacc, ecp⟩ | ⟨hacc, ecp⟩
    · refine ⟨h4, by rw [ecp]; exact accepted s hs hacc, Or.inl ?_⟩
      rw [ecp, nsq_to_projPlane _ _ _ (by rw [C.nlen, hs]) C.nn, div_lt_iff₀ hnn]
      exact h1
    · refine ⟨h4, by rw [ecp]; exact accepted e he hacc, Or.inr ?_⟩
      rw [ecp, nsq_to_projPlane _ _ _ (by rw [C.nlen, he]) C.nn, div_lt_iff₀ hnn]
      have h2' := not_lt.mp h2
      generalize dot (vsub e (centroid poly)) (normal poly) = he' at h2' ⊢
      generalize dot (vsub s (centroid poly)) (normal poly) = hs' at h1 h2'
      linarith [mul_self_nonneg (he' - 2 * hs')]
  · -- general
    rw [segPoly_branch2 tolP tolS s e poly hb]
    rcases segPolyGeneral_cp tolS s e poly with ⟨c1, c2⟩ | ⟨c1, c2⟩ | ⟨g, hgm, c1, c2⟩
    · obtain ⟨_, m2, m3⟩ := pt_polygon_minimal_convex poly C s hs
      exact ⟨s, (ptPoly s poly).cp, ⟨0, le_refl _, by norm_num, (along_zero s e hse).symm⟩, m2, Or.inr c1, by rw [c2, m3]⟩
    · obtain ⟨_, m2, m3⟩ := pt_polygon_minimal_convex poly C e he
      exact ⟨e, (ptPoly e poly).cp, ⟨1, by norm_num, le_refl _, (along_one s e hse).symm⟩, m2, Or.inr c1, by rw [c2, m3]⟩
    · obtain ⟨la, lb⟩ := C.len3 g hgm
      obtain ⟨a0, a1, a2, a3, a4, a5, a6⟩ := segSeg_on_segs tolS htol s e g.1 g.2 hse (by rw [hs, la]) (by rw [la, lb])
      refine ⟨(segSeg tolS s e g.1 g.2).cp1, (segSeg tolS s e g.1 g.2).cp2, ⟨_, a0, a1, a4⟩, ?_, Or.inl c1, by rw [c2]; exact a6⟩
      rw [a5]
      exact edge_in_region poly C g hgm _ a2 a3

-- the hypotheses hold e.g. for a segment passing beside the unit square at an incline
example : (∀ g ∈ edges [[0, 0, 0], [1, 0, 0], [1, 1, 0], [0, 1, 0]],
      (segSeg (1 / 100000000) [2, 1 / 2, 1] [3, 1 / 2, -1] g.1 g.2).exact = true) ∧
    (segPoly (1 / 100000) (1 / 100000000) [2, 1 / 2, 1] [3, 1 / 2, -1] [[0, 0, 0], [1, 0, 0], [1, 1, 0], [0, 1, 0]]).d2 = 9 / 5 := by
  decide +kernel

-- a segment through the unit square, one parallel above it, one beside it
example : (segPoly (1 / 100000) (1 / 100000000) [1 / 2, 1 / 2, -1] [1 / 2, 1 / 2, 1]
    [[0, 0, 0], [1, 0, 0], [1, 1, 0], [0, 1, 0]]).branch = 0 := by decide +kernel
example : (segPoly (1 / 100000) (1 / 100000000) [-1, 1 / 2, 1] [2, 1 / 2, 1]
    [[0, 0, 0], [1, 0, 0], [1, 1, 0], [0, 1, 0]]).branch = 2 ∧
  (segPoly (1 / 100000) (1 / 100000000) [-1, 1 / 2, 1] [2, 1 / 2, 1]
    [[0, 0, 0], [1, 0, 0], [1, 1, 0], [0, 1, 0]]).d2 = 1 := by decide +kernel

end PorepyVerif.C30
