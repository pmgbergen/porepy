/-
C30 — `points_polygon` and `segments_polygon`: the equations of `ptPoly`, `segPoly`, `segPolyGeneral`, `crossPoint`, and the lower
bound for `segPoly` on convex polygons.  The lemmas behind them: `LemmasVec` (vectors, planes), `LemmasSegSeg` (the kernels for one
pair), `LemmasWinding` (winding test in 2-d), `LemmasConvex` (convex polygons).
-/
import PorepyVerif.C30.LemmasSegSeg
import PorepyVerif.C30.LemmasConvex

namespace PorepyVerif.C30

theorem segPolyGeneral_branch (tolS : Rat) (s e : Vec) (poly : List Vec) :
    (segPolyGeneral tolS s e poly).branch = 2 := by
  unfold segPolyGeneral
  simp only []
  split <;> (try split_ifs) <;> rfl

theorem segPoly_some (tolP tolS : Rat) (s e : Vec) (poly : List Vec) (x0 : Vec)
    (hx : crossPoint tolP s e poly = some x0) : segPoly tolP tolS s e poly = ⟨0, x0, 0⟩ := by
  unfold segPoly; rw [hx]

theorem segPoly_none (tolP tolS : Rat) (s e : Vec) (poly : List Vec)
    (hx : crossPoint tolP s e poly = none) :
    (segPoly tolP tolS s e poly).branch = 1 ∨ segPoly tolP tolS s e poly = segPolyGeneral tolS s e poly := by
  unfold segPoly
  rw [hx]
  simp only []
  split_ifs
  · exact Or.inl rfl
  · exact Or.inl rfl
  · exact Or.inr rfl

theorem segPoly_branch1 (tolP tolS : Rat) (s e : Vec) (poly : List Vec) (hb : (segPoly tolP tolS s e poly).branch = 1) :
    dot (vsub s (centroid poly)) (normal poly) * dot (vsub s (centroid poly)) (normal poly) < tolP * tolP * nsq (normal poly) ∧
    ¬ (tolP * tolP * nsq (normal poly) <
      (dot (vsub e (centroid poly)) (normal poly) - dot (vsub s (centroid poly)) (normal poly)) *
      (dot (vsub e (centroid poly)) (normal poly) - dot (vsub s (centroid poly)) (normal poly))) ∧
    ((inPoly poly (normal poly) (projPlane (centroid poly) (normal poly) s) = true ∧
        (segPoly tolP tolS s e poly).cp = projPlane (centroid poly) (normal poly) s) ∨
     (inPoly poly (normal poly) (projPlane (centroid poly) (normal poly) e) = true ∧
        (segPoly tolP tolS s e poly).cp = projPlane (centroid poly) (normal poly) e)) ∧
    (segPoly tolP tolS s e poly).d2 = 0 := by
  cases hx : crossPoint tolP s e poly with
  | some x0 => rw [segPoly_some tolP tolS s e poly x0 hx] at hb; simp at hb
  | none =>
    unfold segPoly at hb ⊢
    rw [hx] at hb ⊢
    simp only [] at hb ⊢
    split_ifs at hb ⊢ with hcond hst
    · simp only [Bool.and_eq_true, Bool.or_eq_true, decide_eq_true_eq, Bool.not_eq_true', decide_eq_false_iff_not] at hcond
      exact ⟨hcond.1.1, hcond.1.2, Or.inl ⟨hst, rfl⟩, rfl⟩
    · simp only [Bool.and_eq_true, Bool.or_eq_true, decide_eq_true_eq, Bool.not_eq_true', decide_eq_false_iff_not] at hcond
      rcases hcond.2 with h3 | h3
      · exact absurd h3 hst
      · exact ⟨hcond.1.1, hcond.1.2, Or.inr ⟨h3, rfl⟩, rfl⟩
    · rw [segPolyGeneral_branch] at hb
      simp at hb

theorem segPoly_branch0 (tolP tolS : Rat) (s e : Vec) (poly : List Vec) (hb : (segPoly tolP tolS s e poly).branch = 0) :
    ∃ x0, crossPoint tolP s e poly = some x0 ∧ segPoly tolP tolS s e poly = ⟨0, x0, 0⟩ := by
  cases hx : crossPoint tolP s e poly with
  | some x0 => exact ⟨x0, rfl, segPoly_some tolP tolS s e poly x0 hx⟩
  | none =>
    rcases segPoly_none tolP tolS s e poly hx with h | h
    · rw [h] at hb; exact absurd hb (by decide)
    · rw [h, segPolyGeneral_branch] at hb; exact absurd hb (by decide)

theorem segPoly_branch2 (tolP tolS : Rat) (s e : Vec) (poly : List Vec) (hb : (segPoly tolP tolS s e poly).branch = 2) :
    segPoly tolP tolS s e poly = segPolyGeneral tolS s e poly := by
  cases hx : crossPoint tolP s e poly with
  | some x0 => rw [segPoly_some tolP tolS s e poly x0 hx] at hb; simp at hb
  | none =>
    rcases segPoly_none tolP tolS s e poly hx with h | h
    · rw [h] at hb; exact absurd hb (by decide)
    · exact h

theorem ptPoly_inside (p : Vec) (poly : List Vec) :
    (ptPoly p poly).inside = inPoly poly (normal poly) (projPlane (centroid poly) (normal poly) p) := by
  unfold ptPoly
  simp only []
  cases inPoly poly (normal poly) (projPlane (centroid poly) (normal poly) p)
  · rw [if_neg Bool.false_ne_true]; split <;> rfl
  · rw [if_pos rfl]

theorem ptPoly_of_inPoly (p : Vec) (poly : List Vec)
    (h : inPoly poly (normal poly) (projPlane (centroid poly) (normal poly) p) = true) :
    ptPoly p poly = ⟨true, projPlane (centroid poly) (normal poly) p,
      dot (vsub p (centroid poly)) (normal poly) * dot (vsub p (centroid poly)) (normal poly) / nsq (normal poly)⟩ := by
  unfold ptPoly
  simp only []
  rw [if_pos h]

theorem ptPoly_of_not_inPoly (p : Vec) (poly : List Vec)
    (h : inPoly poly (normal poly) (projPlane (centroid poly) (normal poly) p) = false) :
    ptPoly p poly = match minPtSeg p (edges poly) with
      | some o => ⟨false, o.cp, o.d2⟩
      | none => ⟨false, p, 0⟩ := by
  unfold ptPoly
  simp only []
  rw [if_neg (by rw [h]; exact Bool.false_ne_true)]
  rfl

theorem crossParam_some {tolP nn a b t : Rat} (hnn : 0 ≤ nn) (h : crossParam tolP nn a b = some t) :
    0 ≤ t ∧ t ≤ 1 ∧ a + t * (b - a) = 0 := by
  unfold crossParam at h
  split_ifs at h with hnz hr
  obtain rfl := Option.some.inj h
  have hd : b - a ≠ 0 := by
    intro h0
    rw [h0] at hnz
    linarith [mul_nonneg (mul_self_nonneg tolP) hnn]
  exact ⟨hr.1, hr.2, by rw [div_mul_cancel₀ _ hd, add_neg_cancel]⟩

theorem crossPoint_some (tolP : Rat) (s e : Vec) (poly : List Vec) (x0 : Vec) (hse : s.length = e.length)
    (hc : (centroid poly).length = s.length) (hx : crossPoint tolP s e poly = some x0) :
    ∃ t : Rat, 0 ≤ t ∧ t ≤ 1 ∧ x0 = along s e t ∧ dot (vsub x0 (centroid poly)) (normal poly) = 0 ∧
      inPoly poly (normal poly) (projPlane (centroid poly) (normal poly) x0) = true := by
  unfold crossPoint at hx
  simp only [] at hx
  cases hp : crossParam tolP (nsq (normal poly)) (dot (vsub s (centroid poly)) (normal poly))
      (dot (vsub e (centroid poly)) (normal poly)) with
  | none => rw [hp] at hx; simp at hx
  | some t =>
    rw [hp] at hx
    simp only [] at hx
    split_ifs at hx with hacc
    obtain rfl := Option.some.inj hx
    obtain ⟨t0, t1, hz⟩ := crossParam_some (nsq_nonneg _) hp
    exact ⟨t, t0, t1, rfl, by rw [along_height _ _ _ _ _ hse hc]; exact hz, hacc⟩

theorem crossPoint_none {tolP : Rat} {s e : Vec} {poly : List Vec} {t : Rat}
    (h : crossPoint tolP s e poly = none)
    (ht : crossParam tolP (nsq (normal poly)) (dot (vsub s (centroid poly)) (normal poly))
      (dot (vsub e (centroid poly)) (normal poly)) = some t) :
    inPoly poly (normal poly) (projPlane (centroid poly) (normal poly) (along s e t)) = false := by
  unfold crossPoint at h
  simp only [ht] at h
  split_ifs at h with hacc
  exact Bool.eq_false_iff.mpr hacc

theorem segPolyGeneral_spec (tolS : Rat) (s e : Vec) (poly : List Vec) :
    (segPolyGeneral tolS s e poly).d2 ≤ (ptPoly s poly).d2 ∧ (segPolyGeneral tolS s e poly).d2 ≤ (ptPoly e poly).d2 ∧
    (∀ g ∈ edges poly, (segPolyGeneral tolS s e poly).d2 ≤ (segSeg tolS s e g.1 g.2).d2) ∧
    ((segPolyGeneral tolS s e poly).d2 = (ptPoly s poly).d2 ∨ (segPolyGeneral tolS s e poly).d2 = (ptPoly e poly).d2 ∨
      ∃ g ∈ edges poly, (segPolyGeneral tolS s e poly).d2 = (segSeg tolS s e g.1 g.2).d2) := by
  unfold segPolyGeneral
  simp only []
  cases hm : minSegSeg tolS s e (edges poly) with
  | none =>
    have he := minSegSeg_none _ _ _ _ hm
    simp only []
    rw [he]
    split_ifs with hlt
    · exact ⟨hlt.le, le_refl _, fun g hg => by simp at hg, Or.inr (Or.inl rfl)⟩
    · exact ⟨le_refl _, not_lt.mp hlt, fun g hg => by simp at hg, Or.inl rfl⟩
  | some o =>
    obtain ⟨m1, g, hg, m2⟩ := minSegSeg_spec _ _ _ _ _ hm
    simp only []
    split_ifs with hlt h2 h2
    · exact ⟨by simp only [] at h2 ⊢; linarith, by simp only [] at h2 ⊢; exact h2.le, fun g' hg' => m1 g' hg',
        Or.inr (Or.inr ⟨g, hg, by rw [m2]⟩)⟩
    · exact ⟨hlt.le, le_refl _, fun g' hg' => le_trans (not_lt.mp h2) (m1 g' hg'), Or.inr (Or.inl rfl)⟩
    · exact ⟨by simp only [] at h2 ⊢; exact h2.le, by simp only [] at h2 ⊢; linarith [not_lt.mp hlt],
        fun g' hg' => m1 g' hg', Or.inr (Or.inr ⟨g, hg, by rw [m2]⟩)⟩
    · exact ⟨le_refl _, not_lt.mp hlt, fun g' hg' => le_trans (not_lt.mp h2) (m1 g' hg'), Or.inl rfl⟩

theorem segPolyGeneral_cp (tolS : Rat) (s e : Vec) (poly : List Vec) :
    ((segPolyGeneral tolS s e poly).cp = (ptPoly s poly).cp ∧ (segPolyGeneral tolS s e poly).d2 = (ptPoly s poly).d2) ∨
    ((segPolyGeneral tolS s e poly).cp = (ptPoly e poly).cp ∧ (segPolyGeneral tolS s e poly).d2 = (ptPoly e poly).d2) ∨
    ∃ g ∈ edges poly, (segPolyGeneral tolS s e poly).cp = (segSeg tolS s e g.1 g.2).cp1 ∧
      (segPolyGeneral tolS s e poly).d2 = (segSeg tolS s e g.1 g.2).d2 := by
  unfold segPolyGeneral
  simp only []
  cases hm : minSegSeg tolS s e (edges poly) with
  | none =>
    simp only []
    split_ifs
    · exact Or.inr (Or.inl ⟨rfl, rfl⟩)
    · exact Or.inl ⟨rfl, rfl⟩
  | some o =>
    obtain ⟨_, g, hg, m2⟩ := minSegSeg_spec _ _ _ _ _ hm
    simp only []
    split_ifs
    · exact Or.inr (Or.inr ⟨g, hg, by rw [m2], by rw [m2]⟩)
    · exact Or.inr (Or.inl ⟨rfl, rfl⟩)
    · exact Or.inr (Or.inr ⟨g, hg, by rw [m2], by rw [m2]⟩)
    · exact Or.inl ⟨rfl, rfl⟩

theorem segPoly_cases (tolP tolS : Rat) (s e : Vec) (poly : List Vec) :
    (segPoly tolP tolS s e poly).d2 = 0 ∨
      (crossPoint tolP s e poly = none ∧ segPoly tolP tolS s e poly = segPolyGeneral tolS s e poly) := by
  cases hx : crossPoint tolP s e poly with
  | some x0 => left; rw [segPoly_some tolP tolS s e poly x0 hx]
  | none =>
    exact (segPoly_none tolP tolS s e poly hx).imp (fun h => (segPoly_branch1 tolP tolS s e poly h).2.2.2)
      (fun h => ⟨rfl, h⟩)

theorem sq_interp {h0 hm l : Rat} (hle : h0 * h0 ≤ hm * hm) (l0 : 0 ≤ l) (l1 : l ≤ 1) :
    ((1 - l) * h0 + l * hm) * ((1 - l) * h0 + l * hm) ≤ hm * hm := by
  have e : hm * hm - ((1 - l) * h0 + l * hm) * ((1 - l) * h0 + l * hm)
      = (1 - l) * (1 - l) * (hm * hm - h0 * h0) + 2 * l * (1 - l) * (hm * hm - h0 * hm) := by ring
  have h2 : 0 ≤ hm * hm - h0 * hm := by linarith [mul_self_nonneg (hm - h0)]
  have : 0 ≤ (1 - l) * (1 - l) * (hm * hm - h0 * h0) + 2 * l * (1 - l) * (hm * hm - h0 * hm) :=
    add_nonneg (mul_nonneg (mul_self_nonneg _) (by linarith))
      (mul_nonneg (mul_nonneg (by linarith) (by linarith)) h2)
  linarith

/-- a parameter of least squared height `(a + v (b - a))²` of a segment over the plane: an end point, or the zero of
    the height where `crossParam` finds it -/
theorem height_ref {tolP nn a b mu : Rat} (hnn : 0 ≤ nn)
    (hinc : b - a = 0 ∨ tolP * tolP * nn < (b - a) * (b - a)) (mu0 : 0 ≤ mu) (mu1 : mu ≤ 1) :
    ∃ v0 : Rat, ((v0 = 0 ∨ v0 = 1) ∨ crossParam tolP nn a b = some v0) ∧ 0 ≤ v0 ∧ v0 ≤ 1 ∧
      (a + v0 * (b - a)) * (a + v0 * (b - a)) ≤ (a + mu * (b - a)) * (a + mu * (b - a)) := by
  rcases hinc with hd | hnz
  · exact ⟨0, Or.inl (Or.inl rfl), le_refl _, zero_le_one, by rw [hd, mul_zero, mul_zero]⟩
  have hd : b - a ≠ 0 := by
    intro h
    rw [h] at hnz
    linarith [mul_nonneg (mul_self_nonneg tolP) hnn]
  -- the squared height is `a² + (m v² - 2 g v)` with `m = (b - a)²`, `g = -a (b - a)`: least at `clamp01 (g / m)`
  have hmin := clamp_min (g := -a * (b - a)) (mul_self_pos.mpr hd) mu0 mu1
  rw [mul_div_mul_right _ _ hd] at hmin
  refine ⟨clamp01 (-a / (b - a)), ?_, (clamp01_bounds _).1, (clamp01_bounds _).2, by linarith⟩
  rcases clamp01_cases (-a / (b - a)) with h | h | ⟨h0, h1, h⟩
  · exact Or.inl (Or.inl h)
  · exact Or.inl (Or.inr h)
  · rw [h]; unfold crossParam; rw [if_pos hnz, if_pos ⟨h0, h1⟩]; exact Or.inr rfl

/-- a reference parameter `v0` on the segment whose squared height is at most that of `mu`, the projection of `mu`
    being in the polygon.  If the projection of `v0` is accepted, `v0` is an end point and its distance to the polygon
    is its height.  If it is rejected, towards `mu` one meets a point over the boundary; its height bounds a
    segment–edge distance. -/
theorem segPolyGeneral_le_height (poly : List Vec) (C : ConvexPoly poly) (tolS : Rat) (htol : 0 < tolS) (s e : Vec)
    (hs : s.length = 3) (he : e.length = 3)
    (hss : ∀ g ∈ edges poly, (segSeg tolS s e g.1 g.2).exact = true)
    (v0 mu : Rat) (v00 : 0 ≤ v0) (v01 : v0 ≤ 1) (mu0 : 0 ≤ mu) (mu1 : mu ≤ 1)
    (hend : inPoly poly (normal poly) (projPlane (centroid poly) (normal poly) (along s e v0)) = true → v0 = 0 ∨ v0 = 1)
    (hin : InRegion poly (projPlane (centroid poly) (normal poly) (along s e mu)))
    (hle : dot (vsub (along s e v0) (centroid poly)) (normal poly) * dot (vsub (along s e v0) (centroid poly)) (normal poly)
      ≤ dot (vsub (along s e mu) (centroid poly)) (normal poly) * dot (vsub (along s e mu) (centroid poly)) (normal poly)) :
    (segPolyGeneral tolS s e poly).d2 ≤
      dot (vsub (along s e mu) (centroid poly)) (normal poly) * dot (vsub (along s e mu) (centroid poly)) (normal poly) / nsq (normal poly) := by
  have hnn := C.nsq_pos
  have hse : s.length = e.length := hs.trans he.symm
  cases hI : inPoly poly (normal poly) (projPlane (centroid poly) (normal poly) (along s e v0)) with
  | true =>
    obtain ⟨g1, g2, _⟩ := segPolyGeneral_spec tolS s e poly
    have hw : (segPolyGeneral tolS s e poly).d2 ≤ (ptPoly (along s e v0) poly).d2 := by
      rcases hend hI with h | h
      · rw [h, along_zero _ _ hse]; exact g1
      · rw [h, along_one _ _ hse]; exact g2
    rw [ptPoly_of_inPoly _ _ hI] at hw
    exact hw.trans ((div_le_div_iff_of_pos_right hnn).mpr hle)
  | false =>
    have lP : ∀ v : Rat, (along s e v).length = 3 := fun v => (length_along _ _ _ hse).trans hs
    have hq := C.proj (lP v0)
    obtain ⟨g, hg, t, l, t0, t1, l0, l1, e1⟩ := convex_entry poly C _ _ hq hin (not_strictly_inside poly C _ hq hI)
    obtain ⟨la, lb⟩ := C.len3 g hg
    -- the boundary point is the projection of the point with parameter v = v0 + l (mu - v0)
    have e2 : along (projPlane (centroid poly) (normal poly) (along s e v0)) (projPlane (centroid poly) (normal poly) (along s e mu)) l
        = projPlane (centroid poly) (normal poly) (along s e (v0 + l * (mu - v0))) := by
      rw [← projPlane_along _ _ _ _ l ((lP _).trans (lP _).symm) (C.clen.trans (lP _).symm) (C.nlen.trans (lP _).symm),
        along_along _ _ _ _ _ hse]
    obtain ⟨v0', v1'⟩ := interp_mem v00 v01 mu0 mu1 l0 l1
    have hmin := segSeg_min tolS htol s e g.1 g.2 hse (hs.trans la.symm) (la.trans lb.symm) (hss g hg)
      (v0 + l * (mu - v0)) t v0' v1' t0 t1
    rw [← e1, e2, nsq_to_projPlane _ _ _ (C.nlen.trans (lP _).symm) C.nn] at hmin
    refine le_trans ((segPolyGeneral_spec tolS s e poly).2.2.1 g hg) (le_trans hmin ?_)
    rw [div_le_div_iff_of_pos_right hnn]
    -- heights are affine in the parameter
    rw [along_height _ _ _ _ _ hse (C.clen.trans hs.symm)] at hle ⊢
    rw [along_height _ _ _ _ mu hse (C.clen.trans hs.symm)] at hle ⊢
    generalize dot (vsub s (centroid poly)) (normal poly) = a at hle ⊢
    generalize dot (vsub e (centroid poly)) (normal poly) = b at hle ⊢
    have e3 : a + (v0 + l * (mu - v0)) * (b - a) = (1 - l) * (a + v0 * (b - a)) + l * (a + mu * (b - a)) := by ring
    rw [e3]
    exact sq_interp hle l0 l1

/-- `segments_polygon` on a convex planar polygon returns the true distance (lower-bound part): no pair of a point of
    the segment and a point of the polygon is closer than the returned distance.  Hypotheses: the segment–segment
    kernel is in its exact regime for every boundary segment, and the incline of the segment over the plane is
    either exactly zero or above the tolerance `tolP` (no incline inside the tolerance band). -/
theorem segPoly_min_convex (poly : List Vec) (C : ConvexPoly poly) (tolP tolS : Rat) (htol : 0 < tolS) (s e : Vec)
    (hs : s.length = 3) (he : e.length = 3)
    (hss : ∀ g ∈ edges poly, (segSeg tolS s e g.1 g.2).exact = true)
    (hinc : dot (vsub e (centroid poly)) (normal poly) - dot (vsub s (centroid poly)) (normal poly) = 0 ∨
      tolP * tolP * nsq (normal poly) <
        (dot (vsub e (centroid poly)) (normal poly) - dot (vsub s (centroid poly)) (normal poly)) *
        (dot (vsub e (centroid poly)) (normal poly) - dot (vsub s (centroid poly)) (normal poly)))
    (mu : Rat) (mu0 : 0 ≤ mu) (mu1 : mu ≤ 1) (x : Vec) (hx : InRegion poly x) :
    (segPoly tolP tolS s e poly).d2 ≤ nsq (vsub (along s e mu) x) := by
  rcases segPoly_cases tolP tolS s e poly with h0 | ⟨hcp, hgen⟩
  · rw [h0]; exact nsq_nonneg _
  rw [hgen]
  have hse : s.length = e.length := hs.trans he.symm
  have lz : (along s e mu).length = 3 := (length_along _ _ _ hse).trans hs
  by_cases hA : ∃ g ∈ edges poly, side3 (normal poly) g.1 g.2 (projPlane (centroid poly) (normal poly) (along s e mu)) ≤ 0
  · -- the nearest polygon point is on the boundary
    obtain ⟨g, hg, t, t0, t1, hle⟩ := convex_outside_bound poly C _ lz hA x hx
    obtain ⟨la, lb⟩ := C.len3 g hg
    exact le_trans ((segPolyGeneral_spec tolS s e poly).2.2.1 g hg) (le_trans
      (segSeg_min tolS htol s e g.1 g.2 hse (hs.trans la.symm) (la.trans lb.symm) (hss g hg) mu t mu0 mu1 t0 t1) hle)
  · -- the projection is strictly inside: the distance is at least the height over the plane
    have hinR : InRegion poly (projPlane (centroid poly) (normal poly) (along s e mu)) :=
      ⟨(C.proj lz).1, (C.proj lz).2, fun g hg => le_of_lt (not_le.mp fun h => hA ⟨g, hg, h⟩)⟩
    rw [C.pythagoras lz hx.inPlane]
    refine le_trans ?_ (le_add_of_nonneg_right (nsq_nonneg _))
    -- compare with the point of the segment of least height: an end point or the crossing point
    have hH : ∀ v : Rat, dot (vsub (along s e v) (centroid poly)) (normal poly)
        = dot (vsub s (centroid poly)) (normal poly) + v * (dot (vsub e (centroid poly)) (normal poly) - dot (vsub s (centroid poly)) (normal poly)) :=
      fun v => along_height _ _ _ _ v hse (C.clen.trans hs.symm)
    obtain ⟨v0, hv, v00, v01, hle⟩ := height_ref (nsq_nonneg (normal poly)) hinc mu0 mu1
    rw [← hH v0, ← hH mu] at hle
    refine segPolyGeneral_le_height poly C tolS htol s e hs he hss v0 mu v00 v01 mu0 mu1 (fun hacc => hv.resolve_right fun h => ?_) hinR hle
    rw [crossPoint_none hcp h] at hacc
    cases hacc

end PorepyVerif.C30
