/-
C30 — algebra of list vectors (all vectors of a configuration have the same number of coordinates: the length
hypotheses), the point–point distances, points `along` a segment, planes and orthogonal projections.
-/
import PorepyVerif.C30.Model
import Mathlib.Algebra.Order.Field.Rat
import Mathlib.Tactic.Ring
import Mathlib.Tactic.Linarith
import Mathlib.Tactic.Positivity
import Mathlib.Tactic.FieldSimp
import Mathlib.Tactic.LinearCombination

namespace PorepyVerif.C30

@[simp] theorem dot_nil_left (v : Vec) : dot [] v = 0 := by cases v <;> rfl
@[simp] theorem dot_nil_right (v : Vec) : dot v [] = 0 := by cases v <;> rfl
@[simp] theorem dot_cons (x y : Rat) (xs ys : Vec) : dot (x :: xs) (y :: ys) = x * y + dot xs ys := rfl
@[simp] theorem vadd_cons (x y : Rat) (xs ys : Vec) : vadd (x :: xs) (y :: ys) = (x + y) :: vadd xs ys := rfl
@[simp] theorem vsub_cons (x y : Rat) (xs ys : Vec) : vsub (x :: xs) (y :: ys) = (x - y) :: vsub xs ys := rfl
@[simp] theorem smul_cons (k x : Rat) (xs : Vec) : smul k (x :: xs) = (k * x) :: smul k xs := rfl
@[simp] theorem smul_nil (k : Rat) : smul k [] = [] := rfl
@[simp] theorem vadd_nil_left (v : Vec) : vadd [] v = [] := by cases v <;> rfl
@[simp] theorem vadd_nil_right (v : Vec) : vadd v [] = [] := by cases v <;> rfl
@[simp] theorem vsub_nil_left (v : Vec) : vsub [] v = [] := by cases v <;> rfl
@[simp] theorem vsub_nil_right (v : Vec) : vsub v [] = [] := by cases v <;> rfl

theorem dot_comm (u v : Vec) : dot u v = dot v u := by
  induction u generalizing v with
  | nil => simp
  | cons x xs ih => cases v with
    | nil => simp
    | cons y ys => simp [ih ys, mul_comm]

@[simp] theorem length_smul (k : Rat) (v : Vec) : (smul k v).length = v.length := by
  induction v with
  | nil => rfl
  | cons x xs ih => simp [ih]

theorem vec_ind₂ {P : ∀ u v : Vec, u.length = v.length → Prop} (nil : P [] [] rfl)
    (cons : ∀ x y xs ys (h : xs.length = ys.length), P xs ys h → P (x :: xs) (y :: ys) (congrArg Nat.succ h)) :
    ∀ u v h, P u v h := by
  intro u
  induction u with
  | nil => intro v h; cases v with
    | nil => exact nil
    | cons y ys => simp at h
  | cons x xs ih => intro v h; cases v with
    | nil => simp at h
    | cons y ys => exact cons x y xs ys (Nat.succ.inj h) (ih ys _)

theorem length_vadd (u v : Vec) (h : u.length = v.length) : (vadd u v).length = u.length := by
  induction u, v, h using vec_ind₂ with
  | nil => rfl
  | cons x y xs ys _ ih => simp [ih]

theorem length_vsub (u v : Vec) (h : u.length = v.length) : (vsub u v).length = u.length := by
  induction u, v, h using vec_ind₂ with
  | nil => rfl
  | cons x y xs ys _ ih => simp [ih]

theorem nsq_nonneg (v : Vec) : 0 ≤ nsq v := by
  unfold nsq
  induction v with
  | nil => simp
  | cons x xs ih => simp; nlinarith [mul_self_nonneg x]

theorem dot_smul_left (k : Rat) (u v : Vec) : dot (smul k u) v = k * dot u v := by
  induction u generalizing v with
  | nil => simp
  | cons x xs ih => cases v with
    | nil => simp
    | cons y ys => simp [ih ys]; ring

theorem dot_smul_right (k : Rat) (u v : Vec) : dot u (smul k v) = k * dot u v := by
  rw [dot_comm, dot_smul_left, dot_comm]

theorem dot_vadd_left (u v w : Vec) (h : u.length = v.length) :
    dot (vadd u v) w = dot u w + dot v w := by
  induction u, v, h using vec_ind₂ generalizing w with
  | nil => simp
  | cons x y xs ys _ ih => cases w with
    | nil => simp
    | cons z zs => simp [ih zs]; ring

theorem dot_vsub_left (u v w : Vec) (h : u.length = v.length) :
    dot (vsub u v) w = dot u w - dot v w := by
  induction u, v, h using vec_ind₂ generalizing w with
  | nil => simp
  | cons x y xs ys _ ih => cases w with
    | nil => simp
    | cons z zs => simp [ih zs]; ring

theorem dot_vadd_right (w u v : Vec) (h : u.length = v.length) :
    dot w (vadd u v) = dot w u + dot w v := by
  rw [dot_comm, dot_vadd_left _ _ _ h, dot_comm u, dot_comm v]

theorem dot_vsub_right (w u v : Vec) (h : u.length = v.length) :
    dot w (vsub u v) = dot w u - dot w v := by
  rw [dot_comm, dot_vsub_left _ _ _ h, dot_comm u, dot_comm v]

theorem nsq_cons_eq_zero {x : Rat} {xs : Vec} (h : nsq (x :: xs) = 0) : x = 0 ∧ nsq xs = 0 := by
  have h1 := nsq_nonneg xs
  have h2 := mul_self_nonneg x
  have h : x * x + nsq xs = 0 := h
  exact ⟨mul_self_eq_zero.mp (by linarith), by linarith⟩

theorem dot_eq_zero_of_nsq_eq_zero (z w : Vec) (h : nsq z = 0) : dot z w = 0 := by
  induction z generalizing w with
  | nil => simp
  | cons x xs ih =>
    obtain ⟨rfl, hxs⟩ := nsq_cons_eq_zero h
    cases w with
    | nil => simp
    | cons y ys => simp [ih ys hxs]

theorem vsub_self_of_nsq_zero (u v : Vec) (hl : u.length = v.length) (h : nsq (vsub u v) = 0) : u = v := by
  induction u, v, hl using vec_ind₂ with
  | nil => rfl
  | cons x y xs ys _ ih =>
    obtain ⟨hx, hxs⟩ := nsq_cons_eq_zero h
    rw [ih hxs, sub_eq_zero.mp hx]

theorem nsq_vsub_self (u : Vec) : nsq (vsub u u) = 0 := by
  unfold nsq
  induction u with
  | nil => simp
  | cons x xs ih => simp [ih]

theorem nsq_vsub_comm (u v : Vec) : nsq (vsub u v) = nsq (vsub v u) := by
  unfold nsq
  induction u generalizing v with
  | nil => simp
  | cons x xs ih => cases v with
    | nil => simp
    | cons y ys => simp [ih ys]; ring

theorem absR_nonneg (x : Rat) : 0 ≤ absR x := by unfold absR; split_ifs <;> linarith
theorem absR_eq_zero {x : Rat} (h : absR x ≤ 0) : x = 0 := by
  unfold absR at h; split_ifs at h <;> linarith

theorem absR_neg (x : Rat) : absR (-x) = absR x := by
  unfold absR; split_ifs <;> linarith

theorem norm1_nonneg (v : Vec) : 0 ≤ norm1 v := by
  induction v with
  | nil => simp [norm1]
  | cons x xs ih => simp only [norm1]; linarith [absR_nonneg x]

theorem ptPt1_symm (p q : Vec) : ptPt1 p q = ptPt1 q p := by
  unfold ptPt1
  induction p generalizing q with
  | nil => simp [norm1]
  | cons x xs ih => cases q with
    | nil => simp [norm1]
    | cons y ys =>
      simp only [vsub_cons, norm1, ih ys]
      rw [← absR_neg (x - y)]; congr 2; ring

theorem ptPt1_zero (p q : Vec) (h : p.length = q.length) : ptPt1 p q = 0 ↔ p = q := by
  unfold ptPt1
  induction p, q, h using vec_ind₂ with
  | nil => simp [norm1]
  | cons x y xs ys _ ih =>
    simp only [vsub_cons, norm1, List.cons.injEq, ← ih]
    constructor
    · intro h0
      have h1 := absR_nonneg (x - y)
      have h2 := norm1_nonneg (vsub xs ys)
      exact ⟨sub_eq_zero.mp (absR_eq_zero (by linarith)), by linarith⟩
    · rintro ⟨rfl, h2⟩
      rw [h2, sub_self]
      simp [absR]

theorem maxList_nonneg (l : List Rat) : 0 ≤ maxList l := by
  induction l with
  | nil => simp [maxList]
  | cons x xs ih => simp only [maxList]; split_ifs <;> linarith

theorem le_maxList (l : List Rat) (x : Rat) (hx : x ∈ l) : x ≤ maxList l := by
  induction l with
  | nil => simp at hx
  | cons y ys ih =>
    simp only [maxList]
    rcases List.mem_cons.mp hx with rfl | h
    · split_ifs <;> linarith
    · have := ih h
      split_ifs <;> linarith

theorem maxList_mem (l : List Rat) (h : l ≠ []) (hpos : ∀ x ∈ l, 0 ≤ x) : maxList l ∈ l := by
  induction l with
  | nil => exact absurd rfl h
  | cons y ys ih =>
    simp only [maxList]
    split_ifs with hlt
    · simp
    · cases ys with
      | nil =>
        simp only [maxList] at hlt ⊢
        have := hpos y (by simp)
        have : y = 0 := by linarith
        simp [this]
      | cons z zs =>
        exact List.mem_cons_of_mem _ (ih (by simp) (fun x hx => hpos x (List.mem_cons_of_mem _ hx)))

theorem along_cons (x y : Rat) (xs ys : Vec) (s : Rat) :
    along (x :: xs) (y :: ys) s = (x + s * (y - x)) :: along xs ys s := rfl

theorem along_zero (a b : Vec) (h : a.length = b.length) : along a b 0 = a := by
  induction a, b, h using vec_ind₂ with
  | nil => rfl
  | cons x y xs ys _ ih => simp [along_cons, ih]

theorem along_one (a b : Vec) (h : a.length = b.length) : along a b 1 = b := by
  induction a, b, h using vec_ind₂ with
  | nil => rfl
  | cons x y xs ys _ ih => simp [along_cons, ih]

theorem length_along (a b : Vec) (s : Rat) (h : a.length = b.length) : (along a b s).length = a.length := by
  unfold along
  rw [length_vadd]
  rw [length_smul, length_vsub _ _ h.symm, h]

theorem nsq_along_along (p0 p1 q0 q1 : Vec) (s t : Rat)
    (h1 : p0.length = p1.length) (h2 : p0.length = q0.length) (h3 : q0.length = q1.length) :
    nsq (vsub (along p0 p1 s) (along q0 q1 t)) =
      nsq (vsub p0 q0) + s * s * nsq (vsub p1 p0) + t * t * nsq (vsub q1 q0)
        + 2 * s * dot (vsub p1 p0) (vsub p0 q0) - 2 * t * dot (vsub q1 q0) (vsub p0 q0)
        - 2 * s * t * dot (vsub p1 p0) (vsub q1 q0) := by
  unfold nsq along
  induction p0 generalizing p1 q0 q1 with
  | nil =>
    have ha : p1 = [] := List.length_eq_zero_iff.mp h1.symm
    subst ha
    have hb : q0 = [] := List.length_eq_zero_iff.mp h2.symm
    subst hb
    have hc : q1 = [] := List.length_eq_zero_iff.mp h3.symm
    subst hc
    simp
  | cons x xs ih => cases p1 with
    | nil => simp at h1
    | cons y ys => cases q0 with
      | nil => simp at h2
      | cons z zs => cases q1 with
        | nil => simp at h3
        | cons w ws =>
          simp at h1 h2 h3
          simp [ih ys zs ws h1 h2 h3]
          ring

theorem nsq_sub_along (p a b : Vec) (s : Rat) (h1 : p.length = a.length) (h2 : a.length = b.length) :
    nsq (vsub p (along a b s)) =
      nsq (vsub p a) - 2 * s * dot (vsub p a) (vsub b a) + s * s * nsq (vsub b a) := by
  have h := nsq_along_along p p a b 0 s rfl h1 h2
  rw [along_zero p p rfl] at h
  rw [h, dot_comm (vsub b a)]
  ring

theorem nsq_vsub_along_self (q x : Vec) (l : Rat) (h : q.length = x.length) :
    nsq (vsub q (along q x l)) = l * l * nsq (vsub x q) := by
  rw [nsq_sub_along q q x l rfl h, nsq_vsub_self, dot_eq_zero_of_nsq_eq_zero _ _ (nsq_vsub_self q)]
  ring

/-- the vector `dist = w + s u - t v` of the code is the difference of the two closest points -/
theorem dist_eq (p0 p1 q0 q1 : Vec) (s t : Rat)
    (h1 : p0.length = p1.length) (h2 : p0.length = q0.length) (h3 : q0.length = q1.length) :
    vsub (vadd (vsub p0 q0) (smul s (vsub p1 p0))) (smul t (vsub q1 q0)) =
      vsub (along p0 p1 s) (along q0 q1 t) := by
  unfold along
  induction p0 generalizing p1 q0 q1 with
  | nil => simp
  | cons x xs ih => cases p1 with
    | nil => simp at h1
    | cons y ys => cases q0 with
      | nil => simp at h2
      | cons z zs => cases q1 with
        | nil => simp at h3
        | cons w ws =>
          simp at h1 h2 h3
          simp [ih ys zs ws h1 h2 h3]
          ring

theorem nsq_comb (u v : Vec) (x y : Rat) (h : u.length = v.length) :
    nsq (vsub (smul x u) (smul y v)) = x * x * nsq u - 2 * x * y * dot u v + y * y * nsq v := by
  unfold nsq
  induction u, v, h using vec_ind₂ with
  | nil => simp
  | cons a b as bs _ ih => simp [ih]; ring

theorem vsub_vsub_cancel (x y : Vec) (h : x.length = y.length) : vsub x (vsub x y) = y := by
  induction x, y, h using vec_ind₂ with
  | nil => rfl
  | cons a b as bs _ ih => simp [ih]

theorem nsq_smul (k : Rat) (v : Vec) : nsq (smul k v) = k * k * nsq v := by
  unfold nsq; rw [dot_smul_left, dot_smul_right]; ring

theorem projPlane_in_plane (c n x : Vec) (hc : c.length = x.length) (hn : n.length = x.length) (hnn : nsq n ≠ 0) :
    dot (vsub (projPlane c n x) c) n = 0 := by
  unfold projPlane
  have l1 : (smul (dot (vsub x c) n / nsq n) n).length = x.length := by simp [hn]
  have l2 : (vsub x (smul (dot (vsub x c) n / nsq n) n)).length = c.length := by
    rw [length_vsub _ _ l1.symm, hc]
  rw [dot_vsub_left _ _ _ l2, dot_vsub_left _ _ _ l1.symm, dot_smul_left, dot_vsub_left _ _ _ hc.symm]
  have : dot n n = nsq n := rfl
  rw [this]
  field_simp
  ring

theorem nsq_to_projPlane (c n x : Vec) (hn : n.length = x.length) (hnn : nsq n ≠ 0) :
    nsq (vsub x (projPlane c n x)) = dot (vsub x c) n * dot (vsub x c) n / nsq n := by
  unfold projPlane
  rw [vsub_vsub_cancel _ _ (by simp [hn]), nsq_smul]
  field_simp

theorem length_projPlane (c n x : Vec) (hn : n.length = x.length) : (projPlane c n x).length = x.length := by
  unfold projPlane; rw [length_vsub _ _ (by simp [hn])]

theorem rel_plane (c n a q : Vec) (ha : a.length = q.length) (hc : c.length = q.length)
    (pa : dot (vsub a c) n = 0) (pq : dot (vsub q c) n = 0) : dot (vsub a q) n = 0 := by
  rw [dot_vsub_left _ _ _ ha]
  rw [dot_vsub_left _ _ _ (by rw [ha, hc])] at pa
  rw [dot_vsub_left _ _ _ hc.symm] at pq
  linarith

theorem pythagoras_plane (c n p z : Vec) (hc : c.length = p.length) (hn : n.length = p.length)
    (hz : z.length = p.length) (hnn : nsq n ≠ 0) (hplane : dot (vsub z c) n = 0) :
    nsq (vsub p z) = nsq (vsub p (projPlane c n p)) + nsq (vsub (projPlane c n p) z) := by
  have lq := length_projPlane c n p hn
  have lqz : (projPlane c n p).length = z.length := lq.trans hz.symm
  have e1 : vsub p (projPlane c n p) = smul (dot (vsub p c) n / nsq n) n := by
    unfold projPlane; exact vsub_vsub_cancel _ _ (by simp [hn])
  -- `p - q` is a multiple of `n`, and `z - q` is orthogonal to `n`
  have cross : dot (vsub p (projPlane c n p)) (vsub z (projPlane c n p)) = 0 := by
    rw [e1, dot_smul_left, dot_comm n,
      rel_plane c n z _ lqz.symm (hc.trans lq.symm) hplane (projPlane_in_plane c n p hc hn hnn), mul_zero]
  have split := nsq_sub_along p (projPlane c n p) z 1 lq.symm lqz
  rw [along_one _ _ lqz] at split
  rw [split, cross, nsq_vsub_comm z]
  ring

theorem projPlane_min (c n x y : Vec) (hc : c.length = x.length) (hn : n.length = x.length) (hy : y.length = x.length)
    (hnn : nsq n ≠ 0) (hplane : dot (vsub y c) n = 0) :
    nsq (vsub x (projPlane c n x)) ≤ nsq (vsub x y) := by
  rw [pythagoras_plane c n x y hc hn hy hnn hplane]
  exact le_add_of_nonneg_right (nsq_nonneg _)

theorem along_height (c n a b : Vec) (s : Rat) (ha : a.length = b.length) (hc : c.length = a.length) :
    dot (vsub (along a b s) c) n = dot (vsub a c) n + s * (dot (vsub b c) n - dot (vsub a c) n) := by
  have l1 : (along a b s).length = c.length := by rw [length_along _ _ _ ha, hc]
  rw [dot_vsub_left _ _ _ l1]
  unfold along
  rw [dot_vadd_left _ _ _ (by simp [length_vsub _ _ ha.symm, ha]), dot_smul_left, dot_vsub_left _ _ _ ha.symm,
    dot_vsub_left _ _ _ hc.symm, dot_vsub_left _ _ _ (by rw [← ha, hc])]
  ring

theorem along_in_plane (c n a b : Vec) (s : Rat) (ha : a.length = b.length) (hc : c.length = a.length)
    (h1 : dot (vsub a c) n = 0) (h2 : dot (vsub b c) n = 0) : dot (vsub (along a b s) c) n = 0 := by
  rw [along_height c n a b s ha hc, h1, h2, sub_zero, mul_zero, add_zero]

theorem vsub_along_smul (a b n : Vec) (x y t : Rat) (ha : a.length = b.length) (hn : n.length = a.length) :
    vsub (along a b t) (smul (x + t * (y - x)) n) = along (vsub a (smul x n)) (vsub b (smul y n)) t := by
  induction a generalizing b n with
  | nil => simp [along]
  | cons a as ih => cases b with
    | nil => simp at ha
    | cons b bs => cases n with
      | nil => simp at hn
      | cons m ms =>
        simp only [List.length_cons, Nat.add_right_cancel_iff] at ha hn
        simp only [along_cons, smul_cons, vsub_cons, ih bs ms ha hn]
        congr 1
        ring

theorem projPlane_along (c n a b : Vec) (t : Rat) (ha : a.length = b.length) (hc : c.length = a.length)
    (hn : n.length = a.length) :
    projPlane c n (along a b t) = along (projPlane c n a) (projPlane c n b) t := by
  unfold projPlane
  rw [along_height c n a b t ha hc, ← vsub_along_smul a b n _ _ t ha hn]
  congr 2
  ring

theorem along_along (s e : Vec) (a b l : Rat) (h : s.length = e.length) :
    along (along s e a) (along s e b) l = along s e (a + l * (b - a)) := by
  induction s, e, h using vec_ind₂ with
  | nil => rfl
  | cons x y xs ys _ ih =>
    simp only [along_cons, ih]
    congr 1
    ring

theorem projPlane_fix (c n x : Vec) (hn : n.length = x.length) (h : dot (vsub x c) n = 0) : projPlane c n x = x := by
  unfold projPlane
  rw [h, zero_div]
  clear h
  induction n, x, hn using vec_ind₂ with
  | nil => rfl
  | cons m a ms as _ ih => simp [ih]

end PorepyVerif.C30
