/-
C11 — one interaction region: the link between the propositional rows (`SubFace.holds`) and the
assembled linear system (`Region.rows`), the certificate argument (`cert_solution`), the data of an affine
field, regions whose gradients all equal `a`, and the independence of the matrix from the data (`erase`).
-/
import PorepyVerif.C11.Vectors

namespace PorepyVerif.C11

theorem cellAt_mem (R : Region) (i : Nat) (h : i < R.cells.length) : R.cellAt i ∈ R.cells :=
  getD_mem' R.cells i _ h

theorem presAt_affine (c : SubCell) (a : Vec) (b : Rat) (xc : Vec) (hp : c.p = affine a b c.x)
    (hl : xc.length = c.x.length) : presAt c a xc = affine a b xc := by
  unfold presAt affine at *
  rw [hp, dot_vsub a xc c.x hl]; grind

/-- a row only looks at the gradients of the sub-cells it refers to -/
theorem holds_congr (R : Region) (G G' : Nat → Vec) (f : SubFace)
    (h : ∀ i ∈ f.kind.cells, G i = G' i) : f.holds R G ↔ f.holds R G' := by
  unfold SubFace.holds
  cases hk : f.kind with
  | interior i j =>
    rw [hk] at h
    simp only [h i List.mem_cons_self, h j (List.mem_cons_of_mem _ List.mem_cons_self)]
  | dirichlet i pD => rw [hk] at h; simp only [h i List.mem_cons_self]
  | neumann i sgn qN => rw [hk] at h; simp only [h i List.mem_cons_self]

theorem idxOK_cells (m : Nat) (k : Kind) (h : k.idxOK m) : ∀ i ∈ k.cells, i < m := by
  cases k with
  | interior i j => exact List.forall_mem_cons.mpr ⟨h.1, List.forall_mem_singleton.mpr h.2.1⟩
  | dirichlet i pD => exact List.forall_mem_singleton.mpr h
  | neumann i sgn qN => exact List.forall_mem_singleton.mpr h

theorem idxOK_first (m : Nat) (k : Kind) (h : k.idxOK m) : k.first < m := by
  cases k with
  | interior i j => exact h.1
  | dirichlet i pD => exact h
  | neumann i sgn qN => exact h

theorem consistent_congr (d : Nat) (R : Region) (hwf : R.WF d) (G G' : Nat → Vec)
    (h : ∀ i < R.cells.length, G i = G' i) : R.Consistent G ↔ R.Consistent G' :=
  forall_congr' fun f => forall_congr' fun hf =>
    holds_congr R G G' f (fun i hi => h i (idxOK_cells _ _ (hwf.2 f hf).2.2 i hi))

theorem mulVec_map_coef (rows : List LinRow) (y : Vec)
    (h : ∀ r ∈ rows, dot r.coef y = r.rhs) : mulVec (rows.map (·.coef)) y = rows.map (·.rhs) := by
  induction rows with
  | nil => rfl
  | cons r rows ih =>
    obtain ⟨hr, h'⟩ := List.forall_mem_cons.mp h
    rw [List.map_cons, mulVec_cons, hr, ih h', List.map_cons]

theorem rows_of_holds (d : Nat) (R : Region) (hwf : R.WF d) (Gs : List Vec)
    (hlen : Gs.length = R.cells.length) (hG : ∀ g ∈ Gs, g.length = d)
    (f : SubFace) (hf : f ∈ R.faces) (hh : f.holds R (gradFn Gs)) :
    ∀ r ∈ f.rows d R, dot r.coef Gs.flatten = r.rhs := by
  obtain ⟨hn, hxc, hidx⟩ := hwf.2 f hf
  have hcell : ∀ i, i < R.cells.length → (R.cellAt i).WF d := fun i hi => hwf.1 _ (cellAt_mem R i hi)
  -- a vector placed in block `i` is multiplied with the gradient of sub-cell `i`
  have hplace : ∀ i v, i < R.cells.length → v.length = d →
      (place d R.cells.length i v).length = R.cells.length * d ∧
      dot (place d R.cells.length i v) Gs.flatten = dot v (gradFn Gs i) := fun i v hi hv =>
    ⟨length_place d _ i v hv hi, dot_place d R.cells.length i v Gs hlen hG hv hi⟩
  -- the two kinds of block entries: `n·K_i` and `x_c − x_i`
  have hflux : ∀ i, i < R.cells.length → (vecMat d f.n (R.cellAt i).K).length = d ∧
      dot (vecMat d f.n (R.cellAt i).K) (gradFn Gs i) = nKg f.n (R.cellAt i).K (gradFn Gs i) :=
    fun i hi => ⟨length_vecMat _ _ _ (hcell i hi).2.2, nKg_eq d _ _ _ (hcell i hi).2.2⟩
  have hpres : ∀ i, i < R.cells.length → (vsub f.xc (R.cellAt i).x).length = d ∧
      dot (vsub f.xc (R.cellAt i).x) (gradFn Gs i) =
        presAt (R.cellAt i) (gradFn Gs i) f.xc - (R.cellAt i).p := fun i hi =>
    ⟨by rw [length_vsub _ _ (by rw [hxc, (hcell i hi).1]), hxc],
      by rw [presAt, Rat.add_comm, Rat.add_sub_cancel]; exact dot_comm _ _⟩
  unfold SubFace.holds at hh
  unfold SubFace.rows
  cases hk : f.kind with
  | interior i j =>
    rw [hk] at hh hidx
    obtain ⟨hi, hj, _⟩ := hidx
    obtain ⟨lfi, efi⟩ := hflux i hi
    obtain ⟨lfj, efj⟩ := hflux j hj
    obtain ⟨lpi, epi⟩ := hpres i hi
    obtain ⟨lpj, epj⟩ := hpres j hj
    refine List.forall_mem_cons.mpr ⟨?_, List.forall_mem_singleton.mpr ?_⟩
    · show dot (vsub _ _) _ = 0
      rw [dot_vsub_left _ _ _ ((hplace i _ hi lfi).1.trans (hplace j _ hj lfj).1.symm),
        (hplace i _ hi lfi).2, (hplace j _ hj lfj).2, efi, efj, hh.1]
      exact Rat.sub_self
    · show dot (vsub _ _) _ = (R.cellAt j).p - (R.cellAt i).p
      rw [dot_vsub_left _ _ _ ((hplace i _ hi lpi).1.trans (hplace j _ hj lpj).1.symm),
        (hplace i _ hi lpi).2, (hplace j _ hj lpj).2, epi, epj, hh.2]
      exact q_sub_sub_sub _ _ _
  | dirichlet i pD =>
    rw [hk] at hh hidx
    obtain ⟨lpi, epi⟩ := hpres i hidx
    refine List.forall_mem_singleton.mpr ?_
    show dot (place _ _ _ _) _ = pD - (R.cellAt i).p
    rw [(hplace i _ hidx lpi).2, epi, hh]
  | neumann i sgn qN =>
    rw [hk] at hh hidx
    obtain ⟨lfi, efi⟩ := hflux i hidx
    refine List.forall_mem_singleton.mpr ?_
    show dot (place _ _ _ _) _ = -qN
    rw [(hplace i _ hidx (by rw [length_smul, lfi])).2, dot_smul_left, efi]
    exact hh

/-- a solution of the rows (propositional form) solves the assembled system `A y = rhs` -/
theorem assemble_sound (d : Nat) (R : Region) (hwf : R.WF d) (Gs : List Vec)
    (hlen : Gs.length = R.cells.length) (hG : ∀ g ∈ Gs, g.length = d)
    (hc : R.Consistent (gradFn Gs)) : mulVec (R.matrix d) Gs.flatten = R.rhs d := by
  apply mulVec_map_coef
  intro r hr
  obtain ⟨f, hf, hrf⟩ := List.mem_flatMap.mp hr
  exact rows_of_holds d R hwf Gs hlen hG f hf (hc f hf) r hrf

/-- the list of the first `m` values of a gradient assignment -/
def tabulate (G : Nat → Vec) (m : Nat) : List Vec := (List.range m).map G

theorem gradFn_tabulate (G : Nat → Vec) (m i : Nat) (h : i < m) : gradFn (tabulate G m) i = G i :=
  getD_map_range G m i [] h

/-- Core of the certificate argument: with a passing certificate `L`, the vector `L · rhs` cut
    into blocks IS the table of any solution `G`. -/
theorem cert_solution (d : Nat) (R : Region) (L : Mat) (hwf : R.WF d)
    (hcert : certOK d R L = true) (G : Nat → Vec) (hG : ∀ i, (G i).length = d)
    (hc : R.Consistent G) :
    chunks d R.cells.length (mulVec L (R.rhs d)) = tabulate G R.cells.length := by
  have hlen : (tabulate G R.cells.length).length = R.cells.length := by simp [tabulate]
  have hblocks : ∀ g ∈ tabulate G R.cells.length, g.length = d := by
    intro g hg
    obtain ⟨i, _, rfl⟩ := List.mem_map.mp hg
    exact hG i
  have hc' : R.Consistent (gradFn (tabulate G R.cells.length)) :=
    (consistent_congr d R hwf _ _ (fun i hi => gradFn_tabulate G _ i hi)).mpr hc
  -- `L·rhs = L·(A y) = y` for the flattened table `y` of `G`
  rw [← assemble_sound d R hwf _ hlen hblocks hc',
    leftInvOK_apply _ L (R.matrix d) hcert _ (by rw [length_flatten_blocks d _ hblocks, hlen])]
  have h := chunks_flatten d _ hblocks
  rwa [hlen] at h

theorem cert_gradFn (d : Nat) (R : Region) (L : Mat) (hwf : R.WF d)
    (hcert : certOK d R L = true) (G : Nat → Vec) (hG : ∀ i, (G i).length = d)
    (hc : R.Consistent G) :
    ∀ i < R.cells.length, gradFn (chunks d R.cells.length (mulVec L (R.rhs d))) i = G i := by
  intro i hi
  rw [cert_solution d R L hwf hcert G hG hc, gradFn_tabulate _ _ _ hi]

/-- an answer of the solver is a passing certificate together with `L · rhs` cut into blocks -/
theorem solve_eq_some (d : Nat) (R : Region) (s : Solution) (hs : R.solve d = some s) :
    certOK d R s.L = true ∧ s.G = chunks d R.cells.length (mulVec s.L (R.rhs d)) := by
  unfold Region.solve at hs
  split at hs
  · cases hs
  · split at hs
    · cases hs; exact ⟨‹_›, rfl⟩
    · cases hs

theorem presAt_affine_region (d : Nat) (R : Region) (a : Vec) (b : Rat) (hwf : R.WF d)
    (hp : ∀ c ∈ R.cells, c.p = affine a b c.x) (f : SubFace) (hf : f ∈ R.faces) (i : Nat)
    (hi : i < R.cells.length) : presAt (R.cellAt i) a f.xc = affine a b f.xc :=
  have hm := cellAt_mem R i hi
  presAt_affine _ a b f.xc (hp _ hm) (by rw [(hwf.2 f hf).2.1, (hwf.1 _ hm).1])

/-- What the faces of a region must carry for the field `p(x) = a·x + b` when the permeability may differ
    from cell to cell: its boundary values, and a normal flux `n·K_i a = n·K_j a` that is continuous
    across interior sub-faces. -/
def Kind.fieldOK (R : Region) (a : Vec) (b : Rat) (n xc : Vec) : Kind → Prop
  | .interior i j => nKg n (R.cellAt i).K a = nKg n (R.cellAt j).K a
  | .dirichlet _ pD => pD = affine a b xc
  | .neumann i sgn qN => qN = -(sgn * nKg n (R.cellAt i).K a)

def Region.FieldData (R : Region) (a : Vec) (b : Rat) : Prop :=
  (∀ c ∈ R.cells, c.p = affine a b c.x) ∧ ∀ f ∈ R.faces, f.kind.fieldOK R a b f.n f.xc

/-- with one permeability for all cells the normal flux of any affine field is continuous -/
theorem Region.AffineData.fieldData (d : Nat) {R : Region} {K : Mat} {a : Vec} {b : Rat} (hwf : R.WF d)
    (h : R.AffineData K a b) : R.FieldData a b := by
  have hK : ∀ i < R.cells.length, (R.cellAt i).K = K := fun i hi => (h.1 _ (cellAt_mem R i hi)).1
  refine ⟨fun c hc => (h.1 c hc).2, fun f hf => ?_⟩
  have hidx := (hwf.2 f hf).2.2
  have hface := h.2 f hf
  cases hk : f.kind with
  | interior i j => rw [hk] at hidx; show nKg _ _ _ = nKg _ _ _; rw [hK i hidx.1, hK j hidx.2.1]
  | dirichlet i pD => rw [hk] at hface; exact hface
  | neumann i sgn qN =>
    rw [hk] at hidx hface
    show qN = -(sgn * nKg f.n (R.cellAt i).K a)
    rw [hK i hidx]; exact hface

/-- the data of the constant pressure `b` are those of the field with zero gradient, whatever the
    permeabilities of the cells are -/
theorem Region.FieldData.of_const (d : Nat) {R : Region} {b : Rat} (hp : ∀ c ∈ R.cells, c.p = b)
    (hface : ∀ f ∈ R.faces, f.kind.constOK b) : R.FieldData (zeros d) b := by
  refine ⟨fun c hc => (hp c hc).trans (affine_zeros d b c.x).symm, fun f hf => ?_⟩
  have h := hface f hf
  cases hk : f.kind with
  | interior i j => show nKg _ _ _ = nKg _ _ _; rw [nKg_zeros, nKg_zeros]
  | dirichlet i pD => rw [hk] at h; exact h.trans (affine_zeros d b f.xc).symm
  | neumann i sgn qN =>
    rw [hk] at h
    show qN = -(sgn * nKg _ _ _)
    rw [nKg_zeros, Rat.mul_zero, Rat.neg_zero]; exact h

/-! Regions whose gradients all equal `a`: the flux is that of `a` with the permeability of the first side,
and the pressure is that of the field as soon as the cell pressures are. -/

theorem flux_of_equal_grad (d : Nat) (R : Region) (a : Vec) (hwf : R.WF d) (Gf : Nat → Vec)
    (hgrad : ∀ i < R.cells.length, Gf i = a) (f : SubFace) (hf : f ∈ R.faces) :
    f.flux R Gf = -(nKg f.n (R.cellAt f.kind.first).K a) := by
  rw [SubFace.flux, hgrad _ (idxOK_first _ _ (hwf.2 f hf).2.2)]

theorem pres_of_equal_grad (d : Nat) (R : Region) (a : Vec) (b : Rat) (hwf : R.WF d)
    (hp : ∀ c ∈ R.cells, c.p = affine a b c.x) (Gf : Nat → Vec) (hgrad : ∀ i < R.cells.length, Gf i = a)
    (f : SubFace) (hf : f ∈ R.faces) : f.pres R Gf = affine a b f.xc := by
  have hidx := (hwf.2 f hf).2.2
  have hP : ∀ i, i < R.cells.length → presAt (R.cellAt i) (Gf i) f.xc = affine a b f.xc :=
    fun i hi => by rw [hgrad i hi]; exact presAt_affine_region d R a b hwf hp f hf i hi
  unfold SubFace.pres SubFace.pres1
  cases hk : f.kind with
  | interior i j =>
    rw [hk] at hidx
    show (presAt (R.cellAt i) (Gf i) f.xc + presAt (R.cellAt j) (Gf j) f.xc) / 2 = _
    rw [hP i hidx.1, hP j hidx.2.1]; exact q_mean_self _
  | dirichlet i pD => rw [hk] at hidx; exact hP i hidx
  | neumann i sgn qN => rw [hk] at hidx; exact hP i hidx

theorem flux_of_const (d : Nat) (R : Region) (K : Mat) (a : Vec) (b : Rat) (hwf : R.WF d)
    (hdata : R.AffineData K a b) (Gf : Nat → Vec) (hgrad : ∀ i < R.cells.length, Gf i = a)
    (f : SubFace) (hf : f ∈ R.faces) : f.flux R Gf = -(nKg f.n K a) := by
  rw [flux_of_equal_grad d R a hwf Gf hgrad f hf,
    (hdata.1 _ (cellAt_mem R _ (idxOK_first _ _ (hwf.2 f hf).2.2))).1]

theorem pres_of_const (d : Nat) (R : Region) (K : Mat) (a : Vec) (b : Rat) (hwf : R.WF d)
    (hdata : R.AffineData K a b) (Gf : Nat → Vec) (hgrad : ∀ i < R.cells.length, Gf i = a)
    (f : SubFace) (hf : f ∈ R.faces) : f.pres R Gf = affine a b f.xc :=
  pres_of_equal_grad d R a b hwf (fun c hc => (hdata.1 c hc).2) Gf hgrad f hf

/-! The local matrix does not depend on the data: `erase` sets cell pressures and boundary values
to zero, and the matrix of a region is that of the erased region. -/

def SubCell.erase (c : SubCell) : SubCell := ⟨c.x, c.K, 0⟩
def Kind.erase : Kind → Kind
  | .interior i j => .interior i j
  | .dirichlet i _ => .dirichlet i 0
  | .neumann i s _ => .neumann i s 0
def SubFace.erase (f : SubFace) : SubFace := ⟨f.n, f.xc, f.kind.erase⟩
def Region.erase (R : Region) : Region := ⟨R.cells.map SubCell.erase, R.faces.map SubFace.erase⟩

theorem cellAt_erase (R : Region) (i : Nat) : R.erase.cellAt i = (R.cellAt i).erase :=
  Common.getD_map SubCell.erase R.cells i ⟨[], [], 0⟩

theorem erase_cells_length (R : Region) : R.erase.cells.length = R.cells.length :=
  List.length_map _

theorem rows_erase (d : Nat) (R : Region) (f : SubFace) :
    (f.erase.rows d R.erase).map (·.coef) = (f.rows d R).map (·.coef) := by
  unfold SubFace.rows
  cases hk : f.kind <;>
    simp [SubFace.erase, Kind.erase, hk, cellAt_erase, SubCell.erase, erase_cells_length]

theorem matrix_erase (d : Nat) (R : Region) : R.erase.matrix d = R.matrix d := by
  unfold Region.matrix Region.rows
  show ((R.faces.map SubFace.erase).flatMap fun f => f.rows d R.erase).map _ = _
  simp only [List.map_flatMap, List.flatMap_map, rows_erase]

theorem certOK_of_erase_eq (d : Nat) (R R' : Region) (L : Mat) (h : R.erase = R'.erase) :
    certOK d R L = certOK d R' L := by
  unfold certOK
  rw [← matrix_erase d R, ← matrix_erase d R', ← erase_cells_length R, ← erase_cells_length R', h]

end PorepyVerif.C11
