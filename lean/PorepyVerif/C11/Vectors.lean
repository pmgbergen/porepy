/-
C11 — vectors and matrices as lists: bilinearity of the dot product, `vecMat` / `mulVec`, what a passing
left-inverse check means (`leftInvOK_apply`), and the block layout of the unknowns (`place`, `chunks`).
Core Lean only (no Mathlib): arithmetic goals are closed by the `Rat` lemmas of core or by `grind`.
-/
import PorepyVerif.C11.Model
import PorepyVerif.Common.List

namespace PorepyVerif.C11

@[simp] theorem q_add_zero (a : Rat) : a + 0 = a := Rat.add_zero a
@[simp] theorem q_zero_add (a : Rat) : 0 + a = a := Rat.zero_add a
@[simp] theorem q_sub_zero (a : Rat) : a - 0 = a := by
  rw [Rat.sub_eq_add_neg, Rat.neg_zero, Rat.add_zero]
@[simp] theorem q_mul_zero (a : Rat) : a * 0 = 0 := Rat.mul_zero a
@[simp] theorem q_zero_mul (a : Rat) : 0 * a = 0 := Rat.zero_mul a
@[simp] theorem q_neg_zero : -(0 : Rat) = 0 := Rat.neg_zero
-- Two identities needed inside long proofs; there `grind` would also search the whole context.
theorem q_sub_sub_sub (p a b : Rat) : p - a - (p - b) = b - a := by grind
theorem q_mean_self (p : Rat) : (p + p) / 2 = p := by grind

theorem getD_mem' {α : Type} (l : List α) (i : Nat) (d : α) (h : i < l.length) : l.getD i d ∈ l :=
  Common.getD_mem d h

theorem getD_map_range {α : Type} (g : Nat → α) (n i : Nat) (d : α) (h : i < n) :
    ((List.range n).map g).getD i d = g i :=
  Common.getD_map_range g d h

theorem len2 {α : Type} (x : List α) (h : x.length = 2) : ∃ a b, x = [a, b] :=
  match x, h with
  | [a, b], _ => ⟨a, b, rfl⟩

theorem sum_of_all_eq (l : List Rat) (c : Rat) (h : ∀ x ∈ l, x = c) : l.sum = (l.length : Rat) * c := by
  induction l with
  | nil => simp
  | cons x l ih =>
    obtain ⟨hx, h'⟩ := List.forall_mem_cons.mp h
    rw [List.sum_cons, hx, ih h', List.length_cons, Rat.natCast_add, Rat.add_mul, Rat.add_comm]
    simp

@[simp] theorem dot_nil_left (y : Vec) : dot [] y = 0 := rfl
@[simp] theorem dot_nil_right (x : Vec) : dot x [] = 0 := by cases x <;> rfl
@[simp] theorem dot_cons (a b : Rat) (x y : Vec) : dot (a :: x) (b :: y) = a * b + dot x y := rfl

@[simp] theorem vsub_nil_left (y : Vec) : vsub [] y = [] := rfl
@[simp] theorem vsub_nil_right (x : Vec) : vsub x [] = [] := by cases x <;> rfl
@[simp] theorem vsub_cons (a b : Rat) (x y : Vec) : vsub (a :: x) (b :: y) = (a - b) :: vsub x y := rfl

@[simp] theorem vadd_nil_left (y : Vec) : vadd [] y = [] := rfl
@[simp] theorem vadd_nil_right (x : Vec) : vadd x [] = [] := by cases x <;> rfl
@[simp] theorem vadd_cons (a b : Rat) (x y : Vec) : vadd (a :: x) (b :: y) = (a + b) :: vadd x y := rfl

@[simp] theorem smul_nil (c : Rat) : smul c [] = [] := rfl
@[simp] theorem smul_cons (c a : Rat) (x : Vec) : smul c (a :: x) = (c * a) :: smul c x := rfl
@[simp] theorem length_smul (c : Rat) (x : Vec) : (smul c x).length = x.length := List.length_map _
@[simp] theorem length_zeros (n : Nat) : (zeros n).length = n := List.length_replicate
theorem zeros_succ (n : Nat) : zeros (n + 1) = 0 :: zeros n := rfl

theorem eqLen_induction {motive : (x y : Vec) → x.length = y.length → Prop}
    (nil : motive [] [] rfl)
    (cons : ∀ a b x y h, motive x y h → motive (a :: x) (b :: y) (congrArg (· + 1) h))
    (x y : Vec) (h : x.length = y.length) : motive x y h := by
  induction x generalizing y with
  | nil => cases y with
    | nil => exact nil
    | cons _ _ => cases h
  | cons a x ih => cases y with
    | nil => cases h
    | cons b y => exact cons a b x y (Nat.succ.inj h) (ih y _)

theorem length_vsub (x y : Vec) (h : x.length = y.length) : (vsub x y).length = x.length := by
  induction x, y, h using eqLen_induction with
  | nil => rfl
  | cons a b x y h ih => rw [vsub_cons, List.length_cons, ih, List.length_cons]

theorem length_vadd (x y : Vec) (h : x.length = y.length) : (vadd x y).length = x.length := by
  induction x, y, h using eqLen_induction with
  | nil => rfl
  | cons a b x y h ih => rw [vadd_cons, List.length_cons, ih, List.length_cons]

theorem vadd_smul_zero (x y : Vec) (h : x.length = y.length) : vadd x (smul 0 y) = x := by
  induction x, y, h using eqLen_induction with
  | nil => rfl
  | cons a b x y h ih => rw [smul_cons, vadd_cons, ih, Rat.zero_mul, Rat.add_zero]

theorem dot_comm (x y : Vec) : dot x y = dot y x :=
  match x, y with
  | [], y => by simp
  | _ :: _, [] => by simp
  | a :: x, b :: y => by rw [dot_cons, dot_cons, dot_comm x y, Rat.mul_comm]

@[simp] theorem dot_zeros_left (n : Nat) (y : Vec) : dot (zeros n) y = 0 := by
  induction n generalizing y with
  | zero => rfl
  | succ n ih =>
    cases y with
    | nil => simp
    | cons b y => simp [zeros_succ, ih]

@[simp] theorem dot_zeros_right (n : Nat) (x : Vec) : dot x (zeros n) = 0 := by
  rw [dot_comm, dot_zeros_left]

theorem dot_smul_left (c : Rat) (x y : Vec) : dot (smul c x) y = c * dot x y :=
  match x, y with
  | [], y => by simp
  | _ :: _, [] => by simp
  | a :: x, b :: y => by
    rw [smul_cons, dot_cons, dot_cons, dot_smul_left c x y, Rat.mul_add, Rat.mul_assoc]

theorem dot_vsub_left (u v y : Vec) (h : u.length = v.length) :
    dot (vsub u v) y = dot u y - dot v y := by
  induction u, v, h using eqLen_induction generalizing y with
  | nil => simp
  | cons a b u v h ih =>
    cases y with
    | nil => simp
    | cons c y => rw [vsub_cons, dot_cons, dot_cons, dot_cons, ih]; grind

theorem dot_vadd_left (u v y : Vec) (h : u.length = v.length) :
    dot (vadd u v) y = dot u y + dot v y := by
  induction u, v, h using eqLen_induction generalizing y with
  | nil => simp
  | cons a b u v h ih =>
    cases y with
    | nil => simp
    | cons c y => rw [vadd_cons, dot_cons, dot_cons, dot_cons, ih]; grind

theorem dot_vsub (a x y : Vec) (h : x.length = y.length) : dot a (vsub x y) = dot a x - dot a y := by
  rw [dot_comm, dot_vsub_left x y a h, dot_comm x, dot_comm y]

theorem dot_append (a a' b b' : Vec) (h : a.length = b.length) :
    dot (a ++ a') (b ++ b') = dot a b + dot a' b' := by
  induction a, b, h using eqLen_induction with
  | nil => simp
  | cons x y a b h ih => simp [ih, Rat.add_assoc]

@[simp] theorem vecMat_nil_left (w : Nat) (A : Mat) : vecMat w [] A = zeros w := rfl
@[simp] theorem vecMat_nil_right (w : Nat) (l : Vec) : vecMat w l [] = zeros w := by cases l <;> rfl
@[simp] theorem vecMat_cons (w : Nat) (b : Rat) (l : Vec) (r : Vec) (A : Mat) :
    vecMat w (b :: l) (r :: A) = vadd (smul b r) (vecMat w l A) := rfl

theorem length_vecMat (w : Nat) (l : Vec) (A : Mat) (hA : ∀ r ∈ A, r.length = w) :
    (vecMat w l A).length = w := by
  induction l generalizing A with
  | nil => simp
  | cons b l ih =>
    cases A with
    | nil => simp
    | cons r A =>
      obtain ⟨hr, hA'⟩ := List.forall_mem_cons.mp hA
      rw [vecMat_cons, length_vadd _ _ (by rw [length_smul, hr, ih A hA']), length_smul, hr]

theorem len2mat (K : Mat) (h : K.length = 2 ∧ ∀ r ∈ K, r.length = 2) :
    ∃ a b c d, K = [[a, b], [c, d]] := by
  obtain ⟨r1, r2, rfl⟩ := len2 K h.1
  obtain ⟨a, b, rfl⟩ := len2 r1 (h.2 r1 List.mem_cons_self)
  obtain ⟨c, d, rfl⟩ := len2 r2 (h.2 r2 (List.mem_cons_of_mem _ List.mem_cons_self))
  exact ⟨a, b, c, d, rfl⟩

@[simp] theorem mulVec_nil (y : Vec) : mulVec [] y = [] := rfl
@[simp] theorem mulVec_cons (r : Vec) (A : Mat) (y : Vec) : mulVec (r :: A) y = dot r y :: mulVec A y := rfl
@[simp] theorem length_mulVec (A : Mat) (y : Vec) : (mulVec A y).length = A.length := List.length_map _

theorem dot_vecMat (w : Nat) (l : Vec) (A : Mat) (y : Vec) (hA : ∀ r ∈ A, r.length = w) :
    dot (vecMat w l A) y = dot l (mulVec A y) := by
  induction l generalizing A with
  | nil => simp
  | cons b l ih =>
    cases A with
    | nil => simp
    | cons r A =>
      obtain ⟨hr, hA'⟩ := List.forall_mem_cons.mp hA
      rw [vecMat_cons, dot_vadd_left _ _ _ (by rw [length_smul, hr, length_vecMat w l A hA']),
        dot_smul_left, ih A hA', mulVec_cons, dot_cons]

theorem mulVec_zeros (K : Mat) (n : Nat) : mulVec K (zeros n) = zeros K.length := by
  induction K with
  | nil => rfl
  | cons r K ih => simp [ih, zeros_succ]

theorem nKg_zeros (n : Vec) (K : Mat) (k : Nat) : nKg n K (zeros k) = 0 := by
  simp [nKg, mulVec_zeros]

theorem affine_zeros (d : Nat) (b : Rat) (x : Vec) : affine (zeros d) b x = b := by
  rw [affine, dot_zeros_left, Rat.zero_add]

theorem nKg_smul (c : Rat) (n : Vec) (K : Mat) (g : Vec) : nKg (smul c n) K g = c * nKg n K g :=
  dot_smul_left c n _

theorem nKg_eq (d : Nat) (n : Vec) (K : Mat) (g : Vec) (hK : ∀ r ∈ K, r.length = d) :
    dot (vecMat d n K) g = nKg n K g := dot_vecMat d n K g hK

theorem mulVec_map_cons_zero (A : Mat) (y0 : Rat) (y : Vec) :
    mulVec (A.map (fun r => 0 :: r)) (y0 :: y) = mulVec A y := by
  induction A with
  | nil => rfl
  | cons r A ih => simp [ih]

theorem mulVec_identity (n : Nat) (y : Vec) (h : y.length = n) : mulVec (identity n) y = y := by
  induction n generalizing y with
  | zero => rw [List.eq_nil_of_length_eq_zero h]; rfl
  | succ n ih =>
    cases y with
    | nil => cases h
    | cons y0 y =>
      rw [identity, mulVec_cons, mulVec_map_cons_zero, ih y (Nat.succ.inj h)]
      simp

theorem mulVec_map_vecMat (w : Nat) (L A : Mat) (y : Vec) (hA : ∀ r ∈ A, r.length = w) :
    mulVec (L.map (fun l => vecMat w l A)) y = mulVec L (mulVec A y) := by
  induction L with
  | nil => rfl
  | cons l L ih => simp [ih, dot_vecMat w l A y hA]

/-- What a passing certificate means: `L (A y) = y` for every `y` with `n` components. -/
theorem leftInvOK_apply (n : Nat) (L A : Mat) (h : leftInvOK n L A = true) (y : Vec)
    (hy : y.length = n) : mulVec L (mulVec A y) = y := by
  unfold leftInvOK at h
  simp only [Bool.and_eq_true, List.all_eq_true, beq_iff_eq] at h
  obtain ⟨⟨_, hA⟩, hI⟩ := h
  rw [← mulVec_map_vecMat n L A y hA, hI, mulVec_identity n y hy]

theorem length_place (d m i : Nat) (v : Vec) (hv : v.length = d) (hi : i < m) :
    (place d m i v).length = m * d := by
  induction m generalizing i with
  | zero => cases hi
  | succ m ih =>
    cases i with
    | zero => rw [place, List.length_append, hv, length_zeros, Nat.succ_mul, Nat.add_comm]
    | succ i =>
      rw [place, List.length_append, length_zeros, ih i (Nat.lt_of_succ_lt_succ hi), Nat.succ_mul,
        Nat.add_comm]

/-- `(0,…,v,…,0)·(g_0,…,g_{m-1}) = v·g_i` -/
theorem dot_place (d m i : Nat) (v : Vec) (Gs : List Vec) (hlen : Gs.length = m)
    (hG : ∀ g ∈ Gs, g.length = d) (hv : v.length = d) (hi : i < m) :
    dot (place d m i v) Gs.flatten = dot v (Gs.getD i []) := by
  induction m generalizing i Gs with
  | zero => cases hi
  | succ m ih =>
    cases Gs with
    | nil => cases hlen
    | cons g Gs =>
      obtain ⟨hg, hG'⟩ := List.forall_mem_cons.mp hG
      cases i with
      | zero =>
        rw [place, List.flatten_cons, dot_append _ _ _ _ (by rw [hv, hg]), dot_zeros_left]
        exact Rat.add_zero _
      | succ i =>
        rw [place, List.flatten_cons, dot_append _ _ _ _ (by rw [length_zeros, hg]), dot_zeros_left,
          ih i Gs (Nat.succ.inj hlen) hG' (Nat.lt_of_succ_lt_succ hi)]
        exact Rat.zero_add _

theorem length_flatten_blocks (d : Nat) (Gs : List Vec) (hG : ∀ g ∈ Gs, g.length = d) :
    Gs.flatten.length = Gs.length * d := by
  induction Gs with
  | nil => simp
  | cons g Gs ih =>
    obtain ⟨hg, hG'⟩ := List.forall_mem_cons.mp hG
    rw [List.flatten_cons, List.length_append, hg, ih hG', List.length_cons, Nat.succ_mul,
      Nat.add_comm]

theorem chunks_flatten (d : Nat) (Gs : List Vec) (hG : ∀ g ∈ Gs, g.length = d) :
    chunks d Gs.length Gs.flatten = Gs := by
  induction Gs with
  | nil => rfl
  | cons g Gs ih =>
    obtain ⟨hg, hG'⟩ := List.forall_mem_cons.mp hG
    rw [List.length_cons, chunks, List.flatten_cons, List.take_left' hg, List.drop_left' hg, ih hG']

end PorepyVerif.C11
