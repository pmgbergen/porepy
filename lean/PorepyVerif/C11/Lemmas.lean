/-
C11 — the 2-D grid: the regions the model builds are well-formed and carry the data of the affine field,
and what `nodeSols` stores per node is the answer of `Region.solve` (`solve_region`).
-/
import PorepyVerif.C11.LocalSystem

namespace PorepyVerif.C11

namespace Grid2
variable (G : Grid2)

theorem mem_facesOf (v f : Nat) : f ∈ G.facesOf v ↔ f < G.numFaces ∧ v ∈ G.fnodes f := by
  simp [facesOf, List.mem_filter]

theorem mem_cellsOf (v c : Nat) :
    c ∈ G.cellsOf v ↔ c < G.numCells ∧ ∃ f ∈ G.facesOf v, ∃ s, (c, s) ∈ G.fcells f := by
  simp only [cellsOf, List.contains_eq_mem, List.mem_flatMap, List.mem_map, Prod.exists,
    exists_and_right, exists_eq_right, List.mem_filter, List.mem_range, decide_eq_true_eq]

theorem loc_lt (v c : Nat) (h : c ∈ G.cellsOf v) : G.loc v c < (G.cellsOf v).length :=
  List.idxOf_lt_length_of_mem h

theorem mem_cellsOf_of (v f c : Nat) (s : Rat) (hf : f ∈ G.facesOf v)
    (hcs : (c, s) ∈ G.fcells f) (hc : c < G.numCells) : c ∈ G.cellsOf v :=
  (G.mem_cellsOf v c).mpr ⟨hc, f, hf, s, hcs⟩

theorem getD_loc (v c : Nat) (hc : c ∈ G.cellsOf v) : (G.cellsOf v).getD (G.loc v c) 0 = c :=
  Common.getD_idxOf 0 hc

theorem cellAt_loc (p bc : List Rat) (v c : Nat) (hc : c ∈ G.cellsOf v) :
    (G.region p bc v).cellAt (G.loc v c) = G.mkCell p c :=
  Common.getD_map_idxOf (G.mkCell p) _ hc

/-! What `WF` says about the entry of each array at an index in range. -/

section
variable {G} (hwf : G.WF)
include hwf

theorem WF.length_nodeAt (v : Nat) (hv : v < G.numNodes) : (G.nodeAt v).length = 2 := by
  obtain ⟨_, _, _, _, hnodes, _⟩ := hwf
  exact hnodes _ (getD_mem' G.nodes v [] hv)

theorem WF.length_ccAt (c : Nat) (hc : c < G.numCells) : (G.ccAt c).length = 2 := by
  obtain ⟨_, _, _, _, _, hcc, _⟩ := hwf
  exact hcc _ (getD_mem' G.cellCenters c [] hc)

theorem WF.length_fcAt (f : Nat) (hf : f < G.numFaces) : (G.fcAt f).length = 2 := by
  obtain ⟨_, hlen, _, _, _, _, hfcs, _⟩ := hwf
  exact hfcs _ (getD_mem' G.faceCenters f [] (by rw [hlen]; exact hf))

theorem WF.length_fnAt (f : Nat) (hf : f < G.numFaces) : (G.fnAt f).length = 2 := by
  obtain ⟨_, _, hlen, _, _, _, _, hfns, _⟩ := hwf
  exact hfns _ (getD_mem' G.faceNormals f [] (by rw [hlen]; exact hf))

theorem WF.shape_permAt (c : Nat) (hc : c < G.numCells) :
    (G.permAt c).length = 2 ∧ ∀ r ∈ G.permAt c, r.length = 2 := by
  obtain ⟨_, _, _, hlen, _, _, _, _, hK, _⟩ := hwf
  exact hK _ (getD_mem' G.perm c [] (by rw [hlen]; exact hc))

theorem WF.fnodes_ok (f : Nat) (hf : f < G.numFaces) :
    G.fnodes f ≠ [] ∧ ∀ v ∈ G.fnodes f, v < G.numNodes := by
  obtain ⟨_, _, _, _, _, _, _, _, _, hfnodes, _⟩ := hwf
  exact hfnodes _ (getD_mem' G.faceNodes f [] hf)

theorem WF.fcells_ok (f : Nat) (hf : f < G.numFaces) : fcOK G.numCells (G.fcells f) := by
  obtain ⟨hlen, _, _, _, _, _, _, _, _, _, hfcells⟩ := hwf
  exact hfcells _ (getD_mem' G.faceCells f [] (by rw [hlen]; exact hf))

end

/-- shape of the cell list of a face in a well-formed grid -/
theorem fcells_cases (hwf : G.WF) (f : Nat) (hf : f < G.numFaces) :
    (∃ c s, G.fcells f = [(c, s)] ∧ c < G.numCells) ∨
    (∃ c1 s1 c2 s2, G.fcells f = [(c1, s1), (c2, s2)] ∧ c1 < G.numCells ∧ c2 < G.numCells ∧ c1 ≠ c2) := by
  have h := hwf.fcells_ok f hf
  rcases hl : G.fcells f with _ | ⟨⟨c, s⟩, _ | ⟨⟨c2, s2⟩, _ | ⟨x, rest⟩⟩⟩ <;> rw [hl] at h
  · exact h.elim
  · exact .inl ⟨c, s, rfl, h⟩
  · exact .inr ⟨c, s, c2, s2, rfl, h⟩
  · exact h.elim

theorem mkFace_n (bc : List Rat) (v f : Nat) :
    (G.mkFace bc v f).n = smul (1 / G.nN f) (G.fnAt f) := by
  unfold mkFace
  split
  · split <;> rfl
  · rfl
  · rfl

theorem mkFace_bnd (bc : List Rat) (v f c : Nat) (s : Rat) (h : G.fcells f = [(c, s)]) :
    G.mkFace bc v f =
      if G.dirAt f then ⟨smul (1 / G.nN f) (G.fnAt f), G.fcAt f, .dirichlet (G.loc v c) (bc.getD f 0)⟩
      else ⟨smul (1 / G.nN f) (G.fnAt f), G.fcAt f, .neumann (G.loc v c) s (bc.getD f 0 / G.nN f)⟩ := by
  unfold mkFace; rw [h]

theorem mkFace_int (bc : List Rat) (v f c1 c2 : Nat) (s1 s2 : Rat)
    (h : G.fcells f = [(c1, s1), (c2, s2)]) :
    G.mkFace bc v f =
      ⟨smul (1 / G.nN f) (G.fnAt f), vadd (G.fcAt f) (smul G.eta (vsub (G.nodeAt v) (G.fcAt f))),
        .interior (G.loc v c1) (G.loc v c2)⟩ := by
  unfold mkFace; rw [h]

/-- the interaction region the model builds around any node of a well-formed grid is well-formed -/
theorem region_wf (hwf : G.WF) (p bc : List Rat) (v : Nat) (hv : v < G.numNodes) :
    (G.region p bc v).WF 2 := by
  constructor
  · intro c hc
    obtain ⟨c0, hc0, rfl⟩ := List.mem_map.mp hc
    have hlt : c0 < G.numCells := ((G.mem_cellsOf v c0).mp hc0).1
    exact ⟨hwf.length_ccAt c0 hlt, hwf.shape_permAt c0 hlt⟩
  · intro f hf
    obtain ⟨f0, hf0, rfl⟩ := List.mem_map.mp hf
    show (G.mkFace bc v f0).WF 2 ((G.cellsOf v).map (G.mkCell p)).length
    rw [List.length_map]
    obtain ⟨hflt, hvf⟩ := (G.mem_facesOf v f0).mp hf0
    have hn2 : (smul (1 / G.nN f0) (G.fnAt f0)).length = 2 :=
      (length_smul _ _).trans (hwf.length_fnAt f0 hflt)
    have hc2 := hwf.length_fcAt f0 hflt
    have hx2 := hwf.length_nodeAt v hv
    have hloc := fun c s => G.mem_cellsOf_of v f0 c s hf0
    rcases G.fcells_cases hwf f0 hflt with ⟨c, s, hl, hc⟩ | ⟨c1, s1, c2, s2, hl, hc1, hc2', hne⟩
    · have hcm := G.loc_lt v c (hloc c s (by rw [hl]; exact List.mem_cons_self) hc)
      rw [G.mkFace_bnd bc v f0 c s hl]
      split <;> exact ⟨hn2, hc2, hcm⟩
    · have hm1 := hloc c1 s1 (by rw [hl]; exact List.mem_cons_self) hc1
      have hm2 := hloc c2 s2 (by rw [hl]; exact List.mem_cons_of_mem _ List.mem_cons_self) hc2'
      rw [G.mkFace_int bc v f0 c1 c2 s1 s2 hl]
      refine ⟨hn2, ?_, G.loc_lt v c1 hm1, G.loc_lt v c2 hm2, fun h => hne (Common.idxOf_inj hm1 h)⟩
      show (vadd (G.fcAt f0) (smul G.eta (vsub (G.nodeAt v) (G.fcAt f0)))).length = 2
      rw [length_vadd _ _ (by rw [length_smul, length_vsub _ _ (by rw [hx2, hc2]), hx2, hc2]), hc2]

/-- … and carries the data of the affine field when the global data do -/
theorem region_affine (hwf : G.WF) (K : Mat) (a : Vec) (b : Rat) (p bc : List Rat)
    (hdata : G.AffineGlobal K a b p bc) (v : Nat) : (G.region p bc v).AffineData K a b := by
  constructor
  · intro c hc
    obtain ⟨c0, hc0, rfl⟩ := List.mem_map.mp hc
    exact hdata.1 c0 ((G.mem_cellsOf v c0).mp hc0).1
  · intro f hf
    obtain ⟨f0, hf0, rfl⟩ := List.mem_map.mp hf
    obtain ⟨hflt, _⟩ := (G.mem_facesOf v f0).mp hf0
    have hb := hdata.2 f0 hflt
    unfold bcOK at hb
    rcases G.fcells_cases hwf f0 hflt with ⟨c, s, hl, _⟩ | ⟨c1, s1, c2, s2, hl, _, _, _⟩
    · rw [G.mkFace_bnd bc v f0 c s hl]
      rw [hl] at hb
      by_cases hd : G.dirAt f0 = true
      · simp only [hd, if_true] at hb ⊢
        exact hb
      · simp only [hd] at hb ⊢
        -- the Neumann value of a sub-face is the face value divided by the number of sub-faces
        show bc.getD f0 0 / G.nN f0 = -(s * nKg (smul (1 / G.nN f0) (G.fnAt f0)) K a)
        rw [nKg_smul, hb, Rat.div_def, Rat.div_def, Rat.one_mul, Rat.neg_mul, Rat.mul_assoc,
          Rat.mul_comm (nKg _ _ _)]
    · rw [G.mkFace_int bc v f0 c1 c2 s1 s2 hl]
      trivial

theorem ConstGlobal.affineGlobal {G : Grid2} {K : Mat} {b : Rat} {p bc : List Rat}
    (h : G.ConstGlobal K b p bc) : G.AffineGlobal K (zeros 2) b p bc := by
  refine ⟨fun c hc => ⟨(h.1 c hc).1, (h.1 c hc).2.trans (affine_zeros 2 b _).symm⟩, fun f hf => ?_⟩
  have hb := h.2 f hf
  unfold bcConstOK at hb
  unfold bcOK
  split
  · rename_i c s hl
    rw [hl] at hb
    simpa [affine_zeros, nKg_zeros] using hb
  · trivial

theorem erase_mkFace (bc bc' : List Rat) (v f : Nat) :
    (G.mkFace bc v f).erase = (G.mkFace bc' v f).erase := by
  unfold mkFace
  split
  · split <;> simp only [SubFace.erase, Kind.erase]
  · rfl
  · rfl

theorem erase_region (p bc p' bc' : List Rat) (v : Nat) :
    (G.region p bc v).erase = (G.region p' bc' v).erase := by
  simp only [region, Region.erase, List.map_map]
  congr 1
  apply List.map_congr_left
  intro f _
  exact G.erase_mkFace bc bc' v f

theorem allSome_getD {α : Type} (l : List (Option α)) (r : List α) (h : allSome l = some r)
    (i : Nat) (hi : i < l.length) (d : α) : l.getD i none = some (r.getD i d) := by
  induction l generalizing r i with
  | nil => cases hi
  | cons x l ih =>
    cases x with
    | none => cases h
    | some a0 =>
      cases hrec : allSome l with
      | none => simp [allSome, hrec] at h
      | some as =>
        simp only [allSome, hrec, Option.some.injEq] at h
        subst h
        cases i with
        | zero => rfl
        | succ i => exact ih as hrec i (Nat.lt_of_succ_lt_succ hi)

theorem nodeSolAt_nodeSols (Ls : List Mat) (p bc : List Rat) (v : Nat) (hv : v < G.numNodes) :
    nodeSolAt (G.nodeSols Ls p bc) v =
      ⟨G.region p bc v, chunks 2 (G.region p bc v).cells.length
        (mulVec (Ls.getD v []) ((G.region p bc v).rhs 2))⟩ :=
  getD_map_range _ G.numNodes v _ hv

theorem nodeSolAt_R (Ls : List Mat) (p bc : List Rat) (v : Nat) (hv : v < G.numNodes) :
    (nodeSolAt (G.nodeSols Ls p bc) v).R = G.region p bc v :=
  congrArg (·.R) (G.nodeSolAt_nodeSols Ls p bc v hv)

/-- the certificate of a node is the left inverse the solver finds for its region, whatever the data:
    the solver looks at a region only through its matrix -/
theorem certAt_eq_solve (p bc : List Rat) (v : Nat) :
    G.certAt v = ((G.region p bc v).solve 2).map (·.L) := by
  have he := G.erase_region [] [] p bc v
  unfold certAt Region.solve
  rw [← matrix_erase 2 (G.region [] [] v), he, matrix_erase]
  cases leftInverse ((G.region p bc v).matrix 2) with
  | none => rfl
  | some L =>
    dsimp only
    rw [certOK_of_erase_eq 2 _ _ L he]
    exact (apply_ite (Option.map Solution.L) (certOK 2 (G.region p bc v) L = true) (some ⟨L, _⟩) none).symm

/-- What `nodeSols` stores for node `v` of a certified grid is the answer of `Region.solve` on the region
    of `v` with its data; the grid theorems rest on the region theorems through this fact only. -/
theorem solve_region (Ls : List Mat) (h : G.certs = some Ls) (p bc : List Rat) (v : Nat)
    (hv : v < G.numNodes) :
    (G.region p bc v).solve 2 = some ⟨Ls.getD v [], (nodeSolAt (G.nodeSols Ls p bc) v).Gs⟩ := by
  unfold certs at h
  have h1 := allSome_getD _ Ls h v (by simpa using hv) []
  rw [getD_map_range G.certAt G.numNodes v none hv, G.certAt_eq_solve p bc v] at h1
  obtain ⟨s, hs, hL⟩ := Option.map_eq_some_iff.mp h1
  rw [hs, G.nodeSolAt_nodeSols Ls p bc v hv, ← hL, ← (solve_eq_some 2 _ s hs).2]

/-- every certificate of `certs` passes the check for the region WITH data -/
theorem certs_ok (Ls : List Mat) (h : G.certs = some Ls) (p bc : List Rat) (v : Nat)
    (hv : v < G.numNodes) : certOK 2 (G.region p bc v) (Ls.getD v []) = true :=
  (solve_eq_some 2 _ _ (G.solve_region Ls h p bc v hv)).1

theorem getD_unit (n k j : Nat) (hk : k < n) : (unit n k).getD j 0 = if j = k then 1 else 0 := by
  unfold unit
  by_cases hj : j < n
  · rw [getD_map_range _ n j 0 hj]
  · rw [List.getD_eq_getElem?_getD, List.getElem?_eq_none (by simpa using Nat.le_of_not_lt hj)]
    have : j ≠ k := by omega
    simp [this]

end Grid2

end PorepyVerif.C11
