/-
C11 — property theorems: MPFA reproduces linear pressure fields exactly.

Property (properties.jsonl): for any 2-D / 3-D grid, any constant SPD permeability and any mix of
Dirichlet and Neumann boundary faces, the MPFA flux and boundary-flux matrices applied to a linear
pressure field and its boundary data give the exact Darcy flux on every face, and the boundary
pressure reconstruction returns the exact pressure at boundary face centres; a constant pressure
produces zero flux.

What is proved here (all statements over exact rationals, any dimension `d`, any number of
sub-cells and sub-faces, ANY geometry — cell centres, continuity points and normals are arbitrary
vectors, `K` is an arbitrary `d × d` matrix, not even symmetric):

  * `local_consistency`       the constant gradient `a` satisfies every row of every interaction
                              region whose data come from `p(x) = a·x + b`; it is the case of one `K` of
                              `field_consistency`, where `K` may differ from cell to cell and the normal
                              flux of the field is continuous across interior sub-faces;
  * `exact_flux`, `exact_boundary_pressure`, `const_zero_flux`
                              if the local system has at most one solution (`Nonsingular`), every
                              solution gives the exact Darcy sub-face flux `−n·K a`, the exact
                              pressure `p(x_c)` at every continuity point, and zero flux for
                              constant data (`const_zero_flux_anyK`: whatever the permeabilities are);
  * `certificate_nonsingular` the executable check `certOK` (`L·A = I` by multiplication) implies
                              `Nonsingular`;
  * `solve_sound`             whenever the model's solver answers, its gradients are those of EVERY solution;
  * `region_solver_exact`     hence on affine data `Region.solve` returns `g_k = a` for all k and
                              the exact fluxes / pressures — for every region it solves at all;
  * `face_flux_exact`, `face_pressure_exact`   from sub-faces to faces (sum / mean);
  * `mpfa2d_linear_exact`     the lifted statement for the executable 2-D discretisation `Grid2`
                              (regions built by the model from `face_nodes` / `cell_faces`): for every
                              well-formed grid whose regions are all certified, the assembled
                              scheme is exact on affine data on every face / boundary face.  Per node
                              it is `region_solver_exact`: what the scheme stores for a node is the
                              answer of `Region.solve` on its region (`Grid2.solve_region`).

Face quantities of the real code are sums (flux) / means (pressure) of the sub-face quantities
over the nodes of the face (`hf2f`, `area_mat`); for the flux the sum of `−(n_f/N)·K a` over the
`N` nodes is `−n_f·K a`; for the pressure the mean of `p` over the continuity points
`x_f + η (x_v − x_f)` is `p(x_f)` on faces whose centre is the mean of their nodes, and η = 0 on
boundary faces anyway; only the boundary case is proved (`face_pressure_exact`, second clause of
`mpfa2d_linear_exact`).  The global index bookkeeping of the vectorised code and rounding are not
modelled (see TRUSTED in harness/props/c11.py); they are covered by the correspondence check.
-/
import PorepyVerif.C11.Lemmas

namespace PorepyVerif.C11

/-- **Local consistency, permeability varying from cell to cell.**  What makes the constant gradient a
    solution is not that `K` is the same in all sub-cells but that the normal flux `n·K_i a` of the field is
    continuous across every interior sub-face (`Region.FieldData`; Neumann values are the outward Darcy flux
    with the permeability of the adjacent sub-cell): then `g_k = a` satisfies every row. -/
theorem field_consistency (d : Nat) (R : Region) (a : Vec) (b : Rat)
    (hwf : R.WF d) (hdata : R.FieldData a b) : R.Consistent (fun _ => a) := by
  intro f hf
  have hidx := (hwf.2 f hf).2.2
  have hface := hdata.2 f hf
  have hP := presAt_affine_region d R a b hwf hdata.1 f hf
  unfold SubFace.holds
  cases hk : f.kind with
  | interior i j =>
    rw [hk] at hidx hface
    exact ⟨hface, by rw [hP i hidx.1, hP j hidx.2.1]⟩
  | dirichlet i pD =>
    rw [hk] at hidx hface
    exact (hP i hidx).trans hface.symm
  | neumann i sgn qN =>
    rw [hk] at hidx hface
    show sgn * nKg f.n (R.cellAt i).K a = -qN
    rw [show qN = -(sgn * nKg f.n (R.cellAt i).K a) from hface, Rat.neg_neg]

/-- **Local consistency.**  For the data of an affine field `p(x) = a·x + b` with constant `K`
    (cell pressures `p(x_i)`, Dirichlet values `p(x_c)`, Neumann values the outward Darcy flux),
    the assignment `g_k = a` for all sub-cells satisfies every row of the local system:
    flux continuity, pressure continuity at the continuity points, Dirichlet and Neumann rows.
    With one `K` the normal flux of every affine field is continuous, so this is `field_consistency`. -/
theorem local_consistency (d : Nat) (R : Region) (K : Mat) (a : Vec) (b : Rat)
    (hwf : R.WF d) (hdata : R.AffineData K a b) : R.Consistent (fun _ => a) :=
  field_consistency d R a b hwf (hdata.fieldData d hwf)

/-- every solution of a nonsingular local system with affine data is the constant gradient -/
theorem solution_is_gradient (d : Nat) (R : Region) (K : Mat) (a : Vec) (b : Rat)
    (hwf : R.WF d) (ha : a.length = d) (hdata : R.AffineData K a b) (hns : R.Nonsingular d)
    (G : Nat → Vec) (hG : ∀ i, (G i).length = d) (hc : R.Consistent G) :
    ∀ i < R.cells.length, G i = a :=
  hns G (fun _ => a) hG (fun _ => ha) hc (local_consistency d R K a b hwf hdata)

/-- **Exact flux.**  If the local system is nonsingular, the sub-face flux computed from ANY
    solution of it is the exact Darcy flux `−n·K a` of the affine field. -/
theorem exact_flux (d : Nat) (R : Region) (K : Mat) (a : Vec) (b : Rat)
    (hwf : R.WF d) (ha : a.length = d) (hdata : R.AffineData K a b) (hns : R.Nonsingular d)
    (G : Nat → Vec) (hG : ∀ i, (G i).length = d) (hc : R.Consistent G) :
    ∀ f ∈ R.faces, f.flux R G = -(nKg f.n K a) :=
  flux_of_const d R K a b hwf hdata G (solution_is_gradient d R K a b hwf ha hdata hns G hG hc)

/-- **Exact pressure reconstruction.**  Under the same hypotheses the reconstructed pressure at the
    continuity point of every sub-face (boundary sub-faces: the face centre; interior sub-faces:
    mean of the two one-sided values) is the exact pressure `p(x_c) = a·x_c + b`. -/
theorem exact_boundary_pressure (d : Nat) (R : Region) (K : Mat) (a : Vec) (b : Rat)
    (hwf : R.WF d) (ha : a.length = d) (hdata : R.AffineData K a b) (hns : R.Nonsingular d)
    (G : Nat → Vec) (hG : ∀ i, (G i).length = d) (hc : R.Consistent G) :
    ∀ f ∈ R.faces, f.pres R G = affine a b f.xc :=
  pres_of_const d R K a b hwf hdata G (solution_is_gradient d R K a b hwf ha hdata hns G hG hc)

/-- **A constant pressure produces zero flux whatever the permeabilities are** (and is reconstructed
    exactly): cell pressures and Dirichlet values `b`, Neumann values `0`, no condition on the `K` of the
    sub-cells.  The zero gradient solves the local system, and a nonsingular system has no other solution. -/
theorem const_zero_flux_anyK (d : Nat) (R : Region) (b : Rat) (hwf : R.WF d)
    (hp : ∀ c ∈ R.cells, c.p = b) (hface : ∀ f ∈ R.faces, f.kind.constOK b) (hns : R.Nonsingular d)
    (G : Nat → Vec) (hG : ∀ i, (G i).length = d) (hc : R.Consistent G) :
    ∀ f ∈ R.faces, f.flux R G = 0 ∧ f.pres R G = b := by
  have hdata := Region.FieldData.of_const d hp hface
  have hgrad := hns G (fun _ => zeros d) hG (fun _ => length_zeros d) hc
    (field_consistency d R (zeros d) b hwf hdata)
  intro f hf
  rw [flux_of_equal_grad d R _ hwf G hgrad f hf, pres_of_equal_grad d R _ b hwf hdata.1 G hgrad f hf,
    nKg_zeros, affine_zeros]
  exact ⟨Rat.neg_zero, rfl⟩

/-- **A constant pressure produces zero flux** (and is reconstructed exactly). -/
theorem const_zero_flux (d : Nat) (R : Region) (K : Mat) (b : Rat)
    (hwf : R.WF d) (hdata : R.ConstData K b) (hns : R.Nonsingular d)
    (G : Nat → Vec) (hG : ∀ i, (G i).length = d) (hc : R.Consistent G) :
    ∀ f ∈ R.faces, f.flux R G = 0 ∧ f.pres R G = b :=
  const_zero_flux_anyK d R b hwf (fun c hc => (hdata.1 c hc).2) hdata.2 hns G hG hc

/-- **The certificate check is sound**: if `L · A = I` (checked by explicit multiplication in
    `certOK`) then the local system has at most one solution. -/
theorem certificate_nonsingular (d : Nat) (R : Region) (L : Mat) (hwf : R.WF d)
    (hcert : certOK d R L = true) : R.Nonsingular d := by
  intro G G' hG hG' hc hc' i hi
  exact (cert_gradFn d R L hwf hcert G hG hc i hi).symm.trans (cert_gradFn d R L hwf hcert G' hG' hc' i hi)

/-- **The solver is sound**: whenever `Region.solve` answers, its gradients agree with EVERY
    solution of the local system (so if a solution exists, the solver returned it, and the
    region is nonsingular). -/
theorem solve_sound (d : Nat) (R : Region) (s : Solution) (hwf : R.WF d)
    (hs : R.solve d = some s) :
    R.Nonsingular d ∧
    ∀ G : Nat → Vec, (∀ i, (G i).length = d) → R.Consistent G →
      ∀ i < R.cells.length, gradFn s.G i = G i := by
  obtain ⟨hcert, hG⟩ := solve_eq_some d R s hs
  rw [hG]
  exact ⟨certificate_nonsingular d R s.L hwf hcert, cert_gradFn d R s.L hwf hcert⟩

/-- **End-to-end statement for the executable region model**: on the data of an affine field the
    solver — if it answers at all — returns the constant gradient in every sub-cell, the exact
    Darcy flux `−n·K a` through every sub-face and the exact pressure at every continuity point. -/
theorem region_solver_exact (d : Nat) (R : Region) (K : Mat) (a : Vec) (b : Rat) (s : Solution)
    (hwf : R.WF d) (ha : a.length = d) (hdata : R.AffineData K a b) (hs : R.solve d = some s) :
    (∀ i < R.cells.length, gradFn s.G i = a) ∧
    (∀ f ∈ R.faces, f.flux R (gradFn s.G) = -(nKg f.n K a)) ∧
    (∀ f ∈ R.faces, f.pres R (gradFn s.G) = affine a b f.xc) := by
  obtain ⟨_, hsol⟩ := solve_sound d R s hwf hs
  have hgrad := hsol (fun _ => a) (fun _ => ha) (local_consistency d R K a b hwf hdata)
  exact ⟨hgrad, flux_of_const d R K a b hwf hdata _ hgrad, pres_of_const d R K a b hwf hdata _ hgrad⟩

/-- `withAffine` produces affine data (the driver uses it to fill in the data from `(K, a, b)`). -/
theorem withAffine_affineData (R : Region) (K : Mat) (a : Vec) (b : Rat) :
    (R.withAffine K a b).AffineData K a b := by
  constructor
  · intro c hc
    obtain ⟨c0, _, rfl⟩ := List.mem_map.mp hc
    exact ⟨rfl, rfl⟩
  · intro f hf
    obtain ⟨f0, _, rfl⟩ := List.mem_map.mp hf
    show (f0.kind.withAffine K a b f0.n f0.xc).affineOK K a b f0.n f0.xc
    cases f0.kind with
    | interior i j => trivial
    | dirichlet i pD => rfl
    | neumann i sgn qN => rfl

/-- **From sub-faces to faces (flux).**  The real code adds the `N = num_nodes(f)` sub-face fluxes of
    a face (`hf2f`), each taken with the sub-face normal `n_f / N`.  If each of them is the exact
    sub-face flux, the sum is the exact Darcy flux `−n_f·K a` through the whole face. -/
theorem face_flux_exact (nf : Vec) (K : Mat) (a : Vec) (N : Nat) (hN : N ≠ 0) (fl : List Rat)
    (hlen : fl.length = N) (h : ∀ x ∈ fl, x = -(nKg (smul (1 / (N : Rat)) nf) K a)) :
    fl.sum = -(nKg nf K a) := by
  have hNq : (N : Rat) ≠ 0 := by exact_mod_cast hN
  rw [sum_of_all_eq fl _ h, hlen, nKg_smul, Rat.mul_neg, ← Rat.mul_assoc, Rat.div_def, Rat.one_mul,
    Rat.mul_inv_cancel _ hNq, Rat.one_mul]

/-- **From sub-faces to faces (pressure).**  The reconstructed face pressure is the mean of the
    sub-face values (`area_mat`); on a boundary face every continuity point is the face centre
    (η = 0 there), so if every sub-face value is the exact `p(x_f)`, so is the mean. -/
theorem face_pressure_exact (pf : Rat) (N : Nat) (hN : N ≠ 0) (pr : List Rat)
    (hlen : pr.length = N) (h : ∀ x ∈ pr, x = pf) : pr.sum / (N : Rat) = pf := by
  have hNq : (N : Rat) ≠ 0 := by exact_mod_cast hN
  rw [sum_of_all_eq pr _ h, hlen, Rat.mul_comm, Rat.div_def, Rat.mul_assoc, Rat.mul_inv_cancel _ hNq,
    Rat.mul_one]

/-- **Every region the model builds satisfies the hypotheses of the region theorems** — for every
    well-formed 2-D grid, every node, every boundary-type assignment and all data: the region is
    well-formed, and it carries affine data whenever the global data are affine. -/
theorem mpfa2d_regions_wellformed (G : Grid2) (hwf : G.WF) (K : Mat) (a : Vec) (b : Rat)
    (p bc : List Rat) (v : Nat) (hv : v < G.numNodes) :
    (G.region p bc v).WF 2 ∧ (G.AffineGlobal K a b p bc → (G.region p bc v).AffineData K a b) :=
  ⟨G.region_wf hwf p bc v hv, fun h => G.region_affine hwf K a b p bc h v⟩

/-- **Certified grid ⇒ every interaction region is nonsingular, for all data.** -/
theorem mpfa2d_regions_nonsingular (G : Grid2) (Ls : List Mat) (hwf : G.WF)
    (hcert : G.certs = some Ls) (p bc : List Rat) (v : Nat) (hv : v < G.numNodes) :
    (G.region p bc v).Nonsingular 2 :=
  (solve_sound 2 _ _ (G.region_wf hwf p bc v hv) (G.solve_region Ls hcert p bc v hv)).1

/-- **The assembled scheme uses THE solution of every local system, for arbitrary (non-affine) data**:
    the gradients `L_v · rhs_v` stored by `nodeSols` agree with every gradient assignment that
    satisfies the rows of region `v`.  Hence the columns the driver returns (the scheme applied to
    unit vectors) are the columns of the MPFA-O scheme defined by the rows, not merely something
    that is right on affine data. -/
theorem mpfa2d_gradients_sound (G : Grid2) (Ls : List Mat) (hwf : G.WF) (hcert : G.certs = some Ls)
    (p bc : List Rat) (v : Nat) (hv : v < G.numNodes) (Gf : Nat → Vec)
    (hG : ∀ i, (Gf i).length = 2) (hc : (G.region p bc v).Consistent Gf) :
    ∀ i < (G.region p bc v).cells.length,
      gradFn (Grid2.nodeSolAt (G.nodeSols Ls p bc) v).Gs i = Gf i :=
  (solve_sound 2 _ _ (G.region_wf hwf p bc v hv) (G.solve_region Ls hcert p bc v hv)).2 Gf hG hc

/-- **`mpfa2d_linear_exact` — the lifted statement for the executable 2-D discretisation.**
    For EVERY well-formed 2-D grid (any topology given by `face_nodes` / `cell_faces`, any
    geometry arrays, any η, any boundary-type assignment) for which all interaction regions are
    certified nonsingular (`G.certs = some Ls`), the assembled scheme — per node the region the
    model builds itself, gradients `L_v · rhs_v`, sub-face fluxes summed per face, sub-face
    pressures averaged per face — applied to the data of an affine field `p(x) = a·x + b` with a
    constant permeability `K` (cell values `p(x_c)`, Dirichlet values `p(x_f)`, Neumann values
    `−sgn · n_f·K a`) gives the exact Darcy flux `−n_f·K a` on every face and the exact pressure
    `p(x_f)` on every boundary face. -/
theorem mpfa2d_linear_exact (G : Grid2) (K : Mat) (a : Vec) (b : Rat) (p bc : List Rat)
    (Ls : List Mat) (hwf : G.WF) (ha : a.length = 2) (hdata : G.AffineGlobal K a b p bc)
    (hcert : G.certs = some Ls) :
    ∀ f < G.numFaces,
      G.faceFlux (G.nodeSols Ls p bc) bc f = -(nKg (G.fnAt f) K a) ∧
      (G.isBoundary f = true → G.facePres (G.nodeSols Ls p bc) bc f = affine a b (G.fcAt f)) := by
  intro f hf
  obtain ⟨hne, hnodes⟩ := hwf.fnodes_ok f hf
  have hN : (G.fnodes f).length ≠ 0 := fun h0 => hne (List.length_eq_zero_iff.mp h0)
  -- per node of the face: its region is solved on affine data, so `region_solver_exact` applies
  have hnode : ∀ v ∈ G.fnodes f,
      (G.mkFace bc v f).flux (Grid2.nodeSolAt (G.nodeSols Ls p bc) v).R
          (gradFn (Grid2.nodeSolAt (G.nodeSols Ls p bc) v).Gs)
        = -(nKg (smul (1 / G.nN f) (G.fnAt f)) K a) ∧
      (G.mkFace bc v f).pres (Grid2.nodeSolAt (G.nodeSols Ls p bc) v).R
          (gradFn (Grid2.nodeSolAt (G.nodeSols Ls p bc) v).Gs) = affine a b (G.mkFace bc v f).xc := by
    intro v hv
    have hvn := hnodes v hv
    obtain ⟨_, hflux, hpres⟩ := region_solver_exact 2 _ K a b _ (G.region_wf hwf p bc v hvn) ha
      (G.region_affine hwf K a b p bc hdata v) (G.solve_region Ls hcert p bc v hvn)
    have hmem : G.mkFace bc v f ∈ (G.region p bc v).faces :=
      List.mem_map.mpr ⟨f, (G.mem_facesOf v f).mpr ⟨hf, hv⟩, rfl⟩
    rw [G.nodeSolAt_R Ls p bc v hvn]
    exact ⟨by rw [hflux _ hmem, G.mkFace_n], hpres _ hmem⟩
  refine ⟨face_flux_exact (G.fnAt f) K a _ hN _ (List.length_map _)
    (List.forall_mem_map.mpr fun v hv => (hnode v hv).1), fun hb => ?_⟩
  -- on a boundary face the continuity point is the face centre
  have hxc : ∀ v, (G.mkFace bc v f).xc = G.fcAt f := by
    intro v
    rcases G.fcells_cases hwf f hf with ⟨c, s, hl, _⟩ | ⟨c1, s1, c2, s2, hl, _, _, _⟩
    · rw [G.mkFace_bnd bc v f c s hl]; split <;> rfl
    · simp [Grid2.isBoundary, hl] at hb
  exact face_pressure_exact _ _ hN _ (List.length_map _)
    (List.forall_mem_map.mpr fun v hv => by rw [(hnode v hv).2, hxc v])

/-- **Grid level, clause "a constant pressure produces zero flux".**  For every well-formed, fully
    certified 2-D grid the assembled scheme applied to constant data (cells and Dirichlet faces `b`,
    Neumann faces `0`) gives flux `0` on every face and pressure `b` on every boundary face. -/
theorem mpfa2d_const_zero_flux (G : Grid2) (K : Mat) (b : Rat) (p bc : List Rat) (Ls : List Mat)
    (hwf : G.WF) (hdata : G.ConstGlobal K b p bc) (hcert : G.certs = some Ls) :
    ∀ f < G.numFaces,
      G.faceFlux (G.nodeSols Ls p bc) bc f = 0 ∧
      (G.isBoundary f = true → G.facePres (G.nodeSols Ls p bc) bc f = b) := by
  intro f hf
  have h := mpfa2d_linear_exact G K (zeros 2) b p bc Ls hwf (length_zeros 2) hdata.affineGlobal hcert f hf
  rw [nKg_zeros, affine_zeros] at h
  exact ⟨h.1.trans Rat.neg_zero, h.2⟩

/-- the computed affine data satisfy `AffineGlobal` when the permeability is the same in all cells -/
theorem affineData_affineGlobal (G : Grid2) (K : Mat) (a : Vec) (b : Rat)
    (hK : ∀ c < G.numCells, G.permAt c = K) :
    G.AffineGlobal K a b (G.affineData K a b).1 (G.affineData K a b).2 := by
  constructor
  · intro c hc
    exact ⟨hK c hc, getD_map_range _ G.numCells c 0 hc⟩
  · intro f hf
    unfold Grid2.bcOK
    simp only [Grid2.affineData]
    rw [getD_map_range _ G.numFaces f 0 hf]
    unfold Grid2.affineBc
    split
    · split <;> rfl
    · trivial

/-- **Closed form**: what the driver's `apply` returns on the computed affine data, as lists — the
    hypotheses are the decidable input conditions `G.WF`, constant permeability, and the computed
    certificate `G.certs`; no per-case oracle is involved. -/
theorem mpfa2d_apply_exact (G : Grid2) (K : Mat) (a : Vec) (b : Rat) (Ls : List Mat)
    (hwf : G.WF) (ha : a.length = 2) (hK : ∀ c < G.numCells, G.permAt c = K)
    (hcert : G.certs = some Ls) :
    (G.apply Ls (G.affineData K a b).1 (G.affineData K a b).2).1 =
      (List.range G.numFaces).map (fun f => -(nKg (G.fnAt f) K a)) ∧
    ∀ f < G.numFaces, G.isBoundary f = true →
      (G.apply Ls (G.affineData K a b).1 (G.affineData K a b).2).2.getD f 0 = affine a b (G.fcAt f) := by
  have hdata := affineData_affineGlobal G K a b hK
  have hmain := mpfa2d_linear_exact G K a b _ _ Ls hwf ha hdata hcert
  exact ⟨List.map_congr_left fun f hf => (hmain f (List.mem_range.mp hf)).1,
    fun f hf hb => (getD_map_range _ G.numFaces f 0 hf).trans ((hmain f hf).2 hb)⟩

/-! ### non-vacuity: a concrete interior region (2×2 unit squares around the node (1,1),
    anisotropic full `K`, field `p = 3x − 2y + 7/2`) and a concrete boundary region with one
    Dirichlet and one Neumann sub-face -/

def exK : Mat := [[2, 1], [1, 3]]

def exInterior : Region :=
  { cells := [⟨[1/2, 1/2], exK, 0⟩, ⟨[3/2, 1/2], exK, 0⟩, ⟨[1/2, 3/2], exK, 0⟩, ⟨[3/2, 3/2], exK, 0⟩],
    faces := [⟨[1/2, 0], [1, 1/2], .interior 0 1⟩, ⟨[1/2, 0], [1, 3/2], .interior 2 3⟩,
              ⟨[0, 1/2], [1/2, 1], .interior 0 2⟩, ⟨[0, 1/2], [3/2, 1], .interior 1 3⟩] }

def exBoundary : Region :=
  { cells := [⟨[1/2, 1/3], exK, 0⟩],
    faces := [⟨[0, -1/2], [1/2, 0], .dirichlet 0 0⟩, ⟨[-1/2, 1/8], [0, 1/2], .neumann 0 (-1) 0⟩] }

/-- the solver's answer on the interior region, evaluated once for the two examples below -/
theorem exInterior_solve :
    ((exInterior.withAffine exK [3, -2] (7/2)).solve 2).map (·.G)
      = some [[3, -2], [3, -2], [3, -2], [3, -2]] := by decide +kernel

/-- hypotheses of `local_consistency` / `region_solver_exact` are satisfiable, the solver answers,
    and its answer is the constant gradient with the exact fluxes `−n·K a` -/
example :
    let R := exInterior.withAffine exK [3, -2] (7/2)
    R.WF 2 ∧ R.AffineData exK [3, -2] (7/2) ∧ R.Consistent (fun _ => [3, -2]) ∧
    (R.solve 2).map (·.G) = some [[3, -2], [3, -2], [3, -2], [3, -2]] ∧
    R.faces.map (fun f => f.flux R (fun _ => [3, -2])) = [-2, -2, 3/2, 3/2] :=
  ⟨by decide +kernel, by decide +kernel, by decide +kernel, exInterior_solve, by decide +kernel⟩

example :
    let R := exBoundary.withAffine exK [1, 2] (-1)
    R.WF 2 ∧ R.AffineData exK [1, 2] (-1) ∧ R.Consistent (fun _ => [1, 2]) ∧
    (R.solve 2).map (·.G) = some [[1, 2]] := by decide +kernel

/-- the hypothesis `Nonsingular` is satisfiable (via the certificate) … -/
example : (exInterior.withAffine exK [3, -2] (7/2)).Nonsingular 2 := by
  obtain ⟨s, hs, _⟩ := Option.map_eq_some_iff.mp exInterior_solve
  exact (solve_sound 2 _ s (by decide +kernel) hs).1

/-- … and not vacuous: a region with two Dirichlet sub-faces at the same point is singular, the
    solver refuses it -/
example :
    (({ cells := [⟨[0, 0], exK, 0⟩],
        faces := [⟨[1, 0], [1, 1], .dirichlet 0 0⟩, ⟨[0, 1], [1, 1], .dirichlet 0 0⟩] } : Region).solve 2).isNone
      = true := by decide +kernel

/-- two sub-faces of a face with normal `(1,0)`: the exact sub-face fluxes `−1` add up to `−n_f·K a = −2` -/
example : ([-1, -1] : List Rat).sum = -(nKg [1, 0] exK [1, 0]) :=
  face_flux_exact [1, 0] exK [1, 0] 2 (by decide) [-1, -1] rfl (by decide +kernel)

example : ([7/2, 7/2] : List Rat).sum / ((2 : Nat) : Rat) = 7/2 :=
  face_pressure_exact (7/2) 2 (by decide) [7/2, 7/2] rfl (by decide +kernel)

/-- a concrete grid for `mpfa2d_linear_exact`: two unit squares side by side, full anisotropic `K`,
    Dirichlet on the left, bottom-right and top-right faces, Neumann elsewhere -/
def exGrid : Grid2 :=
  { nodes := [[0, 0], [1, 0], [2, 0], [0, 1], [1, 1], [2, 1]],
    faceNodes := [[0, 3], [1, 4], [2, 5], [0, 1], [1, 2], [3, 4], [4, 5]],
    faceCells := [[(0, -1)], [(0, 1), (1, -1)], [(1, 1)], [(0, -1)], [(1, -1)], [(0, 1)], [(1, 1)]],
    cellCenters := [[1/2, 1/2], [3/2, 1/2]],
    faceCenters := [[0, 1/2], [1, 1/2], [2, 1/2], [1/2, 0], [3/2, 0], [1/2, 1], [3/2, 1]],
    faceNormals := [[1, 0], [1, 0], [1, 0], [0, 1], [0, 1], [0, 1], [0, 1]],
    perm := [exK, exK],
    isDir := [true, false, false, false, true, false, true],
    eta := 0 }

/-- the fluxes of the assembled scheme on the concrete grid for the data of `p = 3x − 2y + 1/2` and of
    the constant pressure `5`; the two runs are evaluated together, and once for all examples below,
    because computing the certificates is the dear part -/
theorem exGrid_fluxes :
    (exGrid.certs).map (fun Ls =>
      ((exGrid.apply Ls (exGrid.affineData exK [3, -2] (1/2)).1 (exGrid.affineData exK [3, -2] (1/2)).2).1,
       (exGrid.apply Ls (exGrid.affineData exK [0, 0] 5).1 (exGrid.affineData exK [0, 0] 5).2).1))
      = some ([-4, -4, -4, 3, 3, 3, 3], [0, 0, 0, 0, 0, 0, 0]) := by decide +kernel

/-- hypotheses of `mpfa2d_linear_exact` are satisfiable and its conclusion is what the model computes:
    all six interaction regions are certified, and the assembled scheme applied to the data of
    `p = 3x − 2y + 1/2` returns the exact fluxes `−n_f·K a` = (−4,−4,−4,3,3,3,3) -/
example :
    exGrid.WF ∧ (exGrid.certs).isSome = true ∧
    (exGrid.certs).map (fun Ls =>
      (exGrid.apply Ls (exGrid.affineData exK [3, -2] (1/2)).1 (exGrid.affineData exK [3, -2] (1/2)).2).1)
      = some [-4, -4, -4, 3, 3, 3, 3] := by
  obtain ⟨Ls, hLs, h⟩ := Option.map_eq_some_iff.mp exGrid_fluxes
  rw [hLs]
  exact ⟨by decide +kernel, rfl, congrArg some (congrArg Prod.fst h)⟩

/-- the remaining hypothesis of `mpfa2d_apply_exact` (one permeability in all cells) holds on the
    concrete grid, and the data of the constant pressure `5` give zero flux everywhere -/
example :
    (∀ c < exGrid.numCells, exGrid.permAt c = exK) ∧
    (exGrid.certs).map (fun Ls =>
      (exGrid.apply Ls (exGrid.affineData exK [0, 0] 5).1 (exGrid.affineData exK [0, 0] 5).2).1)
      = some [0, 0, 0, 0, 0, 0, 0] := by
  obtain ⟨Ls, hLs, h⟩ := Option.map_eq_some_iff.mp exGrid_fluxes
  rw [hLs]
  exact ⟨by decide +kernel, congrArg some (congrArg Prod.snd h)⟩

example : ∀ v < exGrid.numNodes, (exGrid.region [] [] v).Nonsingular 2 := by
  obtain ⟨Ls, hLs, _⟩ := Option.map_eq_some_iff.mp exGrid_fluxes
  exact fun v hv => mpfa2d_regions_nonsingular exGrid Ls (by decide +kernel) hLs [] [] v hv

/-- constant data: zero flux -/
example :
    let R := exInterior.withAffine exK [0, 0] 5
    R.ConstData exK 5 ∧ (R.solve 2).map (·.G) = some [[0, 0], [0, 0], [0, 0], [0, 0]] := by
  decide +kernel

end PorepyVerif.C11
