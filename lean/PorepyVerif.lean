-- generated by tools/gen_root.py: every model / lemma / property module (drivers and audits are run by ./check)
import PorepyVerif.C01.Exact
import PorepyVerif.C01.Generated
import PorepyVerif.C01.Lemmas
import PorepyVerif.C01.Model
import PorepyVerif.C01.Props
import PorepyVerif.C01.Rules
import PorepyVerif.C02.Lemmas
import PorepyVerif.C02.LemmasNode
import PorepyVerif.C02.LemmasStrip
import PorepyVerif.C02.Model
import PorepyVerif.C02.Props
import PorepyVerif.C03.Lemmas
import PorepyVerif.C03.Model
import PorepyVerif.C03.Props
import PorepyVerif.C04.Lemmas
import PorepyVerif.C04.Model
import PorepyVerif.C04.Props
import PorepyVerif.C05.Lemmas
import PorepyVerif.C05.LemmasLoops
import PorepyVerif.C05.LemmasNumbering
import PorepyVerif.C05.Model
import PorepyVerif.C05.Props
import PorepyVerif.C06.Lemmas
import PorepyVerif.C06.LemmasBasic
import PorepyVerif.C06.LemmasColumns
import PorepyVerif.C06.LemmasParse
import PorepyVerif.C06.LemmasRows
import PorepyVerif.C06.LemmasTable
import PorepyVerif.C06.Model
import PorepyVerif.C06.Props
import PorepyVerif.C07.Bridge
import PorepyVerif.C07.Lemmas
import PorepyVerif.C07.Model
import PorepyVerif.C07.Props
import PorepyVerif.C08.Lemmas
import PorepyVerif.C08.LemmasData
import PorepyVerif.C08.LemmasHeap
import PorepyVerif.C08.Model
import PorepyVerif.C08.Props
import PorepyVerif.C09.Constant
import PorepyVerif.C09.Lemmas
import PorepyVerif.C09.Model
import PorepyVerif.C09.Props
import PorepyVerif.C09.Restart
import PorepyVerif.C09.Termination
import PorepyVerif.C10.Lemmas
import PorepyVerif.C10.Model
import PorepyVerif.C10.Props
import PorepyVerif.C11.Lemmas
import PorepyVerif.C11.LocalSystem
import PorepyVerif.C11.Model
import PorepyVerif.C11.Props
import PorepyVerif.C11.Vectors
import PorepyVerif.C12.Lemmas
import PorepyVerif.C12.Model
import PorepyVerif.C12.Mpfa
import PorepyVerif.C12.Props
import PorepyVerif.C13.Lemmas
import PorepyVerif.C13.LemmasGrid
import PorepyVerif.C13.LemmasMatrix
import PorepyVerif.C13.Model
import PorepyVerif.C13.Props
import PorepyVerif.C14.Lemmas
import PorepyVerif.C14.Model
import PorepyVerif.C14.Props
import PorepyVerif.C15.Lemmas
import PorepyVerif.C15.Model
import PorepyVerif.C15.Props
import PorepyVerif.C16.Lemmas
import PorepyVerif.C16.Model
import PorepyVerif.C16.Props
import PorepyVerif.C17.Lemmas
import PorepyVerif.C17.Model
import PorepyVerif.C17.Props
import PorepyVerif.C17.Sums
import PorepyVerif.C17.Topology
import PorepyVerif.C17.Trip
import PorepyVerif.C18.Assembly
import PorepyVerif.C18.Basic
import PorepyVerif.C18.Lemmas
import PorepyVerif.C18.MVEM
import PorepyVerif.C18.Model
import PorepyVerif.C18.Props
import PorepyVerif.C18.RT0
import PorepyVerif.C19.Lemmas
import PorepyVerif.C19.Model
import PorepyVerif.C19.Props
import PorepyVerif.C19.Solids
import PorepyVerif.C19.Space
import PorepyVerif.C19.Sums
import PorepyVerif.C20.AxisAngle
import PorepyVerif.C20.Lemmas
import PorepyVerif.C20.Model
import PorepyVerif.C20.Props
import PorepyVerif.C21.Lemmas
import PorepyVerif.C21.LemmasSubgrid
import PorepyVerif.C21.LemmasTags
import PorepyVerif.C21.Model
import PorepyVerif.C21.Props
import PorepyVerif.C22.Lemmas
import PorepyVerif.C22.LemmasBoxes
import PorepyVerif.C22.LemmasCoarse
import PorepyVerif.C22.LemmasExtract
import PorepyVerif.C22.LemmasOverlap
import PorepyVerif.C22.LemmasSigns
import PorepyVerif.C22.LemmasSort
import PorepyVerif.C22.LemmasStructured
import PorepyVerif.C22.Model
import PorepyVerif.C22.Props
import PorepyVerif.C23.Basics
import PorepyVerif.C23.Lemmas
import PorepyVerif.C23.Model
import PorepyVerif.C23.Props
import PorepyVerif.C23.Refine1d
import PorepyVerif.C23.Sweep
import PorepyVerif.C23.Triangle
import PorepyVerif.C24.Data
import PorepyVerif.C24.Lemmas
import PorepyVerif.C24.Model
import PorepyVerif.C24.Props
import PorepyVerif.C24.Sorting
import PorepyVerif.C25.Lemmas
import PorepyVerif.C25.Model
import PorepyVerif.C25.Mortar
import PorepyVerif.C25.Nodes
import PorepyVerif.C25.Props
import PorepyVerif.C25.Structured
import PorepyVerif.C26.Lemmas
import PorepyVerif.C26.LemmasListing
import PorepyVerif.C26.LemmasOverlap
import PorepyVerif.C26.LemmasRefine
import PorepyVerif.C26.Model
import PorepyVerif.C26.Props
import PorepyVerif.C27.Lemmas
import PorepyVerif.C27.LemmasApply
import PorepyVerif.C27.LemmasBlocks
import PorepyVerif.C27.LemmasPlace
import PorepyVerif.C27.Model
import PorepyVerif.C27.Props
import PorepyVerif.C28.Lemmas
import PorepyVerif.C28.LemmasGap
import PorepyVerif.C28.LemmasSeg2d
import PorepyVerif.C28.LemmasSeg3d
import PorepyVerif.C28.LemmasSpec
import PorepyVerif.C28.Model
import PorepyVerif.C28.Props
import PorepyVerif.C29.Edges
import PorepyVerif.C29.Inter
import PorepyVerif.C29.Lemmas
import PorepyVerif.C29.Model
import PorepyVerif.C29.Pieces
import PorepyVerif.C29.Props
import PorepyVerif.C29.Sort
import PorepyVerif.C30.Lemmas
import PorepyVerif.C30.LemmasConvex
import PorepyVerif.C30.LemmasSegSeg
import PorepyVerif.C30.LemmasVec
import PorepyVerif.C30.LemmasWinding
import PorepyVerif.C30.Model
import PorepyVerif.C30.Props
import PorepyVerif.C31.Argsort
import PorepyVerif.C31.Chain
import PorepyVerif.C31.Lemmas
import PorepyVerif.C31.Model
import PorepyVerif.C31.Polygon
import PorepyVerif.C31.Props
import PorepyVerif.C31.Space
import PorepyVerif.C32.Lemmas
import PorepyVerif.C32.Model
import PorepyVerif.C32.Props
import PorepyVerif.C32.Rational
import PorepyVerif.C33.Lemmas
import PorepyVerif.C33.LemmasClip
import PorepyVerif.C33.LemmasLoop
import PorepyVerif.C33.Model
import PorepyVerif.C33.Props
import PorepyVerif.C34.Dist
import PorepyVerif.C34.Greedy
import PorepyVerif.C34.Lemmas
import PorepyVerif.C34.Model
import PorepyVerif.C34.Props
import PorepyVerif.C34.Walk
import PorepyVerif.C35.Arrays
import PorepyVerif.C35.BlockIndex
import PorepyVerif.C35.Blocks
import PorepyVerif.C35.Csc
import PorepyVerif.C35.Expand
import PorepyVerif.C35.Lemmas
import PorepyVerif.C35.Lines
import PorepyVerif.C35.Merge
import PorepyVerif.C35.Model
import PorepyVerif.C35.Props
import PorepyVerif.C35.Rows
import PorepyVerif.C35.RunLength
import PorepyVerif.C36.Csr
import PorepyVerif.C36.Geometry
import PorepyVerif.C36.Lemmas
import PorepyVerif.C36.Model
import PorepyVerif.C36.Program
import PorepyVerif.C36.Props
import PorepyVerif.C36.Steps
import PorepyVerif.C37.Lemmas
import PorepyVerif.C37.LemmasGraph
import PorepyVerif.C37.Model
import PorepyVerif.C37.Props
import PorepyVerif.C38.Arrays
import PorepyVerif.C38.Files
import PorepyVerif.C38.Grouping
import PorepyVerif.C38.Labels
import PorepyVerif.C38.Lemmas
import PorepyVerif.C38.Model
import PorepyVerif.C38.Props
import PorepyVerif.C39.Lemmas
import PorepyVerif.C39.Model
import PorepyVerif.C39.Props
import PorepyVerif.C40.Lemmas
import PorepyVerif.C40.Model
import PorepyVerif.C40.Props
import PorepyVerif.C41.Lemmas
import PorepyVerif.C41.LemmasCell
import PorepyVerif.C41.LemmasGrid
import PorepyVerif.C41.LemmasStore
import PorepyVerif.C41.Model
import PorepyVerif.C41.Props
import PorepyVerif.C42.ChainRule
import PorepyVerif.C42.Lemmas
import PorepyVerif.C42.Model
import PorepyVerif.C42.Props
import PorepyVerif.C42.Saturation
import PorepyVerif.C43.Formula
import PorepyVerif.C43.Generated
import PorepyVerif.C43.Grammar
import PorepyVerif.C43.Lemmas
import PorepyVerif.C43.Model
import PorepyVerif.C43.Props
import PorepyVerif.C43.PropsReal
import PorepyVerif.C43.RatPow
import PorepyVerif.C44.Lemmas
import PorepyVerif.C44.LemmasSH
import PorepyVerif.C44.LemmasSimple
import PorepyVerif.C44.Model
import PorepyVerif.C44.Props
import PorepyVerif.C45.History
import PorepyVerif.C45.Lemmas
import PorepyVerif.C45.Lexer
import PorepyVerif.C45.Model
import PorepyVerif.C45.Props
import PorepyVerif.C45.Tokens
import PorepyVerif.C45.Values
import PorepyVerif.C46.Lemmas
import PorepyVerif.C46.LemmasB
import PorepyVerif.C46.LemmasK
import PorepyVerif.C46.LemmasOrder
import PorepyVerif.C46.LemmasSort
import PorepyVerif.C46.Model
import PorepyVerif.C46.Props
import PorepyVerif.C47.Csv2d
import PorepyVerif.C47.Csv3d
import PorepyVerif.C47.Lemmas
import PorepyVerif.C47.Model
import PorepyVerif.C47.Polyline
import PorepyVerif.C47.Props
import PorepyVerif.C47.Txt
import PorepyVerif.Common.Except
import PorepyVerif.Common.InsSort
import PorepyVerif.Common.List
import PorepyVerif.Common.Sum
import PorepyVerif.Common.Wire
